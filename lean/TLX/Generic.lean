/-
Model-independent theorems.
* Output that only grows (C08): a run whose steps never retract output is prefix-monotone — `foldl_grows` for a `foldl`
  whose state holds the output (the shape the models have), `Machine` for a step that returns what it appends.
* Routing by a key fixed at session creation (`route` … `demux_filter`): C04 for an arbitrary key function; it stands by
  itself, `Props/C04` speaks of the main loop's own router.
* Two numbers in the same class modulo `W` and less than `W` apart are equal (TCP sequence numbers, QUIC packet numbers).
-/
namespace TLX

theorem ite_rec {α : Type} (Q : α → Prop) {c : Prop} [Decidable c] {a b : α} (ha : Q a) (hb : Q b) :
    Q (if c then a else b) := by
  split <;> assumption

section Prefix
variable {σ ι ο : Type}

/-- one step: new state and the outputs appended by this input -/
structure Machine (σ ι ο : Type) where
  step : σ → ι → σ × List ο

def Machine.run (m : Machine σ ι ο) (s : σ) : List ι → σ × List ο
  | [] => (s, [])
  | x :: xs =>
    let (s1, o1) := m.step s x
    let (s2, o2) := m.run s1 xs
    (s2, o1 ++ o2)

theorem Machine.run_append (m : Machine σ ι ο) (s : σ) (a b : List ι) :
    (m.run s (a ++ b)).2 = (m.run s a).2 ++ (m.run (m.run s a).1 b).2 := by
  induction a generalizing s with
  | nil => simp [Machine.run]
  | cons x xs ih =>
    simp only [List.cons_append, Machine.run]
    rw [ih]
    simp [List.append_assoc]

/-- cutting the input after any `n` items only removes a suffix of the output -/
theorem Machine.prefix_monotone (m : Machine σ ι ο) (s : σ) (xs : List ι) (n : Nat) :
    (m.run s (xs.take n)).2 <+: (m.run s xs).2 := by
  have := m.run_append s (xs.take n) (xs.drop n)
  rw [List.take_append_drop] at this
  rw [this]
  exact List.prefix_append _ _

theorem foldl_grows (f : σ → ι → σ) (out : σ → List ο) (h : ∀ s x, out s <+: out (f s x)) (s : σ) (l : List ι) :
    out s <+: out (l.foldl f s) := by
  induction l generalizing s with
  | nil => exact List.prefix_refl _
  | cons x l ih => exact (h s x).trans (ih _)

theorem foldl_take_grows (f : σ → ι → σ) (out : σ → List ο) (h : ∀ s x, out s <+: out (f s x)) (s : σ) (l : List ι)
    (n : Nat) : out ((l.take n).foldl f s) <+: out (l.foldl f s) := by
  conv => rhs; rw [← List.take_append_drop n l, List.foldl_append]
  exact foldl_grows f out h _ _
end Prefix

theorem eq_of_mod_eq_of_close {W a b : Nat} (h : a % W = b % W) (hc : a < b + W ∧ b < a + W) : a = b := by
  have h1 := Nat.sub_mod_eq_zero_of_mod_eq h
  have h2 := Nat.sub_mod_eq_zero_of_mod_eq h.symm
  rw [Nat.mod_eq_of_lt (by omega)] at h1 h2
  exact Nat.le_antisymm (Nat.le_of_sub_eq_zero h1) (Nat.le_of_sub_eq_zero h2)

section Demux
variable {κ ι : Type} [DecidableEq κ]

/-- sessions are identified by the key of their first packet; each keeps the packets routed to it, in order -/
def route (key : ι → κ) : List (κ × List ι) → ι → List (κ × List ι)
  | [], p => [(key p, [p])]
  | (k, ps) :: rest, p => if k = key p then (k, ps ++ [p]) :: rest else (k, ps) :: route key rest p

def demux (key : ι → κ) (pkts : List ι) : List (κ × List ι) := pkts.foldl (route key) []

def lookupSession (k : κ) : List (κ × List ι) → List ι
  | [] => []
  | (k', ps) :: rest => if k' = k then ps else lookupSession k rest

theorem lookup_route (key : ι → κ) (ss : List (κ × List ι)) (p : ι) (k : κ) :
    lookupSession k (route key ss p) = if key p = k then lookupSession k ss ++ [p] else lookupSession k ss := by
  induction ss with
  | nil =>
    simp only [route, lookupSession]
    split <;> simp
  | cons hd tl ih =>
    obtain ⟨k', ps⟩ := hd
    simp only [route]
    by_cases h1 : k' = key p
    · subst h1
      simp only [if_true, lookupSession]
      by_cases h2 : key p = k
      · simp [h2]
      · simp [h2]
    · simp only [if_neg h1, lookupSession]
      by_cases h2 : k' = k
      · subst h2
        have : ¬ key p = k' := fun h => h1 h.symm
        simp [this]
      · simp only [if_neg h2]
        exact ih

/-- every session receives exactly the sub-sequence of packets carrying its key, in capture order —
    for *every* interleaving, because the statement is about an arbitrary packet list -/
theorem demux_filter (key : ι → κ) (pkts : List ι) (k : κ) :
    lookupSession k (demux key pkts) = pkts.filter (fun p => key p = k) := by
  unfold demux
  suffices ∀ ss, lookupSession k (pkts.foldl (route key) ss) =
      lookupSession k ss ++ pkts.filter (fun p => key p = k) by
    simpa [lookupSession] using this []
  induction pkts with
  | nil => intro ss; simp
  | cons p ps ih =>
    intro ss
    rw [List.foldl_cons, ih, lookup_route]
    by_cases h : key p = k
    · simp [h]
    · simp [h]
end Demux

theorem find?_key {κ ν : Type} {t : List (κ × ν)} (hnd : (t.map (·.1)).Nodup) {k : κ} {v : ν} (h : (k, v) ∈ t)
    (p : κ × ν → Bool) (hp : ∀ e, p e = true ↔ e.1 = k) : t.find? p = some (k, v) := by
  induction t with
  | nil => cases h
  | cons e t ih =>
    rw [List.map_cons, List.nodup_cons] at hnd
    rcases List.mem_cons.mp h with rfl | h
    · rw [List.find?_cons_of_pos ((hp _).mpr rfl)]
    · have hne : ¬ p e = true := fun he => hnd.1 ((hp e).mp he ▸ List.mem_map_of_mem (f := (·.1)) h)
      rw [List.find?_cons_of_neg hne]
      exact ih hnd.2 h

end TLX
