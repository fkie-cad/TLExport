/-
Model of `tlexport/decryptor.py` — the per-record decryption state machine `Decryptor` (C01, record layer).

Source map (line numbers of /repo/tlexport/decryptor.py):
  `Dec.init`            __init__ 27-65 (EtM flag from extension 0x0016 is the `etm` input; tag-length default 45-47),
                        get_cipher_type 67-84, parse_keys 86-119 (TLS 1.3 fallback 97-107)
  `tls13Aead`           decrypt_tls13_aead 122-165
  `tls13Stream`         decrypt_tls13_stream_cipher 167-202
  `genericStream`       decrypt_generic_stream_cipher 204-222
  `tls12Aead`           decrypt_tls12_aead 224-270
  `tls12Block`          decrypt_tls12_block_cipher 272-328
  `tls12Chacha`         decrypt_tls12_chacha20 330-370
  `lastBlockCbc`        decrypt_last_block_iv_cbc 372-423
  `Dec.decrypt`         decrypt 425-445 (falls off the end ⇒ returns `None`)
  `Dec.updateKeys`      update_keys 447-463
  `byteXor`             byte_xor 476-485
  `Rec.ofRaw`           tlsrecord.py TlsRecord.__init__

The source's `if isserver: … server_* … else: … client_* …` pairs are symmetric in every routine; the model keeps
one `DirSt` per direction and selects with `Dec.get srv` (an asymmetric edit of the source shows up in the
correspondence run, which compares both directions after every record).

Python traps mirrored: `decrypted[:-mac_length]` and `ciphertext[:-mac_length]` are EMPTY for mac_length 0
(`Bytes.cutEnd`); `decrypted[-1]` on empty ⇒ IndexError; `decrypted[:-(padding_length+1)]` clamps;
`int(self.block_length / 8)` and `ciphertext[-index:]` (index 0 ⇒ the whole ciphertext); `record.raw[:3]`;
`(len(record.binary) - 8 - tag_length).to_bytes(2,'big')` ⇒ OverflowError when negative or ≥ 65536; `cipher`
unbound when `bulk_alg` is neither AESGCM nor AESCCM (UnboundLocalError); `block_size` unbound in the TLS 1.1/1.2
block routine for a non-block algorithm; `last_block_*`, `*_cipher`, `*_handshake_*` attributes that were never
assigned (AttributeError); `key.hex()` / `iv.hex()` inside the logging f-strings on a `None` key (AttributeError,
evaluated whatever the log level); `byte_xor` with an IV shorter than 8 bytes (`bytes(negative)` ⇒ ValueError).

State and exceptions: a result carries the new state also in the error case (`Res`). Reading the source routine
by routine, every mutation (`*_seq += 1`, `last_block_* = …`, the RC4 keystream position) happens after the last
statement of the routine that can raise (compression excluded), so an exception leaves the state unchanged. The model
has this by construction (`lift` returns the old state with the error; `Props.C01.failed_record_keeps_state`); that the
real object behaves so is checked by the correspondence run.

Not modelled: compression (`inflate`, `compression_method = 1`) — not claimed by C01; logging; `mac_alg`,
`bulk_mode`, `key_length`, `client_mac/server_mac` (stored, never read by decrypt); a `keys` dict with missing
entries (KeyError; key_derivator always fills every entry, possibly with `None`); `mac_length`/`block_length`
that are not ints.

Core Lean only.
-/
import TLX.Crypto.Prims
import TLX.Generic
namespace TLX.RecordLayer
open TLX TLX.Cipher

/-- `TlsVersion` (tlsversion.py). -/
inductive Version | ssl30 | tls10 | tls11 | tls12 | tls13 | undefined
  deriving DecidableEq, Repr

/-- `EncryptionType` (decryptor.py 19-23). -/
inductive CType | stream | block | aead | unknown
  deriving DecidableEq, Repr

/-- get_cipher_type 67-84. -/
def cipherType : Alg → CType
  | .aesccm | .aesgcm => .aead
  | .aes | .tdes | .camellia | .idea => .block
  | .chacha20 | .chachaPoly | .arc4 => .stream
  | .none => .unknown

/-- `TlsRecord`: `record_type = binary[0]`, `record_version = binary[1:3]`, `record_length = binary[3:5]`,
    `binary = binary[5:]`, `raw = binary`. -/
structure Rec where
  typ : UInt8
  ver : Bytes
  len : Bytes
  body : Bytes
  raw : Bytes
  deriving Repr

def Rec.ofRaw : Bytes → Py Rec
  | [] => .error .index
  | t :: rest => .ok { typ := t, ver := Bytes.slice (t :: rest) 1 3, len := Bytes.slice (t :: rest) 3 5,
                       body := (t :: rest).drop 5, raw := t :: rest }

/-- Per-direction mutable state (`client_*` / `server_*` attributes). `none` = `None` or never assigned. -/
structure DirSt where
  key : Option Bytes
  iv : Option Bytes
  seq : Nat
  /-- `last_block_*`: assigned in `__init__` only for SSL 3.0 / TLS 1.0. -/
  last : Option Bytes
  /-- `*_cipher`: the RC4 context = (key captured at construction, keystream position). -/
  rc4 : Option (Bytes × Nat)
  /-- `*_handshake_key/iv`, `*_application_key/iv` (TLS 1.3 only, after the fallback). -/
  hsKey : Option Bytes
  hsIv : Option Bytes
  appKey : Option Bytes
  appIv : Option Bytes
  deriving Repr, DecidableEq

/-- The construction-time constants. -/
structure Cfg where
  version : Version
  bulk : Alg
  ctype : CType
  macLen : Nat
  tagLen : Nat
  /-- `block_length` in bits as passed by Session (128, 64 or 0). -/
  blockLen : Nat
  etm : Bool
  /-- whether the `*_handshake_*` / `*_application_*` attributes exist (version was TLS 1.3 in `parse_keys`). -/
  has13 : Bool
  deriving Repr, DecidableEq

structure Dec where
  cfg : Cfg
  c : DirSt
  s : DirSt
  deriving Repr, DecidableEq

def Dec.get (d : Dec) (srv : Bool) : DirSt := if srv then d.s else d.c
def Dec.set (d : Dec) (srv : Bool) (x : DirSt) : Dec := if srv then { d with s := x } else { d with c := x }

/-- Outcome of a state-changing method: the value or the exception kind, and the state afterwards. -/
inductive Res (α : Type)
  | ok (a : α) (d : Dec)
  | err (e : PyErr) (d : Dec)

/-- `n.to_bytes(len, 'big')` for a Python int (OverflowError if negative or too big). -/
def toBE (len : Nat) (n : Int) : Py Bytes :=
  if n < 0 then .error .overflow
  else if n.toNat < 256 ^ len then .ok (Bytes.ofNatBE len n.toNat) else .error .overflow

/-- `x.hex()` inside a logging f-string: AttributeError on `None`. -/
def hexOf (x : Option Bytes) : Py Bytes :=
  match x with
  | some b => .ok b
  | none => .error .attr

def xorZip (a b : Bytes) : Bytes := List.zipWith (· ^^^ ·) a b

/-- byte_xor 476-485: `bytes(len(a) - len(b)) + b`, then `a[i] ^ b_padded[i]` for `i < len(a)`. -/
def byteXor (a b : Bytes) : Py Bytes :=
  if a.length < b.length then .error .value
  else .ok (xorZip a (List.replicate (a.length - b.length) 0 ++ b))

/-- `b[-1]`. -/
def lastByte (b : Bytes) : Py UInt8 :=
  match b.getLast? with
  | some x => .ok x
  | none => .error .index

/-- `b[:-(n+1)]`. -/
def stripPad (b : Bytes) (padLen : UInt8) : Bytes := b.take (b.length - (padLen.toNat + 1))

/-- `b[-index:]` (`index ≥ 0`): the whole of `b` for index 0. -/
def lastN (b : Bytes) (index : Nat) : Bytes := if index = 0 then b else b.drop (b.length - index)

-- Each returns the plaintext and the new state, or the exception (state unchanged, see the header).

/-- `cipher = AESGCM(key)` / `AESCCM(key, self.tag_length)` / unbound, then `cipher.decrypt(nonce, ct, aad)`. -/
def aeadByBulk (P : Prims) (cfg : Cfg) (key nonce aad ct : Bytes) : Py Bytes :=
  match cfg.bulk with
  | .aesgcm => P.aeadOpen .aesgcm key nonce aad 16 ct
  | .aesccm => P.aeadOpen .aesccm key nonce aad cfg.tagLen ct
  | _ => .error .unbound

def bumpSeq (d : Dec) (srv : Bool) : Dec :=
  let st := d.get srv
  d.set srv { st with seq := st.seq + 1 }

/-- decrypt_tls13_aead 122-165. -/
def tls13Aead (P : Prims) (r : Rec) (srv : Bool) (d : Dec) : Py (Bytes × Dec) := do
  let aad := [r.typ] ++ r.ver ++ r.len
  let st := d.get srv
  let key ← hexOf st.key
  let iv ← hexOf st.iv
  let seq8 ← toBE 8 st.seq
  let nonce ← byteXor iv seq8
  let pt ← aeadByBulk P d.cfg key nonce aad r.body
  pure (pt, bumpSeq d srv)

/-- decrypt_tls13_stream_cipher 167-202: always `ChaCha20Poly1305(key)`. -/
def tls13Stream (P : Prims) (r : Rec) (srv : Bool) (d : Dec) : Py (Bytes × Dec) := do
  let aad := [r.typ] ++ r.ver ++ r.len
  let st := d.get srv
  let key ← hexOf st.key
  let iv ← hexOf st.iv
  let seq8 ← toBE 8 st.seq
  let nonce ← byteXor iv seq8
  let pt ← P.aeadOpen .chachaPoly key nonce aad 16 r.body
  pure (pt, bumpSeq d srv)

/-- decrypt_generic_stream_cipher 204-222: `cipher.update(body)`, then `decrypted[0:-mac_length]`. -/
def genericStream (P : Prims) (r : Rec) (srv : Bool) (d : Dec) : Py (Bytes × Dec) := do
  let st := d.get srv
  match st.rc4 with
  | none => throw .attr
  | some (k, off) =>
    let decrypted := P.rc4 k off r.body
    let d' := d.set srv { st with rc4 := some (k, off + r.body.length) }
    pure (Bytes.cutEnd decrypted d.cfg.macLen, d')

/-- decrypt_tls12_aead 224-270. -/
def tls12Aead (P : Prims) (r : Rec) (srv : Bool) (d : Dec) : Py (Bytes × Dec) := do
  let st := d.get srv
  let key ← hexOf st.key
  let iv ← hexOf st.iv
  let seq8 ← toBE 8 st.seq
  let clen ← toBE 2 ((r.body.length : Int) - 8 - (d.cfg.tagLen : Int))
  let aad := seq8 ++ r.raw.take 3 ++ clen
  let ct := r.body.drop 8
  let nonce := iv ++ r.body.take 8
  let pt ← aeadByBulk P d.cfg key nonce aad ct
  pure (pt, bumpSeq d srv)

/-- decrypt_tls12_block_cipher 272-328. No state is read but the key, none is written. -/
def tls12Block (P : Prims) (r : Rec) (srv : Bool) (d : Dec) : Py (Bytes × Dec) := do
  let st := d.get srv
  let a := d.cfg.bulk
  if !a.isBlock then
    -- no branch of the `if … elif` chain assigned `block_size`
    throw .unbound
  -- `AES(key)` etc. on `None` ⇒ TypeError (`_check_byteslike`)
  let key ← match st.key with
    | some k => pure k
    | none => throw PyErr.type
  let iv := r.body.take a.blk
  let ct := r.body.drop a.blk
  let ct := if d.cfg.etm then Bytes.cutEnd ct d.cfg.macLen else ct
  let dec ← P.cbcDec a key iv ct
  let padLen ← lastByte dec
  let dec := stripPad dec padLen
  let dec := if !d.cfg.etm then Bytes.cutEnd dec d.cfg.macLen else dec
  pure (dec, d)

/-- decrypt_tls12_chacha20 330-370. -/
def tls12Chacha (P : Prims) (r : Rec) (srv : Bool) (d : Dec) : Py (Bytes × Dec) := do
  let st := d.get srv
  let key ← hexOf st.key
  let iv ← hexOf st.iv
  let seq8 ← toBE 8 st.seq
  let clen ← toBE 2 ((r.body.length : Int) - 16)
  let aad := seq8 ++ [r.typ] ++ r.ver ++ clen
  let nonce ← byteXor iv seq8
  let pt ← P.aeadOpen .chachaPoly key nonce aad 16 r.body
  pure (pt, bumpSeq d srv)

/-- decrypt_last_block_iv_cbc 372-423. -/
def lastBlockCbc (P : Prims) (r : Rec) (srv : Bool) (d : Dec) : Py (Bytes × Dec) := do
  let st := d.get srv
  -- `iv = self.last_block_*` (AttributeError if never assigned), then `key.hex()`, `iv.hex()`
  let iv ← hexOf st.last
  let key ← hexOf st.key
  let ct := if d.cfg.etm then Bytes.cutEnd r.body d.cfg.macLen else r.body
  let dec ← P.cbcDec d.cfg.bulk key iv ct
  let padLen ← lastByte dec
  let pt := stripPad dec padLen
  let pt := if !d.cfg.etm then Bytes.cutEnd pt d.cfg.macLen else pt
  let d' := d.set srv { st with last := some (lastN ct (d.cfg.blockLen / 8)) }
  pure (pt, d')

def lift (d : Dec) (x : Py (Bytes × Dec)) : Res (Option Bytes) :=
  match x with
  | .ok (pt, d') => .ok (some pt) d'
  | .error e => .err e d

/-- decrypt 425-445. `ok none` = the method returned `None` (no branch matched). -/
def Dec.decrypt (P : Prims) (r : Rec) (srv : Bool) (d : Dec) : Res (Option Bytes) :=
  let v := d.cfg.version
  let t := d.cfg.ctype
  if v = .tls13 ∧ t = .aead then lift d (tls13Aead P r srv d)
  else if v = .tls13 then lift d (tls13Stream P r srv d)
  else if v = .tls12 ∧ d.cfg.bulk = .chachaPoly then lift d (tls12Chacha P r srv d)
  else if t = .stream then lift d (genericStream P r srv d)
  else if t = .aead then lift d (tls12Aead P r srv d)
  else if t = .block ∧ (v = .tls12 ∨ v = .tls11) then lift d (tls12Block P r srv d)
  else if t = .block ∧ (v = .tls10 ∨ v = .ssl30) then lift d (lastBlockCbc P r srv d)
  else .ok none d

/-- update_keys 447-463: the four `.hex()` calls of the logging lines come first. -/
def Dec.updateKeys (srv : Bool) (d : Dec) : Res Unit :=
  if !d.cfg.has13 then .err .attr d
  else
    let st := d.get srv
    match st.hsKey, st.appKey, st.hsIv, st.appIv with
    | some _, some ak, some _, some aiv =>
      .ok () (d.set srv { st with key := some ak, iv := some aiv, seq := 0 })
    | _, _, _, _ => .err .attr d

/-- The `keys` dict: for TLS 1.3 the eight entries of `dev_tls_13_keys` (values may be `None`); otherwise the four
    entries of the key block that `parse_keys` reads and `decrypt` uses. -/
structure Keys where
  cKey : Option Bytes := none      -- client_write_key
  sKey : Option Bytes := none
  cIv : Option Bytes := none       -- client_write_IV
  sIv : Option Bytes := none
  cHsKey : Option Bytes := none    -- client_handshake_traffic_secret (already the traffic *key*)
  sHsKey : Option Bytes := none
  cAppKey : Option Bytes := none
  sAppKey : Option Bytes := none
  cHsIv : Option Bytes := none
  sHsIv : Option Bytes := none
  cAppIv : Option Bytes := none
  sAppIv : Option Bytes := none

/-- `Cipher(self.bulk_alg(key), mode=None).decryptor()` for the two algorithms that reach it. -/
def streamCtx (P : Prims) (a : Alg) (key : Option Bytes) : Py (Bytes × Nat) :=
  match a with
  | .arc4 =>
    match key with
    | none => .error .type
    | some k => do
      P.rc4Init k
      pure (k, 0)
  | _ => .error .type           -- `ChaCha20(key)`: missing positional argument `nonce`

/-- `Decryptor.__init__` (compression_method 0). `tagLen = none` is `tag_length is None`. -/
def Dec.init (P : Prims) (bulk : Alg) (version : Version) (macLen : Nat) (tagLen : Option Nat) (blockLen : Nat)
    (etm : Bool) (k : Keys) : Py Dec := do
  let ctype := cipherType bulk
  let is13 := version = .tls13
  -- parse_keys
  let cFall := is13 ∧ (k.cHsKey.isNone ∨ k.cHsIv.isNone)
  let sFall := is13 ∧ (k.sHsKey.isNone ∨ k.sHsIv.isNone)
  let cHsKey := if cFall then k.cAppKey else k.cHsKey
  let cHsIv := if cFall then k.cAppIv else k.cHsIv
  let sHsKey := if sFall then k.sAppKey else k.sHsKey
  let sHsIv := if sFall then k.sAppIv else k.sHsIv
  let cKey := if is13 then cHsKey else k.cKey
  let sKey := if is13 then sHsKey else k.sKey
  let cIv := if is13 then cHsIv else k.cIv
  let sIv := if is13 then sHsIv else k.sIv
  let lastSet := version = .tls10 ∨ version = .ssl30
  -- server context first, then client (line 60-61)
  let needCtx := ctype = .stream ∧ bulk ≠ .chachaPoly
  let sCtx ← if needCtx then (streamCtx P bulk sKey).map some else pure none
  let cCtx ← if needCtx then (streamCtx P bulk cKey).map some else pure none
  let mk (key iv : Option Bytes) (ctx : Option (Bytes × Nat)) (hk hi ak ai : Option Bytes) : DirSt :=
    { key := key, iv := iv, seq := 0, last := if lastSet then iv else none, rc4 := ctx,
      hsKey := if is13 then hk else none, hsIv := if is13 then hi else none,
      appKey := if is13 then ak else none, appIv := if is13 then ai else none }
  pure { cfg := { version := version, bulk := bulk, ctype := ctype, macLen := macLen, tagLen := tagLen.getD 16,
                  blockLen := blockLen, etm := etm, has13 := is13 },
         c := mk cKey cIv cCtx cHsKey cHsIv k.cAppKey k.cAppIv,
         s := mk sKey sIv sCtx sHsKey sHsIv k.sAppKey k.sAppIv }

theorem lift_err {d d' : Dec} {x : Py (Bytes × Dec)} {e : PyErr} (h : lift d x = .err e d') : d' = d := by
  unfold lift at h
  split at h
  · cases h
  · cases h; rfl

theorem Dec.decrypt_cases (P : Prims) (r : Rec) (srv : Bool) (d : Dec) :
    d.decrypt P r srv = .ok none d ∨ ∃ x, d.decrypt P r srv = lift d x := by
  let Q : Res (Option Bytes) → Prop := fun y => y = .ok none d ∨ ∃ x, y = lift d x
  have hl : ∀ x, Q (lift d x) := fun x => Or.inr ⟨x, rfl⟩
  exact ite_rec Q (hl _) <| ite_rec Q (hl _) <| ite_rec Q (hl _) <| ite_rec Q (hl _) <| ite_rec Q (hl _) <|
    ite_rec Q (hl _) <| ite_rec Q (hl _) (Or.inl rfl)

theorem Dec.updateKeys_err_state (srv : Bool) (d d' : Dec) (e : PyErr)
    (h : d.updateKeys srv = .err e d') : d' = d := by
  unfold Dec.updateKeys at h
  split at h
  · cases h; rfl
  · simp only at h
    split at h
    · cases h
    · cases h; rfl

end TLX.RecordLayer
