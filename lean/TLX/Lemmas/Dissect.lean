/-
Lemmas for Props/C12Dissect.lean: the model's field readers on the specification encoder's output, Ethernet II carrying any
class of `_typesw` (`eth_typed`), the nestings behind the RecursionError and PackError examples, and dpkt's extension-header
classes on the encoder's headers (all five kinds: `Lemmas.C01Full.extOk_all`, named after the file layer that states with it).
Depth hypotheses `hpy : d.py + a ≤ 1000`, `hc : d.c + b ≤ 1500`: `a` is the deepest Python frame the class and the classes it
calls ask for (`need (d + k)` in the model), `b` the `Layer.cUnits` summed down the nesting (5 for a class with its own
`__init__`: Ethernet, IPv4; 3 otherwise). Core Lean only.
-/
import TLX.Dissect
import TLX.Spec.FrameBuild
import TLX.Lemmas.ByteEval
import TLX.Lemmas.Bytes
import TLX.Lemmas.Cursor
namespace TLX.Lemmas.Dissect
open TLX TLX.Dissect TLX.Spec.FrameBuild TLX.Lemmas.ByteEval TLX.Lemmas.Cursor

theorem beNat_be2 (v : Nat) (h : v < 65536) : Bytes.beNat (be2 v) = v := by
  simp only [be2, Bytes.beNat2, UInt8.toNat_ofNat']; omega

theorem drop_len_add {α} (a b : List α) (n : Nat) : (a ++ b).drop (a.length + n) = b.drop n := by
  rw [← List.drop_drop, List.drop_left]

theorem drop_len_add' {α} (a b : List α) (n k : Nat) (h : a.length = k) : (a ++ b).drop (k + n) = b.drop n := by
  subst h; exact drop_len_add a b n

theorem take_len_add {α} (a b : List α) (n : Nat) : (a ++ b).take (a.length + n) = a ++ b.take n := by
  simp [List.take_append, List.take_of_length_le]

theorem tcp_header_length (t : Tcp) : t.header.length = 20 := by
  simp [Tcp.header, be2, be4]

theorem tcp_encode_length (t : Tcp) : t.encode.length = 20 + t.options.length + t.payload.length := by
  simp [Tcp.encode, tcp_header_length]; omega

theorem tcp_fields (t : Tcp) (h : t.WF) :
    u16 t.encode 0 = t.sport ∧ u16 t.encode 2 = t.dport ∧ u32 t.encode 4 = t.seq ∧ u32 t.encode 8 = t.ack ∧
      u8 t.encode 12 = (5 + t.options.length / 4) * 16 + t.rsv := by
  obtain ⟨h1, h2, h3, h4, _, hr, ho4, ho⟩ := h
  unfold Tcp.encode Tcp.header
  byte_eval
  exact ⟨be2_eq _ h1, be2_eq _ h2, be4_eq _ h3, be4_eq _ h4, by omega⟩

theorem tcpOk_encode (t : Tcp) (h : t.WF) : tcpOk t.encode = .ok () := by
  have hl := tcp_encode_length t
  unfold tcpOk
  rw [if_neg (by omega), (tcp_fields t h).2.2.2.2, if_neg (by have := h.2.2.2.2.2.1; omega)]

theorem tcpView_encode (t : Tcp) (h : t.WF) :
    tcpView t.encode = .tcp t.sport t.dport t.seq t.ack t.payload := by
  obtain ⟨e0, e2, e4, e8, e12⟩ := tcp_fields t h
  have ed : t.encode.drop (((5 + t.options.length / 4) * 16 + t.rsv) / 16 * 4) = t.payload := by
    have : ((5 + t.options.length / 4) * 16 + t.rsv) / 16 * 4 = t.header.length + t.options.length := by
      have := h.2.2.2.2.2; rw [tcp_header_length]; omega
    rw [this, Tcp.encode, drop_len_add, List.drop_left]
  simp only [tcpView, e0, e2, e4, e8, e12, ed]

theorem udp_encode_length (u : Udp) : u.encode.length = 8 + u.payload.length := by
  simp [Udp.encode, be2]; omega

theorem udpView_encode (u : Udp) (h : u.WF) : udpView u.encode = .udp u.sport u.dport u.payload := by
  unfold udpView Udp.encode
  byte_eval
  rw [be2_eq _ h.1, be2_eq _ h.2.1]

theorem u8_left (a b : Bytes) (i : Nat) (h : i < a.length) : u8 (a ++ b) i = u8 a i := by
  simp [u8, List.getElem?_append_left h]

theorem u16_left (a b : Bytes) (i : Nat) (h : i + 2 ≤ a.length) : u16 (a ++ b) i = u16 a i := by
  simp only [u16, Bytes.slice_left a b i (i + 2) h]

theorem v4_fixed_length (h : V4) (p n : Nat) : (h.fixed p n).length = 12 := by simp [V4.fixed, be2]

structure V4Facts (h : V4) (p : Nat) (pl tr : Bytes) : Prop where
  len : 20 ≤ (h.encode p pl ++ tr).length
  hl : u8 (h.encode p pl ++ tr) 0 % 16 * 4 = 20 + h.options.length
  off : ip4Offset (h.encode p pl ++ tr) = 0
  proto : u8 (h.encode p pl ++ tr) 9 = p
  payload : ip4Payload (h.encode p pl ++ tr) = pl
  src : Bytes.slice (h.encode p pl ++ tr) 12 16 = h.src
  dst : Bytes.slice (h.encode p pl ++ tr) 16 20 = h.dst

theorem v4_facts (h : V4) (p : Nat) (pl tr : Bytes) (w : h.WF pl.length) (hp : p < 256) : V4Facts h p pl tr := by
  obtain ⟨h1, h2, ho4, ho, htot⟩ := w
  have hf := v4_fixed_length h p pl.length
  have shape : h.encode p pl ++ tr = h.fixed p pl.length ++ (h.src ++ (h.dst ++ (h.options ++ (pl ++ tr)))) := by
    simp only [V4.encode, List.append_assoc]
  obtain ⟨_, a12⟩ := (At.start shape).field _ 12 (by rw [hf])
  obtain ⟨hsrc, a16⟩ := a12.field _ 16 (by rw [h1])
  obtain ⟨hdst, a20⟩ := a16.field _ 20 (by rw [h2])
  obtain ⟨_, aopt⟩ := a20.field _ (20 + h.options.length) rfl
  obtain ⟨hpl, aend⟩ := aopt.field _ (20 + h.options.length + pl.length) rfl
  have e0 : u8 (h.encode p pl ++ tr) 0 = 0x40 + (5 + h.options.length / 4) := by
    rw [shape, u8_left _ _ _ (by omega)]
    simp [u8, V4.fixed, be2]; omega
  have e2 : u16 (h.encode p pl ++ tr) 2 = 20 + h.options.length + pl.length := by
    rw [shape, u16_left _ _ _ (by omega)]
    have : Bytes.slice (h.fixed p pl.length) 2 4 = be2 (20 + h.options.length + pl.length) := by
      simp [Bytes.slice, V4.fixed, be2]
    rw [u16, this, beNat_be2 _ htot]
  have hhl : u8 (h.encode p pl ++ tr) 0 % 16 * 4 = 20 + h.options.length := by rw [e0]; omega
  refine ⟨by rw [aend.length]; omega, hhl, ?_, ?_, ?_, hsrc, hdst⟩
  · rw [ip4Offset, shape, u16_left _ _ _ (by omega)]
    have : Bytes.slice (h.fixed p pl.length) 6 8 =
        [UInt8.ofNat ((if h.df then 0x40 else 0) + (if h.mf then 0x20 else 0)), 0] := by
      simp [Bytes.slice, V4.fixed, be2]
    rw [u16, this, Bytes.beNat2]
    cases h.df <;> cases h.mf <;> simp
  · rw [shape, u8_left _ _ _ (by omega)]
    simp [u8, V4.fixed, be2]; omega
  · unfold ip4Payload
    simp only [hhl, e2]
    rw [if_pos (by omega), hpl]

theorem need_ok (x : Dep) (h : x.py ≤ 1000) : need x = .ok () := by
  simp [need, pyLimit]; omega

theorem enter_ok (d : Dep) (k : Nat) (h : d.c + k ≤ 1500) : d.enter k = .ok ⟨d.py, d.c + k⟩ := by
  simp [Dep.enter, cLimit]; omega

/-- An Ethernet II frame (type above 1500, no VLAN / MPLS tag) whose type selects the class `l` in `_typesw`: when `l`'s
    constructor returns, or raises what `_unpack_data` does not catch, that is the outcome of `Ethernet(buf)`; the second
    `_unpack_data` pass has nothing to do. -/
theorem eth_typed (n : Nat) (d : Dep) (dm sm D : Bytes) (t0 t1 : UInt8) (t : Nat) (l : Layer) (res : Except DErr ERes)
    (hd : dm.length = 6) (hs : sm.length = 6) (ht01 : t0.toNat * 256 + t1.toNat = t)
    (ht : 1500 < t) (hq : isQinq t = false) (hm : isMpls t = false) (hl : typesw t = some l)
    (hpy : d.py + 4 ≤ 1000) (hc : d.c + 5 ≤ 1500)
    (hin : parse n (⟨d.py + 4, d.c + 5⟩ : Dep) l D = res) (hres : ∀ e, res = .error e → e.caught = false) :
    parse (n + 1) d .eth (dm ++ (sm ++ (t0 :: t1 :: D))) =
      res.map fun _ => ⟨dm, sm, t, some t, if l = .ip4 then .ip4 D else if l = .ip6 then .ip6 D else .obj⟩ := by
  obtain ⟨h1, h2, h3, h4, _, h5⟩ := eth_header (buf := dm ++ (sm ++ (t0 :: t1 :: D))) dm sm D t0 t1 hd hs
    (by simp only [List.append_assoc]; rfl)
  rw [ht01] at h4
  have ht0 : t ≠ 0 := by omega
  have hin' : parse n ((⟨d.py, d.c + 5⟩ : Dep) + 3 + 1) l D = res := hin
  rw [parse, show Layer.eth.cUnits = 5 from rfl, enter_ok d 5 hc]
  simp only [body, ethLayer, ethUnpack, bind, Except.bind, pure, Except.pure]
  rw [need_ok _ (by simp; omega), if_neg h1, h2, h3, h4, h5, if_pos ht]
  simp only [unpackData, hq, hm, hl, ht0, hin', bind, Except.bind, pure, Except.pure, Bool.false_eq_true, if_false]
  cases res with
  | error e => simp [guarded, hres e rfl, Except.map]
  | ok r =>
    simp only [guarded, Except.map, if_true, secondPass]
    split
    · rename_i heq
      split at heq
      · cases heq
      · split at heq <;> cases heq
    · rfl

theorem eth_too_deep (n : Nat) (d : Dep) (buf : Bytes) (hpy : 1000 < d.py + 4) (hc : d.c + 5 ≤ 1500) :
    parse (n + 1) d .eth buf = .error .recursion := by
  rw [parse, show Layer.eth.cUnits = 5 from rfl, enter_ok d 5 hc]
  simp only [body, ethLayer, ethUnpack, bind, Except.bind]
  rw [show need ((⟨d.py, d.c + 5⟩ : Dep) + 3 + 1) = .error .recursion by simp [need, pyLimit]; omega]

/-- Ethernet in Ethernet (TEB, type 0x6558), `k` headers deep around any frame: each level costs four Python frames, and
    `RecursionError` is not caught on the way out -/
theorem teb_chain_aborts (hdr : Bytes) (hh : hdr.length = 12) (inner : Bytes) (k : Nat) :
    ∀ (n : Nat) (d : Dep), k < n → 1000 < d.py + 4 * k + 4 → d.c + 5 * k + 5 ≤ 1500 →
      parse n d .eth ((List.replicate k (hdr ++ [0x65, 0x58])).flatten ++ inner) = .error .recursion := by
  induction k with
  | zero =>
    intro n d hn hpy hc
    obtain ⟨n, rfl⟩ : ∃ m, n = m + 1 := ⟨n - 1, by omega⟩
    exact eth_too_deep n d _ (by omega) (by omega)
  | succ k ih =>
    intro n d hn hpy hc
    obtain ⟨n, rfl⟩ : ∃ m, n = m + 1 := ⟨n - 1, by omega⟩
    by_cases hdeep : 1000 < d.py + 4
    · exact eth_too_deep n d _ hdeep (by omega)
    · have hin := ih n ⟨d.py + 4, d.c + 5⟩ (by omega) (by simp only; omega) (by simp only; omega)
      have hsplit : ∀ rest : Bytes, (hdr ++ [0x65, 0x58]) ++ rest = hdr.take 6 ++ (hdr.drop 6 ++ (0x65 :: 0x58 :: rest)) := by
        intro rest
        rw [← List.append_assoc (hdr.take 6), List.take_append_drop, List.append_assoc]
        rfl
      rw [List.replicate_succ, List.flatten_cons, List.append_assoc, hsplit,
        eth_typed n d _ _ _ 0x65 0x58 0x6558 .eth (.error .recursion) (by simp [hh]) (by simp [hh]) rfl (by decide)
          (by decide) (by decide) rfl (by omega) (by omega) hin (by intro e he; cases he; rfl)]
      rfl

/-- a TLV whose length field is 0 with more than 65535 bytes left: `bytes(tlv)` has to pack `len(tlv)` into 16 bits -/
theorem cdp_pack (n : Nat) (d : Dep) (hdr tlv : Bytes) (hh : hdr.length = 4) (h2 : u16 tlv 2 = 0)
    (hlen : 65535 < tlv.length) (hpy : d.py + 5 ≤ 1000) (hc : d.c + 3 ≤ 1500) :
    parse (n + 1) d .cdp (hdr ++ tlv) = .error .pack := by
  rw [parse, show Layer.cdp.cUnits = 3 from rfl, enter_ok d 3 hc]
  have hne : tlv.isEmpty = false := by cases tlv <;> simp at hlen ⊢
  simp only [body, cdpLayer, cdpWalk, List.length_append, hh, List.drop_left' hh, hne, h2, bind, Except.bind]
  rw [need_ok _ (by simp; omega), if_neg (by omega), if_pos (by omega), need_ok _ (by simp; omega)]
  simp only [Bool.false_eq_true, if_false, if_true]
  rw [if_neg (by omega), if_neg (by split <;> omega), if_pos hlen]

theorem upper_proto_lt (up : Upper) : up.proto < 256 := by cases up <;> simp [Upper.proto]

theorem try_upper (n : Nat) (d : Dep) (up : Upper) (wu : up.WF) (hpy : d.py + 3 ≤ 1000) (hc : d.c + 3 ≤ 1500) :
    tryLayer (parse (n + 1)) d (protosw up.proto) up.encode = .ok true := by
  have hneed : ∀ k, k ≤ 3 → need ((⟨d.py, d.c + 3⟩ : Dep) + k) = .ok () := fun k hk => need_ok _ (by simp; omega)
  cases up with
  | tcp t =>
    show guarded (parse (n + 1) d .tcp t.encode) = .ok true
    rw [parse, show Layer.tcp.cUnits = 3 from rfl, enter_ok d 3 hc]
    simp only [body, hneed 3 (Nat.le_refl _), tcpOk_encode t wu, bind, Except.bind, pure, Except.pure, guarded]
  | udp u =>
    show guarded (parse (n + 1) d .udp u.encode) = .ok true
    rw [parse, show Layer.udp.cUnits = 3 from rfl, enter_ok d 3 hc]
    simp only [body, hneed 2 (by decide), udp_encode_length u, bind, Except.bind, pure, Except.pure]
    rw [if_neg (by omega)]
    rfl

theorem ip4_upper (n : Nat) (d : Dep) (h : V4) (up : Upper) (tr : Bytes) (w : h.WF up.encode.length) (wu : up.WF)
    (hpy : d.py + 6 ≤ 1000) (hc : d.c + 8 ≤ 1500) :
    parse (n + 2) d .ip4 (h.encode up.proto up.encode ++ tr) = .ok {} := by
  have f := v4_facts h up.proto up.encode tr w (upper_proto_lt up)
  rw [parse, show Layer.ip4.cUnits = 5 from rfl, enter_ok d 5 (by omega)]
  simp only [body, ip4Layer]
  rw [need_ok _ (by simp; omega)]
  have ht := try_upper n ((⟨d.py, d.c + 5⟩ : Dep) + 3) up wu (by simp; omega) (by simp; omega)
  simp only [f.hl, f.off, f.proto, f.payload, ht, bind, Except.bind, pure, Except.pure]
  rw [if_neg (by have := f.len; omega), if_neg (by omega)]
  simp

theorem v6_fixed_length (h : V6) (n k : Nat) : (h.fixed n k).length = 8 := by simp [V6.fixed, be2]

structure V6Facts (h : V6) (n : Nat) (b tr : Bytes) : Prop where
  len : 40 ≤ (h.fixed n b.length ++ (h.src ++ (h.dst ++ b)) ++ tr).length
  nxt : u8 (h.fixed n b.length ++ (h.src ++ (h.dst ++ b)) ++ tr) 6 = n
  body : ip6Body (h.fixed n b.length ++ (h.src ++ (h.dst ++ b)) ++ tr) = b
  src : Bytes.slice (h.fixed n b.length ++ (h.src ++ (h.dst ++ b)) ++ tr) 8 24 = h.src
  dst : Bytes.slice (h.fixed n b.length ++ (h.src ++ (h.dst ++ b)) ++ tr) 24 40 = h.dst

theorem v6_facts (h : V6) (n : Nat) (b tr : Bytes) (h1 : h.src.length = 16) (h2 : h.dst.length = 16) (hn : n < 256)
    (hb0 : 0 < b.length) (hb : b.length < 65536) : V6Facts h n b tr := by
  have hf := v6_fixed_length h n b.length
  have shape : h.fixed n b.length ++ (h.src ++ (h.dst ++ b)) ++ tr = h.fixed n b.length ++ (h.src ++ (h.dst ++ (b ++ tr))) := by
    simp only [List.append_assoc]
  obtain ⟨_, a8⟩ := (At.start shape).field _ 8 (by rw [hf])
  obtain ⟨hsrc, a24⟩ := a8.field _ 24 (by rw [h1])
  obtain ⟨hdst, a40⟩ := a24.field _ 40 (by rw [h2])
  have e4 : u16 (h.fixed n b.length ++ (h.src ++ (h.dst ++ b)) ++ tr) 4 = b.length := by
    rw [shape, u16_left _ _ _ (by omega)]
    have : Bytes.slice (h.fixed n b.length) 4 6 = be2 b.length := by simp [Bytes.slice, V6.fixed, be2]
    rw [u16, this, beNat_be2 _ hb]
  refine ⟨by rw [a40.length]; omega, ?_, ?_, hsrc, hdst⟩
  · rw [shape, u8_left _ _ _ (by omega)]
    simp [u8, V6.fixed, be2]; omega
  · unfold ip6Body
    simp only [e4]
    rw [if_pos (by omega), a40.2, List.take_left]

/-- the IPv6 layer on an encoded packet, given what the extension-header walk yields -/
theorem ip6_upper (m : Nat) (d : Dep) (D : Bytes) (up : Upper) (wu : up.WF) (k : Nat) (lf : Bool)
    (hlen : 40 ≤ D.length) (hch : ip6Chain D = .ok ⟨some up.proto, up.encode, k, lf, 0⟩)
    (hattr : ¬ (u8 D 6 = 44 ∧ lf = false))
    (hpy : d.py + 5 ≤ 1000) (hc : d.c + 6 ≤ 1500) :
    parse (m + 2) d .ip6 D = .ok {} := by
  rw [parse, show Layer.ip6.cUnits = 3 from rfl, enter_ok d 3 (by omega)]
  simp only [body, ip6Layer]
  rw [need_ok _ (by simp; omega)]
  have ht := try_upper m ((⟨d.py, d.c + 3⟩ : Dep) + 2) up wu (by simp; omega) (by simp; omega)
  have hn5 : need ((⟨d.py, d.c + 3⟩ : Dep) + 5) = .ok () := need_ok _ (by simp; omega)
  simp only [hch, ht, hn5, bind, Except.bind, pure, Except.pure]
  rw [if_neg (by omega)]
  have hattr' : ¬ (u8 D 6 = 44 ∧ (!lf) = true) := by
    intro ⟨a, b⟩; exact hattr ⟨a, by cases lf <;> simp_all⟩
  split <;> simp

def isFrag : Ext → Bool
  | .fragment .. => true
  | _ => false

def lastFrag : List Ext → Bool → Bool
  | [], lf => lf
  | e :: es, _ => lastFrag es (isFrag e)

/-- dpkt's extension-header class for `e` reads an encoded `e` back: its length, its Next Header, offset 0 -/
def ExtOk (e : Ext) : Prop :=
  ∀ (n : Nat) (rest : Bytes), n < 256 →
    extHdr e.proto (e.encode n ++ rest) = .ok ((e.encode n).length, some n, isFrag e, 0)

theorem ext_proto_isExt (e : Ext) : isExt e.proto = true := by cases e <;> simp [Ext.proto, isExt]

theorem encChain_fst_lt (es : List Ext) (p : Nat) (up : Bytes) (hp : p < 256) : (encChain es p up).1 < 256 := by
  cases es with
  | nil => simpa [encChain]
  | cons e es => cases e <;> simp [encChain, Ext.proto]

theorem extWalk_chain (es : List Ext) (p : Nat) (up : Bytes) (hp : p < 256) (hpx : isExt p = false)
    (hok : ∀ e ∈ es, ExtOk e) :
    ∀ (fuel c : Nat) (lf : Bool), es.length < fuel →
      extWalk fuel (encChain es p up).1 (encChain es p up).2 c lf 0 =
        .ok ⟨some p, up, c + es.length, lastFrag es lf, 0⟩ := by
  induction es with
  | nil =>
    intro fuel c lf hf
    cases fuel with
    | zero => simp at hf
    | succ f => simp [encChain, extWalk, hpx, lastFrag]
  | cons e es ih =>
    intro fuel c lf hf
    cases fuel with
    | zero => simp at hf
    | succ f =>
      have hn := encChain_fst_lt es p up hp
      have he := hok e (by simp) (encChain es p up).1 (encChain es p up).2 hn
      have ih' := ih (fun e' h' => hok e' (by simp [h'])) f (c + 1) (isFrag e) (by simp at hf; omega)
      simp only [encChain, extWalk, ext_proto_isExt, if_true, he, List.drop_left, ih', lastFrag, List.length_cons]
      simp only [Except.ok.injEq, Chain.mk.injEq, true_and, and_true]
      omega

theorem ext_head (e : Ext) (n : Nat) (rest : Bytes) (x : Nat) (t : Bytes)
    (he : e.encode n = UInt8.ofNat n :: UInt8.ofNat x :: t) (hn : n < 256) (hx : x < 256) :
    u8 (e.encode n ++ rest) 0 = n ∧ u8 (e.encode n ++ rest) 1 = x ∧ (e.encode n).length = t.length + 2 := by
  rw [he]
  byte_eval
  exact ⟨Nat.mod_eq_of_lt hn, Nat.mod_eq_of_lt hx, rfl⟩

theorem extOk_routing (t s : Nat) (d : Bytes) (w : (Ext.routing t s d).WF) : ExtOk (.routing t s d) := by
  intro n rest hn
  obtain ⟨w8, wl⟩ := w
  obtain ⟨e0, e1, hl⟩ := ext_head (.routing t s d) n rest _ _ rfl hn (show (4 + d.length) / 8 - 1 < 256 by omega)
  have hl' : (Ext.encode n (.routing t s d)).length = 4 + d.length := by rw [hl]; simp; omega
  simp only [Ext.proto, extHdr, isFrag, e0, e1, hl', List.length_append]
  simp only [reduceCtorEq, Nat.reduceEqDiff, or_self, if_true, if_false]
  rw [if_neg (by omega), show ((4 + d.length) / 8 - 1) * 8 + 8 = 4 + d.length by omega]

theorem extOk_fragment (i : Nat) (m : Bool) : ExtOk (.fragment i m) := by
  intro n rest hn
  obtain ⟨e0, _, hl⟩ := ext_head (.fragment i m) n rest 0 _ rfl hn (by decide)
  have hl' : (Ext.encode n (.fragment i m)).length = 8 := by rw [hl]; simp [be4]
  have e2 : u16 (Ext.encode n (.fragment i m) ++ rest) 2 / 8 = 0 := by
    unfold Ext.encode
    cases m <;> byte_eval <;> rfl
  simp only [Ext.proto, extHdr, isFrag, e0, e2, hl', List.length_append]
  simp

theorem extOk_ah (spi seq : Nat) (icv : Bytes) (w : (Ext.ah spi seq icv).WF) : ExtOk (.ah spi seq icv) := by
  intro n rest hn
  obtain ⟨w4, wl⟩ := w
  obtain ⟨e0, e1, hl⟩ := ext_head (.ah spi seq icv) n rest _ _ rfl hn (show (12 + icv.length) / 4 - 2 < 256 by omega)
  have hl' : (Ext.encode n (.ah spi seq icv)).length = 12 + icv.length := by rw [hl]; simp [be4]; omega
  simp only [Ext.proto, extHdr, isFrag, e0, e1, hl', List.length_append]
  simp only [reduceCtorEq, Nat.reduceEqDiff, or_self, if_true, if_false]
  rw [if_neg (by omega), show ((12 + icv.length) / 4 - 2 + 2) * 4 = 12 + icv.length by omega]

theorem ext_encode_pos (e : Ext) (n : Nat) : 1 ≤ (e.encode n).length := by
  cases e <;> simp [Ext.encode]

theorem encChain_length_ge (es : List Ext) (p : Nat) (up : Bytes) : es.length ≤ (encChain es p up).2.length := by
  induction es with
  | nil => simp
  | cons e es ih =>
    have := ext_encode_pos e (encChain es p up).1
    simp only [encChain, List.length_cons, List.length_append]
    omega

theorem upper_not_ext (up : Upper) : isExt up.proto = false := by cases up <;> simp [Upper.proto, isExt]

theorem optsWalk_opt (o : Opt6) (hw : o.WF) (pre tail : Bytes) (lim fuel : Nat) (hlim : pre.length < lim) :
    optsWalk (fuel + 1) (pre ++ (o.encode ++ tail)) lim pre.length =
      optsWalk fuel (pre ++ (o.encode ++ tail)) lim (pre.length + o.encode.length) := by
  conv => lhs; unfold optsWalk
  rw [if_pos hlim]
  cases o with
  | pad1 => simp [Opt6.encode]
  | opt t d =>
    obtain ⟨ht0, ht, hd⟩ : 0 < t ∧ t < 256 ∧ d.length < 256 := hw
    have h0 : (pre ++ (Opt6.encode (.opt t d) ++ tail))[pre.length]? = some (UInt8.ofNat t) := by simp [Opt6.encode]
    have h1 : (pre ++ (Opt6.encode (.opt t d) ++ tail))[pre.length + 1]? = some (UInt8.ofNat d.length) := by
      simp [Opt6.encode]
    have hne : UInt8.ofNat t ≠ 0 := by
      intro h
      have := congrArg UInt8.toNat h
      simp only [UInt8.toNat_ofNat', UInt8.toNat_zero] at this
      omega
    have hdl : (UInt8.ofNat d.length).toNat = d.length := by simp only [UInt8.toNat_ofNat']; omega
    rw [h0]
    simp only [hne, if_false, h1, hdl]
    congr 1

theorem optsWalk_enc (os : List Opt6) (hw : ∀ o ∈ os, o.WF) (pre rest : Bytes) (fuel : Nat) :
    optsWalk fuel (pre ++ (encOpts os ++ rest)) (pre.length + (encOpts os).length) pre.length = true := by
  induction os generalizing pre fuel with
  | nil =>
    cases fuel with
    | zero => rfl
    | succ f => simp [optsWalk, encOpts]
  | cons o os ih =>
    cases fuel with
    | zero => rfl
    | succ f =>
      have hpos : 1 ≤ (Opt6.encode o).length := by cases o <;> simp [Opt6.encode]
      have hc : encOpts (o :: os) = o.encode ++ encOpts os := by simp [encOpts]
      have := ih (fun x hx => hw x (by simp [hx])) (pre ++ o.encode) f
      rw [hc, List.append_assoc, optsWalk_opt o (hw o (by simp)) pre _ _ f (by simp only [List.length_append]; omega)]
      simpa [List.append_assoc, Nat.add_assoc] using this

/-- stated about arbitrary bytes: with the encoder's layout in their place every step of the walk would carry it along -/
theorem extHdr_of_walk (k : Nat) (hk : k = 0 ∨ k = 60) (n l : Nat) (hn : n < 256) (hl : l < 256) (body : Bytes)
    (hwalk : optsWalk ((l + 1) * 8) body ((l + 1) * 8 - 2) 0 = true) :
    extHdr k (UInt8.ofNat n :: UInt8.ofNat l :: body) = .ok ((l + 1) * 8, some n, false, 0) := by
  have h1 : u8 (UInt8.ofNat n :: UInt8.ofNat l :: body) 1 = l := by
    simp only [u8, List.getElem?_cons_succ, List.getElem?_cons_zero, Option.map_some, Option.getD_some, UInt8.toNat_ofNat']
    omega
  have h0 : u8 (UInt8.ofNat n :: UInt8.ofNat l :: body) 0 = n := by
    simp only [u8, List.getElem?_cons_zero, Option.map_some, Option.getD_some, UInt8.toNat_ofNat']
    omega
  unfold extHdr
  rw [if_pos hk, if_neg (by simp)]
  simp only [h1, h0, List.drop_succ_cons, List.drop_zero, hwalk, if_true]

/-- `hl`: the header's length byte counts 8-octet units beyond the first, so at most 256 · 8 = 2048 octets -/
theorem extHdr_opts (k : Nat) (hk : k = 0 ∨ k = 60) (os : List Opt6) (hw : ∀ o ∈ os, o.WF)
    (h8 : (2 + (encOpts os).length) % 8 = 0) (hl : 2 + (encOpts os).length ≤ 2048) (n : Nat) (rest : Bytes) (hn : n < 256) :
    extHdr k ([UInt8.ofNat n, UInt8.ofNat ((2 + (encOpts os).length) / 8 - 1)] ++ encOpts os ++ rest) =
      .ok (2 + (encOpts os).length, some n, false, 0) := by
  have hL : ((2 + (encOpts os).length) / 8 - 1 + 1) * 8 = 2 + (encOpts os).length := by omega
  have hw' := optsWalk_enc os hw [] rest (2 + (encOpts os).length)
  have := extHdr_of_walk k hk n ((2 + (encOpts os).length) / 8 - 1) hn (by omega) (encOpts os ++ rest)
    (by rw [hL]; simpa using hw')
  rw [hL] at this
  simpa using this

theorem extOk_opts (e : Ext) (w : e.WF) (h : (∃ os, e = .hopByHop os) ∨ (∃ os, e = .destOpts os)) : ExtOk e := by
  intro n rest hn
  rcases h with ⟨os, rfl⟩ | ⟨os, rfl⟩
  · obtain ⟨w1, w2, w3⟩ := w
    have := extHdr_opts 0 (.inl rfl) os w1 w2 w3 n rest hn
    simp only [Ext.proto, Ext.encode, isFrag]
    rw [this]
    simp
    omega
  · obtain ⟨w1, w2, w3⟩ := w
    have := extHdr_opts 60 (.inr rfl) os w1 w2 w3 n rest hn
    simp only [Ext.proto, Ext.encode, isFrag]
    rw [this]
    simp
    omega

/-- every extension header the encoder knows, laid out as the RFCs say, is read back by dpkt's class for it -/
theorem _root_.TLX.Lemmas.C01Full.extOk_all (e : Ext) (w : e.WF) : ExtOk e := by
  cases e with
  | hopByHop os => exact extOk_opts _ w (.inl ⟨os, rfl⟩)
  | destOpts os => exact extOk_opts _ w (.inr ⟨os, rfl⟩)
  | routing t s d => exact extOk_routing t s d w
  | fragment i m => exact extOk_fragment i m
  | ah a b c => exact extOk_ah a b c w

theorem encChain_length_ge_upper (es : List Ext) (p : Nat) (up : Bytes) : up.length ≤ (encChain es p up).2.length := by
  induction es with
  | nil => exact Nat.le_refl _
  | cons e es ih => simp only [encChain, List.length_append]; omega

end TLX.Lemmas.Dissect
