/-
The vocabulary and the lemmas of the whole-program theorems (`Props/Export*`). Defined here: `ListExt`, `optsOf`,
`keysOf`, `tlsConvs`, `convFrames`, `tlsFrames`, `optMeta`, `readItem`. Proved: how the TLS session list grows, `framesFrom`
with the loop's final state spelt out (`framesFrom_views`), what of the options and of a packet the demultiplexers read
(`tlsRun_map`, `quicRun_map`, `runItems_map`), the run under renaming of packet tags and what follows from it for free
(`congr_of_natural`, `outs_ids`), the read loop item by item (`go_readItem`, `go_take`).
-/
import TLX.Props.Export
import TLX.Props.C01Capstone2
import TLX.Lemmas.TagNat
namespace TLX.Lemmas.ExportProps
open TLX TLX.MainLoop TLX.Lemmas.MainLoop TLX.Spec.Demux
open TLX.Props.Export (optsE framesFrom_eq)

/-- `t` extends `s`: element by element related by `R`, possibly more elements at the end -/
inductive ListExt {α β : Type} (R : α → β → Prop) : List α → List β → Prop
  | nil (t : List β) : ListExt R [] t
  | cons {a : α} {b : β} {as : List α} {bs : List β} : R a b → ListExt R as bs → ListExt R (a :: as) (b :: bs)

theorem ListExt.refl {α : Type} {R : α → α → Prop} (hR : ∀ a, R a a) : ∀ l, ListExt R l l
  | [] => .nil _
  | a :: l => .cons (hR a) (ListExt.refl hR l)

theorem ListExt.trans {α : Type} {R : α → α → Prop} (hR : ∀ a b c, R a b → R b c → R a c) {x y z : List α}
    (h1 : ListExt R x y) (h2 : ListExt R y z) : ListExt R x z := by
  induction h1 generalizing z with
  | nil t => exact .nil _
  | cons r _ ih =>
    cases h2 with
    | cons r' h2' => exact .cons (hR _ _ _ r r') (ih h2')

theorem ListExt.length_le {α β : Type} {R : α → β → Prop} {x : List α} {y : List β} (h : ListExt R x y) :
    x.length ≤ y.length := by
  induction h with
  | nil t => simp
  | cons _ _ ih => simp only [List.length_cons]; omega

theorem ListExt.get {α β : Type} {R : α → β → Prop} {x : List α} {y : List β} (h : ListExt R x y) (i : Nat)
    (hi : i < x.length) : ∃ hj : i < y.length, R x[i] y[i] := by
  induction h generalizing i with
  | nil t => simp at hi
  | cons r _ ih =>
    cases i with
    | zero => exact ⟨by simp, r⟩
    | succ i =>
      obtain ⟨hj, hr⟩ := ih i (by simpa using hi)
      exact ⟨by simpa using hj, by simpa using hr⟩

theorem ListExt.map_map {α β γ : Type} {R : β → γ → Prop} (f : α → β) (g : α → γ) (l : List α)
    (h : ∀ a ∈ l, R (f a) (g a)) : ListExt R (l.map f) (l.map g) := by
  induction l with
  | nil => exact .nil _
  | cons a l ih => exact .cons (h a (by simp)) (ih fun b hb => h b (by simp [hb]))

theorem ListExt.imp {α β : Type} {R S : α → β → Prop} (hRS : ∀ a b, R a b → S a b) {x : List α} {y : List β}
    (h : ListExt R x y) : ListExt S x y := by
  induction h with
  | nil t => exact .nil _
  | cons r _ ih => exact .cons (hRS _ _ r) ih

theorem ListExt.map {α β γ δ : Type} {R : α → β → Prop} {S : γ → δ → Prop} (f : α → γ) (g : β → δ)
    (hfg : ∀ a b, R a b → S (f a) (g b)) {x : List α} {y : List β} (h : ListExt R x y) :
    ListExt S (x.map f) (y.map g) := by
  induction h with
  | nil t => exact .nil _
  | cons r _ ih => exact .cons (hfg _ _ r) ih

section Tls
variable {κ σ ο : Type}

/-- the session `t` is the session `s` after more packets -/
def SessExt (M : TlsMachine κ σ ο) (s t : TlsSess σ) : Prop :=
  t.server = s.server ∧ t.client = s.client ∧ ∃ more : List Pkt, t.st = more.foldl M.feed s.st

theorem SessExt.refl (M : TlsMachine κ σ ο) (s : TlsSess σ) : SessExt M s s := ⟨rfl, rfl, [], rfl⟩

theorem SessExt.trans (M : TlsMachine κ σ ο) (a b c : TlsSess σ) (h1 : SessExt M a b) (h2 : SessExt M b c) :
    SessExt M a c := by
  obtain ⟨a1, a2, m1, a3⟩ := h1
  obtain ⟨b1, b2, m2, b3⟩ := h2
  exact ⟨b1.trans a1, b2.trans a2, m1 ++ m2, by rw [b3, a3, List.foldl_append]⟩

/-- one packet through `handle_packet`: existing sessions keep their place and identity, at most one is fed, at most one
    new session is appended -/
theorem tlsHandle_ext (M : TlsMachine κ σ ο) (o : Opts) (ss : List (TlsSess σ)) (p : Pkt) :
    ListExt (SessExt M) ss (tlsHandle M o ss p) := by
  induction ss with
  | nil => exact .nil _
  | cons s rest ih =>
    simp only [tlsHandle]
    split
    · exact .cons ⟨rfl, rfl, [p], rfl⟩ (ListExt.refl (SessExt.refl M) rest)
    · exact .cons (SessExt.refl M s) ih

theorem tlsRun_ext (M : TlsMachine κ σ ο) (o : Opts) (ss : List (TlsSess σ)) (pkts : List Pkt) :
    ListExt (SessExt M) ss (tlsRun M o ss pkts) := by
  induction pkts generalizing ss with
  | nil => exact ListExt.refl (SessExt.refl M) ss
  | cons p ps ih =>
    rw [tlsRun_cons_pkt]
    exact ListExt.trans (SessExt.trans M) (tlsHandle_ext M o ss p) (ih _)

/-- **demultiplexing is monotone**: the sessions after a prefix of the packets are, in the same creation order, the
    first sessions of the full run, each holding a prefix of what it gets in the full run; later sessions are absent -/
theorem tlsRun_prefix_ext (M : TlsMachine κ σ ο) (o : Opts) (ss : List (TlsSess σ)) {a b : List Pkt} (h : a <+: b) :
    ListExt (SessExt M) (tlsRun M o ss a) (tlsRun M o ss b) := by
  obtain ⟨t, rfl⟩ := h
  have : tlsRun M o ss (a ++ t) = tlsRun M o (tlsRun M o ss a) t := by simp [tlsRun, List.foldl_append]
  rw [this]
  exact tlsRun_ext M o _ t

end Tls

section Views
variable {κ : Type}

theorem tcpView_take_prefix (o : Opts) (items : List (Item κ)) (n : Nat) :
    tcpView o (items.take n) <+: tcpView o items := (List.take_prefix n items).filterMap _

/-- the keys of the DSB items of a capture (no option is read) -/
def dsbOnly (items : List (Item κ)) : List κ := items.flatMap fun
  | .dsb ks => ks
  | .frame _ => []

/-- for every `o`: statements that fix no options speak of `dsbOnly` -/
theorem dsbKeys_eq (o : Opts) (items : List (Item κ)) : dsbKeys o items = dsbOnly items := by
  induction items with
  | nil => rfl
  | cons it rest ih =>
    simp only [dsbKeys, dsbOnly, List.flatMap_cons] at ih ⊢
    rw [ih]
    congr 1
    cases it with
    | dsb ks => rfl
    | frame p => rcases classify_frame_cases o p with ⟨w, h⟩ | ⟨h, _⟩ | ⟨b0, r, h, _⟩ <;> rw [h]

end Views

section Composed
variable (H : Crypto.Prims) (P : Cipher.Prims) (info : Nat → Pipeline.Info)

/-- the conversation `a` is the conversation `b` cut after its first `k` packets: same roles, addresses, options -/
def ConnCut (a b : TlsSess Pipeline.Conn) : Prop :=
  a.server = b.server ∧ a.client = b.client ∧ ∃ k, a.st = { b.st with pkts := b.st.pkts.take k }

theorem connCut_of_ext {a b : TlsSess Pipeline.Conn} (h : SessExt (Pipeline.tlsMachine H P info) a b) : ConnCut a b := by
  obtain ⟨h1, h2, more, h3⟩ := h
  refine ⟨h1.symm, h2.symm, a.st.pkts.length, ?_⟩
  rw [h3, Lemmas.Export.foldl_feed]
  simp

end Composed

/-- the options the loop runs with (`none`: an unusable `-p` / `-m` value, no output) -/
def optsOf (args : Args) : Option Opts :=
  match Options.getPortMap Options.Src.bare args.mArg with
  | .error _ => none
  | .ok pm =>
    match Options.serverPorts Options.Src.builtin Options.Src.pDefault args.pArg with
    | .error _ => none
    | .ok ports => some ⟨ports, args.checksumTest, args.greasy, args.metadata, Options.keepOriginalPorts args.mArg, pm⟩

/-- the key log at the end of the run: the `-s` file, then the DSB items in order -/
def keysOf (fk : Option (List Keylog.Key)) (xs : List (Item Keylog.Key)) : List Keylog.Key := fk.getD [] ++ dsbOnly xs

section Frames
variable (mask : Quic.Dissect.MaskFn) (H : Crypto.Prims) (P : Cipher.Prims) (info : Nat → Pipeline.Info)

/-- the TLS conversations of a run, in creation order -/
def tlsConvs (o : Opts) (xs : List (Item Keylog.Key)) : List (TlsSess Pipeline.Conn) :=
  tlsRun (Pipeline.tlsMachine H P info) o [] (tcpView o xs)

/-- the frames one conversation contributes to the output -/
def convFrames (kl : List Keylog.Key) (s : TlsSess Pipeline.Conn) : List Pipeline.OutPkt :=
  (Pipeline.connOut H P info s.st kl).getD []

/-- the TLS part of the output, conversation by conversation -/
def tlsFrames (o : Opts) (fk : Option (List Keylog.Key)) (xs : List (Item Keylog.Key)) : List (List Pipeline.OutPkt) :=
  (tlsConvs H P info o xs).map (convFrames H P info (keysOf fk xs))

theorem optsOf_eq (args : Args) : optsOf args = (optsE args).toOption := by
  unfold optsOf optsE
  cases Options.getPortMap Options.Src.bare args.mArg with
  | error e => rfl
  | ok pm => cases Options.serverPorts Options.Src.builtin Options.Src.pDefault args.pArg <;> rfl

theorem optsE_of_some {args : Args} {o : Opts} (ho : optsOf args = some o) : optsE args = .ok o := by
  rw [optsOf_eq] at ho
  cases h : optsE args with
  | error e => rw [h] at ho; cases ho
  | ok o' => rw [h] at ho; exact congrArg Except.ok (Option.some.inj ho)

/-- `framesFrom` with the loop's final state spelt out: the TLS conversations' frames, then the QUIC sessions' frames -/
theorem framesFrom_views (prior : Export.Prior) (args : Args) (fk : Option (List Keylog.Key))
    (xs : List (Item Keylog.Key)) (o : Opts) (ho : optsOf args = some o) :
    Export.framesFrom mask H P prior args fk xs info =
      .ok ((tlsFrames H P info o fk xs).flatten ++
        (quicRun (QuicPipeline.quicMachine mask H P info) o [] (quicView o (fk.getD []) xs)).flatMap
          fun s => (QuicPipeline.quicMachine mask H P info).out o.metadata s.st) := by
  obtain ⟨h1, h2, h3⟩ := Props.C04.tls_quic_independent (Pipeline.tlsMachine H P info) (QuicPipeline.quicMachine mask H P info) o xs
    ⟨fk.getD [], [], []⟩
  rw [framesFrom_eq, optsE_of_some ho]
  simp only [Except.map, exportAll, h1, h2, h3, dsbKeys_eq, tlsFrames, tlsConvs, keysOf, List.flatMap_def]
  rfl

theorem framesFrom_ok (prior : Export.Prior) (args : Args) (fk : Option (List Keylog.Key))
    (xs : List (Item Keylog.Key)) (o : Opts) (ho : optsOf args = some o) :
    ∃ quicPart, Export.framesFrom mask H P prior args fk xs info
      = .ok ((tlsFrames H P info o fk xs).flatten ++ quicPart) :=
  ⟨_, framesFrom_views mask H P info prior args fk xs o ho⟩

theorem framesFrom_ok_opts (prior : Export.Prior) (args : Args) (fk : Option (List Keylog.Key))
    (xs : List (Item Keylog.Key)) (out : List Pipeline.OutPkt)
    (h : Export.framesFrom mask H P prior args fk xs info = .ok out) : ∃ o, optsOf args = some o := by
  rw [framesFrom_eq] at h
  rw [optsOf_eq]
  cases ho : optsE args with
  | error e => rw [ho] at h; cases h
  | ok o => exact ⟨o, rfl⟩

/-- two runs with the same option vector: they end with the same exception if the options do not parse, so their equality
    need only be shown for options that do -/
theorem framesFrom_congr (prior : Export.Prior) (args : Args) (fk₁ fk₂ : Option (List Keylog.Key))
    (xs₁ xs₂ : List (Item Keylog.Key)) (info₁ info₂ : Nat → Pipeline.Info)
    (h : ∀ o, optsOf args = some o →
      Export.framesFrom mask H P prior args fk₁ xs₁ info₁ = Export.framesFrom mask H P prior args fk₂ xs₂ info₂) :
    Export.framesFrom mask H P prior args fk₁ xs₁ info₁ = Export.framesFrom mask H P prior args fk₂ xs₂ info₂ := by
  cases ho : optsE args with
  | error e => rw [framesFrom_eq, framesFrom_eq, ho]; simp only [Except.map]
  | ok o => exact h o (by rw [optsOf_eq, ho]; rfl)

end Frames

section ConvInv
variable (H : Crypto.Prims) (P : Cipher.Prims) (info : Nat → Pipeline.Info)

/-- the facts about a conversation object that the export reads: options as given, the roles decided on the first packet
    (`rolesOf`: the side whose port is a server port), the MAC addresses and the IP version of that packet, and that every
    packet it holds belongs to its flow, is a packet of the capture's TCP view, and has a server port at one end -/
structure ConvOk (o : Opts) (all : List Pkt) (s : TlsSess Pipeline.Conn) : Prop where
  opts : s.st.opts = o
  server : s.st.server = s.server
  client : s.st.client = s.client
  first : ∃ p0 rest, s.st.pkts = p0 :: rest ∧ candidate o p0 = true ∧ (s.server, s.client) = rolesOf o.ports p0 ∧
    s.st.serverMac = (if s.server == p0.src then (info p0.tag).srcMac else (info p0.tag).dstMac) ∧
    s.st.clientMac = (if s.server == p0.src then (info p0.tag).dstMac else (info p0.tag).srcMac) ∧
    s.st.ipv6 = (info p0.tag).ipv6
  pkts : ∀ q ∈ s.st.pkts, q ∈ all ∧ s.matches q = true ∧ candidate o q = true

theorem convOk_all (o : Opts) (xs : List (Item Keylog.Key)) :
    ∀ s ∈ tlsConvs H P info o xs, ConvOk info o (tcpView o xs) s := by
  unfold tlsConvs
  apply tlsRun_inv (Pipeline.tlsMachine H P info) o (ConvOk info o (tcpView o xs)) (tcpView o xs) ?_ ?_ _ (fun p hp => hp) []
    (by simp)
  · intro p hp s hs hm
    obtain ⟨h1, h2, h3, ⟨p0, rest, h4, h5, h6, h7, h8, h9⟩, h10⟩ := hs
    refine ⟨h1, h2, h3, ⟨p0, rest ++ [p], by simp [Lemmas.Export.tlsMachine_feed, h4], h5, h6, h7, h8, h9⟩, ?_⟩
    intro q hq
    simp only [Lemmas.Export.tlsMachine_feed, List.mem_append, List.mem_singleton] at hq
    rcases hq with hq | rfl
    · exact h10 q hq
    · refine ⟨hp, hm, ?_⟩
      have hp0 := (h10 p0 (by rw [h4]; simp)).2.1
      have := sameFlow_of_matches s hp0 hm
      rw [← Props.C04.flow_qualifies_as_a_whole o this]; exact h5
  · intro p hp hc
    refine ⟨rfl, rfl, rfl, ⟨p, [], rfl, hc, rfl, rfl, rfl, rfl⟩, ?_⟩
    intro q hq
    simp only [tlsNew, Lemmas.Export.tlsMachine_new, List.mem_singleton] at hq
    subst hq
    exact ⟨hp, by rw [tlsNew_matches]; exact sameFlow_refl _, hc⟩

end ConvInv

section Meta
variable (H : Crypto.Prims) (P : Cipher.Prims) (info : Nat → Pipeline.Info)

def optMeta (o : Opts) (b : Bool) : Opts := { o with metadata := b }

/-- the same conversation object created under `-a` set / cleared -/
def sessMeta (b : Bool) (s : TlsSess Pipeline.Conn) : TlsSess Pipeline.Conn :=
  { s with st := Props.C01Pipeline.setMeta s.st b }

theorem classify_optMeta {κ : Type} (o : Opts) (b : Bool) (it : Item κ) : classify (optMeta o b) it = classify o it := rfl

def Sess.mapSt {α : Type} (f : α → α) (s : Sess α) : Sess α := { s with st := f s.st }

section Image
variable {κ σ τ ο : Type}

/-- the TLS demultiplexer reads the addresses of a packet and `ports` of the options, nothing else -/
theorem tlsRun_map (TM TM' : TlsMachine κ σ ο) (o o' : Opts) (f : σ → σ) (π : Pkt → Pkt)
    (hsrc : ∀ p, (π p).src = p.src) (hdst : ∀ p, (π p).dst = p.dst) (hports : o'.ports = o.ports)
    (hn : ∀ p, TM'.new o' (π p) = f (TM.new o p)) (hf : ∀ s p, TM'.feed (f s) (π p) = f (TM.feed s p))
    (pkts : List Pkt) :
    ∀ ss, tlsRun TM' o' (ss.map (Sess.mapSt f)) (pkts.map π) = (tlsRun TM o ss pkts).map (Sess.mapSt f) := by
  have step : ∀ (ss : List (TlsSess σ)) (p : Pkt),
      tlsHandle TM' o' (ss.map (Sess.mapSt f)) (π p) = (tlsHandle TM o ss p).map (Sess.mapSt f) := by
    intro ss p
    induction ss with
    | nil =>
      have hc : candidate o' (π p) = candidate o p := by simp only [candidate, hports, hsrc, hdst]
      simp only [tlsHandle, List.map_nil, hc]
      cases candidate o p with
      | true => simp only [if_true, tlsNew, rolesOf, hports, hsrc, hdst, hn, Sess.mapSt, List.map_cons, List.map_nil]
      | false => rfl
    | cons s rest ih =>
      have hm : (Sess.mapSt f s).matches (π p) = s.matches p := by simp only [Sess.matches, Sess.mapSt, hsrc, hdst]
      simp only [tlsHandle, List.map_cons, hm]
      cases s.matches p with
      | true => simp only [if_true, Sess.mapSt, hf, List.map_cons]
      | false => simp only [Bool.false_eq_true, if_false, ih, List.map_cons]
  induction pkts with
  | nil => intro ss; rfl
  | cons p ps ih =>
    intro ss
    rw [List.map_cons, tlsRun_cons_pkt, tlsRun_cons_pkt, step, ih]

/-- the QUIC demultiplexer reads of a datagram the addresses, the payload and `ports`, if `g` is invisible to the
    connection-ID sets -/
theorem quicRun_map (QM QM' : QuicMachine κ τ ο) (o o' : Opts) (g : τ → τ) (π : Pkt → Pkt)
    (hsrc : ∀ p, (π p).src = p.src) (hdst : ∀ p, (π p).dst = p.dst) (hpl : ∀ p, (π p).payload = p.payload)
    (hports : o'.ports = o.ports) (hn : ∀ p, QM'.new o' (π p) = g (QM.new o p))
    (hf : ∀ s kl p d v, QM'.feed (g s) kl (π p) d v = g (QM.feed s kl p d v))
    (hcc : ∀ s, QM'.clientCids (g s) = QM.clientCids s) (hsc : ∀ s, QM'.serverCids (g s) = QM.serverCids s)
    (X : List (QIn κ)) :
    ∀ ss, quicRun QM' o' (ss.map (Sess.mapSt g)) (X.map fun x => { x with p := π x.p }) =
      (quicRun QM o ss X).map (Sess.mapSt g) := by
  have step : ∀ (kl : List κ) (h : Hdr) (ss : List (QuicSess τ)) (p : Pkt),
      quicHandleH QM' o' kl h (ss.map (Sess.mapSt g)) (π p) = (quicHandleH QM o kl h ss p).map (Sess.mapSt g) := by
    intro kl h ss p
    simp only [quicHandleH, apply_ite (List.map (Sess.mapSt g))]
    congr 1
    induction ss with
    | nil =>
      simp only [quicLoop, List.map_nil, apply_ite (List.map (Sess.mapSt g))]
      simp only [quicNew, rolesOf, hports, hsrc, hdst, hn, hf, Sess.mapSt, List.map_cons, List.map_nil]
    | cons s rest ih =>
      have ht : quicTake QM' h (π p) (Sess.mapSt g s) = quicTake QM h p s := by
        simp only [quicTake, Sess.side, Sess.matches, Sess.mapSt, hcc, hsc, hsrc, hdst, hpl]
        rfl
      simp only [quicLoop, List.map_cons, ht]
      cases quicTake QM h p s with
      | some c => simp only [Sess.mapSt, hf, List.map_cons]
      | none => simp only [ih, List.map_cons]
  induction X with
  | nil => intro ss; rfl
  | cons x X ih =>
    intro ss
    rw [List.map_cons, quicRun_cons, quicRun_cons, step, ih]

/-- the three views of a capture read the options through `classify` only -/
theorem views_congr (o o' : Opts) (xs : List (Item κ)) (hcl : ∀ it ∈ xs, classify o' it = classify o it) :
    tcpView o' xs = tcpView o xs ∧ dsbKeys o' xs = dsbKeys o xs ∧ ∀ kl, quicView o' kl xs = quicView o kl xs := by
  induction xs with
  | nil => exact ⟨rfl, rfl, fun _ => rfl⟩
  | cons it xs ih =>
    obtain ⟨h1, h2, h3⟩ := ih fun x hx => hcl x (List.mem_cons_of_mem _ hx)
    have hc := hcl it (List.mem_cons_self ..)
    refine ⟨?_, ?_, fun kl => ?_⟩
    · simp only [tcpView, List.filterMap_cons, hc] at h1 ⊢; rw [h1]
    · simp only [dsbKeys, List.flatMap_cons, hc] at h2 ⊢; rw [h2]
    · simp only [quicView, hc, h3]

/-- the whole loop under options that the machines only store -/
theorem runItems_map (TM : TlsMachine κ σ ο) (QM : QuicMachine κ τ ο) (o o' : Opts) (f : σ → σ) (g : τ → τ)
    (hports : o'.ports = o.ports)
    (hTn : ∀ p, TM.new o' p = f (TM.new o p)) (hTf : ∀ s p, TM.feed (f s) p = f (TM.feed s p))
    (hQn : ∀ p, QM.new o' p = g (QM.new o p)) (hQf : ∀ s kl p d v, QM.feed (g s) kl p d v = g (QM.feed s kl p d v))
    (hcc : ∀ s, QM.clientCids (g s) = QM.clientCids s) (hsc : ∀ s, QM.serverCids (g s) = QM.serverCids s)
    (xs : List (Item κ)) (hcl : ∀ it ∈ xs, classify o' it = classify o it) (st : State κ σ τ) :
    runItems TM QM o' ⟨st.keylog, st.tls.map (Sess.mapSt f), st.quic.map (Sess.mapSt g)⟩ xs =
      ⟨(runItems TM QM o st xs).keylog, (runItems TM QM o st xs).tls.map (Sess.mapSt f),
        (runItems TM QM o st xs).quic.map (Sess.mapSt g)⟩ := by
  obtain ⟨v1, v2, v3⟩ := views_congr o o' xs hcl
  obtain ⟨a1, a2, a3⟩ := Props.C04.tls_quic_independent TM QM o' xs ⟨st.keylog, st.tls.map (Sess.mapSt f), st.quic.map (Sess.mapSt g)⟩
  obtain ⟨b1, b2, b3⟩ := Props.C04.tls_quic_independent TM QM o xs st
  have ht := tlsRun_map TM TM o o' f id (fun _ => rfl) (fun _ => rfl) hports hTn hTf (tcpView o xs)
  rw [List.map_id] at ht
  have hq := quicRun_map QM QM o o' g id (fun _ => rfl) (fun _ => rfl) (fun _ => rfl) hports hQn hQf hcc hsc
    (quicView o st.keylog xs)
  rw [show (fun x : QIn κ => ({ x with p := id x.p } : QIn κ)) = id from rfl, List.map_id] at hq
  rw [b1, b2, b3, ← ht, ← hq, ← v1, ← v2, ← v3,
    ← a1, ← a2, ← a3]

end Image

theorem feed_opts (mask : Quic.Dissect.MaskFn) (F : Opts → Opts) (c : QuicPipeline.QConn) (kl : List Keylog.Key) (p : Pkt)
    (d : Bytes) (v : MainLoop.Version) :
    (QuicPipeline.quicMachine mask H P info).feed { c with opts := F c.opts } kl p d v =
      { (QuicPipeline.quicMachine mask H P info).feed c kl p d v with
        opts := F ((QuicPipeline.quicMachine mask H P info).feed c kl p d v).opts } := by
  obtain ⟨o', sv, cl, sm, cm, v6, st, raised⟩ := c
  cases raised <;> rfl

/-- the demultiplexer does not read `-a`: the conversations of the two runs correspond one to one, in order, and differ
    only in the stored `exp_meta` -/
theorem tlsConvs_optMeta (o : Opts) (b : Bool) (xs : List (Item Keylog.Key)) :
    tlsConvs H P info (optMeta o b) xs = (tlsConvs H P info o xs).map (sessMeta b) :=
  (List.map_id _ ▸ tlsRun_map (Pipeline.tlsMachine H P info) _ o (optMeta o b) (Props.C01Pipeline.setMeta · b) id
    (fun _ => rfl) (fun _ => rfl) rfl (fun _ => rfl) (fun _ _ => rfl) (tcpView o xs)) []

end Meta

section Carriers
open TLX.Reassembly TLX.Lemmas.Capstone TLX.Lemmas.Pipeline

theorem outs_nat (ρ : Nat → Nat) (W : Nat) (st : Reassembly.St) (segs : List Seg) :
    outs W (TagNat.Reasm.st ρ st) (segs.map (TagNat.Reasm.seg ρ)) = (outs W st segs).map (TagNat.Reasm.rec ρ) := by
  induction segs generalizing st with
  | nil => rfl
  | cons p ps ih =>
    have h : stepW W { TagNat.Reasm.st ρ st with out := [] } (TagNat.Reasm.seg ρ p) =
        TagNat.Reasm.st ρ (stepW W { st with out := [] } p) := TagNat.Reasm.stepW_nat ρ W { st with out := [] } p
    simp only [List.map_cons, outs, h, ih, List.map_append]
    rfl

/-- every carrier of a record handed on is the id of a segment that went in. Reassembly commutes with every renaming of
    the ids (`stepW_nat`): rename the ids outside `I` to one inside; the input does not change, so the output does not, so
    it holds no id outside `I`. -/
theorem outs_ids {I : List Nat} (W : Nat) (st : Reassembly.St) (segs : List Seg) (hst : ∀ s ∈ st.buf, s.id ∈ I)
    (hsegs : ∀ p ∈ segs, p.id ∈ I) : ∀ r ∈ outs W st segs, ∀ id ∈ r.2, id ∈ I := by
  cases segs with
  | nil => intro r hr; cases hr
  | cons p0 ps =>
    have h0 : p0.id ∈ I := hsegs p0 List.mem_cons_self
    let ρ : Nat → Nat := fun x => if x ∈ I then x else p0.id
    have hfix : ∀ x, ρ x = x → x ∈ I := by
      intro x hx
      by_cases h : x ∈ I
      · exact h
      · rw [← hx, show ρ x = p0.id from if_neg h]; exact h0
    have hseg : ∀ s : Seg, s.id ∈ I → TagNat.Reasm.seg ρ s = s := fun s hs => by
      simp only [TagNat.Reasm.seg, show ρ s.id = s.id from if_pos hs]
    have hin : (p0 :: ps).map (TagNat.Reasm.seg ρ) = p0 :: ps :=
      (List.map_congr_left fun s hs => hseg s (hsegs s hs)).trans (List.map_id _)
    have hst' : TagNat.Reasm.st ρ { st with out := [] } = { st with out := [] } := by
      simp only [TagNat.Reasm.st, List.map_nil]
      rw [(List.map_congr_left fun s hs => hseg s (hst s hs)).trans (List.map_id _)]
    -- `outs` clears `out` before its first step
    have hreset : outs W { st with out := [] } (p0 :: ps) = outs W st (p0 :: ps) := rfl
    have key := outs_nat ρ W { st with out := [] } (p0 :: ps)
    rw [hst', hin, hreset] at key
    intro r hr id hid
    have hr' : TagNat.Reasm.rec ρ r = r := List.map_inj_left.mp ((List.map_id _).trans key).symm r hr
    exact hfix id (List.map_inj_left.mp ((congrArg Prod.snd hr').trans (List.map_id _).symm) id hid)

/-- every carrier of a released record is (the tag of) a packet of the connection that travels in the record's direction -/
theorem released_carrier_tags (info : Nat → Pipeline.Info) (server : Endpoint) (pkts : List Pkt) :
    ∀ r ∈ released info server (Reassembly.St.init, Reassembly.St.init) pkts, ∀ id ∈ r.1.carriers,
      ∃ q ∈ pkts, q.tag = id ∧ (q.src == server) = r.2 := by
  intro r hr id hid
  have hf := released_filter info server (Reassembly.St.init, Reassembly.St.init) pkts r.2
  have hmem : ((r.1.raw, r.1.carriers) : Reassembly.Rec) ∈
      (List.filter (fun q => q.2 == r.2) (released info server (Reassembly.St.init, Reassembly.St.init) pkts)).map
        (fun q => ((q.1.raw, q.1.carriers) : Reassembly.Rec)) :=
    List.mem_map.mpr ⟨r, List.mem_filter.mpr ⟨hr, by simp⟩, rfl⟩
  rw [hf] at hmem
  have hinit : (if r.2 = true then (Reassembly.St.init, Reassembly.St.init).2 else (Reassembly.St.init, Reassembly.St.init).1)
      = Reassembly.St.init := by cases r.2 <;> rfl
  rw [hinit] at hmem
  have := outs_ids (2 ^ 32) Reassembly.St.init _ (by intro s hs; cases hs) (fun p hp => List.mem_map.mpr ⟨p, hp, rfl⟩) _ hmem
    id hid
  simp only [dirSegs, List.map_map, List.mem_map, List.mem_filter, Function.comp] at this
  obtain ⟨q, ⟨hq, hd⟩, rfl⟩ := this
  exact ⟨q, hq, rfl, by simpa using hd⟩

end Carriers

section Retag
open TLX.Lemmas.TagNat

/-- `Φ` natural under renaming of the tags of `l` reads the table at the tags of `l` only: rename the tags that do not occur
    to one that does; `l` does not change, and the two tables composed with the renaming are equal everywhere. -/
theorem congr_of_natural {α β ι : Type} (tags : α → List Nat) (re : (Nat → Nat) → α → α)
    (hre : ∀ ρ a, (∀ t ∈ tags a, ρ t = t) → re ρ a = a)
    (Φ : List α → (Nat → ι) → β) (hnat : ∀ ρ info l, Φ (l.map (re ρ)) info = Φ l (info ∘ ρ))
    (l : List α) (i₁ i₂ : Nat → ι) (h : ∀ a ∈ l, ∀ t ∈ tags a, i₁ t = i₂ t) : Φ l i₁ = Φ l i₂ := by
  have hfix : ∀ ρ : Nat → Nat, (∀ t ∈ l.flatMap tags, ρ t = t) → l.map (re ρ) = l := fun ρ hρ =>
    (List.map_congr_left fun a ha => hre ρ a fun t ht => hρ t (List.mem_flatMap.mpr ⟨a, ha, ht⟩)).trans (List.map_id _)
  cases hT : l.flatMap tags with
  | nil =>
    -- no tag at all: every renaming leaves `l` alone, so `Φ l` is the same for a table and for the constant tables made of it
    have hany : ∀ (ρ : Nat → Nat) info, Φ l info = Φ l (info ∘ ρ) := fun ρ info => by
      rw [← hnat, hfix ρ (by rw [hT]; intro t ht; cases ht)]
    let m : Nat → ι := fun t => if t = 0 then i₁ 0 else i₂ 0
    calc Φ l i₁ = Φ l (i₁ ∘ fun _ => 0) := hany _ _
      _ = Φ l (m ∘ fun _ => 0) := rfl
      _ = Φ l m := (hany _ _).symm
      _ = Φ l (m ∘ fun _ => 1) := hany _ _
      _ = Φ l (i₂ ∘ fun _ => 0) := rfl
      _ = Φ l i₂ := (hany _ _).symm
  | cons t0 T =>
    let ρ : Nat → Nat := fun t => if t ∈ l.flatMap tags then t else t0
    have hρ : ∀ t ∈ l.flatMap tags, ρ t = t := fun t ht => if_pos ht
    have hin : ∀ t, ρ t ∈ l.flatMap tags := by
      intro t
      by_cases ht : t ∈ l.flatMap tags
      · rw [hρ t ht]; exact ht
      · rw [show ρ t = t0 from if_neg ht, hT]; exact List.mem_cons_self
    have hi : i₁ ∘ ρ = i₂ ∘ ρ := by
      funext t
      obtain ⟨a, ha, hta⟩ := List.mem_flatMap.mp (hin t)
      exact h a ha _ hta
    calc Φ l i₁ = Φ (l.map (re ρ)) i₁ := by rw [hfix ρ hρ]
      _ = Φ l (i₁ ∘ ρ) := hnat _ _ _
      _ = Φ l (i₂ ∘ ρ) := by rw [hi]
      _ = Φ (l.map (re ρ)) i₂ := (hnat _ _ _).symm
      _ = Φ l i₂ := by rw [hfix ρ hρ]

/-! Declared under `Lemmas.TagNat.*` (that file is imported here): `tlsRun_nat`, `tlsFrames_nat`, `quicRun_nat`,
    `dsbOnly_retag` are instances of `tlsRun_map` / `quicRun_map` above. -/

def itemTags {κ : Type} : Item κ → List Nat
  | .frame p => [p.tag]
  | .dsb _ => []

theorem itemRetag_fix {κ : Type} (ρ : Nat → Nat) (a : Item κ) (h : ∀ t ∈ itemTags a, ρ t = t) : itemRetag ρ a = a := by
  cases a with
  | dsb k => rfl
  | frame p => simp only [itemRetag, retag, h p.tag List.mem_cons_self]

theorem mem_itemTags {κ : Type} {Q : Nat → Prop} {xs : List (Item κ)} (h : ∀ p, Item.frame p ∈ xs → Q p.tag) :
    ∀ a ∈ xs, ∀ t ∈ itemTags a, Q t := by
  intro a ha t ht
  cases a with
  | dsb k => cases ht
  | frame p => rw [List.mem_singleton.mp ht]; exact h p ha

variable (mask : Quic.Dissect.MaskFn) (H : Crypto.Prims) (P : Cipher.Prims) (ρ : Nat → Nat)

theorem _root_.TLX.Lemmas.TagNat.dsbOnly_retag {κ : Type} (xs : List (Item κ)) :
    dsbOnly (xs.map (itemRetag ρ)) = dsbOnly xs := by
  induction xs with
  | nil => rfl
  | cons it xs ih =>
    simp only [dsbOnly, List.map_cons, List.flatMap_cons] at ih ⊢
    rw [ih]
    cases it <;> rfl

theorem _root_.TLX.Lemmas.TagNat.tlsRun_nat (info' : Nat → Pipeline.Info) (o : Opts) (pkts : List Pkt) :
    ∀ ss, tlsRun (Pipeline.tlsMachine H P info') o (ss.map (sessRetag ρ)) (pkts.map (retag ρ)) =
      (tlsRun (Pipeline.tlsMachine H P (info' ∘ ρ)) o ss pkts).map (sessRetag ρ) :=
  tlsRun_map (Pipeline.tlsMachine H P (info' ∘ ρ)) (Pipeline.tlsMachine H P info') o o (connRetag ρ) (retag ρ)
    (fun _ => rfl) (fun _ => rfl) rfl (fun _ => rfl)
    (fun c p => by simp only [Lemmas.Export.tlsMachine_feed, connRetag, List.map_append, List.map_cons, List.map_nil]) pkts

/-- **TLS part of a run.** Items with renamed tags and the table `info'` export the same conversations, frame by frame,
    as the original items with the table `info' ∘ ρ`. -/
theorem _root_.TLX.Lemmas.TagNat.tlsFrames_nat (info' : Nat → Pipeline.Info) (o : Opts) (fk : Option (List Keylog.Key))
    (xs : List (Item Keylog.Key)) :
    tlsFrames H P info' o fk (xs.map (itemRetag ρ)) = tlsFrames H P (info' ∘ ρ) o fk xs := by
  unfold tlsFrames tlsConvs keysOf
  rw [tcpView_retag, dsbOnly_retag]
  have := tlsRun_nat H P ρ info' o (tcpView o xs) []
  simp only [List.map_nil] at this
  rw [this, List.map_map]
  apply List.map_congr_left
  intro s _
  simp only [Function.comp, convFrames, sessRetag]
  rw [connOut_nat]

theorem _root_.TLX.Lemmas.TagNat.quicRun_nat (info' : Nat → Pipeline.Info) (o : Opts) (X : List (QIn Keylog.Key)) :
    ∀ ss, quicRun (QuicPipeline.quicMachine mask H P info') o ss (X.map fun x => { x with p := retag ρ x.p }) =
      quicRun (QuicPipeline.quicMachine mask H P (info' ∘ ρ)) o ss X := by
  intro ss
  have h := quicRun_map (QuicPipeline.quicMachine mask H P (info' ∘ ρ)) (QuicPipeline.quicMachine mask H P info') o o id
    (retag ρ) (fun _ => rfl) (fun _ => rfl) (fun _ => rfl) rfl (fun _ => rfl) (fun _ _ _ _ _ => rfl) (fun _ => rfl)
    (fun _ => rfl) X ss
  rwa [show Sess.mapSt (id : QuicPipeline.QConn → QuicPipeline.QConn) = id from rfl, List.map_id, List.map_id] at h

theorem tlsFrames_info_congr (info info' : Nat → Pipeline.Info) (o : Opts) (fk : Option (List Keylog.Key))
    (xs : List (Item Keylog.Key)) (h : ∀ p, Item.frame p ∈ xs → info p.tag = info' p.tag) :
    tlsFrames H P info o fk xs = tlsFrames H P info' o fk xs :=
  congr_of_natural itemTags (fun ρ a => itemRetag ρ a) itemRetag_fix (fun xs info => tlsFrames H P info o fk xs)
    (fun ρ info l => tlsFrames_nat H P ρ info o fk l) xs info info' (mem_itemTags h)

end Retag

section IngestCut
open TLX.Ingest

/-- the body of the read loop on one reader item that gets the tag `tag`: the main-loop item, and the table entry of a frame -/
def readItem (hc : Keylog.HexClass) (c : Bool) (tag : Nat) :
    Container.Item → Except Ingest.Err (Item Keylog.Key × Option Pipeline.Info)
  | .dsb s =>
    match decodeAscii s with
    | .error e => .error e
    | .ok str => .ok (.dsb (Keylog.getKeysFromString hc str), none)
  | .pkt t buf =>
    if isMinusOne t then
      match decodeAscii buf with
      | .error e => .error e
      | .ok str => .ok (.dsb (Keylog.getKeysFromString hc str), none)
    else
      match framePkt c tag (Container.usOfFloat t.toFloat) buf with
      | .error e => .error e
      | .ok (p, i) => .ok (.frame p, some i)

theorem go_readItem (hc : Keylog.HexClass) (c : Bool) (tag : Nat) (it : Container.Item) (rest : List Container.Item) :
    go hc c tag (it :: rest) =
      match readItem hc c tag it with
      | .error e => .error e
      | .ok (x, oi) =>
        match go hc c (tag + 1) rest with
        | .error e => .error e
        | .ok (xs, is) => .ok (x :: xs, (oi.map fun i => (tag, i)).toList ++ is) := by
  cases it with
  | dsb s =>
    simp only [go, readItem]
    cases decodeAscii s with
    | error e => rfl
    | ok str => simp only; cases go hc c (tag + 1) rest <;> rfl
  | pkt t buf =>
    simp only [go, readItem]
    by_cases hm : isMinusOne t = true
    · simp only [hm, if_true]
      cases decodeAscii buf with
      | error e => rfl
      | ok str => simp only; cases go hc c (tag + 1) rest <;> rfl
    · simp only [hm, Bool.false_eq_true, if_false]
      cases framePkt c tag (Container.usOfFloat t.toFloat) buf with
      | error e => rfl
      | ok v => obtain ⟨p, i⟩ := v; simp only; cases go hc c (tag + 1) rest <;> rfl

theorem go_readItem_ok (hc : Keylog.HexClass) (c : Bool) (tag : Nat) (it : Container.Item) (rest : List Container.Item)
    (X : List (Item Keylog.Key)) (IS : List (Nat × Pipeline.Info)) (h : go hc c tag (it :: rest) = .ok (X, IS)) :
    ∃ x oi Xr ISr, readItem hc c tag it = .ok (x, oi) ∧ go hc c (tag + 1) rest = .ok (Xr, ISr) ∧
      X = x :: Xr ∧ IS = (oi.map fun i => (tag, i)).toList ++ ISr := by
  rw [go_readItem] at h
  cases h1 : readItem hc c tag it with
  | error e => rw [h1] at h; cases h
  | ok v =>
    obtain ⟨x, oi⟩ := v
    rw [h1] at h
    cases hg : go hc c (tag + 1) rest with
    | error e => rw [hg] at h; cases h
    | ok w =>
      obtain ⟨Xr, ISr⟩ := w
      rw [hg] at h
      simp only [Except.ok.injEq, Prod.mk.injEq] at h
      exact ⟨x, oi, Xr, ISr, rfl, rfl, h.1.symm, h.2.symm⟩

theorem readItem_frame_tag (hc : Keylog.HexClass) (c : Bool) (tag : Nat) (it : Container.Item) (p : Pkt)
    (oi : Option Pipeline.Info) (h : readItem hc c tag it = .ok (.frame p, oi)) : p.tag = tag ∧ oi.isSome := by
  cases it with
  | dsb s =>
    simp only [readItem] at h
    cases hd : decodeAscii s with
    | error e => rw [hd] at h; cases h
    | ok str => rw [hd] at h; cases h
  | pkt t buf =>
    simp only [readItem] at h
    by_cases hm : isMinusOne t = true
    · simp only [hm, if_true] at h
      cases hd : decodeAscii buf with
      | error e => rw [hd] at h; cases h
      | ok str => rw [hd] at h; cases h
    · simp only [hm, Bool.false_eq_true, if_false] at h
      cases hf : framePkt c tag (Container.usOfFloat t.toFloat) buf with
      | error e => rw [hf] at h; cases h
      | ok v =>
        obtain ⟨q, i⟩ := v
        rw [hf] at h
        simp only [Except.ok.injEq, Prod.mk.injEq, Item.frame.injEq] at h
        obtain ⟨rfl, rfl⟩ := h
        exact ⟨(Lemmas.Export.framePkt_good c tag _ buf q i hf).1, rfl⟩

/-- the read loop over the first `k` items the reader yields: the first `k` main-loop items (one per container item:
    a frame or a DSB) and a prefix of the tag ↦ info table -/
theorem go_take (hc : Keylog.HexClass) (c : Bool) (its : List Container.Item) :
    ∀ (tag k : Nat) (X : List (Item Keylog.Key)) (IS : List (Nat × Pipeline.Info)),
      go hc c tag its = .ok (X, IS) →
      ∃ IS', go hc c tag (its.take k) = .ok (X.take k, IS') ∧ IS' <+: IS ∧
        ∀ p, Item.frame p ∈ X.take k → ∃ i, (p.tag, i) ∈ IS' := by
  induction its with
  | nil =>
    intro tag k X IS h
    simp only [go, Except.ok.injEq, Prod.mk.injEq] at h
    obtain ⟨rfl, rfl⟩ := h
    exact ⟨[], by simp [go], List.prefix_refl _, by simp⟩
  | cons it rest ih =>
    intro tag k X IS h
    cases k with
    | zero => exact ⟨[], by simp [go], List.nil_prefix, by simp⟩
    | succ k =>
      obtain ⟨x, oi, Xr, ISr, h1, hg, rfl, rfl⟩ := go_readItem_ok hc c tag it rest X IS h
      obtain ⟨IS', g1, g2, g3⟩ := ih (tag + 1) k Xr ISr hg
      refine ⟨(oi.map fun i => (tag, i)).toList ++ IS', by rw [List.take_succ_cons, go_readItem, h1, g1]; rfl,
        (List.prefix_append_right_inj _).mpr g2, fun p hp => ?_⟩
      rcases List.mem_cons.mp hp with hp | hp
      · subst hp
        obtain ⟨hpt, hsome⟩ := readItem_frame_tag hc c tag it p oi h1
        obtain ⟨i, rfl⟩ := Option.isSome_iff_exists.mp hsome
        exact ⟨i, by simp [hpt]⟩
      · obtain ⟨i, hi⟩ := g3 p hp
        exact ⟨i, List.mem_append_right _ hi⟩

theorem lookup_prefix (IS' IS : List (Nat × Pipeline.Info)) (h : IS' <+: IS) (t : Nat) (i : Pipeline.Info)
    (hm : (t, i) ∈ IS') : lookup IS' t = lookup IS t := by
  obtain ⟨r, rfl⟩ := h
  unfold lookup
  rw [List.find?_append]
  have : (IS'.find? (·.1 == t)).isSome := by
    rw [List.find?_isSome]; exact ⟨(t, i), hm, by simp⟩
  obtain ⟨v, hv⟩ := Option.isSome_iff_exists.mp this
  rw [hv]; rfl

end IngestCut

end TLX.Lemmas.ExportProps
