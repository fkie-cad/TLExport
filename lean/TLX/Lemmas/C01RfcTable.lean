/-
From the RFC-side description of a connection (`Spec/RfcSuite`) to the tool side of the connection theorems, first part: suite
table and cipher class. Defines `argsOf`, `specWf`, `entryRfcOk` and proves
  the table   `table_rfc_ok` over the REGENERATED table `Gen.cipherSuites`: what `Spec.denote` says of each name reads as a
              `SuiteSpec` with lengths the primitives accept, and `Pipeline.suiteArgs` hands the callees exactly that
              (`argsOf`); with `C14.table_ok`: `resolve_rfc`
  the class   `cls12` / `cls13` (RFC) = `C01.classOf` (the `Decryptor`'s dispatch).
The second part, `Lemmas/C01Rfc.lean`, declares into the same namespace `TLX.Lemmas.C01Rfc`.
-/
import TLX.Spec.RfcSuite
import TLX.Props.C14
import TLX.Props.C15
import TLX.Props.C01
import TLX.Pipeline
set_option autoImplicit false
namespace TLX.Lemmas.C01Rfc
open TLX TLX.Tok TLX.Crypto TLX.Cipher TLX.CipherSuite TLX.Spec.KeySchedules TLX.Spec.TlsSender TLX.Spec.TlsConnection
open TLX.Spec.RfcSuite TLX.RecordLayer

def macTag : HashName → KeySchedule.MacTag
  | .md5 => .md5 | .sha1 => .sha1 | .sha256 => .sha256 | .sha384 => .sha384

def tagOfBulk : Bulk → KeySchedule.CipherTag
  | .rc4_128 => .rc4 | .tripleDesEdeCbc => .tripleDES | .ideaCbc => .idea | .aesCbc => .aes | .camelliaCbc => .camellia
  | .aesGcm => .aesgcm | .aesCcm => .aesccm | .camelliaGcm => .camellia | .chacha20Poly1305 => .chacha

def algOfBulk : Bulk → Alg
  | .rc4_128 => .arc4 | .tripleDesEdeCbc => .tdes | .ideaCbc => .idea | .aesCbc => .aes | .camelliaCbc => .camellia
  | .aesGcm => .aesgcm | .aesCcm => .aesccm | .camelliaGcm => .camellia | .chacha20Poly1305 => .chachaPoly

/-- what `generate_keys` must read from the resolved suite for the callees to work with the suite the name denotes -/
def argsOf (sp : SuiteSpec) : Pipeline.SuiteArgs :=
  { ks := { cipher := tagOfBulk sp.bulk, cryptoFlag := sp.bulk.isAead, modeFlag := sp.bulk.isAead, keyLen := sp.keyLen,
            mac := macTag sp.hash }
    bulk := algOfBulk sp.bulk
    tagLen := some sp.tagLen }

def argsEq (a b : Pipeline.SuiteArgs) : Bool := a.ks == b.ks && a.bulk == b.bulk && a.tagLen == b.tagLen

theorem argsEq_eq (a b : Pipeline.SuiteArgs) (h : argsEq a b = true) : a = b := by
  obtain ⟨k1, b1, t1⟩ := a
  obtain ⟨k2, b2, t2⟩ := b
  simp only [argsEq, Bool.and_eq_true, beq_iff_eq] at h
  obtain ⟨⟨rfl, rfl⟩, rfl⟩ := h
  rfl

/-- key and tag lengths the RFCs define for the bulk cipher (RFC 5246 App. C, RFC 5288, 6655, 7905, 8446 B.4) -/
def specWf (sp : SuiteSpec) : Bool :=
  match sp.bulk with
  | .rc4_128 => sp.keyLen == 16
  | .tripleDesEdeCbc => sp.keyLen == 24
  | .ideaCbc => sp.keyLen == 16
  | .aesCbc | .camelliaCbc => sp.keyLen == 16 || sp.keyLen == 32
  | .aesGcm => (sp.keyLen == 16 || sp.keyLen == 32) && sp.tagLen == 16
  | .aesCcm => (sp.keyLen == 16 || sp.keyLen == 32) && (sp.tagLen == 16 || sp.tagLen == 8)
  | .chacha20Poly1305 => sp.keyLen == 32 && sp.tagLen == 16
  | .camelliaGcm => false

def entryRfcOk (e : Nat × List Nat) : Bool :=
  let ps := splitName Gen.cipherSuiteParts e.2
  match ofDenoted ps, Pipeline.suiteArgs ps with
  | some sp, some a => specWf sp && argsEq a (argsOf sp) && (e.1 / 256 != 0x13 || (cls13 sp).isSome)
  | _, _ => false

/-- kernel evaluation over the whole generated table, on what each name denotes (`C14.all_resolved_of_denoted`) -/
theorem table_rfc_ok : Gen.cipherSuites.all entryRfcOk = true :=
  Props.C14.all_resolved_of_denoted
    (fun c ps => match ofDenoted ps, Pipeline.suiteArgs ps with
      | some sp, some a => specWf sp && argsEq a (argsOf sp) && (c / 256 != 0x13 || (cls13 sp).isSome)
      | _, _ => false)
    (by decide +kernel)

/-- **C14 composed**: a code point the tool's table accepts resolves to parameters that read as the `SuiteSpec` of the
    code point's IANA name, and `generate_keys` reads exactly that suite from them. -/
theorem resolve_rfc (cs : Nat) (h : CipherSuite.resolve cs ≠ none) :
    ∃ ps sp, CipherSuite.resolve cs = some ps ∧ suiteOfCode cs = some sp ∧ specWf sp = true ∧
      Pipeline.suiteArgs ps = some (argsOf sp) ∧ (cs / 256 = 0x13 → ∃ cls, cls13 sp = some cls) := by
  unfold CipherSuite.resolve CipherSuite.resolveWith at h ⊢
  cases hn : lookupName Gen.cipherSuites cs with
  | none => exact absurd (by rw [hn]; rfl) h
  | some n =>
    -- the entry the lookup found, and what the two table checks say of it
    have hmem := Lemmas.Distinct.mem_of_lookupName hn
    have hok := List.all_eq_true.mp Props.C14.table_ok _ hmem
    have hrfc := List.all_eq_true.mp table_rfc_ok _ hmem
    simp only [Props.C14.entryOk, Bool.and_eq_true, beq_iff_eq] at hok
    simp only [entryRfcOk] at hrfc
    split at hrfc
    · next sp a ho ha =>
      simp only [Bool.and_eq_true, Bool.or_eq_true, bne_iff_ne, ne_eq] at hrfc
      refine ⟨_, sp, rfl, ?_, hrfc.1.1, ?_, fun h13 => ?_⟩
      · simp only [suiteOfCode, hok.1.2, hok.2, Option.bind_some, ho]
      · rw [ha, argsEq_eq _ _ hrfc.1.2]
      · exact Option.isSome_iff_exists.mp (hrfc.2.resolve_left (not_not_intro h13))
    · cases hrfc

def sessVer : ProtocolVersion → Session.Ver
  | .ssl30 => .ssl30 | .tls10 => .tls10 | .tls11 => .tls11 | .tls12 => .tls12

def ksVer : ProtocolVersion → KeySchedule.Version
  | .ssl30 => .ssl30 | .tls10 => .tls10 | .tls11 => .tls11 | .tls12 => .tls12

theorem sessVer_ne13 (pv : ProtocolVersion) : sessVer pv ≠ .tls13 := by cases pv <;> simp [sessVer]
theorem ksVersion_sessVer (pv : ProtocolVersion) : Pipeline.ksVersion (sessVer pv) = ksVer pv := by cases pv <;> rfl
theorem specVersion_ksVer (pv : ProtocolVersion) : Props.C15.specVersion (ksVer pv) = some pv := by cases pv <;> rfl

theorem classOf_cls12 (pv : ProtocolVersion) (etm : Bool) (sp : SuiteSpec) (cls : CipherClass)
    (h : cls12 pv etm sp = some cls) :
    Props.C01.classOf (algOfBulk sp.bulk) (Pipeline.rlVersion (sessVer pv)) etm (some sp.tagLen) = some cls := by
  obtain ⟨b, kl, hs, tg⟩ := sp
  cases b <;> cases pv <;>
    simp [cls12, cbcAlg, Props.C01.classOf, algOfBulk, sessVer, Pipeline.rlVersion] at h ⊢ <;> exact h

theorem classOf_cls13 (etm : Bool) (sp : SuiteSpec) (cls : CipherClass) (h : cls13 sp = some cls) :
    Props.C01.classOf (algOfBulk sp.bulk) .tls13 etm (some sp.tagLen) = some cls := by
  obtain ⟨b, kl, hs, tg⟩ := sp
  cases b <;> simp [cls13, Props.C01.classOf, algOfBulk] at h ⊢ <;> exact h

theorem macSuite_argsOf (H : Crypto.Prims) (sp : SuiteSpec) :
    KeySchedule.macSuite H (argsOf sp).ks.mac = sp.hash.suite H := by
  obtain ⟨b, kl, hs, tg⟩ := sp
  cases hs <;> rfl

end TLX.Lemmas.C01Rfc
