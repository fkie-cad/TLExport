/-
What a key derivation that takes the labels `labs` (`dev_tls_13_keys`: `Keylog.labels13`, `dev_quic_keys`:
`Keylog.labelsQuic`) reads from the lines of a key-log file, and which secret `lastOf` picks for a label. Labels are told
apart through `labelName`, a left inverse of `Pipeline.labelOf` on the six labels.
-/
import TLX.Props.C09Found
import TLX.Lemmas.KeySchedule
set_option autoImplicit false
namespace TLX.Lemmas.KeylogLines
open TLX TLX.Props.C09Found TLX.Spec.NssKeylog TLX.Lemmas.KeySchedule

/-- one key of the connection as the derivation reads it: label and bytes of the secret for a label of `labs` (`none`: a
    ValueError from `bytes.fromhex`), a dummy for every other label -/
def secOf (labs : List Keylog.Str) (k : Keylog.Key) : Option KeySchedule.Secret :=
  if labs.contains k.label then (Keylog.fromHex k.value).map fun v => (Pipeline.labelOf k.label, Pipeline.bytesOfNats v)
  else some (.other, [])

def lineSecOf (labs : List Keylog.Str) (cr : List Nat) (x : FLine × Bool) : Option KeySchedule.Secret :=
  match x.1 with
  | .key tr _ _ =>
    if tr.cr = cr then
      some (if labs.contains tr.label then (Pipeline.labelOf tr.label, Pipeline.bytesOfNats tr.secret) else (.other, []))
    else none
  | .other _ => none

theorem mapM_secOf_lines (labs : List Keylog.Str) (cr : List Nat) (ls : List (FLine × Bool)) (hwf : ∀ x ∈ ls, x.1.WF) :
    (linesFor cr ls).mapM (secOf labs) = some (ls.filterMap (lineSecOf labs cr)) := by
  induction ls with
  | nil => rfl
  | cons x rest ih =>
    obtain ⟨l, b⟩ := x
    have ih := ih (fun y hy => hwf y (by simp [hy]))
    cases l with
    | other s =>
      rw [show linesFor cr ((.other s, b) :: rest) = linesFor cr rest by simp [linesFor], ih, List.filterMap_cons]
      rfl
    | key tr hc hv =>
      have w : DenotesVia _ tr hc hv := hwf (.key tr hc hv, b) (by simp)
      have hx := Lemmas.Keylog.fromHex_of_isHexOf w.2.2.2.2.1
      by_cases e : tr.cr = cr
      · rw [show linesFor cr ((.key tr hc hv, b) :: rest) = ⟨tr.label, hc, hv⟩ :: linesFor cr rest by simp [linesFor, e],
          List.mapM_cons, ih]
        simp only [secOf, hx, lineSecOf, e, if_true, List.filterMap_cons]
        by_cases hl : tr.label ∈ labs <;> simp [hl]
      · rw [show linesFor cr ((.key tr hc hv, b) :: rest) = linesFor cr rest by simp [linesFor, e], ih,
          List.filterMap_cons]
        simp [lineSecOf, e]

theorem foldl_pick_only (l : KeySchedule.Label) (v : Bytes) (ss : List KeySchedule.Secret)
    (hall : ∀ s ∈ ss, s.1 = l → s.2 = v) (acc : Option Bytes) (h : acc = some v ∨ ∃ s ∈ ss, s.1 = l) :
    ss.foldl (pick l) acc = some v := by
  induction ss generalizing acc with
  | nil =>
    rcases h with h | ⟨s, hs, _⟩
    · exact h
    · cases hs
  | cons s rest ih =>
    have hall' : ∀ s' ∈ rest, s'.1 = l → s'.2 = v := fun s' hs' => hall s' (List.mem_cons_of_mem _ hs')
    rw [List.foldl_cons]
    by_cases e : s.1 = l
    · rw [show pick l acc s = some v by simp [pick, e, hall s (List.mem_cons_self ..) e]]
      exact ih hall' _ (.inl rfl)
    · rw [show pick l acc s = acc by simp [pick, e]]
      refine ih hall' acc ?_
      rcases h with h | ⟨s', hs', e'⟩
      · exact .inl h
      · rcases List.mem_cons.mp hs' with rfl | hs'
        · exact absurd e' e
        · exact .inr ⟨s', hs', e'⟩

/-- `lastOf` keeps the LAST entry per label: with one secret under the label that is the secret -/
theorem lastOf_only (l : KeySchedule.Label) (v : Bytes) (ss : List KeySchedule.Secret)
    (hex : ∃ s ∈ ss, s.1 = l) (hall : ∀ s ∈ ss, s.1 = l → s.2 = v) : lastOf l ss = some v :=
  foldl_pick_only l v ss hall none (.inr hex)

theorem lastOf_absent (l : KeySchedule.Label) (ss : List KeySchedule.Secret) (h : ∀ s ∈ ss, s.1 ≠ l) :
    lastOf l ss = none := by
  unfold lastOf
  induction ss with
  | nil => rfl
  | cons s rest ih =>
    rw [List.foldl_cons, show pick l none s = none by simp [pick, h s (List.mem_cons_self ..)]]
    exact ih fun s' hs' => h s' (List.mem_cons_of_mem _ hs')

/-- the key-log label a secret is filed under: a left inverse of `Pipeline.labelOf` on the six traffic-secret labels -/
def labelName : KeySchedule.Label → Keylog.Str
  | .clientHandshake => Keylog.s_CHTS
  | .serverHandshake => Keylog.s_SHTS
  | .clientTraffic0 => Keylog.s_CTS0
  | .serverTraffic0 => Keylog.s_STS0
  | .clientEarly => Keylog.s_CETS
  | .serverEarly => Keylog.s_SETS
  | _ => []

theorem labelName_labelOf :
    ∀ lab ∈ Keylog.labelsQuic, labelName (Pipeline.labelOf lab) = lab ∧ Pipeline.labelOf lab ≠ .other := by
  decide

theorem labels13_sub : ∀ lab ∈ Keylog.labels13, lab ∈ Keylog.labelsQuic := by decide

section Lines
variable (labs : List Keylog.Str) (hsub : ∀ lab ∈ labs, lab ∈ Keylog.labelsQuic)
include hsub

theorem mem_linesOf (cr : List Nat) (ls : List (FLine × Bool)) (lab : List Nat) (hlab : lab ∈ labs)
    (s : KeySchedule.Secret) (hs : s ∈ ls.filterMap (lineSecOf labs cr)) (hl : s.1 = Pipeline.labelOf lab) :
    ∃ tr hc hv crlf, (FLine.key tr hc hv, crlf) ∈ ls ∧ tr.cr = cr ∧ tr.label = lab ∧
      s.2 = Pipeline.bytesOfNats tr.secret := by
  rw [List.mem_filterMap] at hs
  obtain ⟨⟨l, crlf⟩, hm, hk⟩ := hs
  cases l with
  | other s' => cases hk
  | key tr hc hv =>
    simp only [lineSecOf] at hk
    by_cases e : tr.cr = cr
    · rw [if_pos e] at hk
      by_cases hq : labs.contains tr.label = true
      · rw [if_pos hq] at hk
        cases hk
        have hl' : Pipeline.labelOf tr.label = Pipeline.labelOf lab := hl
        refine ⟨tr, hc, hv, crlf, hm, e, ?_, rfl⟩
        rw [← (labelName_labelOf tr.label (hsub _ (by simpa using hq))).1, hl', (labelName_labelOf lab (hsub _ hlab)).1]
      · rw [if_neg hq] at hk
        cases hk
        exact absurd hl.symm (labelName_labelOf lab (hsub _ hlab)).2
    · rw [if_neg e] at hk; cases hk

theorem lastOf_linesOf (cr : List Nat) (ls : List (FLine × Bool)) (lab : List Nat) (hlab : lab ∈ labs) (sec : List Nat)
    (hhas : ∃ hc hv crlf, (FLine.key ⟨lab, cr, sec⟩ hc hv, crlf) ∈ ls)
    (honly : ∀ tr hc hv crlf, (FLine.key tr hc hv, crlf) ∈ ls → tr.label = lab → tr.cr = cr → tr.secret = sec) :
    lastOf (Pipeline.labelOf lab) (ls.filterMap (lineSecOf labs cr)) = some (Pipeline.bytesOfNats sec) := by
  apply lastOf_only
  · obtain ⟨hc', hv, crlf, hm⟩ := hhas
    refine ⟨(Pipeline.labelOf lab, Pipeline.bytesOfNats sec), List.mem_filterMap.mpr ⟨_, hm, ?_⟩, rfl⟩
    simp [lineSecOf, hlab]
  · intro s hs hl
    obtain ⟨tr, hc', hv, crlf, hm, e, hlab', hs2⟩ := mem_linesOf labs hsub cr ls lab hlab s hs hl
    rw [hs2, honly tr hc' hv crlf hm hlab' e]

theorem lastOf_linesOf_none (cr : List Nat) (ls : List (FLine × Bool)) (lab : List Nat) (hlab : lab ∈ labs)
    (hno : ∀ tr hc hv crlf, (FLine.key tr hc hv, crlf) ∈ ls → tr.cr = cr → tr.label ≠ lab) :
    lastOf (Pipeline.labelOf lab) (ls.filterMap (lineSecOf labs cr)) = none := by
  apply lastOf_absent
  intro s hs hl
  obtain ⟨tr, hc', hv, crlf, hm, e, hlab', _⟩ := mem_linesOf labs hsub cr ls lab hlab s hs hl
  exact hno tr hc' hv crlf hm e hlab'

end Lines

end TLX.Lemmas.KeylogLines
