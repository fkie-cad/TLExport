/-
Helper lemmas for the QUIC output builder model, in its namespace `TLX.Quic.UdpOut`:
* defines `push`, `groupRuns`, `AdjDistinct`, `regroup`, `restrict`, `isExp`, `absSt`;
* `groupRuns key xs` — a list cut into its maximal runs of equal key (recursive specification), its characterising
  properties and uniqueness (`groupRuns_of_valid`);
* the builder loop computes it: `groups_eq_groupRuns`, `build_eq_groups`;
* the output list only grows at the end: `step_out_prefix`, `out_prefix_finish`, `finish_dropLast_prefix`.
-/
import TLX.Generic
import TLX.Quic.UdpOut
namespace TLX.Quic.UdpOut

/-! ### maximal runs of equal key -/

section Runs
variable {α K : Type} [DecidableEq K]

/-- put the run `(k, as)` in front of already grouped runs, merging with the first one if it has the same key -/
def push (k : K) (as : List α) : List (K × List α) → List (K × List α)
  | [] => [(k, as)]
  | (k', bs) :: rest => if k = k' then (k, as ++ bs) :: rest else (k, as) :: (k', bs) :: rest

def groupRuns (key : α → K) : List α → List (K × List α)
  | [] => []
  | a :: xs => push (key a) [a] (groupRuns key xs)

def AdjDistinct : List K → Prop
  | [] => True
  | [_] => True
  | a :: b :: r => a ≠ b ∧ AdjDistinct (b :: r)

instance decAdjDistinct : (l : List K) → Decidable (AdjDistinct l)
  | [] => isTrue trivial
  | [_] => isTrue trivial
  | a :: b :: r =>
    match decAdjDistinct (b :: r) with
    | isTrue h => if hab : a = b then isFalse (fun h' => h'.1 hab) else isTrue ⟨hab, h⟩
    | isFalse h => isFalse (fun h' => h h'.2)

omit [DecidableEq K] in
theorem adjDistinct_cons {a : K} {l : List K} :
    AdjDistinct (a :: l) ↔ (∀ b ∈ l.head?, a ≠ b) ∧ AdjDistinct l := by
  cases l with
  | nil => simp [AdjDistinct]
  | cons b r => simp [AdjDistinct]

omit [DecidableEq K] in
theorem AdjDistinct.tail {a : K} {l : List K} (h : AdjDistinct (a :: l)) : AdjDistinct l :=
  (adjDistinct_cons.mp h).2

omit [DecidableEq K] in
theorem AdjDistinct.prefix {l₁ l₂ : List K} (hp : l₁ <+: l₂) (h : AdjDistinct l₂) : AdjDistinct l₁ := by
  induction l₁ generalizing l₂ with
  | nil => trivial
  | cons a r ih =>
    obtain ⟨t, rfl⟩ := hp
    rw [List.cons_append] at h
    rw [adjDistinct_cons] at h ⊢
    exact ⟨fun b hb => h.1 b (by rw [List.head?_append, Option.mem_def.mp hb]; rfl), ih ⟨t, rfl⟩ h.2⟩

theorem push_nil (k : K) (as : List α) : push k as [] = [(k, as)] := rfl

theorem push_cons_same (k : K) (as bs : List α) (rest : List (K × List α)) :
    push k as ((k, bs) :: rest) = (k, as ++ bs) :: rest := by simp [push]

theorem push_cons_ne {k k' : K} (h : k ≠ k') (as bs : List α) (rest : List (K × List α)) :
    push k as ((k', bs) :: rest) = (k, as) :: (k', bs) :: rest := by simp [push, h]

theorem push_push_same (k : K) (as bs : List α) (g : List (K × List α)) :
    push k as (push k bs g) = push k (as ++ bs) g := by
  cases g with
  | nil => simp [push]
  | cons h rest =>
    obtain ⟨k', cs⟩ := h
    by_cases hk : k = k'
    · subst hk; simp [push, List.append_assoc]
    · simp [push, hk]

theorem push_push_ne {k k' : K} (hk : k ≠ k') (as bs : List α) (g : List (K × List α)) :
    push k as (push k' bs g) = (k, as) :: push k' bs g := by
  cases g with
  | nil => simp [push, hk]
  | cons h rest =>
    obtain ⟨k'', cs⟩ := h
    by_cases hk' : k' = k''
    · subst hk'; simp [push, hk]
    · simp [push, hk, hk']

theorem push_of_head_ne (k : K) (as : List α) (g : List (K × List α))
    (h : ∀ x ∈ g.head?, k ≠ x.1) : push k as g = (k, as) :: g := by
  cases g with
  | nil => rfl
  | cons x rest =>
    obtain ⟨k', bs⟩ := x
    have : k ≠ k' := h (k', bs) (by simp)
    simp [push, this]

theorem push_flatten (k : K) (as : List α) (g : List (K × List α)) :
    (push k as g).flatMap (·.2) = as ++ g.flatMap (·.2) := by
  cases g with
  | nil => simp [push]
  | cons x rest =>
    obtain ⟨k', bs⟩ := x
    by_cases hk : k = k' <;> simp [push, hk]

theorem push_ne_nil (k : K) (as : List α) (g : List (K × List α)) : push k as g ≠ [] := by
  cases g with
  | nil => simp [push]
  | cons x rest =>
    obtain ⟨k', bs⟩ := x
    by_cases hk : k = k' <;> simp [push, hk]

theorem push_head_key (k : K) (as : List α) (g : List (K × List α)) :
    (push k as g).head?.map (·.1) = some k := by
  cases g with
  | nil => simp [push]
  | cons x rest =>
    obtain ⟨k', bs⟩ := x
    by_cases hk : k = k' <;> simp [push, hk]

theorem push_mem {key : α → K} {k : K} {as : List α} {g : List (K × List α)}
    (has : as ≠ [] ∧ ∀ a ∈ as, key a = k)
    (hg : ∀ x ∈ g, x.2 ≠ [] ∧ ∀ a ∈ x.2, key a = x.1) :
    ∀ x ∈ push k as g, x.2 ≠ [] ∧ ∀ a ∈ x.2, key a = x.1 := by
  cases g with
  | nil => intro x hx; simp [push] at hx; subst hx; exact has
  | cons y rest =>
    obtain ⟨k', bs⟩ := y
    by_cases hk : k = k'
    · subst hk
      intro x hx
      simp only [push, if_true, List.mem_cons] at hx
      rcases hx with rfl | hx
      · refine ⟨by simp [has.1], ?_⟩
        intro a ha
        rcases List.mem_append.mp ha with ha | ha
        · exact has.2 a ha
        · exact (hg (k, bs) (by simp)).2 a ha
      · exact hg x (by simp [hx])
    · intro x hx
      simp only [push, hk, if_false, List.mem_cons] at hx
      rcases hx with rfl | rfl | hx
      · exact has
      · exact hg _ (by simp)
      · exact hg x (by simp [hx])

theorem push_keys_adjDistinct (k : K) (as : List α) (g : List (K × List α))
    (hg : AdjDistinct (g.map (·.1))) : AdjDistinct ((push k as g).map (·.1)) := by
  cases g with
  | nil => simp [push, AdjDistinct]
  | cons y rest =>
    obtain ⟨k', bs⟩ := y
    by_cases hk : k = k'
    · subst hk; simpa [push] using hg
    · simp only [push, hk, if_false, List.map_cons, AdjDistinct]
      exact ⟨hk, hg⟩

theorem groupRuns_flatten (key : α → K) (xs : List α) : (groupRuns key xs).flatMap (·.2) = xs := by
  induction xs with
  | nil => rfl
  | cons a xs ih => simp [groupRuns, push_flatten, ih]

theorem groupRuns_mem (key : α → K) (xs : List α) :
    ∀ x ∈ groupRuns key xs, x.2 ≠ [] ∧ ∀ a ∈ x.2, key a = x.1 := by
  induction xs with
  | nil => intro x hx; simp [groupRuns] at hx
  | cons a xs ih => exact push_mem (by simp) ih

theorem groupRuns_adjDistinct (key : α → K) (xs : List α) : AdjDistinct ((groupRuns key xs).map (·.1)) := by
  induction xs with
  | nil => trivial
  | cons a xs ih => exact push_keys_adjDistinct _ _ _ ih

theorem groupRuns_eq_nil {key : α → K} {xs : List α} : groupRuns key xs = [] ↔ xs = [] := by
  cases xs with
  | nil => simp [groupRuns]
  | cons a xs => simp [groupRuns, push_ne_nil]

theorem groupRuns_block_append (key : α → K) (k : K) (as ys : List α) (hne : as ≠ [])
    (hk : ∀ a ∈ as, key a = k) : groupRuns key (as ++ ys) = push k as (groupRuns key ys) := by
  induction as with
  | nil => exact absurd rfl hne
  | cons a r ih =>
    have ha : key a = k := hk a (by simp)
    cases r with
    | nil => simp [groupRuns, ha]
    | cons b r' =>
      have := ih (by simp) (fun x hx => hk x (by simp [hx]))
      simp only [List.cons_append, groupRuns] at this ⊢
      rw [this, ha, push_push_same]
      rfl

/-- Uniqueness: any cutting of a list into non-empty blocks of constant key with different keys on neighbouring
    blocks is `groupRuns` of the concatenation. -/
theorem groupRuns_of_valid (key : α → K) (gs : List (K × List α))
    (hmem : ∀ g ∈ gs, g.2 ≠ [] ∧ ∀ a ∈ g.2, key a = g.1)
    (hadj : AdjDistinct (gs.map (·.1))) :
    groupRuns key (gs.flatMap (·.2)) = gs := by
  induction gs with
  | nil => rfl
  | cons g rest ih =>
    obtain ⟨k, as⟩ := g
    have h1 := hmem (k, as) (by simp)
    rw [List.map_cons, adjDistinct_cons] at hadj
    rw [List.flatMap_cons, groupRuns_block_append key k as _ h1.1 h1.2,
      ih (fun g hg => hmem g (by simp [hg])) hadj.2]
    exact push_of_head_ne _ _ _ fun x hx => hadj.1 x.1 (by rw [List.head?_map]; exact Option.mem_map_of_mem _ hx)

/-- merge neighbouring groups of equal key -/
def regroup (gs : List (K × List α)) : List (K × List α) := gs.foldr (fun g acc => push g.1 g.2 acc) []

/-- keep only the elements satisfying `p` in every group and drop the emptied groups -/
def restrict (p : α → Bool) (gs : List (K × List α)) : List (K × List α) :=
  (gs.map (fun g => (g.1, g.2.filter p))).filter (fun g => g.2 ≠ [])

omit [DecidableEq K] in
theorem restrict_cons (p : α → Bool) (k : K) (bs : List α) (rest : List (K × List α)) :
    restrict p ((k, bs) :: rest) =
      if bs.filter p = [] then restrict p rest else (k, bs.filter p) :: restrict p rest := by
  by_cases hb : bs.filter p = []
  · simp only [restrict, List.map_cons, hb, if_true]
    rw [List.filter_cons_of_neg (by simp)]
  · simp only [restrict, List.map_cons, hb, if_false]
    rw [List.filter_cons_of_pos (by simpa using hb)]

theorem regroup_cons (k : K) (bs : List α) (gs : List (K × List α)) :
    regroup ((k, bs) :: gs) = push k bs (regroup gs) := rfl

theorem regroup_restrict_push (p : α → Bool) (k : K) (a : α) (G : List (K × List α)) :
    regroup (restrict p (push k [a] G)) =
      if p a then push k [a] (regroup (restrict p G)) else regroup (restrict p G) := by
  cases G with
  | nil =>
    rw [push_nil, restrict_cons]
    by_cases hp : p a = true
    · rw [List.filter_cons_of_pos hp, if_neg (by simp), if_pos hp]; rfl
    · rw [List.filter_cons_of_neg hp, if_pos (by simp), if_neg hp]
  | cons g rest =>
    obtain ⟨k', bs⟩ := g
    by_cases hk : k = k'
    · subst hk
      rw [push_cons_same, List.cons_append, List.nil_append]
      by_cases hp : p a = true
      · rw [restrict_cons, List.filter_cons_of_pos hp, if_neg (by simp), regroup_cons, if_pos hp, restrict_cons]
        by_cases hb : bs.filter p = []
        · rw [if_pos hb, hb]
        · rw [if_neg hb, regroup_cons, push_push_same]; rfl
      · rw [restrict_cons, List.filter_cons_of_neg hp, if_neg hp, restrict_cons]
    · rw [push_cons_ne hk]
      by_cases hp : p a = true
      · rw [restrict_cons, List.filter_cons_of_pos hp, if_neg (by simp), regroup_cons, if_pos hp]; rfl
      · rw [restrict_cons, List.filter_cons_of_neg hp, if_pos (by simp), if_neg hp]

/-- cutting after filtering = filtering the runs, dropping the emptied ones and merging neighbours that became
    adjacent with equal keys -/
theorem groupRuns_filter (key : α → K) (p : α → Bool) (xs : List α) :
    groupRuns key (xs.filter p) = regroup (restrict p (groupRuns key xs)) := by
  induction xs with
  | nil => rfl
  | cons a xs ih =>
    rw [groupRuns, regroup_restrict_push, ← ih]
    by_cases hp : p a = true
    · rw [List.filter_cons_of_pos hp, if_pos hp, groupRuns]
    · rw [List.filter_cons_of_neg hp, if_neg hp]

theorem regroup_of_adjDistinct (gs : List (K × List α)) (h : AdjDistinct (gs.map (·.1))) : regroup gs = gs := by
  induction gs with
  | nil => rfl
  | cons g rest ih =>
    obtain ⟨k, bs⟩ := g
    rw [List.map_cons, adjDistinct_cons] at h
    rw [regroup_cons, ih h.2]
    exact push_of_head_ne _ _ _ fun x hx => h.1 x.1 (by rw [List.head?_map]; exact Option.mem_map_of_mem _ hx)

end Runs

/-! ### the loop computes the runs -/

def isExp (md : Bool) (f : Frame) : Bool := (exported md f).isSome

theorem exported_eq (md : Bool) (f : Frame) :
    exported md f = if isExp md f then some f.data else none := by
  unfold isExp exported
  by_cases hs : isStream f.ftype = true <;> cases md <;> simp [hs]
  by_cases h6 : f.ftype = 6 <;> by_cases hfe : f.ftype = 254 <;> simp [h6, hfe]

theorem isExp_false (f : Frame) : isExp false f = isStream f.ftype := by
  unfold isExp exported
  by_cases hs : isStream f.ftype = true <;> simp [hs]

theorem isExp_true (f : Frame) : isExp true f = (isStream f.ftype || f.ftype == 0x06 || f.ftype == 0xfe) := by
  unfold isExp exported
  by_cases hs : isStream f.ftype = true <;> simp [hs]
  by_cases h6 : f.ftype = 6 <;> by_cases hfe : f.ftype = 254 <;> simp [h6, hfe]

theorem isExp_mono (f : Frame) (h : isExp false f = true) : isExp true f = true := by
  rw [isExp_false] at h; rw [isExp_true, h]; rfl

theorem filterMap_exported (md : Bool) (fs : List Frame) :
    fs.filterMap (exported md) = (fs.filter (isExp md)).map (·.data) := by
  induction fs with
  | nil => rfl
  | cons f fs ih =>
    by_cases h : isExp md f = true
    · simp [exported_eq, h, ih]
    · simp [exported_eq, h, ih]

theorem stepG_of_not_exp {md : Bool} {f : Frame} (h : isExp md f = false) (s : StG) : stepG md s f = s := by
  unfold stepG; rw [exported_eq, h]; rfl

/-- the instrumented loop from an open group `(k, acc)` -/
theorem finishG_foldl_some (md : Bool) (fs : List Frame) (k : Nat × Bool) (acc : List Frame) (out : List Group) :
    finishG (fs.foldl (stepG md) (some (k, acc), out)) =
      out ++ push k acc (groupRuns Frame.key (fs.filter (isExp md))) := by
  induction fs generalizing k acc out with
  | nil => simp [finishG, groupRuns, push]
  | cons f fs ih =>
    rw [List.foldl_cons]
    by_cases he : isExp md f = true
    · have hstep : stepG md (some (k, acc), out) f =
          if f.key = k then (some (k, acc ++ [f]), out) else (some (f.key, [f]), out ++ [(k, acc)]) := by
        unfold stepG; rw [exported_eq, he]
        obtain ⟨k1, k2⟩ := k
        simp only [if_true, Frame.key, Prod.mk.injEq]
      rw [hstep, List.filter_cons_of_pos he, groupRuns]
      by_cases hk : f.key = k
      · rw [if_pos hk, ih, hk, push_push_same]
      · rw [if_neg hk, ih, push_push_ne (Ne.symm hk), List.append_assoc]; rfl
    · have he' : isExp md f = false := by simpa using he
      rw [stepG_of_not_exp he', ih, List.filter_cons_of_neg he]

/-- **The export loop cuts the exported frames into maximal runs of equal `(ts, isserver)`.** -/
theorem groups_eq_groupRuns (md : Bool) (fs : List Frame) :
    groups md fs = groupRuns Frame.key (fs.filter (isExp md)) := by
  unfold groups
  induction fs with
  | nil => rfl
  | cons f fs ih =>
    rw [List.foldl_cons]
    by_cases he : isExp md f = true
    · have hstep : stepG md (none, []) f = (some (f.key, [f]), []) := by
        unfold stepG; rw [exported_eq, he]; rfl
      rw [hstep, finishG_foldl_some, List.filter_cons_of_pos he, groupRuns]; rfl
    · have he' : isExp md f = false := by simpa using he
      rw [stepG_of_not_exp he', ih, List.filter_cons_of_neg he]

/-! ### `build` is `groups` with the frames of each datagram concatenated -/

/-- abstraction from the instrumented state to the state of `build` -/
def absSt (s : StG) : St :=
  (s.1.map (fun g => (g.1.1, g.1.2, (g.2.map (·.data)).flatten)), s.2.map Group.dgram)

theorem step_abs (md : Bool) (s : StG) (f : Frame) : step md (absSt s) f = absSt (stepG md s f) := by
  unfold step stepG
  rw [exported_eq]
  by_cases he : isExp md f = true
  · simp only [he, if_true]
    obtain ⟨cur, out⟩ := s
    cases cur with
    | none => simp [absSt, Frame.key]
    | some g =>
      obtain ⟨⟨t, b⟩, acc⟩ := g
      by_cases hk : f.ts = t ∧ f.isServer = b
      · simp [absSt, hk]
      · simp only [absSt, Option.map_some, hk, if_false]
        simp [Group.dgram, Frame.key]
  · have he' : isExp md f = false := by simpa using he
    simp [he']

theorem foldl_step_abs (md : Bool) (fs : List Frame) (s : StG) :
    fs.foldl (step md) (absSt s) = absSt (fs.foldl (stepG md) s) := by
  induction fs generalizing s with
  | nil => rfl
  | cons f fs ih => rw [List.foldl_cons, List.foldl_cons, step_abs, ih]

theorem finish_abs (s : StG) : finish (absSt s) = (finishG s).map Group.dgram := by
  obtain ⟨cur, out⟩ := s
  cases cur with
  | none => simp [finish, finishG, absSt]
  | some g => simp [finish, finishG, absSt, Group.dgram]

theorem build_eq_groups (md : Bool) (fs : List Frame) : build md fs = (groups md fs).map Group.dgram := by
  unfold build groups
  have : (init : St) = absSt (none, []) := rfl
  rw [this, foldl_step_abs, finish_abs]

/-! ### `self.out` only grows at its end -/

theorem step_out_prefix (md : Bool) (s : St) (f : Frame) : s.2 <+: (step md s f).2 := by
  unfold step
  split
  · exact List.prefix_refl _
  · split
    · exact List.prefix_refl _
    · split
      · exact List.prefix_refl _
      · exact List.prefix_append _ _

theorem out_prefix_finish (s : St) : s.2 <+: finish s := by
  unfold finish
  split
  · exact List.prefix_refl _
  · exact List.prefix_append _ _

theorem finish_dropLast_prefix (s : St) : (finish s).dropLast <+: s.2 := by
  unfold finish
  split
  · exact List.dropLast_prefix _
  · simp

end TLX.Quic.UdpOut
