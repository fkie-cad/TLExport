/-
The session state machine (`TLX/Session.lean`) does not look at the CARRIERS of a record (`TlsRecord.metadata`: which packets
the record's bytes came in) — it only stores them with what it appends to `application_traffic`.  `erase` forgets the
carriers; every step commutes with it, for every decryptor whose `decrypt` reads `record.raw` only (`RawOnly`; the real
`Decryptor` does: `Pipeline.ops`).  Hence (`run_carriers`): two record sequences with the same `(raw, direction)` sequence
drive the machine to the same state up to the carriers stored in the traffic.
`erase` is the view `St.view true Rec.erase` of `Lemmas/Session.lean`, whose commutation theorems are used.
-/
import TLX.Lemmas.Session
set_option autoImplicit false
namespace TLX.Session
open TLX

variable {δ : Type}

def Rec.erase (r : Rec) : Rec := ⟨r.raw, []⟩
def Entry.erase (e : Entry) : Entry := { e with record := e.record.erase }
def St.erase (s : St δ) : St δ := { s with traffic := s.traffic.map Entry.erase }

/-- `Decryptor.decrypt(record, isserver)` reads the record's bytes only -/
def RawOnly (O : Ops δ) : Prop := ∀ d r srv, O.decrypt d r srv = O.decrypt d r.erase srv

@[simp] theorem erase_typ (r : Rec) : r.erase.typ = r.typ := rfl
@[simp] theorem erase_ver (r : Rec) : r.erase.ver = r.ver := rfl
@[simp] theorem erase_body (r : Rec) : r.erase.body = r.body := rfl
@[simp] theorem erase_raw (r : Rec) : r.erase.raw = r.raw := rfl
@[simp] theorem erase_erase (r : Rec) : r.erase.erase = r.erase := rfl

@[simp] theorem erase_core (s : St δ) : s.erase.core = s.core := rfl
@[simp] theorem erase_canDecrypt (s : St δ) : s.erase.canDecrypt = s.canDecrypt := rfl
@[simp] theorem erase_chSeen (s : St δ) : s.erase.chSeen = s.chSeen := rfl
@[simp] theorem erase_ver' (s : St δ) : s.erase.ver = s.ver := rfl
@[simp] theorem erase_srvCC (s : St δ) : s.erase.srvCC = s.srvCC := rfl
@[simp] theorem erase_cliCC (s : St δ) : s.erase.cliCC = s.cliCC := rfl
@[simp] theorem erase_dec (s : St δ) : s.erase.dec = s.dec := rfl
@[simp] theorem erase_cr (s : St δ) : s.erase.cr = s.cr := rfl
theorem erase_init : (St.init : St δ).erase = St.init := rfl

theorem clientHello_erase (s : St δ) (r : Rec) : (clientHello s r).erase = clientHello s.erase r.erase := rfl

theorem erase_eq_view (s : St δ) : s.erase = s.view true Rec.erase := by
  have : ∀ l : List Entry, l.map Entry.erase = l.filterMap (Entry.view true Rec.erase) := by
    intro l
    induction l with
    | nil => rfl
    | cons e es ih => simp [Entry.view, Entry.erase, ih]
  simp only [St.erase, St.view, this]

/-- the (record bytes, direction) sequence of a release order -/
def keys (M : List (Rec × Bool)) : List (Rec × Bool) := M.map fun q => (q.1.erase, q.2)

theorem run_erase (O : Ops δ) (hO : RawOnly O) (m : Bool) (s : St δ) (M : List (Rec × Bool)) :
    (run O m s M).erase = run O m s.erase (keys M) := by
  rw [erase_eq_view, erase_eq_view, run_view O true Rec.erase (fun d r srv => (hO d r srv).symm) (fun _ => rfl),
    Bool.and_true, keys]

/-- **The machine is blind to carriers**: the same records released in the same order — whatever packets carried them —
    leave the same state up to the carriers stored with the traffic. -/
theorem run_carriers (O : Ops δ) (hO : RawOnly O) (m : Bool) (M1 M2 : List (Rec × Bool)) (h : keys M1 = keys M2) :
    (run O m St.init M1).erase = (run O m St.init M2).erase := by
  rw [run_erase O hO, run_erase O hO, h]

end TLX.Session
