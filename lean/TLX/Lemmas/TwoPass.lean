/-
`handle_packet` for all packets first and `get_tls_records` once at the end (the source) give the same
records as the fused per-packet `stepW` (the model used everywhere else): `extract` neither reads nor
writes the seen list.  Core Lean only.
-/
import TLX.Reassembly
namespace TLX.Lemmas.TwoPass
open TLX TLX.Reassembly

theorem deliver_seen (W : Nat) (st : St) (s : List Nat) (base : Nat) (buf : List Seg) :
    deliver W { st with seen := s } base buf = { deliver W st base buf with seen := s } := by
  unfold deliver
  split
  · rfl
  · split
    · rfl
    · split
      · rfl
      · split <;> rfl

theorem extract_of_cons (W : Nat) (st : St) (first : Seg) (rest : List Seg) (hb : st.buf = first :: rest) :
    extract W st = deliver W st (baseOf W st.next first rest)
      (sortBy (syncKey W (baseOf W st.next first rest)) (first :: rest)) := by
  unfold extract
  rw [hb]

theorem extract_of_nil (W : Nat) (st : St) (hb : st.buf = []) : extract W st = st := by
  unfold extract
  rw [hb]

/-- `extract` is blind to the seen list. -/
theorem extract_seen_irrel (W : Nat) (st : St) (s : List Nat) :
    extract W { st with seen := s } = { extract W st with seen := s } := by
  obtain ⟨seen, next, buf, out⟩ := st
  cases buf with
  | nil => rw [extract_of_nil W ⟨seen, next, [], out⟩ rfl, extract_of_nil W _ rfl]
  | cons first rest =>
    rw [extract_of_cons W ⟨seen, next, first :: rest, out⟩ first rest rfl, extract_of_cons W _ first rest rfl]
    exact deliver_seen W ⟨seen, next, first :: rest, out⟩ s _ _

theorem extract_seen (W : Nat) (st : St) : (extract W st).seen = st.seen := by
  have := extract_seen_irrel W st st.seen
  rw [show ({ st with seen := st.seen } : St) = st from rfl] at this
  rw [this]

/-- Fused run from `st` = second pass from any state with the same buffer, `next` and output, over the
    packets the first pass lets through. -/
theorem fused_eq (W : Nat) :
    ∀ (segs : List Seg) (st st' : St), st'.next = st.next → st'.buf = st.buf → st'.out = st.out →
      (drainW W st' (accept st.seen (segs.filter (fun p => !p.data.isEmpty))).1).out =
        (segs.foldl (ingestW W) st).out ∧
      (drainW W st' (accept st.seen (segs.filter (fun p => !p.data.isEmpty))).1).buf =
        (segs.foldl (ingestW W) st).buf ∧
      (drainW W st' (accept st.seen (segs.filter (fun p => !p.data.isEmpty))).1).next =
        (segs.foldl (ingestW W) st).next := by
  intro segs
  induction segs with
  | nil => intro st st' h1 h2 h3; exact ⟨h3, h2, h1⟩
  | cons p ps ih =>
    intro st st' h1 h2 h3
    rw [List.foldl_cons]
    by_cases he : p.data.isEmpty = true
    · have : ingestW W st p = st := by unfold ingestW; rw [if_pos he]
      rw [this, List.filter_cons_of_neg (by simpa using he)]
      exact ih st st' h1 h2 h3
    · have hing : ingestW W st p = stepW W st p := by unfold ingestW; rw [if_neg he]
      rw [hing, List.filter_cons_of_pos (by simpa using he)]
      unfold stepW
      by_cases hc : st.seen.contains p.seq = true
      · rw [if_pos hc]
        simp only [accept, hc, if_true]
        exact ih st st' h1 h2 h3
      · rw [if_neg hc]
        simp only [accept, hc, Bool.false_eq_true, if_false]
        unfold drainW
        rw [List.foldl_cons]
        -- the states after the first accepted packet agree up to the seen list
        have hcore : extract W { st' with buf := st'.buf ++ [p] } =
            { extract W { st with seen := st.seen ++ [p.seq], buf := st.buf ++ [p] } with seen := st'.seen } := by
          have e : ({ st' with buf := st'.buf ++ [p] } : St) =
              { ({ st with seen := st.seen ++ [p.seq], buf := st.buf ++ [p] } : St) with seen := st'.seen } := by
            cases st; cases st'; simp only at h1 h2 h3; simp [h1, h2, h3]
          rw [e, extract_seen_irrel]
        have hseen : (extract W { st with seen := st.seen ++ [p.seq], buf := st.buf ++ [p] }).seen =
            st.seen ++ [p.seq] := by rw [extract_seen]
        have := ih (extract W { st with seen := st.seen ++ [p.seq], buf := st.buf ++ [p] })
          (extract W { st' with buf := st'.buf ++ [p] })
          (by rw [hcore]) (by rw [hcore]) (by rw [hcore])
        rw [hseen] at this
        exact this

theorem runTwoPassW_eq (W : Nat) (segs : List Seg) : runTwoPassW W segs = runW W segs := by
  unfold runTwoPassW runW
  exact (fused_eq W segs St.init
    { St.init with seen := (accept [] (segs.filter (fun p => !p.data.isEmpty))).2 } rfl rfl rfl).1

end TLX.Lemmas.TwoPass
