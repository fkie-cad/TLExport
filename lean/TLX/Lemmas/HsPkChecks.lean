/-
For instances: what `C02Capstone.HsPkOk` asks of ONE handshake-level packet, as a single decidable proposition on the VALUES of
the bookkeeping (`HsPkChecks`; an instance discharges it by one evaluation per packet, and `C02Rfc.HsPkR.of_checks` reads the
senders' form off the same check); `WellFormedSeq` is decidable. Declares into `TLX.Props.C02Capstone`, next to `HsPkOk`.
-/
import TLX.Props.C02Capstone
set_option autoImplicit false
namespace TLX.Props.C02Capstone
open TLX TLX.Quic TLX.Cipher TLX.Quic.Session TLX.Spec.QuicSender TLX.Spec.QuicFrames
open TLX.Props.C02Session TLX.Spec.QuicConnection TLX.Spec.QuicPackets TLX.QuicPipeline TLX.Lemmas.KeySchedule

instance (a b c : Nat) : Decidable (PnLenOk a b c) := by unfold PnLenOk; infer_instance

instance : (o : Option VI) → Decidable (optOk o)
  | none => isTrue trivial
  | some x => inferInstanceAs (Decidable x.ok)

instance : (o : Option VW) → (n : Nat) → Decidable (optFits o n)
  | none, _ => isTrue trivial
  | some w, n => inferInstanceAs (Decidable (w.fits n))

instance (f : QFrame) : Decidable f.wf := by
  cases f with
  | ack _ _ _ _ _ ecn => unfold QFrame.wf; rcases ecn with _ | ⟨_, _, _⟩ <;> infer_instance
  | _ => unfold QFrame.wf; infer_instance

instance decWellFormedSeq : (fs : List QFrame) → Decidable (WellFormedSeq fs)
  | [] => isTrue trivial
  | [f] => inferInstanceAs (Decidable f.wf)
  | f :: g :: rest =>
    have := decWellFormedSeq (g :: rest)
    inferInstanceAs (Decidable (f.wf ∧ f.greedy = false ∧ WellFormedSeq (g :: rest)))

section
variable (maskFn : Dissect.MaskFn) (H : Crypto.Prims) (Pc : Cipher.Prims)

/-- `keyed`: the ServerHello is out; `chacha`: the header-protection algorithm of the suite; `tc`, `ts`: the largest packet
    numbers of client and server -/
abbrev HsPkChecks (L : SealLaws Pc) (dcid0 : Bytes) (sel : SuiteSel) (sh ch : Bytes) (keyed chacha : Bool) (tc ts : PnTab)
    (q : PkH) : Prop :=
  ((q.x.level = .initial ∨ q.x.level = .handshake) ∧ q.x.typeBits = (ltypeOf q.x.level).bits ∧ q.x.version = [0, 0, 0, 1] ∧
    q.x.dcid.length ≤ 20 ∧ q.x.scid.length ≤ 20 ∧ q.x.tokW.fits q.x.token.length ∧
    q.x.lenW.fits (q.x.pnLen + (encodeAll q.x.frames).length + 16) ∧ 4 ≤ q.x.pnLen + (encodeAll q.x.frames).length) ∧
  (q.x.level = .handshake → keyed = true) ∧
  (keyed = true → ¬ (q.x.srv = false ∧ q.x.level = .initial) ∨ cryptoIns q.x = []) ∧
  (∀ f ∈ q.x.frames, hsFrameQ f = true) ∧ WellFormedSeq q.x.frames ∧
  PnLenOk ((if q.x.srv then ts else tc).get (spaceOf q.x.level)) q.x.pn q.x.pnLen ∧
  maskFn (senderChacha (ltypeOf q.x.level) chacha) (lvlHp H dcid0 sel sh ch q.x.level q.x.srv)
    (longOf q.x (protectedPayload L.aeadSeal (lvlDec H dcid0 sel sh ch q.x.level).alg
      (lvlKey H dcid0 sel sh ch q.x.level q.x.srv) q.x)).sample = some q.mask ∧
  5 ≤ q.mask.length

variable {maskFn H Pc}

theorem HsPkOk.of_checks {L : SealLaws Pc} {dcid0 : Bytes} {sel : SuiteSel} {sh ch : Bytes} {t : Trk} {q : PkH}
    (h : HsPkChecks maskFn H Pc L dcid0 sel sh ch t.keyed (chachaOf t.core) t.tc t.ts q) :
    HsPkOk maskFn H Pc L dcid0 sel sh ch t q :=
  match h with
  | ⟨⟨a, b, c, d, e, f, g, i⟩, keys, late, frames, wf, pn, mask, mask5⟩ =>
    ⟨⟨a, b, c, d, e, f, g, i⟩, keys, late, frames, wf, pn, mask, mask5⟩

/-- `HsPkOk.of_checks` with the bookkeeping given by its VALUES: the check is evaluated on literals, the bookkeeping once -/
theorem HsPkOk.of_vals {L : SealLaws Pc} {dcid0 : Bytes} {sel : SuiteSel} {sh ch : Bytes} {t : Trk} {q : PkH} {k c : Bool}
    {tc ts : PnTab} (ht : (t.keyed, chachaOf t.core, t.tc, t.ts) = (k, c, tc, ts))
    (h : HsPkChecks maskFn H Pc L dcid0 sel sh ch k c tc ts q) : HsPkOk maskFn H Pc L dcid0 sel sh ch t q := by
  simp only [Prod.mk.injEq] at ht
  obtain ⟨rfl, rfl, rfl, rfl⟩ := ht
  exact .of_checks h

instance decHsPkChecks (L : SealLaws Pc) (dcid0 : Bytes) (sel : SuiteSel) (sh ch : Bytes) (k c : Bool) (tc ts : PnTab)
    (q : PkH) : Decidable (HsPkChecks maskFn H Pc L dcid0 sel sh ch k c tc ts q) := by
  unfold HsPkChecks; infer_instance

end

/-- `KeylogHas` as one equation: what `dev_quic_keys` finds in the key log for this client random -/
theorem KeylogHas.of_eval {kl : List Keylog.Key} {cr ch sh ca sa : Bytes} {early : Option Bytes}
    (h : ((Keylog.quicSessionKeys kl (Pipeline.natsOfBytes cr)).bind quicSecrets).map (fun ss =>
        [lastOf .clientHandshake ss, lastOf .serverHandshake ss, lastOf .clientTraffic0 ss, lastOf .serverTraffic0 ss,
          lastOf .clientEarly ss]) = some [some ch, some sh, some ca, some sa, early]) :
    KeylogHas kl cr ch sh ca sa early := by
  cases h1 : Keylog.quicSessionKeys kl (Pipeline.natsOfBytes cr) with
  | none => rw [h1] at h; cases h
  | some sks =>
    cases h2 : quicSecrets sks with
    | none => rw [h1, Option.bind_some, h2] at h; cases h
    | some ss =>
      rw [h1, Option.bind_some, h2, Option.map_some, Option.some.injEq] at h
      simp only [List.cons.injEq, and_true] at h
      exact ⟨⟨sks, ss, h1, h2, h⟩⟩

end TLX.Props.C02Capstone
