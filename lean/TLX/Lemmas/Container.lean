/-
Lemmas for C12. Main results: `Props.C12.read_blocks` (the pcapng reader on a header and any well-formed blocks) and `read_legacy`
(the libpcap reader). On the way: integer codecs, where the parts of an encoded block lie (`encBlock_at`), the option
list, `__init__` on a section header (`init_block`). `At.enc` and `NgHeader.WF.shb` / `.idb` are declared under the namespace of their argument, so that `c.enc`, `hwf.idb` resolve.
Core Lean only.
-/
import TLX.Container
import TLX.Spec.Containers
import TLX.Lemmas.Bytes
import TLX.Lemmas.Cursor
namespace TLX.Lemmas.Container
open TLX TLX.Container TLX.Spec.Containers TLX.Lemmas.Cursor

theorem leBytes_length (w n : Nat) : (leBytes w n).length = w := by
  induction w generalizing n with
  | zero => rfl
  | succ w ih => simp [leBytes, ih]

@[simp] theorem enc_length (e : Endian) (w n : Nat) : (enc e w n).length = w := by
  cases e <;> simp [enc, leBytes_length]

theorem leNat_leBytes (w n : Nat) : leNat (leBytes w n) = n % 256 ^ w := by
  induction w generalizing n with
  | zero => simp [leBytes, leNat, Nat.mod_one]
  | succ w ih =>
    simp only [leBytes, leNat, ih, Bytes.u8_toNat]
    rw [Nat.pow_succ, Nat.mul_comm (256 ^ w) 256, Nat.mod_mul]

theorem beNat_reverse (l : Bytes) : Bytes.beNat l.reverse = leNat l := by
  induction l with
  | nil => rfl
  | cons x xs ih => rw [List.reverse_cons, Bytes.beNat_snoc, ih, leNat]; omega

theorem rdNat_enc_mod (e : Endian) (w n : Nat) : rdNat e (enc e w n) = n % 256 ^ w := by
  cases e
  · simp [rdNat, enc, leNat_leBytes]
  · simp [rdNat, enc, beNat_reverse, leNat_leBytes]

theorem rdNat_enc (e : Endian) (w n : Nat) (h : n < 256 ^ w) : rdNat e (enc e w n) = n := by
  rw [rdNat_enc_mod, Nat.mod_eq_of_lt h]

theorem pow_256_2 : (256 : Nat) ^ 2 = 2 ^ 16 := by decide
theorem pow_256_4 : (256 : Nat) ^ 4 = 2 ^ 32 := by decide
theorem pow_256_8 : (256 : Nat) ^ 8 = 2 ^ 64 := by decide

theorem rd_u16 (e : Endian) (n : Nat) (h : n < 2 ^ 16) : rdNat e (enc e 2 n) = n :=
  rdNat_enc e 2 n (by rw [pow_256_2]; exact h)
theorem rd_u32 (e : Endian) (n : Nat) (h : n < 2 ^ 32) : rdNat e (enc e 4 n) = n :=
  rdNat_enc e 4 n (by rw [pow_256_4]; exact h)
theorem rd_u64 (e : Endian) (n : Nat) (h : n < 2 ^ 64) : rdNat e (enc e 8 n) = n :=
  rdNat_enc e 8 n (by rw [pow_256_8]; exact h)

theorem fld_eq (e : Endian) (b : Bytes) (off w : Nat) : fld e b off w = rdNat e ((b.drop off).take w) := by
  simp [fld, Bytes.slice]

theorem fld_skip (e : Endian) (A R : Bytes) (off w : Nat) (h : A.length ≤ off) :
    fld e (A ++ R) off w = fld e R (off - A.length) w := by
  rw [fld_eq, fld_eq, List.drop_append, List.drop_of_length_le h, List.nil_append]

theorem fld_here (e : Endian) (F R : Bytes) (w : Nat) (h : F.length = w) : fld e (F ++ R) 0 w = rdNat e F := by
  rw [fld_eq, List.drop_zero, List.take_left' h]

theorem fld_enc_here (e : Endian) (w v : Nat) (R : Bytes) (h : v < 256 ^ w) : fld e (enc e w v ++ R) 0 w = v := by
  rw [fld_here e _ _ _ (enc_length e w v), rdNat_enc e w v h]

theorem _root_.TLX.Lemmas.Cursor.At.enc {d r : Bytes} {i : Nat} {e : Endian} {w v : Nat} (h : At d i (enc e w v ++ r)) (hv : v < 256 ^ w) :
    fld e d i w = v ∧ At d (i + w) r := by
  obtain ⟨hs, h'⟩ := h.field _ (i + w) (by rw [enc_length])
  exact ⟨by rw [fld, hs, rdNat_enc e w v hv], h'⟩

theorem _root_.TLX.Spec.Containers.NgHeader.WF.shb {h : NgHeader} (w : h.WF) : h.shb.WF := w.2.2.2.1

theorem _root_.TLX.Spec.Containers.NgHeader.WF.idb {h : NgHeader} (w : h.WF) : h.idb.WF := w.2.2.2.2.2.2.2.2.2.2.2

theorem fld_prefix (e : Endian) (B S : Bytes) (off w : Nat) (h : off + w ≤ B.length) :
    fld e (B ++ S) off w = fld e B off w := by
  rw [fld_eq, fld_eq, List.drop_append_of_le_length (by omega), List.take_append_of_le_length]
  simp only [List.length_drop]; omega

theorem fld_take (e : Endian) (f : Bytes) (k off w : Nat) (h : off + w ≤ k) :
    fld e (f.take k) off w = fld e f off w := by
  rw [fld_eq, fld_eq, List.drop_take, List.take_take, Nat.min_eq_left (by omega)]

theorem align4_eq (n : Nat) : align4 n = n + (4 - n % 4) % 4 := by
  unfold align4; split <;> omega

theorem padding_length (n : Nat) : (padding n).length = (4 - n % 4) % 4 := by simp [padding]

theorem padded_length (b : Bytes) : (padded b).length = align4 b.length := by
  simp [padded, padding_length, align4_eq]

theorem align4_mod (n : Nat) : align4 n % 4 = 0 := by rw [align4_eq]; omega
theorem align4_ge (n : Nat) : n ≤ align4 n := by rw [align4_eq]; omega
theorem align4_of_mod (n : Nat) (h : n % 4 = 0) : align4 n = n := by rw [align4_eq]; omega

theorem padded_of_mod (b : Bytes) (h : b.length % 4 = 0) : padded b = b := by
  simp [padded, padding, h]

theorem utf8Valid_ascii (d : Bytes) (h : ∀ b ∈ d, b < 0x80) : utf8Valid d = true := by
  unfold utf8Valid
  induction d with
  | nil => rfl
  | cons b bs ih =>
    have hb : b < 0x80 := h b (by simp)
    simp only [List.length_cons, utf8Fuel, hb, ↓reduceIte]
    exact ih (fun x hx => h x (by simp [hx]))

theorem commentOk_ascii (d : Bytes) (h : ∀ b ∈ d, b < 0x80) : commentOk d = true := by
  simp [commentOk, utf8Valid_ascii d h]

/-- the model's view of a specification option -/
def toM (o : Spec.Containers.Opt) : Container.Opt := ⟨o.code, o.val⟩

theorem encOpt_length (e : Endian) (o : Spec.Containers.Opt) : (encOpt e o).length = 4 + align4 o.val.length := by
  simp [encOpt, padded_length]; omega

theorem parseOpts_step (fuel : Nat) (e : Endian) (o : Spec.Containers.Opt) (R : Bytes) (h : o.WF) :
    parseOptsFuel (fuel + 1) e (encOpt e o ++ R) =
      match parseOptsFuel fuel e R with
      | .ok os => .ok (toM o :: os)
      | .error er => .error er := by
  obtain ⟨hc0, hc, hl, hcom⟩ := h
  have shape : encOpt e o ++ R = u16 e o.code ++ (u16 e o.val.length ++ (o.val ++ (padding o.val.length ++ R))) := by
    simp only [encOpt, padded, List.append_assoc]
  obtain ⟨hcode, a2⟩ := (At.start shape).enc (by rw [pow_256_2]; exact hc)
  obtain ⟨hlenf, a4⟩ := a2.enc (by rw [pow_256_2]; exact hl)
  obtain ⟨hdata, aval⟩ := a4.field _ (4 + o.val.length) rfl
  obtain ⟨_, aend⟩ := aval.field _ (4 + align4 o.val.length) (by rw [padding_length, align4_eq]; omega)
  have hdrop := aend.2
  have hlen : ¬ (encOpt e o ++ R).length < 4 := by rw [aend.length]; omega
  have hne : (encOpt e o ++ R).isEmpty = false := by cases hq : encOpt e o ++ R <;> simp [hq] at hlen ⊢
  rw [parseOptsFuel]
  simp only [hne, hlen, hcode, hlenf, hdata, hdrop, Bool.false_eq_true, if_false]
  have hcm : ¬ (o.code = 1 ∧ commentOk o.val = false) := by
    intro ⟨h1, h2⟩; rw [commentOk_ascii o.val (hcom h1)] at h2; cases h2
  rw [if_neg hcm, if_neg (by omega)]
  rfl

theorem encOptList_length (e : Endian) (os : List Spec.Containers.Opt) : (encOptList e os).length = optListLen os := by
  induction os with
  | nil => rfl
  | cons o os ih => simp [encOptList, optListLen, encOpt_length, ih, align4_eq]

theorem encOpts_length (e : Endian) (o : Opts) : (encOpts e o).length = o.encLen := by
  cases o with
  | mk l eoo => cases eoo <;> simp [encOpts, Opts.encLen, encOptList_length]

theorem optListLen_mod (os : List Spec.Containers.Opt) : optListLen os % 4 = 0 := by
  induction os with
  | nil => rfl
  | cons o os ih => simp only [optListLen]; omega

theorem encLen_mod (o : Opts) : o.encLen % 4 = 0 := by
  have := optListLen_mod o.list
  unfold Opts.encLen; split <;> omega

theorem optListLen_ge (os : List Spec.Containers.Opt) : 4 * os.length ≤ optListLen os := by
  induction os with
  | nil => exact Nat.le_refl _
  | cons o os ih => simp only [optListLen, List.length_cons]; omega

/-- what the model's option parser must return for an encoded option list -/
def parsedOpts (o : Opts) : List Container.Opt :=
  o.list.map toM ++ (if o.eoo then [⟨0, []⟩] else [])

theorem parseOptsFuel_list (e : Endian) (os : List Spec.Containers.Opt) (eoo : Bool)
    (h : ∀ x ∈ os, x.WF) (fuel : Nat) (hf : os.length + 1 ≤ fuel) :
    parseOptsFuel fuel e (encOpts e ⟨os, eoo⟩) = .ok (parsedOpts ⟨os, eoo⟩) := by
  induction os generalizing fuel with
  | nil =>
    obtain ⟨fuel, rfl⟩ : ∃ k, fuel = k + 1 := ⟨fuel - 1, by simp at hf; omega⟩
    cases eoo
    · simp [encOpts, encOptList, parsedOpts, parseOptsFuel]
    · have h1 : fld e (u16 e 0 ++ u16 e 0) 0 2 = 0 := fld_enc_here e 2 0 _ (by decide)
      have h2 : fld e (u16 e 0 ++ u16 e 0) 2 2 = 0 := by
        rw [fld_skip e _ _ 2 2 (by simp), enc_length, Nat.sub_self]
        have := fld_enc_here e 2 0 [] (by decide); simpa using this
      have hne : (u16 e 0 ++ u16 e 0).isEmpty = false := by
        simp; intro h0; have := congrArg List.length h0; simp at this
      simp only [encOpts, encOptList, parsedOpts, List.nil_append, if_true, List.map_nil]
      rw [parseOptsFuel]
      simp [hne, h1, h2, Bytes.slice]
  | cons o os ih =>
    obtain ⟨fuel, rfl⟩ : ∃ k, fuel = k + 1 := ⟨fuel - 1, by simp at hf; omega⟩
    have hstep := parseOpts_step fuel e o (encOpts e ⟨os, eoo⟩) (h o (by simp))
    have hrec := ih (fun x hx => h x (by simp [hx])) fuel (by simp at hf; omega)
    have : encOpts e ⟨o :: os, eoo⟩ = encOpt e o ++ encOpts e ⟨os, eoo⟩ := by
      simp [encOpts, encOptList, List.append_assoc]
    rw [this, hstep, hrec]
    simp [parsedOpts]

theorem parseOpts_encOpts (e : Endian) (o : Opts) (h : o.WF) :
    parseOpts e (encOpts e o) = .ok (parsedOpts o) := by
  cases o with
  | mk os eoo =>
    unfold parseOpts
    by_cases hemp : os = [] ∧ eoo = false
    · obtain ⟨rfl, rfl⟩ := hemp
      simp [encOpts, encOptList, parsedOpts, parseOptsFuel]
    · apply parseOptsFuel_list e os eoo h
      rw [encOpts_length]
      have := optListLen_ge os
      have hm := optListLen_mod os
      simp only [Opts.encLen]
      cases eoo
      · simp at hemp
        cases os with
        | nil => exact absurd rfl hemp
        | cons o os => simp only [List.length_cons] at *; simp; omega
      · simp; omega

/-- total length written in both length fields -/
def blkLen (body : Bytes) : Nat := 12 + align4 body.length

theorem encBlock_eq (e : Endian) (ty : Nat) (body : Bytes) :
    encBlock e ty body = u32 e ty ++ (u32 e (blkLen body) ++ (padded body ++ u32 e (blkLen body))) := by
  simp [encBlock, blkLen, padded_length]

theorem encBlock_length (e : Endian) (ty : Nat) (body : Bytes) : (encBlock e ty body).length = blkLen body := by
  simp [encBlock_eq, padded_length, blkLen]; omega

/-- where the parts of an encoded block lie in a file: the (padded) body behind type and length, the trailing length
    behind the body, the rest of the file behind the block -/
theorem encBlock_at (e : Endian) (ty : Nat) (body R : Bytes) :
    At (encBlock e ty body ++ R) 0 (u32 e ty ++ (u32 e (blkLen body) ++ (padded body ++ (u32 e (blkLen body) ++ R)))) ∧
      At (encBlock e ty body ++ R) 8 (padded body ++ (u32 e (blkLen body) ++ R)) ∧
      At (encBlock e ty body ++ R) (blkLen body - 4) (u32 e (blkLen body) ++ R) ∧
      At (encBlock e ty body ++ R) (blkLen body) R := by
  have a0 : At (encBlock e ty body ++ R) 0
      (u32 e ty ++ (u32 e (blkLen body) ++ (padded body ++ (u32 e (blkLen body) ++ R)))) :=
    .start (by rw [encBlock_eq]; simp only [List.append_assoc])
  obtain ⟨_, a4⟩ := a0.field _ 4 (by simp)
  obtain ⟨_, a8⟩ := a4.field _ 8 (by simp)
  obtain ⟨_, at'⟩ := a8.field _ (blkLen body - 4) (by rw [padded_length, blkLen]; omega)
  obtain ⟨_, aend⟩ := at'.field _ (blkLen body) (by simp [blkLen]; omega)
  exact ⟨a0, a8, at', aend⟩

theorem encBlock_ty (e : Endian) (ty : Nat) (body R : Bytes) (h : ty < 2 ^ 32) :
    fld e (encBlock e ty body ++ R) 0 4 = ty :=
  ((encBlock_at e ty body R).1.enc (by rw [pow_256_4]; exact h)).1

theorem encBlock_len (e : Endian) (ty : Nat) (body R : Bytes) (h : blkLen body < 2 ^ 32) :
    fld e (encBlock e ty body ++ R) 4 4 = blkLen body := by
  obtain ⟨_, a4⟩ := (encBlock_at e ty body R).1.field _ 4 (by simp)
  exact (a4.enc (by rw [pow_256_4]; exact h)).1

/-- a field of the body, read in ANY byte order (the SHB is first unpacked big-endian) -/
theorem encBlock_fld_any (e' e : Endian) (ty : Nat) (body R : Bytes) (off w : Nat) (h : off + w ≤ (padded body).length) :
    fld e' (encBlock e ty body ++ R) (8 + off) w = fld e' (padded body) off w := by
  rw [fld, (encBlock_at e ty body R).2.1.slice, ← fld_eq, fld_prefix _ _ _ _ _ h]

theorem encBlock_trailer (e : Endian) (ty : Nat) (body : Bytes) :
    (encBlock e ty body).drop ((encBlock e ty body).length - 4) = u32 e (blkLen body) := by
  have := (encBlock_at e ty body []).2.2.1.2
  rw [List.append_nil, List.append_nil] at this
  rwa [encBlock_length]

theorem blockHead_encBlock (e : Endian) (ty hdrLen : Nat) (body : Bytes)
    (hl : blkLen body < 2 ^ 32) (hh : hdrLen ≤ blkLen body) :
    blockHead e hdrLen (encBlock e ty body) = .ok (blkLen body) := by
  have h4 : fld e (encBlock e ty body) 4 4 = blkLen body := by
    have := encBlock_len e ty body [] hl; simpa using this
  unfold blockHead
  rw [encBlock_length, if_neg (by omega)]
  simp only [h4]
  rw [if_neg (by omega)]

theorem blockTail_encBlock (e : Endian) (ty oo : Nat) (body : Bytes) (o : Opts) (hl : blkLen body < 2 ^ 32) (hwf : o.WF)
    (h : At (encBlock e ty body) oo (encOpts e o ++ u32 e (blkLen body))) :
    blockTail e (encBlock e ty body) (blkLen body) oo = .ok (parsedOpts o) := by
  have hlen := h.length
  rw [encBlock_length, List.length_append, enc_length] at hlen
  unfold blockTail
  rw [(h.field _ (blkLen body - 4) (by omega)).1, parseOpts_encOpts e o hwf]
  simp only [encBlock_trailer, rd_u32 e _ hl]
  simp

theorem blkLen_layout (e : Endian) (F data : Bytes) (o : Opts) (hk : F.length % 4 = 0) :
    (F ++ (padded data ++ encOpts e o)).length % 4 = 0 ∧
      blkLen (F ++ (padded data ++ encOpts e o)) = 12 + (F.length + ((padded data).length + o.encLen)) := by
  have hblen : (F ++ (padded data ++ encOpts e o)).length = F.length + ((padded data).length + o.encLen) := by
    simp only [List.length_append, encOpts_length]
  have hmod : (F ++ (padded data ++ encOpts e o)).length % 4 = 0 := by
    rw [hblen, padded_length]; have := align4_mod data.length; have := encLen_mod o; omega
  exact ⟨hmod, by rw [blkLen, align4_of_mod _ hmod, hblen]⟩

/-- a block whose body is a fixed header `F` of `k` bytes, data padded to 32 bits, and options (packet blocks, DSB): the
    body needs no padding of its own; the block head, the header fields, the data and the option tail as the reader
    takes them -/
theorem layout_block (e : Endian) (ty : Nat) (F data body : Bytes) (o : Opts) (k : Nat) (hF : F.length = k)
    (hk : k % 4 = 0) (hwf : o.WF) (hbody : body = F ++ (padded data ++ encOpts e o)) (hl : blkLen body < 2 ^ 32) :
    blockHead e (12 + k) (encBlock e ty body) = .ok (blkLen body) ∧
      (∀ off w, off + w ≤ k → fld e (encBlock e ty body) (8 + off) w = fld e F off w) ∧
      Bytes.slice (encBlock e ty body) (8 + k) (8 + k + data.length) = data ∧
      blockTail e (encBlock e ty body) (blkLen body) (8 + k + align4 data.length) = .ok (parsedOpts o) := by
  obtain ⟨hmod, hbl⟩ := blkLen_layout e F data o (by omega)
  rw [← hbody] at hmod hbl
  -- behind type and length: `F`, the data, its padding, the options, the trailing length
  have a8 : At (encBlock e ty body) 8
      (F ++ (data ++ (padding data.length ++ (encOpts e o ++ u32 e (blkLen body))))) := by
    have := (encBlock_at e ty body []).2.1
    rw [List.append_nil, List.append_nil, padded_of_mod _ hmod] at this
    exact ⟨this.1, this.2.trans (by rw [hbody]; simp only [padded, List.append_assoc])⟩
  obtain ⟨_, aF⟩ := a8.field F (8 + k) (by rw [hF])
  obtain ⟨hdata, ad⟩ := aF.field data (8 + k + data.length) rfl
  obtain ⟨_, ao⟩ := ad.field _ (8 + k + align4 data.length) (by rw [padding_length, align4_eq]; omega)
  refine ⟨blockHead_encBlock e ty _ _ hl (by rw [hbl]; omega), fun off w hoff => ?_, hdata, blockTail_encBlock e ty _ body o hl hwf ao⟩
  rw [fld, a8.slice, ← fld_eq, fld_prefix _ _ _ _ _ (by omega)]

theorem parsePkt_encBlock (e : Endian) (ty : Nat) (F data : Bytes) (o : Opts) (hi lo : Nat)
    (hF : F.length = 20) (h_hi : fld e F 4 4 = hi) (h_lo : fld e F 8 4 = lo) (h_cap : fld e F 12 4 = data.length)
    (hwf : o.WF) (hl : blkLen (F ++ (padded data ++ encOpts e o)) < 2 ^ 32) :
    parsePkt e (encBlock e ty (F ++ (padded data ++ encOpts e o))) = .ok ((hi <<< 32) ||| lo, data) := by
  obtain ⟨hhead, hfld, hdata, htail⟩ := layout_block e ty F data _ o 20 hF (by decide) hwf rfl hl
  unfold parsePkt
  rw [hhead]
  simp only [hfld 4 4 (by decide), hfld 8 4 (by decide), hfld 12 4 (by decide), h_hi, h_lo, h_cap, hdata, htail]

theorem ticks_recombine (t : Nat) : ((t / 2 ^ 32) <<< 32) ||| (t % 2 ^ 32) = t := by
  rw [← Nat.shiftLeft_add_eq_or_of_lt (Nat.mod_lt _ (by decide)), Nat.shiftLeft_eq]
  have := Nat.div_add_mod t (2 ^ 32)
  rw [Nat.mul_comm]; exact this

theorem parseDsb_encBlock (e : Endian) (ty : Nat) (F data : Bytes) (o : Opts)
    (hF : F.length = 8) (h_len : fld e F 4 4 = data.length)
    (hwf : o.WF) (hl : blkLen (F ++ (padded data ++ encOpts e o)) < 2 ^ 32) :
    parseDsb e (encBlock e ty (F ++ (padded data ++ encOpts e o))) = .ok data := by
  obtain ⟨hhead, hfld, hdata, htail⟩ := layout_block e ty F data _ o 8 hF (by decide) hwf rfl hl
  unfold parseDsb
  rw [hhead]
  simp only [hfld 4 4 (by decide), h_len, hdata, htail]

abbrev bTy : Block → Nat := Block.typeCode

def bBody (e : Endian) : Block → Bytes
  | .epb iface ticks data origLen opts =>
    (u32 e iface ++ (u32 e (ticks / 2 ^ 32) ++ (u32 e (ticks % 2 ^ 32) ++ (u32 e data.length ++ u32 e origLen)))) ++
      (padded data ++ encOpts e opts)
  | .pb iface drops ticks data origLen opts =>
    (u16 e iface ++ (u16 e drops ++ (u32 e (ticks / 2 ^ 32) ++ (u32 e (ticks % 2 ^ 32) ++ (u32 e data.length ++ u32 e origLen))))) ++
      (padded data ++ encOpts e opts)
  | .dsb st secrets opts => (u32 e st ++ u32 e secrets.length) ++ (padded secrets ++ encOpts e opts)
  | .other _ body => body

theorem encode_eq (e : Endian) (b : Block) : b.encode e = encBlock e (bTy b) (bBody e b) := by
  cases b <;> simp [Block.encode, bTy, Block.typeCode, bBody, List.append_assoc]

/-- the item the pcapng reader must yield for an event under configuration `c` -/
def ngItem (c : Cfg) : Ev → Item
  | .pkt ticks data => .pkt ⟨ticks, c.divisor, c.offset, false⟩ data
  | .dsb s => .dsb s

theorem wf_blkLen (e : Endian) (b : Block) (h : b.WF) : blkLen (bBody e b) < 2 ^ 32 ∧ bTy b < 2 ^ 32 := by
  cases b with
  | epb iface ticks data origLen opts =>
    have := (blkLen_layout e (u32 e iface ++ (u32 e (ticks / 2 ^ 32) ++ (u32 e (ticks % 2 ^ 32) ++
      (u32 e data.length ++ u32 e origLen)))) data opts (by simp)).2
    simp only [List.length_append, enc_length] at this
    exact ⟨by rw [bBody, this]; have := h.2.2.2.2; omega, show 6 < 2 ^ 32 by decide⟩
  | pb iface drops ticks data origLen opts =>
    have := (blkLen_layout e (u16 e iface ++ (u16 e drops ++ (u32 e (ticks / 2 ^ 32) ++ (u32 e (ticks % 2 ^ 32) ++
      (u32 e data.length ++ u32 e origLen))))) data opts (by simp)).2
    simp only [List.length_append, enc_length] at this
    exact ⟨by rw [bBody, this]; have := h.2.2.2.2.2; omega, show 2 < 2 ^ 32 by decide⟩
  | dsb st secrets opts =>
    have := (blkLen_layout e (u32 e st ++ u32 e secrets.length) secrets opts (by simp)).2
    simp only [List.length_append, enc_length] at this
    exact ⟨by rw [bBody, this]; have := h.2.2; omega, show 10 < 2 ^ 32 by decide⟩
  | other ty body =>
    obtain ⟨ht, _, hl⟩ := h
    rw [padded_length] at hl
    exact ⟨hl, ht⟩

/-- the fixed part of a packet block body (EPB, obsolete PB) behind its first four bytes: time stamp high / low and the
    captured length, where `parsePkt` reads them -/
theorem pkt_fixed (e : Endian) (P F : Bytes) (ticks caplen origLen : Nat) (hP : P.length = 4) (ht : ticks < 2 ^ 64)
    (hcap : caplen < 2 ^ 32)
    (hF : F = P ++ (u32 e (ticks / 2 ^ 32) ++ (u32 e (ticks % 2 ^ 32) ++ (u32 e caplen ++ u32 e origLen)))) :
    F.length = 20 ∧ fld e F 4 4 = ticks / 2 ^ 32 ∧ fld e F 8 4 = ticks % 2 ^ 32 ∧ fld e F 12 4 = caplen := by
  obtain ⟨_, a4⟩ := (At.start hF).field P 4 (by rw [hP])
  obtain ⟨f1, a8⟩ := a4.enc (by rw [pow_256_4]; omega)
  obtain ⟨f2, a12⟩ := a8.enc (by rw [pow_256_4]; exact Nat.mod_lt _ (by decide))
  obtain ⟨f3, a16⟩ := a12.enc (by rw [pow_256_4]; exact hcap)
  exact ⟨by rw [a16.length, enc_length], f1, f2, f3⟩

theorem handle_block (c : Cfg) (b : Block) (h : b.WF) :
    handle c (bTy b) (encBlock c.e (bTy b) (bBody c.e b)) = .ok ((b.event).map (ngItem c)) := by
  have hbl := (wf_blkLen c.e b h).1
  cases b with
  | epb iface ticks data origLen opts =>
    obtain ⟨hi, ht, ho, hw, hl⟩ := h
    have hcap : data.length < 2 ^ 32 := by rw [padded_length] at hl; have := align4_ge data.length; omega
    obtain ⟨f0, f1, f2, f3⟩ := pkt_fixed c.e (u32 c.e iface) _ ticks data.length origLen (by simp) ht hcap rfl
    have hp := parsePkt_encBlock c.e 6 _ data opts _ _ f0 f1 f2 f3 hw hbl
    simp only [handle, bTy, Block.typeCode, bBody, parseEpb, ↓reduceIte, hp, ticks_recombine, Block.event, ngItem, Option.map]
  | pb iface drops ticks data origLen opts =>
    obtain ⟨hi, hd, ht, ho, hw, hl⟩ := h
    have hcap : data.length < 2 ^ 32 := by rw [padded_length] at hl; have := align4_ge data.length; omega
    obtain ⟨f0, f1, f2, f3⟩ := pkt_fixed c.e (u16 c.e iface ++ u16 c.e drops) _ ticks data.length origLen (by simp) ht hcap
      (List.append_assoc _ _ _).symm
    have hp := parsePkt_encBlock c.e 2 _ data opts _ _ f0 f1 f2 f3 hw hbl
    simp only [handle, bTy, Block.typeCode, bBody, parsePb, ↓reduceIte, hp, ticks_recombine, Block.event, ngItem, Option.map]
    simp
  | dsb st secrets opts =>
    obtain ⟨hs, hw, hl⟩ := h
    have hcap : secrets.length < 2 ^ 32 := by rw [padded_length] at hl; have := align4_ge secrets.length; omega
    have hp := parseDsb_encBlock c.e 10 (u32 c.e st ++ u32 c.e secrets.length) secrets opts (by simp)
      (by rw [fld_skip _ _ _ _ _ (by simp)]; simp only [enc_length, Nat.sub_self]
          have := fld_enc_here c.e 4 secrets.length [] (by rw [pow_256_4]; exact hcap)
          simpa using this)
      hw hbl
    simp only [handle, bTy, Block.typeCode, bBody, hp, Block.event, ngItem, Option.map]
    simp
  | other ty body =>
    obtain ⟨_, ⟨h6, h2, h10⟩, _⟩ := h
    show handle c ty (encBlock c.e ty body) = .ok none
    unfold handle
    rw [if_neg h6, if_neg h2, if_neg h10]

/-- the reader has the first `k` bytes of a unit `B` of `n` bytes and reads the remaining `n - k`: it gets them, the two
    pieces are `B`, and the file continues behind `B` -/
theorem read_rest (B R : Bytes) (k n : Nat) (hB : B.length = n) (hk : k ≤ n) :
    fread ((B ++ R).drop k) ((n : Int) - k) = .ok (((B ++ R).drop k).take (n - k)) ∧
      (B ++ R).take k ++ ((B ++ R).drop k).take (n - k) = B ∧
      ((B ++ R).drop k).drop (((B ++ R).drop k).take (n - k)).length = R := by
  refine ⟨?_, ?_, ?_⟩
  · unfold fread; rw [if_neg (by omega), if_neg (by omega)]; congr 2; omega
  · have := @List.take_add _ (B ++ R) k (n - k)
    rw [show k + (n - k) = n by omega] at this
    rw [← this]; exact List.take_left' hB
  · rw [List.length_take, List.length_drop, List.length_append, hB, Nat.min_eq_left (by omega), List.drop_drop,
      show k + (n - k) = n by omega]
    exact List.drop_left' hB

/-- one round of `__iter__` (and of the IDB scan) over a complete leading block -/
theorem block_read (e : Endian) (ty : Nat) (body R : Bytes) (ht : ty < 2 ^ 32) (hl : blkLen body < 2 ^ 32) :
    let f := encBlock e ty body ++ R
    ¬ f.length < 8 ∧ fld e f 0 4 = ty ∧ fld e f 4 4 = blkLen body ∧
    fread (f.drop 8) ((blkLen body : Int) - 8) = .ok ((f.drop 8).take (blkLen body - 8)) ∧
    f.take 8 ++ (f.drop 8).take (blkLen body - 8) = encBlock e ty body ∧
    (f.drop 8).drop ((f.drop 8).take (blkLen body - 8)).length = R := by
  have h12 : 12 ≤ blkLen body := by simp [blkLen]
  have hlen := (encBlock_at e ty body R).2.2.2.length
  exact ⟨by omega, encBlock_ty e ty body R ht, encBlock_len e ty body R hl,
    read_rest _ R 8 _ (encBlock_length e ty body) (by omega)⟩

theorem iterFuel_block (fuel : Nat) (c : Cfg) (ty : Nat) (body R : Bytes) (ht : ty < 2 ^ 32)
    (hl : blkLen body < 2 ^ 32) :
    iterFuel (fuel + 1) c (encBlock c.e ty body ++ R) =
      match handle c ty (encBlock c.e ty body) with
      | .error er => ([], some er)
      | .ok it => ((it.toList ++ (iterFuel fuel c R).1), (iterFuel fuel c R).2) := by
  obtain ⟨h1, h2, h3, h4, h5, h6⟩ := block_read c.e ty body R ht hl
  rw [iterFuel]
  simp only [h1, h2, h3, h4, h5, h6, if_false]
  cases handle c ty (encBlock c.e ty body) <;> rfl

theorem encBlocks_append (e : Endian) (a b : List Block) : encBlocks e (a ++ b) = encBlocks e a ++ encBlocks e b := by
  induction a with
  | nil => rfl
  | cons x xs ih => simp [encBlocks, ih, List.append_assoc]

theorem iterFuel_blocks (c : Cfg) (bs : List Block) (tail : Bytes) (h : ∀ b ∈ bs, b.WF) (ht : tail.length < 8)
    (fuel : Nat) (hf : bs.length ≤ fuel) :
    iterFuel fuel c (encBlocks c.e bs ++ tail) = ((bs.filterMap Block.event).map (ngItem c), none) := by
  induction bs generalizing fuel with
  | nil =>
    cases fuel with
    | zero => rfl
    | succ n => simp [encBlocks, iterFuel, ht]
  | cons b bs ih =>
    obtain ⟨fuel, rfl⟩ : ∃ k, fuel = k + 1 := ⟨fuel - 1, by simp at hf; omega⟩
    have hb := h b (by simp)
    have ⟨hl, hty⟩ := wf_blkLen c.e b hb
    rw [encBlocks, encode_eq, List.append_assoc, iterFuel_block fuel c _ _ _ hty hl, handle_block c b hb,
      ih (fun x hx => h x (by simp [hx])) fuel (by simp at hf; omega)]
    cases hev : b.event <;> simp [hev]

theorem encBlocks_length_ge (e : Endian) (bs : List Block) : bs.length ≤ (encBlocks e bs).length := by
  induction bs with
  | nil => exact Nat.le_refl _
  | cons b bs ih =>
    simp only [encBlocks, List.length_append, List.length_cons, encode_eq, encBlock_length, blkLen]; omega

theorem iter_blocks (c : Cfg) (bs : List Block) (tail : Bytes) (h : ∀ b ∈ bs, b.WF) (ht : tail.length < 8) :
    iter c (encBlocks c.e bs ++ tail) = ((bs.filterMap Block.event).map (ngItem c), none) := by
  unfold iter
  apply iterFuel_blocks c bs tail h ht
  have := encBlocks_length_ge c.e bs
  simp only [List.length_append]; omega

/-- a block made of a fixed part `F` and options (SHB, IDB) is a `layout_block` without data -/
theorem fixed_block (e : Endian) (ty : Nat) (F : Bytes) (o : Opts) (k : Nat) (hF : F.length = k) (hk4 : k % 4 = 0)
    (hwf : o.WF) (hl : blkLen (F ++ encOpts e o) < 2 ^ 32) :
    blockHead e (12 + k) (encBlock e ty (F ++ encOpts e o)) = .ok (blkLen (F ++ encOpts e o)) ∧
      (∀ off w, off + w ≤ k → fld e (encBlock e ty (F ++ encOpts e o)) (8 + off) w = fld e F off w) ∧
      blockTail e (encBlock e ty (F ++ encOpts e o)) (blkLen (F ++ encOpts e o)) (8 + k) = .ok (parsedOpts o) :=
  have h := layout_block e ty F [] (F ++ encOpts e o) o k hF hk4 hwf rfl hl
  ⟨h.1, h.2.1, h.2.2.2⟩

theorem parseIdb_encBlock (e : Endian) (lt sl : Nat) (o : Opts) (hwf : o.WF)
    (hl : blkLen ((u16 e lt ++ (u16 e 0 ++ u32 e sl)) ++ encOpts e o) < 2 ^ 32) :
    parseIdb e (encBlock e 1 ((u16 e lt ++ (u16 e 0 ++ u32 e sl)) ++ encOpts e o)) = .ok (parsedOpts o) := by
  obtain ⟨hh, _, ht⟩ := fixed_block e 1 _ o 8 (by simp) (by decide) hwf hl
  unfold parseIdb
  rw [hh]
  exact ht

theorem parseShb_encBlock (e : Endian) (ty magic major minor sl : Nat) (o : Opts) (hwf : o.WF) (hmaj : major < 2 ^ 16)
    (hl : blkLen ((u32 e magic ++ (u16 e major ++ (u16 e minor ++ u64 e sl))) ++ encOpts e o) < 2 ^ 32) :
    parseShb e (encBlock e ty ((u32 e magic ++ (u16 e major ++ (u16 e minor ++ u64 e sl))) ++ encOpts e o)) = .ok major := by
  obtain ⟨hh, hf, ht⟩ := fixed_block e ty _ o 16 (by simp) (by decide) hwf hl
  obtain ⟨_, a4⟩ := (At.start (rfl : u32 e magic ++ (u16 e major ++ (u16 e minor ++ u64 e sl)) = _)).field _ 4 (by simp)
  unfold parseShb
  rw [hh]
  simp only [Nat.reduceAdd] at ht
  simp only [ht, show (12 : Nat) = 8 + 4 from rfl, hf 4 2 (by decide), (a4.enc (by rw [pow_256_2]; exact hmaj)).1]

theorem findIdbFuel_skip (e : Endian) (pre : List Block) (idbBody R : Bytes)
    (hpre : ∀ b ∈ pre, b.WF ∧ bTy b ≠ 1) (hl : blkLen idbBody < 2 ^ 32) (fuel : Nat) (hf : pre.length + 1 ≤ fuel) :
    findIdbFuel fuel e (encBlocks e pre ++ (encBlock e 1 idbBody ++ R)) = parseIdb e (encBlock e 1 idbBody) := by
  induction pre generalizing fuel with
  | nil =>
    obtain ⟨fuel, rfl⟩ : ∃ k, fuel = k + 1 := ⟨fuel - 1, by simp at hf; omega⟩
    obtain ⟨h1, h2, h3, h4, h5, h6⟩ := block_read e 1 idbBody R (by decide) hl
    simp only [encBlocks, List.nil_append]
    rw [findIdbFuel]
    simp only [h1, h2, h3, h4, h5, if_false, if_true]
  | cons b bs ih =>
    obtain ⟨fuel, rfl⟩ : ∃ k, fuel = k + 1 := ⟨fuel - 1, by simp at hf; omega⟩
    obtain ⟨hwf, hne⟩ := hpre b (by simp)
    have ⟨hbl, hty⟩ := wf_blkLen e b hwf
    rw [encBlocks, encode_eq, List.append_assoc]
    obtain ⟨h1, h2, h3, h4, h5, h6⟩ := block_read e (bTy b) (bBody e b) (encBlocks e bs ++ (encBlock e 1 idbBody ++ R)) hty hbl
    rw [findIdbFuel]
    simp only [h1, h2, h3, h4, h6, if_false, if_neg hne]
    exact ih (fun x hx => hpre x (by simp [hx])) fuel (by simp at hf; omega)

theorem applyOpts_append (e : Endian) (st : Nat × Int) (a b : List Container.Opt) :
    applyOpts e st (a ++ b) = match applyOpts e st a with
      | .ok st' => applyOpts e st' b
      | .error er => .error er := by
  induction a generalizing st with
  | nil => rfl
  | cons o os ih =>
    simp only [List.cons_append, applyOpts]
    cases applyOpt e st o with
    | error er => rfl
    | ok st' => exact ih st'

theorem applyOpts_other (e : Endian) (st : Nat × Int) (os : List Container.Opt)
    (h : ∀ o ∈ os, o.code ≠ 9 ∧ o.code ≠ 14) : applyOpts e st os = .ok st := by
  induction os with
  | nil => rfl
  | cons o os ih =>
    have ⟨h9, h14⟩ := h o (by simp)
    simp only [applyOpts, applyOpt, if_neg h9, if_neg h14]
    exact ih (fun x hx => h x (by simp [hx]))

theorem applyOpt_tsresol (e : Endian) (st : Nat × Int) (r : TsResol) (h : r.WF) :
    applyOpt e st ⟨9, [UInt8.ofNat r.byte]⟩ = .ok (r.unitsPerSecond, st.2) := by
  cases r with
  | dec k =>
    have hk : k < 128 := h
    have : (UInt8.ofNat k).toNat = k := by simp [UInt8.toNat_ofNat']; omega
    simp only [applyOpt, TsResol.byte, TsResol.unitsPerSecond, this, if_true]
    rw [show k / 128 = 0 by omega, Nat.mod_eq_of_lt hk]; rfl
  | bin k =>
    have hk : k < 128 := h
    have : (UInt8.ofNat (128 + k)).toNat = 128 + k := by simp [UInt8.toNat_ofNat']; omega
    simp only [applyOpt, TsResol.byte, TsResol.unitsPerSecond, this, if_true]
    rw [show (128 + k) / 128 = 1 by omega, show (128 + k) % 128 = k by omega]; rfl

theorem toInt64_i64 (e : Endian) (x : Int) (hlo : -(2 ^ 63 : Int) ≤ x) (hhi : x < 2 ^ 63) :
    toInt64 (rdNat e (i64 e x)) = x := by
  unfold i64
  have hm : (x % ((2 ^ 64 : Nat) : Int)).toNat < 2 ^ 64 := by
    have h1 : 0 ≤ x % ((2 ^ 64 : Nat) : Int) := Int.emod_nonneg _ (by decide)
    have h2 : x % ((2 ^ 64 : Nat) : Int) < ((2 ^ 64 : Nat) : Int) := Int.emod_lt_of_pos _ (by decide)
    omega
  rw [rd_u64 e _ hm]
  unfold toInt64
  have h1 : 0 ≤ x % ((2 ^ 64 : Nat) : Int) := Int.emod_nonneg _ (by decide)
  split <;> omega

theorem applyOpt_tsoffset (e : Endian) (st : Nat × Int) (x : Int) (hlo : -(2 ^ 63 : Int) ≤ x) (hhi : x < 2 ^ 63) :
    applyOpt e st ⟨14, i64 e x⟩ = .ok (st.1, x) := by
  simp only [applyOpt, show ¬ ((14 : Nat) = 9) by decide, if_false, if_true]
  rw [if_pos (by simp [i64]), toInt64_i64 e x hlo hhi]

theorem other_codes (os : List Spec.Containers.Opt) (h : ∀ o ∈ os, otherOptOk o) :
    ∀ o ∈ os.map toM, o.code ≠ 9 ∧ o.code ≠ 14 := by
  intro o ho
  obtain ⟨x, hx, rfl⟩ := List.mem_map.mp ho
  exact ⟨(h x hx).2.1, (h x hx).2.2⟩

theorem applyOpts_idb (h : NgHeader) (hwf : h.WF) :
    applyOpts h.e (10 ^ 6, 0) (parsedOpts h.idbOpts) = .ok (h.divisor, h.offset) := by
  obtain ⟨_, _, _, _, _, _, _, hb, ha, hr, ho, _⟩ := hwf
  have e1 := applyOpts_other h.e (10 ^ 6, 0) _ (other_codes _ hb)
  have eoo_ok : ∀ st, applyOpts h.e st (if h.idbEoo then [⟨0, []⟩] else []) = .ok st := by
    intro st; apply applyOpts_other; intro o ho'
    split at ho'
    · simp at ho'; subst ho'; decide
    · cases ho'
  have tsres : ∀ st r, h.tsresol = some r → applyOpt h.e st ⟨9, [UInt8.ofNat r.byte]⟩ = .ok (r.unitsPerSecond, st.2) :=
    fun st r hres => applyOpt_tsresol h.e st r (hr r hres)
  have tsoff : ∀ st x, h.tsoffset = some x → applyOpt h.e st ⟨14, i64 h.e x⟩ = .ok (st.1, x) :=
    fun st x hoff => applyOpt_tsoffset h.e st x (ho x hoff).1 (ho x hoff).2
  simp only [parsedOpts, NgHeader.idbOpts, List.map_append, applyOpts_append, e1]
  cases hres : h.tsresol <;> cases hoff : h.tsoffset <;>
    simp only [List.map_nil, List.map_cons, toM, applyOpts, tsres, tsoff,
      applyOpts_other h.e _ _ (other_codes _ ha), NgHeader.divisor, NgHeader.offset, hres, hoff, Option.getD] <;>
    exact eoo_ok _

theorem idbOpts_wf (h : NgHeader) (hwf : h.WF) : h.idbOpts.WF := by
  obtain ⟨_, _, _, _, _, _, _, hb, ha, hr, ho, _⟩ := hwf
  intro o ho'
  simp only [NgHeader.idbOpts, List.mem_append] at ho'
  rcases ho' with ((h1 | h2) | h3) | h4
  · exact (hb o h1).1
  · cases hres : h.tsresol with
    | none => simp [hres] at h2
    | some r =>
      simp [hres] at h2; subst h2
      refine ⟨by simp, by simp, by simp, by intro h; cases h⟩
  · cases hoff : h.tsoffset with
    | none => simp [hoff] at h3
    | some x =>
      simp [hoff] at h3; subst h3
      refine ⟨by simp, by simp, by simp [i64], by intro h; cases h⟩
  · exact (ha o h4).1

theorem shb_type_be (e : Endian) : rdNat .be (enc e 4 0x0A0D0D0A) = 0x0A0D0D0A := by cases e <;> decide

theorem shb_bom_be (e : Endian) :
    rdNat .be (enc e 4 0x1A2B3C4D) = match e with | .le => 0x4D3C2B1A | .be => 0x1A2B3C4D := by
  cases e <;> decide

def shbFixed (h : NgHeader) : Bytes := u32 h.e 0x1A2B3C4D ++ (u16 h.e 1 ++ (u16 h.e h.minor ++ u64 h.e h.sectionLen))
def idbFixed (h : NgHeader) : Bytes := u16 h.e h.linktype ++ (u16 h.e 0 ++ u32 h.e h.snaplen)

theorem shb_body (h : NgHeader) : bBody h.e h.shb = shbFixed h ++ encOpts h.e h.shbOpts := by
  simp [NgHeader.shb, bBody, shbFixed, List.append_assoc]

theorem idb_body (h : NgHeader) : bBody h.e h.idb = idbFixed h ++ encOpts h.e h.idbOpts := by
  simp [NgHeader.idb, bBody, idbFixed, List.append_assoc]

/-- `__init__` on a file that starts with a block `B` of `n ≥ 28` bytes which reads as a Section Header Block in byte
    order `e`, followed by `R` in which the Interface Description Block is found -/
theorem init_block (e : Endian) (B R : Bytes) (n : Nat) (opts : List Container.Opt) (d : Nat) (o : Int)
    (hB : B.length = n) (h28 : 28 ≤ n) (h0 : fld .be B 0 4 = 0x0A0D0D0A)
    (hbom : fld .be B 8 4 = match e with | .le => 0x4D3C2B1A | .be => 0x1A2B3C4D)
    (hlen : fld e B 4 4 = n) (hshb : parseShb e B = .ok 1) (hidb : findIdb e R = .ok opts)
    (hap : applyOpts e (10 ^ 6, 0) opts = .ok (d, o)) : init (B ++ R) = .ok ⟨e, d, o⟩ := by
  have hflen : (B ++ R).length = n + R.length := by rw [List.length_append, hB]
  have hlen28 : ¬ ((B ++ R).take 28).length < 28 := by rw [List.length_take, hflen]; omega
  have hpre : ∀ e' off, off + 4 ≤ 28 → fld e' ((B ++ R).take 28) off 4 = fld e' B off 4 := fun e' off h => by
    rw [fld_take _ _ _ _ _ h, fld_prefix _ _ _ _ _ (by omega)]
  obtain ⟨hread, hbuf, hrest⟩ := read_rest B R 28 n hB h28
  have hread : fread ((B ++ R).drop 28) ((n : Int) - 28) = _ := hread
  unfold init
  simp only [hlen28, hpre _ 0 (by decide), hpre _ 4 (by decide), hpre _ 8 (by decide), h0, if_false, ne_eq,
    not_true_eq_false]
  cases e <;>
    simp only [hbom, show ¬ ((0x1A2B3C4D : Nat) = 0x4D3C2B1A) by decide, if_true, hlen, hread, hbuf, hshb, hrest, hidb,
      hap, if_false, not_true_eq_false]

theorem init_encodeNg (h : NgHeader) (hwf : h.WF) (rest : Bytes) :
    init (h.shb.encode h.e ++ (encBlocks h.e h.preIdb ++ (h.idb.encode h.e ++ rest))) = .ok ⟨h.e, h.divisor, h.offset⟩ := by
  obtain ⟨hminor, hsl, hso, hshbwf, hpre, hlt, hsnap, _, _, _, _, hidbwf⟩ := id hwf  -- `id`: `hwf` itself stays in the context
  have ⟨hl_shb, _⟩ := wf_blkLen h.e h.shb hshbwf
  have ⟨hl_idb, _⟩ := wf_blkLen h.e h.idb hidbwf
  rw [encode_eq, encode_eq]
  simp only [show bTy h.shb = 0x0A0D0D0A from rfl, show bTy h.idb = 1 from rfl]
  rw [shb_body] at hl_shb ⊢
  rw [idb_body] at hl_idb ⊢
  have hF : (shbFixed h).length = 16 := by simp [shbFixed]
  obtain ⟨hmod, hbl⟩ := blkLen_layout h.e (shbFixed h) [] h.shbOpts (by rw [hF])
  have hbl : blkLen (shbFixed h ++ encOpts h.e h.shbOpts) = 12 + (16 + (0 + h.shbOpts.encLen)) := hF ▸ hbl
  have hpad : padded (shbFixed h ++ encOpts h.e h.shbOpts) = shbFixed h ++ encOpts h.e h.shbOpts := padded_of_mod _ hmod
  refine init_block h.e _ _ _ (parsedOpts h.idbOpts) _ _ (encBlock_length _ _ _) (by omega) ?_ ?_ ?_ ?_ ?_
    (applyOpts_idb h hwf)
  · rw [encBlock_eq, fld_here _ _ _ _ (enc_length _ _ _)]; exact shb_type_be h.e
  · have := encBlock_fld_any .be h.e 0x0A0D0D0A (shbFixed h ++ encOpts h.e h.shbOpts) [] 0 4
      (by rw [hpad, List.length_append, hF]; omega)
    rw [List.append_nil, Nat.add_zero] at this
    rw [this, hpad, fld_prefix _ _ _ 0 4 (by rw [hF]; omega)]
    simp only [shbFixed]
    rw [fld_here _ _ _ _ (enc_length _ _ _)]; exact shb_bom_be h.e
  · have := encBlock_len h.e 0x0A0D0D0A _ [] hl_shb
    rwa [List.append_nil] at this
  · simp only [shbFixed]
    exact parseShb_encBlock h.e _ _ 1 _ _ h.shbOpts hso (by decide) (by simpa [shbFixed] using hl_shb)
  · unfold findIdb
    rw [findIdbFuel_skip h.e h.preIdb _ rest (fun b hb => hpre b hb) hl_idb _ (by
          have := encBlocks_length_ge h.e h.preIdb
          simp only [List.length_append, encBlock_length, blkLen]; omega)]
    simp only [idbFixed]
    exact parseIdb_encBlock h.e _ _ h.idbOpts (idbOpts_wf h hwf) (by simpa [idbFixed] using hl_idb)

theorem legacy_magic (e : Endian) (nano : Bool) :
    rdNat .be (enc e 4 (if nano then 0xa1b23c4d else 0xa1b2c3d4)) =
      match e, nano with
      | .be, false => 0xa1b2c3d4 | .be, true => 0xa1b23c4d
      | .le, false => 0xd4c3b2a1 | .le, true => 0x4d3cb2a1 := by
  cases e <;> cases nano <;> decide

theorem fileHeader_length (v : LegacyVariant) : v.fileHeader.length = 24 := by simp [LegacyVariant.fileHeader]

theorem legacyInit_header (v : LegacyVariant) (rest : Bytes) :
    legacyInit (v.fileHeader ++ rest) = .ok ⟨v.e, 16, v.nano⟩ ∧ (v.fileHeader ++ rest).drop 24 = rest := by
  refine ⟨?_, List.drop_left' (fileHeader_length v)⟩
  have ht : (v.fileHeader ++ rest).take 24 = v.fileHeader := List.take_left' (fileHeader_length v)
  have hm : fld .be v.fileHeader 0 4 = rdNat .be (enc v.e 4 (if v.nano then 0xa1b23c4d else 0xa1b2c3d4)) := by
    simp only [LegacyVariant.fileHeader, LegacyVariant.magic]
    exact fld_here _ _ _ _ (enc_length _ _ _)
  unfold legacyInit
  simp only [ht, fileHeader_length, hm, legacy_magic]
  cases v.e <;> cases v.nano <;> simp

def countPkts : List Ev → Nat
  | [] => 0
  | .pkt _ _ :: evs => countPkts evs + 1
  | .dsb _ :: evs => countPkts evs

theorem unitsPerSecond_lt (v : LegacyVariant) : v.unitsPerSecond < 2 ^ 32 ∧ 0 < v.unitsPerSecond := by
  unfold LegacyVariant.unitsPerSecond; cases v.nano <;> decide

theorem legacyIterFuel_records (v : LegacyVariant) (evs : List Ev) (i : Nat) (hwf : v.WFfrom i evs)
    (fuel : Nat) (hf : countPkts evs ≤ fuel) :
    legacyIterFuel fuel ⟨v.e, 16, v.nano⟩ (v.records i evs) =
      (evs.filterMap (scale (.legacy v)), none) := by
  induction evs generalizing i fuel with
  | nil => cases fuel <;> simp [LegacyVariant.records, legacyIterFuel]
  | cons ev evs ih =>
    cases ev with
    | dsb s =>
      simp only [LegacyVariant.records, List.filterMap_cons, scale]
      exact ih (i + 1) hwf fuel hf
    | pkt ticks data =>
      obtain ⟨hsec, hlen, hrest⟩ := hwf
      obtain ⟨fuel, rfl⟩ : ∃ k, fuel = k + 1 := ⟨fuel - 1, by simp [countPkts] at hf; omega⟩
      have ⟨hU, hU0⟩ := unitsPerSecond_lt v
      have hsub : ticks % v.unitsPerSecond < 2 ^ 32 := Nat.lt_trans (Nat.mod_lt _ hU0) hU
      have hcap : data.length < 2 ^ 32 := by omega
      simp only [LegacyVariant.records]
      generalize hR : v.records (i + 1) evs = R
      generalize hf0 : u32 v.e (ticks / v.unitsPerSecond) ++ (u32 v.e (ticks % v.unitsPerSecond) ++
        (u32 v.e data.length ++ (u32 v.e (data.length + v.extraLen i) ++ (data ++ R)))) = f
      obtain ⟨h1, a4⟩ := (At.start hf0.symm).enc (by rw [pow_256_4]; exact hsec)
      obtain ⟨h2, a8⟩ := a4.enc (by rw [pow_256_4]; exact hsub)
      obtain ⟨h3, a12⟩ := a8.enc (by rw [pow_256_4]; exact hcap)
      obtain ⟨_, a16⟩ := a12.field _ 16 (by rw [enc_length])
      have hd : f.drop 16 = data ++ R := a16.2
      have hl : ¬ f.length < 16 := by rw [a16.length]; omega
      have hne : f.isEmpty = false := by cases f <;> simp at hl ⊢
      rw [legacyIterFuel]
      simp only [hne, hl, h1, h2, h3, hd, Bool.false_eq_true, if_false]
      rw [List.take_left' rfl, List.drop_left' rfl, ← hR,
        ih (i + 1) hrest fuel (by simp [countPkts] at hf; omega)]
      simp only [List.filterMap_cons, scale, LegacyVariant.unitsPerSecond]

theorem countPkts_le (v : LegacyVariant) (evs : List Ev) (i : Nat) : countPkts evs ≤ (v.records i evs).length := by
  induction evs generalizing i with
  | nil => exact Nat.le_refl _
  | cons ev evs ih =>
    cases ev with
    | dsb s => exact ih (i + 1)
    | pkt t d =>
      have := ih (i + 1)
      simp only [countPkts, LegacyVariant.records, List.length_append, enc_length]; omega

theorem ngItem_eq (h : NgHeader) : ngItem ⟨h.e, h.divisor, h.offset⟩ = h.item := by
  funext ev; cases ev <;> rfl

theorem unrelated_event (b : Block) (h : b.unrelated) : b.event = none := by
  cases b <;> simp_all [Block.unrelated, Block.event]

theorem unrelated_events (bs : List Block) (h : ∀ b ∈ bs, b.unrelated) : bs.filterMap Block.event = [] := by
  induction bs with
  | nil => rfl
  | cons b bs ih =>
    rw [List.filterMap_cons, unrelated_event b (h b (by simp))]
    exact ih (fun x hx => h x (by simp [hx]))

theorem block_event (ev : Ev) (d : Deco) : (ev.block d).event = some ev := by
  cases ev with
  | pkt t data => simp only [Ev.block]; split <;> rfl
  | dsb s => rfl

theorem weave_events (deco : Nat → Deco) (hd : ∀ i, (deco i).WF) (i : Nat) (evs : List Ev) :
    (weave deco i evs).filterMap Block.event = evs := by
  induction evs generalizing i with
  | nil => rfl
  | cons ev evs ih =>
    rw [weave, List.filterMap_append, unrelated_events _ (fun b hb => ((hd i) b hb).2), List.nil_append,
      List.filterMap_cons, block_event, ih]

/-- Block level, pcapng (the induction over the block list using the length fields): a file made of a well-formed
    header and ANY list of well-formed blocks, optionally followed by fewer than 8 stray bytes, is read as exactly the
    events of its blocks, in file order, each with the header's `(divisor, offset)`.  Secrets blocks that precede the
    interface description are delivered too. -/
theorem _root_.TLX.Props.C12.read_blocks (h : NgHeader) (hwf : h.WF) (bs : List Block) (hbs : ∀ b ∈ bs, b.WF) (tail : Bytes)
    (ht : tail.length < 8) :
    Container.read false (encodeNg h bs ++ tail) = .ok (((h.preIdb ++ bs).filterMap Block.event).map h.item) := by
  have hshb : h.shb.WF := hwf.shb
  have hidb : h.idb.WF := hwf.idb
  have hpre : ∀ b ∈ h.preIdb, b.WF := fun b hb => (hwf.2.2.2.2.1 b hb).1
  have hfile : encodeNg h bs ++ tail = encBlocks h.e (h.shb :: (h.preIdb ++ h.idb :: bs)) ++ tail := by
    simp [encodeNg, encBlocks, encBlocks_append, List.append_assoc]
  have hinit : init (encodeNg h bs ++ tail) = .ok ⟨h.e, h.divisor, h.offset⟩ := by
    have := init_encodeNg h hwf (encBlocks h.e bs ++ tail)
    simpa [encodeNg, List.append_assoc] using this
  have hall : ∀ b ∈ h.shb :: (h.preIdb ++ h.idb :: bs), b.WF := by
    intro b hb
    simp only [List.mem_cons, List.mem_append] at hb
    rcases hb with rfl | hb | rfl | hb
    · exact hshb
    · exact hpre b hb
    · exact hidb
    · exact hbs b hb
  have hiter := iter_blocks ⟨h.e, h.divisor, h.offset⟩ _ tail hall ht
  unfold Container.read readPrefix
  simp only [Bool.false_eq_true, if_false, hinit]
  rw [hfile, hiter, ngItem_eq]
  have e1 : h.shb.event = none := rfl
  have e2 : h.idb.event = none := rfl
  simp only [List.filterMap_cons, List.filterMap_append, e1, e2]

theorem read_legacy (v : LegacyVariant) (evs : List Ev) (hwf : v.WF evs) :
    Container.read true (v.fileHeader ++ v.records 0 evs) = .ok (evs.filterMap (scale (.legacy v))) := by
  have ⟨hi, hd⟩ := legacyInit_header v (v.records 0 evs)
  unfold Container.read readPrefix legacyIter
  simp only [if_true, hi, hd]
  rw [legacyIterFuel_records v evs 0 hwf.2.2.2.2.2 _ (countPkts_le v evs 0)]

end TLX.Lemmas.Container
