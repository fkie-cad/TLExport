/-
Laws of the translator runtime `TLX/PyRt.lean` that know no generated file: `try` and the loops as binds and folds (`tryE_ite`, `apply_tryE`,
`forE_cons`, `forE_pure`), dicts as association lists without repeated keys (`tableGet_of_mem` … `forE_rows`), slices and big-endian
values on bounds that are not negative, so that the clamping to `len(x)` does not show.
-/
import TLX.PyRt
import TLX.Quic.Varint
import TLX.Lemmas.Bytes
import TLX.Generic
import TLX.Keylog
namespace TLX.PyRt
open TLX

/-- two branches that go on alike after their `try` -/
theorem tryE_ite {α β : Type} (c : Prop) [Decidable c] (y₁ y₂ : Except Err α) (H : Err → β) (K : α → β) :
    (if c then tryE y₁ H K else tryE y₂ H K) = tryE (if c then y₁ else y₂) H K := by
  split <;> rfl

theorem apply_tryE {α β γ : Type} (f : β → γ) (x : Except Err α) (H : Err → β) (K : α → β) :
    f (tryE x H K) = tryE x (fun e => f (H e)) (fun a => f (K a)) := by
  cases x <;> rfl

def mapRes {σ α β : Type} (k : α → β) : Res σ α → Res σ β
  | .ok v s => .ok (k v) s
  | .raised e s => .raised e s

/-- an exception that an `except Exception` catches (every one but the out-of-fuel marker) -/
theorem decide_ne_fuel {e : Err} (h : e ≠ .fuel) : decide (e ≠ Err.fuel) = true := by simp [h]

theorem forE_cons {σ ι : Type} (i : ι) (l : List ι) (s : σ) (body : σ → ι → Except Err σ) :
    forE (i :: l) s body = tryE (body s i) (fun e => .error e) (fun s' => forE l s' body) := by
  rw [forE]; cases body s i <;> rfl

theorem forE_pure {σ ι : Type} (l : List ι) (s : σ) (f : σ → ι → σ) :
    forE l s (fun s i => .ok (f s i)) = .ok (l.foldl f s) := by
  induction l generalizing s with
  | nil => rfl
  | cons i r ih => simp [forE, ih]

@[simp] theorem getItem_nil (i : Int) : getItem [] i = .error .index := by
  unfold getItem
  simp only [List.length_nil, Int.cast_ofNat_Int, Int.add_zero, ite_self]
  split <;> simp

@[simp] theorem getItem_cons_zero (x : UInt8) (r : Bytes) : getItem (x :: r) (0 : Int) = .ok x.toNat := by
  simp [getItem]

/-- `x[i]` for a natural index -/
theorem getItem_nat (b : Bytes) (i : Nat) :
    getItem b (Int.ofNat i) = match b[i]? with | none => .error .index | some x => .ok x.toNat := by
  unfold getItem
  have h1 : ¬ ((Int.ofNat i) < 0) := by simp
  simp only [h1, if_false]
  rfl

theorem getItem_lt (b : Bytes) (i : Nat) (h : i < b.length) : getItem b (Int.ofNat i) = .ok b[i].toNat := by
  rw [getItem_nat, List.getElem?_eq_getElem h]

/-- the loop of `decode_variable_length_int`: `for i in range(s, s + n): v = (v << 8) + b[i]` -/
theorem forE_be (b : Bytes) (n s v : Nat) :
    forE (List.range' s n) v (fun (py_s : Nat) (i : Nat) =>
        tryE (getItem b (Int.ofNat i)) (fun e => .error e) (fun t => .ok ((py_s <<< 8) + t)))
      = if b.length - s < n then .error .index else .ok (Quic.Varint.accBE v ((b.drop s).take n)) := by
  induction n generalizing s v with
  | zero => simp [forE, Quic.Varint.accBE]
  | succ n ih =>
    rw [List.range'_succ, forE, getItem_nat]
    cases hb : b[s]? with
    | none =>
      have : b.length ≤ s := by simpa using hb
      have h2 : b.length - s < n + 1 := by omega
      simp [h2]
    | some x =>
      obtain ⟨hs, hx⟩ := List.getElem?_eq_some_iff.mp hb
      have hd : b.drop s = x :: b.drop (s + 1) := by rw [List.drop_eq_getElem_cons hs, hx]
      simp only [ih, hd, List.take_succ_cons]
      have e : v <<< 8 + x.toNat = v * 256 + x.toNat := by rw [Nat.shiftLeft_eq]
      by_cases hl : b.length - (s + 1) < n
      · have : b.length - s < n + 1 := by omega
        simp [hl, this]
      · have : ¬ b.length - s < n + 1 := by omega
        simp [hl, this, Quic.Varint.accBE, e]

/-- clearing the low `k` bits: `e & ~(2^k - 1)` -/
theorem ldiff_mask (e k : Nat) : ldiff e (2 ^ k - 1) = 2 ^ k * (e / 2 ^ k) := by
  apply Nat.eq_of_testBit_eq
  intro i
  unfold ldiff
  rw [Nat.testBit_xor, Nat.testBit_and, Nat.testBit_two_pow_sub_one, Nat.testBit_two_pow_mul, Nat.testBit_div_two_pow]
  by_cases h : i < k
  · have : ¬ i ≥ k := by omega
    simp [h, this]
  · have h2 : i ≥ k := by omega
    have : i - k + k = i := by omega
    simp [h, h2, this]

/-- the bit identity of RFC 9000 A.3: `(e & ~(W-1)) | t = e - e % W + t` for `t < W = 2^k` -/
theorem mask_or (e k t : Nat) (ht : t < 2 ^ k) :
    bor (band (Int.ofNat e) (~~~((Int.ofNat (2 ^ k)) - 1))) (Int.ofNat t) = Int.ofNat (e - e % 2 ^ k + t) := by
  have hp : 0 < 2 ^ k := Nat.pow_pos (by omega)
  have h1 : (Int.ofNat (2 ^ k)) - 1 = Int.ofNat (2 ^ k - 1) := by
    simp only [Int.ofNat_eq_natCast]; omega
  rw [h1]
  show bor (band (Int.ofNat e) (Int.negSucc (2 ^ k - 1))) (Int.ofNat t) = _
  simp only [band, bor, ldiff_mask]
  congr 1
  rw [← Nat.two_pow_add_eq_or_of_lt ht]
  have := Nat.div_add_mod e (2 ^ k)
  omega

/-- `mask_or` at `largest + 1`, as `get_full_packet_number` writes it (an `int` plus one, not yet a natural) -/
theorem mask_or' (L k t : Nat) (ht : t < 2 ^ k) :
    bor (band (Int.ofNat L + 1) (~~~((Int.ofNat (2 ^ k)) - 1))) (Int.ofNat t)
      = Int.ofNat ((L + 1) - (L + 1) % 2 ^ k + t) := by
  have : Int.ofNat L + 1 = Int.ofNat (L + 1) := by simp
  rw [this, mask_or _ _ _ ht]

/-- `n.to_bytes(k, "big")` for naturals: OverflowError exactly when `n` does not fit -/
theorem toBytesE_nat' (n k : Nat) :
    toBytesE (Int.ofNat n) (Int.ofNat k) = if n < 256 ^ k then .ok (Bytes.ofNatBE k n) else .error .overflow := by
  unfold toBytesE
  have h1 : ¬ (Int.ofNat k < 0) := by simp
  have h2 : (Int.ofNat n < 0 ∨ Int.ofNat n ≥ 256 ^ (Int.ofNat k).toNat) ↔ ¬ n < 256 ^ k := by
    have : ((256 ^ k : Nat) : Int) = (256 : Int) ^ k := by simp
    simp only [Int.ofNat_eq_natCast, Int.toNat_natCast]
    omega
  rw [if_neg h1]
  by_cases h : n < 256 ^ k
  · rw [if_neg (fun c => h2.mp c h), if_pos h]; simp
  · rw [if_pos (h2.mpr h), if_neg h]

theorem toBytesE_nat (n k : Nat) (h : n < 256 ^ k) :
    toBytesE (Int.ofNat n) (Int.ofNat k) = .ok (Bytes.ofNatBE k n) := by
  rw [toBytesE_nat', if_pos h]

/-- `n.to_bytes(1, "big")` -/
theorem toBytesE_one (n : Nat) (h : n < 256) : toBytesE (Int.ofNat n) 1 = .ok [UInt8.ofNat n] := by
  have := toBytesE_nat n 1 (by simpa using h)
  rw [show (1 : Int) = Int.ofNat 1 from rfl, this]
  simp [Bytes.ofNatBE, Nat.mod_eq_of_lt h]

export TLX.Bytes (beNat_ofNatBE)

theorem bound_nat (len i : Nat) : bound len (i : Int) = min i len := by
  have hi : ¬ ((i : Int) < 0) := by omega
  simp only [bound, hi, if_false, Int.toNat_natCast]

theorem bound_neg (len : Nat) (k : Int) (hk : k < 0) : bound len k = len - (-k).toNat := by
  simp only [bound, hk, if_true]; omega

theorem pySlice_nat (x : Bytes) (i j : Nat) : pySlice x (some (i : Int)) (some (j : Int)) = Bytes.slice x i j := by
  simp only [pySlice, Option.map_some, Option.getD_some, bound_nat, Bytes.slice_clamp]

theorem pySlice_from_nat (x : Bytes) (i : Nat) : pySlice x (some (i : Int)) none = x.drop i := by
  have h := Bytes.slice_clamp x i x.length
  rw [Nat.min_self] at h
  simp only [pySlice, Option.map_some, Option.getD_some, Option.map_none, Option.getD_none, bound_nat, h, Bytes.slice_to_length]

theorem pySlice_from_neg (x : Bytes) (k : Int) (hk : k < 0) : pySlice x (some k) none = x.drop (x.length - (-k).toNat) := by
  simp only [pySlice, Option.map_some, Option.getD_some, Option.map_none, Option.getD_none, bound_neg _ _ hk, Bytes.slice_to_length]

theorem pySlice_to_neg (x : Bytes) (k : Int) (hk : k < 0) : pySlice x none (some k) = x.take (x.length - (-k).toNat) := by
  simp only [pySlice, Option.map_some, Option.getD_some, Option.map_none, Option.getD_none, bound_neg _ _ hk, Bytes.slice,
    List.drop_zero, Nat.sub_zero]
/-- `x[-1:]` -/
theorem pySlice_last (x : Bytes) : pySlice x (some (-1 : Int)) none = x.drop (x.length - 1) :=
  pySlice_from_neg x (-1) (by decide)

/-- `x[:-1]` -/
theorem pySlice_init (x : Bytes) : pySlice x none (some (-1 : Int)) = x.dropLast := by
  rw [pySlice_to_neg x (-1) (by decide), List.dropLast_eq_take]; rfl

/-- `x.rstrip(b"\x00")` -/
theorem rstrip_zero (x : Bytes) : rstrip x [0] = (x.reverse.dropWhile (· = 0)).reverse := by
  unfold rstrip
  congr 2
  funext b
  simp

/-- `{**a, **b}`: an entry of `b` wins -/
theorem tableGet_append {κ ν : Type} [DecidableEq κ] (a b : List (κ × ν)) (k : κ) :
    tableGet (a ++ b) k = match tableGet b k with | some v => some v | none => tableGet a k := by
  unfold tableGet
  rw [List.reverse_append, List.find?_append]
  cases List.find? (fun e => decide (e.1 = k)) b.reverse <;> rfl

theorem tableGet_concat {κ ν : Type} [DecidableEq κ] (T : List (κ × ν)) (e : κ × ν) (k : κ) :
    tableGet (T ++ [e]) k = if e.1 = k then some e.2 else tableGet T k := by
  rw [tableGet_append]
  by_cases h : e.1 = k <;> simp [tableGet, h]

/-- `d[k] = v` then `d.get(k')` -/
theorem tableGet_tableSet {κ ν : Type} [DecidableEq κ] (t : List (κ × ν)) (k k' : κ) (v : ν) :
    tableGet (tableSet t k v) k' = if k' = k then some v else tableGet t k' := by
  unfold tableSet tableGet
  split
  · rename_i ha
    rw [← List.map_reverse, List.find?_map]
    have hf : ((fun e : κ × ν => decide (e.1 = k')) ∘ fun e => if e.1 = k then (k, v) else e) = fun e => decide (e.1 = k') := by
      funext e
      by_cases he : e.1 = k <;> simp [he]
    rw [hf]
    cases hfe : List.find? (fun e : κ × ν => decide (e.1 = k')) t.reverse with
    | none =>
      have hn := List.find?_eq_none.mp hfe
      by_cases hk : k' = k
      · subst hk
        obtain ⟨e, he, hk⟩ := List.any_eq_true.mp ha
        exact absurd hk (hn e (List.mem_reverse.mpr he))
      · simp [hk]
    | some e =>
      have he : e.1 = k' := by simpa using List.find?_some hfe
      by_cases hk : k' = k <;> simp [he, hk]
  · by_cases hk : k' = k <;> simp [hk, eq_comm]

theorem tableGet_of_mem {κ ν : Type} [DecidableEq κ] {t : List (κ × ν)} (hnd : (t.map (·.1)).Nodup) {k : κ} {v : ν}
    (h : (k, v) ∈ t) : tableGet t k = some v := by
  have hrev : (t.reverse.map (·.1)).Nodup := by
    rw [List.map_reverse]
    exact List.pairwise_reverse.mpr (hnd.imp Ne.symm)
  unfold tableGet
  rw [find?_key hrev (List.mem_reverse.mpr h) _ (fun e => decide_eq_true_iff)]
  rfl

theorem tableGet_of_not_mem {κ ν : Type} [DecidableEq κ] {t : List (κ × ν)} {k : κ} (h : ∀ e ∈ t, e.1 ≠ k) :
    tableGet t k = none := by
  unfold tableGet
  rw [Option.map_eq_none_iff, List.find?_eq_none]
  intro e he
  simpa using h e (List.mem_reverse.mp he)

theorem tableSet_of_not_mem {κ ν : Type} [DecidableEq κ] (t : List (κ × ν)) (k : κ) (v : ν) (h : k ∉ t.map (·.1)) :
    tableSet t k v = t ++ [(k, v)] := by
  unfold tableSet
  rw [if_neg]
  simp only [List.any_eq_true, decide_eq_true_eq, not_exists, not_and]
  exact fun e he hk => h (hk ▸ List.mem_map_of_mem he)

/-- `for p in d: if c(p): st = g(st, d[p]); break`, run over the entries `l` of the display `d`: `List.find?` -/
theorem forS_first_key {κ ν σ ρ : Type} [DecidableEq κ] (d l : List (κ × ν)) (hget : ∀ e ∈ l, tableGetE d e.1 = .ok e.2)
    (c : κ → Bool) (g : σ → ν → σ) (s : σ) :
    forS (l.map (·.1)) s (fun s p =>
        if c p = true then tryE (tableGetE d p) (fun e => .error e) (fun v => .ok (.brk (g s v))) else .ok (.next s))
      = (.ok (.next (match l.find? (fun e => c e.1) with | some e => g s e.2 | none => s)) : Except Err (Step σ ρ)) := by
  induction l with
  | nil => rfl
  | cons e l ih =>
    have ih := ih fun x hx => hget x (List.mem_cons_of_mem _ hx)
    by_cases hc : c e.1 = true
    · simp only [List.map_cons, forS, hc, if_true, hget e List.mem_cons_self, tryE_ok, List.find?_cons_of_pos]
    · simp only [List.map_cons, forS, hc, if_false, List.find?_cons_of_neg, ih, Bool.false_eq_true, not_false_eq_true]

/-- `for k in d: st[k] = f(k, d[k])` when each round sets the row's key and leaves the flag at 0: one new entry per row -/
theorem forE_rows {κ τ ν : Type} [DecidableEq κ] (rows : List (κ × τ)) (f : κ × τ → ν)
    (body : List (κ × ν) × Nat → κ → Except Err (List (κ × ν) × Nat)) (acc : List (κ × ν))
    (hnd : (rows.map (·.1)).Nodup) (hacc : ∀ r ∈ rows, r.1 ∉ acc.map (·.1))
    (hbody : ∀ r ∈ rows, ∀ cs, body (cs, 0) r.1 = .ok (tableSet cs r.1 (f r), 0)) :
    forE (rows.map (·.1)) (acc, 0) body = .ok (acc ++ rows.map (fun r => (r.1, f r)), 0) := by
  induction rows generalizing acc with
  | nil => simp only [List.map_nil, forE, List.append_nil]
  | cons r rows ih =>
    rw [List.map_cons, List.nodup_cons] at hnd
    rw [List.map_cons, forE, hbody r List.mem_cons_self, tableSet_of_not_mem _ _ _ (hacc r List.mem_cons_self)]
    dsimp only
    rw [ih _ hnd.2 ?_ fun x hx => hbody x (List.mem_cons_of_mem _ hx)]
    · simp only [List.append_assoc, List.cons_append, List.nil_append, List.map_cons]
    · intro x hx
      rw [List.map_append, List.mem_append, not_or]
      refine ⟨hacc x (List.mem_cons_of_mem _ hx), ?_⟩
      simp only [List.map_cons, List.map_nil, List.mem_singleton]
      exact fun h => hnd.1 (h ▸ List.mem_map_of_mem hx)

theorem listItemE_nat {α : Type} (l : List α) (n : Nat) :
    listItemE l (Int.ofNat n) = match l[n]? with | none => .error .index | some a => .ok a := by
  unfold listItemE
  have h1 : ¬ (Int.ofNat n < 0) := by simp
  simp only [h1, if_false]
  rfl

theorem tryR_id {σ : Type} (g : Res σ Unit) : tryR g (fun e s => Res.raised e s) (fun _ s => Res.ok () s) = g := by
  cases g <;> rfl

/-- a test on a byte read as an int (`x[i] == n`) is the test on the byte -/
theorem toNat_eq_iff (t : UInt8) (n : Nat) (h : n < 256) : (t.toNat = n) = (t = UInt8.ofNat n) := by
  rw [← UInt8.toNat_inj, UInt8.toNat_ofNat', Nat.mod_eq_of_lt h]

/-- `x[a:b] = v` for `a ≤ b`: `take a ++ v ++ drop b` (the clamping does not show) -/
theorem setSlice_eq (x v : Bytes) (a b : Nat) (h : a ≤ b) : setSlice x a b v = x.take a ++ v ++ x.drop b := by
  unfold setSlice
  rw [← List.take_eq_take_min,
    List.drop_eq_drop_iff.mpr (show min (max (min a x.length) (min b x.length)) x.length = min b x.length by omega)]

theorem setItemE_nat (l : Bytes) (i v : Nat) (hi : i < l.length) (hv : v < 256) :
    setItemE l (Int.ofNat i) (Int.ofNat v) = .ok (l.set i (UInt8.ofNat v)) := by
  unfold setItemE
  simp only [Int.ofNat_eq_natCast]
  rw [if_neg (by omega), if_neg (by omega), if_neg (by omega)]
  rfl

theorem not_byte (x : UInt8) : (~~~(Int.ofNat x.toNat)) + (256 : Int) = Int.ofNat (255 - x.toNat) := by
  have := x.toNat_lt
  show Int.negSucc x.toNat + 256 = _
  simp only [Int.ofNat_eq_natCast]
  omega

theorem rangeStep_add_step (n k : Nat) (hk : 0 < k) : rangeStep 0 (n + k) k = 0 :: (rangeStep 0 n k).map (· + k) := by
  unfold rangeStep
  have : (n + k - 0 + k - 1) / k = (n - 0 + k - 1) / k + 1 := by
    rw [Nat.sub_zero, Nat.sub_zero, show n + k + k - 1 = (n + k - 1) + k by omega, Nat.add_div_right _ hk]
  rw [this, List.range_succ_eq_map, List.map_cons, List.map_map, List.map_map, Nat.zero_mul]
  congr 1
  apply List.map_congr_left
  intro i _
  simp only [Function.comp, Nat.succ_mul]
  omega

theorem rangeL_zero (m : Nat) : rangeL 0 (m : Int) = (List.range m).map (fun (i : Nat) => (i : Int)) := by
  unfold rangeL
  simp

/-- `s.split(sep)` is the key-log model's `splitOn` (groups Keylog and Opts) -/
theorem strSplit_eq (sep : Nat) : ∀ (s : List Nat), strSplit sep s = Keylog.splitOn sep s := by
  intro s
  induction s with
  | nil => rfl
  | cons c cs ih =>
    simp only [strSplit, Keylog.splitOn, ih]
    split
    · rfl
    · cases Keylog.splitOn sep cs <;> rfl

end TLX.PyRt
