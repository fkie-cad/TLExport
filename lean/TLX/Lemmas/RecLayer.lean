/-
Helper lemmas for the record-layer theorems of C01 (core Lean only): Python-slice algebra, record framing,
direction get/set, dispatch of `Dec.decrypt`.
-/
import TLX.RecordLayer
import TLX.Spec.TlsSender
import TLX.Lemmas.Bytes
namespace TLX.Lemmas.RecLayer
open TLX TLX.Cipher TLX.RecordLayer TLX.Spec.TlsSender

export TLX.Bytes (ofNatBE_length)

theorem u16_length (n : Nat) : (u16 n).length = 2 := ofNatBE_length 2 n
theorem u64_length (n : Nat) : (u64 n).length = 8 := ofNatBE_length 8 n

theorem toBE_nat (len n : Nat) (h : n < 256 ^ len) : toBE len (n : Int) = .ok (Bytes.ofNatBE len n) := by
  unfold toBE
  rw [if_neg (by omega), Int.toNat_natCast, if_pos h]

theorem cutEnd_append (a m : Bytes) (n : Nat) (hn : m.length = n) (h0 : 0 < n) : Bytes.cutEnd (a ++ m) n = a := by
  unfold Bytes.cutEnd
  rw [if_neg (by omega)]
  have : (a ++ m).length - n = a.length := by simp only [List.length_append]; omega
  rw [this, List.take_left']
  rfl

theorem lastByte_append (x : Bytes) (b : UInt8) : lastByte (x ++ [b]) = .ok b := by
  unfold lastByte
  simp

theorem stripPad_block (x padding : Bytes) (h : padding.length < 256) :
    stripPad (x ++ (padding ++ [UInt8.ofNat padding.length])) (UInt8.ofNat padding.length) = x := by
  unfold stripPad
  have e : (UInt8.ofNat padding.length).toNat = padding.length := by
    simp only [UInt8.toNat_ofNat']
    omega
  rw [e]
  have : (x ++ (padding ++ [UInt8.ofNat padding.length])).length - (padding.length + 1) = x.length := by
    simp only [List.length_append, List.length_cons, List.length_nil]; omega
  rw [this, List.take_left']
  rfl

theorem byteXor_nonce (iv : Bytes) (seq : Nat) (h : 8 ≤ iv.length) :
    byteXor iv (Bytes.ofNatBE 8 seq) = .ok (nonceXor iv seq) := by
  unfold byteXor
  rw [ofNatBE_length, if_neg (by omega)]
  rfl

theorem nonceXor_length (iv : Bytes) (seq : Nat) (h : 8 ≤ iv.length) : (nonceXor iv seq).length = iv.length := by
  unfold nonceXor padLeft
  simp only [List.length_zipWith, List.length_append, List.length_replicate, u64_length]
  omega

/-- the per-record nonce of RFC 8446 §5.3 / RFC 7905 is what `byte_xor` computes, and has the IV's length -/
theorem nonce_ok {a : Alg} {k tl : Nat} (iv : Bytes) (seq : Nat) (h8 : 8 ≤ iv.length) (hok : AeadOk a k iv.length tl) :
    byteXor iv (u64 seq) = .ok (nonceXor iv seq) ∧ AeadOk a k (nonceXor iv seq).length tl :=
  ⟨byteXor_nonce iv seq h8, by rw [nonceXor_length iv seq h8]; exact hok⟩

/-- `AESGCM(key)` / `AESCCM(key, tag_length)` as chosen by `bulk_alg` opens what was sealed with that algorithm; the
    tag length is read only for CCM, and is 16 for GCM by `AeadOk` -/
theorem aeadByBulk_seal (P : Prims) (L : SealLaws P) (cfg : Cfg) (a : Alg) (tl : Nat) (key nonce aad pt : Bytes)
    (hb : cfg.bulk = a) (ha : a = .aesgcm ∨ a = .aesccm) (htl : cfg.tagLen = tl)
    (hok : AeadOk a key.length nonce.length tl) :
    aeadByBulk P cfg key nonce aad (L.aeadSeal a key nonce aad tl pt) = .ok pt := by
  have hop := L.open_seal a key nonce aad tl pt hok
  rcases ha with rfl | rfl
  · have h16 : tl = 16 := by simpa using hok.2.2.2
    subst h16
    simp only [aeadByBulk, hb, hop]
  · simp only [aeadByBulk, hb, htl, hop]

theorem ofRaw_record (typ : UInt8) (ver body : Bytes) (hv : ver.length = 2) :
    Rec.ofRaw (record typ ver body) =
      .ok { typ := typ, ver := ver, len := u16 body.length, body := body, raw := record typ ver body } := by
  match ver, hv with
  | [v1, v2], _ =>
    have h2 := u16_length body.length
    unfold record
    generalize u16 body.length = l at *
    match l, h2 with
    | [l1, l2], _ => rfl

theorem record_take3 (typ : UInt8) (ver body : Bytes) (hv : ver.length = 2) :
    (record typ ver body).take 3 = [typ] ++ ver := by
  match ver, hv with
  | [v1, v2], _ => rfl

theorem ofRaw_hdr13 (n : Nat) (body : Bytes) :
    Rec.ofRaw (hdr13 n ++ body) =
      .ok { typ := 23, ver := [3, 3], len := u16 n, body := body, raw := hdr13 n ++ body } := by
  have h2 := u16_length n
  unfold hdr13
  generalize u16 n = l at *
  match l, h2 with
  | [l1, l2], _ => rfl

theorem get_set (d : Dec) (srv : Bool) (x : DirSt) : (d.set srv x).get srv = x := by
  cases srv <;> rfl
theorem get_set_other (d : Dec) (srv : Bool) (x : DirSt) : (d.set srv x).get (!srv) = d.get (!srv) := by
  cases srv <;> rfl
theorem cfg_set (d : Dec) (srv : Bool) (x : DirSt) : (d.set srv x).cfg = d.cfg := by
  cases srv <;> rfl
theorem sget_set (s : Snd) (srv : Bool) (x : SDir) : (s.set srv x).get srv = x := by
  cases srv <;> rfl
theorem sget_set_other (s : Snd) (srv : Bool) (x : SDir) : (s.set srv x).get (!srv) = s.get (!srv) := by
  cases srv <;> rfl

theorem cbc_post (X : Bytes) (f : Fresh) (h : f.padding.length < 256) :
    lastByte (X ++ padBlock f) = .ok (UInt8.ofNat f.padding.length) ∧
    stripPad (X ++ padBlock f) (UInt8.ofNat f.padding.length) = X := by
  unfold padBlock
  constructor
  · rw [← List.append_assoc]; exact lastByte_append _ _
  · exact stripPad_block X f.padding h

/-- the MAC of an encrypt-then-MAC record comes off the ciphertext, that of a MAC-then-encrypt record off the plaintext -/
theorem cbc_mac (etm : Bool) (ct pt mac : Bytes) (n : Nat) (hn : mac.length = n) (h0 : 0 < n) :
    (if etm then Bytes.cutEnd (if etm then ct ++ mac else ct) n else (if etm then ct ++ mac else ct)) = ct ∧
    (if !etm then Bytes.cutEnd (if etm then pt else pt ++ mac) n else (if etm then pt else pt ++ mac)) = pt := by
  cases etm
  · exact ⟨rfl, cutEnd_append pt mac n hn h0⟩
  · exact ⟨cutEnd_append ct mac n hn h0, rfl⟩

theorem last_block_length {α : Type} (l : List α) (n : Nat) (h0 : 0 < l.length) (hm : l.length % n = 0) :
    (l.drop (l.length - n)).length = n := by
  have hle : n ≤ l.length := Nat.le_of_dvd h0 (Nat.dvd_of_mod_eq_zero hm)
  rw [List.length_drop]
  omega

theorem blk_pos (a : Alg) (h : a.isBlock = true) : 0 < a.blk := by
  cases a <;> simp_all [Alg.isBlock, Alg.blk]

/-- the 8 is `tls12Aead`'s explicit nonce -/
theorem toBE_len8 (total sub2 p : Nat) (h : total = 8 + p + sub2) (hp : p < 65536) :
    toBE 2 ((total : Int) - 8 - (sub2 : Int)) = .ok (u16 p) := by
  have : (total : Int) - 8 - (sub2 : Int) = (p : Int) := by omega
  rw [this]
  exact toBE_nat 2 p (by simpa using hp)

/-- the 16 is `tls12Chacha`'s Poly1305 tag -/
theorem toBE_len16 (total p : Nat) (h : total = p + 16) (hp : p < 65536) :
    toBE 2 ((total : Int) - 16) = .ok (u16 p) := by
  have : (total : Int) - 16 = (p : Int) := by omega
  rw [this]
  exact toBE_nat 2 p (by simpa using hp)

theorem chacha_iv12 {k n : Nat} (h : AeadOk .chachaPoly k n 16) : n = 12 := by
  have := h.2.2.1
  simpa [Alg.nonceOk] using this

theorem protect_seq (P : Prims) (L : SealLaws P) (cls : CipherClass) (ver : Bytes) (sd : SDir) (typ : UInt8)
    (pt : Bytes) (f : Fresh) : (protect P L cls ver sd typ pt f).1.seq = sd.seq + 1 := by
  cases cls <;> rfl

theorem bool_cases (srv b : Bool) : b = srv ∨ b = !srv := by
  cases srv <;> cases b <;> simp

theorem snd_seq_set (x : Snd) (srv : Bool) (v : SDir) (n : Nat) (hv : v.seq ≤ n)
    (hc : x.c.seq ≤ n) (hs : x.s.seq ≤ n) : (x.set srv v).c.seq ≤ n ∧ (x.set srv v).s.seq ≤ n := by
  cases srv <;> simp [Snd.set, hv, hc, hs]


-- dispatch of `Dec.decrypt` (decryptor.py 425-445) under the configuration of each cipher class
theorem dispatch_generic_stream (P : Prims) (r : Rec) (srv : Bool) (d : Dec) (ht : d.cfg.ctype = .stream)
    (hv : d.cfg.version ≠ .tls13) (hb : d.cfg.bulk ≠ .chachaPoly) :
    d.decrypt P r srv = lift d (genericStream P r srv d) := by
  simp [Dec.decrypt, ht, hv, hb]

theorem dispatch_last_block (P : Prims) (r : Rec) (srv : Bool) (d : Dec) (ht : d.cfg.ctype = .block)
    (hv : d.cfg.version = .tls10 ∨ d.cfg.version = .ssl30) :
    d.decrypt P r srv = lift d (lastBlockCbc P r srv d) := by
  rcases hv with hv | hv <;> simp [Dec.decrypt, ht, hv]

theorem dispatch_tls12_block (P : Prims) (r : Rec) (srv : Bool) (d : Dec) (ht : d.cfg.ctype = .block)
    (hv : d.cfg.version = .tls12 ∨ d.cfg.version = .tls11) (hb : d.cfg.bulk ≠ .chachaPoly) :
    d.decrypt P r srv = lift d (tls12Block P r srv d) := by
  rcases hv with hv | hv <;> simp [Dec.decrypt, ht, hv, hb]

theorem dispatch_tls12_aead (P : Prims) (r : Rec) (srv : Bool) (d : Dec) (ht : d.cfg.ctype = .aead)
    (hv : d.cfg.version ≠ .tls13) (hb : d.cfg.bulk ≠ .chachaPoly) :
    d.decrypt P r srv = lift d (tls12Aead P r srv d) := by
  simp [Dec.decrypt, ht, hv, hb]

theorem dispatch_tls12_chacha (P : Prims) (r : Rec) (srv : Bool) (d : Dec) (hv : d.cfg.version = .tls12)
    (hb : d.cfg.bulk = .chachaPoly) :
    d.decrypt P r srv = lift d (tls12Chacha P r srv d) := by
  simp [Dec.decrypt, hv, hb]

theorem dispatch_tls13_aead (P : Prims) (r : Rec) (srv : Bool) (d : Dec) (ht : d.cfg.ctype = .aead)
    (hv : d.cfg.version = .tls13) :
    d.decrypt P r srv = lift d (tls13Aead P r srv d) := by
  simp [Dec.decrypt, ht, hv]

theorem dispatch_tls13_stream (P : Prims) (r : Rec) (srv : Bool) (d : Dec) (ht : d.cfg.ctype ≠ .aead)
    (hv : d.cfg.version = .tls13) :
    d.decrypt P r srv = lift d (tls13Stream P r srv d) := by
  simp [Dec.decrypt, ht, hv]

end TLX.Lemmas.RecLayer
