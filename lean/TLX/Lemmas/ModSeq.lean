/-
Sequence-number arithmetic modulo `W` (= 2^32 in the model), generic in `W` so that no tactic ever
sees the literal.  `sq W isn o` is the sequence number of the byte at offset `o`.
Core Lean only.
-/
import TLX.Reassembly
import TLX.Generic
namespace TLX.Lemmas.ModSeq
open TLX TLX.Reassembly

def sq (W isn o : Nat) : Nat := (isn + o) % W

theorem sq_lt (W isn o : Nat) (hW : 0 < W) : sq W isn o < W := Nat.mod_lt _ hW

theorem pyModSub_eq (a b W r : Nat) (hr : r < W) (h : (b + r) % W = a % W) : pyModSub a b W = r := by
  unfold pyModSub
  have hb : b % W < W := Nat.mod_lt _ (by omega)
  have e : b + r + (W - b % W) = r + W * (b / W + 1) := by
    have := Nat.div_add_mod b W
    rw [Nat.mul_add, Nat.mul_one]; omega
  rw [← Nat.mod_add_mod, ← h, Nat.mod_add_mod, e, Nat.add_mul_mod_self_left, Nat.mod_eq_of_lt hr]

/-- `pyModSub` really is Python's `(a - b) % W`. -/
theorem pyModSub_eq_emod (a b W : Nat) (hW : 0 < W) :
    ((pyModSub a b W : Nat) : Int) = ((a : Int) - (b : Int)) % (W : Int) := by
  unfold pyModSub
  have hle : b % W ≤ W := Nat.le_of_lt (Nat.mod_lt _ hW)
  rw [Int.natCast_emod, Int.natCast_add, Int.natCast_sub hle, Int.natCast_emod]
  have hb := Int.emod_add_mul_ediv (b : Int) (W : Int)
  have : (a : Int) + ((W : Int) - (b : Int) % (W : Int)) = ((a : Int) - (b : Int)) + (W : Int) * ((b : Int) / (W : Int) + 1) := by
    rw [Int.mul_add, Int.mul_one]
    omega
  rw [this, Int.add_mul_emod_self_left]

theorem pyModSub_self (x W : Nat) (hx : x < W) : pyModSub x x W = 0 :=
  pyModSub_eq x x W 0 (by omega) rfl

theorem syncKey_sq (W isn d a id : Nat) (c : Bytes) (hda : d ≤ a) (h : a - d < W) :
    syncKey W (sq W isn d) ⟨id, sq W isn a, c⟩ = a - d :=
  pyModSub_eq _ _ W _ h (by rw [sq, sq, Nat.mod_add_mod, Nat.mod_mod, show isn + d + (a - d) = isn + a by omega])

/-- Before sync: the key is the signed distance from the reference segment, shifted by half the
    modulus (segments up to `W / 2` before it and less than `W - W / 2` behind it). -/
theorem presyncKey_sq_eq (W isn m a id : Nat) (c : Bytes) (h1 : m ≤ a + W / 2) (h2 : a + W / 2 < m + W) :
    presyncKey W (sq W isn m) ⟨id, sq W isn a, c⟩ = a + W / 2 - m :=
  pyModSub_eq _ _ W _ (by omega) (by
    rw [sq, sq, Nat.mod_add_mod, Nat.mod_add_mod, show isn + m + (a + W / 2 - m) = isn + a + W / 2 by omega])

theorem presyncKey_sq (W isn e id : Nat) (c : Bytes) (hW : 0 < W) (he : e + W / 2 < W) :
    presyncKey W (sq W isn 0) ⟨id, sq W isn e, c⟩ = e + W / 2 :=
  presyncKey_sq_eq W isn 0 e id c (Nat.zero_le _) (by omega)

theorem sq_inj (W isn o₁ o₂ : Nat) (hc : o₁ < o₂ + W ∧ o₂ < o₁ + W) (h : sq W isn o₁ = sq W isn o₂) : o₁ = o₂ :=
  Nat.add_left_cancel (eq_of_mod_eq_of_close h (by omega))

theorem sq_add (W isn o n : Nat) : (sq W isn o + n) % W = sq W isn (o + n) := by
  unfold sq
  rw [Nat.mod_add_mod, Nat.add_assoc]

theorem sq_inj' (W isn o₁ o₂ L : Nat) (hL : L ≤ W) (h1 : o₁ < L) (h2 : o₂ < L)
    (h : sq W isn o₁ = sq W isn o₂) : o₁ = o₂ :=
  sq_inj W isn o₁ o₂ (by omega) h

end TLX.Lemmas.ModSeq
