/-
Definitions and lemmas for `Props/C01Pipeline.lean`, the composed TLS model (`TLX/Pipeline.lean`): the notions its
statements use (`Ready`, `Installs`, the session-level events `SEv`, `released`, `Negotiated`, …) are defined here; proved are one
record of the RFC sender through `handle_tls_record` for each kind of record, the reassembly-then-one-`Session.run`
form of the per-packet fold, and the layout of the two hello records.
Four types say what an endpoint sends. `Spec.TlsSender.Ev` (one record or epoch switch, either direction) carries the
record layer (`Props/C01`); `SEv` (here: `Ev` grouped per record the session sees) carries the record-level theorems of
`Props/C01Pipeline` and nothing above them; the connection theorems read per-direction scripts, `Spec.TlsConnection.DirEv`
and `Spec.TlsFragmented13.FEv`, through `Lemmas/Capstone.Kit` and start again from the per-record lemmas of this file
(`handleRecord_app`, `_ccs`, `_hsEnc`, `_frag_any`). The `Ok` predicates go with them: `Props.C01.EvOk`, `SEv.Ok`,
`Lemmas.Capstone.EvOk1`.
-/
import TLX.Pipeline
import TLX.Props.C01
import TLX.Props.C06
import TLX.Lemmas.Session
import TLX.Lemmas.TlsHello
import TLX.Lemmas.Bytes
import TLX.Lemmas.Cursor
import TLX.Lemmas.TcpOutData
import TLX.Lemmas.Metadata
namespace TLX.Lemmas.Pipeline
open TLX TLX.Cipher TLX.RecordLayer TLX.Spec.TlsSender TLX.Props.C01 TLX.Lemmas.RecLayer TLX.Lemmas.Cursor

/-- what `Session` sees of a receiver observation: the value, or "raised" -/
def outVal : Props.C01.Out → Option (Option Bytes)
  | .data v => some v
  | _ => none

def isSwitched : Props.C01.Out → Bool
  | .switched => true
  | _ => false

/-- `Pipeline.ops.decrypt` is `TlsRecord(raw)` + `Decryptor.decrypt`, i.e. the receiver step of `Props/C01` -/
theorem ops_decrypt (H : Crypto.Prims) (P : Prims) (kl : List Keylog.Key) (d : Dec) (r : Session.Rec) (srv : Bool) :
    (Pipeline.ops H P kl).decrypt d r srv =
      ((recvStep P d (.record srv r.raw)).1, outVal (recvStep P d (.record srv r.raw)).2) := by
  simp only [Pipeline.ops, recvStep]
  cases h : Rec.ofRaw r.raw with
  | error e => rfl
  | ok rr =>
    simp only
    cases h2 : Dec.decrypt P rr srv d <;> rfl

theorem ops_updateKeys (H : Crypto.Prims) (P : Prims) (kl : List Keylog.Key) (d : Dec) (srv : Bool) :
    (Pipeline.ops H P kl).updateKeys d srv =
      ((recvStep P d (.switch srv)).1, isSwitched (recvStep P d (.switch srv)).2) := by
  simp only [Pipeline.ops, recvStep]
  cases h : Dec.updateKeys srv d <;> rfl

/-- sender state after a history (`run` returns the wire image only) -/
def after (P : Prims) (L : SealLaws P) (cls : CipherClass) (ver : Bytes) (x : Snd) (evs : List Ev) : Snd :=
  evs.foldl (fun x e => (step P L cls ver x e).1) x

theorem run_append (P : Prims) (L : SealLaws P) (cls : CipherClass) (ver : Bytes) (x : Snd) (a b : List Ev) :
    run P L cls ver x (a ++ b) = run P L cls ver x a ++ run P L cls ver (after P L cls ver x a) b := by
  induction a generalizing x with
  | nil => rfl
  | cons e es ih => simp only [List.cons_append, run, after, List.foldl_cons, ih]

theorem after_append (P : Prims) (L : SealLaws P) (cls : CipherClass) (ver : Bytes) (x : Snd) (a b : List Ev) :
    after P L cls ver x (a ++ b) = after P L cls ver (after P L cls ver x a) b := by
  simp [after, List.foldl_append]

theorem protect_head_legacy (P : Prims) (L : SealLaws P) (cls : CipherClass) (h13 : cls.is13 = false) (ver : Bytes)
    (sd : SDir) (typ : UInt8) (pt : Bytes) (f : Fresh) : (protect P L cls ver sd typ pt f).2.head? = some typ := by
  cases cls <;> first | rfl | cases h13

theorem protect_head_13 (P : Prims) (L : SealLaws P) (cls : CipherClass) (h13 : cls.is13 = true) (ver : Bytes)
    (sd : SDir) (typ : UInt8) (pt : Bytes) (f : Fresh) : (protect P L cls ver sd typ pt f).2.head? = some 23 := by
  cases cls <;> first | rfl | cases h13

theorem delivered_legacy (cls : CipherClass) (h13 : cls.is13 = false) (typ : UInt8) (pt : Bytes) (f : Fresh) :
    delivered cls typ pt f = pt := by
  cases cls <;> first | rfl | cases h13

theorem delivered_13 (cls : CipherClass) (h13 : cls.is13 = true) (typ : UInt8) (pt : Bytes) (f : Fresh) :
    delivered cls typ pt f = pt ++ [typ] ++ List.replicate f.pad13 0 := by
  cases cls <;> first | rfl | cases h13

/-- gate open, version set, a decryptor installed that is related (`Props.C01.Rel`) to the sender state `x`. The `↔` is
    the one link between the session's `tls_version` and the cipher class: `handle_tls_record` takes the TLS 1.3
    application path exactly for the two TLS 1.3 classes. -/
def Ready0 (cls : CipherClass) (macLen : Nat) (x : Snd) (s : Session.St Dec) : Prop :=
  s.canDecrypt = true ∧ (∃ v, s.ver = some v ∧ (v = Session.Ver.tls13 ↔ cls.is13 = true)) ∧
    ∃ d, s.dec = some d ∧ Rel cls macLen x d

/-- `Ready0`, and the TLS 1.3 handshake buffers of the two directions hold `bf false`, `bf true` -/
def ReadyB (cls : CipherClass) (macLen : Nat) (x : Snd) (s : Session.St Dec) (bf : Bool → Bytes) : Prop :=
  Ready0 cls macLen x s ∧ ∀ d, s.hsBuf d = bf d

/-- `Ready0`, and no unfinished TLS 1.3 handshake message is buffered -/
abbrev Ready (cls : CipherClass) (macLen : Nat) (x : Snd) (s : Session.St Dec) : Prop :=
  ReadyB cls macLen x s fun _ => []

/-- a per-direction family after direction `d` got the new value `l` -/
def upd {ε : Type} (rem : Bool → List ε) (d : Bool) (l : List ε) : Bool → List ε := fun d' => if d' = d then l else rem d'

theorem upd_self {ε : Type} (rem : Bool → List ε) (d : Bool) (l : List ε) : upd rem d l d = l := by simp [upd]

theorem upd_ne {ε : Type} (rem : Bool → List ε) {d d' : Bool} (l : List ε) (h : d' ≠ d) : upd rem d l d' = rem d' := by
  simp [upd, h]

theorem upd_same (bf : Bool → Bytes) (d : Bool) : upd bf d (bf d) = bf := by
  funext d'; unfold upd; split <;> simp_all

theorem hsBuf_of_fields {s s' : Session.St Dec} (h1 : s'.hsBufC = s.hsBufC) (h2 : s'.hsBufS = s.hsBufS) (d : Bool) :
    s'.hsBuf d = s.hsBuf d := by
  cases d <;> simp [Session.St.hsBuf, h1, h2]

theorem ReadyB.of_eq {cls : CipherClass} {macLen : Nat} {x : Snd} {s s' : Session.St Dec} {bf : Bool → Bytes}
    (h : ReadyB cls macLen x s bf) (h1 : s'.dec = s.dec) (h2 : s'.ver = s.ver) (h3 : s'.canDecrypt = s.canDecrypt)
    (h4 : s'.hsBufC = s.hsBufC) (h5 : s'.hsBufS = s.hsBufS) : ReadyB cls macLen x s' bf := by
  obtain ⟨⟨a, ⟨v, b, c⟩, d, e, f⟩, hb⟩ := h
  exact ⟨⟨h3.trans a, ⟨v, h2.trans b, c⟩, d, h1.trans e, f⟩, fun d' => (hsBuf_of_fields h4 h5 d').trans (hb d')⟩

theorem ReadyB.setDec {cls : CipherClass} {macLen : Nat} {x x' : Snd} {s : Session.St Dec} {bf : Bool → Bytes}
    (h : ReadyB cls macLen x s bf) {d' : Dec} (hR : Rel cls macLen x' d') :
    ReadyB cls macLen x' ({ s with dec := some d' } : Session.St Dec) bf :=
  ⟨⟨h.1.1, h.1.2.1, d', rfl, hR⟩, h.2⟩

theorem ReadyB.setHsBuf {cls : CipherClass} {macLen : Nat} {x : Snd} {s : Session.St Dec} {bf : Bool → Bytes}
    (h : ReadyB cls macLen x s bf) (srv : Bool) (t : Bytes) : ReadyB cls macLen x (s.setHsBuf srv t) (upd bf srv t) := by
  refine ⟨?_, fun d => ?_⟩
  · cases srv <;> exact h.1
  · rw [Session.hsBuf_setHsBuf, upd]; split
    · rfl
    · exact h.2 d

theorem ReadyB.push {cls : CipherClass} {macLen : Nat} {x : Snd} {s : Session.St Dec} {bf : Bool → Bytes}
    (h : ReadyB cls macLen x s bf) (e : Session.Entry) : ReadyB cls macLen x (s.push e) bf :=
  h.of_eq rfl rfl rfl rfl rfl

theorem decrypt_protected (H : Crypto.Prims) (P : Prims) (L : SealLaws P) (kl : List Keylog.Key) (cls : CipherClass)
    (macLen : Nat) (ver : Bytes) (hv : ver.length = 2) (x : Snd) (d : Dec) (hR : Rel cls macLen x d)
    (srv : Bool) (typ : UInt8) (pt : Bytes) (f : Fresh) (hok : SendOk cls macLen pt f)
    (hq : x.c.seq < seqLimit ∧ x.s.seq < seqLimit) (car : List Nat) :
    let o := protect P L cls ver (x.get srv) typ pt f
    ∃ d', (Pipeline.ops H P kl).decrypt d ⟨o.2, car⟩ srv = (d', some (some (delivered cls typ pt f))) ∧
      Rel cls macLen (x.set srv o.1) d' ∧
      (x.set srv o.1).c.seq ≤ max x.c.seq x.s.seq + 1 ∧ (x.set srv o.1).s.seq ≤ max x.c.seq x.s.seq + 1 := by
  obtain ⟨h1, h2, h3, h4⟩ := step_exact P L cls macLen ver hv x d hR (.send srv typ pt f) hok hq
  refine ⟨_, ?_, h2, h3, h4⟩
  rw [ops_decrypt]
  exact congrArg (Prod.mk _ ∘ outVal) h1

theorem handleRecord_app (H : Crypto.Prims) (P : Prims) (L : SealLaws P) (kl : List Keylog.Key) (cls : CipherClass)
    (macLen : Nat) (ver : Bytes) (hv : ver.length = 2) (x : Snd) (s : Session.St Dec) {bf : Bool → Bytes}
    (hs : ReadyB cls macLen x s bf)
    (srv : Bool) (pt : Bytes) (f : Fresh) (hok : SendOk cls macLen pt f)
    (hq : x.c.seq < seqLimit ∧ x.s.seq < seqLimit) (m : Bool) (car : List Nat) :
    let o := protect P L cls ver (x.get srv) 23 pt f
    (Session.handleRecord (Pipeline.ops H P kl) m s ⟨o.2, car⟩ srv).traffic
        = s.traffic ++ [⟨some pt, ⟨o.2, car⟩, srv, true⟩] ∧
      ReadyB cls macLen (x.set srv o.1) (Session.handleRecord (Pipeline.ops H P kl) m s ⟨o.2, car⟩ srv) bf ∧
      (Session.handleRecord (Pipeline.ops H P kl) m s ⟨o.2, car⟩ srv).srvCC = s.srvCC ∧
      (Session.handleRecord (Pipeline.ops H P kl) m s ⟨o.2, car⟩ srv).cliCC = s.cliCC ∧
      (x.set srv o.1).c.seq ≤ max x.c.seq x.s.seq + 1 ∧ (x.set srv o.1).s.seq ≤ max x.c.seq x.s.seq + 1 := by
  have hs0 := hs
  obtain ⟨⟨hcan, ⟨v, hver, hv13⟩, d, hdec, hR⟩, hbuf⟩ := hs
  intro o
  obtain ⟨d', hd, h2, h3, h4⟩ := decrypt_protected H P L kl cls macLen ver hv x d hR srv 23 pt f hok hq car
  have heq : Session.handleRecord (Pipeline.ops H P kl) m s ⟨o.2, car⟩ srv
      = ({ s with dec := some d' } : Session.St Dec).push ⟨some pt, ⟨o.2, car⟩, srv, true⟩ := by
    cases h13 : cls.is13
    · have hvne : v ≠ .tls13 := fun h => by rw [hv13.mp h] at h13; cases h13
      rw [Session.handleRecord_appData _ m s ⟨o.2, car⟩ srv (protect_head_legacy P L cls h13 ver _ 23 pt f),
        Session.appRecord_legacy _ _ srv hcan hdec hver hvne, Session.appLegacy_ok _ hdec hd, delivered_legacy cls h13]
      rfl
    · rw [hv13.mpr h13] at hver
      rw [delivered_13 cls h13] at hd
      rw [Session.handleRecord_appData _ m s ⟨o.2, car⟩ srv (protect_head_13 P L cls h13 ver _ 23 pt f),
        Session.appRecord_13 _ _ srv hcan hdec hver, Session.app13_inner _ pt 23 f.pad13 (by decide) hdec hd]
      rfl
  rw [heq]
  exact ⟨rfl, (hs0.setDec h2).push _, rfl, rfl, h3, h4⟩

/-- the `change_cipher_spec` flag of a direction -/
def ccOf (s : Session.St Dec) (srv : Bool) : Bool := if srv then s.srvCC else s.cliCC

theorem ReadyB.pushMeta {cls : CipherClass} {macLen : Nat} {x : Snd} {s : Session.St Dec} {bf : Bool → Bytes}
    (h : ReadyB cls macLen x s bf) (m : Bool) (r : Session.Rec) (d : Bool) :
    ReadyB cls macLen x (Session.pushMeta m s r d) bf := by
  cases m
  · exact h
  · exact h.of_eq rfl rfl rfl rfl rfl

theorem ccOf_pushMeta (m : Bool) (s : Session.St Dec) (r : Session.Rec) (d d' : Bool) :
    ccOf (Session.pushMeta m s r d) d' = ccOf s d' := by
  cases m <;> rfl

/-- a ChangeCipherSpec record (type 20, never protected in the initial handshake) -/
theorem handleRecord_ccs (O : Session.Ops Dec) (m : Bool) (s : Session.St Dec) (r : Session.Rec) (srv : Bool)
    (ht : r.typ = some 0x14) {cls : CipherClass} {macLen : Nat} {x : Snd} {bf : Bool → Bytes}
    (hs : ReadyB cls macLen x s bf) :
    let s' := Session.handleRecord O m s r srv
    ReadyB cls macLen x s' bf ∧ ccOf s' srv = true ∧ ccOf s' (!srv) = ccOf s (!srv) ∧
    s'.traffic = s.traffic ++ if m then [⟨some r.raw, r, srv, false⟩] else [] := by
  -- `ccsRecord` sets the one flag of the direction, `pushMeta` appends at most the record itself
  intro s'
  have e : s' = Session.pushMeta m (Session.ccsRecord s srv) r srv := Session.handleRecord_changeCipherSpec O m s r srv ht
  rw [e]
  refine ⟨hs.of_eq ?_ ?_ ?_ ?_ ?_, ?_, ?_, ?_⟩ <;> cases srv <;> cases m <;> first | rfl | exact (List.append_nil _).symm

/-- the Finished of a direction whose ChangeCipherSpec was seen, SSL 3.0 – TLS 1.2. With `-a` the plaintext is exported
    too, unless it is empty (`if decrypted_data:`), and then the record. -/
theorem handleRecord_hsEnc (H : Crypto.Prims) (P : Prims) (L : SealLaws P) (kl : List Keylog.Key) (cls : CipherClass)
    (h13 : cls.is13 = false) (macLen : Nat) (ver : Bytes) (hv : ver.length = 2) (x : Snd) (s : Session.St Dec)
    {bf : Bool → Bytes} (hs : ReadyB cls macLen x s bf) (srv : Bool) (hcc : ccOf s srv = true) (body : Bytes) (f : Fresh)
    (hok : SendOk cls macLen body f) (hq : x.c.seq < seqLimit ∧ x.s.seq < seqLimit) (m : Bool) (car : List Nat) :
    let o := protect P L cls ver (x.get srv) 22 body f
    let s' := Session.handleRecord (Pipeline.ops H P kl) m s ⟨o.2, car⟩ srv
    s'.traffic = s.traffic ++ (if m then
        (if body = [] then [] else [⟨some body, ⟨o.2, car⟩, srv, false⟩]) ++ [⟨some o.2, ⟨o.2, car⟩, srv, false⟩] else []) ∧
      ReadyB cls macLen (x.set srv o.1) s' bf ∧ s'.srvCC = s.srvCC ∧ s'.cliCC = s.cliCC ∧
      (x.set srv o.1).c.seq ≤ max x.c.seq x.s.seq + 1 ∧ (x.set srv o.1).s.seq ≤ max x.c.seq x.s.seq + 1 := by
  have hs0 := hs
  obtain ⟨⟨hcan, ⟨v, hver, hv13⟩, d, hdec, hR⟩, hbuf⟩ := hs
  intro o s'
  obtain ⟨d', hd, h2, h3, h4⟩ := decrypt_protected H P L kl cls macLen ver hv x d hR srv 22 body f hok hq car
  rw [delivered_legacy cls h13] at hd
  change (Pipeline.ops H P kl).decrypt d ⟨o.2, car⟩ srv = _ at hd
  have hor : (s.srvCC || s.cliCC) = true := by
    cases srv <;> simp only [ccOf, if_true, Bool.false_eq_true, if_false] at hcc <;> simp [hcc]
  have hgate : (s.srvCC && srv && s.canDecrypt || s.cliCC && !srv && s.canDecrypt) = true := by
    cases srv <;> simp only [ccOf, if_true, Bool.false_eq_true, if_false] at hcc <;> simp [hcc, hcan]
  have htyp := protect_head_legacy P L cls h13 ver (x.get srv) 22 body f
  -- the Finished path: decrypt, store the decryptor, append the metadata entries
  have e : s' = Session.pushMeta m (if m && decide (body ≠ []) then
      ({ s with dec := some d' } : Session.St Dec).push ⟨some body, ⟨o.2, car⟩, srv, false⟩
      else { s with dec := some d' }) ⟨o.2, car⟩ srv := by
    show Session.handleRecord _ m s ⟨o.2, car⟩ srv = _
    rw [Session.handleRecord_handshake _ m s ⟨o.2, car⟩ srv htyp, Session.handshakeRecord, if_pos hor,
      Session.tryExcept_id_st, Session.handshakeFinished, hdec]
    simp only [hgate, if_true, hd]
    cases m
    · rfl
    · by_cases hb : body = [] <;> simp [hb, Session.Out.st]
  have r1 : ReadyB cls macLen (x.set srv o.1) s' bf := by
    rw [e]
    refine ReadyB.pushMeta ?_ m _ srv
    split
    · exact (hs0.setDec h2).push _
    · exact hs0.setDec h2
  -- the flags are part of the core, which the metadata entries do not touch
  have hc : s'.core = ({ s with dec := some d' } : Session.St Dec).core := by
    rw [e, Session.pushMeta_core]; split <;> rfl
  have r2 : s'.srvCC = s.srvCC ∧ s'.cliCC = s.cliCC :=
    ⟨congrArg Session.Core.srvCC hc, congrArg Session.Core.cliCC hc⟩
  refine ⟨?_, r1, r2.1, r2.2, h3, h4⟩
  rw [e]
  cases m
  · exact (List.append_nil _).symm
  · by_cases hb : body = [] <;> simp [hb, Session.pushMeta, Session.St.push]

/-- a handshake message: `(msg_type, body)`; framed by `Spec.TlsHello.handshake` (RFC 8446 §4) -/
abbrev HsMsg := UInt8 × Bytes

def encMsg (m : HsMsg) : Bytes := Spec.TlsHello.handshake m.1.toNat m.2
def encMsgs (ms : List HsMsg) : Bytes := ms.flatMap encMsg
/-- `uint24 length` -/
def MsgOk (m : HsMsg) : Prop := m.2.length < 16777216
instance (m : HsMsg) : Decidable (MsgOk m) := by unfold MsgOk; infer_instance
/-- number of Finished messages (type 20) -/
def finCount (ms : List HsMsg) : Nat := (ms.filter (fun m => m.1 = 20)).length

theorem encMsg_eq (m : HsMsg) : encMsg m = m.1 :: (Spec.TlsHello.u24 m.2.length ++ m.2) := by
  rw [encMsg, Lemmas.TlsHello.handshake_eq_cons, UInt8.ofNat_toNat]

theorem slice_mid (a b c : Bytes) (t : UInt8) (hb : b.length = 3) :
    Bytes.slice (a ++ (t :: (b ++ c))) (a.length + 1) (a.length + 4) = b :=
  ((At.append a (t :: (b ++ c))).next.field b _ (by rw [hb])).1

/-- what the loop of `handle_decrypted_tls_13_handshake_record` does over whole messages: one `update_keys` per
    Finished, in order, stopping at the first one that raises -/
def updFold {δ : Type} (O : Session.Ops δ) (srv : Bool) : δ → List HsMsg → δ × Bool
  | d, [] => (d, true)
  | d, m :: ms =>
    if m.1 = 20 then
      match O.updateKeys d srv with
      | (d', true) => updFold O srv d' ms
      | (d', false) => (d', false)
    else updFold O srv d ms

/-- the pure part of the loop of `handle_decrypted_tls_13_handshake_record`: the types of the whole
    messages at the front of the buffer, and what is left in the buffer -/
def consume : Nat → Bytes → List UInt8 × Bytes
  | 0, buf => ([], buf)
  | fuel + 1, buf =>
    if buf.length < 4 then ([], buf)
    else
      match buf.head? with
      | none => ([], buf)
      | some t =>
        if buf.length < Bytes.beNat (Bytes.slice buf 1 4) + 4 then ([], buf)
        else (t :: (consume fuel (buf.drop (Bytes.beNat (Bytes.slice buf 1 4) + 4))).1,
              (consume fuel (buf.drop (Bytes.beNat (Bytes.slice buf 1 4) + 4))).2)

/-- no whole message at the front: fewer than 4 bytes, or fewer than the header announces -/
def Incomplete (t : Bytes) : Prop := t.length < 4 ∨ t.length < Bytes.beNat (Bytes.slice t 1 4) + 4

instance (t : Bytes) : Decidable (Incomplete t) := by unfold Incomplete; infer_instance

/-- `updFold` takes whole messages and reads only their types; `consume` yields types, hence the empty bodies -/
theorem hs13Loop_consume {δ : Type} (O : Session.Ops δ) (srv : Bool) :
    ∀ (fuel : Nat) (buf : Bytes) (d d' : δ),
      updFold O srv d ((consume fuel buf).1.map fun t => ((t, []) : HsMsg)) = (d', true) →
      Session.hs13Loop O srv fuel buf d = (d', (consume fuel buf).2, true) := by
  intro fuel
  induction fuel with
  | zero => intro buf d d' h; simp only [consume, List.map_nil, updFold, Prod.mk.injEq] at h; simp [Session.hs13Loop, consume, h.1]
  | succ n ih =>
    intro buf d d' h
    rw [Session.hs13Loop]
    rw [consume] at h ⊢
    by_cases h4 : buf.length < 4
    · simp only [h4, if_true, List.map_nil, updFold, Prod.mk.injEq] at h ⊢; simp [h.1]
    · simp only [h4, if_false] at h ⊢
      cases hh : buf.head? with
      | none => simp only [hh, List.map_nil, updFold, Prod.mk.injEq] at h ⊢; simp [h.1]
      | some t =>
        simp only [hh] at h ⊢
        by_cases hl : buf.length < Bytes.beNat (Bytes.slice buf 1 4) + 4
        · simp only [hl, if_true, List.map_nil, updFold, Prod.mk.injEq] at h ⊢; simp [h.1]
        · simp only [hl, if_false, List.map_cons, updFold] at h ⊢
          by_cases h20 : t = 20
          · simp only [h20, if_true] at h ⊢
            rcases hu : O.updateKeys d srv with ⟨d1, ok⟩
            rw [hu] at h
            cases ok
            · simp at h
            · simp only at h ⊢
              exact ih _ _ _ h
          · simp only [h20, if_false] at h ⊢
            exact ih _ _ _ h

theorem consume_msgs (ms : List HsMsg) (hok : ∀ m ∈ ms, MsgOk m) (t : Bytes) (ht : Incomplete t) (fuel : Nat)
    (hf : ms.length ≤ fuel) : consume fuel (encMsgs ms ++ t) = (ms.map (·.1), t) := by
  induction ms generalizing fuel with
  | nil =>
    simp only [encMsgs, List.flatMap_nil, List.nil_append, List.map_nil]
    cases fuel with
    | zero => rfl
    | succ n =>
      rw [consume]
      by_cases h4 : t.length < 4
      · simp [h4]
      · have hl : t.length < Bytes.beNat (Bytes.slice t 1 4) + 4 := by rcases ht with h | h; exact absurd h h4; exact h
        simp only [h4, if_false]
        cases hh : t.head? with
        | none => rfl
        | some t0 => simp [hl]
  | cons m ms ih =>
    cases fuel with
    | zero => simp at hf
    | succ n =>
      have hbuf : encMsgs (m :: ms) ++ t = [m.1] ++ (Spec.TlsHello.u24 m.2.length ++ (m.2 ++ (encMsgs ms ++ t))) := by
        simp [encMsgs, encMsg_eq, List.append_assoc]
      obtain ⟨-, c1⟩ := (At.start hbuf).field [m.1] 1 rfl
      obtain ⟨e1, c2⟩ := c1.field (Spec.TlsHello.u24 m.2.length) 4 (by rw [Lemmas.TlsHello.u24_length])
      obtain ⟨-, c3⟩ := c2.field m.2 (m.2.length + 4) (Nat.add_comm ..)
      have hl := c3.length
      have hhead : (encMsgs (m :: ms) ++ t).head? = some m.1 := by rw [hbuf]; rfl
      rw [consume]
      simp only [show ¬ (encMsgs (m :: ms) ++ t).length < 4 by omega, if_false, hhead, e1,
        Lemmas.TlsHello.beNat_u24 _ (hok m (by simp)), show ¬ (encMsgs (m :: ms) ++ t).length < m.2.length + 4 by omega, c3.2]
      rw [ih (fun m' h' => hok m' (by simp [h'])) n (by simpa using hf)]
      rfl

theorem encMsgs_length_ge (ms : List HsMsg) : ms.length ≤ (encMsgs ms).length := by
  induction ms with
  | nil => simp
  | cons m ms ih => simp only [encMsgs, List.flatMap_cons, List.length_append, encMsg_eq, List.length_cons] at ih ⊢; omega

/-! ### the loop as a streaming function

`hsRem b` is what the loop leaves in the buffer when it is given `b`, `hsTypes b` the types of the whole messages it walks,
`hsFins b` how many of them are Finished. For ARBITRARY bytes (no message list, no encoder) the loop on a concatenation is the
loop on what the first part left, followed by the second (`consume_append`): feeding a stream in pieces, as the records bring
it, is feeding it at once (`foldl_hsRem`). -/

def hsRem (b : Bytes) : Bytes := (consume b.length b).2
def hsTypes (b : Bytes) : List UInt8 := (consume b.length b).1
def hsFins (b : Bytes) : Nat := ((hsTypes b).filter (· = 20)).length

/-- any fuel that covers the buffer gives the same run (a round drops at least 4 bytes) -/
theorem consume_fuel (n : Nat) : ∀ (fuel : Nat) (buf : Bytes), buf.length ≤ n → n ≤ fuel → consume fuel buf = consume n buf := by
  induction n with
  | zero =>
    intro fuel buf hb _
    have : buf = [] := List.eq_nil_of_length_eq_zero (by omega)
    subst this
    cases fuel <;> rfl
  | succ n ih =>
    intro fuel buf hb hf
    obtain ⟨f, rfl⟩ : ∃ f, fuel = f + 1 := ⟨fuel - 1, by omega⟩
    rw [consume, consume]
    by_cases h4 : buf.length < 4
    · simp only [h4, if_true]
    · simp only [h4, if_false]
      cases buf.head? with
      | none => rfl
      | some t =>
        simp only
        by_cases hl : buf.length < Bytes.beNat (Bytes.slice buf 1 4) + 4
        · simp only [hl, if_true]
        · simp only [hl, if_false]
          rw [ih f _ (by rw [List.length_drop]; omega) (by omega)]

theorem consume_eq (fuel : Nat) (buf : Bytes) (h : buf.length ≤ fuel) : consume fuel buf = (hsTypes buf, hsRem buf) :=
  consume_fuel buf.length fuel buf (Nat.le_refl _) h

theorem consume_incomplete (fuel : Nat) (b : Bytes) (h : Incomplete b) : consume fuel b = ([], b) := by
  cases fuel with
  | zero => rfl
  | succ f =>
    rw [consume]
    by_cases h4 : b.length < 4
    · rw [if_pos h4]
    · rw [if_neg h4]
      have hl := h.resolve_left h4
      cases b.head? with
      | none => rfl
      | some t => simp only; rw [if_pos hl]

theorem consume_whole (b : Bytes) (h : ¬ Incomplete b) :
    ∃ t, b.head? = some t ∧ hsTypes b = t :: hsTypes (b.drop (Bytes.beNat (Bytes.slice b 1 4) + 4)) ∧
      hsRem b = hsRem (b.drop (Bytes.beNat (Bytes.slice b 1 4) + 4)) := by
  have h4 : ¬ b.length < 4 := fun h' => h (.inl h')
  have hl : ¬ b.length < Bytes.beNat (Bytes.slice b 1 4) + 4 := fun h' => h (.inr h')
  obtain ⟨t, hd⟩ : ∃ t, b.head? = some t := by cases b with | nil => simp at h4 | cons t r => exact ⟨t, rfl⟩
  obtain ⟨m, hm⟩ : ∃ m, b.length = m + 1 := ⟨b.length - 1, by omega⟩
  have step : consume b.length b = (t :: hsTypes (b.drop (Bytes.beNat (Bytes.slice b 1 4) + 4)),
      hsRem (b.drop (Bytes.beNat (Bytes.slice b 1 4) + 4))) := by
    rw [hm, consume]
    simp only [h4, if_false, hd, hl]
    rw [consume_eq m _ (by rw [List.length_drop]; omega)]
  exact ⟨t, hd, show (consume _ b).1 = _ by rw [step], show (consume _ b).2 = _ by rw [step]⟩

/-- **the streaming law**: the second part meets what the first part left -/
theorem consume_append (b c : Bytes) :
    hsTypes (b ++ c) = hsTypes b ++ hsTypes (hsRem b ++ c) ∧ hsRem (b ++ c) = hsRem (hsRem b ++ c) := by
  generalize hn : b.length = n
  induction n using Nat.strongRecOn generalizing b with
  | _ n ih =>
    by_cases hinc : Incomplete b
    · -- nothing whole at the front of `b`: it is left as it is
      have hb := consume_incomplete b.length b hinc
      rw [show hsTypes b = [] from congrArg Prod.fst hb, show hsRem b = b from congrArg Prod.snd hb]
      exact ⟨rfl, rfl⟩
    · -- a whole message at the front: it is walked in `b` and in `b ++ c` alike
      have h4 : ¬ b.length < 4 := fun h => hinc (.inl h)
      have hl : ¬ b.length < Bytes.beNat (Bytes.slice b 1 4) + 4 := fun h => hinc (.inr h)
      have hs : Bytes.slice (b ++ c) 1 4 = Bytes.slice b 1 4 := Bytes.slice_left b c 1 4 (by omega)
      have hinc' : ¬ Incomplete (b ++ c) := by
        unfold Incomplete; rw [hs, List.length_append]; omega
      obtain ⟨t, hd, tb, rb⟩ := consume_whole b hinc
      obtain ⟨t', hd', tbc, rbc⟩ := consume_whole (b ++ c) hinc'
      rw [List.head?_append, hd, Option.some_or, Option.some.injEq] at hd'
      subst hd'
      rw [hs, List.drop_append_of_le_length (by omega)] at tbc rbc
      obtain ⟨i1, i2⟩ := ih _ (by rw [List.length_drop]; omega) (b.drop (Bytes.beNat (Bytes.slice b 1 4) + 4)) rfl
      rw [tb, rb, tbc, rbc, i1, i2]
      exact ⟨rfl, rfl⟩

theorem foldl_hsRem (frs : List Bytes) (t : Bytes) :
    frs.foldl (fun buf f => (consume (buf ++ f).length (buf ++ f)).2) (hsRem t) = hsRem (t ++ frs.flatten) := by
  induction frs generalizing t with
  | nil => rw [List.flatten_nil, List.append_nil]; rfl
  | cons f fr ih =>
    rw [List.foldl_cons, List.flatten_cons, ← List.append_assoc, ← ih (t ++ f)]
    exact congrArg (fun x => fr.foldl _ x) (consume_append t f).2.symm

theorem hsFins_append (b c : Bytes) : hsFins (b ++ c) = hsFins b + hsFins (hsRem b ++ c) := by
  unfold hsFins
  rw [(consume_append b c).1, List.filter_append, List.length_append]

theorem hs_msgs (ms : List HsMsg) (hok : ∀ m ∈ ms, MsgOk m) (t : Bytes) (ht : Incomplete t) :
    hsTypes (encMsgs ms ++ t) = ms.map (·.1) ∧ hsRem (encMsgs ms ++ t) = t ∧ hsFins (encMsgs ms ++ t) = finCount ms := by
  have hc := consume_msgs ms hok t ht (encMsgs ms ++ t).length (by
    have := encMsgs_length_ge ms; simp only [List.length_append]; omega)
  have e1 : hsTypes (encMsgs ms ++ t) = ms.map (·.1) := congrArg Prod.fst hc
  refine ⟨e1, congrArg Prod.snd hc, ?_⟩
  unfold hsFins finCount
  rw [e1, List.filter_map, List.length_map]
  rfl

theorem finCount_cons (m : HsMsg) (ms : List HsMsg) :
    finCount (m :: ms) = (if m.1 = 20 then 1 else 0) + finCount ms := by
  unfold finCount
  by_cases h : m.1 = 20 <;> simp [h]; omega

theorem updFold_rel (H : Crypto.Prims) (P : Prims) (L : SealLaws P) (kl : List Keylog.Key) (cls : CipherClass)
    (h13 : cls.is13 = true) (macLen : Nat) (ver : Bytes) (hv : ver.length = 2) (srv : Bool) (ms : List HsMsg)
    (x : Snd) (d : Dec) (hR : Rel cls macLen x d) (hq : max x.c.seq x.s.seq + finCount ms ≤ seqLimit) :
    ∃ d', updFold (Pipeline.ops H P kl) srv d ms = (d', true) ∧
      Rel cls macLen (after P L cls ver x (List.replicate (finCount ms) (.switch srv))) d' ∧
      max (after P L cls ver x (List.replicate (finCount ms) (.switch srv))).c.seq
          (after P L cls ver x (List.replicate (finCount ms) (.switch srv))).s.seq
        ≤ max x.c.seq x.s.seq + finCount ms := by
  induction ms generalizing x d with
  | nil => exact ⟨d, rfl, hR, by simp [finCount, after]⟩
  | cons m ms ih =>
    rw [finCount_cons] at hq ⊢
    by_cases h : m.1 = 20
    · simp only [h, if_true] at hq ⊢
      obtain ⟨h1, h2, h3, h4⟩ := step_exact P L cls macLen ver hv x d hR (.switch srv) h13 (by omega)
      have hw : (step P L cls ver x (.switch srv)).2 = .switch srv := rfl
      rw [hw] at h1 h2
      obtain ⟨d', e1, e2, e3⟩ := ih (step P L cls ver x (.switch srv)).1 (recvStep P d (.switch srv)).1 h2 (by omega)
      refine ⟨d', ?_, ?_, ?_⟩
      · simp only [updFold, h, if_true, ops_updateKeys, h1, expected, isSwitched]
        exact e1
      · rw [Nat.add_comm, List.replicate_succ]; exact e2
      · rw [Nat.add_comm 1, List.replicate_succ]
        simp only [after, List.foldl_cons] at e3 ⊢
        omega
    · simp only [h, if_false, Nat.zero_add] at hq ⊢
      obtain ⟨d', e1, e2, e3⟩ := ih x d hR hq
      exact ⟨d', by simp only [updFold, h, if_false]; exact e1, e2, e3⟩

theorem sendOk_13 (cls : CipherClass) (h13 : cls.is13 = true) (macLen : Nat) (pt : Bytes) (f : Fresh) :
    SendOk cls macLen pt f := by
  cases cls <;> first | trivial | cases h13

theorem evOk_13 (cls : CipherClass) (h13 : cls.is13 = true) (macLen : Nat) (e : Ev) : EvOk cls macLen e := by
  cases e with
  | send srv typ pt f => exact sendOk_13 cls h13 macLen pt f
  | switch srv => exact h13

theorem finCount_types (l : List UInt8) : finCount (l.map fun t => ((t, []) : HsMsg)) = (l.filter (· = 20)).length := by
  unfold finCount
  rw [List.filter_map, List.length_map]
  rfl

/-- **the session's handshake buffer is `hsRem`**: a protected TLS 1.3 handshake record carrying ANY bytes `b` (nothing is
    assumed about how `b` sits in a message stream); every Finished thereby completed switches that direction's keys. -/
theorem handleRecord_frag_any (H : Crypto.Prims) (P : Prims) (L : SealLaws P) (kl : List Keylog.Key) (cls : CipherClass)
    (h13 : cls.is13 = true) (macLen : Nat) (ver : Bytes) (hv : ver.length = 2) (x : Snd) (s : Session.St Dec)
    {bf : Bool → Bytes} (hs : ReadyB cls macLen x s bf) (srv : Bool) (b : Bytes) (f : Fresh)
    (hq : max x.c.seq x.s.seq + (1 + hsFins (bf srv ++ b)) ≤ seqLimit) (m : Bool) (car : List Nat) :
    let o := protect P L cls ver (x.get srv) 22 b f
    let x' := after P L cls ver (x.set srv o.1) (List.replicate (hsFins (bf srv ++ b)) (.switch srv))
    (Session.handleRecord (Pipeline.ops H P kl) m s ⟨o.2, car⟩ srv).traffic = s.traffic ∧
      ReadyB cls macLen x' (Session.handleRecord (Pipeline.ops H P kl) m s ⟨o.2, car⟩ srv) (upd bf srv (hsRem (bf srv ++ b))) ∧
      max x'.c.seq x'.s.seq ≤ max x.c.seq x.s.seq + (1 + hsFins (bf srv ++ b)) := by
  have hs0 := hs
  obtain ⟨⟨hcan, ⟨v, hver, hv13⟩, d, hdec, hR⟩, hbuf⟩ := hs
  intro o x'
  obtain ⟨d1, hd, h2, h3, h4⟩ := decrypt_protected H P L kl cls macLen ver hv x d hR srv 22 b f
    (sendOk_13 cls h13 macLen _ f) (by omega) car
  change (x.set srv o.1).c.seq ≤ _ at h3
  change (x.set srv o.1).s.seq ≤ _ at h4
  rw [delivered_13 cls h13] at hd
  rw [hv13.mpr h13] at hver
  have hfc := finCount_types (hsTypes (bf srv ++ b))
  obtain ⟨d', e1, e2, e3⟩ := updFold_rel H P L kl cls h13 macLen ver hv srv
    ((hsTypes (bf srv ++ b)).map fun t => ((t, []) : HsMsg)) (x.set srv o.1) d1 h2 (by rw [hfc]; unfold hsFins at hq; omega)
  rw [hfc] at e2 e3
  have hloop := hs13Loop_consume (Pipeline.ops H P kl) srv (bf srv ++ b).length (bf srv ++ b) d1 d' e1
  have heq : Session.handleRecord (Pipeline.ops H P kl) m s ⟨o.2, car⟩ srv
      = ({ s with dec := some d' } : Session.St Dec).setHsBuf srv (hsRem (bf srv ++ b)) := by
    rw [Session.handleRecord_appData _ m s ⟨o.2, car⟩ srv (protect_head_13 P L cls h13 ver _ 22 _ f),
      Session.appRecord_13 _ _ srv hcan hdec hver, Session.app13_inner _ b 22 f.pad13 (by decide) hdec hd, hbuf srv,
      if_pos rfl, hloop]
    rfl
  change max x'.c.seq x'.s.seq ≤ _ at e3
  rw [heq]
  exact ⟨Session.setHsBuf_traffic _ srv _, (hs0.setDec e2).setHsBuf srv _, by unfold hsFins; omega⟩

theorem handleRecord_hs13 (H : Crypto.Prims) (P : Prims) (L : SealLaws P) (kl : List Keylog.Key) (cls : CipherClass)
    (h13 : cls.is13 = true) (macLen : Nat) (ver : Bytes) (hv : ver.length = 2) (x : Snd) (s : Session.St Dec)
    (hs : Ready cls macLen x s) (srv : Bool) (ms : List HsMsg) (f : Fresh) (hms : ∀ m ∈ ms, MsgOk m)
    (hq : max x.c.seq x.s.seq + (1 + finCount ms) ≤ seqLimit) (m : Bool) (car : List Nat) :
    let o := protect P L cls ver (x.get srv) 22 (encMsgs ms) f
    let x' := after P L cls ver (x.set srv o.1) (List.replicate (finCount ms) (.switch srv))
    (Session.handleRecord (Pipeline.ops H P kl) m s ⟨o.2, car⟩ srv).traffic = s.traffic ∧
      Ready cls macLen x' (Session.handleRecord (Pipeline.ops H P kl) m s ⟨o.2, car⟩ srv) ∧
      max x'.c.seq x'.s.seq ≤ max x.c.seq x.s.seq + (1 + finCount ms) := by
  obtain ⟨-, e1, e2⟩ := hs_msgs ms hms [] (Or.inl (by decide))
  rw [List.append_nil] at e1 e2
  have := handleRecord_frag_any H P L kl cls h13 macLen ver hv x s hs srv (encMsgs ms) f
    (by rw [List.nil_append, e2]; exact hq) m car
  simp only [List.nil_append, e1, e2, upd_same] at this
  exact this

/-- What an endpoint does as far as the session layer can tell: send an application-data record, or (TLS 1.3) a
    protected handshake record made of whole handshake messages — after each Finished in it the endpoint moves to its
    application traffic keys (RFC 8446 §4.4.4, §7.1: the sender's `.switch`). -/
inductive SEv
  | app (srv : Bool) (pt : Bytes) (f : Fresh)
  | hs13 (srv : Bool) (ms : List HsMsg) (f : Fresh)

def SEv.srv : SEv → Bool
  | .app srv _ _ => srv
  | .hs13 srv _ _ => srv

/-- the first event is the record; the rest are the epoch switches it entails -/
def SEv.evs : SEv → List Ev
  | .app srv pt f => [.send srv 23 pt f]
  | .hs13 srv ms f => .send srv 22 (encMsgs ms) f :: List.replicate (finCount ms) (.switch srv)

def SEv.Ok (cls : CipherClass) (macLen : Nat) : SEv → Prop
  | .app _ pt f => SendOk cls macLen pt f
  | .hs13 _ ms _ => cls.is13 = true ∧ ∀ m ∈ ms, MsgOk m

/-- what `application_traffic` has to gain for the event when `r` is the record that carried it -/
def SEv.entries : SEv → Session.Rec → List Session.Entry
  | .app srv pt _, r => [⟨some pt, r, srv, true⟩]
  | .hs13 _ _ _, _ => []

/-- the records of a wire image as `Session` gets them: the `k`-th record is carried by the packets `cars[k]` -/
def wireRecs : List Wire → List (List Nat) → List (Session.Rec × Bool)
  | [], _ => []
  | .switch _ :: ws, cs => wireRecs ws cs
  | .record srv raw :: ws, c :: cs => (⟨raw, c⟩, srv) :: wireRecs ws cs
  | .record _ _ :: _, [] => []

theorem run_switches (P : Prims) (L : SealLaws P) (cls : CipherClass) (ver : Bytes) (x : Snd) (srv : Bool) (n : Nat) :
    run P L cls ver x (List.replicate n (.switch srv)) = List.replicate n (.switch srv) := by
  induction n generalizing x with
  | zero => rfl
  | succ n ih => simp only [List.replicate_succ, run, step, ih]

theorem wireRecs_switches (srv : Bool) (n : Nat) (ws : List Wire) (cs : List (List Nat)) :
    wireRecs (List.replicate n (.switch srv) ++ ws) cs = wireRecs ws cs := by
  induction n with
  | zero => rfl
  | succ n ih => simp only [List.replicate_succ, List.cons_append, wireRecs, ih]

/-- the one record an event puts on the wire -/
def SEv.raw (P : Prims) (L : SealLaws P) (cls : CipherClass) (ver : Bytes) (x : Snd) : SEv → Bytes
  | .app srv pt f => (protect P L cls ver (x.get srv) 23 pt f).2
  | .hs13 srv ms f => (protect P L cls ver (x.get srv) 22 (encMsgs ms) f).2

theorem wireRecs_evs (P : Prims) (L : SealLaws P) (cls : CipherClass) (ver : Bytes) (x : Snd) (e : SEv)
    (ws : List Wire) (c : List Nat) (cs : List (List Nat)) :
    wireRecs (run P L cls ver x e.evs ++ ws) (c :: cs) = (⟨e.raw P L cls ver x, c⟩, e.srv) :: wireRecs ws cs := by
  cases e with
  | app srv pt f => rfl
  | hs13 srv ms f =>
    simp only [SEv.evs, run, step, run_switches, List.cons_append, wireRecs, wireRecs_switches]
    rfl

theorem handleRecord_sev (H : Crypto.Prims) (P : Prims) (L : SealLaws P) (kl : List Keylog.Key) (cls : CipherClass)
    (macLen : Nat) (ver : Bytes) (hv : ver.length = 2) (x : Snd) (s : Session.St Dec) (hs : Ready cls macLen x s)
    (e : SEv) (he : e.Ok cls macLen) (hq : max x.c.seq x.s.seq + e.evs.length ≤ seqLimit) (m : Bool) (car : List Nat) :
    let r : Session.Rec := ⟨e.raw P L cls ver x, car⟩
    let x' := after P L cls ver x e.evs
    (Session.handleRecord (Pipeline.ops H P kl) m s r e.srv).traffic = s.traffic ++ e.entries r ∧
      Ready cls macLen x' (Session.handleRecord (Pipeline.ops H P kl) m s r e.srv) ∧
      max x'.c.seq x'.s.seq ≤ max x.c.seq x.s.seq + e.evs.length := by
  cases e with
  | app srv pt f =>
    obtain ⟨h1, h2, _, _, h3, h4⟩ := handleRecord_app H P L kl cls macLen ver hv x s hs srv pt f he
      (by simp only [SEv.evs, List.length_singleton] at hq; omega) m car
    exact ⟨h1, h2, by simp only [SEv.evs, List.length_singleton]; exact Nat.max_le.mpr ⟨h3, h4⟩⟩
  | hs13 srv ms f =>
    simp only [SEv.evs, List.length_cons, List.length_replicate] at hq
    obtain ⟨h1, h2, h3⟩ := handleRecord_hs13 H P L kl cls he.1 macLen ver hv x s hs srv ms f he.2 (by omega) m car
    refine ⟨by simp only [SEv.entries, List.append_nil]; exact h1, h2, ?_⟩
    simp only [SEv.evs, List.length_cons, List.length_replicate]
    have : after P L cls ver x (Ev.send srv 22 (encMsgs ms) f :: List.replicate (finCount ms) (Ev.switch srv))
        = after P L cls ver (x.set srv (protect P L cls ver (x.get srv) 22 (encMsgs ms) f).1)
            (List.replicate (finCount ms) (.switch srv)) := rfl
    rw [this]
    omega

def evSrv : Ev → Bool
  | .send srv _ _ _ => srv
  | .switch srv => srv

def evPt : Ev → Bytes
  | .send _ _ pt _ => pt
  | .switch _ => []

/-- an application-data record (content type 23) -/
def IsAppSend : Ev → Prop
  | .send _ typ _ _ => typ = 23
  | .switch _ => False

/-- `.switch` gets a dummy: `histOf` is used under `IsAppSend` only, which excludes it -/
def toSEv : Ev → SEv
  | .send srv _ pt f => .app srv pt f
  | .switch srv => .app srv [] ⟨[], [], [], 0⟩

def histOf (evs : List Ev) (cars : List (List Nat)) : List (SEv × List Nat) :=
  List.zipWith (fun e c => (toSEv e, c)) evs cars

theorem histOf_spec (cls : CipherClass) (macLen : Nat) (evs : List Ev) (cars : List (List Nat))
    (hc : cars.length = evs.length) (happ : ∀ e ∈ evs, IsAppSend e) (hev : ∀ e ∈ evs, EvOk cls macLen e) :
    (histOf evs cars).flatMap (·.1.evs) = evs ∧ (histOf evs cars).map (·.2) = cars ∧
    (histOf evs cars).length = evs.length ∧ (∀ h ∈ histOf evs cars, h.1.Ok cls macLen) ∧
    ∀ recs : List (Session.Rec × Bool),
      (List.zipWith (fun (e : SEv × List Nat) (r : Session.Rec × Bool) => e.1.entries r.1) (histOf evs cars) recs).flatten
        = List.zipWith (fun e (r : Session.Rec × Bool) => (⟨some (evPt e), r.1, evSrv e, true⟩ : Session.Entry)) evs recs := by
  induction evs generalizing cars with
  | nil =>
    cases cars with
    | nil => simp [histOf]
    | cons c cs => simp at hc
  | cons e es ih =>
    cases cars with
    | nil => simp at hc
    | cons c cs =>
      obtain ⟨i1, i2, i3, i4, i5⟩ := ih cs (by simpa using hc) (fun e' h' => happ e' (by simp [h']))
        (fun e' h' => hev e' (by simp [h']))
      have he := happ e (by simp)
      have hk := hev e (by simp)
      cases e with
      | switch srv => exact absurd he (by simp [IsAppSend])
      | send srv typ pt f =>
        simp only [IsAppSend] at he
        subst he
        simp only [histOf, List.zipWith_cons_cons] at i1 i2 i3 i4 i5 ⊢
        refine ⟨by rw [List.flatMap_cons, i1]; rfl, by simp [i2], by simp [i3], ?_, ?_⟩
        · intro h hh
          rcases List.mem_cons.mp hh with rfl | hh
          · exact hk
          · exact i4 h hh
        · intro recs
          cases recs with
          | nil => simp
          | cons r rs => simp only [List.zipWith_cons_cons, List.flatten_cons, i5]; rfl

theorem protect_app (P : Prims) (L : SealLaws P) (cls : CipherClass) (ver : Bytes) (sd : SDir) (typ : UInt8)
    (pt : Bytes) (f : Fresh) :
    (protect P L cls ver sd typ pt f).1.appKey = sd.appKey ∧ (protect P L cls ver sd typ pt f).1.appIv = sd.appIv := by
  cases cls <;> exact ⟨rfl, rfl⟩

theorem after_two_flights (P : Prims) (L : SealLaws P) (cls : CipherClass) (ver : Bytes) (x : Snd)
    (sfl cfl : List HsMsg) (fs fc : Fresh) (h1 : finCount sfl = 1) (h2 : finCount cfl = 1) :
    let x' := after P L cls ver x ((SEv.hs13 true sfl fs).evs ++ (SEv.hs13 false cfl fc).evs)
    x'.c = { x.c with key := x.c.appKey, iv := x.c.appIv, seq := 0,
                      last := (protect P L cls ver x.c 22 (encMsgs cfl) fc).1.last,
                      off := (protect P L cls ver x.c 22 (encMsgs cfl) fc).1.off } ∧
    x'.s = { x.s with key := x.s.appKey, iv := x.s.appIv, seq := 0,
                      last := (protect P L cls ver x.s 22 (encMsgs sfl) fs).1.last,
                      off := (protect P L cls ver x.s 22 (encMsgs sfl) fs).1.off } := by
  have pa := fun sd pt f => protect_app P L cls ver sd 22 pt f
  simp only [SEv.evs, h1, h2, List.replicate_one, List.cons_append, List.nil_append, after, List.foldl_cons,
    List.foldl_nil, step, Snd.set, Snd.get, switchToApp, if_true, Bool.false_eq_true, if_false, pa]
  exact ⟨trivial, trivial⟩

/-- `Session.decrypt()`'s view of an `application_traffic` entry: data, capture times of the carriers, direction
    (the lambda inside `Pipeline.connOut`, `ts id = (info id).ts`) -/
def toRec (ts : Nat → Nat) (e : Session.Entry) : TcpOut.Rec := ⟨e.data, e.record.carriers.map ts, e.fromServer⟩

/-- the sender's application plaintext of one direction, concatenated in order -/
def plainOf (dir : Bool) (evs : List Ev) : Bytes := (evs.filter (fun e => evSrv e == dir)).flatMap evPt

theorem dirBytes_entries (dir : Bool) (ts : Nat → Nat) (evs : List Ev) (recs : List (Session.Rec × Bool))
    (hl : recs.length = evs.length) :
    Props.C06.dirBytes dir
      ((List.zipWith (fun e (r : Session.Rec × Bool) => (⟨some (evPt e), r.1, evSrv e, true⟩ : Session.Entry)) evs recs).map
        (toRec ts)) = plainOf dir evs := by
  induction evs generalizing recs with
  | nil => simp [Props.C06.dirBytes, plainOf]
  | cons e es ih =>
    cases recs with
    | nil => simp at hl
    | cons r rs =>
      have := ih rs (by simpa using hl)
      simp only [Props.C06.dirBytes, plainOf, List.zipWith_cons_cons, List.map_cons, List.filter_cons,
        List.map_zipWith, toRec] at this ⊢
      by_cases h : evSrv e = dir
      · simp only [h, beq_self_eq_true, if_true, List.flatMap_cons, this, TcpOut.Rec.bytes, Option.getD_some]
      · have h' : (evSrv e == dir) = false := by simpa using h
        simp only [h', Bool.false_eq_true, if_false, this]

theorem zipWith_entries_record (evs : List Ev) (recs : List (Session.Rec × Bool)) :
    ∀ en ∈ List.zipWith (fun e (r : Session.Rec × Bool) => (⟨some (evPt e), r.1, evSrv e, true⟩ : Session.Entry)) evs recs,
      ∃ r ∈ recs, en.record = r.1 := by
  intro en hen
  rw [← List.map_uncurry_zip_eq_zipWith] at hen
  obtain ⟨⟨e, r⟩, hz, rfl⟩ := List.mem_map.mp hen
  exact ⟨r, (List.of_mem_zip hz).2, rfl⟩

theorem wireRecs_carriers (ws : List Wire) (cars : List (List Nat)) :
    ∀ r ∈ wireRecs ws cars, r.1.carriers ∈ cars := by
  induction ws generalizing cars with
  | nil => simp [wireRecs]
  | cons w ws ih =>
    cases w with
    | switch srv => simp only [wireRecs]; exact ih cars
    | record srv raw =>
      cases cars with
      | nil => simp [wireRecs]
      | cons c cs =>
        intro r hr
        simp only [wireRecs, List.mem_cons] at hr ⊢
        rcases hr with rfl | hr
        · exact Or.inl rfl
        · exact Or.inr (ih cs r hr)

open TLX.Reassembly TLX.Lemmas.Metadata in
/-- `C05.metadata_is_overlap` gives the carriers for non-empty packets; non-emptiness is not needed for there to be
    one: the packet that holds the record's first byte always passes the source's test
    `index < end and index + record_len > start` -/
theorem flush_carriers_nonempty (buf : List Seg) (recs : List Reassembly.Rec) (h : flush buf = some recs) :
    ∀ r ∈ recs, r.2 ≠ [] := by
  intro r hr
  obtain ⟨j, hj, rfl⟩ := List.getElem_of_mem hr
  unfold flush at h
  by_cases hnd : needData (bufData buf) 0 = true
  · rw [if_pos hnd] at h; cases h
  · rw [if_neg hnd] at h
    simp only [Option.some.injEq] at h
    subst h
    have hnd' : needData (bufData buf) 0 = false := by simpa using hnd
    obtain ⟨hc, h5, hin⟩ := records_spec (bufData buf) (ranges buf 0) 0 (Nat.zero_le _) hnd' j hj
    simp only [Nat.zero_add] at hc h5 hin
    rw [hc, carriers_ranges]
    obtain ⟨i, hi, h1, h2⟩ := exists_seg_of_pos buf
      ((((records (bufData buf) (ranges buf 0) 0).take j).map (·.1.length)).sum) buf.length (Nat.le_refl _)
      (by rw [segStart_length]; omega)
    intro hnil
    rw [List.map_eq_nil_iff, List.filter_eq_nil_iff] at hnil
    apply hnil i (List.mem_range.mpr hi)
    simp only [Bool.and_eq_true, decide_eq_true_eq]
    omega

open TLX.Reassembly in
theorem deliver_out (W : Nat) (st : Reassembly.St) (base : Nat) (buf : List Seg) :
    (deliver W st base buf).out = st.out ∨
      ∃ b recs, flush b = some recs ∧ (deliver W st base buf).out = st.out ++ recs := by
  unfold deliver
  cases buf with
  | nil => exact Or.inl rfl
  | cons h t =>
    let Q : Reassembly.St → Prop := fun x => x.out = st.out ∨ ∃ b recs, flush b = some recs ∧ x.out = st.out ++ recs
    refine ite_rec Q (Or.inl rfl) (ite_rec Q (Or.inl rfl) ?_)
    cases hf : flush (h :: t) with
    | none => exact Or.inl rfl
    | some recs => exact Or.inr ⟨_, recs, hf, rfl⟩

open TLX.Reassembly in
theorem stepW_out_carriers (W : Nat) (st : Reassembly.St) (p : Seg) (h : ∀ r ∈ st.out, r.2 ≠ []) :
    ∀ r ∈ (stepW W st p).out, r.2 ≠ [] := by
  unfold stepW
  split
  · exact h
  · unfold extract
    split
    · exact h
    · rcases deliver_out W { st with seen := st.seen ++ [p.seq], buf := st.buf ++ [p] }
        (baseOf W st.next _ _) (sortBy (syncKey W (baseOf W st.next _ _)) (_ :: _)) with ho | ⟨b, recs, hf, ho⟩
      · rw [ho]; exact h
      · rw [ho]
        intro r hr
        rcases List.mem_append.mp hr with hr | hr
        · exact h r hr
        · exact flush_carriers_nonempty b recs hf r hr

/-- the reassembly half of `Pipeline.feedPkt`: new reassembly states (client, server) and the records released, as
    `Session` gets them (it does not depend on the session, the key log or `-a`) -/
def reasmPkt (info : Nat → Pipeline.Info) (server : MainLoop.Endpoint) (R : Reassembly.St × Reassembly.St)
    (p : MainLoop.Pkt) : (Reassembly.St × Reassembly.St) × List (Session.Rec × Bool) :=
  let srv := p.src == server
  let seg : Reassembly.Seg := ⟨p.tag, (info p.tag).seq, p.payload⟩
  let st0 := if srv then R.2 else R.1
  let st1 := Reassembly.step { st0 with out := [] } seg
  ((if srv then (R.1, st1) else (st1, R.2)), st1.out.map fun r => (⟨r.1, r.2⟩, srv))

/-- all records of a connection in the order `get_tls_records` hands them to `handle_tls_record` -/
def released (info : Nat → Pipeline.Info) (server : MainLoop.Endpoint) :
    Reassembly.St × Reassembly.St → List MainLoop.Pkt → List (Session.Rec × Bool)
  | _, [] => []
  | R, p :: ps => (reasmPkt info server R p).2 ++ released info server (reasmPkt info server R p).1 ps

def reasmFinal (info : Nat → Pipeline.Info) (server : MainLoop.Endpoint) :
    Reassembly.St × Reassembly.St → List MainLoop.Pkt → Reassembly.St × Reassembly.St
  | R, [] => R
  | R, p :: ps => reasmFinal info server (reasmPkt info server R p).1 ps

theorem feedPkt_eq (O : Session.Ops Dec) (m : Bool) (info : Nat → Pipeline.Info) (server : MainLoop.Endpoint)
    (L : Pipeline.Live) (p : MainLoop.Pkt) :
    (Pipeline.feedPkt O m info server L p).sess = Session.run O m L.sess (reasmPkt info server (L.rc, L.rs) p).2 ∧
    ((Pipeline.feedPkt O m info server L p).rc, (Pipeline.feedPkt O m info server L p).rs)
      = (reasmPkt info server (L.rc, L.rs) p).1 := by
  unfold Pipeline.feedPkt reasmPkt Session.run
  simp only [List.foldl_map]
  cases p.src == server <;> exact ⟨rfl, rfl⟩

theorem feed_eq_run (O : Session.Ops Dec) (m : Bool) (info : Nat → Pipeline.Info) (server : MainLoop.Endpoint)
    (L : Pipeline.Live) (pkts : List MainLoop.Pkt) :
    (pkts.foldl (Pipeline.feedPkt O m info server) L).sess
      = Session.run O m L.sess (released info server (L.rc, L.rs) pkts) := by
  induction pkts generalizing L with
  | nil => rfl
  | cons p ps ih =>
    obtain ⟨h1, h2⟩ := feedPkt_eq O m info server L p
    simp only [List.foldl_cons, released]
    rw [ih, h1, Session.run_append, h2]

theorem released_append (info : Nat → Pipeline.Info) (server : MainLoop.Endpoint) (R : Reassembly.St × Reassembly.St)
    (a b : List MainLoop.Pkt) :
    released info server R (a ++ b) = released info server R a ++ released info server (reasmFinal info server R a) b := by
  induction a generalizing R with
  | nil => rfl
  | cons p ps ih => simp only [List.cons_append, released, reasmFinal, ih, List.append_assoc]

theorem released_carriers (info : Nat → Pipeline.Info) (server : MainLoop.Endpoint) (R : Reassembly.St × Reassembly.St)
    (pkts : List MainLoop.Pkt) : ∀ r ∈ released info server R pkts, r.1.carriers ≠ [] := by
  induction pkts generalizing R with
  | nil => simp [released]
  | cons p ps ih =>
    intro r hr
    simp only [released, List.mem_append] at hr
    rcases hr with hr | hr
    · simp only [reasmPkt, List.mem_map] at hr
      obtain ⟨q, hq, rfl⟩ := hr
      exact stepW_out_carriers _ _ _ (by simp) q hq
    · exact ih _ r hr

/-- what a payload-carrying exported packet shows, sequence/acknowledgement numbers aside -/
def pktData? (p : Pipeline.OutPkt) :
    Option (Nat × Bytes × Bytes × MainLoop.Endpoint × MainLoop.Endpoint × Bool × Bytes) :=
  if p.flags = 0x18 then some (p.ts, p.srcMac, p.dstMac, p.src, p.dst, p.ipv6, p.payload) else none

def dataPkts (fs : List Pipeline.OutPkt) := fs.filterMap pktData?

theorem dataPkts_addressed (o : MainLoop.Opts) (c : Pipeline.Conn) (fs : List TcpOut.Frame) :
    dataPkts (fs.map (Pipeline.addressed o c))
      = (TcpOut.dataFrames fs).filterMap fun d => pktData? (Pipeline.addressed o c ⟨d.2.1, d.1, 0x18, 0, 0, d.2.2⟩) := by
  induction fs with
  | nil => rfl
  | cons f fs ih =>
    simp only [dataPkts, TcpOut.dataFrames, List.map_cons, List.filterMap_cons] at ih ⊢
    rw [ih]
    by_cases h : f.flags = 0x18
    · cases hs : f.fromServer <;> simp [TcpOut.Frame.data?, pktData?, Pipeline.addressed, h, hs]
    · cases hs : f.fromServer <;> simp [TcpOut.Frame.data?, pktData?, Pipeline.addressed, h, hs]

theorem released_take_prefix (info : Nat → Pipeline.Info) (server : MainLoop.Endpoint)
    (R : Reassembly.St × Reassembly.St) (pkts : List MainLoop.Pkt) (n : Nat) :
    released info server R (pkts.take n) <+: released info server R pkts := by
  conv => rhs; rw [← List.take_append_drop n pkts, released_append]
  exact List.prefix_append _ _

end TLX.Lemmas.Pipeline

namespace TLX.Lemmas.Pipeline
open TLX TLX.Spec.TlsHello TLX.Lemmas.TlsHello TLX.Lemmas.Cursor

/-- an extension as the dict of `handle_tls_server_hello` keeps it: 2-byte type ↦ body -/
def extPair (e : Ext) : Bytes × Bytes := (u16 e.ty, e.body)

/-- The tool side of a connection: for this hello pair `generate_keys` installs a decryptor related to the state `x` of a
    sender of class `cls`. Suite table (C14), key log (C09) and key schedule (C15) enter a connection theorem through this
    only. The `0` is the ServerHello's `compression_method`: the theorems assume `sh.compressionMethod = 0` beside it
    (record compression is not modelled, `Pipeline.genKeys` gives `.raised` for DEFLATE). -/
def Installs (H : Crypto.Prims) (P : Cipher.Prims) (kl : List Keylog.Key) (ch : ClientHello) (sh : ServerHello)
    (v : Session.Ver) (cls : Spec.TlsSender.CipherClass) (macLen : Nat) (x : Spec.TlsSender.Snd) : Prop :=
  (v = .tls13 ↔ cls.is13 = true) ∧
  ∃ d, Pipeline.genKeys H P kl (some v) sh.cipherSuite ch.random sh.random ((sh.extensions.getD []).map extPair) 0
      = .installed d ∧ Props.C01.Rel cls macLen x d

theorem extsPayload_length_ge (es : List Ext) : 4 * es.length ≤ (extsPayload es).length := by
  induction es with
  | nil => simp [extsPayload]
  | cons e es ih =>
    rw [extsPayload_cons]
    simp only [List.length_append, u16_length, List.length_cons]
    omega

/-- the `while extensions_index < extensions_length` loop over an RFC-encoded extension block that starts at `i` -/
theorem extLoop_payload (ebin : Bytes) (es : List Ext) (hwf : ∀ e ∈ es, e.wf) (i fuel : Nat) (hf : es.length ≤ fuel)
    (acc : Session.Exts) (h : At ebin i (extsPayload es)) :
    Session.extLoop ebin ebin.length fuel i acc = acc ++ es.map extPair := by
  induction es generalizing i fuel acc with
  | nil =>
    have hl : ebin.length = i := h.length
    cases fuel with
    | zero => simp [Session.extLoop]
    | succ n => simp [Session.extLoop, hl]
  | cons e es ih =>
    cases fuel with
    | zero => simp at hf
    | succ n =>
      rw [extsPayload_cons] at h
      have hlt : i < ebin.length := by
        rw [h.length, List.length_append, u16_length]; omega
      obtain ⟨e1, c1⟩ := h.field (u16 e.ty) (i + 2) (by rw [u16_length])
      obtain ⟨e2, c2⟩ := c1.field (u16 e.body.length) (i + 4) (by rw [u16_length])
      obtain ⟨e3, c3⟩ := c2.field e.body (i + 4 + e.body.length) rfl
      rw [Session.extLoop, if_pos hlt]
      simp only [e1, e2, beNat_u16 _ (hwf e (by simp)).2, e3]
      rw [show i + e.body.length + 4 = i + 4 + e.body.length by omega,
        ih (fun e' h' => hwf e' (by simp [h'])) _ n (by simpa using hf) _ c3]
      simp [extPair]

/-- the extension block at the end of a hello (absent, or `extensions<0..2^16-1>`) as lines 367-376 read it -/
theorem extblk_parse (r : Bytes) (o : Option (List Ext)) (hwf : optExtsWf o) (i : Nat) (h : At r i (encodeOptExts o)) :
    Session.parseExts (Bytes.slice r (i + 2) (i + 2 + Bytes.beNat (Bytes.slice r i (i + 2))))
      (Bytes.beNat (Bytes.slice r i (i + 2))) = (o.getD []).map extPair := by
  cases o with
  | none =>
    have e1 : Bytes.slice r i (i + 2) = [] := h.slice 0 2
    rw [e1]
    have e2 : Bytes.slice r (i + 2) (i + 2 + Bytes.beNat []) = [] := by
      simp [Bytes.slice, Bytes.beNat]
    rw [e2]
    rfl
  | some es =>
    obtain ⟨hes, hlen⟩ := hwf
    obtain ⟨e1, c1⟩ := h.field (u16 (extsPayload es).length) (i + 2) (by rw [u16_length])
    have e2 := c1.slice 0 (extsPayload es).length
    rw [List.drop_zero, List.take_length] at e2
    rw [e1, beNat_u16 _ hlen, e2]
    unfold Session.parseExts
    exact extLoop_payload _ es hes 0 _ (by have := extsPayload_length_ge es; omega) [] (At.start rfl)

theorem extGet_mem (e : Session.Exts) (k v : Bytes) (h : Session.extGet e k = some v) : (k, v) ∈ e := by
  unfold Session.extGet at h
  obtain ⟨p, hp, rfl⟩ := Option.map_eq_some_iff.mp h
  have h1 := List.find?_some hp
  have h2 := List.mem_of_find?_eq_some hp
  simp only [decide_eq_true_eq] at h1
  rw [← h1]
  exact List.mem_reverse.mp h2

theorem extGet_of_unique (e : Session.Exts) (k v : Bytes) (hm : (k, v) ∈ e) (hu : ∀ p ∈ e, p.1 = k → p.2 = v) :
    Session.extGet e k = some v := by
  unfold Session.extGet
  cases hf : e.reverse.find? (fun p => decide (p.1 = k)) with
  | none =>
    have := List.find?_eq_none.mp hf (k, v) (List.mem_reverse.mpr hm)
    simp at this
  | some p =>
    have h1 := List.find?_some hf
    have h2 := List.mem_reverse.mp (List.mem_of_find?_eq_some hf)
    simp only [decide_eq_true_eq] at h1
    simp [hu p h2 h1]

theorem extGet_isSome_iff (e : Session.Exts) (k : Bytes) :
    (Session.extGet e k).isSome = true ↔ ∃ p ∈ e, p.1 = k := by
  unfold Session.extGet
  rw [Option.isSome_map, List.find?_isSome]
  simp

theorem u16_inj (a b : Nat) (ha : a < 65536) (hb : b < 65536) (h : u16 a = u16 b) : a = b := by
  rw [← beNat_u16 a ha, ← beNat_u16 b hb, h]

/-- a TLS-over-TCP record carrying one handshake message (RFC 5246 §6.2.1 TLSPlaintext): `record 22`, by `rfl` -/
def hsRecord (recVer msg : Bytes) : Bytes := Spec.TlsSender.record 22 recVer msg

theorem record_fields (typ : UInt8) (recVer msg : Bytes) (car : List Nat) (hv : recVer.length = 2) :
    (⟨Spec.TlsSender.record typ recVer msg, car⟩ : Session.Rec).typ = some typ ∧
    (⟨Spec.TlsSender.record typ recVer msg, car⟩ : Session.Rec).ver = recVer ∧
    (⟨Spec.TlsSender.record typ recVer msg, car⟩ : Session.Rec).body = msg := by
  match recVer, hv with
  | [a, b], _ =>
    have h2 := Lemmas.RecLayer.u16_length msg.length
    simp only [Spec.TlsSender.record, Session.Rec.typ, Session.Rec.ver, Session.Rec.body]
    generalize Spec.TlsSender.u16 msg.length = l at *
    match l, h2 with
    | [l1, l2], _ => exact ⟨rfl, rfl, rfl⟩

theorem hsRecord_fields (recVer msg : Bytes) (car : List Nat) (hv : recVer.length = 2) :
    (⟨hsRecord recVer msg, car⟩ : Session.Rec).typ = some 22 ∧
    (⟨hsRecord recVer msg, car⟩ : Session.Rec).ver = recVer ∧
    (⟨hsRecord recVer msg, car⟩ : Session.Rec).body = msg :=
  record_fields 22 recVer msg car hv

theorem serverHello_layout {δ : Type} (O : Session.Ops δ) (s : Session.St δ) (recVer : Bytes)
    (hrv : recVer.length = 2) (sh : ServerHello) (hwf : sh.WellFormed) (car : List Nat) :
    Session.serverHello O s ⟨hsRecord recVer (encodeServerHello sh), car⟩ =
      Session.serverHelloKeys O
        (Session.chooseVersion (Session.latch s) (Bytes.beNat recVer) (Bytes.beNat sh.legacyVersion)
          (decide (Session.extGet ((sh.extensions.getD []).map extPair) [0x00, 0x2b] = some [0x03, 0x04])))
        sh.cipherSuite sh.random ((sh.extensions.getD []).map extPair) sh.compressionMethod := by
  obtain ⟨hlv, hrnd, hsid, hsuite, hext, hlen⟩ := hwf
  obtain ⟨_, hver, hbody⟩ := hsRecord_fields recVer (encodeServerHello sh) car hrv
  obtain ⟨e2, e3, e1, e4, e5, c⟩ := hello_fields (u8 2 ++ u24 sh.body.length) sh.legacyVersion sh.random
    sh.sessionIdEcho sh.cipherSuite (encodeOptExts sh.extensions) (encodeServerHello sh) sh.compressionMethod
    (by simp only [List.length_append, u8_length, u24_length]) hlv hrnd hsuite
    (by simp only [encodeServerHello, handshake, ServerHello.body, vec8, u8_eq, List.append_assoc, List.cons_append,
      List.nil_append])
  have e6 := extblk_parse (encodeServerHello sh) sh.extensions hext _ c
  unfold Session.serverHello
  simp only [hver, hbody, e1, toNat_ofNat _ (show sh.sessionIdEcho.length < 256 by omega)]
  generalize 38 + sh.sessionIdEcho.length + 1 = n at e4 e5 e6 ⊢
  rw [show n + 3 + 2 = n + 5 from rfl] at e6
  simp only [e2, e3, e4, e5, e6]

theorem clientHello_layout (ch : ClientHello) (hwf : ch.WellFormed) :
    Bytes.slice (encodeClientHello ch) 6 38 = ch.random ∧
    ∃ rest, encodeClientHello ch = 1 :: rest := by
  obtain ⟨hlv, hrnd, _⟩ := hwf
  refine ⟨?_, _, handshake_eq_cons 1 _⟩
  have hb : ch.body = ch.legacyVersion ++ (ch.random ++ (vec8 ch.sessionId ++ (vec16 ch.cipherSuites.flatten ++
      (vec8 ch.compression ++ encodeOptExts ch.extensions)))) := by simp only [ClientHello.body, List.append_assoc]
  obtain ⟨h4, hd⟩ := (handshake_cursor 1 ch.body).2
  obtain ⟨-, c⟩ := At.field ch.legacyVersion ⟨h4, hd.trans hb⟩ 6 (by rw [hlv])
  exact (c.field ch.random 38 (by rw [hrnd])).1

/-- The protocol version a ServerHello record announces (SSL 3.0 – TLS 1.2: RFC 6101 §5.6.1.2 / RFC 5246 §7.4.1.3,
    Appendix E.1: `server_version`, and the record layer uses the negotiated version from the ServerHello on;
    TLS 1.3: RFC 8446 §4.1.3, §4.2.1, §5.1: `legacy_version = legacy_record_version = 0x0303`, the version is in the
    `supported_versions` extension (type 43), extension types are unique in a block, §4.2). -/
def Negotiated (recVer : Bytes) (sh : ServerHello) : Session.Ver → Prop
  | .ssl30 => recVer = [3, 0] ∧ sh.legacyVersion = [3, 0]
  | .tls10 => recVer = [3, 1] ∧ sh.legacyVersion = [3, 1]
  | .tls11 => recVer = [3, 2] ∧ sh.legacyVersion = [3, 2]
  | .tls12 => recVer = [3, 3] ∧ sh.legacyVersion = [3, 3] ∧
      ∀ e ∈ sh.extensions.getD [], e.ty = 43 → e.body ≠ [3, 4]
  | .tls13 => recVer = [3, 3] ∧ sh.legacyVersion = [3, 3] ∧ ((sh.extensions.getD []).map (·.ty)).Nodup ∧
      ∃ e ∈ sh.extensions.getD [], e.ty = 43 ∧ e.body = [3, 4]

theorem nodup_map_inj {α β : Type} (f : α → β) (l : List α) (h : (l.map f).Nodup) :
    ∀ a ∈ l, ∀ b ∈ l, f a = f b → a = b := by
  induction l with
  | nil => simp
  | cons x xs ih =>
    simp only [List.map_cons, List.nodup_cons, List.mem_map, not_exists, not_and] at h
    intro a ha b hb hab
    rcases List.mem_cons.mp ha with rfl | ha' <;> rcases List.mem_cons.mp hb with rfl | hb'
    · rfl
    · exact absurd hab.symm (h.1 b hb')
    · exact absurd hab (h.1 a ha')
    · exact ih h.2 a ha' b hb' hab

theorem is13_iff (es : List Ext) (hwf : ∀ e ∈ es, e.wf) :
    ((∀ e ∈ es, e.ty = 43 → e.body ≠ [3, 4]) → Session.extGet (es.map extPair) [0x00, 0x2b] ≠ some [0x03, 0x04]) ∧
    ((es.map (·.ty)).Nodup → (∃ e ∈ es, e.ty = 43 ∧ e.body = [3, 4]) →
      Session.extGet (es.map extPair) [0x00, 0x2b] = some [0x03, 0x04]) := by
  have h43 : ([0x00, 0x2b] : Bytes) = u16 43 := by decide
  constructor
  · intro hno hget
    have := extGet_mem _ _ _ hget
    obtain ⟨e, he, hp⟩ := List.mem_map.mp this
    simp only [extPair, Prod.mk.injEq] at hp
    rw [h43] at hp
    exact hno e he (u16_inj _ _ (hwf e he).1 (by omega) hp.1) hp.2
  · rintro hnd ⟨e, he, hty, hb⟩
    apply extGet_of_unique
    · exact List.mem_map.mpr ⟨e, he, by simp [extPair, hty, hb, h43]⟩
    · intro p hp hk
      obtain ⟨e', he', rfl⟩ := List.mem_map.mp hp
      simp only [extPair] at hk ⊢
      rw [h43] at hk
      have hty' : e'.ty = e.ty := by rw [hty]; exact u16_inj _ _ (hwf e' he').1 (by omega) hk
      have : e' = e := nodup_map_inj (·.ty) _ hnd e' he' e he hty'
      rw [this, hb]

theorem chooseVersion_negotiated {δ : Type} (s : Session.St δ) (recVer : Bytes) (sh : ServerHello)
    (hwf : sh.WellFormed) (v : Session.Ver) (h : Negotiated recVer sh v) :
    Session.chooseVersion s (Bytes.beNat recVer) (Bytes.beNat sh.legacyVersion)
      (decide (Session.extGet ((sh.extensions.getD []).map extPair) [0x00, 0x2b] = some [0x03, 0x04]))
      = { s with ver := some v } := by
  have hes : ∀ e ∈ sh.extensions.getD [], e.wf := by
    obtain ⟨-, -, -, -, this, -⟩ := hwf
    cases hx : sh.extensions with
    | none => simp
    | some es => rw [hx] at this; exact this.1
  obtain ⟨h1, h2⟩ := is13_iff _ hes
  have b0 : Bytes.beNat [3, 0] = 768 := by decide
  have b1 : Bytes.beNat [3, 1] = 769 := by decide
  have b2 : Bytes.beNat [3, 2] = 770 := by decide
  have b3 : Bytes.beNat [3, 3] = 771 := by decide
  cases v with
  | ssl30 => obtain ⟨a, b⟩ := h; rw [a, b]; simp [Session.chooseVersion, b0]
  | tls10 => obtain ⟨a, b⟩ := h; rw [a, b]; simp [Session.chooseVersion, b1]
  | tls11 => obtain ⟨a, b⟩ := h; rw [a, b]; simp [Session.chooseVersion, b2]
  | tls12 =>
    obtain ⟨a, b, c⟩ := h
    rw [a, b, decide_eq_false (h1 c)]; simp [Session.chooseVersion, b3]
  | tls13 =>
    obtain ⟨a, b, c, d⟩ := h
    rw [a, b, decide_eq_true (h2 c d)]; simp [Session.chooseVersion, b3]

theorem serverHello_head (sh : ServerHello) : ∃ rest, encodeServerHello sh = 2 :: rest :=
  ⟨_, Lemmas.TlsHello.handshake_eq_cons 2 _⟩

theorem record_typ (typ : UInt8) (ver body : Bytes) (car : List Nat) :
    (⟨Spec.TlsSender.record typ ver body, car⟩ : Session.Rec).typ = some typ := by
  simp [Session.Rec.typ, Spec.TlsSender.record]

theorem record_body (typ : UInt8) (ver body : Bytes) (car : List Nat) (hv : ver.length = 2) :
    (⟨Spec.TlsSender.record typ ver body, car⟩ : Session.Rec).body = body :=
  (record_fields typ ver body car hv).2.2

theorem handle_hello_eq {δ : Type} (O : Session.Ops δ) (m : Bool) (s : Session.St δ) (r : Session.Rec) (d : Bool)
    (ht : r.typ = some 0x16) (h0 : s.srvCC = false ∧ s.cliCC = false) (t : UInt8) (rest : Bytes)
    (hb : r.body = t :: rest) (ht12 : t = 1 ∨ t = 2) :
    Session.handleRecord O m s r d = Session.pushMeta m
      (if t = 1 then Session.clientHello s r
       else (Session.tryExcept (Session.serverHello O s r) fun s' => { s' with canDecrypt := false }).st) r d := by
  rw [Session.handleRecord_handshake O m s r d ht, Session.handshakeRecord]
  simp only [h0.1, h0.2, Bool.or_self, Bool.false_eq_true, if_false, hb]
  rcases ht12 with rfl | rfl <;> rfl

theorem handle_clientHello {δ : Type} (O : Session.Ops δ) (m : Bool) (s0 : Session.St δ)
    (h0 : s0.srvCC = false ∧ s0.cliCC = false) (rv : Bytes) (hrv : rv.length = 2) (ch : ClientHello)
    (hch : ch.WellFormed) (car : List Nat) :
    Session.handleRecord O m s0 ⟨Spec.TlsSender.record 22 rv (encodeClientHello ch), car⟩ false
      = Session.pushMeta m (Session.clientHello s0 ⟨Spec.TlsSender.record 22 rv (encodeClientHello ch), car⟩)
          ⟨Spec.TlsSender.record 22 rv (encodeClientHello ch), car⟩ false := by
  obtain ⟨_, rest, hd⟩ := clientHello_layout ch hch
  exact handle_hello_eq O m s0 _ false (record_typ ..) h0 1 rest (by rw [record_body 22 rv _ car hrv, hd]) (Or.inl rfl)

theorem handle_serverHello {δ : Type} (O : Session.Ops δ) (m : Bool) (s : Session.St δ)
    (h0 : s.srvCC = false ∧ s.cliCC = false) (rv : Bytes) (hrv : rv.length = 2) (sh : ServerHello)
    (car : List Nat) :
    Session.handleRecord O m s ⟨Spec.TlsSender.record 22 rv (encodeServerHello sh), car⟩ true
      = Session.pushMeta m (Session.tryExcept
          (Session.serverHello O s ⟨Spec.TlsSender.record 22 rv (encodeServerHello sh), car⟩)
          fun s' => { s' with canDecrypt := false }).st ⟨Spec.TlsSender.record 22 rv (encodeServerHello sh), car⟩ true := by
  obtain ⟨rest, hd⟩ := serverHello_head sh
  exact handle_hello_eq O m s _ true (record_typ ..) h0 2 rest (by rw [record_body 22 rv _ car hrv, hd]) (Or.inr rfl)

theorem rl_ne13 (v : Session.Ver) (h : v ≠ .tls13) : Pipeline.rlVersion v ≠ .tls13 := by
  cases v <;> first | exact absurd rfl h | exact fun h => nomatch h

theorem classOf_legacy {bulk : Cipher.Alg} {v : Session.Ver} {etm : Bool} {tagLen : Option Nat}
    {cls : Spec.TlsSender.CipherClass} (hcls : Props.C01.classOf bulk (Pipeline.rlVersion v) etm tagLen = some cls)
    (hv : v ≠ .tls13) : cls.is13 = false := by
  rw [(Props.C01.classOf_spec _ _ _ _ cls hcls).2.2.2]; simpa using rl_ne13 v hv

theorem ServerHello.suite_length {sh : ServerHello} (h : sh.WellFormed) : sh.cipherSuite.length = 2 := h.2.2.2.1

end TLX.Lemmas.Pipeline
