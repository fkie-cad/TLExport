/-
From a described capture to the session object of its connection. `Capture` bundles what the file-level theorems assume about
the capture of ONE connection as the main loop sees it under an option vector; its lemmas are all they use of it. The central
one is `Capture.segs` (`dirSegs` of the session = `capSegs` of the capture): through it statements about the capture (TCP
delivery, packet order) give the hypotheses of the connection-level theorems.
`capSegs`, `WiresDelivered`, `FlightsFirst` are in `TLX.Lemmas.C01All`, the names the statements of `Props/C01All` are written
with; `Capture` is in `TLX.Props.C01File`, beside `CaptureFile` of `Props/C01File`, which extends it.
-/
import TLX.Lemmas.C01Full
import TLX.Props.C01Capstone2
set_option autoImplicit false
namespace TLX.Lemmas.C01All
open TLX TLX.MainLoop TLX.Lemmas.Capstone TLX.Props.C01File TLX.Spec.TlsCapture TLX.Lemmas.C01Full TLX.Reassembly
open TLX.Props.C01Capstone TLX.Spec.TlsConnection

/-- the data segments of direction `d` as the capture shows them to that direction's reassembler: (position in the capture,
    sequence-number field, payload) -/
def capSegs (d : Bool) : Nat → List CEv → List Seg
  | _, [] => []
  | n, .seg _ d' _ t :: rest =>
    if t.payload ≠ [] ∧ d' = d then ⟨n, t.seq, t.payload⟩ :: capSegs d (n + 1) rest else capSegs d (n + 1) rest
  | n, .foreign _ :: rest => capSegs d (n + 1) rest

theorem capSegs_wire (d : Bool) (n : Nat) (evs : List CEv) : (capSegs d n evs).map Props.C05.wire = dirWires d evs := by
  induction evs generalizing n with
  | nil => rfl
  | cons ev rest ih =>
    cases ev with
    | foreign e => simpa [capSegs, dirWires] using ih (n + 1)
    | seg t d' fr tcp =>
      simp only [capSegs, dirWires]
      split
      · simp [Props.C05.wire, ih (n + 1)]
      · exact ih (n + 1)

theorem dirSegs_capSegs (fl : Flow) (c : Bool) (hne : clientEp fl ≠ serverEp fl) (d : Bool) (evs : List CEv)
    (hd : DescribedX fl c evs) (n : Nat) (info : Nat → Pipeline.Info)
    (hinfo : ∀ i ev, evs[i]? = some ev → info (n + i) = infoOf ev.cap.us ev.cap.d) :
    dirSegs info (serverEp fl) d (flowPkts fl n evs) = capSegs d n evs := by
  induction evs generalizing n with
  | nil => rfl
  | cons ev rest ih =>
    have hrest := ih (fun x hx => hd x (by simp [hx])) (n + 1) (fun i ev' h => by
      have := hinfo (i + 1) ev' (by simpa using h)
      rw [show n + 1 + i = n + (i + 1) by omega]; exact this)
    have hev := hd ev (by simp)
    cases ev with
    | foreign e => simpa [flowPkts, capSegs] using hrest
    | seg t d' fr tcp =>
      have hev : IsSegX fl d' fr tcp := hev.1
      have hi : info n = ⟨tcp.seq, (CEv.seg t d' fr tcp).cap.us, fr.srcMac, fr.dstMac, fl.v6⟩ := by
        have := hinfo 0 _ rfl
        rw [Nat.add_zero] at this
        rw [this]
        exact infoOf_segX fl d' fr tcp hev _
      by_cases hp : tcp.payload = []
      · simpa [flowPkts, capSegs, hp] using hrest
      · simp only [flowPkts, hp, if_false, capSegs, ne_eq, not_false_eq_true, true_and]
        simp only [dirSegs, List.filter_cons] at hrest ⊢
        have hsrc : ((if d' then serverEp fl else clientEp fl) == serverEp fl) = d' := by
          cases d' <;> simp [hne]
        by_cases hdd : d' = d
        · subst hdd
          simp only [hsrc, beq_self_eq_true, if_true, List.map_cons, hi, hrest]
        · have : (d' == d) = false := by simpa using hdd
          simp only [hsrc, this, Bool.false_eq_true, if_false, hdd, hrest]

/-- **TCP delivery, C05's whole domain, stated on the capture**: per direction the (sequence number, data) pairs of the
    connection's data segments are a delivery of the stream — ANY cut, exact duplicates, segments displaced by up to `k`
    positions (any `k`), ANY initial sequence number (the sequence space may wrap anywhere inside the stream) — nothing is
    handed on before the segment that starts the stream has been captured (`Props.C05.NoEarlyDelivery`; it fails exactly
    when the FIRST data segment of a direction is overtaken by segments that are whole records: the open C05 finding
    `reassembly_exact_counterexample`, a recorded limit), and the stream has at most 2^31 bytes -/
def WiresDelivered (evs : List CEv) (streams : Bool → Bytes) : Prop :=
  ∀ d, (∃ k isn, Spec.TlsFraming.Delivers k isn (streams d) (dirWires d evs) ∧
      Props.C05.NoEarlyDelivery isn (capSegs d 0 evs)) ∧ (streams d).length ≤ 2 ^ 31

theorem wiresDelivered_of_inOrder (evs : List CEv) (streams : Bool → Bytes) (h : WiresInOrder evs streams) :
    WiresDelivered evs streams := by
  intro d
  obtain ⟨⟨isn, hio⟩, hl⟩ := h d
  refine ⟨⟨0, isn, hio, Props.C05.noEarly_of_head isn _ ?_⟩, hl⟩
  intro s hs
  have hio' : Spec.TlsFraming.Delivers 0 isn (streams d) ((capSegs d 0 evs).map Props.C05.wire) := by
    rw [capSegs_wire]; exact hio
  exact Lemmas.Delivery.inorder_head hio' (Props.C05.wire s) (by rw [List.head?_map, hs]; rfl)

/-- **first flights alternate, stated on the capture order of the packets**: the capture is `A ++ B ++ C` where `A` holds no
    data segment of the server and its client data segments deliver — in order: any cuts, exact duplicates, any ISN — exactly
    the ClientHello record; `B` holds no data segment of the client and its server data segments deliver whole records
    `recsB`, at least one (the ServerHello); `C` is arbitrary. Foreign packets may sit anywhere. I.e. the ClientHello is
    complete before the server's first data segment is captured, and the server's first flight ends on a record boundary
    before the client's next data segment. -/
structure FlightsFirst (evs : List CEv) (chRec : Bytes) (recsB : List Bytes) : Prop where
  split : ∃ A B C, evs = A ++ B ++ C ∧ dirWires true A = [] ∧ dirWires false B = [] ∧
    (∃ isn, Spec.TlsFraming.InOrder isn chRec (dirWires false A)) ∧
    (∃ isn, Spec.TlsFraming.InOrder isn recsB.flatten (dirWires true B))
  wholeA : WholeRecord chRec
  wholeB : ∀ r ∈ recsB, WholeRecord r
  lenA : chRec.length ≤ 2 ^ 31
  lenB : recsB.flatten.length ≤ 2 ^ 31
  neB : recsB ≠ []

theorem flowPkts_append (fl : Flow) (A B : List CEv) (n : Nat) :
    flowPkts fl n (A ++ B) = flowPkts fl n A ++ flowPkts fl (n + A.length) B := by
  induction A generalizing n with
  | nil => simp [flowPkts]
  | cons ev rest ih =>
    have e : n + (ev :: rest).length = n + 1 + rest.length := by simp only [List.length_cons]; omega
    cases ev with
    | foreign e' => simp only [List.cons_append, flowPkts, ih (n + 1), e]
    | seg t d fr tcp =>
      simp only [List.cons_append, flowPkts, ih (n + 1), e]
      split <;> simp

theorem flowPkts_dir (fl : Flow) (hne : clientEp fl ≠ serverEp fl) (d : Bool) (A : List CEv) (h : dirWires (!d) A = [])
    (n : Nat) : ∀ p ∈ flowPkts fl n A, (p.src == serverEp fl) = d := by
  induction A generalizing n with
  | nil => intro p hp; cases hp
  | cons ev rest ih =>
    cases ev with
    | foreign e => exact ih (by simpa [dirWires] using h) (n + 1)
    | seg t d' fr tcp =>
      simp only [dirWires] at h
      intro p hp
      simp only [flowPkts] at hp
      by_cases hpl : tcp.payload = []
      · rw [if_pos hpl] at hp
        rw [if_neg (by simp [hpl])] at h
        exact ih h (n + 1) p hp
      · rw [if_neg hpl] at hp
        by_cases hdd : d' = !d
        · rw [if_pos ⟨hpl, hdd⟩] at h; cases h
        · rw [if_neg (by simp [hpl, hdd])] at h
          rcases List.mem_cons.mp hp with rfl | hp
          · have : d' = d := by revert hdd; cases d <;> cases d' <;> decide
            subst this
            cases d' <;> simp [hne]
          · exact ih h (n + 1) p hp

end TLX.Lemmas.C01All

namespace TLX.Props.C01File
open TLX TLX.MainLoop TLX.Spec.Demux TLX.Lemmas.MainLoop TLX.Lemmas.Capstone TLX.Spec.TlsCapture TLX.Lemmas.C01Full
open TLX.Lemmas.C01All TLX.Props.C01Capstone TLX.Props.C01Pipeline TLX.Spec.TlsConnection

/-- **The capture of one connection as the main loop sees it under the option vector `o`**: the two endpoints differ, every
    packet of the capture is a segment of the connection (`IsSegX`; with `-c` its data segments carry valid TCP checksums)
    or foreign, the server port is a server port and the client port is not (`rolesOf` asks only whether the SOURCE port of
    the first data packet is a server port: with both ports in the list a client that sends first would be taken for the
    server), and the flow's data packets are `p0 :: rest`. -/
structure Capture (fl : Flow) (evs : List CEv) (o : Opts) (p0 : Pkt) (rest : List Pkt) : Prop where
  hne : clientEp fl ≠ serverEp fl
  hdesc : DescribedX fl o.checksumTest evs
  hsp : o.ports.contains (fl.serverPort : Int) = true
  hcp : o.ports.contains (fl.clientPort : Int) = false
  hfp : flowPkts fl 0 evs = p0 :: rest

theorem Capture.of_described {fl : Flow} {evs : List CEv} {o : Opts} {p0 : Pkt} {rest : List Pkt}
    (hne : clientEp fl ≠ serverEp fl) (hd : Described fl evs) (hc : o.checksumTest = false)
    (hsp : o.ports.contains (fl.serverPort : Int) = true) (hcp : o.ports.contains (fl.clientPort : Int) = false)
    (hfp : flowPkts fl 0 evs = p0 :: rest) : Capture fl evs o p0 rest :=
  ⟨hne, hc ▸ describedX_of_described fl evs hd, hsp, hcp, hfp⟩

section
variable {fl : Flow} {evs : List CEv} {o : Opts} {p0 : Pkt} {rest : List Pkt} (S : Capture fl evs o p0 rest)
include S

theorem Capture.flow :
    (tcpView o (itemsFromC o.checksumTest 0 (evs.map CEv.cap))).filter (sameFlow (refPkt fl)) = p0 :: rest := by
  rw [flow_filter_c fl o evs S.hdesc 0, S.hfp]

theorem Capture.roles : rolesOf o.ports p0 = (serverEp fl, clientEp fl) ∧ candidate o p0 = true := by
  obtain ⟨d, pl, tag, hp0⟩ := flowPkts_shape fl evs 0 p0 (by rw [S.hfp]; simp)
  rw [hp0]
  exact roles_of_flow fl o.ports S.hsp S.hcp d pl true tag o rfl

theorem Capture.server : (sessionOf (evs.map CEv.cap) o p0 rest).server = serverEp fl :=
  congrArg Prod.fst S.roles.1

theorem Capture.client : (sessionOf (evs.map CEv.cap) o p0 rest).client = clientEp fl :=
  congrArg Prod.snd S.roles.1

theorem Capture.segs (d : Bool) :
    dirSegs (capInfo (evs.map CEv.cap)) (sessionOf (evs.map CEv.cap) o p0 rest).server d
      (sessionOf (evs.map CEv.cap) o p0 rest).pkts = capSegs d 0 evs := by
  rw [S.server, show (sessionOf (evs.map CEv.cap) o p0 rest).pkts = flowPkts fl 0 evs by rw [S.hfp]; rfl]
  exact dirSegs_capSegs fl o.checksumTest S.hne d evs S.hdesc 0 _ fun i ev h => by
    rw [Nat.zero_add]; exact capInfo_at _ i _ (by rw [List.getElem?_map, h]; rfl)

theorem Capture.inOrder (streams : Bool → Bytes) (h : WiresInOrder evs streams) :
    DeliveredInOrder (capInfo (evs.map CEv.cap)) (sessionOf (evs.map CEv.cap) o p0 rest) streams := by
  intro d
  rw [S.segs d, capSegs_wire]
  exact h d

theorem Capture.delivered (streams : Bool → Bytes) (h : WiresDelivered evs streams) :
    DeliveredDisplaced (capInfo (evs.map CEv.cap)) (sessionOf (evs.map CEv.cap) o p0 rest) streams := by
  intro d
  rw [S.segs d, capSegs_wire]
  exact h d

theorem Capture.released (recs : Bool → List Bytes) (hwr : ∀ d, ∀ r ∈ recs d, WholeRecord r)
    (h : WiresDelivered evs fun d => (recs d).flatten) (d : Bool) :
    ((connRecs (capInfo (evs.map CEv.cap)) (sessionOf (evs.map CEv.cap) o p0 rest)).filter fun q => q.2 == d).map
      (·.1.raw) = recs d :=
  released_displaced _ _ recs hwr (S.delivered _ h) d

theorem Capture.firstFlights (chRec : Bytes) (recsB : List Bytes) (h : FlightsFirst evs chRec recsB) :
    FirstFlights (capInfo (evs.map CEv.cap)) (sessionOf (evs.map CEv.cap) o p0 rest) [chRec] recsB := by
  obtain ⟨A, B, C, hev, hA, hB, ⟨isnA, hiA⟩, ⟨isnB, hiB⟩⟩ := h.split
  have hpk : (sessionOf (evs.map CEv.cap) o p0 rest).pkts = flowPkts fl 0 evs := by rw [S.hfp]; rfl
  have hdA : DescribedX fl o.checksumTest A := fun x hx => S.hdesc x (by rw [hev]; simp [hx])
  have hdB : DescribedX fl o.checksumTest B := fun x hx => S.hdesc x (by rw [hev]; simp [hx])
  have hfull : evs.map CEv.cap = A.map CEv.cap ++ B.map CEv.cap ++ C.map CEv.cap := by rw [hev, List.map_append, List.map_append]
  have hsA := dirSegs_capSegs fl o.checksumTest S.hne false A hdA 0 (capInfo (evs.map CEv.cap)) (fun i ev hi =>
    capInfo_at _ _ _ (cap_at CEv.cap A _ [] (B.map CEv.cap ++ C.map CEv.cap)
      (by rw [hfull, List.nil_append, List.append_assoc]) 0 rfl i ev hi))
  have hsB := dirSegs_capSegs fl o.checksumTest S.hne true B hdB A.length (capInfo (evs.map CEv.cap)) (fun i ev hi =>
    capInfo_at _ _ _ (cap_at CEv.cap B _ (A.map CEv.cap) (C.map CEv.cap) hfull A.length (List.length_map ..) i ev hi))
  refine ⟨⟨flowPkts fl 0 A, flowPkts fl A.length B, flowPkts fl (A.length + B.length) C, ?_, ?_, ?_, ⟨isnA, ?_⟩, ⟨isnB, ?_⟩⟩,
    ?_, h.wholeB, ?_, h.lenB, h.neB⟩
  · rw [hpk, hev, flowPkts_append, flowPkts_append, Nat.zero_add]
    simp [List.length_append]
  · rw [S.server]; exact flowPkts_dir fl S.hne false A (by simpa using hA) 0
  · rw [S.server]; exact flowPkts_dir fl S.hne true B (by simpa using hB) A.length
  · rw [S.server, hsA, capSegs_wire]; simpa using hiA
  · rw [S.server, hsB, capSegs_wire]; exact hiB
  · intro r hr; simp only [List.mem_singleton] at hr; subst hr; exact h.wholeA
  · simpa using h.lenA

end

end TLX.Props.C01File
