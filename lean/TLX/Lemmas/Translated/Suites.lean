/-
Helper lemmas of `Props/Translated/Suites.lean`. The model reads the parameter dict of `split_cipher_suite` by `getPart` (first entry
of the key) and writes by `setPart` (every entry of the key); the runtime reads the last entry and appends a missing key. On a dict
without repeated keys that has the key they agree. And `in` on strings is the model's `isInfix`.
-/
import TLX.CipherSuite
import TLX.Lemmas.PyRt
namespace TLX.Lemmas.Translated
open TLX TLX.PyRt TLX.CipherSuite

theorem strIn_eq_isInfix (p s : List Nat) : strIn p s = isInfix p s := by
  have hp : ∀ (p s : List Nat), strPrefix p s = isPrefix p s := by
    intro p
    induction p with
    | nil => intro s; simp [strPrefix, isPrefix]
    | cons a p ih => intro s; cases s <;> simp [strPrefix, isPrefix, ih]
  induction s with
  | nil => simp [strIn, isInfix]
  | cons b s ih => simp [strIn, isInfix, hp, ih]

theorem getPart_of_key {ps : Params} {k : List Nat} (h : k ∈ ps.map (·.1)) : ∃ a, getPart ps k = some a := by
  obtain ⟨e, he, rfl⟩ := List.mem_map.mp h
  cases hf : ps.find? (·.1 == e.1) with
  | none => exact absurd (List.find?_eq_none.mp hf e he) (by simp)
  | some e' => exact ⟨e'.2, by rw [getPart, hf]; rfl⟩

theorem tableGetE_eq_getPart {ps : Params} (hnd : (ps.map (·.1)).Nodup) (k : List Nat) :
    tableGetE ps k = match getPart ps k with | some v => .ok v | none => .error .key := by
  unfold getPart
  cases hf : ps.find? (·.1 == k) with
  | none =>
    rw [tableGetE, tableGet_of_not_mem fun e he => by simpa using List.find?_eq_none.mp hf e he]
    rfl
  | some e =>
    have hk : e.1 = k := by simpa using List.find?_some hf
    rw [tableGetE, tableGet_of_mem hnd (hk ▸ List.mem_of_find?_eq_some hf : (k, e.2) ∈ ps)]
    rfl

theorem tableSet_eq_setPart {ps : Params} {k : List Nat} {a : Val} (h : getPart ps k = some a) (v : Val) :
    tableSet ps k v = setPart ps k v := by
  have hany : (ps.any fun e => decide (e.1 = k)) = true := by
    simp only [getPart, Option.map_eq_some_iff] at h
    obtain ⟨e, he, _⟩ := h
    exact List.any_eq_true.mpr ⟨e, List.mem_of_find?_eq_some he, by simpa using List.find?_some he⟩
  unfold tableSet setPart
  rw [if_pos hany]
  simp only [beq_iff_eq]

/-- `if d[k] == x: d[k] = v` on a dict that has the key `k` -/
theorem tableSet_if_eq_setPart {ps : Params} {k : List Nat} {m : Val} (hm : getPart ps k = some m) (x v : Val) :
    (if m = x then tableSet ps k v else ps) = if getPart ps k = some x then setPart ps k v else ps := by
  simp only [hm, Option.some.injEq, tableSet_eq_setPart hm]

theorem getPart_setPart_ne (ps : Params) {k k' : List Nat} (h : k' ≠ k) (v : Val) :
    getPart (setPart ps k v) k' = getPart ps k' := by
  unfold getPart setPart
  have hp : ((·.1 == k') ∘ fun e : List Nat × Val => if e.1 == k then (k, v) else e) = (·.1 == k') := by
    funext e
    by_cases he : e.1 = k <;> simp [he]
  rw [List.find?_map, hp]
  cases hf : ps.find? (·.1 == k') with
  | none => rfl
  | some e =>
    have : e.1 = k' := by simpa using List.find?_some hf
    simp [this, h]

end TLX.Lemmas.Translated
