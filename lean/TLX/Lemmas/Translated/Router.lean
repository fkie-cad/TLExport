/-
The session loops of `main.py` as the translation prints them (`PyRt.forObjs` / `forObjsE`: the round ends at the first object whose
body says `True`; the code after the loop appends a new object when none did) are `Router.handle` of `Lemmas/MainLoop.lean`, the
shape both halves of `main.py` give their session lists.
-/
import TLX.PyRt
import TLX.Lemmas.MainLoop
namespace TLX.Lemmas.MainLoop
variable {S I : Type}

/-- the shape the printed loops have: the loop's own result if a session took `x`, else the list with what `create` gives appended;
    only the `else` arm says something -/
theorem Router.handle_of_taker (R : Router S I) (x : I) : ∀ ss : List S,
    R.handle ss x = if ss.any (R.takes · x) then R.handle ss x else ss ++ (R.create x).toList := by
  intro ss
  induction ss with
  | nil => cases h : R.create x <;> simp [Router.handle, h]
  | cons s r ih =>
    by_cases ht : R.takes s x = true
    · simp [ht]
    · rw [Router.handle, if_neg ht, ih]
      simp only [List.any_cons, ht, Bool.false_or]
      split <;> simp

end TLX.Lemmas.MainLoop

namespace TLX.Lemmas.Translated
open TLX TLX.PyRt TLX.Lemmas.MainLoop
variable {S I : Type}

theorem forObjsE_router (R : Router S I) (x : I) (body : S → S × Except Err Bool)
    (hb : ∀ s, body s = if R.takes s x then (R.feed s x, .ok true) else (s, .ok false)) : ∀ ss : List S,
    forObjsE ss body = (if ss.any (R.takes · x) then R.handle ss x else ss, .ok (ss.any (R.takes · x))) := by
  intro ss
  induction ss with
  | nil => rfl
  | cons s r ih =>
    by_cases ht : R.takes s x = true
    · simp [forObjsE, hb, Router.handle, ht]
    · simp only [forObjsE, hb, ht, ih, Router.handle, List.any_cons, Bool.false_or, Bool.false_eq_true, if_false]
      split <;> rfl

theorem forObjs_router (R : Router S I) (x : I) (body : S → S × Bool)
    (hb : ∀ s, body s = if R.takes s x then (R.feed s x, true) else (s, false)) : ∀ ss : List S,
    forObjs ss body = (if ss.any (R.takes · x) then R.handle ss x else ss, ss.any (R.takes · x)) := by
  intro ss
  induction ss with
  | nil => rfl
  | cons s r ih =>
    by_cases ht : R.takes s x = true
    · simp [forObjs, hb, Router.handle, ht]
    · simp only [forObjs, hb, ht, ih, Router.handle, List.any_cons, Bool.false_or, Bool.false_eq_true, if_false]
      split <;> rfl

end TLX.Lemmas.Translated
