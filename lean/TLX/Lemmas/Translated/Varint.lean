/-
The two calls by which the source reads a variable-length integer at an offset (`get_variable_length_int_length(x[i:i+1])`, then
`decode_variable_length_int(x[i:i+l])`), as translated (group Varint), are the model's `readVarint`: for the groups whose functions
make those calls (Frames, QuicTls).
-/
import TLX.Props.Translated.Varint
namespace TLX.Lemmas.Translated
open TLX TLX.PyRt TLX.Props.Translated TLX.Quic.Varint

theorem try_len {β : Type} (b : Bytes) (K : Nat → Except Err β) :
    tryE (Gen.Py.get_variable_length_int_length b) (fun e => .error e) K = obind (getVarintLength b) K := by
  rw [get_variable_length_int_length_eq_model, tryE_ofOpt]

theorem try_dec {β : Type} (b : Bytes) (K : Nat → Except Err β) :
    tryE (Gen.Py.decode_variable_length_int b) (fun e => .error e) K = obind (decodeVarint b) K := by
  rw [decode_variable_length_int_eq_model, tryE_ofOpt]

theorem readVarint_bind {β : Type} (p : Bytes) (i : Nat) (f : Nat × Nat → Option β) :
    ofOpt ((readVarint p i).bind f) =
      obind (getVarintLength (Bytes.slice p i (i + 1))) (fun l =>
        obind (decodeVarint (Bytes.slice p i (i + l))) (fun v => ofOpt (f (v, i + l)))) := by
  unfold readVarint
  cases h1 : getVarintLength (Bytes.slice p i (i + 1)) with
  | none => simp [ofOpt]
  | some l => cases h2 : decodeVarint (Bytes.slice p i (i + l)) <;> simp [h2, ofOpt]

theorem obind_readVarint {β : Type} (p : Bytes) (i : Nat) (K : Nat × Nat → Except Err β) :
    obind (readVarint p i) K =
      obind (getVarintLength (Bytes.slice p i (i + 1))) (fun l =>
        obind (decodeVarint (Bytes.slice p i (i + l))) (fun v => K (v, i + l))) := by
  unfold readVarint
  cases h1 : getVarintLength (Bytes.slice p i (i + 1)) with
  | none => simp
  | some l => cases h2 : decodeVarint (Bytes.slice p i (i + l)) <;> simp [h2]

end TLX.Lemmas.Translated
