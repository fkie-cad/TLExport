/-
Helper lemmas of `Props/Translated/Frames.lean`: the key loop of `parse_frames` (start value `key = 0xff`, the source's "no class") with `dict.get`, for any table.
-/
import TLX.Gen.Translated.Frames
import TLX.Lemmas.Translated.Varint
import TLX.Quic.Frame
namespace TLX.Lemmas.Translated
open TLX TLX.PyRt TLX.Props.Translated TLX.Quic.Varint TLX.Quic.Frame

theorem decide_ne_bne (x : Nat) : (decide ¬ x = 0) = (x != 0) := by
  by_cases h : x = 0 <;> simp [h]

/-- The key loop of `parse_frames` over the key tuples of a dict display `T` (one per entry, in entry order) and the
    model's `lookup` fold over the entries both stop at the last entry whose key tuple contains `n`; `T.get` of that
    tuple is that entry's value, since a later entry with the same tuple would contain `n` too. -/
theorem keyLoop_tableGet {ν : Type} (n : Nat) (T : List (List Nat × ν)) (key : Sum Int (List Nat)) (cls : Option ν)
    (hkey : (T.map (·.1)).foldl (fun s k => if decide (n ∈ k) then Sum.inr k else s) (Sum.inl 255) = key)
    (hcls : T.foldl (fun acc kc => if n ∈ kc.1 then some kc.2 else acc) none = cls) :
    (key = Sum.inl 255 ∧ cls = none) ∨ ∃ k, key = Sum.inr k ∧ n ∈ k ∧ tableGet T k = cls ∧ cls.isSome := by
  subst hkey hcls
  obtain ⟨R, rfl⟩ : ∃ R, T = R.reverse := ⟨T.reverse, T.reverse_reverse.symm⟩
  induction R with
  | nil => exact Or.inl ⟨rfl, rfl⟩
  | cons e R ih =>
    simp only [List.reverse_cons, List.map_append, List.foldl_append, List.map_cons, List.map_nil, List.foldl_cons,
      List.foldl_nil, tableGet_concat, decide_eq_true_eq] at ih ⊢
    by_cases hn : n ∈ e.1
    · exact Or.inr ⟨e.1, by rw [if_pos hn], hn, by rw [if_pos rfl, if_pos hn], by rw [if_pos hn]; rfl⟩
    · rw [if_neg hn, if_neg hn]
      refine ih.imp id fun ⟨k, hk, hnk, hget, hsome⟩ => ⟨k, hk, hnk, ?_, hsome⟩
      rw [if_neg (fun h => hn (by rw [h]; exact hnk)), hget]

end TLX.Lemmas.Translated
