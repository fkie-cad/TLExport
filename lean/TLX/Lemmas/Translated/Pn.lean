/-
Helper lemmas of `Props/Translated/Pn.lean` (`get_full_packet_number`)
-/
import TLX.Lemmas.PyRt
import TLX.Quic.PktNum
namespace TLX.Lemmas.Translated
open TLX TLX.PyRt TLX.Quic.PktNum

theorem beNat_lt_window (pn : Bytes) : Bytes.beNat pn < 2 ^ (8 * pn.length) := by
  have := Bytes.beNat_lt pn
  rwa [show (256 : Nat) = 2 ^ 8 by rfl, ← Nat.pow_mul] at this

/-- the arithmetic of A.3 on Python's integers is the model's on naturals (generic in window and bound) -/
theorem pn_arith (W B L t : Nat) (hW : 2 ≤ W) :
    (if ((Int.ofNat ((L + 1) - (L + 1) % W + t) : Int) ≤ (Int.ofNat L + 1) - Int.ofNat (W / 2)
          ∧ (Int.ofNat ((L + 1) - (L + 1) % W + t) : Int) < Int.ofNat B - Int.ofNat W)
      then (Int.ofNat ((L + 1) - (L + 1) % W + t) : Int) + Int.ofNat W
      else if ((Int.ofNat ((L + 1) - (L + 1) % W + t) : Int) > (Int.ofNat L + 1) + Int.ofNat (W / 2)
          ∧ (Int.ofNat ((L + 1) - (L + 1) % W + t) : Int) ≥ Int.ofNat W)
        then (Int.ofNat ((L + 1) - (L + 1) % W + t) : Int) - Int.ofNat W
        else (Int.ofNat ((L + 1) - (L + 1) % W + t) : Int))
      = Int.ofNat (rfcDecode W B L t) := by
  simp only [rfcDecode, Int.ofNat_eq_natCast]
  have hm := Nat.mod_lt (L + 1) (show W > 0 by omega)
  have hle := Nat.mod_le (L + 1) W
  generalize (L + 1) % W = r at *
  generalize W / 2 = h at *
  split
  · rename_i c
    have : r ≤ L + 1 := hle
    have c' : L + 1 - r + t + h ≤ L + 1 ∧ L + 1 - r + t + W < B := by omega
    simp only [c', and_self, if_true]
    omega
  · rename_i c
    have c' : ¬ (L + 1 - r + t + h ≤ L + 1 ∧ L + 1 - r + t + W < B) := by omega
    simp only [c', if_false]
    split
    · rename_i d
      have d' : L + 1 - r + t > L + 1 + h ∧ L + 1 - r + t ≥ W := by omega
      simp only [d', and_self, if_true]
      omega
    · rename_i d
      have d' : ¬ (L + 1 - r + t > L + 1 + h ∧ L + 1 - r + t ≥ W) := by omega
      simp only [d', if_false]

theorem rfcDecode_lt (W B L t : Nat) (hW : 0 < W) (ht : t < W) : rfcDecode W B L t < B + L + 1 + W := by
  simp only [rfcDecode]
  have hle := Nat.mod_le (L + 1) W
  generalize (L + 1) % W = r at *
  generalize W / 2 = h at *
  split
  · omega
  · split <;> omega

/-- the model's value fits the 8 bytes `to_bytes` is given (entries below 2^62, windows up to 2^32) -/
theorem implDecode_lt (n L t : Nat) (hn : 1 ≤ n ∧ n ≤ 4) (hL : L < 2 ^ 62) (ht : t < 2 ^ (8 * n)) :
    implDecode (2 ^ (8 * n)) (2 ^ 62) L t < 256 ^ 8 := by
  have h2 : 2 ^ (8 * n) ≤ 2 ^ 32 := Nat.pow_le_pow_right (by omega) (by omega)
  have hp : 0 < 2 ^ (8 * n) := Nat.pow_pos (by omega)
  have h1 := rfcDecode_lt (2 ^ (8 * n)) (2 ^ 62) L t hp ht
  unfold implDecode
  generalize 2 ^ (8 * n) = W at *
  generalize rfcDecode W (2 ^ 62) L t = R at *
  split <;> omega

end TLX.Lemmas.Translated
