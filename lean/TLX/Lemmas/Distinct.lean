/-
Tables without repeated keys. Defines two checks made for kernel evaluation (`distinctFrom`; `sortByKey` for containment
in a table sorted by key) and proves what lookup by key returns (`lookupName`). The runtime's dict operations on such
tables are in `Lemmas/PyRt`.
-/
import TLX.CipherSuite
import TLX.Generic
namespace TLX.Lemmas.Distinct
open TLX TLX.CipherSuite

/-- No number of the list is in `seen` and none comes twice. `seen` is a set kept as the bits of ONE number: the kernel
    computes `testBit`, `|||`, `<<<` on numerals natively, so the pass is linear; deciding `List.Nodup` compares all pairs. -/
def distinctFrom : Nat → List Nat → Bool
  | _, [] => true
  | seen, c :: l => !seen.testBit c && distinctFrom (seen ||| 1 <<< c) l

theorem distinctFrom_sound {seen : Nat} {l : List Nat} (h : distinctFrom seen l = true) :
    (∀ c ∈ l, seen.testBit c = false) ∧ l.Nodup := by
  induction l generalizing seen with
  | nil => exact ⟨nofun, List.nodup_nil⟩
  | cons c l ih =>
    simp only [distinctFrom, Bool.and_eq_true, Bool.not_eq_true'] at h
    obtain ⟨hseen, hnd⟩ := ih h.2
    -- a later number is neither in `seen` nor equal to `c`: its bit is clear in `seen ||| 1 <<< c`
    have hlater : ∀ x ∈ l, seen.testBit x = false ∧ c ≠ x := by
      intro x hx
      simpa [Nat.testBit_or, Nat.one_shiftLeft, Nat.testBit_two_pow] using hseen x hx
    refine ⟨?_, List.nodup_cons.mpr ⟨fun hc => (hlater c hc).2 rfl, hnd⟩⟩
    intro x hx
    rcases List.mem_cons.mp hx with rfl | hx
    · exact h.1
    · exact (hlater x hx).1

theorem nodup_of_distinct {l : List Nat} (h : distinctFrom 0 l = true) : l.Nodup := (distinctFrom_sound h).2

theorem lookupName_of_mem {t : List (Nat × List Nat)} (hnd : (t.map (·.1)).Nodup) {c : Nat} {n : List Nat}
    (h : (c, n) ∈ t) : lookupName t c = some n := by
  unfold lookupName
  rw [find?_key hnd h _ (fun e => beq_iff_eq)]
  rfl

theorem mem_of_lookupName {t : List (Nat × List Nat)} {c : Nat} {n : List Nat} (h : lookupName t c = some n) :
    (c, n) ∈ t := by
  simp only [lookupName, Option.map_eq_some_iff] at h
  obtain ⟨e, he, rfl⟩ := h
  have hc : e.1 = c := by simpa using List.find?_some he
  exact hc ▸ List.mem_of_find?_eq_some he

theorem lookupName_none {t : List (Nat × List Nat)} {c : Nat} : lookupName t c = none ↔ ∀ n, (c, n) ∉ t := by
  simp only [lookupName, Option.map_eq_none_iff, List.find?_eq_none, beq_iff_eq]
  exact ⟨fun h n hm => h _ hm rfl, fun h e he hc => h e.2 (hc ▸ he)⟩

/-! Containment in a reference table sorted by key: the table, sorted by key itself (insertion: cheap when it comes roughly
in descending order), is read off along the reference table in ONE pass (`List.isSublist`) instead of one search per entry. -/

def insertByKey {α : Type} (e : Nat × α) : List (Nat × α) → List (Nat × α)
  | [] => [e]
  | x :: l => if e.1 ≤ x.1 then e :: x :: l else x :: insertByKey e l

def sortByKey {α : Type} (t : List (Nat × α)) : List (Nat × α) := t.foldl (fun acc e => insertByKey e acc) []

theorem mem_insertByKey {α : Type} {e x : Nat × α} {l : List (Nat × α)} : x ∈ insertByKey e l ↔ x = e ∨ x ∈ l := by
  induction l with
  | nil => simp [insertByKey]
  | cons y l ih =>
    unfold insertByKey
    split
    · simp
    · simp only [List.mem_cons, ih]
      exact or_left_comm

theorem mem_sortByKey {α : Type} {t : List (Nat × α)} {x : Nat × α} (h : x ∈ t) : x ∈ sortByKey t := by
  suffices hs : ∀ acc, x ∈ t ∨ x ∈ acc → x ∈ t.foldl (fun acc e => insertByKey e acc) acc from hs [] (.inl h)
  clear h
  induction t with
  | nil => exact fun acc h => h.resolve_left List.not_mem_nil
  | cons e t ih =>
    intro acc h
    apply ih
    rw [mem_insertByKey]
    rcases h with h | h
    · exact (List.mem_cons.mp h).elim (fun he => .inr (.inl he)) .inl
    · exact .inr (.inr h)

theorem subset_of_sorted_isSublist {α : Type} [BEq α] [LawfulBEq α] {t ref : List (Nat × α)}
    (h : (sortByKey t).isSublist ref = true) : ∀ e ∈ t, e ∈ ref :=
  fun _ he => (List.isSublist_iff_sublist.mp h).subset (mem_sortByKey he)

end TLX.Lemmas.Distinct
