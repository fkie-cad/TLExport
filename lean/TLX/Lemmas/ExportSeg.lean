/-
C05 and C09 at the level of a whole connection (for `Props/ExportSeg.lean`). C05: what a connection exports is decided by
the (record bytes, direction) sequence its two reassemblers release. C09: `Pipeline.genKeys` reads the key log only through
what `Keylog.installed12 .firstMaster` / `Keylog.installed13` say for the client random it is called with — the tail of
`generate_keys` (`inner`) is a function of that answer (`inner_eq13`, `inner_eq12`).
-/
import TLX.Lemmas.SessionCarriers
import TLX.Props.C01Capstone2
import TLX.Props.C01File
import TLX.Lemmas.ExportProps
import TLX.Lemmas.C01Rfc
set_option autoImplicit false
namespace TLX.Lemmas.ExportSeg
open TLX TLX.Reassembly TLX.Lemmas.Capstone TLX.Lemmas.Pipeline TLX.Spec.TlsFraming TLX.Props.C01Pipeline

theorem ops_rawOnly (H : Crypto.Prims) (P : Cipher.Prims) (kl : List Keylog.Key) :
    Session.RawOnly (Pipeline.ops H P kl) := fun _ _ _ => rfl

theorem keys_of_dirs (M1 M2 : List (Session.Rec × Bool)) (hord : M1.map (·.2) = M2.map (·.2))
    (hdir : ∀ d, (M1.filter fun q => q.2 == d).map (·.1.raw) = (M2.filter fun q => q.2 == d).map (·.1.raw)) :
    Session.keys M1 = Session.keys M2 := by
  induction M1 generalizing M2 with
  | nil =>
    cases M2 with
    | nil => rfl
    | cons _ _ => simp at hord
  | cons x t ih =>
    cases M2 with
    | nil => simp at hord
    | cons y t' =>
      obtain ⟨r, d⟩ := x
      obtain ⟨r', d'⟩ := y
      simp only [List.map_cons, List.cons.injEq] at hord
      obtain ⟨hd, hord'⟩ := hord
      have hd : d = d' := hd
      subst hd
      have h1 := hdir d
      rw [filter_dir_cons_same, filter_dir_cons_same, List.map_cons, List.map_cons] at h1
      simp only [List.cons.injEq] at h1
      have hrest : ∀ e, (t.filter fun q => q.2 == e).map (·.1.raw) = (t'.filter fun q => q.2 == e).map (·.1.raw) := by
        intro e
        by_cases he : e = d
        · subst he; exact h1.2
        · have := hdir e
          rw [filter_dir_cons_other _ _ _ _ he, filter_dir_cons_other _ _ _ _ he] at this
          exact this
      have := ih t' hord' hrest
      simp only [Session.keys, List.map_cons, List.cons.injEq] at this ⊢
      refine ⟨?_, this⟩
      have hr : r.raw = r'.raw := h1.1
      simp only [Session.Rec.erase, hr]

/-- `Props.C05.reassembly_exact_partial` inside a connection: the records released for direction `d` are the records of
    the byte stream that direction's endpoint sent -/
theorem released_dir_stream (info : Nat → Pipeline.Info) (server : MainLoop.Endpoint)
    (pkts : List MainLoop.Pkt) (d : Bool) (k isn : Nat) (str : Bytes) (hw : WholeRecords str)
    (hd : Delivers k isn str ((dirSegs info server d pkts).map Props.C05.wire))
    (hlen : str.length ≤ 2 ^ 31) (hearly : Props.C05.NoEarlyDelivery isn (dirSegs info server d pkts)) :
    ((released info server (St.init, St.init) pkts).filter fun r => r.2 == d).map (·.1.raw) = frame str := by
  have hne : ∀ p ∈ dirSegs info server d pkts, p.data ≠ [] := by
    obtain ⟨chunks, hcut, hmem⟩ := Lemmas.Delivery.delivers_mem hd
    exact fun p hp => (Lemmas.Delivery.copy_of_cut hcut isn p ((hmem _).mp (List.mem_map_of_mem hp))).1
  rw [released_dir_run info server (St.init, St.init) pkts d (by cases d <;> rfl) hne]
  exact Props.C05.reassembly_exact_partial k isn str (dirSegs info server d pkts) hd hw hlen hearly

/-- `application_traffic` as `OutputBuilder` reads it, without the carriers: (direction, bytes to export) per record -/
def exportedRecs (H : Crypto.Prims) (P : Cipher.Prims) (info : Nat → Pipeline.Info) (c : Pipeline.Conn)
    (kl : List Keylog.Key) : List (Bool × Bytes) :=
  (Session.run (Pipeline.ops H P kl) c.opts.metadata Session.St.init (connRecs info c)).traffic.map fun e =>
    (e.fromServer, e.data.getD TcpOut.placeholder)

theorem dirBytes_traffic (d : Bool) (ts : Nat → Nat) (tr : List Session.Entry) :
    Props.C06.dirBytes d (tr.map (toRec ts)) =
      ((tr.map fun e => (e.fromServer, e.data.getD TcpOut.placeholder)).filter fun x => x.1 == d).flatMap (·.2) := by
  rw [dirBytes_toRec, List.filter_map, List.flatMap_map]
  rfl

theorem exported_erase (l : List Session.Entry) :
    (l.map fun e => (e.fromServer, e.data.getD TcpOut.placeholder)) =
      (l.map Session.Entry.erase).map fun e => (e.fromServer, e.data.getD TcpOut.placeholder) := by
  rw [List.map_map]; rfl

/-! ### C09: `generate_keys` reads the key log through `Keylog.installed12 .firstMaster` / `Keylog.installed13` only -/

section C09
open TLX.Keylog TLX.Lemmas.KeySchedule TLX.Lemmas.C01Rfc TLX.Lemmas.KeylogLines

variable (H : Crypto.Prims) (P : Cipher.Prims)

/-- the key-log lines `generate_keys` looks at -/
def foundOf (kl : List Key) (v : Option Session.Ver) (cr : Bytes) : List Key :=
  if v = some .tls13 then findSessionSecrets kl (Pipeline.natsOfBytes cr)
  else (findSessionSecrets kl (Pipeline.natsOfBytes cr)).filter fun k => k.label == s_CLIENT_RANDOM || k.label == s_RSA

/-- `generate_keys` from the secrets read off the lines on (`none`: a ValueError from `bytes.fromhex`) -/
def innerS (v : Session.Ver) (a : Pipeline.SuiteArgs) (cr sr : Bytes) (exts : Session.Exts) (comp : UInt8)
    (secrets : Option (List KeySchedule.Secret)) : Session.Gen RecordLayer.Dec :=
  if comp = 1 then .raised else
  match secrets with
  | none => .raised
  | some secrets =>
    match KeySchedule.generateKeys H (Pipeline.ksVersion v) a.ks secrets cr sr with
    | .error _ => .raised
    | .ok none => .noSecrets
    | .ok (some inst) =>
      let macLen := (KeySchedule.macSuite H a.ks.mac).outLen
      let etm := (Session.extGet exts [0x00, 0x16]).isSome
      match RecordLayer.Dec.init P a.bulk (Pipeline.rlVersion v) macLen a.tagLen (Pipeline.blockBits a.bulk) etm
              (Pipeline.keysOfInstalled inst) with
      | .error _ => .raised
      | .ok d => .installed d

/-- `generate_keys` after the suite has resolved and the lines have been looked up (the tail of `Pipeline.genKeys`) -/
def inner (v : Option Session.Ver) (a : Pipeline.SuiteArgs) (cr sr : Bytes)
    (exts : Session.Exts) (comp : UInt8) (found : List Key) : Session.Gen RecordLayer.Dec :=
  match found with
  | [] => .noSecrets
  | _ =>
    match v with
    | none => .raised
    | some v => innerS H P v a cr sr exts comp (Pipeline.secretsOf (v = .tls13) found)

theorem genKeys_inner (kl : List Key) (v : Option Session.Ver) (suite cr sr : Bytes)
    (exts : Session.Exts) (comp : UInt8) :
    Pipeline.genKeys H P kl v suite cr sr exts comp =
      match (if suite.length = 2 then CipherSuite.resolve (Bytes.beNat suite) else none) with
      | none => .noSuite
      | some ps =>
        match Pipeline.suiteArgs ps with
        | none => .raised
        | some a => inner H P v a cr sr exts comp (foundOf kl v cr) := rfl

theorem generateKeys_head (v : KeySchedule.Version) (hv : v ≠ .tls13) (s : KeySchedule.Suite)
    (x : KeySchedule.Secret) (t t' : List KeySchedule.Secret) (cr sr : Bytes) :
    KeySchedule.generateKeys H v s (x :: t) cr sr = KeySchedule.generateKeys H v s (x :: t') cr sr := by
  cases v <;> first | rfl | exact absurd rfl hv

theorem devTls13Keys_congr (h : Crypto.HashSuite) (ss1 ss2 : List KeySchedule.Secret) (n : Nat)
    (e1 : lastOf .clientHandshake ss1 = lastOf .clientHandshake ss2)
    (e2 : lastOf .serverHandshake ss1 = lastOf .serverHandshake ss2)
    (e3 : lastOf .clientTraffic0 ss1 = lastOf .clientTraffic0 ss2)
    (e4 : lastOf .serverTraffic0 ss1 = lastOf .serverTraffic0 ss2) :
    KeySchedule.devTls13Keys h ss1 n = KeySchedule.devTls13Keys h ss2 n := by
  unfold KeySchedule.devTls13Keys
  cases KeySchedule.toBytes2 n with
  | error e => rfl
  | ok kl =>
    simp only [bind, Except.bind]
    have h0 : ∀ ki ii : Bytes, ({} : KeySchedule.Tls13Acc) =
        acc13 (fun s => h.hkdfExpand s ki n) (fun s => h.hkdfExpand s ii 12) none none none none := fun _ _ => rfl
    rw [h0, tls13_fold, tls13_fold]
    unfold lastOf at e1 e2 e3 e4
    rw [e1, e2, e3, e4]

theorem generateKeys13_congr (s : KeySchedule.Suite) (ss1 ss2 : List KeySchedule.Secret) (cr sr : Bytes)
    (hn1 : ss1 ≠ []) (hn2 : ss2 ≠ [])
    (e1 : lastOf .clientHandshake ss1 = lastOf .clientHandshake ss2)
    (e2 : lastOf .serverHandshake ss1 = lastOf .serverHandshake ss2)
    (e3 : lastOf .clientTraffic0 ss1 = lastOf .clientTraffic0 ss2)
    (e4 : lastOf .serverTraffic0 ss1 = lastOf .serverTraffic0 ss2) :
    KeySchedule.generateKeys H .tls13 s ss1 cr sr = KeySchedule.generateKeys H .tls13 s ss2 cr sr := by
  cases ss1 with
  | nil => exact absurd rfl hn1
  | cons x1 t1 =>
    cases ss2 with
    | nil => exact absurd rfl hn2
    | cons x2 t2 =>
      simp only [KeySchedule.generateKeys]
      rw [devTls13Keys_congr _ _ _ _ e1 e2 e3 e4]

theorem mapM_secOf_cons (labs : List Str) (k : Key) (ks : List Key) :
    (k :: ks).mapM (secOf labs) = (secOf labs k).bind fun b => (ks.mapM (secOf labs)).map fun bs => b :: bs := by
  rw [List.mapM_cons]
  cases secOf labs k with
  | none => rfl
  | some b => cases ks.mapM (secOf labs) <;> rfl

theorem labelOf_ne_other (L : Str) (hL : L ∈ labels13) : Pipeline.labelOf L ≠ .other := by
  obtain ⟨e1, e2, e3, e4⟩ := labelOf_s13
  simp only [labels13, List.mem_cons, List.mem_nil_iff, or_false] at hL
  rcases hL with rfl | rfl | rfl | rfl <;> simp only [e1, e2, e3, e4] <;> exact fun h => nomatch h

/-- The two TLS 1.3 loops over the lines found — the key-log model's `scan labels13` and the key schedule's reading of
    `secretsOf true` — fail together (a secret under one of the four labels is not hexadecimal); otherwise, label by
    label, the last secret the key schedule sees is the one the scan ends with. -/
theorem scan_mapM (ks : List Key) (st : Str → Option (List Nat)) :
    (scan labels13 ks st = none ∧ ks.mapM (secOf labels13) = none) ∨
    ∃ st' ss, scan labels13 ks st = some st' ∧ ks.mapM (secOf labels13) = some ss ∧ ss.length = ks.length ∧
      ∀ L ∈ labels13, ss.foldl (pick (Pipeline.labelOf L)) ((st L).map Pipeline.bytesOfNats) =
        (st' L).map Pipeline.bytesOfNats := by
  induction ks generalizing st with
  | nil => exact .inr ⟨st, [], rfl, rfl, rfl, fun _ _ => rfl⟩
  | cons k ks ih =>
    have hk : secOf labels13 k = if labels13.contains k.label then
        (fromHex k.value).map fun v => (Pipeline.labelOf k.label, Pipeline.bytesOfNats v)
      else some (.other, []) := rfl
    rw [mapM_secOf_cons, hk]
    unfold scan
    by_cases hc : labels13.contains k.label = true
    · rw [if_pos hc, if_pos hc]
      cases fromHex k.value with
      | none => exact .inl ⟨rfl, rfl⟩
      | some b =>
        rcases ih (fun l => if l = k.label then some b else st l) with ⟨h1, h2⟩ | ⟨st', ss, h1, h2, hl, h3⟩
        · exact .inl ⟨h1, by rw [h2]; rfl⟩
        · refine .inr ⟨st', _ :: ss, h1, by rw [h2]; rfl, congrArg (· + 1) hl, fun L hL => ?_⟩
          have e : pick (Pipeline.labelOf L) ((st L).map Pipeline.bytesOfNats)
              (Pipeline.labelOf k.label, Pipeline.bytesOfNats b) =
              (if L = k.label then some b else st L).map Pipeline.bytesOfNats := by
            unfold pick
            by_cases e : L = k.label
            · rw [if_pos e, if_pos (congrArg Pipeline.labelOf e.symm)]; rfl
            · rw [if_neg e, if_neg fun h =>
                e (labelOf_inj13 k.label (List.contains_iff_mem.mp hc) L (List.contains_iff_mem.mpr hL) h.symm)]
          rw [List.foldl_cons, e]
          exact h3 L hL
    · rw [if_neg hc, if_neg hc]
      rcases ih st with ⟨h1, h2⟩ | ⟨st', ss, h1, h2, hl, h3⟩
      · exact .inl ⟨h1, by rw [h2]; rfl⟩
      · refine .inr ⟨st', _ :: ss, h1, by rw [h2]; rfl, congrArg (· + 1) hl, fun L hL => ?_⟩
        have e : pick (Pipeline.labelOf L) ((st L).map Pipeline.bytesOfNats) (.other, []) =
            (st L).map Pipeline.bytesOfNats := by
          unfold pick
          rw [if_neg (labelOf_ne_other L hL).symm]
        rw [List.foldl_cons, e]
        exact h3 L hL

theorem scan_append (L : List Str) (x y : List Key) (st : Str → Option (List Nat)) :
    scan L (x ++ y) st = (scan L x st).bind (scan L y) := by
  induction x generalizing st with
  | nil => rfl
  | cons k ks ih =>
    simp only [List.cons_append, scan]
    by_cases hc : L.contains k.label = true
    · rw [if_pos hc, if_pos hc]
      cases fromHex k.value with
      | none => rfl
      | some b => exact ih _
    · rw [if_neg hc, if_neg hc]; exact ih _

theorem scan_congr (L : List Str) (y : List Key) (st st' : Str → Option (List Nat)) (h : ∀ l ∈ L, st l = st' l) :
    (scan L y st).map (fun s => L.map s) = (scan L y st').map (fun s => L.map s) := by
  induction y generalizing st st' with
  | nil => exact congrArg some (List.map_congr_left h)
  | cons k ks ih =>
    simp only [scan]
    by_cases hc : L.contains k.label = true
    · rw [if_pos hc, if_pos hc]
      cases fromHex k.value with
      | none => rfl
      | some b =>
        apply ih
        intro l hl
        by_cases e : l = k.label
        · rw [if_pos e, if_pos e]
        · rw [if_neg e, if_neg e]; exact h l hl
    · rw [if_neg hc, if_neg hc]; exact ih _ _ h

/-! `installed13` and `installed12 .firstMaster` as functions of the lines found for the client random -/

def res13 (o : Option (List (Option (List Nat)))) : Res (List (Option (List Nat))) :=
  match o with
  | none => .valueError
  | some l => .ok l

def view13 (f : List Key) : Res (List (Option (List Nat))) :=
  match f with
  | [] => .missing
  | k :: r => res13 ((scan labels13 (k :: r) fun _ => none).map fun st => labels13.map st)

theorem installed13_eq (kl : List Key) (cr : List Nat) : installed13 kl cr = view13 (findSessionSecrets kl cr) := by
  unfold installed13 view13
  cases findSessionSecrets kl cr with
  | nil => rfl
  | cons k r => dsimp only; cases scan labels13 (k :: r) fun _ => none <;> rfl

/-- a scan state that has the four secrets `l` -/
def stOf (l : List (Option (List Nat))) (L : Str) : Option (List Nat) := ((labels13.zip l).lookup L).join

/-- what `installed13` says once more lines `c` follow, from what it says before they do -/
def after13 (c : List Key) : Res (List (Option (List Nat))) → Res (List (Option (List Nat)))
  | .missing => view13 c
  | .ok l => res13 ((scan labels13 c (stOf l)).map fun st => labels13.map st)
  | r => r

theorem view13_append (f c : List Key) : view13 (f ++ c) = after13 c (view13 f) := by
  cases f with
  | nil => rfl
  | cons k r =>
    show res13 ((scan labels13 (k :: r ++ c) fun _ => none).map _) = after13 c (res13 ((scan labels13 (k :: r) fun _ => none).map _))
    rw [scan_append]
    cases scan labels13 (k :: r) fun _ => none with
    | none => rfl
    | some st =>
      refine congrArg res13 (scan_congr labels13 c st _ fun L hL => ?_)
      simp only [labels13, List.mem_cons, List.mem_nil_iff, or_false] at hL
      rcases hL with rfl | rfl | rfl | rfl <;> rfl

def sec (L : KeySchedule.Label) (o : Option (List Nat)) : List KeySchedule.Secret :=
  (o.map fun v => (L, Pipeline.bytesOfNats v)).toList

/-- secrets the TLS 1.3 key schedule reads as it reads the lines found, given that `installed13` says `.ok l` of them -/
def canon13 : List (Option (List Nat)) → List KeySchedule.Secret
  | [a, b, c, d] => (.other, []) :: (sec .clientHandshake a ++ sec .serverHandshake b ++ sec .clientTraffic0 c ++ sec .serverTraffic0 d)
  | _ => [(.other, [])]

theorem foldl_sec (L L' : KeySchedule.Label) (o : Option (List Nat)) (acc : Option Bytes) :
    (sec L' o).foldl (pick L) acc = if L' = L then (o.map Pipeline.bytesOfNats).or acc else acc := by
  cases o
  · exact (ite_self acc).symm
  · rfl

theorem lastOf_canon13 (a b c d : Option (List Nat)) :
    lastOf .clientHandshake (canon13 [a, b, c, d]) = a.map Pipeline.bytesOfNats ∧
    lastOf .serverHandshake (canon13 [a, b, c, d]) = b.map Pipeline.bytesOfNats ∧
    lastOf .clientTraffic0 (canon13 [a, b, c, d]) = c.map Pipeline.bytesOfNats ∧
    lastOf .serverTraffic0 (canon13 [a, b, c, d]) = d.map Pipeline.bytesOfNats := by
  simp only [lastOf, canon13, List.foldl_cons, List.foldl_append, foldl_sec, pick, reduceCtorEq, if_false, if_true,
    Option.or_none, and_self]

def innerOf13 (a : Pipeline.SuiteArgs) (cr sr : Bytes) (exts : Session.Exts) (comp : UInt8) :
    Res (List (Option (List Nat))) → Session.Gen RecordLayer.Dec
  | .missing => .noSecrets
  | .ok l => innerS H P .tls13 a cr sr exts comp (some (canon13 l))
  | _ => innerS H P .tls13 a cr sr exts comp none

/-- **TLS 1.3**: the tail of `generate_keys` is a function of what `installed13` says about the lines found -/
theorem inner_eq13 (a : Pipeline.SuiteArgs) (cr sr : Bytes) (exts : Session.Exts) (comp : UInt8) (f : List Key) :
    inner H P (some .tls13) a cr sr exts comp f = innerOf13 H P a cr sr exts comp (view13 f) := by
  cases f with
  | nil => rfl
  | cons k r =>
    show innerS H P .tls13 a cr sr exts comp ((k :: r).mapM (secOf labels13)) =
      innerOf13 H P a cr sr exts comp (res13 ((scan labels13 (k :: r) fun _ => none).map _))
    rcases scan_mapM (k :: r) (fun _ => none) with ⟨h1, h2⟩ | ⟨st, ss, h1, h2, hl, h3⟩
    · rw [h1, h2]; rfl
    · rw [h1, h2]
      show innerS H P .tls13 a cr sr exts comp (some ss) = innerS H P .tls13 a cr sr exts comp (some (canon13 (labels13.map st)))
      obtain ⟨e1, e2, e3, e4⟩ := labelOf_s13
      obtain ⟨c1, c2, c3, c4⟩ := lastOf_canon13 (st s_CHTS) (st s_SHTS) (st s_CTS0) (st s_STS0)
      have key : ∀ L ∈ labels13, lastOf (Pipeline.labelOf L) ss = (st L).map Pipeline.bytesOfNats := h3
      have hne : ss ≠ [] := fun e => by rw [e] at hl; cases hl
      have g := generateKeys13_congr H a.ks ss (canon13 (labels13.map st)) cr sr hne (List.cons_ne_nil _ _)
        ((e1 ▸ key s_CHTS List.mem_cons_self).trans c1.symm) ((e2 ▸ key s_SHTS (.tail _ List.mem_cons_self)).trans c2.symm)
        ((e3 ▸ key s_CTS0 (.tail _ (.tail _ List.mem_cons_self))).trans c3.symm)
        ((e4 ▸ key s_STS0 (.tail _ (.tail _ (.tail _ List.mem_cons_self)))).trans c4.symm)
      simp only [innerS, show Pipeline.ksVersion .tls13 = .tls13 from rfl, g]

theorem ksVersion_ne13 (v : Session.Ver) (hv : v ≠ .tls13) : Pipeline.ksVersion v ≠ .tls13 := by
  cases v <;> first | exact absurd rfl hv | (intro h; cases h)

/-- what `installed12 .firstMaster` says about the first of the CLIENT_RANDOM / RSA lines -/
def head12 (k : Key) : Res (Bool × List Nat) :=
  if k.label = s_CLIENT_RANDOM then
    match fromHex k.value with | some b => .ok (false, b) | none => .valueError
  else if k.label = s_RSA then
    match fromHex k.value with | some b => .ok (true, b) | none => .valueError
  else .unbound

def view12 (f : List Key) : Res (Bool × List Nat) :=
  match f with
  | [] => .missing
  | k :: _ => head12 k

theorem installed12_eq (kl : List Key) (cr : List Nat) :
    installed12 .firstMaster kl cr =
      view12 ((findSessionSecrets kl cr).filter fun k => k.label == s_CLIENT_RANDOM || k.label == s_RSA) := rfl

theorem head12_eq (k : Key) (hl : k.label = s_CLIENT_RANDOM ∨ k.label = s_RSA) :
    head12 k = match fromHex k.value with
      | some b => .ok (decide (k.label = s_RSA), b)
      | none => .valueError := by
  have hne : s_RSA ≠ s_CLIENT_RANDOM := by decide
  unfold head12
  rcases hl with e | e <;> rw [e]
  · rw [if_pos rfl, decide_eq_false hne.symm]
  · rw [if_neg hne, if_pos rfl, decide_eq_true rfl]

theorem view12_append (f c : List Key) (hf : ∀ k ∈ f, k.label = s_CLIENT_RANDOM ∨ k.label = s_RSA) :
    view12 (f ++ c) = match view12 f with | .missing => view12 c | r => r := by
  cases f with
  | nil => rfl
  | cons k r =>
    show head12 k = match head12 k with | .missing => view12 c | r => r
    rw [head12_eq k (hf k List.mem_cons_self)]
    cases fromHex k.value <;> rfl

theorem mem_filter12 {l : List Key} {k : Key}
    (hk : k ∈ l.filter fun k => k.label == s_CLIENT_RANDOM || k.label == s_RSA) :
    k.label = s_CLIENT_RANDOM ∨ k.label = s_RSA := by
  have := (List.mem_filter.mp hk).2
  rw [Bool.or_eq_true, beq_iff_eq, beq_iff_eq] at this
  exact this

theorem secretsOf_false_head (k : Key) (r : List Key) (hl : k.label = s_CLIENT_RANDOM ∨ k.label = s_RSA) :
    Pipeline.secretsOf false (k :: r) =
      (fromHex k.value).map fun v => (Pipeline.labelOf k.label, Pipeline.bytesOfNats v) :: r.map fun _ => (.other, []) := by
  simp only [Pipeline.secretsOf, Bool.false_eq_true, if_false, hl, if_true]

def innerOf12 (v : Option Session.Ver) (a : Pipeline.SuiteArgs) (cr sr : Bytes) (exts : Session.Exts) (comp : UInt8) :
    Res (Bool × List Nat) → Session.Gen RecordLayer.Dec
  | .missing => .noSecrets
  | r =>
    match v with
    | none => .raised
    | some v => innerS H P v a cr sr exts comp (match r with
      | .ok (rsa, b) => some [(if rsa then .rsa else .clientRandom, Pipeline.bytesOfNats b)]
      | _ => none)

/-- **SSL 3.0 – TLS 1.2**: the tail of `generate_keys` is a function of what `installed12 .firstMaster` says about the
    lines found -/
theorem inner_eq12 (v : Option Session.Ver) (hv : v ≠ some .tls13) (a : Pipeline.SuiteArgs) (cr sr : Bytes)
    (exts : Session.Exts) (comp : UInt8) (f : List Key) (hf : ∀ k ∈ f, k.label = s_CLIENT_RANDOM ∨ k.label = s_RSA) :
    inner H P v a cr sr exts comp f = innerOf12 H P v a cr sr exts comp (view12 f) := by
  cases f with
  | nil => rfl
  | cons k r =>
    have l := hf k List.mem_cons_self
    have hlab : Pipeline.labelOf k.label = if decide (k.label = s_RSA) then .rsa else .clientRandom := by
      rcases l with e | e <;> rw [e] <;> decide
    rw [show view12 (k :: r) = head12 k from rfl, head12_eq k l]
    cases v with
    | none => cases fromHex k.value <;> rfl
    | some v' =>
      have hv' : v' ≠ .tls13 := fun e => hv (by rw [e])
      show innerS H P v' a cr sr exts comp (Pipeline.secretsOf (decide (v' = .tls13)) (k :: r)) = _
      rw [decide_eq_false hv', secretsOf_false_head k r l]
      cases fromHex k.value with
      | none => rfl
      | some b =>
        show innerS H P v' a cr sr exts comp (some _) = innerS H P v' a cr sr exts comp (some _)
        simp only [innerS, hlab,
          generateKeys_head H _ (ksVersion_ne13 v' hv') a.ks _ (r.map fun _ => (KeySchedule.Label.other, ([] : Bytes))) [] cr sr]

/-- the TLS secrets two key lists install agree for every client random -/
def SameTlsSecrets (kl1 kl2 : List Key) : Prop :=
  ∀ cr, installed12 .firstMaster kl1 cr = installed12 .firstMaster kl2 cr ∧ installed13 kl1 cr = installed13 kl2 cr

/-- **`Pipeline.genKeys` is connected to `Keylog.installed`**: `generate_keys` reads the key log only through what
    `installed12 .firstMaster` (SSL 3.0 – TLS 1.2) / `installed13` (TLS 1.3) say for the client random it is called with. -/
theorem genKeys_of_installed (H : Crypto.Prims) (P : Cipher.Prims) (kl1 kl2 : List Key) (v : Option Session.Ver)
    (suite cr sr : Bytes) (exts : Session.Exts) (comp : UInt8)
    (h12 : v ≠ some .tls13 → installed12 .firstMaster kl1 (Pipeline.natsOfBytes cr)
      = installed12 .firstMaster kl2 (Pipeline.natsOfBytes cr))
    (h13 : v = some .tls13 → installed13 kl1 (Pipeline.natsOfBytes cr) = installed13 kl2 (Pipeline.natsOfBytes cr)) :
    Pipeline.genKeys H P kl1 v suite cr sr exts comp = Pipeline.genKeys H P kl2 v suite cr sr exts comp := by
  rw [genKeys_inner, genKeys_inner]
  cases (if suite.length = 2 then CipherSuite.resolve (Bytes.beNat suite) else none) with
  | none => rfl
  | some ps =>
    simp only
    cases Pipeline.suiteArgs ps with
    | none => rfl
    | some a =>
      simp only
      by_cases hv : v = some .tls13
      · subst hv
        simp only [foundOf, if_true]
        rw [inner_eq13, inner_eq13, ← installed13_eq, ← installed13_eq, h13 rfl]
      · simp only [foundOf, hv, if_false]
        rw [inner_eq12 H P v hv _ _ _ _ _ _ fun k hk => mem_filter12 hk, inner_eq12 H P v hv _ _ _ _ _ _ fun k hk => mem_filter12 hk,
          ← installed12_eq, ← installed12_eq, h12 hv]

theorem ops_of_installed (kl1 kl2 : List Key) (h : SameTlsSecrets kl1 kl2) :
    Pipeline.ops H P kl1 = Pipeline.ops H P kl2 := by
  unfold Pipeline.ops
  congr 1
  funext v suite cr sr exts comp
  exact genKeys_of_installed H P kl1 kl2 v suite cr sr exts comp (fun _ => (h _).1) (fun _ => (h _).2)

theorem findSessionSecrets_append (a c : List Key) (cr : List Nat) :
    findSessionSecrets (a ++ c) cr = findSessionSecrets a cr ++ findSessionSecrets c cr :=
  List.filter_append ..

theorem sameTlsSecrets_append (a b c : List Key) (h : SameTlsSecrets a b) : SameTlsSecrets (a ++ c) (b ++ c) := by
  intro cr
  obtain ⟨h12, h13⟩ := h cr
  rw [installed12_eq, installed12_eq] at h12 ⊢
  rw [installed13_eq, installed13_eq] at h13 ⊢
  rw [findSessionSecrets_append, findSessionSecrets_append, List.filter_append, List.filter_append,
    view12_append _ _ fun k hk => mem_filter12 hk, view12_append _ _ fun k hk => mem_filter12 hk, h12,
    view13_append, view13_append, h13]
  exact ⟨rfl, rfl⟩

end C09

section FileText
open TLX.Keylog TLX.Spec.NssKeylog TLX.Props.C09Found TLX.Lemmas.Keylog TLX.Lemmas.C01Rfc

theorem stripCR_of_not_mem (l : Str) (h : 13 ∉ l) : stripCR l = l := by
  unfold stripCR
  split
  · rename_i hl
    obtain ⟨ys, rfl⟩ := List.getLast?_eq_some_iff.mp hl
    exact absurd (by simp) h
  · rfl

theorem stripCR_snoc (l : Str) : stripCR (l ++ [13]) = l := by
  simp [stripCR]

theorem lines_fileText (ls : List (FLine × Bool)) (hwf : ∀ x ∈ ls, x.1.WF) :
    lines (fileText ls) = ls.map (·.1.text) ++ [[]] := by
  unfold lines
  rw [splitLF_eq]
  induction ls with
  | nil => simp [fileText, splitOn, stripCR]
  | cons x rest ih =>
    obtain ⟨l, crlf⟩ := x
    obtain ⟨h10, h13⟩ := text_no_eol l (hwf (l, crlf) (by simp))
    have ih := ih (fun y hy => hwf y (by simp [hy]))
    cases crlf with
    | false =>
      simp only [fileText, Bool.false_eq_true, if_false, List.append_assoc, List.singleton_append]
      rw [splitOn_append, splitOn_of_not_mem 10 _ h10, List.map_append, ih]
      simp [stripCR_of_not_mem _ h13]
    | true =>
      simp only [fileText, if_true, List.append_assoc]
      have : l.text ++ ([13, 10] ++ fileText rest) = (l.text ++ [13]) ++ 10 :: fileText rest := by simp
      rw [this, splitOn_append, splitOn_of_not_mem 10 _ (by simp [h10]), List.map_append, ih]
      simp [stripCR_snoc]

theorem hasTriple_of_line (ls : List (FLine × Bool)) (hwf : ∀ x ∈ ls, x.1.WF) (tr : Triple) (hc hv : Str) (crlf : Bool)
    (hm : (FLine.key tr hc hv, crlf) ∈ ls) : HasTriple (fileText ls) tr := by
  refine ⟨(FLine.key tr hc hv).text, ?_, hc, hv, hwf _ hm⟩
  rw [lines_fileText ls hwf]
  exact List.mem_append_left _ (List.mem_map.mpr ⟨_, hm, rfl⟩)

theorem hasTriple_fileText_iff (ls : List (FLine × Bool)) (hwf : ∀ x ∈ ls, x.1.WF) (tr : Triple) :
    HasTriple (fileText ls) tr ↔ ∃ hc hv crlf, (FLine.key tr hc hv, crlf) ∈ ls := by
  constructor
  · rintro ⟨l, hl, hden⟩
    rw [lines_fileText ls hwf] at hl
    rcases List.mem_append.mp hl with hl | hl
    · obtain ⟨x, hx, rfl⟩ := List.mem_map.mp hl
      have w := hwf x hx
      obtain ⟨fl, b⟩ := x
      cases fl with
      | key tr' hc hv =>
        have : tr = tr' := denotes_unique hden ⟨hc, hv, w⟩
        subst this
        exact ⟨hc, hv, b, hx⟩
      | other s => exact absurd (looks_of_denotes hden) w.2.2
    · simp only [List.mem_singleton] at hl
      subst hl
      exact absurd (looks_of_denotes hden) not_looks_nil
  · rintro ⟨hc, hv, crlf, hm⟩
    exact hasTriple_of_line ls hwf tr hc hv crlf hm

/-- **`OnlySecret` IS C09's consistency**: in a key-log file that is consistent for the client random (one secret per
    label), a line `label cr secret` is the only secret under that label and client random. -/
theorem onlySecret_of_consistent (ls : List (FLine × Bool)) (hwf : ∀ x ∈ ls, x.1.WF) (cr : List Nat)
    (hcons : ConsistentFor cr (fileText ls)) (label secret : List Nat) (hhas : HasLine ls label cr secret) :
    OnlySecret ls label cr secret := by
  intro tr hc hv crlf hm hl hcr
  obtain ⟨hc0, hv0, crlf0, hm0⟩ := hhas
  exact hcons tr ⟨label, cr, secret⟩ (hasTriple_of_line ls hwf tr hc hv crlf hm)
    (hasTriple_of_line ls hwf _ hc0 hv0 crlf0 hm0) hcr rfl hl

theorem wellFormed_fileText (ls : List (FLine × Bool)) (hwf : ∀ x ∈ ls, x.1.WF) : WellFormed (fileText ls) := by
  intro l hl
  rw [lines_fileText ls hwf] at hl
  rcases List.mem_append.mp hl with hl | hl
  · obtain ⟨x, hx, rfl⟩ := List.mem_map.mp hl
    refine ⟨(text_no_eol x.1 (hwf x hx)).2, ?_⟩
    have w := hwf x hx
    obtain ⟨fl, b⟩ := x
    cases fl with
    | key tr hc hv => exact .inl ⟨tr, hc, hv, w⟩
    | other s => exact .inr w.2.2
  · simp only [List.mem_singleton] at hl
    subst hl
    exact ⟨by simp, .inr not_looks_nil⟩

theorem crOk_cons_ne (c : Nat) (t : Str) (hc : c ≠ 13) (h : CrOk t) : CrOk (c :: t) := by
  unfold CrOk
  split <;> simp_all

theorem crOk_append_lf (l rest : Str) (h : 13 ∉ l) (hr : CrOk rest) (crlf : Bool) :
    CrOk (l ++ (if crlf then [13, 10] else [10]) ++ rest) := by
  induction l with
  | nil => cases crlf <;> simpa [CrOk] using hr
  | cons c cs ih =>
    have hc : c ≠ 13 := fun e => h (by simp [e])
    have := ih (fun hm => h (by simp [hm]))
    simp only [List.cons_append, List.append_assoc] at this ⊢
    exact crOk_cons_ne c _ hc this

theorem crOk_fileText (ls : List (FLine × Bool)) (hwf : ∀ x ∈ ls, x.1.WF) : CrOk (fileText ls) := by
  induction ls with
  | nil => simp [fileText, CrOk]
  | cons x rest ih =>
    obtain ⟨l, crlf⟩ := x
    exact crOk_append_lf _ _ (text_no_eol l (hwf (l, crlf) (by simp))).2 (ih (fun y hy => hwf y (by simp [hy]))) crlf

end FileText

end TLX.Lemmas.ExportSeg
