/-
Lemmas for C11 (and for the emitted checksums of C06): one's-complement arithmetic on `Nat`, word sums over byte lists,
the two-byte encodings, `check` as arithmetic (`check_arith`) and as the RFC 1071 verdict (`check_valid`, the general
statement of C11). Core Lean only.
-/
import TLX.Checksum
import TLX.Spec.Rfc1071
import TLX.Lemmas.Bytes
namespace TLX.Lemmas.OnesComplement
open TLX TLX.Checksum TLX.Spec.Rfc1071

/-- The canonical representative of `s` in 16-bit one's-complement arithmetic: `0` only for `0`,
    otherwise the value in `1 … 0xFFFF` congruent to `s` modulo `0xFFFF`. -/
def norm (s : Nat) : Nat := if s = 0 then 0 else (s - 1) % 65535 + 1

theorem norm_le (s : Nat) : norm s ≤ 65535 := by unfold norm; split <;> omega

theorem norm_pos {s : Nat} (h : 0 < s) : 0 < norm s := by unfold norm; split <;> omega

theorem norm_spec (s : Nat) (h : 0 < s) : ∃ k, s = 65535 * k + norm s ∧ 1 ≤ norm s ∧ norm s ≤ 65535 := by
  refine ⟨(s - 1) / 65535, ?_⟩
  unfold norm
  rw [if_neg (by omega)]
  omega

theorem implFold_eq_norm (s : Nat) : implFold s = norm s := by
  induction s using Nat.strongRecOn with
  | _ s ih =>
    rw [implFold]
    split
    · rename_i h
      have hlt : s / 65536 + s % 65536 < s := by omega
      rw [ih _ hlt]
      unfold norm
      have hpos : s / 65536 + s % 65536 ≠ 0 := by omega
      have hs : s ≠ 0 := by omega
      rw [if_neg hpos, if_neg hs]
      omega
    · unfold norm
      split <;> omega

/-- The word sum of a concatenation splits when the first part has even length (pseudo-header,
    transport header up to the checksum field). -/
theorem _root_.TLX.Props.C11.wordSum_append (a b : Bytes) (h : a.length % 2 = 0) :
    wordSum (a ++ b) = wordSum a + wordSum b := by
  fun_induction wordSum a with
  | case1 => simp
  | case2 x => simp at h
  | case3 x y rest ih =>
    simp only [List.length_cons] at h
    have := ih (by omega)
    simp only [List.cons_append, wordSum]
    omega

theorem pad_append (a b : Bytes) (h : a.length % 2 = 0) : pad (a ++ b) = a ++ pad b := by
  unfold pad
  simp only [List.length_append]
  by_cases hb : b.length % 2 = 0
  · rw [if_neg (by omega), if_neg (by omega)]
  · rw [if_pos (by omega), if_pos (by omega), List.append_assoc]

theorem pad_even (a : Bytes) (h : a.length % 2 = 0) : pad a = a := by
  unfold pad; rw [if_neg (by omega)]

/-- The 32-bit sum `ones_complement_checksum` forms over its argument. -/
def S (b : Bytes) : Nat := wordSum (pad b)

theorem S_append (a b : Bytes) (h : a.length % 2 = 0) : S (a ++ b) = wordSum a + S b := by
  unfold S; rw [pad_append a b h, Props.C11.wordSum_append a _ h]

theorem S_even (a : Bytes) (h : a.length % 2 = 0) : S a = wordSum a := by
  unfold S; rw [pad_even a h]

theorem words_sum (b : Bytes) : (words b).sum = S b := by
  fun_induction words b with
  | case1 => simp [S, pad, wordSum]
  | case2 x => simp [S, pad, wordSum]
  | case3 x y rest ih =>
    have : S (x :: y :: rest) = wordSum [x, y] + S rest := S_append [x, y] rest (by simp)
    rw [this]
    simp only [List.sum_cons, ih, wordSum]
    omega

theorem words_le (b : Bytes) : ∀ w ∈ words b, w ≤ 65535 := by
  fun_induction words b with
  | case1 => simp
  | case2 x =>
    intro w hw
    simp only [List.mem_singleton] at hw
    have := x.toNat_lt
    omega
  | case3 x y rest ih =>
    intro w hw
    simp only [List.mem_cons] at hw
    rcases hw with rfl | hw
    · have := x.toNat_lt; have := y.toNat_lt; omega
    · exact ih w hw

theorem words_append (a b : Bytes) (h : a.length % 2 = 0) : words (a ++ b) = words a ++ words b := by
  fun_induction words a with
  | case1 => simp
  | case2 x => simp at h
  | case3 x y rest ih =>
    simp only [List.length_cons] at h
    simp only [List.cons_append, words, ih (by omega)]

/-! ### End-around-carry addition is addition modulo `0xFFFF` -/

theorem ocAdd_norm (x b : Nat) (hb : b ≤ 65535) : ocAdd (norm x) b = norm (x + b) := by
  unfold ocAdd
  by_cases hx : x = 0
  · subst hx
    unfold norm
    rw [if_pos rfl, Nat.zero_add, if_neg (by omega)]
    split <;> omega
  · by_cases hb0 : b = 0
    · subst hb0
      have := norm_le x
      rw [if_neg (by omega)]; rfl
    · obtain ⟨k, e1, l1, u1⟩ := norm_spec x (by omega)
      obtain ⟨k', e2, l2, u2⟩ := norm_spec (x + b) (by omega)
      generalize norm x = a at *
      generalize norm (x + b) = c at *
      split <;> omega

theorem foldl_ocAdd (ws : List Nat) : ∀ x, (∀ w ∈ ws, w ≤ 65535) →
    ws.foldl ocAdd (norm x) = norm (x + ws.sum) := by
  induction ws with
  | nil => intro x _; simp
  | cons w rest ih =>
    intro x h
    simp only [List.foldl_cons, List.sum_cons]
    rw [ocAdd_norm x w (h w (by simp)), ih (x + w) (fun v hv => h v (by simp [hv]))]
    congr 1
    omega

theorem ocSum_eq_norm (ws : List Nat) (h : ∀ w ∈ ws, w ≤ 65535) : ocSum ws = norm ws.sum := by
  have := foldl_ocAdd ws 0 h
  simpa [ocSum, norm] using this

theorem ofNatBE_two (n : Nat) : Bytes.ofNatBE 2 n = [UInt8.ofNat (n / 256 % 256), UInt8.ofNat (n % 256)] := by
  simp [Bytes.ofNatBE]

theorem two_eq (xs : Bytes) (h : xs.length = 2) : ∃ a b, xs = [a, b] := by
  match xs, h with
  | [a, b], _ => exact ⟨a, b, rfl⟩

/-- `n.to_bytes(2, 'big') == bytes([h, l])` says `n = 256·h + l`. -/
theorem ofNatBE_two_eq (n : Nat) (h l : UInt8) (hn : n < 65536) :
    Bytes.ofNatBE 2 n = [h, l] ↔ n = h.toNat * 256 + l.toNat := by
  rw [ofNatBE_two]
  have hh := h.toNat_lt
  have hl := l.toNat_lt
  simp only [List.cons.injEq, and_true, ← UInt8.toNat_inj, UInt8.toNat_ofNat']
  omega

theorem complement_ofNatBE_two (s : Nat) (hs : s ≤ 65535) :
    complement (Bytes.ofNatBE 2 s) = Bytes.ofNatBE 2 (65535 - s) := by
  rw [ofNatBE_two, ofNatBE_two]
  simp only [complement, List.map_cons, List.map_nil, UInt8.toNat_ofNat', List.cons.injEq, and_true]
  constructor <;> (congr 1; omega)

theorem wordSum_two (h l : UInt8) : wordSum [h, l] = h.toNat * 256 + l.toNat := by
  simp [wordSum]

theorem wordSum_ofNatBE2 (n : Nat) (h : n < 65536) : wordSum (Bytes.ofNatBE 2 n) = n := by
  rw [ofNatBE_two, wordSum_two]
  simp only [UInt8.toNat_ofNat']
  omega

theorem wordSum_ofNatBE4 (n : Nat) (h : n < 4294967296) : wordSum (Bytes.ofNatBE 4 n) = n / 65536 + n % 65536 := by
  show wordSum (Bytes.ofNatBE 2 (n / 256 / 256) ++ [UInt8.ofNat (n / 256 % 256), UInt8.ofNat (n % 256)]) = _
  rw [Props.C11.wordSum_append _ _ (by rw [Bytes.ofNatBE_length]), wordSum_ofNatBE2 _ (by omega)]
  simp only [wordSum, UInt8.toNat_ofNat']
  omega

/-- `ones_complement_checksum` never raises and returns the two bytes of `0xFFFF - fold(sum)`. -/
theorem onesComplementChecksum_eq (b : Bytes) :
    onesComplementChecksum b = .ok (Bytes.ofNatBE 2 (65535 - norm (S b))) := by
  have hle := norm_le (S b)
  simp only [onesComplementChecksum, implFold_eq_norm, toBytes2, bind, Except.bind, pure, Except.pure]
  rw [if_pos (by unfold S at hle; omega)]
  simp only [complement_ofNatBE_two _ (show norm (wordSum (pad b)) ≤ 65535 from hle), S]

theorem split_field (k : L4) (seg : Bytes) (hlen : k.off + 2 ≤ seg.length) :
    ∃ h l, seg = seg.take k.off ++ [h, l] ++ seg.drop (k.off + 2) ∧ storedField k seg = [h, l] := by
  have hm : ((seg.drop k.off).take 2).length = 2 := by
    simp only [List.length_take, List.length_drop]; omega
  obtain ⟨h, l, hhl⟩ := two_eq _ hm
  refine ⟨h, l, ?_, ?_⟩
  · have e1 := (List.take_append_drop k.off seg).symm
    have e2 := (List.take_append_drop 2 (seg.drop k.off)).symm
    rw [List.drop_drop, hhl] at e2
    conv => lhs; rw [e1, e2]
    simp
  · simp only [storedField, Bytes.slice]
    rw [show k.off + 2 - k.off = 2 by omega]
    exact hhl

theorem off_even (k : L4) : k.off % 2 = 0 := by cases k <;> decide

theorem take_off_even (k : L4) (seg : Bytes) (hlen : k.off + 2 ≤ seg.length) : (seg.take k.off).length % 2 = 0 := by
  have := off_even k
  simp only [List.length_take]; omega

theorem S_field (k : L4) (seg : Bytes) (h l : UInt8) (hlen : k.off + 2 ≤ seg.length)
    (hseg : seg = seg.take k.off ++ [h, l] ++ seg.drop (k.off + 2)) :
    S seg = wordSum (seg.take k.off) + (h.toNat * 256 + l.toNat) + S (seg.drop (k.off + 2)) := by
  conv => lhs; rw [hseg]
  rw [List.append_assoc, S_append _ _ (take_off_even k seg hlen), S_append [h, l] _ (by simp), wordSum_two]
  omega

theorem S_zeroField (k : L4) (seg : Bytes) (hlen : k.off + 2 ≤ seg.length) :
    S (zeroField k seg) = wordSum (seg.take k.off) + S (seg.drop (k.off + 2)) := by
  unfold zeroField
  rw [List.append_assoc, S_append _ _ (take_off_even k seg hlen), S_append [0, 0] _ (by simp)]
  simp [wordSum]

theorem words_length (b : Bytes) : (words b).length = (b.length + 1) / 2 := by
  fun_induction words b with
  | case1 => simp
  | case2 x => simp
  | case3 x y rest ih => simp only [List.length_cons, ih]; omega

/-- The model's transports seen by the specification. -/
def toSpec : L4 → Transport
  | .tcp => .tcp
  | .udp => .udp

/-- What the IP header and dpkt's dissection guarantee about the inputs of the checksum functions:
    addresses of even length (4 or 16 bytes), a segment that contains the checksum field (dpkt wants the
    whole 20- or 8-byte header) and whose length fits the IP length field (`len` is not proved of `dissect`: where a
    theorem about the tool needs it, it comes from `check` having returned, `check_ok_len`). -/
structure Dissected (k : L4) (v6 : Bool) (src dst seg : Bytes) : Prop where
  src_even : src.length % 2 = 0
  dst_even : dst.length % 2 = 0
  field : k.off + 2 ≤ seg.length
  len : seg.length < (if v6 then 4294967296 else 65536)

/-- Contribution of the length field(s) of the pseudo-header to the sum. -/
def lenPart (v6 : Bool) (n : Nat) : Nat := if v6 then n / 65536 + n % 65536 else n

/-- The 32-bit sum over pseudo-header and segment with the checksum field left out. -/
def baseSum (k : L4) (v6 : Bool) (src dst seg : Bytes) : Nat :=
  wordSum src + wordSum dst + k.num + lenPart v6 seg.length
    + wordSum (seg.take k.off) + S (seg.drop (k.off + 2))

theorem num_pos (k : L4) : 0 < k.num ∧ k.num < 256 := by cases k <;> decide

theorem baseSum_pos (k : L4) (v6 : Bool) (src dst seg : Bytes) : 0 < baseSum k v6 src dst seg := by
  have := (num_pos k).1
  unfold baseSum; omega

theorem wordSum_addrs (src dst t : Bytes) (hs : src.length % 2 = 0) (hd : dst.length % 2 = 0) :
    wordSum (src ++ dst ++ t) = wordSum src + wordSum dst + wordSum t := by
  rw [List.append_assoc, Props.C11.wordSum_append _ _ hs, Props.C11.wordSum_append _ _ hd, Nat.add_assoc]

theorem pseudoHeader_ok (v6 : Bool) (src dst : Bytes) (p n : Nat) (hs : src.length % 2 = 0) (hd : dst.length % 2 = 0)
    (hp : p < 256) (hn : n < (if v6 then 4294967296 else 65536)) :
    ∃ ph, pseudoHeader v6 src dst p n = .ok ph ∧ ph.length % 2 = 0 ∧
      wordSum ph = wordSum src + wordSum dst + p + lenPart v6 n := by
  cases v6 with
  | false =>
    have hn : n < 65536 := hn
    refine ⟨src ++ dst ++ ([0, UInt8.ofNat (p % 256)] ++ Bytes.ofNatBE 2 n), ?_, ?_, ?_⟩
    · simp only [pseudoHeader, toBytes1, toBytes2, hp, hn, bind, Except.bind, pure, Except.pure, Bool.not_false,
        if_true, Bytes.ofNatBE, List.nil_append, List.append_assoc, List.cons_append]
    · simp only [List.length_append, Bytes.ofNatBE_length, List.length_cons, List.length_nil]; omega
    · rw [wordSum_addrs _ _ _ hs hd, Props.C11.wordSum_append _ _ (by simp), wordSum_ofNatBE2 n hn, wordSum_two,
        UInt8.toNat_zero, UInt8.toNat_ofNat', Nat.mod_mod, Nat.mod_eq_of_lt hp]
      simp only [lenPart, Bool.false_eq_true, if_false]
      omega
  | true =>
    have hn : n < 4294967296 := hn
    refine ⟨src ++ dst ++ (Bytes.ofNatBE 4 n ++ ([0, 0, 0] ++ Bytes.ofNatBE 1 p)), ?_, ?_, ?_⟩
    · simp only [pseudoHeader, toBytes1, toBytes4, hp, hn, bind, Except.bind, pure, Except.pure, Bool.not_true,
        Bool.false_eq_true, if_false, if_true, List.append_assoc]
    · simp only [List.length_append, Bytes.ofNatBE_length, List.length_cons, List.length_nil]; omega
    · rw [wordSum_addrs _ _ _ hs hd, Props.C11.wordSum_append _ _ (by rw [Bytes.ofNatBE_length]), wordSum_ofNatBE4 n hn]
      simp only [Bytes.ofNatBE, List.nil_append, List.cons_append, wordSum, UInt8.toNat_ofNat', UInt8.toNat_zero, lenPart,
        if_true, Nat.mod_eq_of_lt hp, Nat.zero_mul, Nat.zero_add]
      omega

theorem S_pseudo_zeroField (k : L4) (v6 : Bool) (src dst seg ph : Bytes) (hd : Dissected k v6 src dst seg)
    (hev : ph.length % 2 = 0) (hsum : wordSum ph = wordSum src + wordSum dst + k.num + lenPart v6 seg.length) :
    S (ph ++ zeroField k seg) = baseSum k v6 src dst seg := by
  rw [S_append _ _ hev, hsum, S_zeroField k seg hd.field]
  simp only [baseSum, Nat.add_assoc]

/-- Model side: the value `ones_complement_checksum` returns inside `check`. -/
theorem model_sum (k : L4) (v6 : Bool) (src dst seg : Bytes) (hd : Dissected k v6 src dst seg) :
    ∃ ph, pseudoHeader v6 src dst k.num seg.length = .ok ph ∧
      onesComplementChecksum (ph ++ zeroField k seg)
        = .ok (Bytes.ofNatBE 2 (65535 - norm (baseSum k v6 src dst seg))) := by
  obtain ⟨ph, hph, hev, hsum⟩ := pseudoHeader_ok v6 src dst k.num seg.length hd.src_even hd.dst_even (num_pos k).2 hd.len
  exact ⟨ph, hph, by rw [onesComplementChecksum_eq, S_pseudo_zeroField k v6 src dst seg ph hd hev hsum]⟩

theorem proto_toSpec (k : L4) : (toSpec k).proto = k.num := by cases k <;> rfl

theorem pseudoWords_sum (v6 : Bool) (src dst : Bytes) (t : Transport) (n : Nat)
    (hs : src.length % 2 = 0) (hd : dst.length % 2 = 0) :
    (pseudoWords v6 src dst t n).sum = wordSum src + wordSum dst + t.proto + lenPart v6 n := by
  cases v6 <;>
    simp only [pseudoWords, lenPart, Bool.false_eq_true, if_false, if_true, List.sum_append, List.sum_cons, List.sum_nil,
      words_sum, S_even _ hs, S_even _ hd] <;> omega

theorem pseudoWords_le (v6 : Bool) (src dst : Bytes) (t : Transport) (n : Nat)
    (hn : n < (if v6 then 4294967296 else 65536)) : ∀ w ∈ pseudoWords v6 src dst t n, w ≤ 65535 := by
  have ht : t.proto ≤ 65535 := by cases t <;> decide
  intro w hw
  cases v6 <;>
    simp only [pseudoWords, Bool.false_eq_true, if_false, if_true, List.mem_append, List.mem_cons, List.not_mem_nil,
      or_false] at hw hn <;>
    rcases hw with (hw | hw) | hw <;> first | exact words_le _ w hw | omega

/-- Specification side: the one's-complement sum the receiver forms, and the field it reads. -/
theorem spec_sum (k : L4) (v6 : Bool) (src dst seg : Bytes) (hd : Dissected k v6 src dst seg) :
    ∃ h l : UInt8, storedField k seg = [h, l] ∧
      storedChecksum (toSpec k) seg = h.toNat * 256 + l.toNat ∧
      ocSum (pseudoWords v6 src dst (toSpec k) seg.length ++ words seg)
        = norm (baseSum k v6 src dst seg + (h.toNat * 256 + l.toNat)) := by
  obtain ⟨h, l, hseg, hst⟩ := split_field k seg hd.field
  have hpre := take_off_even k seg hd.field
  have hprelen : (seg.take k.off).length = k.off := by
    have := hd.field
    simp only [List.length_take]; omega
  have hwords : words seg = words (seg.take k.off) ++ (h.toNat * 256 + l.toNat) :: words (seg.drop (k.off + 2)) := by
    conv => lhs; rw [hseg]
    rw [List.append_assoc, words_append _ _ hpre]
    rfl
  refine ⟨h, l, hst, ?_, ?_⟩
  · unfold storedChecksum
    rw [hwords, List.getD_eq_getElem?_getD, List.getElem?_append_right (by rw [words_length, hprelen]; cases k <;> decide)]
    rw [words_length, hprelen]
    cases k <;> simp [toSpec, Transport.checksumWord, L4.off]
  · rw [ocSum_eq_norm _ fun w hw => (List.mem_append.mp hw).elim (pseudoWords_le _ _ _ _ _ hd.len w) (words_le _ w),
      List.sum_append, words_sum seg, S_field k seg h l hd.field hseg,
      pseudoWords_sum _ _ _ _ _ hd.src_even hd.dst_even, proto_toSpec]
    congr 1
    simp only [baseSum]
    omega

theorem tcp_decision (s0 st : Nat) (h0 : 0 < s0) (hst : st ≤ 65535) :
    ((65535 - norm s0 = 0 ∧ st = 65535) ∨ 65535 - norm s0 = st) ↔ norm (s0 + st) = 65535 := by
  obtain ⟨k, e1, l1, u1⟩ := norm_spec s0 h0
  obtain ⟨k', e2, l2, u2⟩ := norm_spec (s0 + st) (by omega)
  generalize norm s0 = a at *
  generalize norm (s0 + st) = c at *
  omega

theorem udp_decision (s0 st : Nat) (h0 : 0 < s0) (hst : st ≤ 65535) (hnz : st ≠ 0) :
    (if 65535 - norm s0 = 0 then 65535 else 65535 - norm s0) = st ↔ norm (s0 + st) = 65535 := by
  obtain ⟨k, e1, l1, u1⟩ := norm_spec s0 h0
  obtain ⟨k', e2, l2, u2⟩ := norm_spec (s0 + st) (by omega)
  generalize norm s0 = a at *
  generalize norm (s0 + st) = c at *
  split <;> omega

theorem udp_zero (s0 : Nat) (h0 : 0 < s0) :
    (if 65535 - norm s0 = 0 then 65535 else 65535 - norm s0) ≠ 0 := by
  have := norm_pos h0
  have := norm_le s0
  split <;> omega

theorem beq_two (n : Nat) (h l : UInt8) (hn : n < 65536) :
    (Bytes.ofNatBE 2 n == [h, l]) = decide (n = h.toNat * 256 + l.toNat) := by
  rw [Bool.eq_iff_iff, beq_iff_eq, decide_eq_true_iff]; exact ofNatBE_two_eq n h l hn

theorem ff_beq (h l : UInt8) :
    (([h, l] : Bytes) == [0xFF, 0xFF]) = decide (h.toNat * 256 + l.toNat = 65535) := by
  rw [Bool.eq_iff_iff, beq_iff_eq, decide_eq_true_iff]
  have hh := h.toNat_lt
  have hl := l.toNat_lt
  simp only [List.cons.injEq, and_true, ← UInt8.toNat_inj]
  have : (0xFF : UInt8).toNat = 255 := rfl
  rw [this]; omega

theorem ff_eq : ([0xFF, 0xFF] : Bytes) = Bytes.ofNatBE 2 65535 := by rw [ofNatBE_two]; rfl
theorem zz_eq : ([0, 0] : Bytes) = Bytes.ofNatBE 2 0 := by rw [ofNatBE_two]; rfl

/-- `check` as arithmetic on the base sum `s0` and the stored field `st`. -/
theorem check_arith (k : L4) (v6 : Bool) (src dst seg : Bytes) (hd : Dissected k v6 src dst seg) :
    ∃ st, st ≤ 65535 ∧ storedChecksum (toSpec k) seg = st ∧
      ocSum (pseudoWords v6 src dst (toSpec k) seg.length ++ words seg) = norm (baseSum k v6 src dst seg + st) ∧
      check k v6 src dst k.num seg = .ok (
        let c := 65535 - norm (baseSum k v6 src dst seg)
        match k with
        | .tcp => if c = 0 ∧ st = 65535 then true else decide (c = st)
        | .udp => decide ((if c = 0 then 65535 else c) = st)) := by
  obtain ⟨ph, hph, hcalc⟩ := model_sum k v6 src dst seg hd
  obtain ⟨h, l, hst, hstored, hoc⟩ := spec_sum k v6 src dst seg hd
  have hh := h.toNat_lt
  have hl := l.toNat_lt
  have hn := norm_le (baseSum k v6 src dst seg)
  refine ⟨h.toNat * 256 + l.toNat, by omega, hstored, hoc, ?_⟩
  simp only [check, hph, hcalc, hst, bind, Except.bind, pure, Except.pure]
  cases k with
  | tcp =>
    simp only [beq_two _ 0 0 (show 65535 - norm (baseSum .tcp v6 src dst seg) < 65536 by omega),
      beq_two _ h l (show 65535 - norm (baseSum .tcp v6 src dst seg) < 65536 by omega), ff_beq]
    simp only [UInt8.toNat_zero, Nat.zero_mul, Nat.add_zero, Bool.and_eq_true, decide_eq_true_eq]
    split <;> simp_all
  | udp =>
    simp only [beq_two _ 0 0 (show 65535 - norm (baseSum .udp v6 src dst seg) < 65536 by omega)]
    simp only [UInt8.toNat_zero, Nat.zero_mul, Nat.add_zero, decide_eq_true_eq]
    split
    · rename_i hA
      rw [ff_eq, beq_two _ h l (by omega)]
    · rename_i hA
      rw [beq_two _ h l (by omega)]

/-- the tool's `-c` test and the RFC receiver read the same two numbers off a segment -/
theorem check_verdict (k : L4) (v6 : Bool) (src dst seg : Bytes) (hd : Dissected k v6 src dst seg) :
    ∃ st, st ≤ 65535 ∧ storedChecksum (toSpec k) seg = st ∧
      verdict (toSpec k) v6 src dst seg =
        (if k = .udp ∧ st = 0 then (if v6 then .invalid else .noChecksum)
         else if norm (baseSum k v6 src dst seg + st) = 65535 then .valid else .invalid) ∧
      check k v6 src dst k.num seg =
        .ok (decide (¬ (k = .udp ∧ st = 0) ∧ norm (baseSum k v6 src dst seg + st) = 65535)) := by
  obtain ⟨st, hstle, hstored, hoc, hchk⟩ := check_arith k v6 src dst seg hd
  have h0 := baseSum_pos k v6 src dst seg
  refine ⟨st, hstle, hstored, ?_, ?_⟩
  · unfold verdict
    rw [hstored, hoc]
    cases k <;> simp [toSpec]
  · rw [hchk]
    congr 1
    generalize baseSum k v6 src dst seg = s0 at *
    cases k with
    | tcp =>
      simp only [reduceCtorEq, false_and, not_false_eq_true, true_and]
      have e : decide (norm (s0 + st) = 65535) = decide ((65535 - norm s0 = 0 ∧ st = 65535) ∨ 65535 - norm s0 = st) :=
        decide_eq_decide.mpr (tcp_decision s0 st h0 hstle).symm
      rw [e]
      by_cases h : 65535 - norm s0 = 0 ∧ st = 65535 <;> simp [h]
    | udp =>
      simp only [true_and]
      by_cases hz : st = 0
      · subst hz; simp [udp_zero s0 h0]
      · simp only [hz, not_false_eq_true, true_and]
        exact decide_eq_decide.mpr (udp_decision s0 st h0 hstle hz)

/-- **C11 in general**: `calculate_checksum_tcp/udp` return `True` exactly for the segments the RFC 1071 receiver accepts, no
    case excluded: a UDP datagram over IPv4 that carries no checksum is not `valid` (it is `noChecksum`), and the functions
    return `False` for it. `Props.C11.check_eq_rfc_verify`, `check_never_raises`, `check_udp4_nochecksum` are instances. -/
theorem check_valid (k : L4) (v6 : Bool) (src dst seg : Bytes) (hd : Dissected k v6 src dst seg) :
    check k v6 src dst k.num seg = .ok (decide (verdict (toSpec k) v6 src dst seg = .valid)) := by
  obtain ⟨st, _, _, hv, hchk⟩ := check_verdict k v6 src dst seg hd
  rw [hchk, hv]
  congr 1
  by_cases hz : k = .udp ∧ st = 0
  · cases v6 <;> simp [hz]
  · by_cases hn : norm (baseSum k v6 src dst seg + st) = 65535 <;> simp [hz, hn]

/-- `check` returns only for a segment whose length the pseudo-header can hold (`to_bytes` raises otherwise) -/
theorem check_ok_len (k : L4) (v6 : Bool) (src dst : Bytes) (p : Nat) (seg : Bytes) (b : Bool)
    (h : check k v6 src dst p seg = .ok b) : seg.length < (if v6 then 4294967296 else 65536) := by
  by_cases hl : seg.length < (if v6 then 4294967296 else 65536)
  · exact hl
  · exfalso
    unfold Checksum.check Checksum.pseudoHeader at h
    cases v6 with
    | false =>
      simp only [Bool.false_eq_true, if_false] at hl
      simp only [Bool.not_false, if_true, Checksum.toBytes2, if_neg hl, Checksum.toBytes1, bind, Except.bind] at h
      split at h
      · cases h
      · rename_i _ _ heq
        split at heq <;> cases heq
    | true =>
      simp only [if_true] at hl
      simp only [Bool.not_true, Bool.false_eq_true, if_false, Checksum.toBytes4, if_neg hl, bind, Except.bind] at h
      simp at h

end TLX.Lemmas.OnesComplement
