/-
Helper lemmas for C05: the stable sort / minimum of `Reassembly` on buffers that are already ordered
(which is how `extract_*_buf` meets them: sorted by the previous call, one packet appended), and the
list of chunks of a cut with their stream offsets.  Core Lean only.
-/
import TLX.Lemmas.ModSeq
namespace TLX.Lemmas.ReasmSort
open TLX TLX.Reassembly TLX.Lemmas.ModSeq

theorem insertBy_all_ge (key : Seg → Nat) (a : Seg) (l : List Seg) (h : ∀ x ∈ l, ¬ key x < key a) :
    insertBy key a l = a :: l := by
  cases l with
  | nil => rfl
  | cons x xs => simp [insertBy, h x (List.mem_cons_self ..)]

theorem mem_insertBy (key : Seg → Nat) (p : Seg) (l : List Seg) (x : Seg) :
    x ∈ insertBy key p l ↔ x = p ∨ x ∈ l := by
  induction l with
  | nil => simp [insertBy]
  | cons a r ih =>
    rw [insertBy]
    split
    · rw [List.mem_cons, ih, List.mem_cons, or_left_comm]
    · exact List.mem_cons

theorem sortBy_append_one (key : Seg → Nat) (p : Seg) (l : List Seg)
    (hs : l.Pairwise (fun a b => key a < key b)) (hne : ∀ a ∈ l, key a ≠ key p) :
    sortBy key (l ++ [p]) = insertBy key p l := by
  unfold sortBy
  rw [List.foldr_append]
  show List.foldr (insertBy key) [p] l = insertBy key p l
  induction l with
  | nil => rfl
  | cons a r ih =>
    have hs' := List.pairwise_cons.mp hs
    rw [List.foldr_cons, ih hs'.2 (fun x hx => hne x (List.mem_cons_of_mem _ hx))]
    have hap := hne a (List.mem_cons_self ..)
    simp only [insertBy]
    by_cases hlt : key a < key p
    · rw [if_pos hlt]
      apply insertBy_all_ge
      intro x hx
      rcases (mem_insertBy key p r x).mp hx with rfl | hx
      · omega
      · have := hs'.1 x hx; omega
    · rw [if_neg hlt]
      have hpr : insertBy key p r = p :: r := by
        apply insertBy_all_ge
        intro x hx
        have := hs'.1 x hx; omega
      rw [hpr]
      simp only [insertBy]
      rw [if_pos (by omega)]
      congr 1
      apply insertBy_all_ge
      intro x hx
      have := hs'.1 x hx; omega

theorem minBy_spec (key : Seg → Nat) (a : Seg) (r : List Seg) :
    minBy key a r ∈ a :: r ∧ ∀ x ∈ a :: r, key (minBy key a r) ≤ key x := by
  induction r generalizing a with
  | nil => exact ⟨List.mem_cons_self, fun x hx => by rw [List.mem_singleton.mp hx]; exact Nat.le_refl _⟩
  | cons y ys ih =>
    obtain ⟨h1, h2⟩ := ih (if key y < key a then y else a)
    have hm0 : ((if key y < key a then y else a) = a ∨ (if key y < key a then y else a) = y) ∧
        key (if key y < key a then y else a) ≤ key a ∧ key (if key y < key a then y else a) ≤ key y := by
      by_cases h : key y < key a
      · rw [if_pos h]; exact ⟨.inr rfl, Nat.le_of_lt h, Nat.le_refl _⟩
      · rw [if_neg h]; exact ⟨.inl rfl, Nat.le_refl _, Nat.le_of_not_lt h⟩
    show minBy key (if key y < key a then y else a) ys ∈ _ ∧
      ∀ x ∈ a :: y :: ys, key (minBy key (if key y < key a then y else a) ys) ≤ key x
    have hle := h2 _ List.mem_cons_self
    refine ⟨?_, fun x hx => ?_⟩
    · rcases List.mem_cons.mp h1 with h | h
      · rw [h]; rcases hm0.1 with e | e <;> rw [e] <;> simp
      · exact List.mem_cons_of_mem _ (List.mem_cons_of_mem _ h)
    · rcases List.mem_cons.mp hx with rfl | hx
      · exact Nat.le_trans hle hm0.2.1
      · rcases List.mem_cons.mp hx with rfl | hx
        · exact Nat.le_trans hle hm0.2.2
        · exact h2 x (List.mem_cons_of_mem _ hx)

abbrev P := Nat × Nat × Bytes

def toSeg (W isn : Nat) (e : P) : Seg := ⟨e.2.1, sq W isn e.1, e.2.2⟩

/-- (offset, payload) of a pending entry. -/
def oc (e : P) : Nat × Bytes := (e.1, e.2.2)

/-- Insert by offset (the image of `insertBy` under `toSeg`). -/
def insP (pe : P) : List P → List P
  | [] => [pe]
  | a :: r => if a.1 < pe.1 then a :: insP pe r else pe :: a :: r

theorem mem_insP (pe : P) (l : List P) (x : P) : x ∈ insP pe l ↔ x = pe ∨ x ∈ l := by
  induction l with
  | nil => simp [insP]
  | cons a r ih =>
    rw [insP]
    split
    · rw [List.mem_cons, ih, List.mem_cons, or_left_comm]
    · exact List.mem_cons

theorem self_mem_insP (pe : P) (l : List P) : pe ∈ insP pe l := (mem_insP pe l pe).mpr (Or.inl rfl)

theorem sorted_insP (pe : P) (l : List P) (hs : l.Pairwise (fun a b => a.1 < b.1))
    (hne : ∀ a ∈ l, a.1 ≠ pe.1) : (insP pe l).Pairwise (fun a b => a.1 < b.1) := by
  induction l with
  | nil => simp [insP]
  | cons a r ih =>
    have hs' := List.pairwise_cons.mp hs
    have ha := hne a (List.mem_cons_self ..)
    simp only [insP]
    split
    · rename_i hlt
      refine List.pairwise_cons.mpr ⟨?_, ih hs'.2 (fun x hx => hne x (List.mem_cons_of_mem _ hx))⟩
      intro x hx
      rcases (mem_insP pe r x).mp hx with rfl | hx
      · exact hlt
      · exact hs'.1 x hx
    · refine List.pairwise_cons.mpr ⟨?_, hs⟩
      intro x hx
      rcases List.mem_cons.mp hx with rfl | hx
      · omega
      · have := hs'.1 x hx; omega

theorem insertBy_toSeg (W isn d : Nat) (pe : P) (l : List P)
    (hpe : d ≤ pe.1 ∧ pe.1 - d < W) (hl : ∀ a ∈ l, d ≤ a.1 ∧ a.1 - d < W) :
    insertBy (syncKey W (sq W isn d)) (toSeg W isn pe) (l.map (toSeg W isn)) = (insP pe l).map (toSeg W isn) := by
  have hk : ∀ a : P, d ≤ a.1 ∧ a.1 - d < W → syncKey W (sq W isn d) (toSeg W isn a) = a.1 - d :=
    fun a ha => syncKey_sq W isn d a.1 a.2.1 a.2.2 ha.1 ha.2
  induction l with
  | nil => rfl
  | cons a r ih =>
    have ha := hl a (List.mem_cons_self ..)
    simp only [List.map_cons, insertBy, insP]
    rw [hk a ha, hk pe hpe]
    by_cases hlt : a.1 < pe.1
    · rw [if_pos (by omega), if_pos hlt, List.map_cons, ih (fun x hx => hl x (List.mem_cons_of_mem _ hx))]
    · rw [if_neg (by omega), if_neg hlt]; rfl

def offs : Nat → List Bytes → List (Nat × Bytes)
  | _, [] => []
  | o, c :: cs => (o, c) :: offs (o + c.length) cs

theorem offs_map_snd (o : Nat) (cs : List Bytes) : (offs o cs).map (·.2) = cs := by
  induction cs generalizing o with
  | nil => rfl
  | cons c cs ih => simp [offs, ih]

theorem offs_length (o : Nat) (cs : List Bytes) : (offs o cs).length = cs.length := by
  rw [← List.length_map (f := (·.2)), offs_map_snd]

theorem offs_append (o : Nat) (a b : List Bytes) :
    offs o (a ++ b) = offs o a ++ offs (o + a.flatten.length) b := by
  induction a generalizing o with
  | nil => simp [offs]
  | cons c cs ih =>
    simp only [List.cons_append, offs, ih, List.flatten_cons, List.length_append]
    rw [Nat.add_assoc]

theorem offs_bounds (o : Nat) (cs : List Bytes) (x : Nat × Bytes) (hx : x ∈ offs o cs) :
    o ≤ x.1 ∧ x.1 + x.2.length ≤ o + cs.flatten.length ∧ x.2 ∈ cs := by
  induction cs generalizing o with
  | nil => simp [offs] at hx
  | cons c cs ih =>
    simp only [offs, List.mem_cons] at hx
    rcases hx with rfl | hx
    · simp [List.flatten_cons]
    · have := ih (o + c.length) hx
      simp only [List.flatten_cons, List.length_append, List.mem_cons]
      refine ⟨by omega, by omega, Or.inr this.2.2⟩

theorem offs_functional (o : Nat) (cs : List Bytes) (hne : ∀ c ∈ cs, c ≠ []) (x y : Nat × Bytes)
    (hx : x ∈ offs o cs) (hy : y ∈ offs o cs) (h : x.1 = y.1) : x = y := by
  induction cs generalizing o with
  | nil => simp [offs] at hx
  | cons c cs ih =>
    have hc : 0 < c.length := List.length_pos_iff.mpr (hne c (List.mem_cons_self ..))
    have hne' : ∀ c' ∈ cs, c' ≠ [] := fun c' h' => hne c' (List.mem_cons_of_mem _ h')
    simp only [offs, List.mem_cons] at hx hy
    rcases hx with rfl | hx <;> rcases hy with rfl | hy
    · rfl
    · have := (offs_bounds _ _ _ hy).1; simp only at h; omega
    · have := (offs_bounds _ _ _ hx).1; simp only at h; omega
    · exact ih (o + c.length) hne' hx hy

theorem offs_sorted (o : Nat) (cs : List Bytes) (hne : ∀ c ∈ cs, c ≠ []) :
    (offs o cs).Pairwise (fun a b => a.1 < b.1) := by
  induction cs generalizing o with
  | nil => simp [offs]
  | cons c cs ih =>
    have hc : 0 < c.length := List.length_pos_iff.mpr (hne c (List.mem_cons_self ..))
    refine List.pairwise_cons.mpr ⟨?_, ih _ (fun c' h' => hne c' (List.mem_cons_of_mem _ h'))⟩
    intro x hx
    have := (offs_bounds _ _ _ hx).1
    simp only; omega

theorem sorted_ext {α : Type} (f : α → Nat) (l₁ l₂ : List α)
    (h₁ : l₁.Pairwise (fun a b => f a < f b)) (h₂ : l₂.Pairwise (fun a b => f a < f b))
    (h : ∀ x, x ∈ l₁ ↔ x ∈ l₂) : l₁ = l₂ := by
  induction l₁ generalizing l₂ with
  | nil =>
    cases l₂ with
    | nil => rfl
    | cons b _ => exact absurd ((h b).mpr (List.mem_cons_self ..)) (by simp)
  | cons a r ih =>
    cases l₂ with
    | nil => exact absurd ((h a).mp (List.mem_cons_self ..)) (by simp)
    | cons b s =>
      have p₁ := List.pairwise_cons.mp h₁
      have p₂ := List.pairwise_cons.mp h₂
      have hab : a = b := by
        have ha := (h a).mp (List.mem_cons_self ..)
        have hb := (h b).mpr (List.mem_cons_self ..)
        rcases List.mem_cons.mp ha with rfl | ha
        · rfl
        · rcases List.mem_cons.mp hb with rfl | hb
          · rfl
          · have := p₂.1 a ha; have := p₁.1 b hb; omega
      subst hab
      congr 1
      apply ih _ p₁.2 p₂.2
      intro x
      constructor
      · intro hx
        have := (h x).mp (List.mem_cons_of_mem _ hx)
        rcases List.mem_cons.mp this with rfl | hx'
        · have := p₁.1 x hx; omega
        · exact hx'
      · intro hx
        have := (h x).mpr (List.mem_cons_of_mem _ hx)
        rcases List.mem_cons.mp this with rfl | hx'
        · have := p₂.1 x hx; omega
        · exact hx'

end TLX.Lemmas.ReasmSort
