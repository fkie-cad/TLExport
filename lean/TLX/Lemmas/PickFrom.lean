/-
`pickFrom f n as`: the values a position-aware partial function picks from a list, in order, positions counted from `n`.
The lists of a connection's own datagrams in a described capture (`hsItems`, `oneItems`, `mixItems` …: each datagram with
the tag of its position) have this form; `mem_pickFrom` says where a picked value comes from. Core Lean only.
-/
set_option autoImplicit false
namespace TLX.Lemmas

def pickFrom {α β : Type} (f : Nat → α → Option β) : Nat → List α → List β
  | _, [] => []
  | n, a :: as =>
    match f n a with
    | some b => b :: pickFrom f (n + 1) as
    | none => pickFrom f (n + 1) as

theorem mem_pickFrom {α β : Type} (f : Nat → α → Option β) (n : Nat) (as : List α) (b : β) (h : b ∈ pickFrom f n as) :
    ∃ i a, as[i]? = some a ∧ f (n + i) a = some b := by
  induction as generalizing n with
  | nil => cases h
  | cons a as ih =>
    have tail : b ∈ pickFrom f (n + 1) as → ∃ i a', (a :: as)[i]? = some a' ∧ f (n + i) a' = some b := by
      intro h'
      obtain ⟨i, a', h1, h2⟩ := ih (n + 1) h'
      exact ⟨i + 1, a', h1, by rwa [Nat.add_assoc, Nat.add_comm 1 i] at h2⟩
    unfold pickFrom at h
    split at h
    · rename_i b' hb
      rcases List.mem_cons.mp h with rfl | h'
      · exact ⟨0, a, rfl, hb⟩
      · exact tail h'
    · exact tail h

end TLX.Lemmas
