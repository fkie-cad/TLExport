/-
Helper lemmas for C05: what the delivery relation of `Spec.TlsFraming` gives the invariant proof —
every captured segment is a chunk of the cut and every chunk is captured; an in-order delivery
starts with the chunk at offset 0.  Core Lean only.
-/
import TLX.Spec.TlsFraming
import TLX.Lemmas.ReasmSort
namespace TLX.Lemmas.Delivery
open TLX TLX.Spec.TlsFraming TLX.Lemmas.ModSeq TLX.Lemmas.ReasmSort

theorem segsOf_eq_offs (isn o : Nat) (cs : List Bytes) :
    segsOf isn o cs = (offs o cs).map (fun x => (sq (2 ^ 32) isn x.1, x.2)) := by
  induction cs generalizing o with
  | nil => rfl
  | cons c cs ih => simp [segsOf, offs, ih, sq]

theorem copy_of_cut {str : Bytes} {chunks : List Bytes} (hcut : IsCut str chunks) (isn : Nat) (p : Reassembly.Seg)
    (hm : (p.seq, p.data) ∈ segsOf isn 0 chunks) :
    p.data ≠ [] ∧ ∃ o, (o, p.data) ∈ offs 0 chunks ∧ p.seq = sq (2 ^ 32) isn o := by
  rw [segsOf_eq_offs] at hm
  obtain ⟨x, hx, hxe⟩ := List.mem_map.mp hm
  obtain ⟨hseq, hdata⟩ := Prod.mk.inj hxe
  have hdata : x.2 = p.data := hdata
  rw [← hdata]
  exact ⟨hcut.1 _ (offs_bounds _ _ _ hx).2.2, x.1, hx, hseq.symm⟩

theorem displaced_perm {k : Nat} {l l' : List Wire} (h : Displaced k l l') : l'.Perm l := by
  cases h with
  | later a m b x _ => exact List.Perm.append_left a List.perm_middle
  | earlier a m b x _ => exact List.Perm.append_left a List.perm_middle.symm

theorem delivers_mem {k isn : Nat} {str : Bytes} {l : List Wire} (h : Delivers k isn str l) :
    ∃ chunks, IsCut str chunks ∧ ∀ w, w ∈ l ↔ w ∈ segsOf isn 0 chunks := by
  induction h with
  | cut chunks hc => exact ⟨chunks, hc, fun _ => Iff.rfl⟩
  | dup a b₁ b₂ x _ ih =>
    obtain ⟨chunks, hc, hm⟩ := ih
    -- the list with the duplicate is a permutation of `x ::` the list without, which has `x` already
    have hp : (a ++ x :: (b₁ ++ x :: b₂)).Perm (x :: (a ++ x :: (b₁ ++ b₂))) :=
      (List.Perm.append_left a (List.Perm.cons x List.perm_middle)).trans List.perm_middle
    refine ⟨chunks, hc, fun w => ?_⟩
    rw [← hm w, hp.mem_iff, List.mem_cons]
    exact ⟨fun h => h.elim (fun e => e ▸ by simp) id, Or.inr⟩
  | displace l l' _ hd ih =>
    obtain ⟨chunks, hc, hm⟩ := ih
    exact ⟨chunks, hc, fun w => (displaced_perm hd).mem_iff.trans (hm w)⟩

theorem inorder_head {isn : Nat} {str : Bytes} {l : List Wire} (h : Delivers 0 isn str l) :
    ∀ w, l.head? = some w → w.1 = isn % 2 ^ 32 := by
  induction h with
  | cut chunks _ =>
    intro w hw
    cases chunks with
    | nil => simp [segsOf] at hw
    | cons c cs =>
      simp only [segsOf, List.head?_cons, Option.some.injEq] at hw
      rw [← hw, Nat.add_zero]
  | dup a b₁ b₂ x _ ih =>
    intro w hw
    apply ih
    cases a with
    | nil => simpa using hw
    | cons y ys => simpa using hw
  | displace l l' _ hd ih =>
    intro w hw
    apply ih
    cases hd with
    | later a m b x hm =>
      have : m = [] := List.eq_nil_of_length_eq_zero (by omega)
      subst this
      simpa using hw
    | earlier a m b x hm =>
      have : m = [] := List.eq_nil_of_length_eq_zero (by omega)
      subst this
      simpa using hw

end TLX.Lemmas.Delivery
