/-
Lemmas about the packet-level QUIC session model (`TLX/Quic/Session.lean`) alone: the frame conditions `FrameSel` … `FrameH`
(which state fields a stage of `decrypt_packet` may write; defined here, as is `CidsMono`), invariant principles over the
call tree, `OutGrew` / `Emits` (what a packet object appends to `output_buffer`), and the views `runPkts` / `escapes` /
`caughtList` of `handleQuicPackets`.
-/
import TLX.Quic.Session
namespace TLX.Lemmas.QuicSession
open TLX TLX.Quic TLX.Cipher TLX.Quic.Session

variable {σ : Type} (P : Params σ)

/-! frame conditions in the Hoare-logic sense, not QUIC frames -/

/-- `check_key_epoch` / decryptor selection: epochs, last key phases, the application generations -/
def FrameSel (s s' : St σ) : Prop :=
  ∃ ec es lc ls app, s' =
    { s with epochClient := ec, epochServer := es, lastPhaseClient := lc, lastPhaseServer := ls, decApp := app }

/-- `set_largest_packet_number`: the two packet-number tables -/
def FramePn (s s' : St σ) : Prop := ∃ pc ps, s' = { s with pnClient := pc, pnServer := ps }

/-- `handle_crypto_frame`: TLS parser, output, and what `set_tls_decryptors` assigns -/
def FrameC (s s' : St σ) : Prop :=
  ∃ tls out suite can kh ka ke dh da de etk, s' =
    { s with tls := tls, out := out, suite := suite, canDecrypt := can, keysHs := kh, keysApp := ka, keysEarly := ke,
             decHandshake := dh, decApp := da, decEarly := de, earlyTrafficKeys := etk }

/-- `handle_frame`: the above plus the CID sets -/
def FrameH (s s' : St σ) : Prop :=
  ∃ cc sc tls out suite can kh ka ke dh da de etk, s' =
    { s with clientCids := cc, serverCids := sc, tls := tls, out := out, suite := suite, canDecrypt := can,
             keysHs := kh, keysApp := ka, keysEarly := ke, decHandshake := dh, decApp := da, decEarly := de,
             earlyTrafficKeys := etk }

theorem FrameSel.refl (s : St σ) : FrameSel s s := ⟨_, _, _, _, _, rfl⟩
theorem FramePn.refl (s : St σ) : FramePn s s := ⟨_, _, rfl⟩
theorem FrameC.refl (s : St σ) : FrameC s s := ⟨_, _, _, _, _, _, _, _, _, _, _, rfl⟩
theorem FrameH.refl (s : St σ) : FrameH s s := ⟨_, _, _, _, _, _, _, _, _, _, _, _, _, rfl⟩

theorem FrameC.trans {s a b : St σ} (h1 : FrameC s a) (h2 : FrameC a b) : FrameC s b := by
  obtain ⟨_, _, _, _, _, _, _, _, _, _, _, rfl⟩ := h1
  obtain ⟨_, _, _, _, _, _, _, _, _, _, _, rfl⟩ := h2
  exact ⟨_, _, _, _, _, _, _, _, _, _, _, rfl⟩

theorem FrameH.trans {s a b : St σ} (h1 : FrameH s a) (h2 : FrameH a b) : FrameH s b := by
  obtain ⟨_, _, _, _, _, _, _, _, _, _, _, _, _, rfl⟩ := h1
  obtain ⟨_, _, _, _, _, _, _, _, _, _, _, _, _, rfl⟩ := h2
  exact ⟨_, _, _, _, _, _, _, _, _, _, _, _, _, rfl⟩

theorem FrameC.toH {s a : St σ} (h : FrameC s a) : FrameH s a := by
  obtain ⟨_, _, _, _, _, _, _, _, _, _, _, rfl⟩ := h
  exact ⟨_, _, _, _, _, _, _, _, _, _, _, _, _, rfl⟩

theorem flipEpoch_frame (s : St σ) (phase : Option Nat) (srv : Bool) : FrameSel s (flipEpoch s phase srv) := by
  unfold flipEpoch
  repeat' split
  all_goals exact ⟨_, _, _, _, _, rfl⟩

theorem extendGens_frame (s : St σ) : FrameSel s (extendGens P s).1 := by
  unfold extendGens
  repeat' split
  all_goals exact ⟨_, _, _, _, _, rfl⟩

theorem extendGens_decApp_only (s : St σ) : ∃ app, (extendGens P s).1 = { s with decApp := app } := by
  unfold extendGens
  repeat' split
  all_goals exact ⟨_, rfl⟩

theorem FrameSel.trans {s a b : St σ} (h1 : FrameSel s a) (h2 : FrameSel a b) : FrameSel s b := by
  obtain ⟨_, _, _, _, _, rfl⟩ := h1
  obtain ⟨_, _, _, _, _, rfl⟩ := h2
  exact ⟨_, _, _, _, _, rfl⟩

theorem checkKeyEpoch_frame (s : St σ) (phase : Option Nat) (srv : Bool) :
    FrameSel s (checkKeyEpoch P s phase srv).1 :=
  (flipEpoch_frame s phase srv).trans (extendGens_frame P _)

theorem selectDecryptor_frame (s : St σ) (p : Pkt) : FrameSel s (selectDecryptor P s p).1 := by
  unfold selectDecryptor
  split
  · split
    · have h := checkKeyEpoch_frame P s p.keyPhase p.isServer
      split <;> (rename_i heq; rw [heq] at h; exact h)
    · exact FrameSel.refl s
  · exact FrameSel.refl s

theorem pnStore_eq (s : St σ) (srv : Bool) (sp : Space) (v : Nat) :
    pnStore s srv sp v = { s with pnClient := if srv then s.pnClient else s.pnClient.set sp v,
                                  pnServer := if srv then s.pnServer.set sp v else s.pnServer } := by
  cases srv <;> rfl

theorem setLargestPn_frame (s : St σ) (p : Pkt) (pn : Bytes) : FramePn s (setLargestPn s p pn) := by
  unfold setLargestPn
  split
  · exact FramePn.refl s
  · exact ⟨_, _, pnStore_eq ..⟩

theorem Legacy.getFullPn_frame (s : St σ) (p : Pkt) : FramePn s (Legacy.getFullPn s p).1 := by
  unfold Legacy.getFullPn pnStore
  repeat' split
  all_goals exact ⟨_, _, rfl⟩

theorem installGroups_frame (s : St σ) (sel : SuiteSel) (kg : KeyGroups) : FrameC s (installGroups s sel kg) := by
  unfold installGroups
  repeat' split
  all_goals exact ⟨_, _, _, _, _, _, _, _, _, _, _, rfl⟩

/-- an invariant of the elementary updates of `set_tls_decryptors` holds afterwards (the `_inv` lemmas: one Python block each) -/
theorem setTlsDecryptors_inv (I : St σ → Prop) (s : St σ) (cr cs : Bytes)
    (hcan : I { s with canDecrypt := false }) (hsuite : ∀ sel, I { s with suite := some sel })
    (hinst : ∀ sel kg, P.devQuicKeys sel s.version cr = .ok kg → I (installGroups { s with suite := some sel } sel kg)) :
    I (setTlsDecryptors P s cr cs).1 := by
  unfold setTlsDecryptors
  split
  · exact hcan
  · split
    · exact hsuite _
    · exact hinst _ _ ‹_›

theorem afterTls_inv (I : St σ → Prop) (s : St σ) (h : I s) (hset : ∀ cr cs, I (setTlsDecryptors P s cr cs).1)
    (hclr : ∀ a, I a → I { a with tls := P.tlsClearNewData a.tls }) : I (afterTls P s).1 := by
  unfold afterTls
  split
  · split
    · rename_i cr cs _ _
      have h1 := hset cr cs
      split <;> (rename_i heq; rw [heq] at h1)
      · exact h1
      · exact hclr _ h1
    · exact hclr _ h
  · exact h

theorem handleCrypto_inv (I : St σ → Prop) (s : St σ) (p : Pkt) (f : Frame.Parsed) (c : CryptoIn)
    (htls : I { s with tls := (P.tlsUpdate s.tls c).1 }) (hafter : ∀ a, I a → I (afterTls P a).1)
    (hout : ∀ a, I a → I { a with out := a.out ++ [mkOut p f] }) : I (handleCrypto P s p f c).1 := by
  unfold handleCrypto
  split
  · rename_i t e heq; rw [heq] at htls; exact htls
  · rename_i t heq; rw [heq] at htls
    have h := hafter _ htls
    split <;> (rename_i heq2; rw [heq2] at h)
    · exact h
    · exact hout _ h

theorem setTlsDecryptors_frame (s : St σ) (cr cs : Bytes) : FrameC s (setTlsDecryptors P s cr cs).1 :=
  setTlsDecryptors_inv P (FrameC s) s cr cs ⟨_, _, _, _, _, _, _, _, _, _, _, rfl⟩
    (fun _ => ⟨_, _, _, _, _, _, _, _, _, _, _, rfl⟩)
    (fun _ _ _ => FrameC.trans ⟨_, _, _, _, _, _, _, _, _, _, _, rfl⟩ (installGroups_frame _ _ _))

theorem afterTls_frame (s : St σ) : FrameC s (afterTls P s).1 :=
  afterTls_inv P (FrameC s) s (FrameC.refl s) (setTlsDecryptors_frame P s)
    (fun _ h => h.trans ⟨_, _, _, _, _, _, _, _, _, _, _, rfl⟩)

theorem handleCrypto_frame (s : St σ) (p : Pkt) (f : Frame.Parsed) (c : CryptoIn) :
    FrameC s (handleCrypto P s p f c).1 :=
  handleCrypto_inv P (FrameC s) s p f c ⟨_, _, _, _, _, _, _, _, _, _, _, rfl⟩
    (fun a h => h.trans (afterTls_frame P a)) (fun _ h => h.trans ⟨_, _, _, _, _, _, _, _, _, _, _, rfl⟩)

theorem installGroups_out (s : St σ) (sel : SuiteSel) (kg : KeyGroups) : (installGroups s sel kg).out = s.out := by
  unfold installGroups
  repeat' split
  all_goals rfl

theorem afterTls_out (s : St σ) : (afterTls P s).1.out = s.out :=
  afterTls_inv P (fun a => a.out = s.out) s rfl
    (fun cr cs => setTlsDecryptors_inv P (fun a => a.out = s.out) s cr cs rfl (fun _ => rfl)
      (fun _ _ _ => installGroups_out _ _ _))
    (fun _ h => h)

theorem handleFrames_inv (I : St σ → Prop) (p : Pkt) (fs : List Frame.Parsed)
    (hcrypto : ∀ a l off len data, .crypto l off len data ∈ fs → I a →
      I (handleCrypto P a p (.crypto l off len data) (cryptoIn p off len data)).1)
    (hout : ∀ a f, f ∈ fs → I a → I { a with out := a.out ++ [mkOut p f] })
    (hcid : ∀ a l sq r n cid t, .newConnectionId l sq r n cid t ∈ fs → I a →
      I { a with serverCids := setAdd a.serverCids cid } ∧ I { a with clientCids := setAdd a.clientCids cid })
    (s : St σ) (h : I s) : I (handleFrames P s p fs).1 := by
  induction fs generalizing s with
  | nil => exact h
  | cons f fs ih =>
    have hf : I (handleFrame P s p f).1 := by
      unfold handleFrame
      split
      · exact hcrypto s _ _ _ _ List.mem_cons_self h
      · exact hout s _ List.mem_cons_self h
      · split
        · exact (hcid s _ _ _ _ _ _ List.mem_cons_self h).1
        · exact (hcid s _ _ _ _ _ _ List.mem_cons_self h).2
      · exact h
    unfold handleFrames
    split <;> (rename_i heq; rw [heq] at hf)
    · exact hf
    · exact ih (fun a l off len data hm => hcrypto a l off len data (List.mem_cons_of_mem _ hm))
        (fun a g hm => hout a g (List.mem_cons_of_mem _ hm))
        (fun a l sq r n cid t hm => hcid a l sq r n cid t (List.mem_cons_of_mem _ hm)) _ hf

/-- some decryptor accepted the payload of `p`, and it parses to the frames `fs` -/
def Opened (p : Pkt) (fs : List Frame.Parsed) : Prop :=
  ∃ d pn aad pt, decDecrypt P d p.payload pn aad p.isServer = .ok pt ∧ Frame.parseFrames pt = some fs

/-- `decrypt_packet` once the decryptor is looked up: every raise up to and including the AEAD check leaves the state
    untouched; then the packet number is stored, and `parse_frames` may still raise before `handle_frame` runs. -/
theorem decryptRest_cases (s : St σ) (p : Pkt) (d? : Option Dec) :
    (∃ e, decryptRest P s p d? = (s, some e)) ∨
    ∃ d pn aad pt, d? = some d ∧ getFullPn s p = .ok pn ∧ assocData p = .ok aad ∧
      decDecrypt P d p.payload pn aad p.isServer = .ok pt ∧
      ((Frame.parseFrames pt = none ∧ (decryptRest P s p d?).1 = setLargestPn s p pn) ∨
       ∃ fs, Frame.parseFrames pt = some fs ∧
         (decryptRest P s p d?).1 = (handleFrames P (setLargestPn s p pn) p fs).1) := by
  unfold decryptRest
  cases hpn : getFullPn s p with
  | error e => exact .inl ⟨e, rfl⟩
  | ok pn =>
    dsimp only
    cases haad : assocData p with
    | error e => exact .inl ⟨e, rfl⟩
    | ok aad =>
      dsimp only
      cases d? with
      | none => exact .inl ⟨_, rfl⟩
      | some d =>
        dsimp only
        cases hd : decDecrypt P d p.payload pn aad p.isServer with
        | error e => exact .inl ⟨e, rfl⟩
        | ok pt =>
          dsimp only
          refine .inr ⟨d, pn, aad, pt, rfl, rfl, rfl, hd, ?_⟩
          cases hfs : Frame.parseFrames pt with
          | none => exact .inl ⟨rfl, rfl⟩
          | some fs => exact .inr ⟨fs, rfl, rfl⟩

theorem decryptRest_inv (I : St σ → Prop) (p : Pkt) (hpn : ∀ a b, FramePn a b → I a → I b)
    (hframes : ∀ a fs, Opened P p fs → I a → I (handleFrames P a p fs).1) (s : St σ) (d? : Option Dec) (h : I s) :
    I (decryptRest P s p d?).1 := by
  rcases decryptRest_cases P s p d? with ⟨e, he⟩ | ⟨d, pn, aad, pt, _, _, _, hd, hr⟩
  · rw [he]; exact h
  · have hst := hpn _ _ (setLargestPn_frame s p pn) h
    rcases hr with ⟨_, hr⟩ | ⟨fs, hfs, hr⟩ <;> rw [hr]
    · exact hst
    · exact hframes _ fs ⟨d, pn, aad, pt, hd, hfs⟩ hst

theorem decryptPacket_inv (I : St σ → Prop) (p : Pkt) (hsel : ∀ a b, FrameSel a b → I a → I b)
    (hpn : ∀ a b, FramePn a b → I a → I b) (hframes : ∀ a fs, Opened P p fs → I a → I (handleFrames P a p fs).1)
    (s : St σ) (h : I s) : I (decryptPacket P s p).1 := by
  unfold decryptPacket
  have h1 := hsel _ _ (selectDecryptor_frame P s p) h
  split <;> (rename_i heq; rw [heq] at h1)
  · exact h1
  · exact decryptRest_inv P I p hpn hframes _ _ h1

theorem handleFrames_frame (s : St σ) (p : Pkt) (fs : List Frame.Parsed) : FrameH s (handleFrames P s p fs).1 :=
  handleFrames_inv P (FrameH s) p fs (fun a _ _ _ _ _ h => h.trans (handleCrypto_frame P a p _ _).toH)
    (fun _ _ _ h => h.trans ⟨_, _, _, _, _, _, _, _, _, _, _, _, _, rfl⟩)
    (fun _ _ _ _ _ _ _ _ h =>
      ⟨h.trans ⟨_, _, _, _, _, _, _, _, _, _, _, _, _, rfl⟩, h.trans ⟨_, _, _, _, _, _, _, _, _, _, _, _, _, rfl⟩⟩)
    s (FrameH.refl s)

theorem selectSuite_aeadOk {cs : Bytes} {sel : SuiteSel} (h : selectSuite cs = some sel) :
    AeadOk sel.alg sel.keyLen 12 16 ∧ sel.keyLen ≤ 32 := by
  unfold selectSuite at h
  repeat' split at h
  all_goals first
    | (cases h; decide)
    | cases h

/-- with handshake and application keys derived, all three try/excepts pass; the Early decryptor is replaced only
    when an early key exists -/
theorem installGroups_all (s : St σ) (sel : SuiteSel) (hsS hsC : DirKeys) (ak : AppKeys) (early : Option DirKeys) :
    installGroups s sel ⟨some (hsS, hsC), some ak, early⟩ =
      { s with keysHs := true, keysApp := true, keysEarly := s.keysEarly || early.isSome,
               decHandshake := some { alg := sel.alg, server := some hsS, client := hsC },
               decApp := some [ak.toDec sel.alg],
               decEarly := match early with
                 | some ek => some { alg := sel.alg, server := none, client := ek }
                 | none => s.decEarly,
               earlyTrafficKeys := s.earlyTrafficKeys || early.isSome } := by
  cases early <;> simp [installGroups]

theorem installGroups_decs (s : St σ) (sel : SuiteSel) (kg : KeyGroups) :
    ((installGroups s sel kg).decHandshake = s.decHandshake ∨ ∃ a b, kg.hs = some (a, b) ∧
      (installGroups s sel kg).decHandshake = some { alg := sel.alg, server := some a, client := b }) ∧
    ((installGroups s sel kg).decApp = s.decApp ∨ ∃ ak, kg.app = some ak ∧
      (installGroups s sel kg).decApp = some [ak.toDec sel.alg]) ∧
    ((installGroups s sel kg).decEarly = s.decEarly ∨ ∃ ek, kg.early = some ek ∧
      (installGroups s sel kg).decEarly = some { alg := sel.alg, server := none, client := ek }) := by
  unfold installGroups
  split
  · exact ⟨Or.inl rfl, Or.inl rfl, Or.inl rfl⟩
  · rename_i a b ha
    split
    · exact ⟨Or.inr ⟨a, b, ha, rfl⟩, Or.inl rfl, Or.inl rfl⟩
    · rename_i ak hk
      split
      · exact ⟨Or.inr ⟨a, b, ha, rfl⟩, Or.inr ⟨ak, hk, rfl⟩, Or.inl rfl⟩
      · rename_i ek he
        exact ⟨Or.inr ⟨a, b, ha, rfl⟩, Or.inr ⟨ak, hk, rfl⟩, Or.inr ⟨ek, he, rfl⟩⟩

theorem decDecrypt_ok {d : Dec} {pl : Option Bytes} {pn aad pt : Bytes} {srv : Bool}
    (h : decDecrypt P d pl pn aad srv = .ok pt) :
    ∃ k ct, (if srv then d.server else some d.client) = some k ∧ pl = some ct ∧
      P.prims.aeadOpen d.alg k.key (nonceOf k.iv pn) aad 16 ct = .ok pt := by
  unfold decDecrypt at h
  split at h
  · cases h
  · rename_i k hk
    split at h
    · cases h
    · exact ⟨k, _, hk, rfl, h⟩

theorem appDecryptor_mem {s : St σ} {srv : Bool} {d : Dec} (h : appDecryptor s srv = .ok (some d)) :
    ∃ g, s.decApp = some g ∧ d ∈ g := by
  unfold appDecryptor at h
  split at h
  · cases h
  · rename_i g hg
    split at h
    · cases h
    · rename_i x hx
      cases h
      exact ⟨g, hg, List.mem_of_getElem? hx⟩

theorem longDecryptor_some {s : St σ} {t : PType} {d : Dec} (h : longDecryptor s t = .ok (some d)) :
    (t = .initial ∧ s.decInitial = some d) ∨ (t = .handshake ∧ s.decHandshake = some d) ∨
    (t = .rtt0 ∧ s.decEarly = some d) := by
  unfold longDecryptor at h
  split at h
  · split at h
    · cases h
    · rename_i hd; cases h; exact Or.inl ⟨rfl, hd⟩
  · split at h
    · cases h
    · rename_i hd; cases h; exact Or.inr (Or.inl ⟨rfl, hd⟩)
  · split at h
    · cases h
    · rename_i hd; cases h; exact Or.inr (Or.inr ⟨rfl, hd⟩)
  · cases h

theorem afterDecrypt_st (s : St σ) (c : Option PyErr) (p : Pkt) :
    (afterDecrypt P s c p).st = s ∨
    (p.ptype = .versionNeg ∧
      (afterDecrypt P s c p).st = { s with out := s.out ++ [⟨.versionNeg, p.ts, p.isServer, p.ptype⟩] }) ∨
    (afterDecrypt P s c p).st = retryReset P s ∨ (afterDecrypt P s c p).st = learnCids s p := by
  unfold afterDecrypt
  split
  · rename_i hv
    split
    · exact Or.inl rfl
    · exact Or.inr (Or.inl ⟨hv, rfl⟩)
  · split
    · exact Or.inr (Or.inr (Or.inl rfl))
    · split
      · split
        · exact Or.inl rfl
        · exact Or.inr (Or.inr (Or.inr rfl))
      · exact Or.inl rfl

theorem handlePacketPre_frame (s : St σ) (dcid : Bytes) (v : Version) :
    ∃ ver di ki cd, handlePacketPre P s dcid v = { s with version := ver, decInitial := di, keysInitial := ki, canDecrypt := cd } := by
  have hl : ∃ ver, latchVersion s v = { s with version := ver } := by
    unfold latchVersion; split <;> exact ⟨_, rfl⟩
  obtain ⟨ver, hl⟩ := hl
  unfold handlePacketPre
  rw [hl]
  split
  · unfold setInitialDecryptor; split <;> exact ⟨_, _, _, _, rfl⟩
  · exact ⟨_, _, _, _, rfl⟩

theorem handlePacketPre_out (s : St σ) (dcid : Bytes) (v : Version) : (handlePacketPre P s dcid v).out = s.out := by
  obtain ⟨_, _, _, _, h⟩ := handlePacketPre_frame P s dcid v
  rw [h]

theorem handlePacketPre_pn (s : St σ) (dcid : Bytes) (v : Version) :
    (handlePacketPre P s dcid v).pnClient = s.pnClient ∧ (handlePacketPre P s dcid v).pnServer = s.pnServer := by
  obtain ⟨_, _, _, _, h⟩ := handlePacketPre_frame P s dcid v
  rw [h]; exact ⟨rfl, rfl⟩

theorem afterDecrypt_pn (s : St σ) (c : Option PyErr) (p : Pkt) :
    (afterDecrypt P s c p).st.pnClient = s.pnClient ∧ (afterDecrypt P s c p).st.pnServer = s.pnServer := by
  rcases afterDecrypt_st P s c p with h | ⟨_, h⟩ | h | h <;> rw [h]
  · exact ⟨rfl, rfl⟩
  · exact ⟨rfl, rfl⟩
  · exact ⟨rfl, rfl⟩
  · unfold learnCids; split <;> exact ⟨rfl, rfl⟩

theorem stepPkt_rtt1 (s : St σ) (p : Pkt) (ht : p.ptype = .rtt1) :
    stepPkt P s p = { st := (decryptPacket P s p).1, caught := (decryptPacket P s p).2, escaped := none } := by
  simp [stepPkt, afterDecrypt, ht]

theorem stepPkt_rtt0 (s : St σ) (p : Pkt) (ht : p.ptype = .rtt0) :
    stepPkt P s p = { st := (decryptPacket P s p).1, caught := (decryptPacket P s p).2, escaped := none } := by
  simp [stepPkt, afterDecrypt, ht]

theorem selectDecryptor_long (s : St σ) (p : Pkt) (hh : p.htype = .long) :
    selectDecryptor P s p = (s, longDecryptor s p.ptype) := by
  unfold selectDecryptor; rw [hh]

theorem decryptPacket_long (s : St σ) (p : Pkt) (hh : p.htype = .long) {d? : Option Dec}
    (hd : longDecryptor s p.ptype = .ok d?) : decryptPacket P s p = decryptRest P s p d? := by
  unfold decryptPacket; rw [selectDecryptor_long P s p hh, hd]

theorem decryptPacket_long_err (s : St σ) (p : Pkt) (hh : p.htype = .long) {e : PyErr}
    (hd : longDecryptor s p.ptype = .error e) : decryptPacket P s p = (s, some e) := by
  unfold decryptPacket; rw [selectDecryptor_long P s p hh, hd]

theorem longDecryptor_early {s : St σ} {d : Dec} (hd : s.decEarly = some d) : longDecryptor s .rtt0 = .ok (some d) := by
  simp only [longDecryptor, hd]

theorem latchVersion_id (s : St σ) (v : Version) (h : v = .unknown ∨ s.version ≠ .unknown) : latchVersion s v = s := by
  unfold latchVersion
  split
  · rename_i h0; rcases h with rfl | h
    · cases s; simp_all
    · exact absurd h0 h
  · rfl

/-! ### `output_buffer` only grows, and by what -/

def OutGrew (Q : Out → Prop) (a b : List Out) : Prop := ∃ J, b = a ++ J ∧ ∀ o ∈ J, Q o

theorem OutGrew.refl (Q : Out → Prop) (a : List Out) : OutGrew Q a a :=
  ⟨[], (List.append_nil a).symm, fun _ h => nomatch h⟩

theorem OutGrew.of_eq {Q : Out → Prop} {a b : List Out} (h : b = a) : OutGrew Q a b := h ▸ OutGrew.refl Q a

theorem OutGrew.trans {Q : Out → Prop} {a b c : List Out} (h1 : OutGrew Q a b) (h2 : OutGrew Q b c) : OutGrew Q a c := by
  obtain ⟨J1, rfl, q1⟩ := h1
  obtain ⟨J2, rfl, q2⟩ := h2
  exact ⟨J1 ++ J2, List.append_assoc .., fun o ho => (List.mem_append.mp ho).elim (q1 o) (q2 o)⟩

theorem OutGrew.mono {Q Q' : Out → Prop} {a b : List Out} (h : OutGrew Q a b) (hq : ∀ o, Q o → Q' o) : OutGrew Q' a b :=
  let ⟨J, e, q⟩ := h; ⟨J, e, fun o ho => hq o (q o ho)⟩

theorem OutGrew.snoc {Q : Out → Prop} {a b : List Out} (h : OutGrew Q a b) (o : Out) (ho : Q o) : OutGrew Q a (b ++ [o]) :=
  h.trans ⟨[o], rfl, fun _ he => List.mem_singleton.mp he ▸ ho⟩

theorem OutGrew.mem {Q : Out → Prop} {a b : List Out} (h : OutGrew Q a b) : ∀ e ∈ b, e ∈ a ∨ Q e := by
  obtain ⟨J, rfl, q⟩ := h
  exact fun e he => (List.mem_append.mp he).imp id (q e)

theorem FrameSel.out {s a : St σ} (h : FrameSel s a) : a.out = s.out := by obtain ⟨_, _, _, _, _, rfl⟩ := h; rfl
theorem FramePn.out {s a : St σ} (h : FramePn s a) : a.out = s.out := by obtain ⟨_, _, rfl⟩ := h; rfl

/-- the entries the packet object `p` can put into `output_buffer`: the VERSION_NEG pseudo frame of a Version Negotiation
    packet, or a frame of its opened payload -/
def Emits (p : Pkt) (o : Out) : Prop :=
  (p.ptype = .versionNeg ∧ o = ⟨.versionNeg, p.ts, p.isServer, p.ptype⟩) ∨ ∃ fs f, Opened P p fs ∧ f ∈ fs ∧ o = mkOut p f

theorem handleFrames_outGrew (s : St σ) (p : Pkt) (fs : List Frame.Parsed) (hop : Opened P p fs) :
    OutGrew (Emits P p) s.out (handleFrames P s p fs).1.out :=
  handleFrames_inv P (fun a => OutGrew (Emits P p) s.out a.out) p fs
    (fun a l off len data hm h => handleCrypto_inv P (fun b => OutGrew (Emits P p) s.out b.out) a p _ _ h
      (fun b hb => by rw [afterTls_out]; exact hb) (fun b hb => hb.snoc _ (.inr ⟨fs, _, hop, hm, rfl⟩)))
    (fun a f hm h => h.snoc _ (.inr ⟨fs, f, hop, hm, rfl⟩)) (fun _ _ _ _ _ _ _ _ h => ⟨h, h⟩) s (OutGrew.refl _ _)

theorem decryptPacket_outGrew (s : St σ) (p : Pkt) : OutGrew (Emits P p) s.out (decryptPacket P s p).1.out :=
  decryptPacket_inv P (fun a => OutGrew (Emits P p) s.out a.out) p (fun _ _ f h => by rw [f.out]; exact h)
    (fun _ _ f h => by rw [f.out]; exact h) (fun a fs hop h => h.trans (handleFrames_outGrew P a p fs hop)) s
    (OutGrew.refl _ _)

theorem stepPkt_outGrew (s : St σ) (p : Pkt) : OutGrew (Emits P p) s.out (stepPkt P s p).st.out := by
  have hafter : ∀ (a : St σ) (c : Option PyErr), OutGrew (Emits P p) a.out (afterDecrypt P a c p).st.out := by
    intro a c
    rcases afterDecrypt_st P a c p with h | ⟨hv, h⟩ | h | h <;> rw [h]
    · exact OutGrew.refl _ _
    · exact (OutGrew.refl _ _).snoc _ (.inl ⟨hv, rfl⟩)
    · exact OutGrew.refl _ _
    · unfold learnCids; split <;> exact OutGrew.refl _ _
  unfold stepPkt
  split
  · exact (decryptPacket_outGrew P s p).trans (hafter _ _)
  · exact hafter s none

/-! ### the CID sets only grow -/

theorem mem_setAdd_of_mem {s : List Bytes} {x y : Bytes} (h : x ∈ s) : x ∈ setAdd s y := by
  unfold setAdd; split <;> simp [h]

theorem mem_setAdd_self (s : List Bytes) (y : Bytes) : y ∈ setAdd s y := by
  unfold setAdd; split <;> simp [*]

theorem mem_optAdd_of_mem {s : List Bytes} {x : Bytes} {y : Option Bytes} (h : x ∈ s) : x ∈ optAdd s y := by
  cases y <;> simp [optAdd, h, mem_setAdd_of_mem]

def CidsMono (s s' : St σ) : Prop :=
  (∀ x, x ∈ s.clientCids → x ∈ s'.clientCids) ∧ (∀ x, x ∈ s.serverCids → x ∈ s'.serverCids)

theorem CidsMono.refl (s : St σ) : CidsMono s s := ⟨fun _ h => h, fun _ h => h⟩

theorem CidsMono.trans {s a b : St σ} (h1 : CidsMono s a) (h2 : CidsMono a b) : CidsMono s b :=
  ⟨fun x h => h2.1 x (h1.1 x h), fun x h => h2.2 x (h1.2 x h)⟩

theorem CidsMono.of_eq {s a : St σ} (hc : a.clientCids = s.clientCids) (hs : a.serverCids = s.serverCids) :
    CidsMono s a := ⟨fun _ h => hc ▸ h, fun _ h => hs ▸ h⟩

theorem FrameSel.cids {s a : St σ} (h : FrameSel s a) : CidsMono s a := by
  obtain ⟨_, _, _, _, _, rfl⟩ := h; exact CidsMono.refl _

theorem FramePn.cids {s a : St σ} (h : FramePn s a) : CidsMono s a := by
  obtain ⟨_, _, rfl⟩ := h; exact CidsMono.refl _

theorem FrameC.cids {s a : St σ} (h : FrameC s a) : CidsMono s a := by
  obtain ⟨_, _, _, _, _, _, _, _, _, _, _, rfl⟩ := h; exact CidsMono.refl _

theorem handleFrames_cids (s : St σ) (p : Pkt) (fs : List Frame.Parsed) : CidsMono s (handleFrames P s p fs).1 :=
  handleFrames_inv P (CidsMono s) p fs (fun a _ _ _ _ _ h => h.trans (handleCrypto_frame P a p _ _).cids)
    (fun _ _ _ h => h.trans (CidsMono.of_eq rfl rfl))
    (fun _ _ _ _ _ _ _ _ h =>
      ⟨h.trans ⟨fun _ h => h, fun _ h => mem_setAdd_of_mem h⟩, h.trans ⟨fun _ h => mem_setAdd_of_mem h, fun _ h => h⟩⟩)
    s (CidsMono.refl s)

theorem decryptPacket_cids (s : St σ) (p : Pkt) : CidsMono s (decryptPacket P s p).1 :=
  decryptPacket_inv P (CidsMono s) p (fun _ _ f h => h.trans f.cids) (fun _ _ f h => h.trans f.cids)
    (fun a fs _ h => h.trans (handleFrames_cids P a p fs)) s (CidsMono.refl s)

theorem learnCids_cids (s : St σ) (p : Pkt) : CidsMono s (learnCids s p) := by
  unfold learnCids
  split
  · exact ⟨fun _ h => mem_setAdd_of_mem h, fun _ h => mem_optAdd_of_mem h⟩
  · exact ⟨fun _ h => mem_optAdd_of_mem h, fun _ h => mem_setAdd_of_mem h⟩

theorem afterDecrypt_cids (s : St σ) (c : Option PyErr) (p : Pkt) : CidsMono s (afterDecrypt P s c p).st := by
  rcases afterDecrypt_st P s c p with h | ⟨_, h⟩ | h | h <;> rw [h]
  · exact CidsMono.refl _
  · exact CidsMono.of_eq rfl rfl
  · exact CidsMono.of_eq rfl rfl
  · exact learnCids_cids s p

theorem stepPkt_cids (s : St σ) (p : Pkt) : CidsMono s (stepPkt P s p).st := by
  unfold stepPkt
  split
  · exact (decryptPacket_cids P s p).trans (afterDecrypt_cids P _ _ p)
  · exact afterDecrypt_cids P s none p

theorem handlePacketPre_cids (s : St σ) (dcid : Bytes) (v : Version) : CidsMono s (handlePacketPre P s dcid v) := by
  obtain ⟨_, _, _, _, h⟩ := handlePacketPre_frame P s dcid v
  rw [h]; exact CidsMono.of_eq rfl rfl

/-! ### `handleQuicPackets` = (`runPkts`, …, `escapes`) -/

theorem handleQuicPackets_eq (s : St σ) (ps : List Pkt) :
    handleQuicPackets P s ps = (runPkts P s ps, caughtList P s ps, escapes P s ps) := by
  induction ps generalizing s with
  | nil => rfl
  | cons p ps ih =>
    simp only [handleQuicPackets, runPkts, caughtList, escapes]
    split
    · rfl
    · simp only [ih]

theorem handleQuicPackets_st (s : St σ) (ps : List Pkt) : (handleQuicPackets P s ps).1 = runPkts P s ps := by
  rw [handleQuicPackets_eq]

theorem handleQuicPackets_esc (s : St σ) (ps : List Pkt) : (handleQuicPackets P s ps).2.2 = escapes P s ps := by
  rw [handleQuicPackets_eq]

theorem handleQuicPackets_caught (s : St σ) (ps : List Pkt) : (handleQuicPackets P s ps).2.1 = caughtList P s ps := by
  rw [handleQuicPackets_eq]

theorem runPkts_inv (I : St σ → Prop) (Q : Pkt → Prop) (hstep : ∀ s p, Q p → I s → I (stepPkt P s p).st)
    (ps : List Pkt) (hQ : ∀ p ∈ ps, Q p) (s : St σ) (h : I s) : I (runPkts P s ps) := by
  induction ps generalizing s with
  | nil => exact h
  | cons p ps ih =>
    have h1 := hstep s p (hQ p (List.mem_cons_self ..)) h
    unfold runPkts
    split
    · exact h1
    · exact ih (fun q hq => hQ q (List.mem_cons_of_mem _ hq)) _ h1

theorem run_inv (I : St σ → Prop) (Q : Pkt → Prop) (hstep : ∀ s p, Q p → I s → I (stepPkt P s p).st)
    (hpre : ∀ s dcid v, I s → I (handlePacketPre P s dcid v))
    (ds : List Dgram) (hQ : ∀ d ∈ ds, ∀ p ∈ d.pkts, ∀ b, Q { p with isServer := b }) (s : St σ) (h : I s) :
    I (run P s ds).1 := by
  induction ds generalizing s with
  | nil => exact h
  | cons d ds ih =>
    have h1 : I (handlePacket P s d).1 := by
      unfold handlePacket
      rw [handleQuicPackets_st]
      refine runPkts_inv P I Q hstep _ (fun q hq => ?_) _ (hpre s d.dcid d.version h)
      obtain ⟨p, hp, rfl⟩ := List.mem_map.mp hq
      exact hQ d (List.mem_cons_self ..) p hp _
    unfold run
    split <;> (rename_i heq; rw [heq] at h1)
    · exact h1
    · exact ih (fun d' hd' => hQ d' (List.mem_cons_of_mem _ hd')) _ h1

theorem runPkts_append (s : St σ) (a b : List Pkt) (h : escapes P s a = none) :
    runPkts P s (a ++ b) = runPkts P (runPkts P s a) b := by
  induction a generalizing s with
  | nil => rfl
  | cons p ps ih =>
    simp only [List.cons_append, runPkts]
    simp only [escapes] at h
    split
    · rename_i e he; rw [he] at h; simp at h
    · rename_i he; rw [he] at h; exact ih _ h

/-! ### no exception escapes for packets the class constructors can build -/

theorem afterDecrypt_escaped (s : St σ) (c : Option PyErr) (p : Pkt) (h : Pkt.classOk p) :
    (afterDecrypt P s c p).escaped = none := by
  unfold afterDecrypt
  by_cases hs : p.htype = .short
  · simp [h hs]
  · simp only [hs, if_false]
    repeat' split
    all_goals rfl

theorem stepPkt_escaped (s : St σ) (p : Pkt) (h : Pkt.classOk p) : (stepPkt P s p).escaped = none := by
  unfold stepPkt; split <;> exact afterDecrypt_escaped P _ _ p h

theorem escapes_none (s : St σ) (ps : List Pkt) (h : ∀ p ∈ ps, Pkt.classOk p) : escapes P s ps = none := by
  induction ps generalizing s with
  | nil => rfl
  | cons p ps ih =>
    simp only [escapes, stepPkt_escaped P s p (h p (List.mem_cons_self ..))]
    exact ih _ (fun q hq => h q (List.mem_cons_of_mem _ hq))

end TLX.Lemmas.QuicSession
