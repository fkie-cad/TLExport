/-
Lemmas for C06Bytes: scapy's checksum routine against RFC 1071, the serialised layers read back field by field, the pcapng
writer against the draft encoder. Defines the closed form of `serializeFrame` (`phBytes`, `l4Ck`, `segBytes`, `ipBytes`,
`frameBytes`, with `Fits` as its domain), `expected`, `kOf`, and for the writer `dpktVariant`, `evOf`, `PktFits`. Core Lean only.
-/
import TLX.OutBytes
import TLX.Lemmas.OnesComplement
import TLX.Lemmas.Container
import TLX.Lemmas.ByteEval
import TLX.Lemmas.Bytes
import TLX.Lemmas.Cursor
import TLX.Spec.FrameParse
import TLX.Spec.PcapngWalk
namespace TLX.Lemmas.OutBytes
open TLX TLX.OutBytes TLX.Checksum TLX.Spec.Rfc1071 TLX.Lemmas.OnesComplement TLX.Lemmas.ByteEval

/-! ### `scapy.utils.checksum` is the RFC 1071 checksum (below 2^32) -/

/-- RFC 1071 §2(B), byte-order independence: the little-endian word sum is 256 × the big-endian one modulo 0xFFFF -/
theorem leWordSum_mod (b : Bytes) (h : b.length % 2 = 0) :
    leWordSum b % 65535 = (256 * wordSum b) % 65535 := by
  fun_induction leWordSum b with
  | case1 => simp [wordSum]
  | case2 x => simp at h
  | case3 x y rest ih =>
    simp only [List.length_cons] at h
    have := ih (by omega)
    simp only [wordSum]
    omega

theorem leWordSum_eq_zero_iff (b : Bytes) (h : b.length % 2 = 0) : leWordSum b = 0 ↔ wordSum b = 0 := by
  fun_induction leWordSum b with
  | case1 => simp [wordSum]
  | case2 x => simp at h
  | case3 x y rest ih =>
    simp only [List.length_cons] at h
    have := ih (by omega)
    simp only [wordSum]
    omega

theorem leWordSum_le (b : Bytes) (h : b.length % 2 = 0) : leWordSum b ≤ 65535 * (b.length / 2) := by
  fun_induction leWordSum b with
  | case1 => simp
  | case2 x => simp at h
  | case3 x y rest ih =>
    simp only [List.length_cons] at h ⊢
    have := ih (by omega)
    have := x.toNat_lt
    have := y.toNat_lt
    omega

theorem pad_length_even (b : Bytes) : (pad b).length % 2 = 0 := by
  unfold pad; split
  · simp only [List.length_append, List.length_cons, List.length_nil]; omega
  · omega

/-- two folding steps reduce a sum below 2^32 to its representative in `1 … 0xFFFF` -/
theorem two_folds (L : Nat) (hL : L < 4294967296) (h0 : L ≠ 0) :
    ∃ r, (L / 65536 + L % 65536 + (L / 65536 + L % 65536) / 65536) % 65536 = r ∧
      1 ≤ r ∧ r ≤ 65535 ∧ r % 65535 = L % 65535 := by
  have hdm := Nat.div_add_mod L 65536
  have ha : L / 65536 < 65536 := by omega
  have hm : L % 65536 < 65536 := Nat.mod_lt _ (by decide)
  generalize L / 65536 = a at *
  generalize L % 65536 = m at *
  subst hdm
  -- 65536 ≡ 1: the sum and the sum of its two halves are congruent modulo 0xFFFF
  have hc : (65536 * a + m) % 65535 = (a + m) % 65535 := by omega
  rw [hc]
  clear hc hL
  by_cases hs : a + m < 65536
  · rw [Nat.div_eq_of_lt hs, Nat.add_zero, Nat.mod_eq_of_lt hs]
    exact ⟨_, rfl, by omega, by omega, rfl⟩
  · rw [show (a + m) / 65536 = 1 by omega, show (a + m + 1) % 65536 = a + m - 65535 by omega]
    exact ⟨_, rfl, by omega, by omega, by omega⟩

/-- swapping the bytes of a 16-bit value multiplies it by 256 modulo 0xFFFF and keeps it in `1 … 0xFFFF` -/
theorem swap_mod (r : Nat) (h1 : 1 ≤ r) (h2 : r ≤ 65535) :
    1 ≤ r / 256 + r % 256 * 256 ∧ r / 256 + r % 256 * 256 ≤ 65535 ∧
      (r / 256 + r % 256 * 256) % 65535 = (256 * r) % 65535 := by
  refine ⟨?_, ?_, ?_⟩ <;> omega

theorem swap_compl (r : Nat) (h2 : r ≤ 65535) :
    (65535 - r) / 256 + (65535 - r) % 256 * 256 = 65535 - (r / 256 + r % 256 * 256) := by omega

/-- the arithmetic core: two folding steps, complement, byte swap — for a little-endian sum `L < 2^32` that is
    congruent to 256 × the big-endian sum `B` -/
theorem fold_swap (L B : Nat) (hL : L < 4294967296) (hmod : L % 65535 = (256 * B) % 65535) (hz : L = 0 ↔ B = 0) :
    (let s := L / 65536 + L % 65536
     let s := s + s / 65536
     let c := 65535 - s % 65536
     c / 256 + c % 256 * 256) = 65535 - norm B := by
  unfold norm
  by_cases hB : B = 0
  · have : L = 0 := hz.mpr hB
    subst this; subst hB; rfl
  · have hL0 : L ≠ 0 := fun h => hB (hz.mp h)
    rw [if_neg hB]
    obtain ⟨r, hr, r1, r2, rm⟩ := two_folds L hL hL0
    simp only [hr]
    rw [swap_compl r r2]
    obtain ⟨s1, s2, sm⟩ := swap_mod r r1 r2
    generalize r / 256 + r % 256 * 256 = sw at *
    -- sw ≡ 256·r ≡ 256·L ≡ 65536·B ≡ B
    have hsw : sw % 65535 = B % 65535 := by
      rw [sm, Nat.mul_mod, rm, hmod, ← Nat.mul_mod, ← Nat.mul_assoc]
      omega
    clear hr hz hL sm rm hmod
    omega

/-- 131070 bytes are 65535 words: their sum stays below 2^32, where two folding steps are enough -/
theorem checksum_eq (b : Bytes) (h : b.length ≤ 131070) : OutBytes.checksum b = 65535 - norm (S b) := by
  have hpad : (if b.length % 2 = 1 then b ++ [0] else b) = pad b := by
    unfold pad
    by_cases hb : b.length % 2 = 1
    · rw [if_pos hb, if_pos (by omega)]
    · rw [if_neg hb, if_neg (by omega)]
  have hev := pad_length_even b
  have hlen : (pad b).length ≤ 131072 := by
    unfold pad; split
    · simp only [List.length_append, List.length_cons, List.length_nil]; omega
    · omega
  have hle := leWordSum_le (pad b) hev
  unfold OutBytes.checksum
  rw [hpad]
  exact fold_swap (leWordSum (pad b)) (S b) (by omega) (leWordSum_mod _ hev) (leWordSum_eq_zero_iff _ hev)

/-- the pseudo-header bytes scapy sums (closed form of `pseudo`) -/
def phBytes (v6 : Bool) (src dst : Bytes) (proto len : Nat) : Bytes :=
  if v6 then src ++ dst ++ Bytes.ofNatBE 4 len ++ [0, 0, 0] ++ [UInt8.ofNat proto]
  else src ++ dst ++ Bytes.ofNatBE 2 proto ++ Bytes.ofNatBE 2 len

def l4Len (f : Frame) : Nat :=
  match f.l4 with
  | .tcp .. => 20 + f.payload.length
  | .udp => 8 + f.payload.length

/-- every fixed-width field holds its value: exactly when scapy serialises the frame -/
def Fits (f : Frame) : Prop :=
  f.src.port < 65536 ∧ f.dst.port < 65536 ∧ f.l4.fieldsFit = true ∧
    (if f.ipv6 then l4Len f else 20 + l4Len f) < 65536

instance (f : Frame) : Decidable (Fits f) := by unfold Fits; infer_instance

/-- the transport checksum scapy computes -/
def l4Ck (f : Frame) : Nat :=
  match f.l4 with
  | .tcp fl s a =>
    OutBytes.checksum (phBytes f.ipv6 f.src.ip f.dst.ip 6 (20 + f.payload.length) ++
      (tcpHeader f.src.port f.dst.port fl s a 0 ++ f.payload))
  | .udp =>
    OutBytes.checksum (phBytes f.ipv6 f.src.ip f.dst.ip 17 (8 + f.payload.length) ++
      (udpHeader f.src.port f.dst.port (8 + f.payload.length) 0 ++ f.payload))

def segBytes (f : Frame) : Bytes :=
  match f.l4 with
  | .tcp fl s a => tcpHeader f.src.port f.dst.port fl s a (l4Ck f) ++ f.payload
  | .udp => udpHeader f.src.port f.dst.port (8 + f.payload.length) (if l4Ck f = 0 then 0xFFFF else l4Ck f) ++ f.payload

def ipBytes (f : Frame) : Bytes :=
  if f.ipv6 then ipv6Header f.src.ip f.dst.ip f.l4.proto (segBytes f).length ++ segBytes f
  else ipv4Header f.src.ip f.dst.ip f.l4.proto (20 + (segBytes f).length)
    (OutBytes.checksum (ipv4Header f.src.ip f.dst.ip f.l4.proto (20 + (segBytes f).length) 0)) ++ segBytes f

def frameBytes (f : Frame) : Bytes :=
  f.dstMac ++ f.srcMac ++ (if f.ipv6 then [0x86, 0xDD] else [0x08, 0x00]) ++ ipBytes f

theorem tcpHeader_length (sp dp fl s a ck : Nat) : (tcpHeader sp dp fl s a ck).length = 20 := by
  simp [tcpHeader, Bytes.ofNatBE_length]

theorem udpHeader_length (sp dp l ck : Nat) : (udpHeader sp dp l ck).length = 8 := by
  simp [udpHeader, Bytes.ofNatBE_length]

theorem segBytes_length (f : Frame) : (segBytes f).length = l4Len f := by
  unfold segBytes l4Len
  cases f.l4 <;> simp [tcpHeader_length, udpHeader_length]

theorem segBytes_cases (f : Frame) (hfit : Fits f) :
    (∃ fl s a, f.l4 = .tcp fl s a ∧ s < 4294967296 ∧ a < 4294967296 ∧
      segBytes f = tcpHeader f.src.port f.dst.port fl s a (l4Ck f) ++ f.payload) ∨
    (f.l4 = .udp ∧ 8 + f.payload.length < 65536 ∧ segBytes f =
      udpHeader f.src.port f.dst.port (8 + f.payload.length) (if l4Ck f = 0 then 0xFFFF else l4Ck f) ++ f.payload) := by
  obtain ⟨_, _, hff, hlen⟩ := hfit
  unfold segBytes
  cases hl : f.l4 with
  | tcp fl s a =>
    rw [hl] at hff
    simp only [OutBytes.L4.fieldsFit, Bool.and_eq_true, decide_eq_true_eq] at hff
    exact .inl ⟨fl, s, a, rfl, hff.1, hff.2, rfl⟩
  | udp =>
    refine .inr ⟨rfl, ?_, rfl⟩
    unfold l4Len at hlen
    simp only [hl] at hlen
    split at hlen <;> omega

theorem pseudo_eq (v6 : Bool) (src dst : Bytes) (proto len : Nat) (h : len < 65536) :
    pseudo v6 src dst proto len = .ok (phBytes v6 src dst proto len) := by
  unfold pseudo phBytes packH
  cases v6
  · simp [h]
  · have : len < 4294967296 := by omega
    simp [this]

theorem pseudo_err (v6 : Bool) (src dst : Bytes) (proto len : Nat) (h : ¬ len < 65536) (hv : v6 = false) :
    ∃ e, pseudo v6 src dst proto len = .error e := by
  subst hv
  simp [pseudo, packH, h]

theorem l4Checksum_eq (v6 : Bool) (src dst : Bytes) (proto : Nat) (p : Bytes) (h : p.length < 65536) :
    l4Checksum v6 src dst proto p = .ok (OutBytes.checksum (phBytes v6 src dst proto p.length ++ p)) := by
  unfold l4Checksum; rw [pseudo_eq _ _ _ _ _ h]

theorem l4Segment_eq (f : Frame) (h : l4Len f < 65536) : l4Segment f = .ok (segBytes f) := by
  unfold l4Segment segBytes l4Ck
  unfold l4Len at h
  cases hl : f.l4 with
  | tcp fl s a =>
    rw [hl] at h
    simp only at h ⊢
    unfold tcpSegment
    rw [l4Checksum_eq _ _ _ _ _ (by simp only [List.length_append, tcpHeader_length]; omega)]
    simp only [List.length_append, tcpHeader_length]
  | udp =>
    rw [hl] at h
    simp only at h ⊢
    unfold udpSegment packH
    rw [if_pos h]
    simp only
    rw [l4Checksum_eq _ _ _ _ _ (by simp only [List.length_append, udpHeader_length]; omega)]
    simp only [List.length_append, udpHeader_length]

theorem l4Segment_length (f : Frame) (seg : Bytes) (h : l4Segment f = .ok seg) : seg.length = l4Len f := by
  unfold l4Segment tcpSegment udpSegment at h
  unfold l4Len
  repeat' split at h
  all_goals cases h
  all_goals simp only [List.length_append, tcpHeader_length, udpHeader_length, *]

theorem serialize_cases (f : Frame) :
    (Fits f ∧ serializeFrame f = .ok (frameBytes f)) ∨ (¬ Fits f ∧ ∃ e, serializeFrame f = .error e) := by
  unfold serializeFrame
  by_cases hp' : ¬ (f.src.port < 65536 ∧ f.dst.port < 65536 ∧ f.l4.fieldsFit = true)
  · exact .inr ⟨fun h => hp' ⟨h.1, h.2.1, h.2.2.1⟩, .value, by rw [if_pos hp']⟩
  rw [if_neg hp']
  have hp := Classical.not_not.mp hp'
  by_cases hl : (if f.ipv6 then l4Len f else 20 + l4Len f) < 65536
  · refine .inl ⟨⟨hp.1, hp.2.1, hp.2.2, hl⟩, ?_⟩
    have hl4 : l4Len f < 65536 := by split at hl <;> omega
    rw [l4Segment_eq f hl4]
    simp only
    unfold frameBytes ipBytes OutBytes.ipv6 OutBytes.ipv4 packH
    rw [segBytes_length]
    cases hv : f.ipv6 <;> simp only [hv, Bool.false_eq_true, if_false, if_true] at hl ⊢ <;> rw [if_pos hl]
  · refine .inr ⟨fun h => hl h.2.2.2, ?_⟩
    cases hs : l4Segment f with
    | error e => exact ⟨e, rfl⟩
    | ok seg =>
      simp only
      unfold OutBytes.ipv6 OutBytes.ipv4 packH
      rw [l4Segment_length f seg hs]
      cases hv : f.ipv6 <;> simp only [hv, Bool.false_eq_true, if_false, if_true] at hl ⊢ <;> rw [if_neg hl] <;>
        exact ⟨_, rfl⟩

theorem serialize_of_fits {f : Frame} (h : Fits f) : serializeFrame f = .ok (frameBytes f) :=
  (serialize_cases f).elim (·.2) (absurd h ·.1)

theorem serialize_ok {f : Frame} {b : Bytes} (h : serializeFrame f = .ok b) : Fits f ∧ b = frameBytes f := by
  rcases serialize_cases f with ⟨hf, he⟩ | ⟨_, e, he⟩
  · rw [he] at h; exact ⟨hf, (Except.ok.inj h).symm⟩
  · rw [he] at h; cases h

/-- scapy sums the pseudo-header the tool's own `-c` code builds -/
theorem pseudoHeader_phBytes (v6 : Bool) (src dst : Bytes) (proto n : Nat) (hp : proto < 256)
    (hn : n < (if v6 then 4294967296 else 65536)) :
    pseudoHeader v6 src dst proto n = .ok (phBytes v6 src dst proto n) := by
  have h0 : UInt8.ofNat (proto / 256 % 256) = 0 := by rw [Nat.div_eq_of_lt hp]; rfl
  have h1 : UInt8.ofNat (proto % 256) = UInt8.ofNat proto := by rw [Nat.mod_eq_of_lt hp]
  cases v6 <;> simp only [Bool.false_eq_true, if_false, if_true] at hn <;>
    simp [pseudoHeader, phBytes, toBytes1, toBytes2, toBytes4, Bytes.ofNatBE, hp, hn, h0, h1, bind, Except.bind, pure,
      Except.pure]

/-- what scapy sums for the transport checksum is the base sum of the C11 lemmas -/
theorem S_ph_zeroField (k : Checksum.L4) (v6 : Bool) (src dst seg : Bytes) (hd : Dissected k v6 src dst seg) :
    S (phBytes v6 src dst k.num seg.length ++ zeroField k seg) = baseSum k v6 src dst seg := by
  obtain ⟨ph, hph, hev, hsum⟩ := pseudoHeader_ok v6 src dst k.num seg.length hd.src_even hd.dst_even (num_pos k).2 hd.len
  rw [pseudoHeader_phBytes _ _ _ _ _ (num_pos k).2 hd.len] at hph
  cases hph
  exact S_pseudo_zeroField k v6 src dst seg _ hd hev hsum

theorem ipv4Header_split (src dst : Bytes) (proto len ck : Nat) :
    ipv4Header src dst proto len ck =
      ([0x45, 0] ++ Bytes.ofNatBE 2 len ++ [0, 1, 0, 0, 64, UInt8.ofNat proto]) ++ (Bytes.ofNatBE 2 ck ++ (src ++ dst)) := by
  simp [ipv4Header, List.append_assoc]

theorem ipv4Header_length (src dst : Bytes) (proto len ck : Nat) (hs : src.length = 4) (hd : dst.length = 4) :
    (ipv4Header src dst proto len ck).length = 20 := by
  simp [ipv4Header, Bytes.ofNatBE_length, hs, hd]

theorem ipv4Header_sum (src dst : Bytes) (proto len ck : Nat) (hck : ck < 65536) :
    S (ipv4Header src dst proto len ck) = S (ipv4Header src dst proto len 0) + ck ∧
      0 < S (ipv4Header src dst proto len 0) := by
  have hpre : ([0x45, 0] ++ Bytes.ofNatBE 2 len ++ [0, 1, 0, 0, 64, UInt8.ofNat proto] : Bytes).length % 2 = 0 := by
    simp [Bytes.ofNatBE_length]
  have h2 : ∀ c, (Bytes.ofNatBE 2 c).length % 2 = 0 := fun c => by simp [Bytes.ofNatBE_length]
  rw [ipv4Header_split, ipv4Header_split, S_append _ _ hpre, S_append _ _ hpre, S_append _ _ (h2 ck),
    S_append _ _ (h2 0), wordSum_ofNatBE2 _ hck, wordSum_ofNatBE2 0 (by omega)]
  constructor
  · omega
  · have : 0 < wordSum ([0x45, 0] ++ Bytes.ofNatBE 2 len ++ [0, 1, 0, 0, 64, UInt8.ofNat proto] : Bytes) := by
      simp [wordSum, Bytes.ofNatBE]
      omega
    omega

theorem norm_add_compl (s st : Nat) (h : 0 < s) (hst : st = 65535 - norm s ∨ (norm s = 65535 ∧ st = 65535)) :
    norm (s + st) = 65535 := by
  obtain ⟨k, e1, l1, u1⟩ := norm_spec s h
  obtain ⟨k', e2, l2, u2⟩ := norm_spec (s + st) (by omega)
  generalize norm s = a at *
  generalize norm (s + st) = c at *
  omega

/-- the IPv4 header scapy writes verifies (RFC 1071: the one's-complement sum over the header is all ones) -/
theorem ipv4Header_valid (src dst : Bytes) (proto len : Nat) (hs : src.length = 4) (hd : dst.length = 4) :
    ocSum (words (ipv4Header src dst proto len (OutBytes.checksum (ipv4Header src dst proto len 0)))) = 0xFFFF := by
  have hck := checksum_eq (ipv4Header src dst proto len 0) (by rw [ipv4Header_length _ _ _ _ _ hs hd]; omega)
  have hlt : OutBytes.checksum (ipv4Header src dst proto len 0) < 65536 := by omega
  obtain ⟨hsum, hpos⟩ := ipv4Header_sum src dst proto len _ hlt
  rw [ocSum_eq_norm _ (words_le _), words_sum, hsum, hck]
  exact norm_add_compl _ _ hpos (.inl rfl)

theorem stored_tcp (sp dp fl s a ck : Nat) (pay : Bytes) (h : ck < 65536) :
    storedChecksum .tcp (tcpHeader sp dp fl s a ck ++ pay) = ck := by
  unfold storedChecksum Transport.checksumWord tcpHeader
  byte_eval
  exact be2_eq ck h

theorem stored_udp (sp dp l ck : Nat) (pay : Bytes) (h : ck < 65536) :
    storedChecksum .udp (udpHeader sp dp l ck ++ pay) = ck := by
  unfold storedChecksum Transport.checksumWord udpHeader
  byte_eval
  exact be2_eq ck h

theorem zeroField_tcp (sp dp fl s a ck : Nat) (pay : Bytes) :
    zeroField .tcp (tcpHeader sp dp fl s a ck ++ pay) = tcpHeader sp dp fl s a 0 ++ pay := by
  simp [zeroField, L4.off, tcpHeader, Bytes.ofNatBE]

theorem zeroField_udp (sp dp l ck : Nat) (pay : Bytes) :
    zeroField .udp (udpHeader sp dp l ck ++ pay) = udpHeader sp dp l 0 ++ pay := by
  simp [zeroField, L4.off, udpHeader, Bytes.ofNatBE]

/-- the model transport of a frame, in the terms of the C11 model -/
def kOf : OutBytes.L4 → Checksum.L4
  | .tcp .. => .tcp
  | .udp => .udp

theorem dissected (f : Frame) (hwf : f.WF) (hfit : Fits f) :
    Dissected (kOf f.l4) f.ipv6 f.src.ip f.dst.ip (segBytes f) := by
  have hl := segBytes_length f
  obtain ⟨_, _, _, hlen⟩ := hfit
  refine ⟨?_, ?_, ?_, ?_⟩
  · rw [hwf.src]; split <;> rfl
  · rw [hwf.dst]; split <;> rfl
  · rw [hl]; unfold l4Len kOf; cases f.l4 <;> simp [Checksum.L4.off] <;> omega
  · rw [hl]; split at hlen <;> simp_all <;> omega

theorem phBytes_length (v6 : Bool) (src dst : Bytes) (proto n : Nat)
    (hs : src.length = (if v6 then 16 else 4)) (hd : dst.length = (if v6 then 16 else 4)) :
    (phBytes v6 src dst proto n).length ≤ 40 := by
  unfold phBytes
  cases v6 <;> simp_all [Bytes.ofNatBE_length]

/-- a segment whose checksum field holds the complement of the base sum (RFC 768: all ones instead of zero) verifies —
    for the receiver specification and for the tool's own `-c` -/
theorem valid_of_field (k : Checksum.L4) (v6 : Bool) (src dst seg : Bytes) (hd : Dissected k v6 src dst seg) (ck : Nat)
    (hck : ck = 65535 - norm (baseSum k v6 src dst seg))
    (hfield : storedChecksum (toSpec k) seg = if k = .udp ∧ ck = 0 then 0xFFFF else ck) :
    verdict (toSpec k) v6 src dst seg = .valid ∧ check k v6 src dst k.num seg = .ok true := by
  obtain ⟨st, _, hstored, hv, hchk⟩ := check_verdict k v6 src dst seg hd
  have hpos := baseSum_pos k v6 src dst seg
  have hnp := norm_pos hpos
  have hnle := norm_le (baseSum k v6 src dst seg)
  rw [hstored] at hfield
  -- the field is the complement of the base sum (all ones instead of zero for UDP): the sum over everything is all ones
  have hsum : norm (baseSum k v6 src dst seg + st) = 65535 :=
    norm_add_compl _ st hpos (by split at hfield <;> omega)
  have hst0 : ¬ (k = .udp ∧ st = 0) := fun ⟨hk, h0⟩ => by
    by_cases hc : ck = 0
    · rw [if_pos ⟨hk, hc⟩] at hfield; omega
    · rw [if_neg fun h => hc h.2] at hfield; omega
  rw [hv, hchk, if_neg hst0, if_pos hsum]
  exact ⟨rfl, by simp [hst0, hsum]⟩

theorem l4_valid (f : Frame) (hwf : f.WF) (hfit : Fits f) :
    verdict (toSpec (kOf f.l4)) f.ipv6 f.src.ip f.dst.ip (segBytes f) = .valid ∧
      check (kOf f.l4) f.ipv6 f.src.ip f.dst.ip (kOf f.l4).num (segBytes f) = .ok true := by
  have hd := dissected f hwf hfit
  have hfl : l4Len f < 65536 := by
    obtain ⟨_, _, _, h⟩ := hfit
    split at h <;> omega
  have hlt : l4Ck f < 65536 := by
    unfold l4Ck; split <;> (unfold OutBytes.checksum; dsimp only; omega)
  refine valid_of_field _ _ _ _ _ hd (l4Ck f) ?_ ?_
  -- `l4Ck` is scapy's checksum over the pseudo-header and the segment with a zero field
  · rw [← S_ph_zeroField _ _ _ _ _ hd, segBytes_length]
    unfold l4Len at hfl ⊢
    unfold l4Ck segBytes
    cases hl : f.l4 with
    | tcp fl s a =>
      have hphl := phBytes_length f.ipv6 f.src.ip f.dst.ip 6 (20 + f.payload.length) hwf.src hwf.dst
      simp only [hl] at hfl
      simp only [kOf, zeroField_tcp]
      exact checksum_eq _ (by simp only [List.length_append, tcpHeader_length]; omega)
    | udp =>
      have hphl := phBytes_length f.ipv6 f.src.ip f.dst.ip 17 (8 + f.payload.length) hwf.src hwf.dst
      simp only [hl] at hfl
      simp only [kOf, zeroField_udp]
      exact checksum_eq _ (by simp only [List.length_append, udpHeader_length]; omega)
  · unfold segBytes
    cases f.l4 with
    | tcp fl s a => simpa [kOf, toSpec] using stored_tcp _ _ _ _ _ _ _ hlt
    | udp => simpa [kOf, toSpec] using stored_udp _ _ _ (if l4Ck f = 0 then 0xFFFF else l4Ck f) _ (by split <;> omega)

section Receiver
open TLX.Spec.FrameParse

theorem tcpHeader_fields (sp dp fl s a ck : Nat) (pay seg : Bytes) (hsp : sp < 65536) (hdp : dp < 65536)
    (hs : s < 4294967296) (ha : a < 4294967296) (hseg : seg = tcpHeader sp dp fl s a ck ++ pay) :
    seg.length = 20 + pay.length ∧ u16 seg 0 = sp ∧ u16 seg 2 = dp ∧ u32 seg 4 = s ∧ u32 seg 8 = a ∧
      u8 seg 12 / 16 = 5 ∧ u8 seg 12 % 16 = fl % 512 / 256 ∧ u8 seg 13 = fl % 256 ∧ u16 seg 14 = 8192 ∧
      u16 seg 18 = 0 ∧ seg.drop 20 = pay := by
  subst hseg
  refine ⟨by rw [List.length_append, tcpHeader_length], ?_⟩
  have hb : fl % 512 / 256 < 2 := by omega
  unfold tcpHeader
  generalize fl % 512 / 256 = hi at *
  byte_eval
  exact ⟨be2_eq sp hsp, be2_eq dp hdp, be4_eq' s hs, be4_eq' a ha, by omega, by omega⟩

theorem parseTcp_header (sp dp fl s a ck : Nat) (pay : Bytes) (hsp : sp < 65536) (hdp : dp < 65536)
    (hs : s < 4294967296) (ha : a < 4294967296) :
    parseTcp (tcpHeader sp dp fl s a ck ++ pay) =
      some ⟨sp, dp, .tcp s a 5 (fl % 512 / 256) (fl % 256) 8192 0 [], pay⟩ := by
  obtain ⟨hlen, e0, e2, e4, e8, e12, e12', e13, e14, e18, ed⟩ :=
    tcpHeader_fields sp dp fl s a ck pay _ hsp hdp hs ha rfl
  unfold parseTcp
  simp only [hlen, e0, e2, e4, e8, e12, e12', e13, e14, e18, ed]
  rw [if_neg (by omega), if_neg (by omega)]
  simp [Bytes.slice]

theorem udpHeader_fields (sp dp l ck : Nat) (pay seg : Bytes) (hsp : sp < 65536) (hdp : dp < 65536) (hl : l < 65536)
    (hseg : seg = udpHeader sp dp l ck ++ pay) :
    u16 seg 0 = sp ∧ u16 seg 2 = dp ∧ u16 seg 4 = l ∧ seg.drop 8 = pay := by
  subst hseg
  unfold udpHeader
  byte_eval
  exact ⟨be2_eq sp hsp, be2_eq dp hdp, be2_eq l hl⟩

theorem parseUdp_header (sp dp ck : Nat) (pay : Bytes) (hsp : sp < 65536) (hdp : dp < 65536)
    (hl : 8 + pay.length < 65536) :
    parseUdp (udpHeader sp dp (8 + pay.length) ck ++ pay) = some ⟨sp, dp, .udp, pay⟩ := by
  obtain ⟨e0, e2, e4, ed⟩ := udpHeader_fields sp dp (8 + pay.length) ck pay _ hsp hdp hl rfl
  have hlen : (udpHeader sp dp (8 + pay.length) ck ++ pay).length = 8 + pay.length := by
    simp only [List.length_append, udpHeader_length]
  unfold parseUdp
  rw [e0, e2, e4, ed, hlen, if_neg (by omega), if_neg (by simp)]

theorem ipv4Header_fields (src dst : Bytes) (proto len ck : Nat) (seg ip : Bytes) (hs : src.length = 4)
    (hd : dst.length = 4) (hp : proto < 256) (hl : len < 65536) (hip : ip = ipv4Header src dst proto len ck ++ seg) :
    u8 ip 0 = 0x45 ∧ u16 ip 2 = len ∧ u16 ip 6 = 0 ∧ u8 ip 8 = 64 ∧ u8 ip 9 = proto ∧
      ip.slice 12 16 = src ∧ ip.slice 16 20 = dst ∧ ip.drop 20 = seg ∧ ip.length = 20 + seg.length := by
  -- the numeric fields lie in the first twelve bytes, which are written out; the addresses follow
  have nums : u8 ip 0 = 0x45 ∧ u16 ip 2 = len ∧ u16 ip 6 = 0 ∧ u8 ip 8 = 64 ∧ u8 ip 9 = proto := by
    subst hip
    unfold ipv4Header
    byte_eval
    exact ⟨rfl, be2_eq len hl, rfl, by omega⟩
  have a0 : Cursor.At ip 0 (([0x45, 0] ++ Bytes.ofNatBE 2 len ++ [0, 1, 0, 0, 64, UInt8.ofNat proto] ++
      Bytes.ofNatBE 2 ck) ++ (src ++ (dst ++ seg))) :=
    .start (by rw [hip, ipv4Header]; simp only [List.append_assoc])
  obtain ⟨_, a12⟩ := a0.field _ 12 (by simp only [List.length_append, List.length_cons, List.length_nil, Bytes.ofNatBE_length])
  obtain ⟨hsrc, a16⟩ := a12.field _ 16 (by rw [hs])
  obtain ⟨hdst, a20⟩ := a16.field _ 20 (by rw [hd])
  exact ⟨nums.1, nums.2.1, nums.2.2.1, nums.2.2.2.1, nums.2.2.2.2, hsrc, hdst, a20.2, a20.length⟩

theorem parseIpv4_header (src dst : Bytes) (proto ck : Nat) (seg : Bytes) (hs : src.length = 4) (hd : dst.length = 4)
    (hp : proto < 256) (hl : 20 + seg.length < 65536) :
    parseIpv4 (ipv4Header src dst proto (20 + seg.length) ck ++ seg) = some ⟨false, src, dst, 64, proto, seg⟩ := by
  obtain ⟨e0, e2, e6, e8, e9, es, ed, edrop, hlen⟩ :=
    ipv4Header_fields src dst proto (20 + seg.length) ck seg _ hs hd hp hl rfl
  unfold parseIpv4
  simp only [e0, e2, e6, e8, e9, es, ed, hlen]
  rw [if_neg (by omega), if_neg (by omega), if_neg (by decide), edrop]

theorem ipv6Header_fields (src dst : Bytes) (nh plen : Nat) (seg ip : Bytes) (hs : src.length = 16) (hd : dst.length = 16)
    (hp : nh < 256) (hl : plen < 65536) (hip : ip = ipv6Header src dst nh plen ++ seg) :
    u8 ip 0 = 0x60 ∧ u16 ip 4 = plen ∧ u8 ip 6 = nh ∧ u8 ip 7 = 64 ∧
      ip.slice 8 24 = src ∧ ip.slice 24 40 = dst ∧ ip.drop 40 = seg ∧ ip.length = 40 + seg.length := by
  have nums : u8 ip 0 = 0x60 ∧ u16 ip 4 = plen ∧ u8 ip 6 = nh ∧ u8 ip 7 = 64 := by
    subst hip
    unfold ipv6Header
    byte_eval
    exact ⟨rfl, be2_eq plen hl, by omega, rfl⟩
  have a0 : Cursor.At ip 0 (([0x60, 0, 0, 0] ++ Bytes.ofNatBE 2 plen ++ [UInt8.ofNat nh, 64]) ++ (src ++ (dst ++ seg))) :=
    .start (by rw [hip, ipv6Header]; simp only [List.append_assoc])
  obtain ⟨_, a8⟩ := a0.field _ 8 (by simp only [List.length_append, List.length_cons, List.length_nil, Bytes.ofNatBE_length])
  obtain ⟨hsrc, a24⟩ := a8.field _ 24 (by rw [hs])
  obtain ⟨hdst, a40⟩ := a24.field _ 40 (by rw [hd])
  exact ⟨nums.1, nums.2.1, nums.2.2.1, nums.2.2.2, hsrc, hdst, a40.2, a40.length⟩

theorem parseIpv6_header (src dst : Bytes) (nh : Nat) (seg : Bytes) (hs : src.length = 16) (hd : dst.length = 16)
    (hp : nh < 256) (hl : seg.length < 65536) :
    parseIpv6 (ipv6Header src dst nh seg.length ++ seg) = some ⟨true, src, dst, 64, nh, seg⟩ := by
  obtain ⟨e0, e4, e6, e7, es, ed, edrop, hlen⟩ := ipv6Header_fields src dst nh seg.length seg _ hs hd hp hl rfl
  unfold parseIpv6
  simp only [e0, e4, e6, e7, es, ed, hlen]
  rw [if_neg (by omega), if_neg (by omega), edrop]

/-- what a receiver must read out of the frame serialised for `f` -/
def expected (f : Frame) : Parsed :=
  ⟨f.dstMac, f.srcMac, f.ipv6, f.src.ip, f.dst.ip, 64, f.src.port, f.dst.port,
    (match f.l4 with
     | .tcp fl s a => .tcp s a 5 (fl % 512 / 256) (fl % 256) 8192 0 []
     | .udp => .udp),
    segBytes f, f.payload⟩

theorem proto_lt (l : OutBytes.L4) : l.proto < 256 := by cases l <;> simp [OutBytes.L4.proto]

theorem parse_frameBytes (f : Frame) (hwf : f.WF) (hfit : Fits f) : parse (frameBytes f) = some (expected f) := by
  obtain ⟨hsp, hdp, hff, hlen⟩ := hfit
  have hsl := segBytes_length f
  -- the transport layer
  have hl4 : (if f.l4.proto = 6 then parseTcp (segBytes f) else if f.l4.proto = 17 then parseUdp (segBytes f) else none)
      = some ⟨f.src.port, f.dst.port, (expected f).l4, f.payload⟩ := by
    rcases segBytes_cases f ⟨hsp, hdp, hff, hlen⟩ with ⟨fl, s, a, hl, hs, ha, hseg⟩ | ⟨hl, hl8, hseg⟩
    · simp only [hseg, expected, hl, OutBytes.L4.proto, if_true]
      exact parseTcp_header _ _ _ _ _ _ _ hsp hdp hs ha
    · simp only [hseg, expected, hl, OutBytes.L4.proto, show ¬ (17 = 6) by decide, if_false, if_true]
      exact parseUdp_header _ _ _ _ hsp hdp hl8
  unfold parse frameBytes
  cases hv : f.ipv6 with
  | false =>
    have hs := hwf.src; have hd := hwf.dst
    rw [hv] at hs hd hlen
    simp only [Bool.false_eq_true, if_false] at hs hd hlen ⊢
    obtain ⟨h1, h2, h3, _, h4, h5⟩ := eth_header f.dstMac f.srcMac (ipBytes f) 0x08 0x00 hwf.dstMac hwf.srcMac rfl
    rw [if_neg h1, h2, h3, h4, h5]
    have hip : parseIpv4 (ipBytes f) = some ⟨false, f.src.ip, f.dst.ip, 64, f.l4.proto, segBytes f⟩ := by
      unfold ipBytes; rw [hv]
      simp only [Bool.false_eq_true, if_false]
      exact parseIpv4_header _ _ _ _ _ hs hd (proto_lt _) (by omega)
    simp only [show (0x08 : UInt8).toNat * 256 + (0x00 : UInt8).toNat = 0x0800 from rfl, if_true, hip, hl4]
    simp [expected, hv]
  | true =>
    have hs := hwf.src; have hd := hwf.dst
    rw [hv] at hs hd hlen
    simp only [if_true] at hs hd hlen ⊢
    obtain ⟨h1, h2, h3, _, h4, h5⟩ := eth_header f.dstMac f.srcMac (ipBytes f) 0x86 0xDD hwf.dstMac hwf.srcMac rfl
    rw [if_neg h1, h2, h3, h4, h5]
    have hip : parseIpv6 (ipBytes f) = some ⟨true, f.src.ip, f.dst.ip, 64, f.l4.proto, segBytes f⟩ := by
      unfold ipBytes; rw [hv]
      simp only [if_true]
      exact parseIpv6_header _ _ _ _ hs hd (proto_lt _) (by omega)
    simp only [show (0x86 : UInt8).toNat * 256 + (0xDD : UInt8).toNat = 0x86DD from rfl,
      show ¬ (0x86DD = 0x0800) by decide, if_false, if_true, hip, hl4]
    simp [expected, hv]

end Receiver

section Writer
open TLX.Spec.Containers TLX.Lemmas.Container
open TLX.Container (Endian)

/-- the choices `dpkt.pcapng.Writer(file, snaplen=Gen.writerSnaplen)` makes among the variants of the pcapng draft: little
    endian, version 1.0, section length unspecified, no options anywhere, one Ethernet interface with snaplen
    as announced and the default microsecond clock, one EPB per packet on interface 0 with original length = captured length -/
def dpktVariant : NgVariant := { hdr := { e := .le, snaplen := Gen.writerSnaplen, idbEoo := false } }

def evOf (p : Bytes × Nat) : Ev := .pkt p.2 p.1

/-- a packet `writepkt` can write: block length (32 bytes of EPB header and trailer around the padded frame) and the
    high half of the time stamp fit their 32-bit fields -/
def PktFits (p : Bytes × Nat) : Prop := 32 + OutBytes.align4 p.1.length < 4294967296 ∧ p.2 / 4294967296 < 4294967296

instance (p : Bytes × Nat) : Decidable (PktFits p) := by unfold PktFits; infer_instance

theorem leN_eq (w n : Nat) : leN w n = leBytes w n := by
  induction w generalizing n with
  | zero => rfl
  | succ w ih => simp [leN, leBytes, ih]

theorem align4_eq' (n : Nat) : OutBytes.align4 n = Container.align4 n := rfl

theorem pad_eq (b : Bytes) : b ++ List.replicate (OutBytes.align4 b.length - b.length) 0 = padded b := by
  unfold padded padding
  rw [align4_eq', align4_eq]
  congr 2
  omega

theorem shb_eq : shb = dpktVariant.hdr.shb.encode .le := by decide +kernel
theorem idb_eq : idb Gen.writerSnaplen = dpktVariant.hdr.idb.encode .le := by decide +kernel

theorem epb_eq (p : Bytes × Nat) (h : PktFits p) :
    epb p.1 p.2 = .ok ((Ev.block {} (evOf p)).encode .le) := by
  unfold epb
  dsimp only
  have h' : 32 + OutBytes.align4 p.1.length < 4294967296 ∧ p.2 / 4294967296 < 4294967296 := h
  rw [if_pos h']
  have hlen := (blkLen_layout .le (u32 .le 0 ++ (u32 .le (p.2 / 2 ^ 32) ++ (u32 .le (p.2 % 2 ^ 32) ++ (u32 .le p.1.length ++
      u32 .le (p.1.length + 0))))) p.1 {} (by simp)).1  -- `+ 0`: the default `Deco.extraLen` of `Ev.block {}`, as it unfolds
  simp only [List.append_assoc] at hlen
  simp only [evOf, Ev.block, Bool.false_eq_true, if_false, Block.encode, encBlock]
  rw [padded_of_mod _ hlen]
  simp only [List.length_append, u32, enc, leBytes_length, padded_length, encOpts_length]
  simp only [leN_eq, align4_eq', encOpts, encOptList, Bool.false_eq_true, if_false, List.append_nil,
    Nat.add_zero, List.append_assoc, Opts.encLen, optListLen]
  have e1 : (2 : Nat) ^ 32 = 4294967296 := by decide
  have e2 : 12 + (4 + (4 + (4 + (4 + (4 + Container.align4 p.1.length))))) = 32 + Container.align4 p.1.length := by omega
  rw [e1, e2, ← pad_eq, align4_eq']
  simp only [List.append_assoc]

theorem epb_err (p : Bytes × Nat) (h : ¬ PktFits p) : epb p.1 p.2 = .error .struct := by
  unfold epb
  dsimp only
  have h' : ¬ (32 + OutBytes.align4 p.1.length < 4294967296 ∧ p.2 / 4294967296 < 4294967296) := h
  rw [if_neg h']

theorem weave_default (i : Nat) (evs : List Ev) : weave (fun _ => {}) i evs = evs.map (Ev.block {}) := by
  induction evs generalizing i with
  | nil => rfl
  | cons ev evs ih => simp [weave, ih]

theorem epbs_cases (pkts : List (Bytes × Nat)) :
    if ∀ p ∈ pkts, PktFits p then epbs pkts = .ok (encBlocks .le ((pkts.map evOf).map (Ev.block {})))
    else epbs pkts = .error .struct := by
  induction pkts with
  | nil => rw [if_pos nofun]; rfl
  | cons p ps ih =>
    obtain ⟨b, us⟩ := p
    simp only [List.forall_mem_cons]
    by_cases h1 : PktFits (b, us)
    · have e1 : epb b us = _ := epb_eq (b, us) h1
      simp only [h1, true_and, epbs, e1]
      by_cases h2 : ∀ p ∈ ps, PktFits p
      · rw [if_pos h2] at ih ⊢; rw [ih]; rfl
      · rw [if_neg h2] at ih ⊢; rw [ih]
    · have e1 : epb b us = _ := epb_err (b, us) h1
      simp only [h1, false_and, if_false, epbs, e1]

theorem epbs_eq (pkts : List (Bytes × Nat)) (h : ∀ p ∈ pkts, PktFits p) :
    epbs pkts = .ok (encBlocks .le ((pkts.map evOf).map (Ev.block {}))) := by
  have := epbs_cases pkts
  rwa [if_pos h] at this

theorem epbs_err (pkts : List (Bytes × Nat)) (h : ¬ ∀ p ∈ pkts, PktFits p) : epbs pkts = .error .struct := by
  have := epbs_cases pkts
  rwa [if_neg h] at this

/-- the file the writer leaves behind IS the pcapng draft's encoding of the packets as events, in the writer's variant -/
theorem pcapng_eq (pkts : List (Bytes × Nat)) (h : ∀ p ∈ pkts, PktFits p) :
    pcapng pkts = .ok (encode (.pcapng dpktVariant) (pkts.map evOf)) := by
  unfold pcapng
  rw [epbs_eq pkts h]
  simp only [encode, encodeNg, NgVariant.blocks, shb_eq, idb_eq]
  simp [dpktVariant, encBlocks, weave_default]

theorem pcapng_err (pkts : List (Bytes × Nat)) (h : ¬ ∀ p ∈ pkts, PktFits p) : pcapng pkts = .error .struct := by
  unfold pcapng; rw [epbs_err pkts h]

theorem pcapng_ok (pkts : List (Bytes × Nat)) (f : Bytes) (h : pcapng pkts = .ok f) :
    (∀ p ∈ pkts, PktFits p) ∧ f = encode (.pcapng dpktVariant) (pkts.map evOf) := by
  by_cases hfit : ∀ p ∈ pkts, PktFits p
  · rw [pcapng_eq pkts hfit] at h; exact ⟨hfit, (Except.ok.inj h).symm⟩
  · rw [pcapng_err pkts hfit] at h; cases h

end Writer

section File
open TLX.Spec.Containers TLX.Lemmas.Container TLX.Spec.PcapngWalk
open TLX.Container (Endian fld rdNat)

theorem walk_block (fuel ty : Nat) (body R : Bytes) (ht : ty < 2 ^ 32) (hl : blkLen body < 2 ^ 32) :
    walkFuel (fuel + 1) (encBlock .le ty body ++ R) =
      (walkFuel fuel R).map fun bs => (ty, padded body) :: bs := by
  obtain ⟨_, a8, at', aend⟩ := encBlock_at .le ty body R
  have hbl : 12 ≤ blkLen body ∧ blkLen body % 4 = 0 := by
    unfold blkLen; have := align4_mod body.length; omega
  have hlen := aend.length
  have h2 : ¬ (encBlock .le ty body ++ R).length < 12 := by omega
  have h1 : (encBlock .le ty body ++ R).isEmpty = false := by
    cases hq : encBlock Endian.le ty body ++ R <;> simp [hq] at h2 ⊢
  have h3 := encBlock_ty .le ty body R ht
  have h4 := encBlock_len .le ty body R hl
  have h5 : ¬ (blkLen body < 12 ∨ blkLen body % 4 ≠ 0 ∨ (encBlock .le ty body ++ R).length < blkLen body) := by omega
  have h6 := (at'.enc (by rw [pow_256_4]; exact hl)).1
  have h7 := aend.2
  have h8 := (a8.field _ (blkLen body - 4) (by rw [padded_length, blkLen]; omega)).1
  rw [walkFuel]
  simp only [h1, Bool.false_eq_true, if_false, h2, h3, h4, h5, h6, h7, h8, ne_eq, not_true_eq_false]
  cases walkFuel fuel R <;> rfl

theorem walkFuel_blocks (bs : List Block) (h : ∀ b ∈ bs, b.WF) (fuel : Nat) (hf : bs.length ≤ fuel) :
    walkFuel fuel (encBlocks .le bs) = some (bs.map fun b => (bTy b, padded (bBody .le b))) := by
  induction bs generalizing fuel with
  | nil => cases fuel <;> rfl
  | cons b bs ih =>
    obtain ⟨fuel, rfl⟩ : ∃ k, fuel = k + 1 := ⟨fuel - 1, by simp at hf; omega⟩
    have hb := h b (by simp)
    have ⟨hl, hty⟩ := wf_blkLen .le b hb
    rw [encBlocks, encode_eq, walk_block fuel _ _ _ hty hl, ih (fun x hx => h x (by simp [hx])) fuel (by simp at hf; omega)]
    rfl

theorem walk_blocks (bs : List Block) (h : ∀ b ∈ bs, b.WF) :
    walk (encBlocks .le bs) = some (bs.map fun b => (bTy b, padded (bBody .le b))) :=
  walkFuel_blocks bs h _ (encBlocks_length_ge .le bs)

theorem epbBlock_wf (p : Bytes × Nat) (h : PktFits p) : (Ev.block {} (evOf p)).WF := by
  obtain ⟨h1, h2⟩ := h
  have := align4_ge p.1.length
  rw [align4_eq'] at h1
  simp only [evOf, Ev.block, Bool.false_eq_true, if_false, Block.WF, padded_length]
  refine ⟨by decide, ?_, ?_, ?_, ?_⟩
  · have : p.2 < 4294967296 * 4294967296 := by
      have := Nat.div_add_mod p.2 4294967296
      have := Nat.mod_lt p.2 (show 0 < 4294967296 by decide)
      omega
    have e : (2 : Nat) ^ 64 = 4294967296 * 4294967296 := by decide
    rw [e]; exact this
  · have e : (2 : Nat) ^ 32 = 4294967296 := by decide
    rw [e]; omega
  · intro x hx; cases hx
  · have e : (2 : Nat) ^ 32 = 4294967296 := by decide
    rw [e]; simp [Opts.encLen, optListLen]; omega

theorem dpktVariant_wf (pkts : List (Bytes × Nat)) (h : ∀ p ∈ pkts, PktFits p) :
    dpktVariant.WF (pkts.map evOf) := by
  unfold NgVariant.WF
  refine ⟨by decide +kernel, ?_, ?_, ?_, ?_, ?_⟩
  · intro b hb; cases hb
  · intro b hb; cases hb
  · intro b hb; cases hb
  · intro i b hb; cases hb
  · intro b hb
    rw [show dpktVariant.deco = fun _ => {} from rfl, weave_default] at hb
    simp only [List.mem_map] at hb
    obtain ⟨ev, ⟨p, hp, rfl⟩, rfl⟩ := hb
    exact epbBlock_wf p (h p hp)

theorem fileBody_eq (fs : List Frame) (h : ∀ f ∈ fs, Fits f) :
    fileBody fs = epbs (fs.map fun f => (frameBytes f, f.ts)) := by
  induction fs with
  | nil => rfl
  | cons f fs ih =>
    rw [List.forall_mem_cons] at h
    simp only [fileBody, serialize_of_fits h.1, List.map_cons, epbs, ih h.2]

theorem fileBody_ok (fs : List Frame) (body : Bytes) (h : fileBody fs = .ok body) : ∀ f ∈ fs, Fits f := by
  induction fs generalizing body with
  | nil => nofun
  | cons f fs ih =>
    rcases serialize_cases f with ⟨hfit, he⟩ | ⟨_, e, he⟩ <;> simp only [fileBody, he] at h
    · repeat' split at h
      all_goals cases h
      exact List.forall_mem_cons.mpr ⟨hfit, ih _ ‹_›⟩
    · cases h

theorem fileOfFrames_ok (fs : List Frame) (file : Bytes) (h : fileOfFrames fs = .ok file) :
    ∀ f ∈ fs, Fits f ∧ PktFits (frameBytes f, f.ts) := by
  unfold fileOfFrames at h
  split at h
  · cases h
  · rename_i body hb
    have hfit := fileBody_ok fs body hb
    have hp := epbs_cases (fs.map fun f => (frameBytes f, f.ts))
    rw [← fileBody_eq fs hfit, hb] at hp
    split at hp
    · rename_i hall
      exact fun f hf => ⟨hfit f hf, hall _ (List.mem_map_of_mem hf)⟩
    · cases hp

theorem fileOfFrames_eq (fs : List Frame) (h : ∀ f ∈ fs, Fits f ∧ PktFits (frameBytes f, f.ts)) :
    fileOfFrames fs = pcapng (fs.map fun f => (frameBytes f, f.ts)) := by
  unfold fileOfFrames pcapng; rw [fileBody_eq fs fun f hf => (h f hf).1]

theorem fileOfFrames_err (fs : List Frame) (h : ¬ ∀ f ∈ fs, Fits f ∧ PktFits (frameBytes f, f.ts)) :
    ∃ e, fileOfFrames fs = .error e := by
  cases hf : fileOfFrames fs with
  | error e => exact ⟨e, rfl⟩
  | ok file => exact absurd (fileOfFrames_ok fs file hf) h

theorem frameBytes_length (f : Frame) (hwf : f.WF) :
    (frameBytes f).length = 14 + (if f.ipv6 then 40 else 20) + l4Len f := by
  unfold frameBytes ipBytes
  have := segBytes_length f
  have hs := hwf.src; have hd := hwf.dst
  cases hv : f.ipv6 <;>
    simp only [hv, Bool.false_eq_true, if_false, if_true, ipv4Header, ipv6Header, List.length_append, List.length_cons,
      List.length_nil, Bytes.ofNatBE_length, hwf.srcMac, hwf.dstMac, this] at hs hd ⊢ <;> omega

/-- no frame scapy serialises is longer than 14 + 40 + 65535 bytes -/
theorem frameBytes_le (f : Frame) (hwf : f.WF) (hfit : Fits f) : (frameBytes f).length ≤ 65589 := by
  obtain ⟨_, _, _, hl⟩ := hfit
  rw [frameBytes_length f hwf]
  cases hv : f.ipv6 <;> simp only [hv, Bool.false_eq_true, if_false, if_true] at hl ⊢ <;> omega

/-- a frame scapy can serialise always fits an EPB; only the time stamp can be too large -/
theorem pktFits_of_fits (f : Frame) (hwf : f.WF) (hfit : Fits f) (hts : f.ts < 2 ^ 64) : PktFits (frameBytes f, f.ts) := by
  have hlen := frameBytes_le f hwf hfit
  have e : (2 : Nat) ^ 64 = 4294967296 * 4294967296 := by decide
  rw [e] at hts
  refine ⟨?_, Nat.div_lt_of_lt_mul hts⟩
  show 32 + OutBytes.align4 (frameBytes f).length < 4294967296
  unfold OutBytes.align4
  split <;> omega

end File

end TLX.Lemmas.OutBytes
