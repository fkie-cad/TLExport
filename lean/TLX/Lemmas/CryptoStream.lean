/-
Helper lemmas for C02 (CRYPTO stream reassembly): the stable sort, the consume pass over a sorted snapshot, the
fragments of a cut, the message loop against the independent `Spec.TlsHandshakeFraming.frameHs`, and the invariant
of a single (direction, packet type) space under arbitrary deliveries of the fragments of a cut. Core Lean only.
-/
import TLX.Quic.CryptoStream
import TLX.Spec.TlsHandshakeFraming
import TLX.Lemmas.Bytes
namespace TLX.Lemmas.CryptoStream
open TLX TLX.Quic.CryptoStream TLX.Spec.TlsHandshakeFraming

def Sorted (l : List CFrame) : Prop := l.Pairwise (fun a b => a.offset ≤ b.offset)

theorem mem_insertSorted (f x : CFrame) (l : List CFrame) : x ∈ insertSorted f l ↔ x = f ∨ x ∈ l := by
  induction l with
  | nil => simp [insertSorted]
  | cons g gs ih =>
    simp only [insertSorted]
    split
    · simp
    · simp only [List.mem_cons, ih]
      constructor
      · rintro (h | h | h) <;> simp [h]
      · rintro (h | h | h) <;> simp [h]

theorem mem_sortByOffset (x : CFrame) (l : List CFrame) : x ∈ sortByOffset l ↔ x ∈ l := by
  induction l with
  | nil => simp [sortByOffset]
  | cons g gs ih => simp [sortByOffset, mem_insertSorted, ih]

theorem sorted_insertSorted (f : CFrame) (l : List CFrame) (h : Sorted l) : Sorted (insertSorted f l) := by
  induction l with
  | nil => simp [insertSorted, Sorted]
  | cons g gs ih =>
    simp only [insertSorted]
    unfold Sorted at h ih ⊢
    rw [List.pairwise_cons] at h
    split
    · rename_i hle
      rw [List.pairwise_cons]
      refine ⟨?_, List.pairwise_cons.mpr h⟩
      intro a ha
      rcases List.mem_cons.mp ha with rfl | ha
      · exact hle
      · exact Nat.le_trans hle (h.1 a ha)
    · rename_i hle
      rw [List.pairwise_cons]
      refine ⟨?_, ih h.2⟩
      intro a ha
      rcases (mem_insertSorted f a gs).mp ha with rfl | ha
      · omega
      · exact h.1 a ha

theorem sorted_sortByOffset (l : List CFrame) : Sorted (sortByOffset l) := by
  induction l with
  | nil => simp [sortByOffset, Sorted]
  | cons g gs ih => exact sorted_insertSorted g _ ih

theorem removeFrame_sublist (f : CFrame) (l : List CFrame) : (removeFrame f l).Sublist l := by
  induction l with
  | nil => simp [removeFrame]
  | cons g gs ih =>
    simp only [removeFrame]
    split
    · exact List.sublist_cons_self g gs
    · exact ih.cons_cons g

theorem mem_removeFrame_of_ne (f x : CFrame) (l : List CFrame) (hx : x ∈ l) (hne : x.id ≠ f.id) :
    x ∈ removeFrame f l := by
  induction l with
  | nil => simp at hx
  | cons g gs ih =>
    simp only [removeFrame]
    rcases List.mem_cons.mp hx with rfl | hx
    · rw [if_neg hne]; exact List.mem_cons_self
    · split
      · exact hx
      · exact List.mem_cons_of_mem _ (ih hx)

theorem pass_off_ge (L : List CFrame) (s : KState) : s.off ≤ (pass L s).off := by
  fun_induction pass L s with
  | case1 s => exact Nat.le_refl _
  | case2 g gs s h ih => exact Nat.le_trans (Nat.le_add_right _ _) ih
  | case3 g gs s h ih => exact ih

theorem pass_none (L : List CFrame) (s : KState) (h : ∀ g ∈ L, s.off < g.offset) : pass L s = s := by
  fun_induction pass L s with
  | case1 s => rfl
  | case2 g gs s heq ih => exact absurd heq (Nat.ne_of_gt (h g List.mem_cons_self))
  | case3 g gs s hne ih => exact ih fun g' hg' => h g' (List.mem_cons_of_mem _ hg')

theorem pass_off_ne (L : List CFrame) (s : KState) (hs : Sorted L) (hpos : ∀ g ∈ L, 0 < g.clen) :
    ∀ x ∈ L, x.offset ≠ (pass L s).off := by
  fun_induction pass L s with
  | case1 s => simp
  | case2 g gs s heq ih =>
    have hs' := List.pairwise_cons.mp hs
    intro x hx
    rcases List.mem_cons.mp hx with rfl | hx
    · have := pass_off_ge gs ⟨removeFrame x s.fb, s.off + x.clen, s.buf ++ x.crypto⟩
      have := hpos x List.mem_cons_self
      simp only at *
      omega
    · exact ih hs'.2 (fun g' hg' => hpos g' (List.mem_cons_of_mem _ hg')) x hx
  | case3 g gs s hne ih =>
    have hs' := List.pairwise_cons.mp hs
    intro x hx
    rcases List.mem_cons.mp hx with rfl | hx
    · have hge := pass_off_ge gs s
      rcases Nat.lt_or_gt_of_ne hne with hlt | hgt
      · omega
      · rw [pass_none gs s (fun g' hg' => Nat.lt_of_lt_of_le hgt (hs'.1 g' hg'))]
        omega
    · exact ih hs'.2 (fun g' hg' => hpos g' (List.mem_cons_of_mem _ hg')) x hx

theorem pass_fb_sublist (L : List CFrame) (s : KState) : (pass L s).fb.Sublist s.fb := by
  fun_induction pass L s with
  | case1 s => exact List.Sublist.refl _
  | case2 g gs s h ih => exact ih.trans (removeFrame_sublist g s.fb)
  | case3 g gs s h ih => exact ih

theorem pass_retains (L : List CFrame) (s : KState) (x : CFrame) (hx : x ∈ s.fb)
    (hid : ∀ g ∈ L, g.id = x.id → g = x) (hpos : ∀ g ∈ L, 0 < g.clen)
    (hoff : (pass L s).off ≤ x.offset) : x ∈ (pass L s).fb := by
  fun_induction pass L s with
  | case1 s => exact hx
  | case2 g gs s heq ih =>
    refine ih (mem_removeFrame_of_ne g x s.fb hx fun hidx => ?_)
      (fun g' hg' => hid g' (List.mem_cons_of_mem _ hg')) (fun g' hg' => hpos g' (List.mem_cons_of_mem _ hg')) hoff
    obtain rfl := hid g List.mem_cons_self hidx.symm
    have := pass_off_ge gs ⟨removeFrame g s.fb, s.off + g.clen, s.buf ++ g.crypto⟩
    have := hpos g List.mem_cons_self
    simp only at *
    omega
  | case3 g gs s hne ih =>
    exact ih hx (fun g' hg' => hid g' (List.mem_cons_of_mem _ hg')) (fun g' hg' => hpos g' (List.mem_cons_of_mem _ hg')) hoff

/-- number of stream bytes before fragment `j` -/
def bnd (frs : List Bytes) (j : Nat) : Nat := (frs.take j).flatten.length

theorem take_succ_flatten (frs : List Bytes) (j : Nat) (c : Bytes) (h : frs[j]? = some c) :
    (frs.take (j + 1)).flatten = (frs.take j).flatten ++ c := by
  rw [List.take_add_one, h]; simp

theorem bnd_succ (frs : List Bytes) (j : Nat) (c : Bytes) (h : frs[j]? = some c) :
    bnd frs (j + 1) = bnd frs j + c.length := by
  simp [bnd, take_succ_flatten frs j c h]

theorem bnd_lt (frs : List Bytes) (hne : ∀ c ∈ frs, c ≠ []) (i j : Nat) (hij : i < j) (hj : j ≤ frs.length) :
    bnd frs i < bnd frs j := by
  induction j with
  | zero => omega
  | succ j ih =>
    have hjl : j < frs.length := by omega
    have hget : frs[j]? = some frs[j] := List.getElem?_eq_getElem hjl
    rw [bnd_succ frs j _ hget]
    have hpos : 0 < (frs[j]).length := by
      have := hne frs[j] (List.getElem_mem hjl)
      exact List.length_pos_iff.mpr this
    rcases Nat.lt_succ_iff_lt_or_eq.mp hij with h | h
    · have := ih h (by omega); omega
    · subst h; omega

theorem bnd_inj (frs : List Bytes) (hne : ∀ c ∈ frs, c ≠ []) (i j : Nat) (hi : i ≤ frs.length)
    (hj : j ≤ frs.length) (h : bnd frs i = bnd frs j) : i = j := by
  rcases Nat.lt_trichotomy i j with hlt | heq | hgt
  · have := bnd_lt frs hne i j hlt hj; omega
  · exact heq
  · have := bnd_lt frs hne j i hgt hi; omega

/-- `g` is the CRYPTO frame of some fragment of the cut (`id` free) -/
def IsFrag (frs : List Bytes) (g : CFrame) : Prop :=
  ∃ i, frs[i]? = some g.crypto ∧ g.offset = bnd frs i ∧ g.clen = g.crypto.length

theorem IsFrag.clen_pos {frs : List Bytes} (hne : ∀ c ∈ frs, c ≠ []) {g : CFrame} (h : IsFrag frs g) :
    0 < g.clen := by
  obtain ⟨i, hi, _, hl⟩ := h
  have := hne g.crypto (List.mem_of_getElem? hi)
  rw [hl]; exact List.length_pos_iff.mpr this

theorem pass_frag (frs : List Bytes) (hne : ∀ c ∈ frs, c ≠ []) (L : List CFrame) (s : KState)
    (hL : ∀ g ∈ L, IsFrag frs g) (j : Nat) (hj : j ≤ frs.length) (hoff : s.off = bnd frs j) :
    ∃ j' X, j ≤ j' ∧ j' ≤ frs.length ∧ (pass L s).off = bnd frs j' ∧ (pass L s).buf = s.buf ++ X ∧
      (frs.take j').flatten = (frs.take j).flatten ++ X := by
  fun_induction pass L s generalizing j with
  | case1 s => exact ⟨j, [], Nat.le_refl _, hj, hoff, (List.append_nil _).symm, (List.append_nil _).symm⟩
  | case2 g gs s heq ih =>
    obtain ⟨i, hi, hio, hlen⟩ := hL g List.mem_cons_self
    have hilt : i < frs.length := (List.getElem?_eq_some_iff.mp hi).1
    obtain rfl : i = j := bnd_inj frs hne i j (by omega) hj (by omega)
    obtain ⟨j', X, h1, h2, h3, h4, h5⟩ := ih (fun g' hg' => hL g' (List.mem_cons_of_mem _ hg')) (i + 1) (by omega)
      (by simp only; rw [bnd_succ frs i _ hi, hoff, hlen])
    refine ⟨j', g.crypto ++ X, by omega, h2, h3, ?_, ?_⟩
    · rw [h4, List.append_assoc]
    · rw [h5, take_succ_flatten frs i _ hi, List.append_assoc]
  | case3 g gs s hne' ih => exact ih (fun g' hg' => hL g' (List.mem_cons_of_mem _ hg')) j hj hoff

def never : Bytes → Bool := fun _ => false

/-- messages the loop hands on / what it leaves, when `handle_record` never raises -/
def implFrame (b : Bytes) : List Bytes := (msgLoop never b).1
def rem (b : Bytes) : Bytes := (msgLoop never b).2.1

theorem hsLen_eq (b : Bytes) (h : 4 ≤ b.length) : Bytes.beNat (Bytes.slice b 1 4) = hsLen b := by
  match b, h with
  | a0 :: a1 :: a2 :: a3 :: rest, _ =>
    show ((0 * 256 + a1.toNat) * 256 + a2.toNat) * 256 + a3.toNat = 65536 * a1.toNat + 256 * a2.toNat + a3.toNat
    omega

theorem slice14_append (b c : Bytes) (h : 4 ≤ b.length) : Bytes.slice (b ++ c) 1 4 = Bytes.slice b 1 4 :=
  Bytes.slice_left b c 1 4 h

theorem msgLoop_short (r : Bytes → Bool) (b : Bytes) (h : b.length ≤ 4) : msgLoop r b = ([], b, false) := by
  rw [msgLoop]; simp [h]

theorem msgLoop_never_raised (b : Bytes) : (msgLoop never b).2.2 = false := by
  fun_induction msgLoop never b with
  | case1 b h => rfl
  | case2 b h n h2 => rfl
  | case3 b h n h2 m hr => simp [never] at hr
  | case4 b h n h2 m hr r ih => exact ih

theorem msgLoop_flatten (b : Bytes) : (implFrame b).flatten ++ rem b = b := by
  unfold implFrame rem
  fun_induction msgLoop never b with
  | case1 b h => simp
  | case2 b h n h2 => simp
  | case3 b h n h2 m hr => simp [never] at hr
  | case4 b h n h2 m hr r ih =>
    simp only [List.flatten_cons, List.append_assoc]
    show List.take (4 + n) b ++ ((msgLoop never (b.drop (4 + n))).1.flatten ++ (msgLoop never (b.drop (4 + n))).2.1) = b
    rw [ih]
    exact List.take_append_drop _ _

theorem msgLoop_append (b c : Bytes) :
    implFrame (b ++ c) = implFrame b ++ implFrame (rem b ++ c) ∧ rem (b ++ c) = rem (rem b ++ c) := by
  unfold implFrame rem
  fun_induction msgLoop never b with
  | case1 b h => simp
  | case2 b h n h2 => simp
  | case3 b h n h2 m hr => simp [never] at hr
  | case4 b h n h2 m hr r ih =>
    have h4 : 4 ≤ b.length := by omega
    have hlen : ¬ (b ++ c).length ≤ 4 := by rw [List.length_append]; omega
    have hn : Bytes.beNat (Bytes.slice (b ++ c) 1 4) = n := by rw [slice14_append b c h4]
    have h2' : ¬ (b ++ c).length < 4 + n := by rw [List.length_append]; omega
    have hle : 4 + n ≤ b.length := by omega
    rw [msgLoop.eq_1 never (b ++ c)]
    simp only [hlen, if_false, hn, h2', List.take_append_of_le_length hle,
      List.drop_append_of_le_length hle]
    have hnr : never (List.take (4 + n) b) = false := rfl
    simp only [hnr, Bool.false_eq_true, if_false]
    exact ⟨by rw [ih.1]; rfl, ih.2⟩

/-- the implementation's loop against RFC framing: they differ exactly by a last message with an empty body
    (`len(buffer) <= 4: break` leaves a complete 4-byte message in the buffer) -/
theorem frameHs_eq_impl (b : Bytes) :
    frameHs b = implFrame b ++ (if (rem b).length = 4 ∧ hsLen (rem b) = 0 then [rem b] else []) := by
  unfold implFrame rem
  fun_induction msgLoop never b with
  | case1 b h =>
    rw [frameHs]
    by_cases h4 : b.length < 4
    · simp only [h4, if_true, List.nil_append]
      rw [if_neg (by omega)]
    · have h4' : b.length = 4 := by omega
      simp only [List.nil_append, h4', true_and]
      by_cases hz : hsLen b = 0
      · have ht : b.take 4 = b := List.take_of_length_le (by omega)
        have hd : b.drop 4 = [] := List.drop_eq_nil_of_le (by omega)
        have hf : frameHs [] = [] := by rw [frameHs]; simp
        simp [hz, ht, hd, hf]
      · have : 4 < 4 + hsLen b := by omega
        simp [hz, this]
  | case2 b h n h2 =>
    have hn : n = hsLen b := hsLen_eq b (by omega)
    rw [frameHs]
    have : ¬ b.length < 4 := by omega
    have h2' : b.length < 4 + hsLen b := by omega
    simp only [this, if_false, h2', if_true, List.nil_append]
    rw [if_neg (by omega)]
  | case3 b h n h2 m hr => simp [never] at hr
  | case4 b h n h2 m hr r ih =>
    have hn : n = hsLen b := hsLen_eq b (by omega)
    rw [frameHs]
    have : ¬ b.length < 4 := by omega
    have h2' : ¬ b.length < 4 + hsLen b := by omega
    simp only [this, if_false, ← hn, h2, ih, List.cons_append]
    rfl

theorem implFrame_prefix_frameHs (b : Bytes) : implFrame b <+: frameHs b := by
  rw [frameHs_eq_impl]; exact List.prefix_append _ _

theorem msgLoop_raised (r : Bytes → Bool) (b : Bytes) (h : (msgLoop r b).2.2 = true) :
    ∃ m ∈ (msgLoop r b).1, r m = true := by
  fun_induction msgLoop r b with
  | case1 b h1 => simp at h
  | case2 b h1 n h2 => simp at h
  | case3 b h1 n h2 m hr => exact ⟨m, by simp, hr⟩
  | case4 b h1 n h2 m hr q ih =>
    obtain ⟨x, hx, hrx⟩ := ih h
    exact ⟨x, List.mem_cons_of_mem _ hx, hrx⟩

theorem handleBufferGo_raised (r : Bytes → Bool) (srv : Bool) (pts : List PT) (st : State)
    (h : (handleBufferGo r srv pts st).2.2 = true) : ∃ m ∈ (handleBufferGo r srv pts st).2.1, r m = true := by
  induction pts generalizing st with
  | nil => simp [handleBufferGo] at h
  | cons p ps ih =>
    simp only [handleBufferGo] at h ⊢
    split
    · rename_i hr
      exact msgLoop_raised r _ hr
    · rename_i hr
      rw [if_neg hr] at h
      obtain ⟨m, hm, hrm⟩ := ih _ h
      exact ⟨m, List.mem_append_right _ hm, hrm⟩

theorem msgLoop_noraise (r : Bytes → Bool) (b : Bytes) (h : ∀ m ∈ implFrame b, r m = false) :
    msgLoop r b = msgLoop never b := by
  unfold implFrame at h
  fun_induction msgLoop never b with
  | case1 b h1 => rw [msgLoop_short r b h1]
  | case2 b h1 n h2 =>
    rw [msgLoop.eq_1 r b]
    simp only [h1, if_false]
    rw [if_pos h2]
  | case3 b h1 n h2 m hr => simp [never] at hr
  | case4 b h1 n h2 m hr q ih =>
    rw [msgLoop.eq_1 r b]
    simp only [h1, if_false]
    rw [if_neg h2]
    have hm : r (List.take (4 + n) b) = false := h _ (by simp [m])
    have ih' := ih (fun m' hm' => h m' (by simp [q, hm']))
    have hm' : r (List.take (4 + (b.slice 1 4).beNat) b) = false := hm
    have ih'' : msgLoop r (List.drop (4 + (b.slice 1 4).beNat) b) =
        msgLoop never (List.drop (4 + (b.slice 1 4).beNat) b) := ih'
    rw [if_neg (by rw [hm']; simp), ih'']

/-- `id` names an object: two deliveries with the same `id` are the same frame -/
def IdsOK (D : List CFrame) : Prop := ∀ a ∈ D, ∀ b ∈ D, a.id = b.id → a = b

/-- One space after the deliveries `D` of fragments of the cut `frs`, with `msgs` handed on so far: the running offset is a
    fragment boundary and messages and buffer are what the loop makes of the stream up to there; the frame buffer holds
    fragments, all delivered, none at the running offset (it would have been consumed); and every delivered frame at or
    behind the running offset is still in it (`kept`: a gap keeps what lies behind it pending). -/
structure Inv (frs : List Bytes) (D : List CFrame) (s : KState) (msgs : List Bytes) : Prop where
  at_bnd : ∃ j, j ≤ frs.length ∧ s.off = bnd frs j ∧ msgs = implFrame (frs.take j).flatten ∧
    s.buf = rem (frs.take j).flatten
  frag : ∀ g ∈ s.fb, IsFrag frs g
  sub : ∀ g ∈ s.fb, g ∈ D
  ne : ∀ g ∈ s.fb, g.offset ≠ s.off
  kept : ∀ f ∈ D, s.off ≤ f.offset → f ∈ s.fb

theorem inv_init (frs : List Bytes) : Inv frs [] {} [] := by
  refine ⟨⟨0, Nat.zero_le _, ?_, ?_, ?_⟩, ?_, ?_, ?_, ?_⟩
  · simp [bnd]
  · simp [implFrame, msgLoop_short]
  · simp [rem, msgLoop_short]
  all_goals simp

theorem inv_step (frs : List Bytes) (hne : ∀ c ∈ frs, c ≠ []) (D : List CFrame) (s : KState)
    (msgs : List Bytes) (f : CFrame) (hinv : Inv frs D s msgs) (hf : IsFrag frs f) (hids : IdsOK (D ++ [f])) :
    Inv frs (D ++ [f]) (kstep never s f).1 (msgs ++ (kstep never s f).2.1) := by
  obtain ⟨⟨j, hj, hoff, hmsgs, hbuf⟩, hfrag, hsub, _, hkept⟩ := hinv
  have hLmem : ∀ g, g ∈ sortByOffset (s.fb ++ [f]) ↔ g ∈ s.fb ∨ g = f := by
    intro g; rw [mem_sortByOffset]; simp
  have hL : ∀ g ∈ sortByOffset (s.fb ++ [f]), IsFrag frs g := by
    intro g hg
    rcases (hLmem g).mp hg with h | rfl
    · exact hfrag g h
    · exact hf
  have hpos : ∀ g ∈ sortByOffset (s.fb ++ [f]), 0 < g.clen := fun g hg => (hL g hg).clen_pos hne
  have hLD : ∀ g ∈ sortByOffset (s.fb ++ [f]), g ∈ D ++ [f] := by
    intro g hg
    rcases (hLmem g).mp hg with h | rfl
    · exact List.mem_append_left _ (hsub g h)
    · simp
  obtain ⟨j', X, hjj, hj', hoff', hbuf', hX⟩ :=
    pass_frag frs hne (sortByOffset (s.fb ++ [f])) { s with fb := sortByOffset (s.fb ++ [f]) } hL j hj hoff
  have hsubl := pass_fb_sublist (sortByOffset (s.fb ++ [f])) { s with fb := sortByOffset (s.fb ++ [f]) }
  have happ := msgLoop_append (frs.take j).flatten X
  simp only at hbuf' hsubl
  refine ⟨⟨j', hj', ?_, ?_, ?_⟩, ?_, ?_, ?_, ?_⟩
  · exact hoff'
  · show msgs ++ implFrame (absorb s f).buf = _
    show msgs ++ implFrame (pass _ _).buf = _
    rw [hbuf', hX, happ.1, hmsgs, hbuf]
  · show rem (pass _ _).buf = _
    rw [hbuf', hX, happ.2, hbuf]
  · intro g hg
    exact hL g (hsubl.subset hg)
  · intro g hg
    exact hLD g (hsubl.subset hg)
  · intro g hg
    exact pass_off_ne _ _ (sorted_sortByOffset _) hpos g (hsubl.subset hg)
  · intro x hx hxo
    have hxL : x ∈ sortByOffset (s.fb ++ [f]) := by
      rw [hLmem]
      rcases List.mem_append.mp hx with h | h
      · left
        apply hkept x h
        have := pass_off_ge (sortByOffset (s.fb ++ [f])) { s with fb := sortByOffset (s.fb ++ [f]) }
        simp only at this
        exact Nat.le_trans this hxo
      · right; simpa using h
    exact pass_retains _ _ x hxL (fun g hg hid => hids g (hLD g hg) x hx hid) hpos hxo

theorem krun_append (r : Bytes → Bool) (s : KState) (a b : List CFrame) :
    krun r s (a ++ b) = ((krun r (krun r s a).1 b).1, (krun r s a).2 ++ (krun r (krun r s a).1 b).2) := by
  induction a generalizing s with
  | nil => simp [krun]
  | cons f fs ih => simp [krun, ih, List.append_assoc]

theorem IdsOK.mono {A B : List CFrame} (h : ∀ x ∈ A, x ∈ B) (hB : IdsOK B) : IdsOK A :=
  fun a ha b hb => hB a (h a ha) b (h b hb)

theorem State.ext' (a b : State) (h : ∀ k, a.ks k = b.ks k) : a = b := by
  cases a; cases b; simp only [State.mk.injEq]; funext k; exact h k

theorem State.set_set (st : State) (k : Key) (v w : KState) : (st.set k v).set k w = st.set k w := by
  apply State.ext'; intro k'; simp only [State.set]; split <;> rfl

theorem State.ks_set_self (st : State) (k : Key) (v : KState) : (st.set k v).ks k = v := by simp [State.set]

theorem State.set_ks_self (st : State) (k : Key) : st.set k (st.ks k) = st := by
  apply State.ext'; intro k'; simp only [State.set]; split <;> simp_all

/-- the buffer holds no whole message the loop would hand on (and none it would raise on) -/
def Drained (r : Bytes → Bool) (b : Bytes) : Prop := msgLoop r b = ([], b, false)

theorem drained_nil (r : Bytes → Bool) : Drained r [] := msgLoop_short r [] (by simp)

/-- `msgLoop` by structural recursion on a fuel: `decide` does not unfold a definition by well-founded recursion, so concrete
    witnesses are evaluated through this copy (`msgLoop_eq_len`) -/
def msgLoopF (raises : Bytes → Bool) : Nat → Bytes → List Bytes × Bytes × Bool
  | 0, b => ([], b, false)
  | fuel + 1, b =>
    if b.length ≤ 4 then ([], b, false)
    else
      let n := Bytes.beNat (Bytes.slice b 1 4)
      if b.length < 4 + n then ([], b, false)
      else
        let m := b.take (4 + n)
        if raises m then ([m], b, true)
        else
          let r := msgLoopF raises fuel (b.drop (4 + n))
          (m :: r.1, r.2.1, r.2.2)

theorem msgLoop_eq_fuel (r : Bytes → Bool) (fuel : Nat) (b : Bytes) (h : b.length ≤ fuel) :
    msgLoop r b = msgLoopF r fuel b := by
  induction fuel generalizing b with
  | zero => rw [msgLoop_short r b (by omega)]; rfl
  | succ fuel ih =>
    rw [msgLoop, msgLoopF]
    split
    · rfl
    · simp only
      split
      · rfl
      · split
        · rfl
        · rw [ih _ (by simp only [List.length_drop]; omega)]

theorem msgLoop_eq_len (r : Bytes → Bool) (b : Bytes) : msgLoop r b = msgLoopF r b.length b :=
  msgLoop_eq_fuel r b.length b (Nat.le_refl _)

theorem msgLoop_idem (r : Bytes → Bool) (b : Bytes) (h : (msgLoop r b).2.2 = false) :
    Drained r (msgLoop r b).2.1 := by
  unfold Drained
  fun_induction msgLoop r b with
  | case1 b h1 => exact msgLoop_short r b h1
  | case2 b h1 n h2 =>
    show msgLoop r b = _
    rw [msgLoop]; simp only [h1, if_false]; rw [if_pos h2]
  | case3 b h1 n h2 m hr => simp at h
  | case4 b h1 n h2 m hr q ih => exact ih h

/-- `State.set_ks_self` in the shape `handleBufferGo` leaves when the loop changed nothing -/
theorem set_same (st : State) (k : Key) : st.set k { st.ks k with buf := (st.ks k).buf } = st :=
  State.set_ks_self st k

theorem go_drained (r : Bytes → Bool) (srv : Bool) (pts : List PT) (st : State)
    (h : ∀ p ∈ pts, Drained r (st.ks (srv, p)).buf) : handleBufferGo r srv pts st = (st, [], false) := by
  induction pts generalizing st with
  | nil => rfl
  | cons p ps ih =>
    simp only [handleBufferGo]
    have hp : msgLoop r (st.ks (srv, p)).buf = ([], (st.ks (srv, p)).buf, false) := h p List.mem_cons_self
    simp only [hp, set_same, Bool.false_eq_true, if_false, List.nil_append]
    rw [ih st (fun q hq => h q (List.mem_cons_of_mem _ hq))]

theorem go_single (r : Bytes → Bool) (srv : Bool) (p : PT) (pts : List PT) (hnd : pts.Nodup) (hp : p ∈ pts)
    (st : State) (h : ∀ q ∈ pts, q ≠ p → Drained r (st.ks (srv, q)).buf) :
    handleBufferGo r srv pts st =
      (st.set (srv, p) { st.ks (srv, p) with buf := (msgLoop r (st.ks (srv, p)).buf).2.1 },
        (msgLoop r (st.ks (srv, p)).buf).1, (msgLoop r (st.ks (srv, p)).buf).2.2) := by
  induction pts with
  | nil => cases hp
  | cons q qs ih =>
    obtain ⟨hq, hnd'⟩ := List.nodup_cons.mp hnd
    by_cases hqp : q = p
    · subst hqp
      simp only [handleBufferGo]
      split
      · rename_i hr; simp [hr]
      · rename_i hr
        rw [go_drained r srv qs _ (fun x hx => by
          have hxq : x ≠ q := fun e => hq (e ▸ hx)
          have hne : (srv, x) ≠ (srv, q) := fun e => hxq (Prod.mk.inj e).2
          simp only [State.set, if_neg hne]
          exact h x (List.mem_cons_of_mem _ hx) hxq)]
        simp only [List.append_nil]
        simp at hr
        rw [hr]
    · have hd : msgLoop r (st.ks (srv, q)).buf = ([], (st.ks (srv, q)).buf, false) := h q List.mem_cons_self hqp
      simp only [handleBufferGo, hd, set_same, Bool.false_eq_true, if_false, List.nil_append]
      exact ih hnd' ((List.mem_cons.mp hp).resolve_left (Ne.symm hqp)) (fun x hx => h x (List.mem_cons_of_mem _ hx))

/-- `update_session` seen from the frame's own space: when no *other* buffer of that direction holds a whole
    message, the call is `kstep` on the own space and touches nothing else -/
theorem update_own_space (r : Bytes → Bool) (st : State) (k : Key) (f : CFrame)
    (hd : ∀ pt, (k.1, pt) ≠ k → Drained r (st.ks (k.1, pt)).buf) :
    update r st k f = (st.set k (kstep r (st.ks k) f).1, (kstep r (st.ks k) f).2.1, (kstep r (st.ks k) f).2.2) := by
  obtain ⟨srv, pt⟩ := k
  have hd' : ∀ q ∈ [PT.initial, .rtt0, .rtt1, .handshake], q ≠ pt →
      Drained r ((st.set (srv, pt) (absorb (st.ks (srv, pt)) f)).ks (srv, q)).buf := by
    intro q _ hq
    have hne : (srv, q) ≠ (srv, pt) := fun e => hq (Prod.mk.inj e).2
    simp only [State.set, if_neg hne]
    exact hd q hne
  simp only [update, handleBuffer, kstep]
  rw [go_single r srv pt _ (by decide) (by cases pt <;> decide) _ hd']
  simp only [State.ks_set_self, State.set_set]

theorem run_single (r : Bytes → Bool) (k : Key) (dl : List CFrame) (st : State)
    (hd : ∀ pt, (k.1, pt) ≠ k → Drained r (st.ks (k.1, pt)).buf) :
    run r st (dl.map (fun f => (k, f))) = (st.set k (krun r (st.ks k) dl).1, (krun r (st.ks k) dl).2) := by
  induction dl generalizing st with
  | nil => simp only [List.map_nil, run, krun, State.set_ks_self]
  | cons f fs ih =>
    simp only [List.map_cons, run, krun]
    rw [update_own_space r st k f hd]
    simp only
    rw [ih _ fun pt hne => by simp only [State.set, if_neg hne]; exact hd pt hne]
    rw [State.ks_set_self, State.set_set]

theorem Inv.prefix {frs : List Bytes} {D : List CFrame} {s : KState} {msgs : List Bytes} (h : Inv frs D s msgs) :
    msgs <+: implFrame frs.flatten := by
  obtain ⟨j, -, -, hm, -⟩ := h.at_bnd
  have hf : frs.flatten = (frs.take j).flatten ++ (frs.drop j).flatten := by
    rw [← List.flatten_append, List.take_append_drop]
  rw [hm, hf, (msgLoop_append _ _).1]
  exact List.prefix_append _ _

/-- once every fragment has been delivered no gap is left -/
theorem Inv.complete {frs : List Bytes} {D : List CFrame} {s : KState} {msgs : List Bytes} (h : Inv frs D s msgs)
    (hall : ∀ i, i < frs.length → ∃ f ∈ D, f.offset = bnd frs i) :
    msgs = implFrame frs.flatten ∧ s.buf = rem frs.flatten ∧ s.off = frs.flatten.length := by
  obtain ⟨⟨j, hj, hoff, hmsgs, hbuf⟩, -, -, hne, hkept⟩ := h
  obtain rfl : j = frs.length := by
    false_or_by_contra
    obtain ⟨f, hf, hfo⟩ := hall j (by omega)
    exact hne f (hkept f hf (by rw [hfo, hoff]; exact Nat.le_refl _)) (by rw [hfo, hoff])
  rw [List.take_length] at hmsgs hbuf
  exact ⟨hmsgs, hbuf, by rw [hoff, bnd, List.take_length]⟩

/-- One `update_session` with a fragment of the cut, in a state none of whose buffers holds a whole message, when
    `handle_record` raises on no message of the stream: only the frame's own space moves and nothing is raised. -/
theorem update_frag (raises : Bytes → Bool) (frs : List Bytes) (hne : ∀ c ∈ frs, c ≠ [])
    (hnr : ∀ m ∈ implFrame frs.flatten, raises m = false)
    (st : State) (k : Key) (f : CFrame) (D : List CFrame) (cum : List Bytes)
    (hd : ∀ k', Drained raises (st.ks k').buf) (hinv : Inv frs D (st.ks k) cum)
    (hf : IsFrag frs f) (hids : IdsOK (D ++ [f])) :
    ∃ s' new, update raises st k f = (st.set k s', new, false) ∧ Inv frs (D ++ [f]) s' (cum ++ new) ∧
      ∀ k', Drained raises ((st.set k s').ks k').buf := by
  have hstep := inv_step frs hne D (st.ks k) cum f hinv hf hids
  -- the messages this call hands on belong to the stream, so `handle_record` raises on none of them
  have hml : msgLoop raises (absorb (st.ks k) f).buf = msgLoop never (absorb (st.ks k) f).buf :=
    msgLoop_noraise raises _ fun m hm => hnr m (hstep.prefix.subset (List.mem_append_right _ hm))
  have hnev := msgLoop_never_raised (absorb (st.ks k) f).buf
  have hup := update_own_space raises st k f (fun _ _ => hd _)
  simp only [kstep, hml, hnev] at hup
  refine ⟨_, _, hup, hstep, fun k' => ?_⟩
  simp only [State.set]
  split
  · exact hml ▸ msgLoop_idem raises _ (hml ▸ hnev)
  · exact hd k'

theorem run_frags (raises : Bytes → Bool) (frs : List Bytes) (hne : ∀ c ∈ frs, c ≠ [])
    (hnr : ∀ m ∈ implFrame frs.flatten, raises m = false) (k : Key) (dl : List CFrame) (st : State) (D : List CFrame)
    (cum : List Bytes) (hd : ∀ k', Drained raises (st.ks k').buf) (hinv : Inv frs D (st.ks k) cum)
    (hf : ∀ f ∈ dl, IsFrag frs f) (hids : IdsOK (D ++ dl)) :
    Inv frs (D ++ dl) ((run raises st (dl.map fun f => (k, f))).1.ks k)
      (cum ++ (run raises st (dl.map fun f => (k, f))).2) := by
  induction dl generalizing st D cum with
  | nil => simpa [run] using hinv
  | cons f fs ih =>
    rw [List.append_cons] at hids ⊢
    obtain ⟨s', new, hup, hinv', hd'⟩ := update_frag raises frs hne hnr st k f D cum hd hinv
      (hf f List.mem_cons_self) (hids.mono fun x hx => List.mem_append_left _ hx)
    have := ih (st.set k s') (D ++ [f]) (cum ++ new) hd' (by rwa [State.ks_set_self])
      (fun g hg => hf g (List.mem_cons_of_mem _ hg)) hids
    simp only [List.map_cons, run, hup]
    rwa [List.append_assoc cum] at this

theorem run_init (raises : Bytes → Bool) (k : Key) (S : Bytes) (frs : List Bytes) (dl : List CFrame) (hcut : IsCut S frs)
    (hf : ∀ f ∈ dl, IsFrag frs f) (hids : IdsOK dl) (hnr : ∀ m ∈ frameHs S, raises m = false) :
    Inv frs dl ((run raises State.init (dl.map fun f => (k, f))).1.ks k) (run raises State.init (dl.map fun f => (k, f))).2 := by
  have := run_frags raises frs hcut.1 (fun m hm => hnr m ((implFrame_prefix_frameHs _).subset (hcut.2 ▸ hm))) k dl
    State.init [] [] (fun _ => drained_nil raises) (inv_init frs) hf (by simpa using hids)
  simpa using this

end TLX.Lemmas.CryptoStream
