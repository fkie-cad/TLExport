/-
The main loop (`TLX/MainLoop.lean`) for Props/C04 and Props/C18: order-preserving merges, a generic "first session that
takes the input, else create" router and its behaviour under merges of mutually isolated inputs, flows as unordered
endpoint pairs, the bridge from `tlsHandle` / `quicLoop` to that router, the order behind
`sorted(cids, key=(-len, bytes))`, and `classify` and the three views of a capture case by case.
Declares, in the order the proofs need them, also into `TLX.Spec.Demux` (`Merge`), `TLX.Props.C04` (four of its theorems that
lemmas further down rest on) and `TLX.Lemmas.ExportProps` (`dsbKeys_append`, used below that file).
-/
import TLX.Spec.Demux
import TLX.Generic
namespace TLX.Spec.Demux

section Merge
variable {α β : Type}

theorem Merge.symm {a b m : List α} (h : Merge a b m) : Merge b a m := by
  induction h with
  | nil => exact .nil
  | left x _ ih => exact .right x ih
  | right x _ ih => exact .left x ih

theorem Merge.left_nil : ∀ (a : List α), Merge a [] a
  | [] => .nil
  | x :: a => .left x (Merge.left_nil a)

theorem Merge.right_nil (b : List α) : Merge [] b b := (Merge.left_nil b).symm

theorem Merge.eq_of_right_nil {a m : List α} (h : Merge a [] m) : m = a := by
  generalize hb : ([] : List α) = b at h
  induction h with
  | nil => rfl
  | left x _ ih => rw [ih hb]
  | right x _ _ => cases hb

theorem Merge.append_left {a b m : List α} (h : Merge a b m) (t : List α) : Merge (a ++ t) b (m ++ t) := by
  induction h with
  | nil => exact Merge.left_nil t
  | left x _ ih => exact .left x ih
  | right x _ ih => exact .right x ih

theorem Merge.filterMap {a b m : List α} (h : Merge a b m) (f : α → Option β) :
    Merge (a.filterMap f) (b.filterMap f) (m.filterMap f) := by
  induction h with
  | nil => exact .nil
  | left x _ ih =>
    simp only [List.filterMap_cons]
    split
    · exact ih
    · exact .left _ ih
  | right x _ ih =>
    simp only [List.filterMap_cons]
    split
    · exact ih
    · exact .right _ ih

theorem Merge.filter {a b m : List α} (h : Merge a b m) (f : α → Bool) :
    Merge (a.filter f) (b.filter f) (m.filter f) := by
  simpa only [List.filterMap_eq_filter] using h.filterMap (Option.guard fun x => f x)

theorem Merge.perm {a b m : List α} (h : Merge a b m) : m.Perm (a ++ b) := by
  induction h with
  | nil => exact .refl _
  | left x _ ih => exact .cons x ih
  | right x _ ih =>
    exact (List.Perm.cons x ih).trans List.perm_middle.symm

theorem Merge.sublist_left {a b m : List α} (h : Merge a b m) : a.Sublist m := by
  induction h with
  | nil => exact .slnil
  | left x _ ih => exact .cons_cons x ih
  | right x _ ih => exact .cons x ih

theorem Merge.mem {a b m : List α} (h : Merge a b m) (x : α) : x ∈ m ↔ x ∈ a ∨ x ∈ b := by
  rw [h.perm.mem_iff, List.mem_append]

theorem Merge.flatMap {a b m : List α} (h : Merge a b m) (f : α → List β) :
    (m.flatMap f).Perm (a.flatMap f ++ b.flatMap f) := by
  rw [← List.flatMap_append]
  exact h.perm.flatMap_right f

end Merge
end TLX.Spec.Demux

namespace TLX.Lemmas.MainLoop
open TLX TLX.MainLoop TLX.Spec.Demux

/-- the shape both halves of `main.py` give their session lists: `for s in sessions: if <s takes x>: <feed s x>; break`,
    `else: <maybe create a session from x>` (`handle_packet` with `matches_session`, `handle_quic_packet` with the CID test) -/
structure Router (S I : Type) where
  takes : S → I → Bool
  feed : S → I → S
  create : I → Option S

section Router
variable {S I : Type}

/-- one pass of that loop: the first session that takes `x` is fed, the others keep their place; if none does, the
    `else` branch appends at most one new session -/
def Router.handle (R : Router S I) : List S → I → List S
  | [], x => match R.create x with
    | some s => [s]
    | none => []
  | s :: rest, x => if R.takes s x then R.feed s x :: rest else s :: R.handle rest x

def Router.run (R : Router S I) (ss : List S) (xs : List I) : List S := xs.foldl R.handle ss

theorem Router.handle_merge_left (R : Router S I) {sa sb sm : List S} (h : Merge sa sb sm) (x : I)
    (hb : ∀ s ∈ sb, R.takes s x = false) : Merge (R.handle sa x) sb (R.handle sm x) := by
  induction h with
  | nil =>
    simp only [Router.handle]
    cases R.create x with
    | none => exact .nil
    | some s => exact .left s .nil
  | left s h ih =>
    simp only [Router.handle]
    split
    · exact .left _ h
    · exact .left _ (ih hb)
  | right s h ih =>
    have hs : R.takes s x = false := hb s (List.mem_cons_self)
    simp only [Router.handle, hs]
    exact .right _ (ih fun t ht => hb t (List.mem_cons_of_mem _ ht))

/-- no session of the run on a prefix of `A` (starting from the sessions `sa`) takes an input of `B` -/
def Router.Iso (R : Router S I) (sa : List S) (A B : List I) : Prop :=
  ∀ n, ∀ s ∈ R.run sa (A.take n), ∀ x ∈ B, R.takes s x = false

theorem Router.Iso.head {R : Router S I} {sb : List S} {B A : List I} {x : I} (h : R.Iso sb B (x :: A)) :
    ∀ s ∈ sb, R.takes s x = false := fun s hs => h 0 s hs x List.mem_cons_self

theorem Router.Iso.step {R : Router S I} {sa : List S} {A B : List I} {x : I} (h : R.Iso sa (x :: A) B) :
    R.Iso (R.handle sa x) A B := fun n s hs => h (n + 1) s hs

theorem Router.Iso.tail {R : Router S I} {sb : List S} {B A : List I} {x : I} (h : R.Iso sb B (x :: A)) :
    R.Iso sb B A := fun n s hs y hy => h n s hs y (List.mem_cons_of_mem _ hy)

theorem Router.run_merge (R : Router S I) {A B M : List I} (h : Merge A B M) :
    ∀ {sa sb sm : List S}, Merge sa sb sm → R.Iso sa A B → R.Iso sb B A →
      Merge (R.run sa A) (R.run sb B) (R.run sm M) := by
  induction h with
  | nil => intro sa sb sm hs _ _; exact hs
  | left x _ ih =>
    intro sa sb sm hs hA hB
    exact ih (R.handle_merge_left hs x hB.head) hA.step hB.tail
  | right x _ ih =>
    intro sa sb sm hs hA hB
    exact ih (R.handle_merge_left hs.symm x hA.head).symm hA.tail hB.step

theorem Router.run_inv (R : Router S I) (Q : S → Prop) (A : List I)
    (hfeed : ∀ x ∈ A, ∀ s, R.takes s x = true → Q s → Q (R.feed s x)) (hcreate : ∀ x ∈ A, ∀ t, R.create x = some t → Q t) :
    ∀ xs, (∀ x ∈ xs, x ∈ A) → ∀ ss, (∀ s ∈ ss, Q s) → ∀ s ∈ R.run ss xs, Q s := by
  have step : ∀ x ∈ A, ∀ ss, (∀ s ∈ ss, Q s) → ∀ s ∈ R.handle ss x, Q s := by
    intro x hx ss
    induction ss with
    | nil =>
      intro _ t ht
      simp only [Router.handle] at ht
      cases hc : R.create x with
      | none => rw [hc] at ht; cases ht
      | some u => rw [hc, List.mem_singleton] at ht; exact ht ▸ hcreate x hx u hc
    | cons a rest ih =>
      intro h t ht
      simp only [Router.handle] at ht
      by_cases hk : R.takes a x = true
      · rw [if_pos hk] at ht
        rcases List.mem_cons.mp ht with rfl | ht
        · exact hfeed x hx a hk (h a List.mem_cons_self)
        · exact h t (List.mem_cons_of_mem _ ht)
      · rw [if_neg hk] at ht
        rcases List.mem_cons.mp ht with rfl | ht
        · exact h _ List.mem_cons_self
        · exact ih (fun u hu => h u (List.mem_cons_of_mem _ hu)) t ht
  intro xs
  induction xs with
  | nil => intro _ ss h; exact h
  | cons x xs ih =>
    intro hsub ss h
    exact ih (fun y hy => hsub y (List.mem_cons_of_mem _ hy)) _ (step x (hsub x List.mem_cons_self) ss h)

end Router

section Runs
variable {κ σ τ ο : Type}

theorem tlsRun_nil (M : TlsMachine κ σ ο) (o : Opts) (ss : List (TlsSess σ)) : tlsRun M o ss [] = ss := rfl

theorem tlsRun_cons_pkt (M : TlsMachine κ σ ο) (o : Opts) (ss : List (TlsSess σ)) (p : Pkt) (ps : List Pkt) :
    tlsRun M o ss (p :: ps) = tlsRun M o (tlsHandle M o ss p) ps := rfl

theorem quicRun_nil (M : QuicMachine κ τ ο) (o : Opts) (ss : List (QuicSess τ)) : quicRun M o ss [] = ss := rfl

theorem quicRun_cons (M : QuicMachine κ τ ο) (o : Opts) (ss : List (QuicSess τ)) (x : QIn κ) (xs : List (QIn κ)) :
    quicRun M o ss (x :: xs) = quicRun M o (quicHandleH M o x.kl x.h ss x.p) xs := rfl

theorem quicRun_append (M : QuicMachine κ τ ο) (o : Opts) (ss : List (QuicSess τ)) (a b : List (QIn κ)) :
    quicRun M o ss (a ++ b) = quicRun M o (quicRun M o ss a) b := List.foldl_append

end Runs

section Flows
variable {κ σ ο α : Type}

/-- equality of the unordered pairs `{a, b}` and `{c, d}`: `sameFlow p q` is `pairEq p.src p.dst q.src q.dst`, and
    `s.matches p` is `pairEq p.src p.dst s.server s.client`. All that is used of it: it is reflexive and a congruence. -/
def pairEq (a b c d : Endpoint) : Bool := (a == c && b == d) || (a == d && b == c)

theorem pairEq_iff {a b c d : Endpoint} : pairEq a b c d = true ↔ (a = c ∧ b = d) ∨ (a = d ∧ b = c) := by
  simp only [pairEq, Bool.or_eq_true, Bool.and_eq_true, beq_iff_eq]

theorem pairEq_refl (a b : Endpoint) : pairEq a b a b = true := pairEq_iff.mpr (.inl ⟨rfl, rfl⟩)

theorem pairEq_congr {a b c d : Endpoint} (h : pairEq a b c d = true) (e f : Endpoint) :
    pairEq a b e f = pairEq c d e f := by
  rcases pairEq_iff.mp h with ⟨rfl, rfl⟩ | ⟨rfl, rfl⟩
  · rfl
  · rw [Bool.eq_iff_iff, pairEq_iff, pairEq_iff]
    exact Or.comm.trans (or_congr and_comm and_comm)

theorem pairEq_symm (a b c d : Endpoint) : pairEq a b c d = pairEq c d a b := by
  rw [Bool.eq_iff_iff]
  exact ⟨fun h => (pairEq_congr h a b).symm.trans (pairEq_refl a b),
    fun h => (pairEq_congr h c d).symm.trans (pairEq_refl c d)⟩

theorem matches_congr_sameFlow (s : Sess α) {p q : Pkt} (h : sameFlow p q = true) : s.matches p = s.matches q :=
  pairEq_congr h _ _

theorem sameFlow_of_matches (s : Sess α) {p q : Pkt} (hp : s.matches p = true) (hq : s.matches q = true) :
    sameFlow p q = true :=
  (pairEq_congr hp q.src q.dst).trans ((pairEq_symm ..).trans hq)

theorem sameFlow_refl (p : Pkt) : sameFlow p p = true := pairEq_refl _ _

theorem sameFlow_symm (p q : Pkt) : sameFlow p q = sameFlow q p := pairEq_symm ..

theorem sameFlow_trans {p q r : Pkt} (h1 : sameFlow p q = true) (h2 : sameFlow q r = true) : sameFlow p r = true :=
  (pairEq_congr h1 _ _).trans h2

theorem roles_matches (ports : List Int) (p q : Pkt) (st : α) :
    (⟨(rolesOf ports p).1, (rolesOf ports p).2, st⟩ : Sess α).matches q = sameFlow p q := by
  unfold rolesOf
  by_cases h : ports.contains (p.src.port : Int) = true
  · rw [if_pos h]; exact pairEq_symm ..
  · rw [if_neg h]; exact (Bool.or_comm _ _).trans (pairEq_symm ..)

theorem tlsNew_matches (M : TlsMachine κ σ ο) (o : Opts) (p q : Pkt) : (tlsNew M o p).matches q = sameFlow p q :=
  roles_matches o.ports p q _

end Flows

end TLX.Lemmas.MainLoop

namespace TLX.Props.C04
open TLX TLX.MainLoop TLX.Spec.Demux TLX.Lemmas.MainLoop

/-- A flow qualifies by its ports only: every packet of a flow is a candidate for session creation, or none is. -/
theorem flow_qualifies_as_a_whole (o : Opts) {p q : Pkt} (h : sameFlow p q = true) : candidate o p = candidate o q := by
  unfold candidate
  rcases pairEq_iff.mp h with ⟨h1, h2⟩ | ⟨h1, h2⟩
  · rw [h1, h2]
  · rw [h1, h2]; exact Bool.or_comm _ _

end TLX.Props.C04

namespace TLX.Lemmas.MainLoop
open TLX TLX.MainLoop TLX.Spec.Demux


section TlsByFlow
variable {κ σ ο : Type}

def feedS (M : TlsMachine κ σ ο) (s : TlsSess σ) (p : Pkt) : TlsSess σ := { s with st := M.feed s.st p }

@[simp] theorem feedS_matches (M : TlsMachine κ σ ο) (s : TlsSess σ) (p q : Pkt) : (feedS M s p).matches q = s.matches q := rfl

variable (M : TlsMachine κ σ ο) (o : Opts)

theorem feedAll_eq (s : TlsSess σ) (ps : List Pkt) :
    feedAll M s ps = { s with st := ps.foldl M.feed s.st } := by
  induction ps generalizing s with
  | nil => rfl
  | cons p ps ih => exact ih _

theorem feedAll_matches (s : TlsSess σ) (ps : List Pkt) (q : Pkt) :
    (feedAll M s ps).matches q = s.matches q := by
  rw [feedAll_eq]; rfl

/-- the head session receives exactly the packets it matches; the others see the capture without them -/
theorem tlsRun_cons (s : TlsSess σ) (ss : List (TlsSess σ)) (pkts : List Pkt) :
    tlsRun M o (s :: ss) pkts =
      feedAll M s (pkts.filter s.matches) :: tlsRun M o ss (pkts.filter fun q => !s.matches q) := by
  induction pkts generalizing s ss with
  | nil => rfl
  | cons p ps ih =>
    simp only [tlsRun, List.foldl_cons, tlsHandle, List.filter_cons]
    by_cases h : s.matches p = true
    · simp only [h, if_true, Bool.not_true, Bool.false_eq_true, if_false]
      have := ih { s with st := M.feed s.st p } ss
      simp only [tlsRun] at this
      rw [this]
      simp only [feedAll, List.foldl_cons]
      rfl
    · have h' : s.matches p = false := by simpa using h
      simp only [h', Bool.false_eq_true, if_false, Bool.not_false, if_true, List.foldl_cons]
      have := ih s (tlsHandle M o ss p)
      simp only [tlsRun] at this
      rw [this]


end TlsByFlow

end TLX.Lemmas.MainLoop

namespace TLX.Props.C04
open TLX TLX.MainLoop TLX.Spec.Demux TLX.Lemmas.MainLoop
variable {κ σ ο : Type}

/-- For EVERY packet list (= every interleaving of any number of connections and other traffic) the session list after the
    run is: one session per flow that has a server port at one end, in order of first appearance, each created from the
    first packet of its flow and fed exactly the later packets of that flow, in capture order. -/
theorem tls_demux_exact (M : TlsMachine κ σ ο) (o : Opts) (pkts : List Pkt) :
    tlsRun M o [] pkts = groupByFlow M o pkts := by
  induction pkts using groupByFlow.induct o with
  | case1 => rw [groupByFlow]; rfl
  | case2 p ps hc ih =>
    have h1 : tlsHandle M o [] p = [tlsNew M o p] := if_pos hc
    rw [groupByFlow, if_pos hc, ← ih]
    show tlsRun M o (tlsHandle M o [] p) ps = _
    rw [h1, tlsRun_cons, funext (tlsNew_matches M o p)]
    rfl
  | case3 p ps hc ih =>
    have h1 : tlsHandle M o [] p = [] := if_neg hc
    rw [groupByFlow, if_neg hc, ← ih]
    show tlsRun M o (tlsHandle M o [] p) ps = _
    rw [h1]

end TLX.Props.C04

namespace TLX.Lemmas.MainLoop
open TLX TLX.MainLoop TLX.Spec.Demux

section TlsFlowLookup
variable {κ σ ο : Type}
variable (M : TlsMachine κ σ ο) (o : Opts)

theorem filter_sameFlow_congr {p q : Pkt} (h : sameFlow p q = true) (l : List Pkt) :
    l.filter (sameFlow p) = l.filter (sameFlow q) := by
  apply List.filter_congr
  intro x _
  rw [Bool.eq_iff_iff]
  constructor
  · intro hx; exact sameFlow_trans (by rw [sameFlow_symm]; exact h) hx
  · intro hx; exact sameFlow_trans h hx

theorem others_filter_sameFlow {p q : Pkt} (h : sameFlow p q = false) (l : List Pkt) :
    (others p l).filter (sameFlow q) = l.filter (sameFlow q) := by
  unfold others
  rw [List.filter_filter]
  refine List.filter_congr fun x _ => ?_
  cases hx : sameFlow q x with
  | false => rfl
  | true =>
    cases hpx : sameFlow p x with
    | false => rfl
    | true => rw [sameFlow_trans hpx (by rw [sameFlow_symm]; exact hx)] at h; cases h

theorem alone_none_of_not_candidate {p q : Pkt} (hc : candidate o p = false)
    (h : sameFlow q p = true) (l : List Pkt) : alone M o (l.filter (sameFlow q)) = none := by
  cases hl : l.filter (sameFlow q) with
  | nil => rfl
  | cons x xs =>
    have hx : sameFlow q x = true := by
      have : x ∈ l.filter (sameFlow q) := by rw [hl]; exact List.mem_cons_self
      exact (List.mem_filter.mp this).2
    have : candidate o x = false := by
      rw [← Props.C04.flow_qualifies_as_a_whole o (sameFlow_trans (by rw [sameFlow_symm]; exact h) hx)]; exact hc
    simp [alone, this]

theorem groupByFlow_find (q : Pkt) (pkts : List Pkt) :
    (groupByFlow M o pkts).find? (·.matches q) = alone M o (pkts.filter (sameFlow q)) := by
  induction pkts using groupByFlow.induct o with
  | case1 => rw [groupByFlow]; rfl
  | case2 p ps hc ih =>
    rw [groupByFlow, if_pos hc, List.find?_cons, feedAll_matches, tlsNew_matches, List.filter_cons, sameFlow_symm q p]
    cases hpq : sameFlow p q with
    | true =>
      rw [if_pos rfl, alone, if_pos hc, filter_sameFlow_congr hpq]
    | false =>
      rw [if_neg Bool.false_ne_true, ih, others_filter_sameFlow hpq]
  | case3 p ps hc ih =>
    have hc' : candidate o p = false := Bool.not_eq_true _ ▸ hc
    rw [groupByFlow, if_neg hc, ih, List.filter_cons]
    cases hqp : sameFlow q p with
    | true => rw [if_pos rfl, alone, if_neg hc]; exact alone_none_of_not_candidate M o hc' hqp ps
    | false => rw [if_neg Bool.false_ne_true]
end TlsFlowLookup

section TlsRouter
variable {κ σ ο : Type}
variable (M : TlsMachine κ σ ο) (o : Opts)

def tlsRouter : Router (TlsSess σ) Pkt where
  takes := Sess.matches
  feed := feedS M
  create := fun p => if candidate o p then some (tlsNew M o p) else none

theorem tlsHandle_eq_router (ss : List (TlsSess σ)) (p : Pkt) :
    tlsHandle M o ss p = (tlsRouter M o).handle ss p := by
  induction ss with
  | nil => simp only [tlsHandle, Router.handle, tlsRouter]; split <;> rfl
  | cons s rest ih => simp only [tlsHandle, Router.handle, ih]; rfl

theorem tlsRun_eq_router (ss : List (TlsSess σ)) (pkts : List Pkt) :
    tlsRun M o ss pkts = (tlsRouter M o).run ss pkts := by
  have : tlsHandle M o = (tlsRouter M o).handle := by funext ss p; exact tlsHandle_eq_router M o ss p
  simp only [tlsRun, Router.run, this]

theorem tlsRun_inv (Q : TlsSess σ → Prop) (all : List Pkt)
    (hfeed : ∀ p ∈ all, ∀ s, Q s → s.matches p = true → Q { s with st := M.feed s.st p })
    (hnew : ∀ p ∈ all, candidate o p = true → Q (tlsNew M o p)) :
    ∀ (pkts : List Pkt), (∀ p ∈ pkts, p ∈ all) → ∀ ss : List (TlsSess σ), (∀ s ∈ ss, Q s) →
      ∀ s ∈ tlsRun M o ss pkts, Q s := by
  intro pkts hsub ss h
  rw [tlsRun_eq_router]
  refine Router.run_inv (tlsRouter M o) Q all (fun p hp s hk hs => hfeed p hp s hs hk) (fun p hp t ht => ?_) pkts hsub ss h
  simp only [tlsRouter] at ht
  by_cases hc : candidate o p = true
  · rw [if_pos hc] at ht; cases ht; exact hnew p hp hc
  · rw [if_neg hc] at ht; cases ht

theorem tlsRun_session_flow (A : List Pkt) (n : Nat) :
    ∀ s ∈ tlsRun M o [] (A.take n), ∃ a ∈ A, s.matches a = true :=
  tlsRun_inv M o (fun s => ∃ a ∈ A, s.matches a = true) (A.take n) (fun _ _ _ hs _ => hs)
    (fun p hp _ => ⟨p, List.mem_of_mem_take hp, (tlsNew_matches M o p p).trans (sameFlow_refl p)⟩) _ (fun _ h => h) []
    (fun _ h => nomatch h)

theorem tls_iso_of_disjoint (A B : List Pkt)
    (h : ∀ a ∈ A, ∀ b ∈ B, sameFlow a b = false) : (tlsRouter M o).Iso [] A B := by
  intro n s hs x hx
  rw [← tlsRun_eq_router] at hs
  obtain ⟨a, ha, hm⟩ := tlsRun_session_flow M o A n s hs
  cases hsx : (tlsRouter M o).takes s x with
  | false => rfl
  | true =>
    have := sameFlow_of_matches s hm hsx
    rw [h a ha x hx] at this; cases this
end TlsRouter

section QuicRouter
variable {κ τ ο : Type}
variable (M : QuicMachine κ τ ο) (o : Opts)

def quicRouter : Router (QuicSess τ) (QIn κ) where
  takes := fun s x => x.h != .tooShort && (quicTake M x.h x.p s).isSome
  feed := fun s x => match quicTake M x.h x.p s with
    | some c => { s with st := M.feed s.st x.kl x.p c x.h.ver }
    | none => s
  create := fun x => if x.h = .tooShort ∨ x.h = .short then none else some (quicNew M o x.kl x.h x.p)

theorem quicHandleH_eq_router (ss : List (QuicSess τ)) (x : QIn κ) :
    quicHandleH M o x.kl x.h ss x.p = (quicRouter M o).handle ss x := by
  unfold quicHandleH
  by_cases ht : x.h = .tooShort
  · rw [if_pos ht]
    induction ss with
    | nil =>
      rw [Router.handle]
      dsimp only [quicRouter]
      rw [if_pos (.inl ht)]
    | cons s rest ih =>
      have hno : (quicRouter M o).takes s x = false := by
        dsimp only [quicRouter]
        rw [ht]
        rfl
      rw [Router.handle, if_neg (by rw [hno]; exact Bool.false_ne_true), ← ih]
  · rw [if_neg ht]
    induction ss with
    | nil =>
      rw [quicLoop, Router.handle]
      dsimp only [quicRouter]
      by_cases hs : x.h = .short
      · rw [if_pos hs, if_pos (.inr hs)]
      · rw [if_neg hs, if_neg fun h => h.elim ht hs]
    | cons s rest ih =>
      have htk : (quicRouter M o).takes s x = (quicTake M x.h x.p s).isSome := by
        show (x.h != .tooShort && _) = _
        rw [bne_iff_ne.mpr ht, Bool.true_and]
      rw [quicLoop, Router.handle, ← ih, htk]
      dsimp only [quicRouter]
      cases quicTake M x.h x.p s <;> rfl

theorem quicRun_eq_router (ss : List (QuicSess τ)) (xs : List (QIn κ)) :
    quicRun M o ss xs = (quicRouter M o).run ss xs := by
  have : (fun ss (x : QIn κ) => quicHandleH M o x.kl x.h ss x.p) = (quicRouter M o).handle := by
    funext ss x; exact quicHandleH_eq_router M o ss x
  simp only [quicRun, Router.run, this]
end QuicRouter

section Inv
variable {κ σ τ ο : Type}

/-- an invariant of the QUIC session list: true of every new session, kept by every `handle_packet` call the loop makes -/
theorem quicRun_inv (M : QuicMachine κ τ ο) (o : Opts) (Q : QuicSess τ → Prop) (l : List (QIn κ))
    (hnew : ∀ x ∈ l, Q (quicNew M o x.kl x.h x.p))
    (hfeed : ∀ x ∈ l, ∀ s c, Q s → quicTake M x.h x.p s = some c → Q { s with st := M.feed s.st x.kl x.p c x.h.ver })
    (ss : List (QuicSess τ)) (hss : ∀ s ∈ ss, Q s) : ∀ s ∈ quicRun M o ss l, Q s := by
  rw [quicRun_eq_router]
  refine Router.run_inv (quicRouter M o) Q l (fun x hx s hk hs => ?_) (fun x hx t ht => ?_) l (fun _ h => h) ss hss
  · simp only [quicRouter, Bool.and_eq_true] at hk ⊢
    obtain ⟨c, hc⟩ := Option.isSome_iff_exists.mp hk.2
    rw [hc]
    exact hfeed x hx s c hs hc
  · simp only [quicRouter] at ht
    split at ht
    · cases ht
    · cases ht; exact hnew x hx

end Inv

section Order

/-! "smaller key, or equal keys and `R`": the shape of `lexLe` on two non-empty strings (keys: the first bytes) and of
`cidLe` (keys: the lengths, the longer first). Totality, antisymmetry and transitivity are proved for the shape. -/

theorem lex_total {k1 k2 : Nat} {R12 R21 : Prop} (h : R12 ∨ R21) :
    (k1 < k2 ∨ k1 = k2 ∧ R12) ∨ (k2 < k1 ∨ k2 = k1 ∧ R21) := by
  rcases Nat.lt_trichotomy k1 k2 with hlt | heq | hgt
  · exact .inl (.inl hlt)
  · exact h.imp (fun r => .inr ⟨heq, r⟩) (fun r => .inr ⟨heq.symm, r⟩)
  · exact .inr (.inl hgt)

theorem lex_antisymm {k1 k2 : Nat} {R12 R21 : Prop} (h1 : k1 < k2 ∨ k1 = k2 ∧ R12) (h2 : k2 < k1 ∨ k2 = k1 ∧ R21) :
    k1 = k2 ∧ R12 ∧ R21 := by
  rcases h1 with h1 | ⟨e, r1⟩
  · rcases h2 with h2 | ⟨e2, _⟩
    · exact absurd h2 (Nat.lt_asymm h1)
    · exact absurd (e2 ▸ h1) (Nat.lt_irrefl _)
  · rcases h2 with h2 | ⟨_, r2⟩
    · exact absurd (e ▸ h2) (Nat.lt_irrefl _)
    · exact ⟨e, r1, r2⟩

theorem lex_trans {k1 k2 k3 : Nat} {R12 R23 R13 : Prop} (h1 : k1 < k2 ∨ k1 = k2 ∧ R12) (h2 : k2 < k3 ∨ k2 = k3 ∧ R23)
    (h : R12 → R23 → R13) : k1 < k3 ∨ k1 = k3 ∧ R13 := by
  rcases h1 with h1 | ⟨e1, r1⟩ <;> rcases h2 with h2 | ⟨e2, r2⟩
  · exact .inl (Nat.lt_trans h1 h2)
  · exact .inl (e2 ▸ h1)
  · exact .inl (e1 ▸ h2)
  · exact .inr ⟨e1.trans e2, h r1 r2⟩

theorem lexLe_cons_iff (a b : UInt8) (as bs : Bytes) :
    lexLe (a :: as) (b :: bs) = true ↔ a.toNat < b.toNat ∨ a.toNat = b.toNat ∧ lexLe as bs = true := by
  simp only [lexLe, Bool.or_eq_true, Bool.and_eq_true, decide_eq_true_eq, beq_iff_eq]

theorem cidLe_iff (a b : Bytes) : cidLe a b = true ↔ b.length < a.length ∨ b.length = a.length ∧ lexLe a b = true := by
  simp only [cidLe, Bool.or_eq_true, Bool.and_eq_true, decide_eq_true_eq, beq_iff_eq]
  rw [@eq_comm _ a.length]

theorem lexLe_total (a b : Bytes) : (lexLe a b || lexLe b a) = true := by
  induction a generalizing b with
  | nil => rfl
  | cons x xs ih =>
    cases b with
    | nil => rfl
    | cons y ys =>
      rw [Bool.or_eq_true_iff, lexLe_cons_iff, lexLe_cons_iff]
      exact lex_total (Bool.or_eq_true_iff.mp (ih ys))

theorem lexLe_antisymm {a b : Bytes} (h1 : lexLe a b = true) (h2 : lexLe b a = true) : a = b := by
  induction a generalizing b with
  | nil => cases b with
    | nil => rfl
    | cons y ys => cases h2
  | cons x xs ih =>
    cases b with
    | nil => cases h1
    | cons y ys =>
      rw [lexLe_cons_iff] at h1 h2
      obtain ⟨e, r1, r2⟩ := lex_antisymm h1 h2
      rw [ih r1 r2, UInt8.toNat_inj.mp e]

theorem lexLe_trans {a b c : Bytes} (h1 : lexLe a b = true) (h2 : lexLe b c = true) : lexLe a c = true := by
  induction a generalizing b c with
  | nil => rfl
  | cons x xs ih =>
    cases b with
    | nil => cases h1
    | cons y ys =>
      cases c with
      | nil => cases h2
      | cons z zs =>
        rw [lexLe_cons_iff] at *
        exact lex_trans h1 h2 fun r1 r2 => ih r1 r2

theorem cidLe_total (a b : Bytes) : (cidLe a b || cidLe b a) = true := by
  rw [Bool.or_eq_true_iff, cidLe_iff, cidLe_iff]
  exact lex_total (Bool.or_eq_true_iff.mp (lexLe_total a b))

theorem cidLe_antisymm {a b : Bytes} (h1 : cidLe a b = true) (h2 : cidLe b a = true) : a = b := by
  rw [cidLe_iff] at h1 h2
  obtain ⟨_, r1, r2⟩ := lex_antisymm h1 h2
  exact lexLe_antisymm r1 r2

theorem cidLe_trans {a b c : Bytes} (h1 : cidLe a b = true) (h2 : cidLe b c = true) : cidLe a c = true := by
  rw [cidLe_iff] at *
  exact lex_trans h2 h1 fun r2 r1 => lexLe_trans r1 r2

theorem insertCid_perm (c : Bytes) (l : List Bytes) : (insertCid c l).Perm (c :: l) := by
  induction l with
  | nil => exact .refl _
  | cons d ds ih =>
    simp only [insertCid]
    split
    · exact .refl _
    · exact (List.Perm.cons d ih).trans (List.Perm.swap c d ds)

theorem sortCids_perm_self (l : List Bytes) : (sortCids l).Perm l := by
  induction l with
  | nil => exact .refl _
  | cons c cs ih =>
    simp only [sortCids, List.foldr_cons] at *
    exact (insertCid_perm c _).trans (List.Perm.cons c ih)

theorem insertCid_sorted (c : Bytes) {l : List Bytes} (h : l.Pairwise fun a b => cidLe a b = true) :
    (insertCid c l).Pairwise fun a b => cidLe a b = true := by
  induction l with
  | nil => simp [insertCid]
  | cons d ds ih =>
    simp only [insertCid]
    have hd := List.pairwise_cons.mp h
    split
    · rename_i hcd
      refine List.pairwise_cons.mpr ⟨?_, h⟩
      intro x hx
      rcases List.mem_cons.mp hx with rfl | hx
      · exact hcd
      · exact cidLe_trans hcd (hd.1 x hx)
    · rename_i hcd
      refine List.pairwise_cons.mpr ⟨?_, ih hd.2⟩
      intro x hx
      rcases List.mem_cons.mp ((insertCid_perm c ds).mem_iff.mp hx) with rfl | hx
      · have := cidLe_total x d
        simp only [Bool.or_eq_true] at this
        rcases this with h' | h'
        · exact absurd h' hcd
        · exact h'
      · exact hd.1 x hx

theorem sortCids_sorted (l : List Bytes) : (sortCids l).Pairwise fun a b => cidLe a b = true := by
  induction l with
  | nil => simp [sortCids]
  | cons c cs ih => simp only [sortCids, List.foldr_cons] at *; exact insertCid_sorted c ih

theorem sortCids_perm {l l' : List Bytes} (h : l.Perm l') : sortCids l = sortCids l' := by
  apply List.Perm.eq_of_pairwise (le := fun a b => cidLe a b = true)
  · intro a b _ _ h1 h2; exact cidLe_antisymm h1 h2
  · exact sortCids_sorted l
  · exact sortCids_sorted l'
  · exact (sortCids_perm_self l).trans (h.trans (sortCids_perm_self l').symm)

theorem mem_sortCids {l : List Bytes} {c : Bytes} : c ∈ sortCids l ↔ c ∈ l :=
  (sortCids_perm_self l).mem_iff

theorem cidPrefixOf_iff (payload c : Bytes) : cidPrefixOf payload c = true ↔ c ≠ [] ∧ c <+: payload.drop 1 := by
  simp only [cidPrefixOf, Bytes.slice, Bool.and_eq_true, decide_eq_true_eq, beq_iff_eq, List.prefix_iff_eq_take]
  have : 1 + c.length - 1 = c.length := by omega
  rw [this, List.length_pos_iff]

theorem shortPick_eq_none_iff (cids : List Bytes) (payload : Bytes) :
    shortPick cids payload = none ↔ ∀ c ∈ cids, c ≠ [] → ¬ c <+: payload.drop 1 := by
  simp only [shortPick, List.find?_eq_none, mem_sortCids, cidPrefixOf_iff]
  constructor
  · intro h c hc hne hp; exact h c hc ⟨hne, hp⟩
  · intro h c hc ⟨hne, hp⟩; exact h c hc hne hp

theorem shortPick_some {cids : List Bytes} {payload c : Bytes} (h : shortPick cids payload = some c) :
    c ∈ cids ∧ c ≠ [] ∧ c <+: payload.drop 1 := by
  have h1 := List.find?_some h
  have h2 := List.mem_of_find?_eq_some h
  rw [cidPrefixOf_iff] at h1
  exact ⟨mem_sortCids.mp h2, h1⟩

theorem shortPick_longest {cids : List Bytes} {payload c : Bytes} (h : shortPick cids payload = some c) :
    ∀ d ∈ cids, d ≠ [] → d <+: payload.drop 1 → d.length ≤ c.length := by
  intro d hd hne hp
  obtain ⟨as, bs, hsplit, hbefore⟩ := (List.find?_eq_some_iff_append.mp h).2
  have hsorted := sortCids_sorted cids
  rw [hsplit] at hsorted
  have hdm : d ∈ as ++ c :: bs := by rw [← hsplit]; exact mem_sortCids.mpr hd
  rcases List.mem_append.mp hdm with hda | hdc
  · have := hbefore d hda
    rw [Bool.not_eq_true', ← Bool.not_eq_true, cidPrefixOf_iff] at this
    exact absurd ⟨hne, hp⟩ this
  · rcases List.mem_cons.mp hdc with rfl | hdb
    · exact Nat.le_refl _
    · have := (List.pairwise_cons.mp (List.pairwise_append.mp hsorted).2.1).1 d hdb
      rw [cidLe_iff] at this
      omega

end Order

section QuicApart
variable {κ τ ο : Type}
variable (M : QuicMachine κ τ ο)

theorem side_of_not_matches {α : Type} {s : Sess α} {p : Pkt} (h : s.matches p = false) : s.side p = .offTuple := by
  simp [Sess.side, h]

theorem quicTake_eq_none_iff_cidMatch (h : Hdr) (p : Pkt) (s : QuicSess τ) :
    quicTake M h p s = none ↔
      cidMatch (M.clientCids s.st) (M.serverCids s.st) (s.side p) h p.payload = none ∧ s.matches p = false := by
  unfold quicTake
  cases cidMatch (M.clientCids s.st) (M.serverCids s.st) (s.side p) h p.payload with
  | some c => exact ⟨fun h => (nomatch h), fun h => (nomatch h.1)⟩
  | none =>
    dsimp only
    cases s.matches p with
    | true => exact ⟨fun h => (nomatch h), fun h => (nomatch h.2)⟩
    | false => exact ⟨fun _ => ⟨rfl, rfl⟩, fun _ => rfl⟩

end QuicApart

end TLX.Lemmas.MainLoop

namespace TLX.Props.C04
open TLX TLX.MainLoop TLX.Spec.Demux TLX.Lemmas.MainLoop
variable {κ τ ο : Type}

/-- The routing hypothesis, spelled out: a session leaves a datagram alone iff the datagram is `Apart` from it — other
    4-tuple; long header: empty DCID or a DCID the session does not know; short header: no non-empty CID of the session is a
    prefix of bytes 1.. of the datagram. (The receiver-side restriction of the candidates applies only ON the session's
    4-tuple, where the session takes the datagram anyway through the fallback; so for "leaves alone" all CIDs count, as
    under `Legacy.quicTake`.) -/
theorem quic_foreign_iff (M : QuicMachine κ τ ο) (s : QuicSess τ) (x : QIn κ) (hx : x.h ≠ .tooShort) :
    quicTake M x.h x.p s = none ↔ Apart M s x := by
  rw [quicTake_eq_none_iff_cidMatch]
  constructor
  · rintro ⟨hc, hm⟩
    refine ⟨hm, fun d v e hne => ?_, fun e c hc' hne => ?_⟩
    · rw [e] at hc
      have hn : ¬ (0 < d.length ∧ (d ∈ M.clientCids s.st ∨ d ∈ M.serverCids s.st)) := fun h => by
        rw [cidMatch, if_pos h] at hc; cases hc
      have hpos := List.length_pos_iff.mpr hne
      exact ⟨fun h => hn ⟨hpos, .inl h⟩, fun h => hn ⟨hpos, .inr h⟩⟩
    · rw [e, side_of_not_matches hm] at hc
      exact (shortPick_eq_none_iff _ _).mp hc c (List.mem_append.mpr hc') hne
  · rintro ⟨ht, hl, hs⟩
    refine ⟨?_, ht⟩
    cases hh : x.h with
    | tooShort => exact absurd hh hx
    | long d v =>
      exact if_neg fun ⟨h1, h2⟩ => h2.elim (hl d v hh (List.length_pos_iff.mp h1)).1 (hl d v hh (List.length_pos_iff.mp h1)).2
    | short =>
      rw [side_of_not_matches ht]
      exact (shortPick_eq_none_iff _ _).mpr fun c hc hne => hs hh c (List.mem_append.mp hc) hne

end TLX.Props.C04

namespace TLX.Lemmas.MainLoop
open TLX TLX.MainLoop TLX.Spec.Demux

section QuicIso
variable {κ τ ο : Type}
variable (M : QuicMachine κ τ ο) (o : Opts)

theorem quic_iso_of_separated {A B : List (QIn κ)} (h : QuicSeparated M o A B) :
    (quicRouter M o).Iso [] A B := by
  intro n s hs x hx
  rw [← quicRun_eq_router] at hs
  by_cases ht : x.h = .tooShort
  · simp [quicRouter, ht]
  · have := (Props.C04.quic_foreign_iff M s x ht).mpr (h n s hs x hx ht)
    simp [quicRouter, this]
end QuicIso

/-- every prefix of a list is one of its `length + 1` prefixes: what makes a condition on "every moment of a run" finite -/
theorem take_bounded {α : Type} (A : List α) (n : Nat) : ∃ m ∈ List.range (A.length + 1), A.take n = A.take m := by
  by_cases hn : n ≤ A.length
  · exact ⟨n, List.mem_range.mpr (Nat.lt_succ_of_le hn), rfl⟩
  · exact ⟨A.length, List.mem_range.mpr (Nat.lt_succ_self _),
      by rw [List.take_length, List.take_of_length_le (Nat.le_of_not_le hn)]⟩

section Whole
variable {κ : Type}

theorem classify_tcp (o : Opts) (p : Pkt) (h : p.l4 = .tcp) :
    classify (κ := κ) o (.frame p) =
      if p.payload.length = 0 then .ignore .emptyTcp
      else if o.checksumTest && !p.csumOk then .ignore .badCsumTcp else .tls p := by
  unfold classify; dsimp only; rw [h]

theorem classify_udp (o : Opts) (p : Pkt) (h : p.l4 = .udp) :
    classify (κ := κ) o (.frame p) =
      match p.payload with
      | [] => .ignore .emptyUdp
      | b0 :: rest =>
        if o.checksumTest && !p.csumOk then .ignore .badCsumUdp
        else if ((b0.toNat &&& 0x40) >>> 6 = 1) || o.greasy then .quic p b0 rest
        else .ignore .noFixedBit := by
  unfold classify; dsimp only; rw [h]; rfl

theorem classify_other (o : Opts) (p : Pkt) (h : p.l4 = .other) :
    classify (κ := κ) o (.frame p) = .ignore .notTcpUdp := by
  unfold classify; dsimp only; rw [h]

theorem csumBad_iff (o : Opts) (p : Pkt) :
    (o.checksumTest && !p.csumOk) = true ↔ o.checksumTest = true ∧ p.csumOk = false := by
  cases o.checksumTest <;> cases p.csumOk <;> decide

theorem classify_tcp_cases (o : Opts) (p : Pkt) (h : p.l4 = .tcp) :
    (∃ w, classify (κ := κ) o (.frame p) = .ignore w ∧
      (p.payload = [] ∨ (o.checksumTest = true ∧ p.csumOk = false))) ∨
    (classify (κ := κ) o (.frame p) = .tls p ∧ p.payload ≠ [] ∧ ¬ (o.checksumTest = true ∧ p.csumOk = false)) := by
  unfold classify; dsimp only; rw [h]; dsimp only
  by_cases h1 : p.payload.length = 0
  · rw [if_pos h1]; exact .inl ⟨_, rfl, .inl (List.eq_nil_of_length_eq_zero h1)⟩
  rw [if_neg h1]
  by_cases h2 : (o.checksumTest && !p.csumOk) = true
  · rw [if_pos h2]; exact .inl ⟨_, rfl, .inr ((csumBad_iff o p).mp h2)⟩
  · rw [if_neg h2]; exact .inr ⟨rfl, fun e => h1 (by rw [e]; rfl), fun hb => h2 ((csumBad_iff o p).mpr hb)⟩

theorem classify_udp_cases (o : Opts) (p : Pkt) (h : p.l4 = .udp) :
    (∃ w, classify (κ := κ) o (.frame p) = .ignore w ∧
      (p.payload = [] ∨ (o.checksumTest = true ∧ p.csumOk = false) ∨
        (o.greasy = false ∧ ∃ b0 r, p.payload = b0 :: r ∧ (b0.toNat &&& 0x40) >>> 6 ≠ 1))) ∨
    ∃ b0 r, classify (κ := κ) o (.frame p) = .quic p b0 r ∧ p.payload = b0 :: r ∧
      ¬ (o.checksumTest = true ∧ p.csumOk = false) ∧ (((b0.toNat &&& 0x40) >>> 6 = 1) ∨ o.greasy = true) := by
  unfold classify; dsimp only; rw [h]; dsimp only
  cases p.payload with
  | nil => exact .inl ⟨_, rfl, .inl rfl⟩
  | cons b0 r =>
    dsimp only
    by_cases h2 : (o.checksumTest && !p.csumOk) = true
    · rw [if_pos h2]; exact .inl ⟨_, rfl, .inr (.inl ((csumBad_iff o p).mp h2))⟩
    rw [if_neg h2]
    by_cases h3 : (decide ((b0.toNat &&& 0x40) >>> 6 = 1) || o.greasy) = true
    · rw [if_pos h3]
      rw [Bool.or_eq_true, decide_eq_true_eq] at h3
      exact .inr ⟨b0, r, rfl, rfl, fun hb => h2 ((csumBad_iff o p).mpr hb), h3⟩
    · rw [if_neg h3]
      rw [Bool.or_eq_true, not_or, decide_eq_true_eq, Bool.not_eq_true] at h3
      exact .inl ⟨_, rfl, .inr (.inr ⟨h3.2, b0, r, rfl, h3.1⟩)⟩

theorem classify_frame_cases (o : Opts) (p : Pkt) :
    (∃ w, classify o (.frame p : Item κ) = .ignore w) ∨ (classify o (.frame p : Item κ) = .tls p ∧ p.l4 = .tcp) ∨
      ∃ b0 r, classify o (.frame p : Item κ) = .quic p b0 r ∧ p.l4 = .udp ∧ p.payload = b0 :: r ∧
        (((b0.toNat &&& 0x40) >>> 6 = 1) ∨ o.greasy = true) := by
  cases hl : p.l4 with
  | other => rw [classify_other o p hl]; exact .inl ⟨_, rfl⟩
  | tcp => exact (classify_tcp_cases o p hl).elim (fun ⟨w, e, _⟩ => .inl ⟨w, e⟩) fun ⟨e, _⟩ => .inr (.inl ⟨e, rfl⟩)
  | udp =>
    exact (classify_udp_cases o p hl).elim (fun ⟨w, e, _⟩ => .inl ⟨w, e⟩)
      fun ⟨b0, r, e, hp, _, hb⟩ => .inr (.inr ⟨b0, r, e, rfl, hp, hb⟩)

theorem classify_frame_not_keys (o : Opts) (p : Pkt) (ks : List κ) : classify o (.frame p : Item κ) ≠ .keys ks := by
  rcases classify_frame_cases (κ := κ) o p with ⟨w, h⟩ | ⟨h, _⟩ | ⟨b0, r, h, _⟩ <;> rw [h] <;> exact fun h' => nomatch h'

theorem classify_tls_inv (o : Opts) (it : Item κ) (q : Pkt) (h : classify o it = .tls q) : it = .frame q ∧ q.l4 = .tcp := by
  cases it with
  | dsb ks => cases h
  | frame p =>
    rcases classify_frame_cases (κ := κ) o p with ⟨w, hw⟩ | ⟨ht, hl⟩ | ⟨b0, r, hq, _⟩
    · rw [hw] at h; cases h
    · rw [ht] at h; cases h; exact ⟨rfl, hl⟩
    · rw [hq] at h; cases h

theorem classify_quic_inv (o : Opts) (it : Item κ) (p : Pkt) (b0 : UInt8) (r : Bytes) (h : classify o it = .quic p b0 r) :
    it = .frame p ∧ p.l4 = .udp ∧ p.payload = b0 :: r ∧ (((b0.toNat &&& 0x40) >>> 6 = 1) ∨ o.greasy = true) := by
  cases it with
  | dsb ks => cases h
  | frame q =>
    rcases classify_frame_cases (κ := κ) o q with ⟨w, hw⟩ | ⟨ht, _⟩ | ⟨c, cs, hq, hl, hp, hfix⟩
    · rw [hw] at h; cases h
    · rw [ht] at h; cases h
    · rw [hq] at h; cases h; exact ⟨rfl, hl, hp, hfix⟩

theorem tcpView_mem (o : Opts) (xs : List (Item κ)) (p : Pkt) (h : p ∈ tcpView o xs) : Item.frame p ∈ xs ∧ p.l4 = .tcp := by
  obtain ⟨it, hit, hc⟩ := List.mem_filterMap.mp h
  cases hcl : classify o it with
  | tls q =>
    rw [hcl] at hc
    cases hc
    obtain ⟨e, hl⟩ := classify_tls_inv o it p hcl
    exact ⟨e ▸ hit, hl⟩
  | keys ks => rw [hcl] at hc; cases hc
  | quic a b c => rw [hcl] at hc; cases hc
  | ignore w => rw [hcl] at hc; cases hc

theorem quicView_mem (o : Opts) (kl : List κ) (xs : List (Item κ)) (x : QIn κ) (h : x ∈ quicView o kl xs) :
    Item.frame x.p ∈ xs ∧ x.p.l4 = .udp ∧ ∃ b0 r, x.p.payload = b0 :: r ∧ x.h = parseHeader1 b0 r ∧
      (((b0.toNat &&& 0x40) >>> 6 = 1) ∨ o.greasy = true) := by
  induction xs generalizing kl with
  | nil => cases h
  | cons it rest ih =>
    simp only [quicView] at h
    split at h
    · obtain ⟨a, b⟩ := ih _ h
      exact ⟨List.mem_cons_of_mem _ a, b⟩
    · rename_i p b0 r hc
      rcases List.mem_cons.mp h with rfl | h'
      · obtain ⟨c1, c2, c3, c4⟩ := classify_quic_inv o it p b0 r hc
        exact ⟨by rw [c1]; exact List.mem_cons_self .., c2, b0, r, c3, rfl, c4⟩
      · obtain ⟨a, b⟩ := ih _ h'
        exact ⟨List.mem_cons_of_mem _ a, b⟩
    · obtain ⟨a, b⟩ := ih _ h
      exact ⟨List.mem_cons_of_mem _ a, b⟩

/-! the three views of a capture made of two parts: the second part's datagrams meet the key log the first part leaves -/

theorem tcpView_append (o : Opts) (a b : List (Item κ)) : tcpView o (a ++ b) = tcpView o a ++ tcpView o b :=
  List.filterMap_append

theorem quicView_append_dsbKeys (o : Opts) (kl : List κ) (a b : List (Item κ)) :
    quicView o kl (a ++ b) = quicView o kl a ++ quicView o (kl ++ dsbKeys o a) b := by
  induction a generalizing kl with
  | nil => exact congrArg (quicView o · b) (List.append_nil kl).symm
  | cons it a ih =>
    have hk : dsbKeys o (it :: a) = (match classify o it with | .keys ks => ks | _ => []) ++ dsbKeys o a := rfl
    rw [List.cons_append, quicView, quicView, hk]
    cases classify o it with
    | keys ks => exact (ih _).trans (by rw [List.append_assoc])
    | quic p b0 r => exact congrArg _ (ih kl)
    | tls p => exact ih kl
    | ignore w => exact ih kl

end Whole

end TLX.Lemmas.MainLoop

namespace TLX.Lemmas.ExportProps
open TLX TLX.MainLoop TLX.Spec.Demux
variable {κ : Type}

theorem dsbKeys_append (o : Opts) (a b : List (Item κ)) : dsbKeys o (a ++ b) = dsbKeys o a ++ dsbKeys o b := by
  simp [dsbKeys, List.flatMap_append]

end TLX.Lemmas.ExportProps

namespace TLX.Props.C04
open TLX TLX.MainLoop TLX.Spec.Demux TLX.Lemmas.MainLoop
variable {κ σ τ ο : Type}

/-- The three parts of the state after the loop are functions of three separate views of the capture: the TLS sessions of
    its TCP segments that pass the gate, the key log of its DSBs, the QUIC sessions of its QUIC datagrams (each with the key
    log at that moment). In particular UDP never reaches a TLS session and TCP never reaches a QUIC session. -/
theorem tls_quic_independent (TM : TlsMachine κ σ ο) (QM : QuicMachine κ τ ο) (o : Opts) (items : List (Item κ))
    (st : State κ σ τ) :
    (runItems TM QM o st items).tls = tlsRun TM o st.tls (tcpView o items) ∧
    (runItems TM QM o st items).keylog = st.keylog ++ dsbKeys o items ∧
    (runItems TM QM o st items).quic = quicRun QM o st.quic (quicView o st.keylog items) := by
  induction items generalizing st with
  | nil => exact ⟨rfl, (List.append_nil _).symm, rfl⟩
  | cons it rest ih =>
    obtain ⟨h1, h2, h3⟩ := ih (step TM QM o st it)
    simp only [runItems, List.foldl_cons] at h1 h2 h3 ⊢
    rw [h1, h2, h3]
    simp only [step, tcpView, dsbKeys, quicView, List.filterMap_cons, List.flatMap_cons]
    cases classify o it with
    | keys ks => exact ⟨rfl, List.append_assoc .., rfl⟩
    | tls p => exact ⟨rfl, rfl, rfl⟩
    | quic p b0 r => exact ⟨rfl, rfl, rfl⟩
    | ignore w => exact ⟨rfl, rfl, rfl⟩

end TLX.Props.C04

namespace TLX.Lemmas.MainLoop
open TLX TLX.MainLoop TLX.Spec.Demux

section WholeInv
variable {κ σ τ ο : Type}

theorem runItems_inv (TM : TlsMachine κ σ ο) (QM : QuicMachine κ τ ο) (o : Opts) (IT : TlsSess σ → Prop)
    (IQ : QuicSess τ → Prop) (items : List (Item κ)) (st : State κ σ τ)
    (hTn : ∀ p ∈ tcpView o items, candidate o p = true → IT (tlsNew TM o p))
    (hTf : ∀ p ∈ tcpView o items, ∀ s, IT s → s.matches p = true → IT { s with st := TM.feed s.st p })
    (hQn : ∀ x ∈ quicView o st.keylog items, IQ (quicNew QM o x.kl x.h x.p))
    (hQf : ∀ x ∈ quicView o st.keylog items, ∀ s c, IQ s → quicTake QM x.h x.p s = some c →
      IQ { s with st := QM.feed s.st x.kl x.p c x.h.ver })
    (hT : ∀ s ∈ st.tls, IT s) (hQ : ∀ s ∈ st.quic, IQ s) :
    (∀ s ∈ (runItems TM QM o st items).tls, IT s) ∧ ∀ s ∈ (runItems TM QM o st items).quic, IQ s := by
  obtain ⟨h1, _, h3⟩ := Props.C04.tls_quic_independent TM QM o items st
  rw [h1, h3]
  exact ⟨tlsRun_inv TM o IT _ hTf hTn _ (fun _ h => h) _ hT, quicRun_inv QM o IQ _ hQn hQf _ hQ⟩
end WholeInv
end TLX.Lemmas.MainLoop
