/-
Helper lemmas for C02 (dissector): the model of quic_dissector.py (TLX/Quic/Dissect.lean) inverts the RFC 9000 §17 /
RFC 9001 §5.4 encoder of TLX/Spec/QuicPackets.lean. A datagram is read field by field with the cursor of
TLX/Lemmas/Cursor.lean: each lemma about a part of the dissector (`removeHP`, `protectedTail`, the long-header
prefix) takes "at this offset the data continues with …" and the whole-packet theorems (Props/C02Dissect.lean)
chain them.
-/
import TLX.Quic.Dissect
import TLX.Spec.QuicDissectStmt
import TLX.Lemmas.QuicVarint
import TLX.Lemmas.Bytes
import TLX.Lemmas.Cursor
namespace TLX.Lemmas.QuicDissect
open TLX TLX.Quic TLX.Quic.Dissect TLX.Quic.Varint TLX.Spec.QuicPackets TLX.Spec.QuicFrames
open TLX.Lemmas.QuicVarint TLX.Lemmas.Cursor

theorem _root_.TLX.Lemmas.Cursor.At.need {d r : Bytes} {i : Nat} (h : At d i r) : Dissect.need d i = .ok () := by
  unfold Dissect.need; rw [if_neg (Nat.not_lt.mpr h.1)]

theorem decodeVarint_single (x : UInt8) (h : x.toNat < 64) : decodeVarint [x] = some x.toNat := by
  have hl : varintLen x = 1 := by
    unfold varintLen
    rw [Nat.shiftRight_eq_div_pow, Nat.shiftLeft_eq, show x.toNat / 2 ^ 6 = 0 by omega]
  simp only [decodeVarint, hl, List.length_nil]
  rw [if_neg (by omega)]
  simp only [Nat.sub_self, List.take_zero, accBE, List.foldl_nil]
  congr 1
  rw [show (0x3f : Nat) = 2 ^ 6 - 1 by decide, Nat.and_two_pow_sub_one_eq_mod]; omega

theorem decodeVarint_single_big (x : UInt8) (h : 64 ≤ x.toNat) : decodeVarint [x] = none := by
  have hl : 2 ≤ varintLen x := by
    unfold varintLen
    rw [Nat.shiftRight_eq_div_pow, Nat.shiftLeft_eq, Nat.one_mul]
    have : 1 ≤ x.toNat / 2 ^ 6 := by omega
    calc 2 = 2 ^ 1 := rfl
      _ ≤ 2 ^ (x.toNat / 2 ^ 6) := Nat.pow_le_pow_right (by omega) this
  simp only [decodeVarint, List.length_nil]
  rw [if_pos (by omega)]

/-- a variable-length integer under the cursor, read the way the dissector does: width from the first byte, then
    the whole field -/
theorem varint_at (x : VW) (v : Nat) (hv : x.fits v) {d r : Bytes} {i : Nat} (h : At d i (x.enc v ++ r)) :
    need d (i + 1) = .ok () ∧ getVarintLength (Bytes.slice d i (i + 1)) = some x.w ∧
    need d (i + x.w) = .ok () ∧ Bytes.slice d i (i + x.w) = x.enc v ∧ decodeVarint (x.enc v) = some v ∧
    At d (i + x.w) r := by
  obtain ⟨b, body, he, hbl, -, -⟩ := VW.enc_cons x v hv
  have hdec := List.append_nil (x.enc v) ▸ decodeVarint_enc x v hv []
  obtain ⟨s1, c1⟩ := At.field [b] (he ▸ h : At d i ((b :: body) ++ r)) (i + 1) rfl
  obtain ⟨s2, c⟩ := h.field (x.enc v) (i + x.w) (by rw [VW.enc_length])
  exact ⟨c1.need, by rw [s1]; exact congrArg some hbl, c.need, s2, hdec, c⟩

theorem xor_cancel (a k : UInt8) : (a ^^^ k) ^^^ k = a := by
  rw [UInt8.xor_assoc, UInt8.xor_self, UInt8.xor_zero]

/-- header protection flips only bits the constant `c` has -/
theorem shiftRight_mask (k a m c : UInt8) (hc : c >>> k = 0) : (a ^^^ (m &&& c)) >>> k = a >>> k := by
  rw [UInt8.shiftRight_xor, UInt8.shiftRight_and, hc, UInt8.and_zero, UInt8.xor_zero]

theorem isLong_mask (a m c : UInt8) (hc : c >>> 7 = 0) : isLong (a ^^^ (m &&& c)) = isLong a := by
  unfold isLong
  rw [shiftRight_mask 7 a m c hc]

theorem packetType_shift (x : UInt8) : (x &&& 0x30) >>> 4 = (x >>> 4) &&& 3 := by
  rw [UInt8.shiftRight_and]; rfl

theorem packetType_mask (a m : UInt8) : packetType (a ^^^ (m &&& 0x0f)) = packetType a := by
  unfold packetType
  rw [packetType_shift, packetType_shift, UInt8.shiftRight_xor, UInt8.shiftRight_and]
  have : (0x0f : UInt8) >>> 4 = 0 := by decide
  rw [this, UInt8.and_zero, UInt8.xor_zero]

theorem byteXor_xorBytes (pn mk : Bytes) (h : pn.length ≤ mk.length) : byteXor (xorBytes pn mk) mk = pn := by
  induction pn generalizing mk with
  | nil => cases mk <;> simp [xorBytes, byteXor]
  | cons a as ih =>
    cases mk with
    | nil => simp at h
    | cons b bs =>
      simp only [xorBytes, byteXor, List.zipWith_cons_cons, xor_cancel]
      congr 1
      exact ih bs (by simpa using h)

theorem xorBytes_length (pn mk : Bytes) (h : pn.length ≤ mk.length) : (xorBytes pn mk).length = pn.length := by
  induction pn generalizing mk with
  | nil => cases mk <;> simp [xorBytes]
  | cons a as ih =>
    cases mk with
    | nil => simp at h
    | cons b bs => simp [xorBytes, ih bs (by simpa using h)]

/-- the protected packet number is as long as the packet number: the mask has its 1 + 4 bytes -/
theorem pnm_length (pn m : Bytes) (h4 : pn.length ≤ 4) (hm5 : 5 ≤ m.length) :
    (xorBytes pn ((m.drop 1).take pn.length)).length = pn.length :=
  xorBytes_length _ _ (by simp only [List.length_take, List.length_drop]; omega)

theorem and3_lt (x : UInt8) : (x &&& 3).toNat < 4 := by
  rw [UInt8.toNat_and]
  have : x.toNat &&& 3 ≤ 3 := Nat.and_le_right
  show x.toNat &&& 3 < 4
  omega

theorem removeHP_protect (mask : MaskFn) (long : Bool) (chacha : Bool) (key sample m : Bytes) (first : UInt8)
    (d pn post : Bytes) (pnOff : Nat)
    (hm : mask chacha key sample = some m) (hm5 : 5 ≤ m.length)
    (hpn : (first &&& 3).toNat + 1 = pn.length)
    (hd : At d pnOff (xorBytes pn ((m.drop 1).take pn.length) ++ post)) :
    removeHP mask long sample (first ^^^ (m.headD 0 &&& (if long then 0x0f else 0x1f))) key d pnOff chacha
      = .ok (first, pn, pn.length) := by
  have h4 := and3_lt first
  obtain ⟨s, -⟩ := hd.field _ (pnOff + pn.length) (by rw [pnm_length pn m (by omega) hm5])
  obtain ⟨m0, mr, rfl⟩ : ∃ m0 mr, m = m0 :: mr := by
    cases m with
    | nil => simp at hm5
    | cons a b => exact ⟨a, b, rfl⟩
  simp only [List.length_cons] at hm5
  have hs : Bytes.slice (m0 :: mr) 1 (pn.length + 1) = (List.drop 1 (m0 :: mr)).take pn.length := rfl
  unfold removeHP
  simp only [hm, ofOpt, bind, Except.bind, List.headD_cons, List.getElem?_cons_zero, xor_cancel]
  rw [decodeVarint_single _ (by omega)]
  simp only [hpn, s, hs]
  rw [byteXor_xorBytes _ _ (by simp only [List.drop_succ_cons, List.drop_zero, List.length_take]; omega)]

/-- RFC 9001 §5.4.2: the sample starts 4 bytes after the start of the packet number field and is 16 bytes long, so it
    exists when packet number and payload have 4 + 16 = 20 bytes (`h20`); with `pn.length ≤ 4` it lies in the payload -/
theorem sample_eq (pnm pn payload rest : Bytes) (hl : pnm.length = pn.length) (h4 : pn.length ≤ 4)
    (h20 : 20 ≤ pn.length + payload.length) :
    ((pnm ++ (payload ++ rest)).drop 4).take 16 = sampleOf pn payload := by
  unfold sampleOf
  rw [List.drop_append, List.drop_append, List.drop_append]
  have e1 : pnm.drop 4 = [] := List.drop_eq_nil_of_le (by omega)
  have e2 : pn.drop 4 = [] := List.drop_eq_nil_of_le (by omega)
  rw [e1, e2, hl, List.nil_append, List.nil_append]
  have e3 : rest.drop (4 - pn.length - payload.length) = rest := by
    rw [show 4 - pn.length - payload.length = 0 by omega]; rfl
  rw [e3, List.take_append_of_le_length (by simp only [List.length_drop]; omega)]

theorem protectedTail_protect (mask : MaskFn) (env : Env) (name : KeyName) (chacha : Bool) (key m : Bytes)
    (first : UInt8) (x : VW) (d pn payload rest : Bytes) (lenOff : Nat)
    (hk : env.keys name = some key)
    (hm : mask chacha key (sampleOf pn payload) = some m) (hm5 : 5 ≤ m.length)
    (hpn : (first &&& 3).toNat + 1 = pn.length)
    (h20 : 20 ≤ pn.length + payload.length)
    (hfit : x.fits (pn.length + payload.length))
    (hd : At d lenOff (x.enc (pn.length + payload.length) ++
            (xorBytes pn ((m.drop 1).take pn.length) ++ (payload ++ rest)))) :
    protectedTail mask env name chacha d (first ^^^ (m.headD 0 &&& 0x0f)) lenOff
      = .ok (x.enc (pn.length + payload.length), first, pn, pn.length, payload, x.w) := by
  have h4 := and3_lt first
  have hl := pnm_length pn m (by omega) hm5
  obtain ⟨n1, g1, n2, s2, hdec, c1⟩ := varint_at x _ hfit hd
  have s3 : Bytes.slice d (lenOff + x.w + 4) (lenOff + x.w + 4 + 16) = sampleOf pn payload := by
    rw [c1.slice, sample_eq _ pn payload rest hl (by omega) h20]
  have hr := removeHP_protect mask true chacha key (sampleOf pn payload) m first d pn _ _ hm hm5 hpn c1
  simp only [if_true] at hr
  obtain ⟨-, c2⟩ := c1.field _ (lenOff + x.w + pn.length) (by rw [hl])
  obtain ⟨s4, c3⟩ := c2.field payload (lenOff + x.w + pn.length + (pn.length + payload.length - pn.length))
    (by omega)
  unfold protectedTail
  simp only [n1, g1, n2, s2, hdec, ofOpt, bind, Except.bind, s3, hk, hr,
    if_neg (Nat.not_lt.mpr (Nat.le_add_right _ _)), c3.need, s4]

/-! The first byte (RFC 9000 §17.2 long `1 1 TT RR PP`, §17.3.1 short `0 1 S RR K PP`, Retry `1 1 1 1 UUUU`, Version Negotiation
`1 UUUUUUU`): finite sweeps over the free bits. -/

theorem ofNat_toNat (n : Nat) (h : n ≤ 255) : (UInt8.ofNat n).toNat = n :=
  Bytes.toNat_ofNat n (Nat.lt_succ_of_le h)

theorem long_first_bits : ∀ t : Fin 3, ∀ r l : Fin 4,
    let f := UInt8.ofNat (0xC0 + t.val * 16 + r.val * 4 + l.val)
    isLong f = true ∧ ((f &&& 0x30) >>> 4).toNat = t.val ∧ (f &&& 3).toNat = l.val ∧ f >>> 6 = 3 := by decide

theorem long_first (p : Long) (h : p.wf) :
    isLong p.first = true ∧ packetType p.first = p.ty.ptype ∧ (p.first &&& 3).toNat + 1 = p.pn.length ∧
    p.first >>> 6 = 3 := by
  obtain ⟨hr, _, _, _, h1, h4, _⟩ := h
  have hb : p.ty.bits < 3 := by cases p.ty <;> simp [LType.bits]
  have := long_first_bits ⟨p.ty.bits, hb⟩ ⟨p.reserved, hr⟩ ⟨p.pn.length - 1, by omega⟩
  simp only at this
  unfold Long.first
  refine ⟨this.1, ?_, by rw [this.2.2.1]; omega, this.2.2.2⟩
  unfold packetType
  rw [this.2.1]
  cases p.ty <;> rfl

theorem short_first_bits : ∀ s k : Fin 2, ∀ r l : Fin 4,
    let f := UInt8.ofNat (0x40 + s.val * 0x20 + r.val * 8 + k.val * 4 + l.val)
    isLong f = false ∧ (f &&& 3).toNat = l.val ∧ ((f >>> 2) &&& 1).toNat = k.val ∧ f >>> 6 = 1 := by decide

theorem short_first (p : Short) (h : p.wf) :
    isLong p.first = false ∧ (p.first &&& 3).toNat + 1 = p.pn.length ∧
    ((p.first >>> 2) &&& 1).toNat = (if p.keyPhase then 1 else 0) ∧ p.first >>> 6 = 1 := by
  obtain ⟨hr, h1, h4⟩ := h
  have := short_first_bits ⟨if p.spin then 1 else 0, by split <;> omega⟩ ⟨if p.keyPhase then 1 else 0, by split <;> omega⟩
    ⟨p.reserved, hr⟩ ⟨p.pn.length - 1, by omega⟩
  simp only at this
  unfold Short.first
  have e1 : (if p.spin then 0x20 else 0) = (if p.spin then 1 else 0) * 0x20 := by split <;> rfl
  have e2 : (if p.keyPhase then 4 else 0) = (if p.keyPhase then 1 else 0) * 4 := by split <;> rfl
  rw [e1, e2]
  exact ⟨this.1, by rw [this.2.1]; omega, this.2.2.1, this.2.2.2⟩

theorem short_masked_ne_zero (f m : UInt8) (h : f >>> 6 = 1) : f ^^^ (m &&& 0x1f) ≠ 0 := by
  intro h0
  have : (f ^^^ (m &&& 0x1f)) >>> 6 = 1 := by rw [shiftRight_mask 6 f m 0x1f (by decide), h]
  rw [h0] at this
  revert this
  decide

theorem retry_first_bits : ∀ u : Fin 16, let f := UInt8.ofNat (0xF0 + u.val)
    isLong f = true ∧ packetType f = .retry := by decide

theorem verneg_first_bits : ∀ u : Fin 128, isLong (UInt8.ofNat (0x80 + u.val)) = true := by decide +kernel

theorem isLong_ne_zero (x : UInt8) (h : isLong x = true) : x ≠ 0 := by
  rintro rfl
  revert h
  decide

theorem header_prefix (fb dlb slb : UInt8) (version dcid R d : Bytes) (hv : version.length = 4)
    (hd : d = fb :: (version ++ (dlb :: (dcid ++ (slb :: R))))) :
    need d 6 = .ok () ∧ Bytes.slice d 1 5 = version ∧ d[5]? = some dlb ∧
    need d (6 + dcid.length) = .ok () ∧ Bytes.slice d 6 (6 + dcid.length) = dcid ∧
    need d (7 + dcid.length) = .ok () ∧ Bytes.slice d (6 + dcid.length) (7 + dcid.length) = [slb] ∧
    At d (7 + dcid.length) R := by
  obtain ⟨-, c1⟩ := At.field [fb] (At.start hd) 1 rfl
  obtain ⟨s1, c2⟩ := c1.field version 5 (by rw [hv])
  obtain ⟨-, c3⟩ := At.field [dlb] c2 6 rfl
  obtain ⟨s2, c4⟩ := c3.field dcid (6 + dcid.length) rfl
  obtain ⟨s3, c5⟩ := At.field [slb] c4 (7 + dcid.length) (Nat.add_right_comm 6 1 _)
  exact ⟨c3.need, s1, c2.get, c4.need, s2, c5.need, s3, c5⟩

/-- the long-header prefix as `extractLong` reads it; the SCID Length byte is read as a varint, hence the code limit `≤ 63` -/
theorem header_facts (fb : UInt8) (version dcid scid T d : Bytes) (hv : version.length = 4)
    (hsl : scid.length ≤ 63)
    (hd : d = fb :: (version ++ (UInt8.ofNat dcid.length :: (dcid ++ (UInt8.ofNat scid.length :: (scid ++ T)))))) :
    need d 6 = .ok () ∧ Bytes.slice d 1 5 = version ∧ d[5]? = some (UInt8.ofNat dcid.length) ∧
    need d (6 + dcid.length) = .ok () ∧ Bytes.slice d 6 (6 + dcid.length) = dcid ∧
    need d (7 + dcid.length) = .ok () ∧
    decodeVarint (Bytes.slice d (6 + dcid.length) (7 + dcid.length)) = some scid.length ∧
    need d (7 + dcid.length + scid.length) = .ok () ∧
    Bytes.slice d (7 + dcid.length) (7 + dcid.length + scid.length) = scid := by
  obtain ⟨n1, s1, g5, n2, s2, n3, s3, c⟩ := header_prefix fb _ _ version dcid _ d hv hd
  obtain ⟨s4, c'⟩ := c.field scid _ rfl
  have ht := ofNat_toNat scid.length (by omega)
  exact ⟨n1, s1, g5, n2, s2, n3, by rw [s3, decodeVarint_single _ (by omega), ht], c'.need, s4⟩

theorem header_rest (fb dlb slb : UInt8) (version dcid scid T d : Bytes) (hv : version.length = 4)
    (hd : d = fb :: (version ++ (dlb :: (dcid ++ (slb :: (scid ++ T)))))) :
    At d (7 + dcid.length + scid.length) T := by
  obtain ⟨-, -, -, -, -, -, -, c⟩ := header_prefix fb dlb slb version dcid _ d hv hd
  exact (c.field scid _ rfl).2

theorem protect_layout (p : Long) (m rest : Bytes) :
    p.protect m ++ rest = (p.first ^^^ (m.headD 0 &&& 0x0f)) :: (p.version ++
      (UInt8.ofNat p.dcid.length :: (p.dcid ++ (UInt8.ofNat p.scid.length :: (p.scid ++ (p.tokenPart ++
        (p.lengthField ++ (xorBytes p.pn ((m.drop 1).take p.pn.length) ++ (p.payload ++ rest))))))))) := by
  simp [Long.protect, applyMask, Long.mid]

theorem flatten_length_ge (vs : List Bytes) (hne : vs ≠ []) (h4 : ∀ v ∈ vs, v.length = 4) : 4 ≤ vs.flatten.length := by
  cases vs with
  | nil => exact absurd rfl hne
  | cons v r =>
    simp only [List.flatten_cons, List.length_append, h4 v (by simp)]
    omega

theorem foldl_beNat_ge (r : Bytes) (a : Nat) : a ≤ r.foldl (fun acc x => acc * 256 + x.toNat) a := by
  induction r generalizing a with
  | nil => exact Nat.le_refl _
  | cons y ys ih => exact Nat.le_trans (show a ≤ a * 256 + y.toNat by omega) (ih _)

theorem beNat_cons_ne_zero (x : UInt8) (r : Bytes) (h : x ≠ 0) : Bytes.beNat (x :: r) ≠ 0 := by
  have hge := foldl_beNat_ge r (0 * 256 + x.toNat)
  have hx : x.toNat ≠ 0 := fun e => h (UInt8.toNat_inj.mp e)
  show r.foldl (fun acc x => acc * 256 + x.toNat) (0 * 256 + x.toNat) ≠ 0
  omega

theorem beNat_replicate_zero (n : Nat) : Bytes.beNat (List.replicate n 0) = 0 := by
  induction n with
  | zero => rfl
  | succ n ih => rw [List.replicate_succ]; exact ih

/-- a call on data that starts with a non-zero byte goes to one of the two `case` arms: the equation to rewrite with
    when the arm is evaluated next (`Dissect.extract_cases` is the form for arbitrary data) -/
theorem extract_cons (mask : MaskFn) (env : Env) (isServer : Bool) (guessed : Bytes) (ts : Nat) {d : Bytes}
    {fb : UInt8} {tl : Bytes} (hd : d = fb :: tl) (hnz : fb ≠ 0) :
    extract mask env isServer guessed ts d =
      finish d (if isLong fb then extractLong mask env isServer ts d fb
                else extractShort mask env isServer guessed ts d fb) := by
  subst hd
  rw [extract_cons_eq, if_neg (beNat_cons_ne_zero _ _ hnz)]

theorem senderKey_eq (ty : LType) (s : Bool) :
    senderKey ty s = match ty with
      | .initial => if s then .serverInitial else .clientInitial
      | .handshake => if s then .serverHandshake else .clientHandshake
      | .zeroRtt => .clientEarly := by
  cases ty <;> cases s <;> rfl

theorem extractLong_protect (mask : MaskFn) (env : Env) (isServer : Bool) (ts : Nat) (p : Long) (hwf : p.wf)
    (hver : p.version ≠ [0, 0, 0, 0]) (hscid : p.scid.length ≤ 63)
    (h20 : 20 ≤ p.pn.length + p.payload.length)
    (key m : Bytes) (hk : env.keys (senderKey p.ty isServer) = some key)
    (hm : mask (senderChacha p.ty env.chacha) key p.sample = some m) (hm5 : 5 ≤ m.length) (rest : Bytes) :
    extractLong mask env isServer ts (p.protect m ++ rest) (p.first ^^^ (m.headD 0 &&& 0x0f)) =
      .ok (p.toPkt isServer ts, some (p.protect m).length) := by
  obtain ⟨hL, hT, hP, -⟩ := long_first p hwf
  obtain ⟨hr, hv, hdl, hsl, h1, h4, hft, hfl⟩ := hwf
  have hlen : (p.protect m).length = 7 + p.dcid.length + p.scid.length + p.tokenPart.length +
      p.lenW.w + p.pn.length + p.payload.length := by
    simp only [Long.protect, applyMask, Long.mid, List.length_cons, List.length_append, hv, pnm_length _ _ h4 hm5,
      Long.lengthField, VW.enc_length, List.length_nil]
    omega
  have hd := protect_layout p m rest
  rw [hlen]
  generalize p.protect m ++ rest = d at hd ⊢
  obtain ⟨n1, s1, g5, n2, s2, n3, dv, n4, s4⟩ := header_facts _ _ _ _ _ d hv hscid hd
  have c := header_rest _ _ _ _ _ _ _ d hv hd
  have tail := fun name chacha lenOff hk hm hd =>
    protectedTail_protect mask env name chacha key m p.first p.lenW d p.pn p.payload rest lenOff hk hm hm5 hP h20 hfl hd
  unfold extractLong
  simp only [n1, s1, g5, ofOpt, bind, Except.bind, ofNat_toNat _ hdl, n2, s2, n3, dv, n4, s4, if_neg hver,
    packetType_mask, hT]
  rw [senderKey_eq] at hk
  simp only [Long.sample] at hm
  match hty : p.ty with
  | .initial =>
    simp only [hty, senderChacha, Long.tokenPart, List.append_assoc, List.length_append, VW.enc_length]
      at hk hm c ⊢
    obtain ⟨m1, t1, m2, t2, hdec, c2⟩ := varint_at p.tokenW p.token.length hft c
    obtain ⟨t3, c3⟩ := c2.field p.token _ rfl
    simp only [LType.ptype, m1, t1, m2, t2, hdec, c3.need, t3, tail _ _ _ hk hm c3,
      Long.toPkt, hty, Long.lengthField, Except.ok.injEq, Prod.mk.injEq, Option.some.injEq, true_and]
    omega
  | .handshake | .zeroRtt =>
    simp only [hty, senderChacha, Long.tokenPart, List.nil_append, List.length_nil] at hk hm c ⊢
    simp only [LType.ptype, tail _ _ _ hk hm c,
      Long.toPkt, hty, Long.lengthField, Except.ok.injEq, Prod.mk.injEq, Option.some.injEq, true_and]
    omega

theorem protect_long_ne_nil (p : Long) (m rest : Bytes) : p.protect m ++ rest ≠ [] := by
  simp [Long.protect, applyMask]

theorem protect_short_ne_nil (p : Short) (m : Bytes) : p.protect m ≠ [] := by
  simp [Short.protect, applyMask]

section loop
variable {σ : Type} (mask : MaskFn) (envOf : σ → Env) (handle : σ → List Pkt → σ)
  (isServer : Bool) (guessed : Bytes) (ts : Nat)

theorem dissectLoop_nil (s : σ) : dissectLoop mask envOf handle isServer guessed ts s [] = (s, []) := by
  rw [dissectLoop]; simp

theorem dissectLoop_cons (s : σ) (d : Bytes) (hd : d ≠ []) :
    dissectLoop mask envOf handle isServer guessed ts s d =
      let o := extract mask (envOf s) isServer guessed ts d
      let r := dissectLoop mask envOf handle isServer guessed ts (handle s o.pkts) o.rest
      (r.1, o.pkts ++ r.2) := by
  rw [dissectLoop]
  have : d.length ≠ 0 := by intro h; exact hd (List.eq_nil_of_length_eq_zero h)
  simp [this]

theorem dissectTrace_nil (s : σ) : dissectTrace mask envOf handle isServer guessed ts s [] = [] := by
  rw [dissectTrace]; simp

theorem dissectTrace_cons (s : σ) (d : Bytes) (hd : d ≠ []) :
    dissectTrace mask envOf handle isServer guessed ts s d =
      let o := extract mask (envOf s) isServer guessed ts d
      (d, o) :: dissectTrace mask envOf handle isServer guessed ts (handle s o.pkts) o.rest := by
  rw [dissectTrace]
  have : d.length ≠ 0 := by intro h; exact hd (List.eq_nil_of_length_eq_zero h)
  simp [this]

/-- induction along the coalescing loop: `step` goes from the run on what one call of `extract_quic_packet` leaves, started in
    the state after `handle_quic_packet`, to the whole run -/
theorem dissectLoop_induct {Q : σ → Bytes → σ × List Pkt → Prop}
    (nil : ∀ s, Q s [] (s, []))
    (step : ∀ s d, d ≠ [] →
      Q (handle s (extract mask (envOf s) isServer guessed ts d).pkts) (extract mask (envOf s) isServer guessed ts d).rest
        (dissectLoop mask envOf handle isServer guessed ts
          (handle s (extract mask (envOf s) isServer guessed ts d).pkts) (extract mask (envOf s) isServer guessed ts d).rest) →
      Q s d (dissectLoop mask envOf handle isServer guessed ts s d))
    (s : σ) (d : Bytes) : Q s d (dissectLoop mask envOf handle isServer guessed ts s d) := by
  induction hn : d.length using Nat.strongRecOn generalizing s d with
  | _ n ih =>
    by_cases hd : d = []
    · subst hd; rw [dissectLoop_nil]; exact nil s
    · exact step s d hd (ih _ (hn ▸ extract_rest_lt mask (envOf s) isServer guessed ts d
        (fun h => hd (List.eq_nil_of_length_eq_zero h))) _ _ rfl)

theorem extract_pkts_le_one (env : Env) (d : Bytes) : (extract mask env isServer guessed ts d).pkts.length ≤ 1 := by
  obtain ⟨h, -⟩ | ⟨_, _, _, -, h, -⟩ := extract_cases mask env isServer guessed ts d <;> rw [h]
  · exact Nat.zero_le 1
  · exact Nat.le_refl 1

end loop

end TLX.Lemmas.QuicDissect
