/-
Lemmas for `Props/Export.lean`: the addresses of every exported frame come from dpkt's dissection of a captured frame
(`Lemmas/DissectAddr.lean`), through `Ingest` (`itemsWith_good`), the session objects of both composed machines
(`runItems_good`) and the two output builders (`framesFrom_wf`). Defines `GoodPkt`, `GoodConn`, `GoodQConn`, `GoodState`,
`frameOf?`. Core Lean only.
-/
import TLX.Lemmas.DissectAddr
import TLX.Lemmas.MainLoop
import TLX.Export
import TLX.Lemmas.QuicMachine
namespace TLX.Lemmas.Export
open TLX TLX.MainLoop TLX.Pipeline

/-- what the output builders need from a packet that may open a session, and from the `Info` behind its tag -/
def GoodPkt (info : Nat → Info) (p : Pkt) : Prop :=
  (info p.tag).srcMac.length = 6 ∧ (info p.tag).dstMac.length = 6 ∧
  p.src.ip.length = (if (info p.tag).ipv6 then 16 else 4) ∧ p.dst.ip.length = (if (info p.tag).ipv6 then 16 else 4)

theorem framePkt_good (c : Bool) (tag us : Nat) (buf : Bytes) (p : Pkt) (i : Info)
    (h : Ingest.framePkt c tag us buf = .ok (p, i)) :
    p.tag = tag ∧ (p.l4 ≠ .other → i.srcMac.length = 6 ∧ i.dstMac.length = 6 ∧
      p.src.ip.length = (if i.ipv6 then 16 else 4) ∧ p.dst.ip.length = (if i.ipv6 then 16 else 4)) := by
  unfold Ingest.framePkt at h
  split at h
  · cases h
  · cases h; exact ⟨rfl, fun hn => absurd rfl hn⟩
  · rename_i x hx
    have hl := TLX.Lemmas.DissectAddr.dissect_addr_lengths _ _ _ hx
    split at h
    · cases h
    · simp only at h
      split at h <;> cases h
      · exact ⟨rfl, fun _ => hl⟩
      · exact ⟨rfl, fun _ => hl⟩
      · exact ⟨rfl, fun hn => absurd rfl hn⟩

def frameOf? : Item Keylog.Key → Option Pkt
  | .frame p => some p
  | .dsb _ => none

theorem lookup_cons_ne (t : Nat) (i : Info) (is : List (Nat × Info)) (tag : Nat) (h : tag ≠ t) :
    Ingest.lookup ((t, i) :: is) tag = Ingest.lookup is tag := by
  unfold Ingest.lookup
  rw [List.find?_cons_of_neg]
  simp only [beq_iff_eq]; omega

theorem lookup_cons_eq (t : Nat) (i : Info) (is : List (Nat × Info)) : Ingest.lookup ((t, i) :: is) t = i := by
  simp [Ingest.lookup]

theorem go_good (hc : Keylog.HexClass) (c : Bool) (its : List Container.Item) :
    ∀ (tag : Nat) (xs : List (Item Keylog.Key)) (is : List (Nat × Info)), Ingest.go hc c tag its = .ok (xs, is) →
      ∀ p, Item.frame p ∈ xs → tag ≤ p.tag ∧ (p.l4 ≠ .other → GoodPkt (Ingest.lookup is) p) := by
  induction its with
  | nil => intro tag xs is h; cases h; intro p hp; cases hp
  | cons it rest ih =>
    intro tag xs is h p hp
    unfold Ingest.go at h
    have dsbCase : ∀ (str : Keylog.Str),
        (match Ingest.go hc c (tag + 1) rest with
          | .error e => (.error e : Except Ingest.Err Ingest.Out)
          | .ok (xs, is) => .ok (.dsb (Keylog.getKeysFromString hc str) :: xs, is)) = .ok (xs, is) →
        tag ≤ p.tag ∧ (p.l4 ≠ .other → GoodPkt (Ingest.lookup is) p) := by
      intro str h
      split at h
      · cases h
      · rename_i xs' is' hr
        cases h
        simp only [List.mem_cons] at hp
        rcases hp with hp | hp
        · cases hp
        · have := ih _ _ _ hr p hp
          exact ⟨by omega, this.2⟩
    cases it with
    | dsb s =>
      simp only at h
      split at h
      · cases h
      · exact dsbCase _ h
    | pkt t buf =>
      simp only at h
      split at h
      · split at h
        · cases h
        · exact dsbCase _ h
      · split at h
        · cases h
        · rename_i p0 i0 hf
          split at h
          · cases h
          · rename_i xs' is' hr
            cases h
            have hf' := framePkt_good _ _ _ _ _ _ hf
            simp only [List.mem_cons] at hp
            rcases hp with hp | hp
            · cases hp
              refine ⟨by omega, fun hn => ?_⟩
              unfold GoodPkt
              rw [hf'.1, lookup_cons_eq]
              exact hf'.2 hn
            · have := ih _ _ _ hr p hp
              refine ⟨by omega, fun hn => ?_⟩
              unfold GoodPkt
              rw [lookup_cons_ne _ _ _ _ (by omega)]
              exact this.2 hn

theorem itemsWith_good (hc : Keylog.HexClass) (c legacy : Bool) (file : Bytes) (xs : List (Item Keylog.Key))
    (is : List (Nat × Info)) (h : Ingest.itemsWith hc c legacy file = .ok (xs, is)) :
    ∀ p, Item.frame p ∈ xs → p.l4 ≠ .other → GoodPkt (Ingest.lookup is) p := by
  unfold Ingest.itemsWith at h
  split at h
  · cases h
  · split at h
    · cases h
    · rename_i out ho
      split at h
      · cases h
        intro p hp; exact (go_good hc c _ 0 _ _ ho p hp).2
      · cases h

/-- a TLS session object whose addresses the output builder can use -/
def GoodConn (c : Conn) : Prop :=
  c.serverMac.length = 6 ∧ c.clientMac.length = 6 ∧
  c.server.ip.length = (if c.ipv6 then 16 else 4) ∧ c.client.ip.length = (if c.ipv6 then 16 else 4)

def GoodQConn (c : QuicPipeline.QConn) : Prop :=
  c.serverMac.length = 6 ∧ c.clientMac.length = 6 ∧
  c.server.ip.length = (if c.ipv6 then 16 else 4) ∧ c.client.ip.length = (if c.ipv6 then 16 else 4)

section Machine
variable (H : Crypto.Prims) (P : Cipher.Prims) (info : Nat → Info)

theorem tlsMachine_new (o : Opts) (p : Pkt) :
    (tlsMachine H P info).new o p =
      { opts := o, server := (rolesOf o.ports p).1, client := (rolesOf o.ports p).2,
        serverMac := if (rolesOf o.ports p).1 == p.src then (info p.tag).srcMac else (info p.tag).dstMac,
        clientMac := if (rolesOf o.ports p).1 == p.src then (info p.tag).dstMac else (info p.tag).srcMac,
        ipv6 := (info p.tag).ipv6, pkts := [p] } := rfl

theorem tlsMachine_feed (c : Conn) (p : Pkt) : (tlsMachine H P info).feed c p = { c with pkts := c.pkts ++ [p] } := rfl

theorem tlsMachine_out (c : Conn) (kl : List Keylog.Key) :
    (tlsMachine H P info).out c kl = (connOut H P info c kl).getD [] := rfl

end Machine

theorem foldl_feed (H : Crypto.Prims) (P : Cipher.Prims) (info : Nat → Info) (c : Conn) (more : List Pkt) :
    more.foldl (tlsMachine H P info).feed c = { c with pkts := c.pkts ++ more } := by
  induction more generalizing c with
  | nil => simp
  | cons p ps ih =>
    rw [List.foldl_cons, ih]
    simp [tlsMachine_feed]

theorem tls_new_good (H : Crypto.Prims) (P : Cipher.Prims) (info : Nat → Info) (o : Opts) (p : Pkt)
    (h : GoodPkt info p) : GoodConn ((tlsMachine H P info).new o p) := by
  obtain ⟨h1, h2, h3, h4⟩ := h
  simp only [tlsMachine_new, GoodConn, rolesOf]
  split <;> (refine ⟨?_, ?_, ?_, ?_⟩ <;> first | assumption | (split <;> assumption))

theorem quic_new_good (mask : Quic.Dissect.MaskFn) (H : Crypto.Prims) (P : Cipher.Prims) (info : Nat → Info) (o : Opts)
    (p : Pkt) (h : GoodPkt info p) : GoodQConn ((QuicPipeline.quicMachine mask H P info).new o p) := by
  obtain ⟨h1, h2, h3, h4⟩ := h
  simp only [QuicPipeline.quicMachine_new, GoodQConn, rolesOf]
  split <;> (refine ⟨?_, ?_, ?_, ?_⟩ <;> first | assumption | (split <;> assumption))

theorem quic_feed_good (mask : Quic.Dissect.MaskFn) (H : Crypto.Prims) (P : Cipher.Prims) (info : Nat → Info)
    (c : QuicPipeline.QConn) (kl : List Keylog.Key) (p : Pkt) (d : Bytes) (v : Version) (h : GoodQConn c) :
    GoodQConn ((QuicPipeline.quicMachine mask H P info).feed c kl p d v) := by
  rw [QuicPipeline.quicMachine_feed_eq]
  split <;> exact h

def GoodState (st : State Keylog.Key Conn QuicPipeline.QConn) : Prop :=
  (∀ s ∈ st.tls, GoodConn s.st) ∧ (∀ s ∈ st.quic, GoodQConn s.st)

theorem classify_quic (o : Opts) (it : Item Keylog.Key) (q : Pkt) (b0 : UInt8) (rest : Bytes)
    (h : classify o it = .quic q b0 rest) : it = .frame q ∧ q.l4 = .udp :=
  ⟨(Lemmas.MainLoop.classify_quic_inv o it q b0 rest h).1, (Lemmas.MainLoop.classify_quic_inv o it q b0 rest h).2.1⟩

theorem runItems_good (mask : Quic.Dissect.MaskFn) (H : Crypto.Prims) (P : Cipher.Prims) (info : Nat → Info) (o : Opts)
    (items : List (Item Keylog.Key)) (hit : ∀ p, Item.frame p ∈ items → p.l4 ≠ .other → GoodPkt info p) :
    ∀ st, GoodState st →
      GoodState (runItems (tlsMachine H P info) (QuicPipeline.quicMachine mask H P info) o st items) := by
  intro st hst
  refine Lemmas.MainLoop.runItems_inv _ _ o (fun s => GoodConn s.st) (fun s => GoodQConn s.st) items st ?_ (fun _ _ _ h _ => h) ?_ ?_
    hst.1 hst.2
  · intro p hp _
    obtain ⟨hm, hl⟩ := Lemmas.MainLoop.tcpView_mem o items p hp
    exact tls_new_good H P info o p (hit p hm (by rw [hl]; nofun))
  · intro x hx
    obtain ⟨hm, hl, _⟩ := Lemmas.MainLoop.quicView_mem o _ items x hx
    exact quic_feed_good mask H P info _ _ _ _ _ (quic_new_good mask H P info o x.p (hit x.p hm (by rw [hl]; nofun)))
  · intro x _ s c h _
    exact quic_feed_good mask H P info _ _ _ _ _ h

open TLX.OutBytes in
theorem tls_out_wf (H : Crypto.Prims) (P : Cipher.Prims) (info : Nat → Info) (c : Conn) (kl : List Keylog.Key)
    (h : GoodConn c) : ∀ q ∈ (tlsMachine H P info).out c kl, (Frame.ofOutPkt q).WF := by
  intro q hq
  obtain ⟨h1, h2, h3, h4⟩ := h
  simp only [tlsMachine_out, connOut] at hq
  cases hb : TcpOut.build (List.map (fun e => (⟨e.data, List.map (fun id => (info id).ts) e.record.carriers, e.fromServer⟩ : TcpOut.Rec))
      (List.foldl (feedPkt (ops H P kl) c.opts.metadata info c.server) {} c.pkts).sess.traffic) with
  | none => rw [hb] at hq; cases hq
  | some fs =>
    rw [hb] at hq
    simp only [Option.map_some, Option.getD_some, List.mem_map] at hq
    obtain ⟨f, _, rfl⟩ := hq
    unfold addressed
    split <;> exact ⟨by assumption, by assumption, by assumption, by assumption⟩

open TLX.OutBytes in
theorem quic_out_wf (mask : Quic.Dissect.MaskFn) (H : Crypto.Prims) (P : Cipher.Prims) (info : Nat → Info)
    (c : QuicPipeline.QConn) (md : Bool) (h : GoodQConn c) :
    ∀ q ∈ (QuicPipeline.quicMachine mask H P info).out md c, (Frame.ofOutPkt q).WF := by
  intro q hq
  obtain ⟨h1, h2, h3, h4⟩ := h
  simp only [QuicPipeline.quicMachine_out, QuicPipeline.connOut] at hq
  split at hq
  · cases hq
  · simp only [List.mem_map] at hq
    obtain ⟨d, _, rfl⟩ := hq
    unfold QuicPipeline.addressed
    split <;> exact ⟨by assumption, by assumption, by assumption, by assumption⟩

open TLX.OutBytes in
theorem exportAll_wf (mask : Quic.Dissect.MaskFn) (H : Crypto.Prims) (P : Cipher.Prims) (info : Nat → Info) (o : Opts)
    (st : State Keylog.Key Conn QuicPipeline.QConn) (h : GoodState st) :
    ∀ q ∈ exportAll (tlsMachine H P info) (QuicPipeline.quicMachine mask H P info) o st, (Frame.ofOutPkt q).WF := by
  intro q hq
  simp only [exportAll, List.mem_append, List.mem_flatMap] at hq
  rcases hq with ⟨s, hs, hq⟩ | ⟨s, hs, hq⟩
  · exact tls_out_wf H P info s.st _ (h.1 s hs) q hq
  · exact quic_out_wf mask H P info s.st _ (h.2 s hs) q hq

open TLX.OutBytes TLX.Export in
/-- every frame the main loop hands to the writer has 6-byte MAC addresses and IP addresses of the size its `ipv6` flag
    announces, provided the packets that can open a session have (which `Ingest` guarantees: `itemsWith_good`) -/
theorem framesFrom_wf (mask : Quic.Dissect.MaskFn) (H : Crypto.Prims) (P : Cipher.Prims) (prior : Prior) (args : Args)
    (fk : Option (List Keylog.Key)) (xs : List (Item Keylog.Key)) (info : Nat → Info) (out : List OutPkt)
    (hit : ∀ p, Item.frame p ∈ xs → p.l4 ≠ .other → GoodPkt info p)
    (h : framesFrom mask H P prior args fk xs info = .ok out) : ∀ q ∈ out, (Frame.ofOutPkt q).WF := by
  unfold framesFrom runFrom body at h
  simp only at h
  split at h
  · cases h
  · rename_i ms out' hr
    split at hr
    · cases hr
    · split at hr
      · cases hr
      · cases hr
        cases h
        refine exportAll_wf mask H P info _ _ (runItems_good mask H P info _ xs hit _ ?_)
        exact ⟨(fun s hs => by cases hs), (fun s hs => by cases hs)⟩

end TLX.Lemmas.Export
