/-
From the RFC-side description of a connection to the tool side of the connection theorems, second part (the first,
`Lemmas/C01RfcTable.lean`, declares into the same namespace `TLX.Lemmas.C01Rfc`): the lines of the key-log FILE ⇒ what the
key-log lookup returns and `lastOf` picks (TLS 1.3: the last line per label; TLS ≤ 1.2: the first CLIENT_RANDOM line); the
key-block IV where the RFC has none (`IvFree`); lengths ⇒ `KeyMatOk`; then `installs13_rfc`, `installs12_rfc`: a connection
described in RFC terms (`Rfc13`, `Rfc12`) ⇒ `Lemmas.Pipeline.Installs` for the RFC sender's states.
-/
import TLX.Lemmas.KeylogLines
import TLX.Lemmas.C01RfcTable
import TLX.Props.C01Capstone
set_option autoImplicit false
namespace TLX.Lemmas.C01Rfc
open TLX TLX.Tok TLX.Crypto TLX.Cipher TLX.CipherSuite TLX.Spec.KeySchedules TLX.Spec.TlsSender TLX.Spec.TlsConnection
open TLX.Spec.RfcSuite TLX.RecordLayer TLX.Props.C09Found TLX.Spec.NssKeylog TLX.Lemmas.KeySchedule TLX.Lemmas.KeylogLines

/-- the key-log file has a line `<label> <client random> <secret>` (hex digits in either case, LF or CRLF, anywhere) -/
def HasLine (ls : List (FLine × Bool)) (label cr secret : List Nat) : Prop :=
  ∃ hc hv crlf, (FLine.key ⟨label, cr, secret⟩ hc hv, crlf) ∈ ls

/-- every line of the file with this label and client random carries this secret (a key log of ONE run of the connection:
    NSS writes each secret once) -/
def OnlySecret (ls : List (FLine × Bool)) (label cr secret : List Nat) : Prop :=
  ∀ tr hc hv crlf, (FLine.key tr hc hv, crlf) ∈ ls → tr.label = label → tr.cr = cr → tr.secret = secret

theorem mem_linesFor (cr : List Nat) (ls : List (FLine × Bool)) (k : Keylog.Key) :
    k ∈ linesFor cr ls ↔ ∃ tr hc hv crlf, (FLine.key tr hc hv, crlf) ∈ ls ∧ tr.cr = cr ∧ k = ⟨tr.label, hc, hv⟩ := by
  unfold linesFor
  rw [List.mem_filterMap]
  constructor
  · rintro ⟨⟨l, crlf⟩, hm, hk⟩
    cases l with
    | other s => simp at hk
    | key tr hc hv =>
      simp only at hk
      by_cases e : tr.cr = cr
      · rw [if_pos e] at hk
        exact ⟨tr, hc, hv, crlf, hm, e, (Option.some.inj hk).symm⟩
      · rw [if_neg e] at hk; cases hk
  · rintro ⟨tr, hc, hv, crlf, hm, e, rfl⟩
    exact ⟨_, hm, by simp [e]⟩

theorem bytesOfNats_natsOfBytes (b : Bytes) : Pipeline.bytesOfNats (Pipeline.natsOfBytes b) = b := by
  induction b with
  | nil => rfl
  | cons x xs ih =>
    simp only [Pipeline.bytesOfNats, Pipeline.natsOfBytes, List.map_cons, List.map_map] at ih ⊢
    rw [ih]; simp

/-- the label names of `Spec.RfcSuite` (written as strings) are the tool's (written as code points) -/
theorem rfcLabels :
    labelCHTS = Keylog.s_CHTS ∧ labelSHTS = Keylog.s_SHTS ∧ labelCTS0 = Keylog.s_CTS0 ∧ labelSTS0 = Keylog.s_STS0 ∧
    labelClientRandom = Keylog.s_CLIENT_RANDOM := by
  decide +kernel

theorem labelOf_s13 :
    Pipeline.labelOf Keylog.s_CHTS = .clientHandshake ∧ Pipeline.labelOf Keylog.s_SHTS = .serverHandshake ∧
    Pipeline.labelOf Keylog.s_CTS0 = .clientTraffic0 ∧ Pipeline.labelOf Keylog.s_STS0 = .serverTraffic0 := by
  decide +kernel

theorem labelOf_13 :
    Pipeline.labelOf labelCHTS = .clientHandshake ∧ Pipeline.labelOf labelSHTS = .serverHandshake ∧
    Pipeline.labelOf labelCTS0 = .clientTraffic0 ∧ Pipeline.labelOf labelSTS0 = .serverTraffic0 ∧
    Keylog.labels13 = [labelCHTS, labelSHTS, labelCTS0, labelSTS0] ∧ labelClientRandom = Keylog.s_CLIENT_RANDOM := by
  obtain ⟨n1, n2, n3, n4, n5⟩ := rfcLabels
  obtain ⟨e1, e2, e3, e4⟩ := labelOf_s13
  rw [n1, n2, n3, n4, n5]
  exact ⟨e1, e2, e3, e4, rfl, rfl⟩

theorem secretsOf13_lines (cr : List Nat) (ls : List (FLine × Bool)) (hwf : ∀ x ∈ ls, x.1.WF) :
    Pipeline.secretsOf true (linesFor cr ls) = some (ls.filterMap (lineSecOf Keylog.labels13 cr)) :=
  mapM_secOf_lines Keylog.labels13 cr ls hwf

theorem labelOf_inj13 (lab : List Nat) (hlab : lab ∈ Keylog.labels13) (x : List Nat)
    (hx : Keylog.labels13.contains x = true) (h : Pipeline.labelOf x = Pipeline.labelOf lab) : x = lab := by
  rw [← (labelName_labelOf x (labels13_sub _ (by simpa using hx))).1, h, (labelName_labelOf lab (labels13_sub _ hlab)).1]

theorem lastOf_lines (cr : List Nat) (ls : List (FLine × Bool)) (lab : List Nat) (hlab : lab ∈ Keylog.labels13)
    (sec : Bytes) (hhas : HasLine ls lab cr (Pipeline.natsOfBytes sec))
    (honly : OnlySecret ls lab cr (Pipeline.natsOfBytes sec)) :
    lastOf (Pipeline.labelOf lab) (ls.filterMap (lineSecOf Keylog.labels13 cr)) = some sec := by
  have := lastOf_linesOf Keylog.labels13 labels13_sub cr ls lab hlab _ hhas honly
  rwa [bytesOfNats_natsOfBytes] at this

theorem linesFor_ne_nil (cr : List Nat) (ls : List (FLine × Bool)) (lab sec : List Nat) (h : HasLine ls lab cr sec) :
    ∃ fk fks, linesFor cr ls = fk :: fks := by
  obtain ⟨hc, hv, crlf, hm⟩ := h
  have : (⟨lab, hc, hv⟩ : Keylog.Key) ∈ linesFor cr ls := (mem_linesFor cr ls _).mpr ⟨_, hc, hv, crlf, hm, rfl, rfl⟩
  cases hl : linesFor cr ls with
  | nil => rw [hl] at this; cases this
  | cons a b => exact ⟨a, b, rfl⟩

/-- **SSL 3.0 – TLS 1.2: the line `generate_keys` uses** is the FIRST `CLIENT_RANDOM` line with the connection's client random
    (an `RSA` line has no 32-byte client random: it is no secret line of the file); with one master secret under the label
    the key schedule gets that master secret. -/
theorem legacy_lines (cr : List Nat) (ls : List (FLine × Bool)) (hwf : ∀ x ∈ ls, x.1.WF) (ms : Bytes)
    (hhas : HasLine ls labelClientRandom cr (Pipeline.natsOfBytes ms))
    (honly : OnlySecret ls labelClientRandom cr (Pipeline.natsOfBytes ms)) :
    ∃ fk fks rest, (linesFor cr ls).filter (fun k => k.label == Keylog.s_CLIENT_RANDOM || k.label == Keylog.s_RSA) = fk :: fks ∧
      Pipeline.secretsOf false (fk :: fks) = some ((.clientRandom, ms) :: rest) := by
  rw [rfcLabels.2.2.2.2] at hhas honly
  have hall : ∀ k ∈ (linesFor cr ls).filter (fun k => k.label == Keylog.s_CLIENT_RANDOM || k.label == Keylog.s_RSA),
      k.label = Keylog.s_CLIENT_RANDOM ∧ Keylog.fromHex k.value = some (Pipeline.natsOfBytes ms) := by
    intro k hk
    obtain ⟨hk1, hk2⟩ := List.mem_filter.mp hk
    obtain ⟨tr, hc, hv, crlf, hm, e, rfl⟩ := (mem_linesFor cr ls k).mp hk1
    have w : DenotesVia _ tr hc hv := hwf _ hm
    simp only [Bool.or_eq_true, beq_iff_eq] at hk2
    have hcr : tr.label = Keylog.s_CLIENT_RANDOM := by
      rcases hk2 with h | h
      · exact h
      · exact absurd (h ▸ w.2.1) Lemmas.Keylog.rsa_not_nss
    refine ⟨hcr, ?_⟩
    have := Lemmas.Keylog.fromHex_of_isHexOf w.2.2.2.2.1
    rw [honly tr hc hv crlf hm hcr e] at this
    exact this
  obtain ⟨hc, hv, crlf, hm⟩ := hhas
  have hin : (⟨Keylog.s_CLIENT_RANDOM, hc, hv⟩ : Keylog.Key) ∈
      (linesFor cr ls).filter (fun k => k.label == Keylog.s_CLIENT_RANDOM || k.label == Keylog.s_RSA) :=
    List.mem_filter.mpr ⟨(mem_linesFor cr ls _).mpr ⟨_, hc, hv, crlf, hm, rfl, rfl⟩, by simp⟩
  generalize (linesFor cr ls).filter (fun k => k.label == Keylog.s_CLIENT_RANDOM || k.label == Keylog.s_RSA) = F at *
  cases F with
  | nil => cases hin
  | cons fk fks =>
    obtain ⟨h1, h2⟩ := hall fk (by simp)
    refine ⟨fk, fks, fks.map fun _ => (.other, []), rfl, ?_⟩
    simp only [Pipeline.secretsOf, Bool.false_eq_true, if_false, h1, true_or, if_true, h2, Option.map_some]
    have : Pipeline.labelOf Keylog.s_CLIENT_RANDOM = .clientRandom := by decide
    rw [this, bytesOfNats_natsOfBytes]

/-- the classes whose record protection does not read the key-block IV: the RFC key block has none for them -/
def IvFree : CipherClass → Prop
  | .stream | .cbcExplicit _ _ => True
  | _ => False

/-- same key, keystream position and application key — the fields these classes read -/
def SameKey (a b : SDir) : Prop := a.key = b.key ∧ a.off = b.off ∧ a.appKey = b.appKey

theorem relDir_sameKey (cls : CipherClass) (h : IvFree cls) (a b : SDir) (hab : SameKey a b) (rd : RecordLayer.DirSt)
    (hr : Props.C01.RelDir cls a rd) : Props.C01.RelDir cls b rd := by
  obtain ⟨h1, h2, _⟩ := hab
  cases cls <;> simp only [IvFree] at h <;> simp only [Props.C01.RelDir, ← h1, ← h2] at hr ⊢ <;> exact hr

/-- stated for arbitrary keys and IVs: with the RFC key block in their place every step would carry it along -/
theorem rel_of_keys (cls : CipherClass) (macLen : Nat) (k : KeySchedule.Keys6) (ck civ sk siv : Bytes)
    (hck : k.clientKey = ck) (hsk : k.serverKey = sk) (hiv : IvFree cls ∨ (k.clientIv = civ ∧ k.serverIv = siv))
    (d : RecordLayer.Dec) (hR : Props.C01.Rel cls macLen (Props.C01Capstone.legacySnd k) d) :
    Props.C01.Rel cls macLen ⟨SDir.init ck civ [] [], SDir.init sk siv [] []⟩ d := by
  subst hck hsk
  rcases hiv with hf | ⟨rfl, rfl⟩
  · refine ⟨hR.1, fun srv => ?_⟩
    have hr := hR.2 srv
    cases srv
    · exact relDir_sameKey cls hf (SDir.init k.clientKey k.clientIv [] []) (SDir.init k.clientKey civ [] [])
        ⟨rfl, rfl, rfl⟩ _ hr
    · exact relDir_sameKey cls hf (SDir.init k.serverKey k.serverIv [] []) (SDir.init k.serverKey siv [] [])
        ⟨rfl, rfl, rfl⟩ _ hr
  · exact hR

theorem keyBlock_length (H : Crypto.Prims) (hH : H.Lawful) (pv : ProtocolVersion) (sp : SecurityParameters)
    (hprf : sp.prfHash.Lawful) (ms cr sr : Bytes) : (keyBlock H pv sp ms cr sr).length = sp.keyBlockLength := by
  cases pv <;> simp only [keyBlock]
  · exact stream_length _ H.md5.outLen hH.md5.outLen_pos (fun _ => hH.md5.hash_len _) _
  · exact prf10_length H hH.md5 hH.sha1 _ _ _ _
  · exact prf10_length H hH.md5 hH.sha1 _ _ _ _
  · exact pHash_length _ hprf _ _ _

theorem connectionKeys_lengths (H : Crypto.Prims) (hH : H.Lawful) (pv : ProtocolVersion) (sp : SecurityParameters)
    (hprf : sp.prfHash.Lawful) (ms cr sr : Bytes) :
    let km := connectionKeys H pv sp ms cr sr
    km.clientWriteKey.length = sp.encKeyLength ∧ km.serverWriteKey.length = sp.encKeyLength ∧
    km.clientWriteIv.length = sp.fixedIvLength ∧ km.serverWriteIv.length = sp.fixedIvLength := by
  have hl := keyBlock_length H hH pv sp hprf ms cr sr
  simp only [connectionKeys, partition_fields, List.length_take, List.length_drop, hl,
    SecurityParameters.keyBlockLength]
  omega

theorem tls13_key_lengths (h : HashSuite) (hl : h.Lawful) (secret : Bytes) (n : Nat) (hn : n ≤ 255) :
    (tls13WriteKey h secret n).length = n ∧ (tls13WriteIv h secret).length = 12 := by
  have := hl.outLen_pos
  constructor
  · exact hl.expand_len _ _ _ (by
      have : 255 * 1 ≤ 255 * h.outLen := Nat.mul_le_mul_left _ this
      omega)
  · exact hl.expand_len _ _ _ (by
      have : 255 * 1 ≤ 255 * h.outLen := Nat.mul_le_mul_left _ this
      omega)

open TLX.Props.C01 in
theorem keyMatOk13 (sp : SuiteSpec) (hwf : specWf sp = true) (cls : CipherClass) (hcls : cls13 sp = some cls)
    (k iv : Bytes) (hk : k.length = sp.keyLen) (hiv : iv.length = 12) : KeyMatOk cls k iv := by
  obtain ⟨b, kl, hs, tg⟩ := sp
  cases b <;> simp [cls13] at hcls <;> subst hcls <;>
    simp only [specWf, Bool.and_eq_true, Bool.or_eq_true, beq_iff_eq] at hwf <;>
    simp only [KeyMatOk, hk, hiv]
  · obtain ⟨h1 | h1, h2⟩ := hwf <;> subst h1 <;> subst h2 <;> decide
  · obtain ⟨h1 | h1, h2 | h2⟩ := hwf <;> subst h1 <;> subst h2 <;> decide
  · obtain ⟨h1, h2⟩ := hwf; subst h1; decide

open TLX.Props.C01 in
theorem keyMatOk12 (pv : ProtocolVersion) (etm : Bool) (sp : SuiteSpec) (hwf : specWf sp = true) (cls : CipherClass)
    (hcls : cls12 pv etm sp = some cls) (k iv : Bytes) (hk : k.length = sp.keyLen)
    (hiv : 0 < recordIvLength pv sp.bulk → iv.length = recordIvLength pv sp.bulk) : KeyMatOk cls k iv := by
  obtain ⟨b, kl, hs, tg⟩ := sp
  cases b <;> cases pv <;> simp [cls12, cbcAlg] at hcls <;> subst hcls <;>
    simp only [specWf, Bool.and_eq_true, Bool.or_eq_true, beq_iff_eq] at hwf <;>
    (try simp only [recordIvLength, Bulk.blockLength, Nat.reduceLT, Nat.lt_irrefl, false_implies,
      forall_const] at hiv) <;>
    (first | simp only [KeyMatOk, hk, hiv] | simp only [KeyMatOk, hk]) <;>
    first
      | (subst hwf; decide)
      | (rcases hwf with h1 | h1 <;> subst h1 <;> decide)
      | (obtain ⟨h1 | h1, h2⟩ := hwf <;> subst h1 <;> subst h2 <;> decide)
      | (obtain ⟨h1 | h1, h2 | h2⟩ := hwf <;> subst h1 <;> subst h2 <;> decide)
      | (obtain ⟨h1, h2⟩ := hwf; subst h1; decide)

theorem keyLen_le (sp : SuiteSpec) (hwf : specWf sp = true) : sp.keyLen ≤ 32 := by
  obtain ⟨b, kl, hs, tg⟩ := sp
  cases b <;> simp only [specWf, Bool.and_eq_true, Bool.or_eq_true, beq_iff_eq] at hwf <;> (try cases hwf) <;>
    simp only <;> omega

theorem cls12_exists (pv : ProtocolVersion) (etm : Bool) (sp : SuiteSpec) (hwf : specWf sp = true) (hv : ValidFor sp pv) :
    ∃ cls, cls12 pv etm sp = some cls := by
  obtain ⟨b, kl, hs, tg⟩ := sp
  cases b <;> simp only [specWf, Bool.false_eq_true] at hwf <;>
    first
      | exact ⟨_, rfl⟩
      | (have := hv (.inl rfl); subst this; exact ⟨_, rfl⟩)

theorem ivFree_of_cls12 (pv : ProtocolVersion) (etm : Bool) (sp : SuiteSpec) (cls : CipherClass)
    (hcls : cls12 pv etm sp = some cls) (h0 : ¬ 0 < recordIvLength pv sp.bulk) : IvFree cls := by
  obtain ⟨b, kl, hs, tg⟩ := sp
  cases b
  case rc4_128 => cases hcls; trivial
  case aesGcm | aesCcm | camelliaGcm | chacha20Poly1305 => exact absurd (by simp [recordIvLength]) h0
  -- the CBC ciphers have a key-block IV exactly where it is chained: SSL 3.0 and TLS 1.0
  all_goals
    cases pv
    case ssl30 | tls10 => exact absurd (by simp [recordIvLength, Bulk.blockLength]) h0
    all_goals cases hcls; trivial

theorem suiteBulk_argsOf (sp : SuiteSpec) : Props.C15.suiteBulk (argsOf sp).ks = some sp.bulk := by
  obtain ⟨b, kl, hs, tg⟩ := sp
  cases b <;> rfl

theorem rfcParams_argsOf (H : Crypto.Prims) (pv : ProtocolVersion) (sp : SuiteSpec) :
    Props.C15.rfcParams H pv (argsOf sp).ks sp.bulk = secParams H pv sp := by
  obtain ⟨b, kl, hs, tg⟩ := sp
  cases hs <;> rfl

theorem prfHash_lawful (H : Crypto.Prims) (hH : H.Lawful) (b : Bool) : (tls12PrfHash H b).Lawful := by
  cases b
  · exact hH.sha256
  · exact hH.sha384

theorem hash_lawful (H : Crypto.Prims) (hH : H.Lawful) (h : HashName) : (h.suite H).Lawful := by
  cases h
  · exact hH.md5
  · exact hH.sha1
  · exact hH.sha256
  · exact hH.sha384

theorem etm_extGet (es : List Spec.TlsHello.Ext) (hwf : ∀ e ∈ es, e.ty < 65536) :
    (Session.extGet (es.map Lemmas.Pipeline.extPair) [0x00, 0x16]).isSome = es.any fun e => e.ty == 22 := by
  have key : ∀ e ∈ es, (decide ((Lemmas.Pipeline.extPair e).1 = [0x00, 0x16])) = (e.ty == 22) := by
    intro e he
    have h22 : Spec.TlsHello.u16 22 = [0x00, 0x16] := by decide
    simp only [Lemmas.Pipeline.extPair]
    by_cases h : e.ty = 22
    · simp [h, h22]
    · have : Spec.TlsHello.u16 e.ty ≠ [0x00, 0x16] := by
        intro hh
        rw [← h22] at hh
        exact h (Lemmas.Pipeline.u16_inj _ _ (hwf e he) (by decide) hh)
      simp [h, this]
  simp only [Session.extGet, Option.isSome_map]
  rw [Bool.eq_iff_iff]
  simp only [List.find?_isSome, List.mem_reverse, List.mem_map, List.any_eq_true, decide_eq_true_eq]
  constructor
  · rintro ⟨x, ⟨e, he, rfl⟩, hx⟩
    exact ⟨e, he, by rw [← key e he]; simpa using hx⟩
  · rintro ⟨e, he, h⟩
    refine ⟨_, ⟨e, he, rfl⟩, ?_⟩
    have := key e he
    rw [h] at this
    simpa using this

section ToolSide
open TLX.Props.C01 TLX.Props.C01Capstone TLX.Lemmas.Pipeline

theorem exts_wf (sh : Spec.TlsHello.ServerHello) (h : sh.WellFormed) : ∀ e ∈ sh.extensions.getD [], e.ty < 65536 := by
  obtain ⟨_, _, _, _, hx, _⟩ := h
  cases he : sh.extensions with
  | none => intro e h; cases h
  | some es =>
    rw [he] at hx
    intro e hm
    exact (hx.1 e hm).1

/-- **The key side of a TLS 1.3 connection in RFC terms**: the ServerHello's code point is one the tool's table accepts, its
    IANA name denotes the AEAD suite `sp` with record protection `cls`, and the key-log FILE `ls` has the four NSS lines
    with the connection's traffic secrets for the ClientHello's random — and no other secret under those labels and that
    random (the tool takes the LAST such line per label: `Props.C01Rfc.Ex.last_line_wins_13`). `H.Lawful`: digest lengths,
    HKDF-Expand returns the length asked for. -/
structure Rfc13 (H : Crypto.Prims) (ls : List (FLine × Bool)) (ch : Spec.TlsHello.ClientHello)
    (sh : Spec.TlsHello.ServerHello) (sp : SuiteSpec) (cls : CipherClass) (chts shts cats sats : Bytes) : Prop where
  hH : H.Lawful
  hls : ∀ x ∈ ls, x.1.WF
  haccept : CipherSuite.resolve (Bytes.beNat sh.cipherSuite) ≠ none
  hsuite : suiteOfCode (Bytes.beNat sh.cipherSuite) = some sp
  hcls : cls13 sp = some cls
  hl1 : HasLine ls labelCHTS (Pipeline.natsOfBytes ch.random) (Pipeline.natsOfBytes chts)
  hl2 : HasLine ls labelSHTS (Pipeline.natsOfBytes ch.random) (Pipeline.natsOfBytes shts)
  hl3 : HasLine ls labelCTS0 (Pipeline.natsOfBytes ch.random) (Pipeline.natsOfBytes cats)
  hl4 : HasLine ls labelSTS0 (Pipeline.natsOfBytes ch.random) (Pipeline.natsOfBytes sats)
  ho1 : OnlySecret ls labelCHTS (Pipeline.natsOfBytes ch.random) (Pipeline.natsOfBytes chts)
  ho2 : OnlySecret ls labelSHTS (Pipeline.natsOfBytes ch.random) (Pipeline.natsOfBytes shts)
  ho3 : OnlySecret ls labelCTS0 (Pipeline.natsOfBytes ch.random) (Pipeline.natsOfBytes cats)
  ho4 : OnlySecret ls labelSTS0 (Pipeline.natsOfBytes ch.random) (Pipeline.natsOfBytes sats)

/-- **The key side of an SSL 3.0 – TLS 1.2 connection in RFC terms**: protocol version `pv`, an accepted code point whose suite
    `sp` is valid for the version (`ValidFor`: AEAD and SHA-2-MAC suites in TLS 1.2 only) with record protection `cls`
    (`etmNegotiated`: RFC 7366), and the key-log FILE has the `CLIENT_RANDOM` line of the 48-byte master secret `ms` — and
    no other (the tool takes the FIRST such line: `Props.C01Rfc.Ex.first_line_wins_12`). `hsz`, SSL 3.0 only: the real digest
    sizes of MD5 and SHA-1 (the tool knows ten of RFC 6101's salts). -/
structure Rfc12 (H : Crypto.Prims) (ls : List (FLine × Bool)) (ch : Spec.TlsHello.ClientHello)
    (sh : Spec.TlsHello.ServerHello) (pv : ProtocolVersion) (sp : SuiteSpec) (cls : CipherClass) (ms : Bytes) : Prop where
  hH : H.Lawful
  hls : ∀ x ∈ ls, x.1.WF
  hsz : pv = .ssl30 → H.md5.outLen = 16 ∧ H.sha1.outLen = 20
  haccept : CipherSuite.resolve (Bytes.beNat sh.cipherSuite) ≠ none
  hsuite : suiteOfCode (Bytes.beNat sh.cipherSuite) = some sp
  hvalid : ValidFor sp pv
  hcls : cls12 pv (etmNegotiated sh) sp = some cls
  hms : ms.length = 48
  hl1 : HasLine ls labelClientRandom (Pipeline.natsOfBytes ch.random) (Pipeline.natsOfBytes ms)
  ho1 : OnlySecret ls labelClientRandom (Pipeline.natsOfBytes ch.random) (Pipeline.natsOfBytes ms)

theorem installs13_rfc {H : Crypto.Prims} {ls : List (FLine × Bool)} {ch : Spec.TlsHello.ClientHello}
    {sh : Spec.TlsHello.ServerHello} {sp : SuiteSpec} {cls : CipherClass} {chts shts cats sats : Bytes}
    (R : Rfc13 H ls ch sh sp cls chts shts cats sats) (P : Cipher.Prims) (hsh : sh.WellFormed) :
    Installs H P ((Export.fileKeysOf (some (fileText ls))).getD []) ch sh .tls13 cls (sp.hash.suite H).outLen
      (snd13 H sp chts shts cats sats) := by
  obtain ⟨hH, hls, haccept, hsuite, hcls, hl1, hl2, hl3, hl4, ho1, ho2, ho3, ho4⟩ := R
  obtain ⟨ps, sp', hres, hsuite', hwf, hargs, _⟩ := resolve_rfc _ haccept
  rw [hsuite] at hsuite'
  cases hsuite'
  obtain ⟨n1, n2, n3, n4, _⟩ := rfcLabels
  rw [n1] at hl1 ho1; rw [n2] at hl2 ho2; rw [n3] at hl3 ho3; rw [n4] at hl4 ho4
  obtain ⟨fk, fks, hfound⟩ := linesFor_ne_nil _ ls _ _ hl1
  have hsec := secretsOf13_lines (Pipeline.natsOfBytes ch.random) ls hls
  rw [hfound] at hsec
  obtain ⟨e1, e2, e3, e4⟩ := labelOf_s13
  have q1 := lastOf_lines _ ls Keylog.s_CHTS (by simp [Keylog.labels13]) chts hl1 ho1
  have q2 := lastOf_lines _ ls Keylog.s_SHTS (by simp [Keylog.labels13]) shts hl2 ho2
  have q3 := lastOf_lines _ ls Keylog.s_CTS0 (by simp [Keylog.labels13]) cats hl3 ho3
  have q4 := lastOf_lines _ ls Keylog.s_STS0 (by simp [Keylog.labels13]) sats hl4 ho4
  rw [e1] at q1; rw [e2] at q2; rw [e3] at q3; rw [e4] at q4
  have hkl : sp.keyLen ≤ 32 := keyLen_le sp hwf
  have hnil : ls.filterMap (lineSecOf Keylog.labels13 (Pipeline.natsOfBytes ch.random)) ≠ [] := by
    intro h; rw [h] at q1; cases q1
  have hgen := Props.C15.tls13_installed_eq_rfc H (argsOf sp).ks _ ch.random sh.random
    (show (argsOf sp).ks.keyLen < 65536 by show sp.keyLen < 65536; omega) hnil chts shts cats sats q1 q2 q3 q4
  simp only [macSuite_argsOf] at hgen
  have hl := hash_lawful H hH sp.hash
  have len := fun s => tls13_key_lengths _ hl s sp.keyLen (by omega)
  rw [← found13_fileText ls hls] at hfound
  have := installs13 H P _ ch sh hsh ps hres (argsOf sp) hargs fk fks hfound _ hsec _ hgen _ _ _ _ _ _ _ _
    ⟨rfl, rfl, rfl, rfl, rfl, rfl, rfl, rfl⟩ cls (classOf_cls13 _ sp cls hcls)
    (keyMatOk13 sp hwf cls hcls _ _ (len chts).1 (len chts).2) (keyMatOk13 sp hwf cls hcls _ _ (len cats).1 (len cats).2)
    (keyMatOk13 sp hwf cls hcls _ _ (len shts).1 (len shts).2) (keyMatOk13 sp hwf cls hcls _ _ (len sats).1 (len sats).2)
  rwa [macSuite_argsOf] at this

/-- C15 says nothing about the installed IVs where the RFC has none; the relation of those classes does not mention them
    (`relDir_sameKey`) -/
theorem installs12_rfc {H : Crypto.Prims} {ls : List (FLine × Bool)} {ch : Spec.TlsHello.ClientHello}
    {sh : Spec.TlsHello.ServerHello} {pv : ProtocolVersion} {sp : SuiteSpec} {cls : CipherClass} {ms : Bytes}
    (R : Rfc12 H ls ch sh pv sp cls ms) (P : Cipher.Prims) (L : SealLaws P) (hsh : sh.WellFormed) :
    Installs H P ((Export.fileKeysOf (some (fileText ls))).getD []) ch sh (sessVer pv) cls (sp.hash.suite H).outLen
      (snd12 H pv sp ms ch.random sh.random) := by
  obtain ⟨hH, hls, hsz, haccept, hsuite, hvalid, hcls, hms, hl1, ho1⟩ := R
  obtain ⟨ps, sp', hres, hsuite', hwf, hargs, _⟩ := resolve_rfc _ haccept
  rw [hsuite] at hsuite'
  cases hsuite'
  obtain ⟨fk, fks, srest, hfound, hsec⟩ := legacy_lines _ ls hls ms hl1 ho1
  have haead : sp.bulk.isAead = true → ksVer pv = .tls12 := by
    intro h; have := hvalid (.inl h); subst this; rfl
  have hkl : sp.keyLen ≤ 32 := keyLen_le sp hwf
  -- C15: what `generate_keys` installs is the RFC key block; SSL 3.0's ten salts give 160 bytes of it
  obtain ⟨k, hgen, hkeys⟩ := Props.C15.installed_eq_schedule H hH (ksVer pv) pv (specVersion_ksVer pv) (argsOf sp).ks sp.bulk
    (suiteBulk_argsOf sp) haead (fun _ => rfl) ms ch.random sh.random srest
    (by intro _; rw [hms])
    (by
      intro h30
      have hpv : pv = .ssl30 := by cases pv <;> simp [ksVer] at h30 ⊢
      obtain ⟨z1, z2⟩ := hsz hpv
      have hnot : ¬ (sp.bulk.isAead = true ∨ sp.hash = .sha256 ∨ sp.hash = .sha384) := by
        intro h; have := hvalid h; rw [hpv] at this; cases this
      rw [macSuite_argsOf, z1]
      have hm : (sp.hash.suite H).outLen ≤ 20 := by
        obtain ⟨b, kl, hs, tg⟩ := sp
        cases hs <;> simp [HashName.suite, z1, z2] at hnot ⊢
      have hi : KeySchedule.ivLenLegacy (argsOf sp).ks.cipher ≤ 16 := by
        generalize (argsOf sp).ks.cipher = c
        cases c <;> simp [KeySchedule.ivLenLegacy]
      show 2 * sp.keyLen + _ + _ ≤ _
      omega)
  rw [rfcParams_argsOf] at hkeys
  obtain ⟨_, _, hck, hsk, hivs⟩ := hkeys
  obtain ⟨l1, l2, l3, l4⟩ := connectionKeys_lengths H hH pv (secParams H pv sp) (prfHash_lawful H hH _) ms ch.random sh.random
  rw [← ksVersion_sessVer] at hgen
  rw [← found12_fileText ls hls] at hfound
  obtain ⟨hv, d, hd, hR⟩ := installs12 H P L _ ch sh hsh (sessVer pv) (sessVer_ne13 pv) ps hres (argsOf sp) hargs fk fks hfound
    _ hsec k hgen cls (by rw [etm_extGet _ (exts_wf sh hsh)]; exact classOf_cls12 pv _ sp cls hcls)
    (by rw [macSuite_argsOf]; exact (hash_lawful H hH sp.hash).outLen_pos)
    (keyMatOk12 pv _ sp hwf cls hcls _ _ (by rw [hck]; exact l1) (fun h0 => by rw [(hivs h0).1]; exact l3))
    (keyMatOk12 pv _ sp hwf cls hcls _ _ (by rw [hsk]; exact l2) (fun h0 => by rw [(hivs h0).2]; exact l4))
  rw [macSuite_argsOf] at hR
  -- where the class has a key-block IV the installed IVs are the RFC's; elsewhere it reads none
  refine ⟨hv, d, hd, rel_of_keys cls _ k _ _ _ _ hck hsk ?_ d hR⟩
  by_cases h0 : 0 < recordIvLength pv sp.bulk
  · exact .inr (hivs h0)
  · exact .inl (ivFree_of_cls12 pv _ sp cls hcls h0)

end ToolSide

end TLX.Lemmas.C01Rfc
