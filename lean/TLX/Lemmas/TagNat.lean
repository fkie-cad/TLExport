/-
Naturality of the run under RENAMING OF PACKET TAGS: reassembly, the TLS session, one conversation, and the three
views of a capture; the two halves of the main loop (`tlsRun_nat`, `tlsFrames_nat`, `quicRun_nat`, `dsbOnly_retag`) are declared
under this namespace in `Lemmas/ExportProps`, as instances of its `tlsRun_map` / `quicRun_map`.

`Pkt.tag` names the packet object (`Ingest`: its position in the capture). The session machines never compare tags: the
reassembler carries them through as `Seg.id` into the carrier lists of the records (`ranges`, `carriers`), the session
stores the records in `application_traffic`, and `Session.decrypt()` reads `(info id).ts` for every carrier. So for ANY
function `ρ : Nat → Nat` (no injectivity, no monotonicity is needed):

    running on the packets retagged by `ρ` with the table `info'`  =  running on the packets with the table `info' ∘ ρ`.

The file-level theorems need nothing else about tags: that only the table's entries at the tags that occur are read, and
that which tags the packets carry does not matter, follow from this naturality (`Lemmas.ExportProps.congr_of_natural`,
`Props.ExportInputs2.alike_of_natural`).
-/
import TLX.Lemmas.CarrierMap
import TLX.Props.C01Pipeline
import TLX.Lemmas.MainLoop
namespace TLX.Lemmas.TagNat
open TLX TLX.MainLoop

namespace Reasm
open TLX.Reassembly

variable (ρ : Nat → Nat)

def seg (s : Seg) : Seg := { s with id := ρ s.id }
def rec (r : Rec) : Rec := (r.1, r.2.map ρ)
def st (s : St) : St := { s with buf := s.buf.map (seg ρ), out := s.out.map (rec ρ) }

theorem insertBy_nat (key : Seg → Nat) (hk : ∀ x, key (seg ρ x) = key x) (p : Seg) (l : List Seg) :
    insertBy key (seg ρ p) (l.map (seg ρ)) = (insertBy key p l).map (seg ρ) := by
  induction l with
  | nil => rfl
  | cons a r ih =>
    simp only [List.map_cons, insertBy, hk]
    split
    · simp only [List.map_cons, ih]
    · rfl

theorem sortBy_nat (key : Seg → Nat) (hk : ∀ x, key (seg ρ x) = key x) (l : List Seg) :
    sortBy key (l.map (seg ρ)) = (sortBy key l).map (seg ρ) := by
  induction l with
  | nil => rfl
  | cons a r ih =>
    simp only [sortBy, List.map_cons, List.foldr_cons] at ih ⊢
    rw [ih, insertBy_nat ρ key hk]

theorem minBy_nat (key : Seg → Nat) (hk : ∀ x, key (seg ρ x) = key x) (a : Seg) (r : List Seg) :
    minBy key (seg ρ a) (r.map (seg ρ)) = seg ρ (minBy key a r) := by
  induction r generalizing a with
  | nil => rfl
  | cons x r ih =>
    simp only [minBy, List.map_cons, List.foldl_cons, hk] at ih ⊢
    split
    · exact ih x
    · exact ih a

theorem bufData_nat (b : List Seg) : bufData (b.map (seg ρ)) = bufData b := by
  simp [bufData, List.map_map, Function.comp_def, seg]

theorem ranges_nat (b : List Seg) (s : Nat) :
    ranges (b.map (seg ρ)) s = (ranges b s).map fun r => (r.1, r.2.1, ρ r.2.2) := by
  induction b generalizing s with
  | nil => rfl
  | cons a r ih => simp only [List.map_cons, ranges, ih, seg]

theorem carriers_nat (rs : List (Nat × Nat × Nat)) (i n : Nat) :
    carriers (rs.map fun r => (r.1, r.2.1, ρ r.2.2)) i n = (carriers rs i n).map ρ := by
  simp only [carriers, List.filter_map, List.map_map, Function.comp_def]

theorem records_nat (d : Bytes) (rs : List (Nat × Nat × Nat)) (i : Nat) :
    records d (rs.map fun r => (r.1, r.2.1, ρ r.2.2)) i = (records d rs i).map (rec ρ) := by
  induction h : d.length - i using Nat.strongRecOn generalizing i with
  | ind n ih =>
    by_cases hle : d.length ≤ i
    · rw [records, if_pos hle]
      conv => rhs; rw [records, if_pos hle]
      rfl
    · have := recLenAt_ge d i
      rw [records, if_neg hle]
      conv => rhs; rw [records, if_neg hle]
      simp only [List.map_cons, rec, carriers_nat]
      rw [ih (d.length - (i + recLenAt d i)) (by omega) _ rfl]

theorem flush_nat (buf : List Seg) : flush (buf.map (seg ρ)) = (flush buf).map (List.map (rec ρ)) := by
  simp only [flush, bufData_nat, ranges_nat, records_nat]
  split <;> rfl

theorem contiguous_nat (W : Nat) (l : List Seg) : contiguous W (l.map (seg ρ)) = contiguous W l := by
  induction l with
  | nil => rfl
  | cons a r ih =>
    cases r with
    | nil => rfl
    | cons b r' =>
      simp only [List.map_cons, contiguous] at ih ⊢
      rw [ih]; rfl

theorem deliver_nat (W : Nat) (s : St) (base : Nat) (buf : List Seg) :
    deliver W (st ρ s) base (buf.map (seg ρ)) = st ρ (deliver W s base buf) := by
  cases buf with
  | nil => rfl
  | cons h t =>
    simp only [deliver, List.map_cons]
    have hc := contiguous_nat ρ W (h :: t)
    simp only [List.map_cons] at hc
    have hf := flush_nat ρ (h :: t)
    simp only [List.map_cons] at hf
    have hb := bufData_nat ρ (h :: t)
    simp only [List.map_cons] at hb
    rw [hc, hf, hb]
    have hseq : (seg ρ h).seq = h.seq := rfl
    rw [hseq]
    split
    · rfl
    · split
      · rfl
      · cases flush (h :: t) with
        | none => rfl
        | some recs => simp [st, List.map_append]

theorem extract_nat (W : Nat) (s : St) : extract W (st ρ s) = st ρ (extract W s) := by
  unfold extract
  cases hb : s.buf with
  | nil => simp [st, hb]
  | cons first rest =>
    have : (st ρ s).buf = seg ρ first :: rest.map (seg ρ) := by simp [st, hb]
    rw [this]
    simp only
    have hbase : baseOf W (st ρ s).next (seg ρ first) (rest.map (seg ρ)) = baseOf W s.next first rest := by
      unfold baseOf
      have : (st ρ s).next = s.next := rfl
      rw [this]
      cases s.next with
      | some b => rfl
      | none =>
        simp only
        have hs : (seg ρ first).seq = first.seq := rfl
        rw [hs, minBy_nat ρ _ (fun x => rfl)]
        rfl
    rw [hbase]
    have := sortBy_nat ρ (syncKey W (baseOf W s.next first rest)) (fun x => rfl) (first :: rest)
    simp only [List.map_cons] at this
    rw [this, deliver_nat]

theorem stepW_nat (W : Nat) (s : St) (p : Seg) : stepW W (st ρ s) (seg ρ p) = st ρ (stepW W s p) := by
  unfold stepW
  have h1 : (st ρ s).seen = s.seen := rfl
  have h2 : (seg ρ p).seq = p.seq := rfl
  rw [h1, h2]
  split
  · rfl
  · have : ({ st ρ s with seen := s.seen ++ [p.seq], buf := (st ρ s).buf ++ [seg ρ p] } : St) =
        st ρ { s with seen := s.seen ++ [p.seq], buf := s.buf ++ [p] } := by
      simp [st, List.map_append]
    rw [this, extract_nat]

end Reasm

namespace Sess
open TLX.Session

variable (ρ : Nat → Nat)

def rec (r : Rec) : Rec := { r with carriers := r.carriers.map ρ }
def entry (e : Entry) : Entry := { e with record := rec ρ e.record }
def st {δ : Type} (s : St δ) : St δ := { s with traffic := s.traffic.map (entry ρ) }
def out {δ : Type} : Out (St δ) → Out (St δ)
  | .ok s => .ok (st ρ s)
  | .raised s => .raised (st ρ s)

variable {δ : Type}

@[simp] theorem rec_raw (r : Rec) : (rec ρ r).raw = r.raw := rfl
@[simp] theorem rec_typ (r : Rec) : (rec ρ r).typ = r.typ := rfl
@[simp] theorem rec_ver (r : Rec) : (rec ρ r).ver = r.ver := rfl
@[simp] theorem rec_body (r : Rec) : (rec ρ r).body = r.body := rfl
@[simp] theorem st_canDecrypt (s : St δ) : (st ρ s).canDecrypt = s.canDecrypt := rfl
@[simp] theorem st_chSeen (s : St δ) : (st ρ s).chSeen = s.chSeen := rfl
@[simp] theorem st_ver (s : St δ) : (st ρ s).ver = s.ver := rfl
@[simp] theorem st_srvCC (s : St δ) : (st ρ s).srvCC = s.srvCC := rfl
@[simp] theorem st_cliCC (s : St δ) : (st ρ s).cliCC = s.cliCC := rfl
@[simp] theorem st_dec (s : St δ) : (st ρ s).dec = s.dec := rfl
@[simp] theorem st_cr (s : St δ) : (st ρ s).cr = s.cr := rfl

theorem clientHello_nat (s : St δ) (r : Rec) : clientHello (st ρ s) (rec ρ r) = st ρ (clientHello s r) := rfl

-- `rec ρ`, `st ρ` are those of `CarrierMap.Sess` at `List.map ρ` (by `rfl`): the session never looks at carrier lists,
-- so in particular not at the tags in them

variable (O : Ops δ) (hdec : ∀ d r srv, O.decrypt d (rec ρ r) srv = O.decrypt d r srv)
include hdec

theorem handleRecordRaw_nat (m : Bool) (s : St δ) (r : Rec) (srv : Bool) :
    handleRecordRaw O m (st ρ s) (rec ρ r) srv = out ρ (handleRecordRaw O m s r srv) := by
  -- `handle_tls_record` never raises, so this is `handleRecord_nat` under `.ok`
  rw [Out.eq_ok (handleRecordRaw_isOk O m (st ρ s) (rec ρ r) srv), Out.eq_ok (handleRecordRaw_isOk O m s r srv)]
  exact congrArg Out.ok (CarrierMap.Sess.handleRecord_nat (List.map ρ) O hdec m s r srv)

theorem run_nat (m : Bool) (s : St δ) (rs : List (Rec × Bool)) :
    run O m (st ρ s) (rs.map fun x => (rec ρ x.1, x.2)) = st ρ (run O m s rs) :=
  CarrierMap.Sess.run_nat (List.map ρ) O hdec m s rs

end Sess

section Conn
open TLX.Lemmas.Pipeline TLX.Props.C01Pipeline

variable (H : Crypto.Prims) (P : Cipher.Prims) (ρ : Nat → Nat)

/-- the packet with its tag renamed -/
def retag (p : Pkt) : Pkt := { p with tag := ρ p.tag }

/-- the conversation object holding the renamed packets -/
def connRetag (c : Pipeline.Conn) : Pipeline.Conn := { c with pkts := c.pkts.map (retag ρ) }

def recs (l : List (Session.Rec × Bool)) : List (Session.Rec × Bool) := l.map fun x => (Sess.rec ρ x.1, x.2)

theorem reasmPkt_nat (info' : Nat → Pipeline.Info) (server : Endpoint) (R : Reassembly.St × Reassembly.St) (p : Pkt) :
    reasmPkt info' server (Reasm.st ρ R.1, Reasm.st ρ R.2) (retag ρ p) =
      (((Reasm.st ρ (reasmPkt (info' ∘ ρ) server R p).1.1, Reasm.st ρ (reasmPkt (info' ∘ ρ) server R p).1.2)),
        recs ρ (reasmPkt (info' ∘ ρ) server R p).2) := by
  unfold reasmPkt
  have hs : ∀ (st0 : Reassembly.St),
      Reassembly.step { Reasm.st ρ st0 with out := [] } ⟨ρ p.tag, (info' (ρ p.tag)).seq, p.payload⟩ =
        Reasm.st ρ (Reassembly.step { st0 with out := [] } ⟨p.tag, (info' (ρ p.tag)).seq, p.payload⟩) :=
    fun st0 => Reasm.stepW_nat ρ (2 ^ 32) { st0 with out := [] } ⟨p.tag, (info' (ρ p.tag)).seq, p.payload⟩
  simp only [Reasm.st] at hs
  simp only [retag, Function.comp]
  by_cases hsrv : (p.src == server) = true
  · simp only [hsrv, if_true, recs, Reasm.st, hs, List.map_map, Function.comp_def, Sess.rec, Reasm.rec]
  · simp only [hsrv, Bool.false_eq_true, if_false, recs, Reasm.st, hs, List.map_map, Function.comp_def, Sess.rec, Reasm.rec]

theorem released_nat (info' : Nat → Pipeline.Info) (server : Endpoint) (pkts : List Pkt) :
    ∀ R : Reassembly.St × Reassembly.St,
      released info' server (Reasm.st ρ R.1, Reasm.st ρ R.2) (pkts.map (retag ρ)) =
        recs ρ (released (info' ∘ ρ) server R pkts) := by
  induction pkts with
  | nil => intro R; rfl
  | cons p ps ih =>
    intro R
    simp only [List.map_cons, released, reasmPkt_nat, ih, recs, List.map_append]

theorem connRecs_nat (info' : Nat → Pipeline.Info) (c : Pipeline.Conn) :
    connRecs info' (connRetag ρ c) = recs ρ (connRecs (info' ∘ ρ) c) :=
  released_nat ρ info' c.server c.pkts (Reassembly.St.init, Reassembly.St.init)

/-- **One conversation.** `Session.decrypt()` on the conversation holding the retagged packets, reading the table
    `info'`, returns what it returns on the original packets reading `info' ∘ ρ` — for ANY `ρ`. -/
theorem connOut_nat (info' : Nat → Pipeline.Info) (c : Pipeline.Conn) (kl : List Keylog.Key) :
    Pipeline.connOut H P info' (connRetag ρ c) kl = Pipeline.connOut H P (info' ∘ ρ) c kl := by
  rw [connOut_eq, connOut_eq, connRecs_nat]
  have hrun := Sess.run_nat ρ (Pipeline.ops H P kl) (fun _ _ _ => rfl) c.opts.metadata Session.St.init
    (connRecs (info' ∘ ρ) c)
  have hinit : Sess.st ρ (Session.St.init : Session.St RecordLayer.Dec) = Session.St.init := rfl
  rw [hinit] at hrun
  have hopts : (connRetag ρ c).opts = c.opts := rfl
  rw [hopts]
  unfold recs
  rw [hrun]
  have ht : (Sess.st ρ (Session.run (Pipeline.ops H P kl) c.opts.metadata Session.St.init (connRecs (info' ∘ ρ) c))).traffic.map
        (toRec fun id => (info' id).ts) =
      (Session.run (Pipeline.ops H P kl) c.opts.metadata Session.St.init (connRecs (info' ∘ ρ) c)).traffic.map
        (toRec fun id => ((info' ∘ ρ) id).ts) := by
    simp only [Sess.st, List.map_map]
    apply List.map_congr_left
    intro e _
    simp only [Function.comp, toRec, Sess.entry, Sess.rec, List.map_map]
    rfl
  rw [ht]
  rfl

end Conn

section Loop
open TLX.Spec.Demux

variable (ρ : Nat → Nat)

def itemRetag {κ : Type} : Item κ → Item κ
  | .dsb ks => .dsb ks
  | .frame p => .frame (retag ρ p)

def sessRetag (s : TlsSess Pipeline.Conn) : TlsSess Pipeline.Conn := { s with st := connRetag ρ s.st }

/-- the classification of an item does not read the tag -/
theorem classify_retag {κ : Type} (o : Opts) (it : Item κ) :
    classify o (itemRetag ρ it) =
      match classify o it with
      | .keys ks => .keys ks
      | .tls p => .tls (retag ρ p)
      | .quic p b0 r => .quic (retag ρ p) b0 r
      | .ignore w => .ignore w := by
  cases it with
  | dsb ks => rfl
  | frame p =>
    obtain ⟨l4, src, dst, payload, csumOk, tag⟩ := p
    simp only [itemRetag, classify, retag]
    cases l4 with
    | other => rfl
    | tcp =>
      simp only
      by_cases h1 : payload.length = 0
      · simp [h1]
      · by_cases h2 : (o.checksumTest && !csumOk) = true <;> simp [h1, h2]
    | udp =>
      simp only
      cases payload with
      | nil => rfl
      | cons b0 r =>
        simp only
        by_cases h2 : (o.checksumTest && !csumOk) = true
        · simp [h2]
        · by_cases h3 : ((b0.toNat &&& 0x40) >>> 6 = 1 || o.greasy) = true <;> simp [h2, h3]

theorem tcpView_retag {κ : Type} (o : Opts) (xs : List (Item κ)) :
    tcpView o (xs.map (itemRetag ρ)) = (tcpView o xs).map (retag ρ) := by
  induction xs with
  | nil => rfl
  | cons it xs ih =>
    simp only [tcpView, List.map_cons, List.filterMap_cons, classify_retag] at ih ⊢
    cases classify o it <;> simp [ih]

theorem quicView_retag {κ : Type} (o : Opts) (xs : List (Item κ)) :
    ∀ kl, quicView o kl (xs.map (itemRetag ρ)) = (quicView o kl xs).map fun x => { x with p := retag ρ x.p } := by
  induction xs with
  | nil => intro kl; rfl
  | cons it xs ih =>
    intro kl
    simp only [List.map_cons, quicView, classify_retag]
    cases classify o it with
    | keys ks => exact ih _
    | tls p => exact ih _
    | ignore w => exact ih _
    | quic p b0 r => simp only [List.map_cons, ih]

end Loop

end TLX.Lemmas.TagNat
