/-
The session model against the sender of `Spec.QuicSender`, for `TLX/Props/C02Session.lean`: defines `EpochInv`, `FrameQ`,
`LevelInv`, the parser assumptions `TlsQuiet` / `TlsNoRaise` / `TlsStable` and `afterFrames`; proves key-epoch tracking, the
packet-number / nonce arithmetic (C16's `pn_decode_window`, hence the import of `Props.C16`) and one packet's round trip.
Namespace `TLX.Lemmas.QuicSession`, continued from `Lemmas/QuicSession.lean`.
-/
import TLX.Lemmas.QuicSession
import TLX.Lemmas.QuicFrameSeq
import TLX.Spec.QuicSender
import TLX.Props.C16
namespace TLX.Lemmas.QuicSession
open TLX TLX.Quic TLX.Cipher TLX.Quic.Session TLX.Spec.QuicSender TLX.Spec.QuicFrames

variable {σ : Type} (P : Params σ)

/-- the decryptor object of generation `g`: the sender's keys of that generation under the selected cipher -/
def genDec (sel : SuiteSel) (v : Version) (k0 : AppKeys) (g : Nat) : Dec :=
  (genKeys (P.keyUpdate sel v) k0 g).toDec sel.alg

/-- The refinement relation for 1-RTT key epochs: the session holds exactly the generations `0 … max gc gs` of the
    sender's key chain, its per-direction epochs equal the generations the two directions have shown so far, and
    the remembered key phases are their parities. -/
structure EpochInv (sel : SuiteSel) (v : Version) (k0 : AppKeys) (s : St σ) (gc gs : Nat) : Prop where
  suite : s.suite = some sel
  version : s.version = v
  gens : s.decApp = some ((List.range (max gc gs + 1)).map (genDec P sel v k0))
  ec : s.epochClient = gc
  es : s.epochServer = gs
  lc : s.lastPhaseClient = some (gc % 2)
  ls : s.lastPhaseServer = some (gs % 2)

theorem EpochInv.transfer {sel : SuiteSel} {v : Version} {k0 : AppKeys} {s a : St σ} {gc gs : Nat}
    (h : EpochInv P sel v k0 s gc gs) (h1 : a.suite = s.suite) (h2 : a.version = s.version)
    (h3 : a.decApp = s.decApp) (h4 : a.epochClient = s.epochClient) (h5 : a.epochServer = s.epochServer)
    (h6 : a.lastPhaseClient = s.lastPhaseClient) (h7 : a.lastPhaseServer = s.lastPhaseServer) :
    EpochInv P sel v k0 a gc gs :=
  ⟨h1 ▸ h.suite, h2 ▸ h.version, h3 ▸ h.gens, h4 ▸ h.ec, h5 ▸ h.es, h6 ▸ h.lc, h7 ▸ h.ls⟩

theorem genDec_succ (sel : SuiteSel) (v : Version) (k0 : AppKeys) (m : Nat) :
    (P.keyUpdate sel v (genDec P sel v k0 m).serverSec (genDec P sel v k0 m).clientSec).toDec sel.alg
      = genDec P sel v k0 (m + 1) := rfl

theorem extendGens_inv (s : St σ) (sel : SuiteSel) (v : Version) (k0 : AppKeys) (m : Nat)
    (hs : s.suite = some sel) (hv : s.version = v)
    (hg : s.decApp = some ((List.range (m + 1)).map (genDec P sel v k0)))
    (hm : max s.epochClient s.epochServer = m ∨ max s.epochClient s.epochServer = m + 1) :
    extendGens P s =
      ({ s with decApp := some ((List.range (max s.epochClient s.epochServer + 1)).map (genDec P sel v k0)) }, none) := by
  unfold extendGens
  rw [hg]
  simp only [List.length_map, List.length_range]
  rcases hm with h | h
  · have hn : ¬ (s.epochClient = m + 1 ∨ s.epochServer = m + 1) := by omega
    rw [if_neg hn, h, ← hg]
  · have hp : (s.epochClient = m + 1 ∨ s.epochServer = m + 1) := by omega
    rw [if_pos hp, h]
    have hl : ((List.range (m + 1)).map (genDec P sel v k0)).getLast? = some (genDec P sel v k0 m) := by
      simp [List.range_succ]
    rw [hl]
    simp only [hs, hv, genDec_succ]
    congr 3
    conv => rhs; rw [List.range_succ, List.map_append]
    rfl

theorem flipEpoch_same (s : St σ) (srv : Bool) (g : Nat)
    (h : (if srv then s.lastPhaseServer else s.lastPhaseClient) = some (g % 2)) :
    flipEpoch s (some (g % 2)) srv = s := by
  unfold flipEpoch
  cases srv <;> simp_all

theorem flipEpoch_tracks (s : St σ) (gc gs : Nat) (hec : s.epochClient = gc) (hes : s.epochServer = gs)
    (hlc : s.lastPhaseClient = some (gc % 2)) (hls : s.lastPhaseServer = some (gs % 2)) (srv : Bool) (g : Nat)
    (hlo : (if srv then gs else gc) ≤ g) (hhi : g ≤ (if srv then gs else gc) + 1) :
    flipEpoch s (some (g % 2)) srv =
      { s with epochClient := if srv then gc else g, epochServer := if srv then g else gs,
               lastPhaseClient := some ((if srv then gc else g) % 2),
               lastPhaseServer := some ((if srv then g else gs) % 2) } := by
  subst hec hes
  cases srv <;> simp only [Bool.false_eq_true, if_false, if_true] at hlo hhi ⊢
  · by_cases hg : g = s.epochClient
    · subst hg; rw [flipEpoch_same s false _ (by simpa using hlc), ← hlc, ← hls]
    · obtain rfl : g = s.epochClient + 1 := by omega
      have hne : s.lastPhaseClient ≠ some ((s.epochClient + 1) % 2) := by rw [hlc]; simp; omega
      simp [flipEpoch, hne, ← hls]
  · by_cases hg : g = s.epochServer
    · subst hg; rw [flipEpoch_same s true _ (by simpa using hls), ← hlc, ← hls]
    · obtain rfl : g = s.epochServer + 1 := by omega
      have hne : s.lastPhaseServer ≠ some ((s.epochServer + 1) % 2) := by rw [hls]; simp; omega
      simp [flipEpoch, hne, ← hlc]

theorem checkKeyEpoch_tracks (sel : SuiteSel) (v : Version) (k0 : AppKeys) (s : St σ) (gc gs : Nat)
    (hinv : EpochInv P sel v k0 s gc gs) (srv : Bool) (g : Nat)
    (hlo : (if srv then gs else gc) ≤ g) (hhi : g ≤ (if srv then gs else gc) + 1) :
    ∃ s', checkKeyEpoch P s (some (g % 2)) srv = (s', none) ∧
      EpochInv P sel v k0 s' (if srv then gc else g) (if srv then g else gs) ∧ FrameSel s s' := by
  obtain ⟨hsu, hve, hge, hec, hes, hlc, hls⟩ := hinv
  have hf := flipEpoch_tracks s gc gs hec hes hlc hls srv g hlo hhi
  have he := extendGens_inv P (flipEpoch s (some (g % 2)) srv) sel v k0 (max gc gs) (by rw [hf]; exact hsu)
    (by rw [hf]; exact hve) (by rw [hf]; exact hge) (by rw [hf]; cases srv <;> simp at hlo hhi ⊢ <;> omega)
  unfold checkKeyEpoch
  rw [he, hf]
  exact ⟨_, rfl, ⟨hsu, hve, rfl, rfl, rfl, rfl, rfl⟩, ⟨_, _, _, _, _, rfl⟩⟩

theorem appDecryptor_inv (sel : SuiteSel) (v : Version) (k0 : AppKeys) (s : St σ) (gc gs : Nat)
    (hinv : EpochInv P sel v k0 s gc gs) (srv : Bool) :
    appDecryptor s srv = .ok (some (genDec P sel v k0 (if srv then gs else gc))) := by
  unfold appDecryptor
  rw [hinv.gens, hinv.ec, hinv.es]
  have hlt : (if srv then gs else gc) < max gc gs + 1 := by cases srv <;> simp <;> omega
  simp [hlt]

theorem selectDecryptor_tracks (sel : SuiteSel) (v : Version) (k0 : AppKeys) (s : St σ) (gc gs : Nat)
    (hinv : EpochInv P sel v k0 s gc gs) (p : Pkt) (g : Nat) (hh : p.htype = .short) (ht : p.ptype = .rtt1)
    (hk : p.keyPhase = some (g % 2))
    (hlo : (if p.isServer then gs else gc) ≤ g) (hhi : g ≤ (if p.isServer then gs else gc) + 1) :
    ∃ s', selectDecryptor P s p = (s', .ok (some (genDec P sel v k0 g))) ∧
      EpochInv P sel v k0 s' (if p.isServer then gc else g) (if p.isServer then g else gs) ∧ FrameSel s s' := by
  obtain ⟨s', h1, h2, h3⟩ := checkKeyEpoch_tracks P sel v k0 s gc gs hinv p.isServer g hlo hhi
  refine ⟨s', ?_, h2, h3⟩
  simp only [selectDecryptor, hh, ht, if_true, hk, h1]
  rw [appDecryptor_inv P sel v k0 s' _ _ h2]
  cases p.isServer <;> simp

/-- CRYPTO frames carried in packets of type `pt` never make the handshake parser report new data
    (1-RTT: NewSessionTicket and other post-handshake messages). -/
def TlsQuiet (pt : PType) : Prop :=
  ∀ t c, c.ptype = pt → P.tlsNewData t = false → P.tlsNewData (P.tlsUpdate t c).1 = false

/-- … and never make it raise. -/
def TlsNoRaise (pt : PType) : Prop := ∀ t c, c.ptype = pt → (P.tlsUpdate t c).2 = none

/-- what `handle_frame` may change when the parser stays quiet: CID sets, parser state (flag still clear), output -/
def FrameQ (s s' : St σ) : Prop :=
  ∃ cc sc t out, s' = { s with clientCids := cc, serverCids := sc, tls := t, out := out } ∧ P.tlsNewData t = false

theorem FrameQ.refl (s : St σ) (h : P.tlsNewData s.tls = false) : FrameQ P s s := ⟨_, _, _, _, rfl, h⟩

theorem FrameQ.trans {s a b : St σ} (h1 : FrameQ P s a) (h2 : FrameQ P a b) : FrameQ P s b := by
  obtain ⟨_, _, _, _, rfl, _⟩ := h1
  obtain ⟨_, _, _, _, rfl, h⟩ := h2
  exact ⟨_, _, _, _, rfl, h⟩

theorem FrameQ.flag {s a : St σ} (h : FrameQ P s a) : P.tlsNewData a.tls = false := by
  obtain ⟨_, _, _, _, rfl, h⟩ := h; exact h

/-- the exported entry of a parsed frame, if it is one -/
def exportOf (p : Pkt) (f : Frame.Parsed) : Option Out :=
  match f with
  | .crypto .. => some (mkOut p f)
  | .stream .. => some (mkOut p f)
  | _ => none

/-! ### `handle_frame` on anything but a CRYPTO frame: the TLS parser is not consulted -/

def isCryptoP (f : Frame.Parsed) : Bool := match f with | .crypto .. => true | _ => false

/-- connection IDs issued in the NEW_CONNECTION_ID frames of a parsed frame list -/
def ncidsP (fs : List Frame.Parsed) : List Bytes :=
  fs.filterMap fun f => match f with | .newConnectionId _ _ _ _ cid _ => some cid | _ => none

/-- the state after `handle_frame` ran over frames none of which is a CRYPTO frame -/
def afterFrames (s : St σ) (p : Pkt) (fs : List Frame.Parsed) : St σ :=
  { s with clientCids := if p.isServer then s.clientCids else (ncidsP fs).foldl setAdd s.clientCids,
           serverCids := if p.isServer then (ncidsP fs).foldl setAdd s.serverCids else s.serverCids,
           out := s.out ++ fs.filterMap (exportOf p) }

theorem afterFrames_nil (s : St σ) (p : Pkt) : afterFrames s p [] = s := by
  unfold afterFrames
  cases p.isServer <;>
    simp only [ncidsP, List.filterMap_nil, List.foldl_nil, List.append_nil, if_true, if_false, Bool.false_eq_true]

theorem afterFrames_append (s : St σ) (p : Pkt) (a b : List Frame.Parsed) :
    afterFrames (afterFrames s p a) p b = afterFrames s p (a ++ b) := by
  unfold afterFrames ncidsP
  cases p.isServer <;>
    simp only [List.filterMap_append, List.foldl_append, List.append_assoc, if_true, if_false, Bool.false_eq_true]

theorem handleFrame_crypto (s : St σ) (p : Pkt) (l off len : Nat) (data : Bytes) :
    handleFrame P s p (.crypto l off len data) = handleCrypto P s p (.crypto l off len data) (cryptoIn p off len data) := rfl

theorem handleFrame_nc (s : St σ) (p : Pkt) (f : Frame.Parsed) (h : isCryptoP f = false) :
    handleFrame P s p f = (afterFrames s p [f], none) := by
  unfold handleFrame afterFrames ncidsP exportOf
  split
  · exact Bool.noConfusion h
  · cases p.isServer <;> rfl
  · cases p.isServer <;>
      simp only [List.filterMap_cons, List.filterMap_nil, List.foldl_cons, List.foldl_nil, List.append_nil, if_true, if_false,
        Bool.false_eq_true]
  · cases p.isServer <;>
      simp only [List.filterMap_cons, List.filterMap_nil, List.foldl_nil, List.append_nil, if_true, if_false, Bool.false_eq_true]

theorem handleFrames_nc (s : St σ) (p : Pkt) (fs : List Frame.Parsed) (h : ∀ f ∈ fs, isCryptoP f = false) :
    handleFrames P s p fs = (afterFrames s p fs, none) := by
  induction fs generalizing s with
  | nil => rw [afterFrames_nil]; rfl
  | cons f fs ih =>
    rw [handleFrames, handleFrame_nc P s p f (h f (List.mem_cons_self ..))]
    exact (ih _ fun g hg => h g (List.mem_cons_of_mem _ hg)).trans (by rw [afterFrames_append]; rfl)

theorem handleFrames_ncid (s s' : St σ) (p : Pkt) (fs : List Frame.Parsed) (h : handleFrames P s p fs = (s', none))
    (l sq r cl : Nat) (cid tok : Bytes) (hf : Frame.Parsed.newConnectionId l sq r cl cid tok ∈ fs) :
    if p.isServer then cid ∈ s'.serverCids else cid ∈ s'.clientCids := by
  induction fs generalizing s with
  | nil => cases hf
  | cons f fs ih =>
    rcases List.mem_cons.mp hf with rfl | hin
    · simp only [handleFrames, handleFrame_nc P s p (.newConnectionId l sq r cl cid tok) rfl] at h
      have hm := handleFrames_cids P (afterFrames s p [.newConnectionId l sq r cl cid tok]) p fs
      rw [h] at hm
      cases hsrv : p.isServer
      · exact hm.1 _ (by simp [afterFrames, ncidsP, hsrv, mem_setAdd_self])
      · exact hm.2 _ (by simp [afterFrames, ncidsP, hsrv, mem_setAdd_self])
    · rw [handleFrames] at h
      split at h
      · cases h
      · exact ih _ h hin

theorem handleFrame_quiet (p : Pkt) (hq : TlsQuiet P p.ptype) (s : St σ) (f : Frame.Parsed)
    (hf : P.tlsNewData s.tls = false) :
    FrameQ P s (handleFrame P s p f).1 ∧
    ((handleFrame P s p f).2 = none → (handleFrame P s p f).1.out = s.out ++ [f].filterMap (exportOf p)) ∧
    (TlsNoRaise P p.ptype → (handleFrame P s p f).2 = none) := by
  cases hc : isCryptoP f
  · rw [handleFrame_nc P s p f hc]
    exact ⟨⟨_, _, _, _, rfl, hf⟩, fun _ => rfl, fun _ => rfl⟩
  · cases f <;> try (exact Bool.noConfusion hc)
    rename_i l off len data
    rw [handleFrame_crypto]
    unfold handleCrypto
    have hq' := hq s.tls (cryptoIn p off len data) rfl hf
    have hnr := fun (h : TlsNoRaise P p.ptype) => h s.tls (cryptoIn p off len data) rfl
    cases hu : P.tlsUpdate s.tls (cryptoIn p off len data) with
    | mk t e =>
      rw [hu] at hq' hnr
      simp only at hq' hnr
      cases e with
      | some e => exact ⟨⟨_, _, _, _, rfl, hq'⟩, by simp, fun h => by simpa using hnr h⟩
      | none =>
        simp only [afterTls, hq', Bool.false_eq_true, if_false]
        exact ⟨⟨_, _, _, _, rfl, hq'⟩, fun _ => rfl, fun _ => trivial⟩

theorem handleFrames_quiet (p : Pkt) (hq : TlsQuiet P p.ptype) (fs : List Frame.Parsed) (s : St σ)
    (hf : P.tlsNewData s.tls = false) :
    FrameQ P s (handleFrames P s p fs).1 ∧
    (TlsNoRaise P p.ptype → (handleFrames P s p fs).2 = none ∧
      (handleFrames P s p fs).1.out = s.out ++ fs.filterMap (exportOf p)) := by
  induction fs generalizing s with
  | nil => exact ⟨FrameQ.refl P s hf, fun _ => ⟨rfl, by simp [handleFrames]⟩⟩
  | cons f fs ih =>
    obtain ⟨h1, h2, h3⟩ := handleFrame_quiet P p hq s f hf
    unfold handleFrames
    cases hh : handleFrame P s p f with
    | mk s1 e =>
      rw [hh] at h1 h2 h3
      simp only at h1 h2 h3
      cases e with
      | some e => exact ⟨h1, fun hn => by simpa using h3 hn⟩
      | none =>
        simp only
        obtain ⟨i1, i2⟩ := ih s1 h1.flag
        refine ⟨h1.trans P i1, fun hn => ?_⟩
        obtain ⟨j1, j2⟩ := i2 hn
        refine ⟨j1, ?_⟩
        rw [j2, h2 rfl, List.append_assoc, ← List.filterMap_append]
        rfl

theorem EpochInv.of_frameQ {sel : SuiteSel} {v : Version} {k0 : AppKeys} {s a : St σ} {gc gs : Nat}
    (h : EpochInv P sel v k0 s gc gs) (hf : FrameQ P s a) : EpochInv P sel v k0 a gc gs := by
  obtain ⟨_, _, _, _, rfl, _⟩ := hf
  exact h.transfer P rfl rfl rfl rfl rfl rfl rfl

theorem EpochInv.of_framePn {sel : SuiteSel} {v : Version} {k0 : AppKeys} {s a : St σ} {gc gs : Nat}
    (h : EpochInv P sel v k0 s gc gs) (hf : FramePn s a) : EpochInv P sel v k0 a gc gs := by
  obtain ⟨_, _, rfl⟩ := hf
  exact h.transfer P rfl rfl rfl rfl rfl rfl rfl

theorem pow8 (n : Nat) : 2 ^ (8 * n) = 256 ^ n := by rw [Nat.pow_mul]

theorem pnBytes_length (n pn : Nat) : (pnBytes n pn).length = n := QuicVarint.ofNatBE_length _ _

theorem beNat_pnBytes (n pn : Nat) : Bytes.beNat (pnBytes n pn) = pn % 2 ^ (8 * n) := by
  have h : pn % 2 ^ (8 * n) < 256 ^ n := by rw [← pow8]; exact Nat.mod_lt _ (Nat.pow_pos (by omega))
  have := QuicVarint.accBE_ofNatBE 0 n (pn % 2 ^ (8 * n)) h
  simp only [Nat.zero_mul, Nat.zero_add] at this
  exact this

theorem pad_ofNatBE (k n v : Nat) (h : v < 256 ^ n) :
    List.replicate k (0 : UInt8) ++ Bytes.ofNatBE n v = Bytes.ofNatBE (k + n) v := by
  induction k with
  | zero => simp
  | succ k ih =>
    rw [show k + 1 + n = (k + n) + 1 by omega, QuicVarint.ofNatBE_succ_head]
    have hle : 256 ^ n ≤ 256 ^ (k + n) := Nat.pow_le_pow_right (by omega) (by omega)
    have hlt : v < 256 ^ (k + n) := Nat.lt_of_lt_of_le h hle
    rw [Nat.div_eq_of_lt hlt, Nat.mod_eq_of_lt hlt, ← ih]
    rfl

theorem zipWith_xor_comm (a b : Bytes) : List.zipWith (· ^^^ ·) a b = List.zipWith (· ^^^ ·) b a := by
  rw [List.zipWith_comm]
  congr 1
  funext x y
  exact UInt8.xor_comm y x

/-- the model's nonce from bytes that are the big-endian packet number on `n ≤ |iv|` bytes = RFC 9001 §5.3 -/
theorem nonceOf_be (iv : Bytes) (n pn : Nat) (hn : n ≤ iv.length) (h : pn < 256 ^ n) :
    nonceOf iv (Bytes.ofNatBE n pn) = nonce iv pn := by
  unfold nonceOf nonce
  rw [QuicVarint.ofNatBE_length, pad_ofNatBE _ _ _ h, show iv.length - n + n = iv.length by omega]
  exact zipWith_xor_comm _ _

theorem nonce_length (iv : Bytes) (pn : Nat) : (nonce iv pn).length = iv.length := by
  simp [nonce, QuicVarint.ofNatBE_length]

theorem u64_eq : u64Bound = 256 ^ 8 := by unfold u64Bound; rw [show 64 = 8 * 8 by rfl, pow8]

/-- `get_full_packet_number` on a number the sender truncated within the RFC window: the bytes it returns give the RFC
    nonce and are the packet number itself (what `set_largest_packet_number` reads back). `hiv`: the 8-byte form
    `pnResult` returns must not be longer than the IV it is XORed into (RFC 9001: 12). -/
theorem pnResult_ok_be (largest pn n : Nat) (h : PnLenOk largest pn n) (iv : Bytes) (hiv : 8 ≤ iv.length) :
    ∃ b, pnResult largest (pnBytes n pn) = .ok b ∧ nonceOf iv b = nonce iv pn ∧ Bytes.beNat b = pn := by
  obtain ⟨hn, hlo, hhi, hpn⟩ := h
  have hd := TLX.Props.C16.pn_decode_window n largest pn hn hlo hhi hpn
  unfold pnResult
  rw [pnBytes_length, beNat_pnBytes, hd]
  split
  · rename_i hs
    have ht : pn % 2 ^ (8 * n) = pn := by
      have : PktNum.implDecode (2 ^ (8 * n)) (2 ^ 62) largest (pn % 2 ^ (8 * n)) = pn % 2 ^ (8 * n) := by
        unfold PktNum.implDecode; rw [if_pos hs]
      rw [this] at hd; exact hd
    refine ⟨_, rfl, ?_, by rw [beNat_pnBytes, ht]⟩
    unfold pnBytes
    rw [ht]
    have hlt : pn < 256 ^ n := by
      rw [← pow8, ← ht]; exact Nat.mod_lt _ (Nat.pow_pos (by omega))
    exact nonceOf_be iv n pn (by omega) hlt
  · have hb : pn < u64Bound := by
      have h1 : pn < 2 ^ 62 := Nat.lt_of_le_of_lt (Nat.le_add_right _ _) hpn
      have h2 : 2 ^ 62 ≤ u64Bound := Nat.pow_le_pow_right (by omega) (by omega)
      exact Nat.lt_of_lt_of_le h1 h2
    rw [if_neg (Nat.not_le.mpr hb)]
    have hb8 : pn < 256 ^ 8 := by rw [← u64_eq]; exact hb
    refine ⟨_, rfl, nonceOf_be iv 8 pn hiv hb8, ?_⟩
    have := QuicVarint.accBE_ofNatBE 0 8 pn hb8
    simp only [Nat.zero_mul, Nat.zero_add] at this
    exact this

/-- … and the table entry becomes the maximum. -/
theorem pnResult_ok (largest pn n : Nat) (h : PnLenOk largest pn n) (iv : Bytes) (hiv : 8 ≤ iv.length) :
    (∃ b, pnResult largest (pnBytes n pn) = .ok b ∧ nonceOf iv b = nonce iv pn) ∧
    PktNum.implUpdate largest
      (PktNum.implDecode (2 ^ (8 * (pnBytes n pn).length)) (2 ^ 62) largest (Bytes.beNat (pnBytes n pn))) = max largest pn := by
  obtain ⟨b, h1, h2, _⟩ := pnResult_ok_be largest pn n h iv hiv
  refine ⟨⟨b, h1, h2⟩, ?_⟩
  obtain ⟨hn, hlo, hhi, hpn⟩ := h
  rw [pnBytes_length, beNat_pnBytes, TLX.Props.C16.pn_decode_window n largest pn hn hlo hhi hpn, TLX.Props.C16.implUpdate_eq_max]

/-! ### the sender's header is the model's AAD -/

theorem assocData_emit (sealFn : Seal) (alg : Alg) (k : DirKeys) (x : SPkt) :
    assocData (emit sealFn alg k x) = .ok (header x) := by
  cases hl : x.level <;>
    simp [assocData, emit, header, hl, cat, longHeader, shortHeader, tokenPart, Level.ptype, List.append_assoc]

def isExpQ (f : QFrame) : Bool := match f with | .stream .. => true | .crypto .. => true | _ => false

theorem exported_eq (fs : List QFrame) : exported fs = (normalize fs).filter isExpQ := rfl

theorem filterMap_export (p : Pkt) (l : List QFrame) :
    (l.map QFrame.toParsed).filterMap (exportOf p) = (l.filter isExpQ).map (fun f => mkOut p f.toParsed) := by
  have h : ∀ f : QFrame, exportOf p f.toParsed = if isExpQ f then some (mkOut p f.toParsed) else none := by
    intro f; cases f <;> rfl
  induction l with
  | nil => rfl
  | cons f l ih =>
    rw [List.map_cons, List.filterMap_cons, h, List.filter_cons, ih]
    cases isExpQ f <;> rfl

/-! ### one packet of the sender, after the decryptor was selected -/

/-- for ANY packet object whose number bytes, associated data and payload are the sender's -/
theorem decryptRest_parts (L : SealLaws P.prims) (s : St σ) (p : Pkt) (d : Dec) (k : DirKeys) (sp : Space)
    (largest pn n : Nat) (hdr : Bytes) (frames : List QFrame)
    (hdir : (if p.isServer then d.server else some d.client) = some k)
    (hsp : p.ptype.space = some sp) (hattr : hasPnAttr p = true)
    (hl : pnLargest s p.isServer sp = largest)
    (hpn : p.pn = some (pnBytes n pn)) (hlen : PnLenOk largest pn n)
    (haad : assocData p = .ok hdr)
    (hpl : p.payload = some (L.aeadSeal d.alg k.key (nonce k.iv pn) hdr 16 (encodeAll frames)))
    (hwf : WellFormedSeq frames) (hk : AeadOk d.alg k.key.length k.iv.length 16) (hiv : 8 ≤ k.iv.length) :
    decryptRest P s p (some d) =
      handleFrames P (pnStore s p.isServer sp (max largest pn)) p ((normalize frames).map QFrame.toParsed) := by
  obtain ⟨b, hb1, hb2, hb3⟩ := pnResult_ok_be largest pn n hlen k.iv hiv
  have hmax : PktNum.implUpdate largest pn = max largest pn := TLX.Props.C16.implUpdate_eq_max largest pn
  unfold decryptRest getFullPn
  simp only [hsp, hattr, Bool.not_true, Bool.false_eq_true, if_false, hpn, hl, hb1, haad]
  have hdec : decDecrypt P d p.payload b hdr p.isServer = .ok (encodeAll frames) := by
    unfold decDecrypt
    rw [hdir, hpl]
    simp only [hb2]
    exact L.open_seal _ _ _ _ _ _ (by rw [nonce_length]; exact hk)
  simp only [hdec, QuicFrameSeq.frames_roundtrip frames hwf, setLargestPn, hsp, hl, hb3, hmax]

/-! the fields of the sender's packet object -/
section Emit
variable (sealFn : Seal) (alg : Alg) (k : DirKeys) (x : SPkt)

theorem emit_isServer : (emit sealFn alg k x).isServer = x.srv := by unfold emit; split <;> rfl
theorem emit_ts : (emit sealFn alg k x).ts = x.ts := by unfold emit; split <;> rfl
theorem emit_dcid : (emit sealFn alg k x).dcid = x.dcid := by unfold emit; split <;> rfl
theorem emit_pn : (emit sealFn alg k x).pn = some (pnBytes x.pnLen x.pn) := by unfold emit; split <;> rfl
theorem emit_payload : (emit sealFn alg k x).payload = some (protectedPayload sealFn alg k x) := by unfold emit; split <;> rfl

theorem emit_ptype : (emit sealFn alg k x).ptype = x.level.ptype := by
  unfold emit
  split
  · rename_i h; rw [h]; rfl
  · rfl

theorem emit_htype : (emit sealFn alg k x).htype = if x.level = .oneRtt then .short else .long := by unfold emit; split <;> rfl

variable {x}
theorem emit_scid (hne : x.level ≠ .oneRtt) : (emit sealFn alg k x).scid = some x.scid := by unfold emit; rw [if_neg hne]
theorem emit_keyPhase (hlv : x.level = .oneRtt) : (emit sealFn alg k x).keyPhase = some (x.gen % 2) := by
  unfold emit; rw [if_pos hlv]

end Emit

theorem decryptRest_emit (L : SealLaws P.prims) (s : St σ) (d : Dec) (k : DirKeys) (x : SPkt) (sp : Space)
    (hdir : (if x.srv then d.server else some d.client) = some k) (hsp : x.level.ptype.space = some sp)
    (hpn : PnLenOk (pnLargest s x.srv sp) x.pn x.pnLen) (hwf : WellFormedSeq x.frames)
    (hk : AeadOk d.alg k.key.length k.iv.length 16) (hiv : 8 ≤ k.iv.length) :
    decryptRest P s (emit L.aeadSeal d.alg k x) (some d) =
      handleFrames P (pnStore s x.srv sp (max (pnLargest s x.srv sp) x.pn)) (emit L.aeadSeal d.alg k x)
        ((normalize x.frames).map QFrame.toParsed) := by
  have hsrv := emit_isServer L.aeadSeal d.alg k x
  have h := decryptRest_parts P L s (emit L.aeadSeal d.alg k x) d k sp _ x.pn x.pnLen (header x) x.frames
    (by rw [hsrv]; exact hdir) (by rw [emit_ptype]; exact hsp)
    (by unfold hasPnAttr; rw [emit_htype, emit_ptype]; cases x.level <;> rfl) (by rw [hsrv])
    (emit_pn ..) hpn (assocData_emit _ _ _ _) (emit_payload ..) hwf hk hiv
  rw [hsrv] at h
  exact h

/-- Assumptions on the TLS handshake parser and the key log for the handshake phase of ONE connection: the parser
    never raises, and whenever it reports new data with a client random and a cipher suite, these resolve — through
    `set_tls_decryptors`' suite selection and `dev_quic_keys` — to the connection's suite `sel` and key groups `kg`. -/
structure TlsStable (v : Version) (sel : SuiteSel) (kg : KeyGroups) : Prop where
  noRaise : ∀ t c, (P.tlsUpdate t c).2 = none
  resolves : ∀ t c cr cs, P.tlsNewData (P.tlsUpdate t c).1 = true →
    P.tlsClientRandom (P.tlsUpdate t c).1 = some cr → P.tlsCiphersuite (P.tlsUpdate t c).1 = some cs →
    selectSuite cs = some sel ∧ P.devQuicKeys sel v cr = .ok kg

/-- the decryptor the session holds for a long-header level -/
def installedDec (s : St σ) : Level → Option Dec
  | .initial => s.decInitial | .handshake => s.decHandshake | .zeroRtt => s.decEarly | .oneRtt => none

/-- the decryptors the sender's levels need (`want`) are installed -/
structure LevelInv (v : Version) (want : Level → Option Dec) (s : St σ) : Prop where
  version : s.version = v
  dec : ∀ lv d, want lv = some d → installedDec s lv = some d

/-- what `set_tls_decryptors` would (re-)install from `kg` agrees with the wanted decryptors -/
def WantOk (sel : SuiteSel) (kg : KeyGroups) (want : Level → Option Dec) : Prop :=
  (∀ d a b, want .handshake = some d → kg.hs = some (a, b) → d = { alg := sel.alg, server := some a, client := b }) ∧
  (∀ d ek, want .zeroRtt = some d → kg.early = some ek → d = { alg := sel.alg, server := none, client := ek }) ∧
  want .oneRtt = none

theorem LevelInv.of {v : Version} {want : Level → Option Dec} {s a : St σ} (h : LevelInv v want s)
    (h0 : a.version = s.version) (h1 : a.decInitial = s.decInitial)
    (h2 : ∀ d, want .handshake = some d → a.decHandshake = some d)
    (h3 : ∀ d, want .zeroRtt = some d → a.decEarly = some d) : LevelInv v want a := by
  refine ⟨h0 ▸ h.version, fun lv d hwd => ?_⟩
  cases lv with
  | initial => show a.decInitial = some d; rw [h1]; exact h.dec .initial d hwd
  | handshake => exact h2 d hwd
  | zeroRtt => exact h3 d hwd
  | oneRtt => exact h.dec .oneRtt d hwd

theorem LevelInv.transfer {v : Version} {want : Level → Option Dec} {s a : St σ} (h : LevelInv v want s)
    (h0 : a.version = s.version) (h1 : a.decInitial = s.decInitial) (h2 : a.decHandshake = s.decHandshake)
    (h3 : a.decEarly = s.decEarly) : LevelInv v want a :=
  h.of h0 h1 (fun d hd => by rw [h2]; exact h.dec .handshake d hd) (fun d hd => by rw [h3]; exact h.dec .zeroRtt d hd)

theorem installGroups_levelInv {v : Version} {want : Level → Option Dec} {sel : SuiteSel} {kg : KeyGroups}
    (hw : WantOk sel kg want) (s : St σ) (h : LevelInv v want s) : LevelInv v want (installGroups s sel kg) := by
  obtain ⟨w1, w2, _⟩ := hw
  obtain ⟨e1, _, e3⟩ := installGroups_decs s sel kg
  obtain ⟨_, _, _, _, _, _, _, _, _, _, _, heq⟩ := installGroups_frame s sel kg
  refine h.of (by rw [heq]) (by rw [heq]) (fun d hd => ?_) (fun d hd => ?_)
  · rcases e1 with e | ⟨a, b, hk, e⟩ <;> rw [e]
    · exact h.dec .handshake d hd
    · rw [w1 d a b hd hk]
  · rcases e3 with e | ⟨ek, hk, e⟩ <;> rw [e]
    · exact h.dec .zeroRtt d hd
    · rw [w2 d ek hd hk]

theorem handleCrypto_stable {v : Version} {want : Level → Option Dec} {sel : SuiteSel} {kg : KeyGroups}
    (hst : TlsStable P v sel kg) (hw : WantOk sel kg want) (s : St σ) (h : LevelInv v want s) (p : Pkt)
    (f : Frame.Parsed) (c : CryptoIn) :
    (handleCrypto P s p f c).2 = none ∧ (handleCrypto P s p f c).1.out = s.out ++ [mkOut p f] ∧
    LevelInv v want (handleCrypto P s p f c).1 := by
  unfold handleCrypto
  have hnr := hst.noRaise s.tls c
  have hres := hst.resolves s.tls c
  cases hu : P.tlsUpdate s.tls c with
  | mk t e =>
    rw [hu] at hnr hres
    simp only at hnr hres
    subst hnr
    simp only
    unfold afterTls
    simp only
    by_cases hnd : P.tlsNewData t = true
    · rw [if_pos hnd]
      cases hcr : P.tlsClientRandom t with
      | none => exact ⟨rfl, rfl, h.transfer rfl rfl rfl rfl⟩
      | some cr =>
        cases hcs : P.tlsCiphersuite t with
        | none => exact ⟨rfl, rfl, h.transfer rfl rfl rfl rfl⟩
        | some cs =>
          obtain ⟨r1, r2⟩ := hres cr cs hnd hcr hcs
          have hv : s.version = v := h.version
          subst hv
          simp only [setTlsDecryptors, r1, r2]
          have hi : LevelInv _ want (installGroups { s with tls := t, suite := some sel } sel kg) :=
            installGroups_levelInv hw _ (h.transfer rfl rfl rfl rfl)
          have ho : (installGroups { s with tls := t, suite := some sel } sel kg).out = s.out :=
            installGroups_out _ _ _
          refine ⟨by first | rfl | trivial, ?_, hi.transfer rfl rfl rfl rfl⟩
          show (installGroups _ sel kg).out ++ [mkOut p f] = s.out ++ [mkOut p f]
          rw [ho]
    · rw [if_neg hnd]
      exact ⟨rfl, rfl, h.transfer rfl rfl rfl rfl⟩

theorem handleFrames_stable {v : Version} {want : Level → Option Dec} {sel : SuiteSel} {kg : KeyGroups}
    (hst : TlsStable P v sel kg) (hw : WantOk sel kg want) (p : Pkt) (fs : List Frame.Parsed) (s : St σ)
    (h : LevelInv v want s) :
    (handleFrames P s p fs).2 = none ∧ (handleFrames P s p fs).1.out = s.out ++ fs.filterMap (exportOf p) ∧
    LevelInv v want (handleFrames P s p fs).1 := by
  induction fs generalizing s with
  | nil => exact ⟨rfl, by simp [handleFrames], h⟩
  | cons f fs ih =>
    have hf : (handleFrame P s p f).2 = none ∧ (handleFrame P s p f).1.out = s.out ++ [f].filterMap (exportOf p) ∧
        LevelInv v want (handleFrame P s p f).1 := by
      cases hc : isCryptoP f
      · rw [handleFrame_nc P s p f hc]
        exact ⟨rfl, rfl, h.transfer rfl rfl rfl rfl⟩
      · cases f <;> try (exact Bool.noConfusion hc)
        exact handleCrypto_stable P hst hw s h p _ _
    obtain ⟨a1, a2, a3⟩ := hf
    unfold handleFrames
    cases hh : handleFrame P s p f with
    | mk s1 e =>
      rw [hh] at a1 a2 a3
      simp only at a1 a2 a3
      subst a1
      simp only
      obtain ⟨i1, i2, i3⟩ := ih s1 a3
      refine ⟨i1, ?_, i3⟩
      rw [i2, a2, List.append_assoc, ← List.filterMap_append]
      rfl

end TLX.Lemmas.QuicSession
