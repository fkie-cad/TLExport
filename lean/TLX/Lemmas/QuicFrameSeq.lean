/-
Helper lemmas for C17, list level: the parse loop on the concatenated encodings of a well-formed
frame sequence. Declares `parsed_length_eq_encoded` and `normalize_same_payload` into `TLX.Props.C17` (this walk needs them);
`frames_roundtrip` has a one-line copy there.
-/
import TLX.Lemmas.QuicFrames
namespace TLX.Lemmas.QuicFrameSeq
open TLX TLX.Quic TLX.Quic.Varint TLX.Quic.Frame TLX.Spec.QuicFrames TLX.Lemmas.QuicVarint TLX.Lemmas.QuicFrames

/-- C17: the length a frame reports is the number of bytes it occupies. `toParsed` reports the length of the wire image by
    definition; only the fixed-size frames need a look. -/
theorem _root_.TLX.Props.C17.parsed_length_eq_encoded (f : QFrame) (hwf : f.wf) : f.toParsed.length = f.encode.length := by
  cases f
  case padding n => exact List.length_replicate.symm
  case pathChallenge d => exact congrArg (· + 1) (show d.length = 8 from hwf).symm
  case pathResponse d => exact congrArg (· + 1) (show d.length = 8 from hwf).symm
  all_goals rfl

theorem streamType_ne_zero (fin l o : Bool) : UInt8.ofNat (streamType fin l o) ≠ 0 := by
  cases fin <;> cases l <;> cases o <;> decide

theorem ite_ne_zero (b : Bool) {x y : UInt8} (hx : x ≠ 0) (hy : y ≠ 0) : (if b then x else y) ≠ 0 := by
  cases b <;> assumption

theorem encode_head (f : QFrame) (hnp : f.isPadding = false) : ∃ t r, f.encode = t :: r ∧ t ≠ 0 := by
  cases f
  case padding => cases hnp
  case ack l d c fr rs ecn => exact ⟨_, _, rfl, ite_ne_zero _ (by decide) (by decide)⟩
  case stream fin sid off lw data => exact ⟨_, _, rfl, streamType_ne_zero _ _ _⟩
  case maxStreams uni m => exact ⟨_, _, rfl, ite_ne_zero _ (by decide) (by decide)⟩
  case streamsBlocked uni m => exact ⟨_, _, rfl, ite_ne_zero _ (by decide) (by decide)⟩
  case connectionClose e ft lw r => exact ⟨_, _, rfl, ite_ne_zero _ (by decide) (by decide)⟩
  case datagram lw d => exact ⟨_, _, rfl, ite_ne_zero _ (by decide) (by decide)⟩
  all_goals exact ⟨_, _, rfl, by decide⟩

theorem eq_padding_of_isPadding (f : QFrame) (h : f.isPadding = true) : ∃ n, f = .padding n := by
  cases f <;> first | exact ⟨_, rfl⟩ | cases h

theorem encode_ne_nil (f : QFrame) (hwf : f.wf) : f.encode ≠ [] := by
  cases hp : f.isPadding
  · obtain ⟨t, r, h, _⟩ := encode_head f hp
    rw [h]; simp
  · obtain ⟨n, rfl⟩ := eq_padding_of_isPadding f hp
    have : 1 ≤ n := hwf
    simp [QFrame.encode]; omega

theorem encodeAll_cons (f : QFrame) (fs : List QFrame) : encodeAll (f :: fs) = f.encode ++ encodeAll fs := by
  simp [encodeAll]

theorem wfSeq_cons (f : QFrame) (rest : List QFrame) :
    WellFormedSeq (f :: rest) ↔ f.wf ∧ (rest ≠ [] → f.greedy = false) ∧ WellFormedSeq rest := by
  cases rest <;> simp [WellFormedSeq]

/-- No two PADDING runs next to each other. -/
def NoAdjPad : List QFrame → Prop
  | [] => True
  | [_] => True
  | f :: g :: rest => ¬ (f.isPadding = true ∧ g.isPadding = true) ∧ NoAdjPad (g :: rest)

theorem noAdjPad_cons (f : QFrame) (rest : List QFrame) :
    NoAdjPad (f :: rest) ↔ (f.isPadding = true → ∀ g, rest.head? = some g → g.isPadding = false) ∧ NoAdjPad rest := by
  cases rest <;> simp [NoAdjPad]

theorem parseFrames_encodeAll (gs : List QFrame) (hwf : WellFormedSeq gs) (hn : NoAdjPad gs) :
    parseFrames (encodeAll gs) = some (gs.map QFrame.toParsed) := by
  induction gs with
  | nil => simp [encodeAll, parseFrames_nil]
  | cons g rest ih =>
    obtain ⟨hg, hgr, hrest⟩ := (wfSeq_cons g rest).mp hwf
    obtain ⟨hpad, hnrest⟩ := (noAdjPad_cons g rest).mp hn
    rw [encodeAll_cons]
    have hne : g.encode ++ encodeAll rest ≠ [] := by
      intro h; exact encode_ne_nil g hg (List.append_eq_nil_iff.mp h).1
    have h1 : parseOne (g.encode ++ encodeAll rest) = some g.toParsed := by
      apply parseOne_encode g hg
      · intro hgreedy
        cases rest with
        | nil => rfl
        | cons g' r => rw [hgr (by simp)] at hgreedy; cases hgreedy
      · intro hp
        cases rest with
        | nil => simp [encodeAll]
        | cons g' r =>
          have hg' := hpad hp g' rfl
          obtain ⟨t, r', he, ht⟩ := encode_head g' hg'
          rw [encodeAll_cons, he]
          simp [ht]
    rw [parseFrames_step _ hne, h1]
    simp only [Option.bind_some, Props.C17.parsed_length_eq_encoded g hg, List.drop_left, ih hrest hnrest, Option.map_some, List.map_cons]

/-- C17: normalisation does not change the payload, only how PADDING is grouped. -/
theorem _root_.TLX.Props.C17.normalize_same_payload (fs : List QFrame) : encodeAll (normalize fs) = encodeAll fs := by
  fun_induction normalize fs with
  | case1 => rfl
  | case2 a rest b r h ih =>
    rw [h] at ih
    rw [encodeAll_cons, encodeAll_cons, ← ih, encodeAll_cons]
    simp only [QFrame.encode, ← List.replicate_append_replicate, List.append_assoc]
  | case3 a rest _ ih => rw [encodeAll_cons, encodeAll_cons, ih]
  | case4 f rest _ ih => rw [encodeAll_cons, encodeAll_cons, ih]

theorem normalize_wf (fs : List QFrame) (h : WellFormedSeq fs) : WellFormedSeq (normalize fs) := by
  fun_induction normalize fs with
  | case1 => exact h
  | case2 a rest b r hn ih =>
    obtain ⟨ha, -, hrest⟩ := (wfSeq_cons _ rest).mp h
    have ihr := (wfSeq_cons _ r).mp (hn ▸ ih hrest)
    exact (wfSeq_cons _ r).mpr ⟨Nat.le_trans ha (Nat.le_add_right a b), fun _ => rfl, ihr.2.2⟩
  | case3 a rest _ ih =>
    obtain ⟨ha, -, hrest⟩ := (wfSeq_cons _ rest).mp h
    exact (wfSeq_cons _ _).mpr ⟨ha, fun _ => rfl, ih hrest⟩
  | case4 f rest _ ih =>
    obtain ⟨hf, hgr, hrest⟩ := (wfSeq_cons f rest).mp h
    refine (wfSeq_cons f _).mpr ⟨hf, fun hne => hgr fun h0 => hne ?_, ih hrest⟩
    rw [h0]; rfl

theorem normalize_noAdjPad (fs : List QFrame) : NoAdjPad (normalize fs) := by
  fun_induction normalize fs with
  | case1 => trivial
  | case2 a rest b r hn ih =>
    rw [hn, noAdjPad_cons] at ih
    exact (noAdjPad_cons _ r).mpr ⟨fun _ => ih.1 rfl, ih.2⟩
  | case3 a rest hn ih =>
    refine (noAdjPad_cons _ _).mpr ⟨fun _ g hg => ?_, ih⟩
    cases hr : normalize rest with
    | nil => rw [hr] at hg; cases hg
    | cons g' r =>
      rw [hr] at hg
      cases hg
      cases hp : g.isPadding
      · rfl
      · obtain ⟨b, rfl⟩ := eq_padding_of_isPadding g hp
        exact absurd hr (fun h => hn b r h)
  | case4 f rest hf ih =>
    refine (noAdjPad_cons f _).mpr ⟨fun hp => ?_, ih⟩
    obtain ⟨a, rfl⟩ := eq_padding_of_isPadding f hp
    exact absurd rfl (hf a)

/-- `normalize` only merges runs of PADDING: what ignores PADDING frames does not see it. -/
theorem normalize_filterMap {β : Type} (e : QFrame → Option β) (he : ∀ n, e (.padding n) = none) (fs : List QFrame) :
    (normalize fs).filterMap e = fs.filterMap e := by
  fun_induction normalize fs with
  | case1 => rfl
  | case2 a rest b r h ih =>
    rw [h] at ih
    simp only [List.filterMap_cons, he] at ih ⊢
    exact ih
  | case3 a rest _ ih => simp only [List.filterMap_cons, he, ih]
  | case4 f rest _ ih => rw [List.filterMap_cons, List.filterMap_cons, ih]

theorem mem_normalize (fs : List QFrame) (f : QFrame) (h : f ∈ normalize fs) : f ∈ fs ∨ ∃ n, f = .padding n := by
  fun_induction normalize fs with
  | case1 => exact Or.inl h
  | case2 a rest b r hr ih =>
    rcases List.mem_cons.mp h with rfl | h
    · exact Or.inr ⟨_, rfl⟩
    · exact (ih (hr ▸ List.mem_cons_of_mem _ h)).imp_left (List.mem_cons_of_mem _)
  | case3 a rest _ ih =>
    rcases List.mem_cons.mp h with rfl | h
    · exact Or.inr ⟨_, rfl⟩
    · exact (ih h).imp_left (List.mem_cons_of_mem _)
  | case4 g rest _ ih =>
    rcases List.mem_cons.mp h with rfl | h
    · exact Or.inl (List.mem_cons_self ..)
    · exact (ih h).imp_left (List.mem_cons_of_mem _)

theorem forall_normalize (q : QFrame → Prop) (hpad : ∀ n, q (.padding n)) (fs : List QFrame) (h : ∀ f ∈ fs, q f) :
    ∀ f ∈ normalize fs, q f := by
  intro f hf
  obtain hf | ⟨n, rfl⟩ := mem_normalize fs f hf
  · exact h f hf
  · exact hpad n

theorem frames_roundtrip (fs : List QFrame) (h : WellFormedSeq fs) :
    parseFrames (encodeAll fs) = some ((normalize fs).map QFrame.toParsed) := by
  rw [← Props.C17.normalize_same_payload]
  exact parseFrames_encodeAll _ (normalize_wf fs h) (normalize_noAdjPad fs)

end TLX.Lemmas.QuicFrameSeq
