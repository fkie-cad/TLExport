/-
Helper lemmas for C17: the model's constructors invert the RFC encoder, frame type by frame type (`parseOne_encode`).
The proof follows a cursor (`Cursor.At`) through the wire image: each read of a constructor is answered by what the encoder
put at that place.
-/
import TLX.Lemmas.QuicVarint
import TLX.Spec.QuicFramesExpect
namespace TLX.Lemmas.QuicFrames
open TLX TLX.Quic TLX.Quic.Varint TLX.Quic.Frame TLX.Spec.QuicFrames TLX.Lemmas.QuicVarint TLX.Lemmas.Cursor

theorem slice_mid (p pre d tail : Bytes) (i j : Nat) (hp : p = pre ++ (d ++ tail)) (hi : i = pre.length)
    (hj : j = i + d.length) : Bytes.slice p i j = d := by
  subst hp hi
  exact ((At.append pre (d ++ tail)).field d j hj).1

/-- a payload given by an equation `hp` splits where the goal says -/
local macro "split_ok" hp:ident : tactic =>
  `(tactic| (rw [← $hp:ident]; try (simp only [List.append_assoc, List.cons_append, List.nil_append])))

theorem streamType_bits (fin l o : Bool) :
    (UInt8.ofNat (streamType fin l o)).toNat = streamType fin l o ∧
    (streamType fin l o &&& 1 != 0) = fin ∧
    ((streamType fin l o >>> 1) &&& 1 != 0) = l ∧
    ((streamType fin l o >>> 2) &&& 1 != 0) = o := by
  cases fin <;> cases l <;> cases o <;> decide +kernel

theorem ackRanges_enc {p rest : Bytes} {i : Nat} (rs : List (VI × VI)) (hrs : ∀ r ∈ rs, r.1.ok ∧ r.2.ok)
    (c : At p i (encRanges rs ++ rest)) :
    ackRanges p rs.length i = some (rs.map rangeVals, i + (encRanges rs).length) ∧
      At p (i + (encRanges rs).length) rest := by
  induction rs generalizing i with
  | nil => exact ⟨rfl, c⟩
  | cons r rs ih =>
    obtain ⟨g, l⟩ := r
    obtain ⟨hg, hl⟩ := hrs (g, l) List.mem_cons_self
    simp only [encRanges, List.append_assoc] at c
    obtain ⟨r1, c⟩ := c.vi hg
    obtain ⟨r2, c⟩ := c.vi hl
    obtain ⟨r3, c⟩ := ih (fun r hr => hrs r (List.mem_cons_of_mem _ hr)) c
    simp only [encRanges, List.length_append, VI.enc_length, ← Nat.add_assoc]
    refine ⟨?_, c⟩
    simp only [List.length_cons, ackRanges, r1, r2, r3, Option.bind_eq_bind, Option.bind_some, Option.pure_def, List.map_cons,
      rangeVals]

theorem padLen_replicate (n : Nat) (tail : Bytes) (ht : tail.head? ≠ some 0) :
    padLen (List.replicate n 0 ++ tail) = n := by
  induction n with
  | zero =>
    cases tail with
    | nil => rfl
    | cons x r =>
      have : x ≠ 0 := by intro hx; apply ht; simp [hx]
      simp [padLen, this]
  | succ n ih => simp [List.replicate_succ, padLen, ih]

theorem parseOne_cons (t : UInt8) (r : Bytes) (c : Cls) (h : lookup t.toNat = some c) :
    parseOne (t :: r) = construct c (t :: r) := by
  simp [parseOne, h]

theorem parseOne_first {p : Bytes} {t : UInt8} (c : Cls) (h0 : p[0]? = some t) (hc : lookup t.toNat = some c) :
    parseOne p = construct c p := by
  cases p with
  | nil => cases h0
  | cons t' r => cases h0; exact parseOne_cons t r c hc

theorem lookup_ite (b : Bool) {x y : UInt8} {c : Cls} (hx : lookup x.toNat = some c) (hy : lookup y.toNat = some c) :
    lookup (if b then x else y).toNat = some c :=
  match b with
  | true => hx
  | false => hy

theorem lookup_stream (fin l o : Bool) : lookup (UInt8.ofNat (streamType fin l o)).toNat = some .StreamFrame := by
  cases fin <;> cases l <;> cases o <;> decide +kernel

/-- The loop body of parse_frames on the wire image of a well-formed frame followed by anything
    (by nothing, for a frame that has no explicit length; by something that does not begin with
    another PADDING byte, for a PADDING run) constructs exactly that frame. -/
theorem parseOne_encode (f : QFrame) (hwf : f.wf) (tail : Bytes) (hg : f.greedy = true → tail = [])
    (hpad : f.isPadding = true → tail.head? ≠ some 0) :
    parseOne (f.encode ++ tail) = some f.toParsed := by
  -- Per frame type: the layout of the wire image (`hl`); the cursor collects what the reads return; the type byte
  -- selects the constructor, unfolded with these results; the frame length is where the cursor ends (`At.index`).
  generalize hp : f.encode ++ tail = p
  have hl := hp
  unfold QFrame.encode at hl
  cases f <;> simp only [List.append_assoc, List.cons_append, List.nil_append] at hl
  case padding n =>
    subst hp
    obtain ⟨m, rfl⟩ : ∃ m, n = m + 1 := ⟨n - 1, by have : 1 ≤ n := hwf; omega⟩
    refine (parseOne_cons 0 _ .PaddingFrame (by decide +kernel)).trans ?_
    exact congrArg (fun l => some (Parsed.padding l)) (padLen_replicate (m + 1) tail (hpad rfl))
  case ping => subst hp; exact parseOne_cons 1 _ .PingFrame (by decide +kernel)
  case handshakeDone => subst hp; exact parseOne_cons 30 _ .HandshakeDoneFrame (by decide +kernel)
  case ack largest delay cntW first rs ecn =>
    obtain ⟨h1, h2, h3, h4, h5, h6⟩ := hwf
    obtain ⟨r0, c⟩ := At.first hl
    obtain ⟨r1, c⟩ := c.vi h1
    obtain ⟨r2, c⟩ := c.vi h2
    obtain ⟨r3, c⟩ := c.varint h3
    obtain ⟨r4, c⟩ := c.vi h4
    obtain ⟨r5, c⟩ := ackRanges_enc rs h5 c
    rw [parseOne_first .AckFrame r0 (lookup_ite _ (by decide +kernel) (by decide +kernel))]
    show parseAck p = _
    simp only [parseAck, r0, r1, r2, r3, r4, r5, Option.bind_eq_bind, Option.bind_some, Option.pure_def]
    cases ecn with
    | none =>
      rw [if_neg (by decide), c.index hp]
      rfl
    | some e =>
      obtain ⟨a, b, d⟩ := e
      obtain ⟨ha, hb, hd⟩ : a.ok ∧ b.ok ∧ d.ok := h6
      simp only [encEcn, List.append_assoc] at c
      obtain ⟨r6, c⟩ := c.vi ha
      obtain ⟨r7, c⟩ := c.vi hb
      obtain ⟨r8, c⟩ := c.vi hd
      simp only [Option.isSome_some, if_true, UInt8.reduceToNat, r6, r7, r8, Option.bind_some]
      rw [c.index hp]
      rfl
  case resetStream sid err fs =>
    obtain ⟨h1, h2, h3⟩ := hwf
    obtain ⟨r0, c⟩ := At.first hl
    obtain ⟨r1, c⟩ := c.vi h1
    obtain ⟨r2, c⟩ := c.vi h2
    obtain ⟨r3, c⟩ := c.vi h3
    rw [parseOne_first .ResetStreamFrame r0 (by decide +kernel)]
    show parseResetStream p = _
    simp only [parseResetStream, r1, r2, r3, Option.bind_eq_bind, Option.bind_some, Option.pure_def]
    rw [c.index hp]
    rfl
  case stopSending sid err =>
    obtain ⟨h1, h2⟩ := hwf
    obtain ⟨r0, c⟩ := At.first hl
    obtain ⟨r1, c⟩ := c.vi h1
    obtain ⟨r2, c⟩ := c.vi h2
    rw [parseOne_first .StopSendingFrame r0 (by decide +kernel)]
    show parseStopSending p = _
    simp only [parseStopSending, r1, r2, Option.bind_eq_bind, Option.bind_some, Option.pure_def]
    rw [c.index hp]
    rfl
  case crypto off lenW data =>
    obtain ⟨h1, h2⟩ := hwf
    obtain ⟨r0, c⟩ := At.first hl
    obtain ⟨r1, c⟩ := c.vi h1
    obtain ⟨r2, c⟩ := c.varint h2
    obtain ⟨s1, c⟩ := c.field _ _ rfl
    rw [parseOne_first .CryptoFrame r0 (by decide +kernel)]
    show parseCrypto p = _
    simp only [parseCrypto, r1, r2, s1, Option.bind_eq_bind, Option.bind_some, Option.pure_def]
    rw [c.index hp]
    rfl
  case newToken lenW token =>
    obtain ⟨r0, c⟩ := At.first hl
    obtain ⟨r1, c⟩ := c.varint hwf
    obtain ⟨s1, c⟩ := c.field _ _ rfl
    rw [parseOne_first .NewTokenFrame r0 (by decide +kernel)]
    show parseNewToken p = _
    simp only [parseNewToken, r1, s1, Option.bind_eq_bind, Option.bind_some, Option.pure_def]
    rw [c.index hp]
    rfl
  case stream fin sid off lenW data =>
    obtain ⟨h1, h2, h3⟩ := hwf
    obtain ⟨b0, b1, b2, b3⟩ := streamType_bits fin lenW.isSome off.isSome
    obtain ⟨r0, c⟩ := At.first hl
    obtain ⟨r1, c⟩ := c.vi h1
    -- the offset, if the OFF bit says there is one
    obtain ⟨i2, r2, c⟩ : ∃ i2, readOffsetIf off.isSome p (1 + sid.w.w) = some ((optVal off).getD 0, i2) ∧
        At p i2 (encOptLen lenW data.length ++ (data ++ tail)) := by
      cases off with
      | none => exact ⟨_, rfl, c⟩
      | some o => exact ⟨_, (c.vi h2).1, (c.vi h2).2⟩
    rw [parseOne_first .StreamFrame r0 (lookup_stream _ _ _)]
    show parseStream p = _
    simp only [parseStream, r0, b0, b1, b2, b3, r1, r2, Option.bind_eq_bind, Option.bind_some, Option.pure_def]
    cases lenW with
    | none =>
      obtain rfl : tail = [] := hg rfl
      obtain ⟨s1, s2⟩ := (show At p i2 data by simpa only [encOptLen, List.nil_append, List.append_nil] using c).toEnd
      rw [if_neg nofun, s1, s2, ← hp, List.append_nil]
      rfl
    | some w =>
      obtain ⟨r3, c⟩ := c.varint (show w.fits data.length from h3)
      obtain ⟨s1, c⟩ := c.field _ _ rfl
      rw [if_pos (by rfl), r3, Option.bind_some, s1, c.index hp]
      rfl
  case maxData m =>
    obtain ⟨r0, c⟩ := At.first hl
    obtain ⟨r1, c⟩ := c.vi hwf
    rw [parseOne_first .MaxDataFrame r0 (by decide +kernel)]
    show parseMaxData p = _
    simp only [parseMaxData, r1, Option.bind_eq_bind, Option.bind_some, Option.pure_def]
    rw [c.index hp]
    rfl
  case maxStreamData sid m =>
    obtain ⟨h1, h2⟩ := hwf
    obtain ⟨r0, c⟩ := At.first hl
    obtain ⟨r1, c⟩ := c.vi h1
    obtain ⟨r2, c⟩ := c.vi h2
    rw [parseOne_first .MaxStreamDataFrame r0 (by decide +kernel)]
    show parseMaxStreamData p = _
    simp only [parseMaxStreamData, r1, r2, Option.bind_eq_bind, Option.bind_some, Option.pure_def]
    rw [c.index hp]
    rfl
  case maxStreams uni m =>
    obtain ⟨r0, c⟩ := At.first hl
    obtain ⟨r1, c⟩ := c.vi hwf
    rw [parseOne_first .MaxStreamsFrame r0 (lookup_ite _ (by decide +kernel) (by decide +kernel))]
    show parseMaxStreams p = _
    simp only [parseMaxStreams, r0, r1, Option.bind_eq_bind, Option.bind_some, Option.pure_def]
    rw [c.index hp]
    cases uni <;> rfl
  case dataBlocked m =>
    obtain ⟨r0, c⟩ := At.first hl
    obtain ⟨r1, c⟩ := c.vi hwf
    rw [parseOne_first .DataBlockedFrame r0 (by decide +kernel)]
    show parseDataBlocked p = _
    simp only [parseDataBlocked, r1, Option.bind_eq_bind, Option.bind_some, Option.pure_def]
    rw [c.index hp]
    rfl
  case streamDataBlocked sid m =>
    obtain ⟨h1, h2⟩ := hwf
    obtain ⟨r0, c⟩ := At.first hl
    obtain ⟨r1, c⟩ := c.vi h1
    obtain ⟨r2, c⟩ := c.vi h2
    rw [parseOne_first .StreamDataBlockedFrame r0 (by decide +kernel)]
    show parseStreamDataBlocked p = _
    simp only [parseStreamDataBlocked, r1, r2, Option.bind_eq_bind, Option.bind_some, Option.pure_def]
    rw [c.index hp]
    rfl
  case streamsBlocked uni m =>
    obtain ⟨r0, c⟩ := At.first hl
    obtain ⟨r1, c⟩ := c.vi hwf
    rw [parseOne_first .StreamsBlockedFrame r0 (lookup_ite _ (by decide +kernel) (by decide +kernel))]
    show parseStreamsBlocked p = _
    simp only [parseStreamsBlocked, r0, r1, Option.bind_eq_bind, Option.bind_some, Option.pure_def]
    rw [c.index hp]
    cases uni <;> rfl
  case newConnectionId seq rpt cid tok =>
    obtain ⟨h1, h2, h3, h4⟩ := hwf
    obtain ⟨r0, c⟩ := At.first hl
    obtain ⟨r1, c⟩ := c.vi h1
    obtain ⟨r2, c⟩ := c.vi h2
    have r3 := c.get
    have c := c.next
    obtain ⟨s1, c⟩ := c.field _ _ rfl
    obtain ⟨s2, c⟩ := c.field _ _ rfl
    have hcl := Bytes.toNat_ofNat cid.length h3
    rw [h4] at s2 c
    rw [parseOne_first .NewConnectionIdFrame r0 (by decide +kernel)]
    show parseNewConnectionId p = _
    simp only [parseNewConnectionId, r1, r2, r3, hcl, s1, s2, Option.bind_eq_bind, Option.bind_some, Option.pure_def]
    rw [c.index hp]
    rfl
  case retireConnectionId seq =>
    obtain ⟨r0, c⟩ := At.first hl
    obtain ⟨r1, c⟩ := c.vi hwf
    rw [parseOne_first .RetireConnectionIdFrame r0 (by decide +kernel)]
    show parseRetireConnectionId p = _
    simp only [parseRetireConnectionId, r1, Option.bind_eq_bind, Option.bind_some, Option.pure_def]
    rw [c.index hp]
    rfl
  case pathChallenge data =>
    obtain ⟨r0, c⟩ := At.first hl
    have s1 := (c.field data _ rfl).1
    rw [show data.length = 8 from hwf] at s1
    rw [parseOne_first .PathChallengeFrame r0 (by decide +kernel)]
    show some (Parsed.pathChallenge (Bytes.slice p 1 9)) = _
    rw [s1]
    rfl
  case pathResponse data =>
    obtain ⟨r0, c⟩ := At.first hl
    have s1 := (c.field data _ rfl).1
    rw [show data.length = 8 from hwf] at s1
    rw [parseOne_first .PathResponseFrame r0 (by decide +kernel)]
    show some (Parsed.pathResponse (Bytes.slice p 1 9)) = _
    rw [s1]
    rfl
  case connectionClose err ft lenW reason =>
    obtain ⟨h1, h2, h3⟩ := hwf
    obtain ⟨r0, c⟩ := At.first hl
    obtain ⟨r1, c⟩ := c.vi h1
    -- the frame type field, if the type byte says there is one
    obtain ⟨i2, r2, c⟩ : ∃ i2, readCloseTypeIf ((if ft.isSome then 28 else 29 : UInt8).toNat == 28) p (1 + err.w.w) =
        some (optVal ft, i2) ∧ At p i2 (lenW.enc reason.length ++ (reason ++ tail)) := by
      cases ft with
      | none => exact ⟨_, rfl, c⟩
      | some f => exact ⟨_, by rw [readCloseTypeIf, if_pos (by rfl), (c.vi h2).1]; rfl, (c.vi h2).2⟩
    obtain ⟨r3, c⟩ := c.varint h3
    obtain ⟨s1, c⟩ := c.field _ _ rfl
    rw [parseOne_first .ConnectionCloseFrame r0 (lookup_ite _ (by decide +kernel) (by decide +kernel))]
    show parseConnectionClose p = _
    simp only [parseConnectionClose, r0, r1, r2, r3, s1, Option.bind_eq_bind, Option.bind_some, Option.pure_def]
    rw [c.index hp]
    cases ft <;> rfl
  case datagram lenW data =>
    obtain ⟨r0, c⟩ := At.first hl
    rw [parseOne_first .DatagramFrame r0 (lookup_ite _ (by decide +kernel) (by decide +kernel))]
    show parseDatagram p = _
    cases lenW with
    | none =>
      obtain rfl : tail = [] := hg rfl
      obtain ⟨s1, -⟩ := (show At p 1 data by simpa only [encOptLen, List.nil_append, List.append_nil] using c).toEnd
      simp only [parseDatagram, r0, Option.isSome_none, Bool.false_eq_true, if_false, UInt8.reduceToNat, Nat.reduceAnd,
        Nat.reduceBEq, s1, Option.bind_eq_bind, Option.bind_some, Option.pure_def]
      rw [← hp, List.append_nil]
      rfl
    | some w =>
      obtain ⟨r1, c⟩ := c.varint (show w.fits data.length from hwf)
      obtain ⟨s1, c⟩ := c.field _ _ rfl
      simp only [parseDatagram, r0, Option.isSome_some, if_true, UInt8.reduceToNat, Nat.reduceAnd, Nat.reduceBEq, r1, s1,
        Option.bind_eq_bind, Option.bind_some, Option.pure_def]
      rw [c.index hp]
      rfl

theorem parseCrypto_enc (off : VI) (lenW : VW) (data : Bytes) (h : (QFrame.crypto off lenW data).wf) (tail : Bytes) :
    parseCrypto ((QFrame.crypto off lenW data).encode ++ tail) = some (QFrame.crypto off lenW data).toParsed :=
  (parseOne_cons 6 _ .CryptoFrame (by decide +kernel)).symm.trans (parseOne_encode _ h tail nofun nofun)

end TLX.Lemmas.QuicFrames
