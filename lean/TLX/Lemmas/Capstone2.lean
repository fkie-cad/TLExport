/-
Second part of the lemmas for the connection theorems. Packets:
blocks of packets of one direction (`released_block`, for the packet-order form of causality). TLS 1.3 handshake messages
fragmented over records: what the per-record walk of the tool saw before the repair (`walk`, `seenFins`); for the
per-direction buffer, how the records of a sender meet it (`Plan`, stated through what the loop counts and leaves; `completed`,
`hs_take`, `plan_of_conform`: a conformant sender has a plan). The streams exported with `-a` (`metaStream12`, `metaStream13`;
`stream12_true`).
-/
import TLX.Lemmas.Capstone
import TLX.Spec.TlsFragmented13
namespace TLX.Lemmas.Capstone2
section
open TLX TLX.Reassembly TLX.Lemmas.Capstone TLX.Lemmas.Pipeline TLX.Spec.TlsFraming

theorem dirSegs_none (info : Nat → Pipeline.Info) (server : MainLoop.Endpoint) (d : Bool) (pkts : List MainLoop.Pkt)
    (h : ∀ p ∈ pkts, (p.src == server) = !d) : dirSegs info server d pkts = [] := by
  unfold dirSegs
  rw [List.filter_eq_nil_iff.mpr (fun p hp => by rw [h p hp]; cases d <;> simp)]
  rfl

theorem all_dir_of_filter_nil (l : List (Session.Rec × Bool)) (d : Bool)
    (h : (l.filter fun q => q.2 == !d) = []) : ∀ q ∈ l, q.2 = d := by
  intro q hq
  have := List.filter_eq_nil_iff.mp h q hq
  cases d <;> cases hq2 : q.2 <;> simp_all

/-- a block of packets that all travel in direction `d` and deliver (in order: any cuts, duplicates, any ISN) a stream of
    whole records, fed to a connection whose reassembler of direction `d` is still in its initial state: exactly these
    records are released, all tagged `d` -/
theorem released_block (info : Nat → Pipeline.Info) (server : MainLoop.Endpoint) (R : Reassembly.St × Reassembly.St)
    (pkts : List MainLoop.Pkt) (d : Bool) (hR : (if d then R.2 else R.1) = St.init)
    (hdir : ∀ p ∈ pkts, (p.src == server) = d) (isn : Nat) (recs : List Bytes)
    (hwf : ∀ r ∈ recs, Spec.TlsConnection.WholeRecord r)
    (hd : InOrder isn recs.flatten ((dirSegs info server d pkts).map Props.C05.wire))
    (hlen : recs.flatten.length ≤ 2 ^ 31) :
    (released info server R pkts).map (·.1.raw) = recs ∧ ∀ q ∈ released info server R pkts, q.2 = d := by
  have h3 := released_filter info server R pkts (!d)
  rw [dirSegs_none info server (!d) pkts (by intro p hp; rw [hdir p hp]; simp)] at h3
  simp only [outs, List.map_eq_nil_iff] at h3
  have hall : ∀ q ∈ released info server R pkts, q.2 = d := all_dir_of_filter_nil _ d h3
  refine ⟨?_, hall⟩
  have h := released_of_run info server R pkts d 0 isn recs hR hwf hd
    (fun hw => Props.C05.reassembly_exact_inorder isn _ _ hd hw hlen)
  rwa [List.filter_eq_self.mpr (fun q hq => by simp [hall q hq])] at h

/-- packets of the other direction do not touch a direction's reassembler -/
theorem reasmFinal_other (info : Nat → Pipeline.Info) (server : MainLoop.Endpoint) (R : Reassembly.St × Reassembly.St)
    (pkts : List MainLoop.Pkt) (d : Bool) (h : ∀ p ∈ pkts, (p.src == server) = !d) :
    (if d then (reasmFinal info server R pkts).2 else (reasmFinal info server R pkts).1) = (if d then R.2 else R.1) := by
  induction pkts generalizing R with
  | nil => rfl
  | cons p ps ih =>
    simp only [reasmFinal]
    rw [ih _ (fun q hq => h q (by simp [hq]))]
    have hp := h p (by simp)
    cases d <;> simp_all [reasmPkt]

end

open TLX TLX.Cipher TLX.RecordLayer TLX.Spec.TlsSender TLX.Props.C01 TLX.Lemmas.Pipeline TLX.Spec.TlsConnection
open TLX.Lemmas.Capstone TLX.Spec.TlsFragmented13

/-- EXACTLY what `handle_decrypted_tls_13_handshake_record` looks at in a record's plaintext `p`: it starts at offset 0
    of THIS record and hops `index += 4 + int(p[index+1:index+4])` (slices clamp) while `index < len(p)`; `walk` lists
    the bytes it takes for message types. -/
def walk (p : Bytes) : Nat → Nat → List UInt8
  | 0, _ => []
  | fuel + 1, i =>
    match p[i]? with
    | none => []
    | some t => t :: walk p fuel (i + Bytes.beNat (Bytes.slice p (i + 1) (i + 4)) + 4)

/-- the number of `update_keys` calls a record with plaintext `p` triggers: the 20s among the walked type bytes -/
def seenFins (p : Bytes) : Nat := ((walk p p.length 0).filter (· = 20)).length

theorem legacy_hs13Loop_walk {δ : Type} (O : Session.Ops δ) (srv : Bool) (p : Bytes) :
    ∀ (fuel i : Nat) (d : δ),
      Session.Legacy.hs13Loop O p srv fuel i d = updFold O srv d ((walk p fuel i).map fun t => ((t, []) : HsMsg)) := by
  intro fuel
  induction fuel with
  | zero => intro i d; rfl
  | succ n ih =>
    intro i d
    rw [Session.Legacy.hs13Loop, walk]
    cases hp : p[i]? with
    | none => rfl
    | some t =>
      simp only [List.map_cons, updFold]
      by_cases h : t = 20
      · simp only [h, if_true]
        rcases hu : O.updateKeys d srv with ⟨d', ok⟩
        cases ok
        · rfl
        · simp only; rw [ih]
      · simp only [h, if_false]
        rw [ih]

theorem finCount_walk (l : List UInt8) :
    finCount (l.map fun t => ((t, []) : HsMsg)) = (l.filter (· = 20)).length :=
  finCount_types l

def evRawF (P : Prims) (L : SealLaws P) (cls : CipherClass) (ver : Bytes) (sd : SDir) : FEv → Bytes
  | .ccs => record 20 ver [1]
  | .frag b _ f => (protect P L cls ver sd 22 b f).2
  | .app pt f => (protect P L cls ver sd 23 pt f).2

def evNextF (P : Prims) (L : SealLaws P) (cls : CipherClass) (ver : Bytes) (sd : SDir) : FEv → SDir
  | .ccs => sd
  | .frag b n f => switchN n (protect P L cls ver sd 22 b f).1
  | .app pt f => (protect P L cls ver sd 23 pt f).1

theorem sendDirF_cons (P : Prims) (L : SealLaws P) (cls : CipherClass) (ver : Bytes) (sd : SDir) (e : FEv)
    (r : List FEv) :
    sendDirF P L cls ver sd (e :: r) = evRawF P L cls ver sd e :: sendDirF P L cls ver (evNextF P L cls ver sd e) r := by
  cases e <;> rfl

def costF : List FEv → Nat
  | [] => 0
  | .frag _ n _ :: r => 1 + n + costF r
  | _ :: r => 1 + costF r

theorem costF_cons (e : FEv) (r : List FEv) : costF (e :: r) = costF [e] + costF r := by
  cases e <;> simp [costF] <;> omega

/-- how the records of a fragmenting script meet the buffer: with `t` buffered, each handshake record's `fins` is the number of
    Finished messages the loop completes in `t ++ bytes` (`hsFins`), and what it leaves (`hsRem`) is buffered for the next one -/
def Plan : Bytes → List FEv → Prop
  | _, [] => True
  | t, .ccs :: r => Plan t r
  | t, .app _ _ :: r => Plan t r
  | t, .frag b n _ :: r => n = hsFins (t ++ b) ∧ Plan (hsRem (t ++ b)) r

def msgLen (m : HsMsg) : Nat := 4 + m.2.length

theorem encMsg_length (m : HsMsg) : (encMsg m).length = msgLen m := by
  simp [encMsg_eq, Lemmas.TlsHello.u24_length, msgLen]; omega

theorem encMsgs_cons (m : HsMsg) (r : List HsMsg) : encMsgs (m :: r) = encMsg m ++ encMsgs r := by simp [encMsgs]

theorem encMsgs_append (a b : List HsMsg) : encMsgs (a ++ b) = encMsgs a ++ encMsgs b := by simp [encMsgs]

/-- the messages of `rm` that fit entirely into the first `L` bytes of its encoding, and the others -/
def completed : List HsMsg → Nat → List HsMsg × List HsMsg
  | [], _ => ([], [])
  | m :: r, L =>
    if msgLen m ≤ L then (m :: (completed r (L - msgLen m)).1, (completed r (L - msgLen m)).2) else ([], m :: r)

theorem finEnds_ge (base : Nat) (m : HsMsg) (r : List HsMsg) : ∀ e ∈ finEnds base (m :: r), base + msgLen m ≤ e := by
  induction r generalizing base m with
  | nil =>
    intro e he
    simp only [finEnds, List.append_nil] at he
    split at he
    · simp only [List.mem_singleton] at he; rw [he, msgLen]; omega
    · simp at he
  | cons m' r' ih =>
    intro e he
    rw [finEnds] at he
    rcases List.mem_append.mp he with h | h
    · split at h
      · simp only [List.mem_singleton] at h; rw [h, msgLen]; omega
      · simp at h
    · have := ih (base + 4 + m.2.length) m' e h
      rw [msgLen] at *; omega

/-- the number of Finished messages ending in `(lo, base + L]` when every end of `rm` lies beyond `lo` -/
theorem completed_fins (rm : List HsMsg) (base L lo : Nat) (hlo : ∀ e ∈ finEnds base rm, lo < e) :
    ((finEnds base rm).filter fun e => decide (lo < e ∧ e ≤ base + L)).length = finCount (completed rm L).1 := by
  induction rm generalizing base L with
  | nil => simp [finEnds, completed, finCount]
  | cons m r ih =>
    unfold completed
    by_cases h : msgLen m ≤ L
    · simp only [h, if_true]
      rw [finEnds, List.filter_append, List.length_append, finCount_cons]
      have hr := ih (base + 4 + m.2.length) (L - msgLen m) (fun e he => hlo e (by rw [finEnds]; exact List.mem_append_right _ he))
      have hbl : base + 4 + m.2.length + (L - msgLen m) = base + L := by rw [msgLen] at *; omega
      rw [hbl] at hr
      rw [hr]
      congr 1
      by_cases h20 : m.1 = 20
      · have hl := hlo (base + 4 + m.2.length) (by rw [finEnds]; simp [h20])
        simp only [h20, if_true, List.filter_cons, List.filter_nil]
        have : decide (lo < base + 4 + m.2.length ∧ base + 4 + m.2.length ≤ base + L) = true := by
          rw [msgLen] at h; simp; omega
        simp [this]
      · simp [h20]
    · simp only [h, if_false, finCount, List.filter_nil, List.length_nil]
      rw [List.length_eq_zero_iff, List.filter_eq_nil_iff]
      intro e he
      have := finEnds_ge base m r e he
      simp; omega

theorem incomplete_prefix (m : HsMsg) (hm : MsgOk m) (rest : Bytes) (k : Nat) (hk : k < msgLen m) :
    Incomplete ((encMsg m ++ rest).take k) := by
  unfold Incomplete
  by_cases h4 : k < 4
  · left; rw [List.length_take]; omega
  · right
    have hlen : ((encMsg m ++ rest).take k).length = k := by
      rw [List.length_take, List.length_append, encMsg_length]; omega
    have hsl : Bytes.slice ((encMsg m ++ rest).take k) 1 4 = Spec.TlsHello.u24 m.2.length := by
      have e : (encMsg m ++ rest).take k = m.1 :: (Spec.TlsHello.u24 m.2.length ++ ((m.2 ++ rest).take (k - 4))) := by
        rw [encMsg_eq]
        have h3 := Lemmas.TlsHello.u24_length m.2.length
        generalize Spec.TlsHello.u24 m.2.length = u at *
        match u, h3 with
        | [a, b, c], _ =>
          obtain ⟨k', rfl⟩ : ∃ k', k = k' + 4 := ⟨k - 4, by omega⟩
          simp
      rw [e]
      have := slice_mid [] (Spec.TlsHello.u24 m.2.length) ((m.2 ++ rest).take (k - 4)) m.1 (Lemmas.TlsHello.u24_length _)
      simpa using this
    rw [hsl, Lemmas.TlsHello.beNat_u24 _ hm, hlen]
    rw [msgLen] at hk; omega

/-- what the loop makes of the first `n` bytes of a stream of whole messages: by the streaming law, message by message -/
theorem hs_take (msgs : List HsMsg) (hok : ∀ m ∈ msgs, MsgOk m) (n : Nat) :
    hsTypes ((encMsgs msgs).take n) = (completed msgs n).1.map (·.1) ∧
      hsRem ((encMsgs msgs).take n) = ((encMsgs msgs).take n).drop (encMsgs (completed msgs n).1).length := by
  induction msgs generalizing n with
  | nil =>
    have e : (encMsgs ([] : List HsMsg)).take n = [] := by simp [encMsgs]
    rw [e]; exact ⟨rfl, rfl⟩
  | cons m r ih =>
    have hm := hok m (by simp)
    rw [encMsgs_cons, completed]
    by_cases h : msgLen m ≤ n
    · -- the first message fits: it is walked, the rest meets an empty buffer
      obtain ⟨t1, r1, -⟩ := hs_msgs [m] (by simpa using hm) [] (.inl (by decide))
      rw [show encMsgs [m] ++ [] = encMsg m by simp [encMsgs]] at t1 r1
      obtain ⟨i1, i2⟩ := ih (fun x hx => hok x (by simp [hx])) (n - msgLen m)
      have htk : (encMsg m ++ encMsgs r).take n = encMsg m ++ (encMsgs r).take (n - msgLen m) := by
        rw [List.take_append, List.take_of_length_le (by rw [encMsg_length]; exact h), encMsg_length]
      obtain ⟨a1, a2⟩ := consume_append (encMsg m) ((encMsgs r).take (n - msgLen m))
      rw [t1, r1, List.nil_append] at a1
      rw [r1, List.nil_append] at a2
      simp only [if_pos h, htk, a1, a2, i1, i2, List.map_cons, encMsgs_cons, List.length_append, encMsg_length]
      refine ⟨rfl, ?_⟩
      rw [← encMsg_length m, ← List.drop_drop, List.drop_left]
    · have hinc := incomplete_prefix m hm (encMsgs r) n (by omega)
      have hc := consume_incomplete ((encMsg m ++ encMsgs r).take n).length _ hinc
      simp only [if_neg h, List.map_nil]
      exact ⟨congrArg Prod.fst hc, (congrArg Prod.snd hc).trans (by simp [encMsgs])⟩

theorem finEnds_pos (msgs : List HsMsg) : ∀ e ∈ finEnds 0 msgs, 0 < e := by
  cases msgs with
  | nil => nofun
  | cons m r => intro e he; have := finEnds_ge 0 m r e he; rw [msgLen] at this; omega

/-- the Finished messages the loop has seen in the first `n` stream bytes are those that end there -/
theorem hsFins_take (msgs : List HsMsg) (hok : ∀ m ∈ msgs, MsgOk m) (n : Nat) :
    hsFins ((encMsgs msgs).take n) = ((finEnds 0 msgs).filter fun e => decide (e ≤ n)).length := by
  have := completed_fins msgs 0 n 0 (finEnds_pos msgs)
  rw [Nat.zero_add] at this
  unfold hsFins
  rw [(hs_take msgs hok n).1, List.filter_map, List.length_map]
  refine Eq.trans ?_ (this.symm.trans ?_)
  · rfl
  · congr 1
    apply List.filter_congr
    intro e he
    have := finEnds_pos msgs e he
    simp only [decide_eq_decide]
    omega

theorem filter_interval (l : List Nat) (o p : Nat) (h : o ≤ p) :
    (l.filter fun e => decide (o < e ∧ e ≤ p)).length + (l.filter fun e => decide (e ≤ o)).length
      = (l.filter fun e => decide (e ≤ p)).length := by
  induction l with
  | nil => rfl
  | cons a l ih =>
    simp only [List.filter_cons]
    repeat' split
    all_goals simp only [List.length_cons, decide_eq_true_eq, not_and, Nat.not_le] at *
    all_goals omega

/-- a sender whose records' `fins` count the Finished messages ending in them (`FinsRight`), at stream offset `o` with the loop
    having been given the first `o` bytes: the Finished messages the loop completes in a record are those that end in it, because
    those it has seen after the record are those it had seen before plus these (`hsFins_append`, `hsFins_take`) -/
theorem plan_gen (msgs : List HsMsg) (hok : ∀ m ∈ msgs, MsgOk m) (l : List FEv) :
    ∀ o, hsStream l = (encMsgs msgs).drop o → FinsRight (finEnds 0 msgs) o l →
      Plan (hsRem ((encMsgs msgs).take o)) l := by
  induction l with
  | nil => intro _ _ _; trivial
  | cons e r ih =>
    intro o hstr hfr
    cases e with
    | ccs => exact ih o hstr hfr
    | app pt f => exact ih o hstr hfr
    | frag b n f =>
      simp only [hsStream] at hstr
      obtain ⟨hn, hfr'⟩ := hfr
      -- the stream up to the end of this record
      have htake : (encMsgs msgs).take (o + b.length) = (encMsgs msgs).take o ++ b := by
        rw [List.take_add, ← hstr, List.take_left]
      have hdrop : hsStream r = (encMsgs msgs).drop (o + b.length) := by
        rw [← List.drop_drop, ← hstr, List.drop_left]
      refine ⟨?_, by rw [← (consume_append _ b).2, ← htake]; exact ih _ hdrop hfr'⟩
      have h1 := hsFins_append ((encMsgs msgs).take o) b
      rw [← htake, hsFins_take msgs hok, hsFins_take msgs hok] at h1
      have h2 := filter_interval (finEnds 0 msgs) o (o + b.length) (by omega)
      rw [hn]; omega

/-- RFC-conformant fragmentation (`Spec/TlsFragmented13.FragConform`) yields a plan from the empty buffer -/
theorem plan_of_conform (l : List FEv) (h : FragConform l) : Plan [] l := by
  obtain ⟨msgs, hok, hstr, hfr, -⟩ := h
  exact plan_gen msgs hok l 0 (by rw [List.drop_zero]; exact hstr) hfr

theorem walk_msgs (ms : List HsMsg) (hok : ∀ m ∈ ms, MsgOk m) (pre : Bytes) (fuel : Nat) (hf : ms.length ≤ fuel) :
    walk (pre ++ encMsgs ms) fuel pre.length = ms.map (·.1) := by
  induction ms generalizing pre fuel with
  | nil =>
    cases fuel with
    | zero => rfl
    | succ n => simp [walk, encMsgs]
  | cons m ms ih =>
    cases fuel with
    | zero => simp at hf
    | succ n =>
      have hm : MsgOk m := hok m (by simp)
      have hlen : Bytes.beNat (Bytes.slice (pre ++ encMsgs (m :: ms)) (pre.length + 1) (pre.length + 4)) = m.2.length := by
        simp only [encMsgs, List.flatMap_cons, encMsg_eq, List.cons_append, List.append_assoc]
        rw [slice_mid _ _ _ _ (Lemmas.TlsHello.u24_length _)]
        exact Lemmas.TlsHello.beNat_u24 _ hm
      have hget : (pre ++ encMsgs (m :: ms))[pre.length]? = some m.1 := by
        simp [encMsgs, encMsg_eq]
      have hidx : pre.length + m.2.length + 4 = (pre ++ encMsg m).length := by
        simp [encMsg_eq, Lemmas.TlsHello.u24_length]; omega
      have hsplit : pre ++ encMsgs (m :: ms) = (pre ++ encMsg m) ++ encMsgs ms := by
        simp [encMsgs]
      rw [walk, hget]
      simp only [hlen, hidx, List.map_cons]
      rw [hsplit, ih (fun m' h' => hok m' (by simp [h'])) (pre ++ encMsg m) n (by simpa using hf)]

theorem count20_map (l : List HsMsg) :
    ((l.map (·.1)).filter (· = 20)).length = (l.filter fun m => m.1 = 20).length := by
  induction l with
  | nil => rfl
  | cons m r ih => by_cases h : m.1 = 20 <;> simp [h, ih]

/-- records of whole messages are in lockstep: the walk sees every message type, so it counts the Finished messages -/
theorem seenFins_whole (ms : List HsMsg) (hok : ∀ m ∈ ms, MsgOk m) : seenFins (encMsgs ms) = finCount ms := by
  have := walk_msgs ms hok [] (encMsgs ms).length (encMsgs_length_ge ms)
  simp only [List.nil_append, List.length_nil] at this
  unfold seenFins finCount
  rw [this]
  exact count20_map ms

/-- what `-a` makes one record of a TLS ≤ 1.2 script contribute to the exported stream of its direction: clear-text
    handshake and ChangeCipherSpec records verbatim; a protected handshake record as its plaintext followed by the
    record as captured; application data as plaintext only -/
def metaOf12 (raw : Bytes) : DirEv → Bytes
  | .clear _ => raw
  | .ccs => raw
  | .enc typ pt _ => if typ = 23 then pt else pt ++ raw
  | .hs13 _ _ => []

def metaStream12 (P : Prims) (L : SealLaws P) (cls : CipherClass) (ver : Bytes) : SDir → List DirEv → Bytes
  | _, [] => []
  | sd, e :: r => metaOf12 (evRaw P L cls ver sd e) e ++ metaStream12 P L cls ver (evNext P L cls ver sd e) r

theorem dirInv12_of_cc {s s' : Session.St Dec} {d : Bool} {rem : List DirEv} (h : ccOf s' d = ccOf s d)
    (hi : DirInv12 s d rem) : DirInv12 s' d rem := by
  unfold DirInv12 at hi ⊢; rw [h]; exact hi

theorem metaStream12_cons (P : Prims) (L : SealLaws P) (cls : CipherClass) (ver : Bytes) (sd : SDir) (e : DirEv)
    (r : List DirEv) :
    metaStream12 P L cls ver sd (e :: r)
      = out12 true (evRaw P L cls ver sd e) e ++ metaStream12 P L cls ver (evNext P L cls ver sd e) r := by
  cases e <;> rfl

theorem stream12_true (P : Prims) (L : SealLaws P) (cls : CipherClass) (ver : Bytes) (sd : SDir) (l : List DirEv) :
    stream12 true P L cls ver sd l = metaStream12 P L cls ver sd l := by
  induction l generalizing sd with
  | nil => rfl
  | cons e r ih => rw [stream12, ih, ← metaStream12_cons]

/-- what `-a` makes one record of a TLS 1.3 script contribute: dummy ChangeCipherSpec (and clear-text) records verbatim,
    protected handshake records NOTHING (their outer type is 23: `handle_tls_record` never appends the record), application
    data as plaintext -/
def metaOf13 (raw : Bytes) : DirEv → Bytes
  | .clear _ => raw
  | .ccs => raw
  | .enc _ pt _ => pt
  | .hs13 _ _ => []

def metaStream13 (P : Prims) (L : SealLaws P) (cls : CipherClass) (ver : Bytes) : SDir → List DirEv → Bytes
  | _, [] => []
  | sd, e :: r => metaOf13 (evRaw P L cls ver sd e) e ++ metaStream13 P L cls ver (evNext P L cls ver sd e) r

end TLX.Lemmas.Capstone2
