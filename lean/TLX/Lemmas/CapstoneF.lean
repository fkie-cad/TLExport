/-
TLS 1.3 with FRAGMENTED handshake messages, `-a` on or off: `streamF` (what each direction exports: with `-a` a dummy
ChangeCipherSpec record verbatim, a protected handshake record nothing — its outer type is 23), what one record does to the
session (`stepFm`, `kitF`). Whole-message TLS 1.3 scripts read as fragmenting ones (`evF`). Namespace `TLX.Lemmas.C01All`.
-/
import TLX.Lemmas.Capstone2
set_option autoImplicit false
namespace TLX.Lemmas.C01All
open TLX TLX.Cipher TLX.RecordLayer TLX.Spec.TlsSender TLX.Props.C01 TLX.Lemmas.Pipeline TLX.Spec.TlsConnection
open TLX.Lemmas.Capstone TLX.Lemmas.Capstone2 TLX.Props.C01Pipeline TLX.Spec.TlsFraming TLX.Spec.TlsFragmented13

/-- what one record of a fragmenting TLS 1.3 endpoint contributes to the exported stream of its direction: application data
    as plaintext; with `-a` a dummy ChangeCipherSpec record verbatim; a protected handshake record nothing -/
def outF (m : Bool) (raw : Bytes) : FEv → Bytes
  | .ccs => if m then raw else []
  | .frag _ _ _ => []
  | .app pt _ => pt

def streamF (m : Bool) (P : Prims) (L : SealLaws P) (cls : CipherClass) (ver : Bytes) : SDir → List FEv → Bytes
  | _, [] => []
  | sd, e :: r => outF m (evRawF P L cls ver sd e) e ++ streamF m P L cls ver (evNextF P L cls ver sd e) r

theorem streamF_false (P : Prims) (L : SealLaws P) (cls : CipherClass) (ver : Bytes) (sd : SDir) (l : List FEv) :
    streamF false P L cls ver sd l = plainOfF l := by
  induction l generalizing sd with
  | nil => rfl
  | cons e r ih => cases e <;> simp [streamF, outF, plainOfF, ih]

theorem stepFm (H : Crypto.Prims) (P : Prims) (L : SealLaws P) (kl : List Keylog.Key) (cls : CipherClass)
    (h13 : cls.is13 = true) (macLen : Nat) (ver : Bytes) (hv : ver.length = 2) (m : Bool) (x : Snd) (s : Session.St Dec)
    {bf : Bool → Bytes} (hs : ReadyB cls macLen x s bf) (d : Bool) (e : FEv) (rest : List FEv) (car : List Nat)
    (hplan : Plan (bf d) (e :: rest)) (hq : max x.c.seq x.s.seq + costF [e] ≤ seqLimit) :
    let s' := Session.handleRecord (Pipeline.ops H P kl) m s ⟨evRawF P L cls ver (x.get d) e, car⟩ d
    let x' := x.set d (evNextF P L cls ver (x.get d) e)
    ∃ t', ReadyB cls macLen x' s' (upd bf d t') ∧ Plan t' rest ∧
    (∀ d', dirPlain d' s'.traffic = dirPlain d' s.traffic ++
      (if d' = d then outF m (evRawF P L cls ver (x.get d) e) e else [])) ∧
    max x'.c.seq x'.s.seq ≤ max x.c.seq x.s.seq + costF [e] := by
  intro s' x'
  cases e with
  | ccs =>
    obtain ⟨a1, _, _, a4⟩ := handleRecord_ccs (Pipeline.ops H P kl) m s ⟨record 20 ver [1], car⟩ d
      (record_typ 20 ver [1] car) hs
    have hx : x' = x := set_get x d
    rw [hx]
    refine ⟨bf d, by rw [upd_same]; exact a1, hplan, fun d' => ?_, by omega⟩
    show dirPlain d' (Session.handleRecord _ m s ⟨record 20 ver [1], car⟩ d).traffic = _
    rw [a4]
    cases m
    · simp [outF]
    · exact dirPlain_push d' d s.traffic _ _ false
  | frag b n f =>
    obtain ⟨hn, hrest⟩ := hplan
    subst hn
    simp only [costF] at hq
    obtain ⟨b1, b2, b3⟩ := handleRecord_frag_any H P L kl cls h13 macLen ver hv x s hs d b f (by omega) m car
    rw [after_switches, Lemmas.RecLayer.sget_set, set_set] at b2 b3
    change max x'.c.seq x'.s.seq ≤ _ at b3
    refine ⟨_, b2, hrest, ?_, by simp only [costF]; omega⟩
    intro d'
    show dirPlain d' (Session.handleRecord _ m s ⟨(protect P L cls ver (x.get d) 22 b f).2, car⟩ d).traffic = _
    rw [b1]; simp [outF]
  | app pt f =>
    simp only [costF] at hq
    obtain ⟨c1, c2, _, _, c3, c4⟩ := handleRecord_app H P L kl cls macLen ver hv x s hs d pt f
      (sendOk_13 cls h13 macLen pt f) (by omega) m car
    change x'.c.seq ≤ _ at c3
    change x'.s.seq ≤ _ at c4
    refine ⟨bf d, by rw [upd_same]; exact c2, hplan, ?_, by simp only [costF]; exact Nat.max_le.mpr ⟨by omega, by omega⟩⟩
    intro d'
    show dirPlain d' (Session.handleRecord _ m s ⟨(protect P L cls ver (x.get d) 23 pt f).2, car⟩ d).traffic = _
    rw [c1, dirPlain_push]
    simp [outF]

/-- TLS 1.3 after the ServerHello, endpoints that fragment anywhere. One sequence number per record and one per Finished. -/
def kitF (H : Crypto.Prims) (P : Prims) (L : SealLaws P) (kl : List Keylog.Key) (cls : CipherClass)
    (h13 : cls.is13 = true) (macLen : Nat) (ver : Bytes) (hv : ver.length = 2) (m : Bool) :
    Kit (Pipeline.ops H P kl) m FEv where
  raw := evRawF P L cls ver
  next := evNextF P L cls ver
  out := fun sd e => outF m (evRawF P L cls ver sd e) e
  send := sendDirF P L cls ver
  outs := streamF m P L cls ver
  send_nil := fun _ => rfl
  send_cons := sendDirF_cons P L cls ver
  outs_nil := fun _ => rfl
  outs_cons := fun _ _ _ => rfl
  Inv := fun x s rem => ∃ bf, ReadyB cls macLen x s bf ∧ (∀ d, Plan (bf d) (rem d)) ∧
    max x.c.seq x.s.seq + (costF (rem false) + costF (rem true)) ≤ seqLimit
  step := by
    intro x s rem d e rest car ⟨bf, hs, hplan, hq⟩ hrem
    have hb := budget_upd costF costF_cons hrem
    obtain ⟨t', g1, g2, g4, g5⟩ := stepFm H P L kl cls h13 macLen ver hv m x s hs d e rest car (hrem ▸ hplan d) (by omega)
    refine ⟨⟨upd bf d t', g1, ?_, by omega⟩, g4⟩
    intro d'
    by_cases hd : d' = d
    · subst hd; simpa [upd] using g2
    · simp only [upd, hd, if_false]; exact hplan d'

/-- A TLS 1.3 endpoint that puts whole messages into each handshake record (`DirEv` under `Script13`) is a fragmenting
    endpoint. `.clear` does not occur in a `Script13`. -/
def evF : DirEv → FEv
  | .hs13 ms f => .frag (hsBytes ms) (finished ms) f
  | .enc _ pt f => .app pt f
  | _ => .ccs

def Transcript.toF (t : Transcript) : TranscriptF := ⟨t.ch, t.sh, t.rvC, t.rvS, t.ver, t.cEvs.map evF, t.sEvs.map evF⟩

theorem script13_cons {e : DirEv} {l : List DirEv} (h : Script13 (e :: l)) :
    (e = .ccs ∨ (∃ ms f, e = .hs13 ms f) ∨ ∃ pt f, e = .enc 23 pt f) ∧ Script13 l :=
  ⟨h e (List.mem_cons_self ..), fun e' he' => h e' (List.mem_cons_of_mem _ he')⟩

theorem sendDir_toF (P : Prims) (L : SealLaws P) (cls : CipherClass) (ver : Bytes) (l : List DirEv) (h : Script13 l) :
    ∀ sd, sendDir P L cls ver sd l = sendDirF P L cls ver sd (l.map evF) := by
  induction l with
  | nil => intro _; rfl
  | cons e r ih =>
    intro sd
    obtain ⟨he, hr⟩ := script13_cons h
    rcases he with rfl | ⟨ms, f, rfl⟩ | ⟨pt, f, rfl⟩ <;> simp only [sendDir, List.map_cons, evF, sendDirF, ih hr]

theorem records_toF (P : Prims) (L : SealLaws P) (cls : CipherClass) (x : Snd) (t : Transcript) (hsc : Script13 t.cEvs)
    (hss : Script13 t.sEvs) (d : Bool) : t.records P L cls x d = (Transcript.toF t).records P L cls x d := by
  cases d
  · simp only [Transcript.records, TranscriptF.records, Bool.false_eq_true, if_false, sendDir_toF P L cls t.ver _ hsc,
      Transcript.toF, Transcript.chRecord, TranscriptF.chRecord]
  · simp only [Transcript.records, TranscriptF.records, if_true, sendDir_toF P L cls t.ver _ hss,
      Transcript.toF, Transcript.shRecord, TranscriptF.shRecord]

theorem cost_toF (l : List DirEv) (h : Script13 l) : cost l = costF (l.map evF) := by
  induction l with
  | nil => rfl
  | cons e r ih =>
    obtain ⟨he, hr⟩ := script13_cons h
    rcases he with rfl | ⟨ms, f, rfl⟩ | ⟨pt, f, rfl⟩ <;> simp only [cost, List.map_cons, evF, costF, ih hr]

theorem plainOf_toF (l : List DirEv) (h : Script13 l) : Spec.TlsConnection.plainOf l = plainOfF (l.map evF) := by
  induction l with
  | nil => rfl
  | cons e r ih =>
    obtain ⟨he, hr⟩ := script13_cons h
    rcases he with rfl | ⟨ms, f, rfl⟩ | ⟨pt, f, rfl⟩ <;>
      simp [Spec.TlsConnection.plainOf, List.map_cons, evF, plainOfF, ih hr]

/-- `metaStream13` is the name under which the statements for `-a` put `streamF true` of a whole-message script -/
theorem metaStream13_toF (P : Prims) (L : SealLaws P) (cls : CipherClass) (ver : Bytes) (l : List DirEv)
    (h : Script13 l) : ∀ sd, metaStream13 P L cls ver sd l = streamF true P L cls ver sd (l.map evF) := by
  induction l with
  | nil => intro _; rfl
  | cons e r ih =>
    intro sd
    obtain ⟨he, hr⟩ := script13_cons h
    rcases he with rfl | ⟨ms, f, rfl⟩ | ⟨pt, f, rfl⟩ <;>
      simp [metaStream13, metaOf13, List.map_cons, evF, streamF, outF, evRaw, evNext, evRawF, evNextF, ih hr]

theorem plan_toF (cls : CipherClass) (macLen : Nat) (l : List DirEv) (h : Script13 l)
    (hok : ∀ e ∈ l, EvOk1 cls macLen e) : Plan [] (l.map evF) := by
  induction l with
  | nil => trivial
  | cons e r ih =>
    obtain ⟨he, hr⟩ := script13_cons h
    have ih' := ih hr (fun e' he' => hok e' (List.mem_cons_of_mem _ he'))
    rcases he with rfl | ⟨ms, f, rfl⟩ | ⟨pt, f, rfl⟩
    · exact ih'
    · obtain ⟨-, e1, e2⟩ := hs_msgs ms (hok _ (List.mem_cons_self ..)) [] (.inl (by decide))
      rw [List.append_nil] at e1 e2
      exact ⟨e2.symm, by rw [List.nil_append]; exact e1 ▸ ih'⟩
    · exact ih'

end TLX.Lemmas.C01All
