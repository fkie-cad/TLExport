/-
`byte_eval`: runs the field accessors of the model (`Dissect.u8/u16/u32`) and of the receiver specification
(`Spec.FrameParse.u8/u16/u32`, `Spec.Rfc1071.words`) over a header written out as a list of bytes — these accessors and the
encoder's `be2` / `be4` are all the file knows of model and specification; `be2_eq`, `be4_eq`: the arithmetic that is left.
Core Lean only.
-/
import TLX.Dissect
import TLX.Spec.FrameBuild
import TLX.Spec.FrameParse
import TLX.Spec.Rfc1071
namespace TLX.Lemmas.ByteEval
open TLX

/-- two / four big-endian bytes recombine to the number they were cut from -/
theorem be2_eq (n : Nat) (h : n < 65536) : n / 256 % 256 * 256 + n % 256 = n := by omega

theorem be4_eq (n : Nat) (h : n < 4294967296) :
    ((n / 16777216 % 256 * 256 + n / 65536 % 256) * 256 + n / 256 % 256) * 256 + n % 256 = n := by omega

theorem be4_eq' (n : Nat) (h : n < 4294967296) :
    (n / 16777216 % 256 * 256 + n / 65536 % 256) * 65536 + (n / 256 % 256 * 256 + n % 256) = n := by omega

theorem len6 (b : Bytes) (h : b.length = 6) : ∃ a0 a1 a2 a3 a4 a5, b = [a0, a1, a2, a3, a4, a5] := by
  match b, h with
  | [a0, a1, a2, a3, a4, a5], _ => exact ⟨a0, a1, a2, a3, a4, a5, rfl⟩

/-- an Ethernet II header in front of `D`, as the model's accessors and those of the receiver specification read it -/
theorem eth_header {buf : Bytes} (dm sm D : Bytes) (t0 t1 : UInt8) (hd : dm.length = 6) (hs : sm.length = 6)
    (hbuf : buf = dm ++ sm ++ [t0, t1] ++ D) :
    ¬ buf.length < 14 ∧ buf.take 6 = dm ∧ buf.slice 6 12 = sm ∧ Dissect.u16 buf 12 = t0.toNat * 256 + t1.toNat ∧
      Spec.FrameParse.u16 buf 12 = t0.toNat * 256 + t1.toNat ∧ buf.drop 14 = D := by
  obtain ⟨a0, a1, a2, a3, a4, a5, rfl⟩ := len6 dm hd
  obtain ⟨b0, b1, b2, b3, b4, b5, rfl⟩ := len6 sm hs
  subst hbuf
  simp [Dissect.u16, Spec.FrameParse.u16, Spec.FrameParse.u8, Bytes.slice, Bytes.beNat]

end TLX.Lemmas.ByteEval

/-- list and literal computation only, on an unfolded header (plain `simp` gets there too, but slowly) -/
macro "byte_eval" : tactic =>
  `(tactic| simp only [TLX.Bytes.ofNatBE, TLX.Spec.FrameBuild.be2, TLX.Spec.FrameBuild.be4, TLX.Bytes.slice,
      TLX.Bytes.beNat, TLX.Dissect.u8, TLX.Dissect.u16, TLX.Dissect.u32, TLX.Spec.FrameParse.u8, TLX.Spec.FrameParse.u16,
      TLX.Spec.FrameParse.u32, TLX.Spec.Rfc1071.words,
      List.cons_append, List.nil_append, List.append_assoc, List.getD_cons_zero, List.getD_cons_succ,
      List.getElem?_cons_zero, List.getElem?_cons_succ, Option.map_some, Option.getD_some, List.drop_succ_cons,
      List.drop_zero, List.take_succ_cons, List.take_zero, List.foldl_cons, List.foldl_nil,
      UInt8.toNat_ofNat', UInt8.toNat_zero, Nat.reducePow, Nat.reduceDiv, Nat.reduceMod, Nat.reduceMul, Nat.reduceAdd,
      Nat.reduceSub, Nat.div_div_eq_div_mul, Nat.mod_mod, Nat.zero_mul, Nat.zero_add, Nat.add_zero,
      and_true, true_and])
