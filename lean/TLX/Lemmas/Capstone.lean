/-
Lemmas for `Props/C01Capstone.lean`: the per-connection pipeline against the connection transcript
(`Spec/TlsConnection`). The records released for a direction are that direction's reassembly run (`released_of_run`); one
record of a TLS ≤ 1.2 script through `handle_tls_record`, with `-a` or without (`step12`); a kind of script as a
structure (`Kit`, instance `kit12`) and the session over an arbitrary interleaving of the two directions (`Kit.run`); the
two hello records (`hello_pair_ready`). Defined here: `dirSegs`, `dirPlain`, `evRaw`/`evNext`, `EvOk1`, `DirInv12`,
`out12`/`stream12`, `cost`.
-/
import TLX.Props.C01Pipeline
import TLX.Props.C05
import TLX.Spec.TlsConnection
import TLX.Props.C07
namespace TLX.Lemmas.Capstone
section
open TLX TLX.Reassembly

/-- the records handed on packet by packet when `out` is cleared before every step (as `Pipeline.feedPkt` does) -/
def outs (W : Nat) : Reassembly.St → List Seg → List Reassembly.Rec
  | _, [] => []
  | st, p :: ps => (stepW W { st with out := [] } p).out ++ outs W (stepW W { st with out := [] } p) ps

theorem deliver_reset (W : Nat) (st : Reassembly.St) (base : Nat) (buf : List Seg) :
    deliver W st base buf =
      { deliver W { st with out := [] } base buf with out := st.out ++ (deliver W { st with out := [] } base buf).out } := by
  unfold deliver
  split
  · simp
  · split
    · simp
    · split
      · simp
      · split <;> simp

theorem stepW_reset (W : Nat) (st : Reassembly.St) (p : Seg) :
    stepW W st p =
      { stepW W { st with out := [] } p with out := st.out ++ (stepW W { st with out := [] } p).out } := by
  unfold stepW
  split
  · simp
  · unfold extract
    simp only
    split
    · simp
    · rw [deliver_reset]

theorem outs_out_irrel (W : Nat) (st : Reassembly.St) (o : List Reassembly.Rec) (segs : List Seg) :
    outs W { st with out := o } segs = outs W st segs := by
  cases segs <;> rfl

theorem foldl_stepW_out (W : Nat) (st : Reassembly.St) (segs : List Seg) :
    (segs.foldl (stepW W) st).out = st.out ++ outs W st segs := by
  induction segs generalizing st with
  | nil => simp [outs]
  | cons p ps ih =>
    simp only [List.foldl_cons, outs]
    rw [ih, stepW_reset W st p]
    simp only [List.append_assoc]
    rw [outs_out_irrel]

theorem run_eq_outs (segs : List Seg) (hne : ∀ p ∈ segs, p.data ≠ []) :
    Reassembly.run segs = outs (2 ^ 32) St.init segs := by
  have hfold : ∀ (st : Reassembly.St), segs.foldl (ingestW (2 ^ 32)) st = segs.foldl (stepW (2 ^ 32)) st := by
    induction segs with
    | nil => intro st; rfl
    | cons p ps ih =>
      intro st
      have hp : p.data.isEmpty = false := by
        have := hne p (by simp)
        cases hd : p.data with
        | nil => exact absurd hd this
        | cons _ _ => rfl
      simp only [List.foldl_cons, ingestW, hp, Bool.false_eq_true, if_false]
      exact ih (fun q hq => hne q (by simp [hq])) _
  unfold Reassembly.run runW
  rw [hfold, foldl_stepW_out]
  rfl

open TLX.Lemmas.Pipeline in
/-- the TCP segments of one direction of a connection as the session sees them, in capture order -/
def dirSegs (info : Nat → Pipeline.Info) (server : MainLoop.Endpoint) (d : Bool) (pkts : List MainLoop.Pkt) : List Seg :=
  (pkts.filter fun p => (p.src == server) == d).map fun p => ⟨p.tag, (info p.tag).seq, p.payload⟩

open TLX.Lemmas.Pipeline in
theorem released_filter (info : Nat → Pipeline.Info) (server : MainLoop.Endpoint) (R : Reassembly.St × Reassembly.St)
    (pkts : List MainLoop.Pkt) (d : Bool) :
    ((released info server R pkts).filter fun r => r.2 == d).map (fun r => ((r.1.raw, r.1.carriers) : Reassembly.Rec))
      = outs (2 ^ 32) (if d then R.2 else R.1) (dirSegs info server d pkts) := by
  induction pkts generalizing R with
  | nil => rfl
  | cons p ps ih =>
    -- a packet's records all carry the packet's direction, and only that direction's reassembler moves
    simp only [released, List.filter_append, List.map_append, ih, dirSegs, List.filter_cons]
    cases hs : p.src == server <;> cases d <;>
      simp [reasmPkt, hs, outs, Reassembly.step, List.filter_map, Function.comp_def, List.map_map]

open TLX.Spec.TlsFraming TLX.Lemmas.Framing in
theorem frame_flatten (recs : List Bytes) (hwf : ∀ r ∈ recs, Spec.TlsConnection.WholeRecord r) :
    frame recs.flatten = recs ∧ WholeRecords recs.flatten := by
  have hwf' : ∀ r ∈ recs, WF r := fun r hr => ⟨(hwf r hr).1, by rw [recLen_eq_hdr r (hwf r hr).1]; exact (hwf r hr).2.symm⟩
  have h := frame_of_scanD _ _ (scanD_flatten recs hwf')
  exact ⟨h, by unfold WholeRecords; rw [h]⟩

open TLX.Lemmas.Pipeline in
theorem released_dir_run (info : Nat → Pipeline.Info) (server : MainLoop.Endpoint) (R : Reassembly.St × Reassembly.St)
    (pkts : List MainLoop.Pkt) (d : Bool) (hR : (if d then R.2 else R.1) = St.init)
    (hne : ∀ p ∈ dirSegs info server d pkts, p.data ≠ []) :
    ((released info server R pkts).filter fun r => r.2 == d).map (·.1.raw) =
      (Reassembly.run (dirSegs info server d pkts)).map (·.1) := by
  have h := released_filter info server R pkts d
  rw [hR] at h
  rw [run_eq_outs _ hne, ← h, List.map_map]
  rfl

open TLX.Spec.TlsFraming TLX.Lemmas.Pipeline in
/-- `hrun` is the conclusion of `Props.C05.reassembly_exact_inorder` / `_partial` on the direction's segments (the callers
    `released_inorder`, `released_displaced` supply it). -/
theorem released_of_run (info : Nat → Pipeline.Info) (server : MainLoop.Endpoint) (R : Reassembly.St × Reassembly.St)
    (pkts : List MainLoop.Pkt) (d : Bool) (k isn : Nat) (recs : List Bytes) (hR : (if d then R.2 else R.1) = St.init)
    (hwf : ∀ r ∈ recs, Spec.TlsConnection.WholeRecord r)
    (hd : Delivers k isn recs.flatten ((dirSegs info server d pkts).map Props.C05.wire))
    (hrun : WholeRecords recs.flatten →
      (Reassembly.run (dirSegs info server d pkts)).map (·.1) = frame recs.flatten) :
    ((released info server R pkts).filter fun r => r.2 == d).map (·.1.raw) = recs := by
  obtain ⟨hfr, hwhole⟩ := frame_flatten recs hwf
  have hne : ∀ p ∈ dirSegs info server d pkts, p.data ≠ [] := by
    obtain ⟨chunks, hcut, hmem⟩ := Lemmas.Delivery.delivers_mem hd
    exact fun p hp => (Lemmas.Delivery.copy_of_cut hcut isn p ((hmem _).mp (List.mem_map_of_mem hp))).1
  rw [released_dir_run info server R pkts d hR hne, hrun hwhole, hfr]

end

open TLX TLX.Cipher TLX.RecordLayer TLX.Spec.TlsSender TLX.Props.C01 TLX.Lemmas.Pipeline TLX.Spec.TlsConnection
open TLX.Props.C01Pipeline

/-- the exported bytes of one direction of a traffic list (what `OutputBuilder` will spread over segments) -/
def dirPlain (d : Bool) (tr : List Session.Entry) : Bytes :=
  (tr.filter fun e => e.fromServer == d).flatMap fun e => e.data.getD TcpOut.placeholder

theorem dirBytes_toRec (ts : Nat → Nat) (d : Bool) (tr : List Session.Entry) :
    Props.C06.dirBytes d (tr.map (toRec ts)) = dirPlain d tr := by
  induction tr with
  | nil => rfl
  | cons e es ih =>
    simp only [Props.C06.dirBytes, dirPlain, List.map_cons, List.filter_cons] at ih ⊢
    by_cases h : e.fromServer = d
    · simp [toRec, h, TcpOut.Rec.bytes, ih]
    · have h' : (e.fromServer == d) = false := by simpa using h
      simp [toRec, h', ih]

theorem dirPlain_append (d : Bool) (a b : List Session.Entry) : dirPlain d (a ++ b) = dirPlain d a ++ dirPlain d b := by
  simp [dirPlain, List.filter_append]

theorem set_get (x : Snd) (d : Bool) : x.set d (x.get d) = x := by cases d <;> rfl

/-- the record an endpoint in cipher state `sd` sends for `e` (`evNext`: its cipher state afterwards) -/
def evRaw (P : Prims) (L : SealLaws P) (cls : CipherClass) (ver : Bytes) (sd : SDir) : DirEv → Bytes
  | .clear body => record 22 ver body
  | .ccs => record 20 ver [1]
  | .enc typ pt f => (protect P L cls ver sd typ pt f).2
  | .hs13 ms f => (protect P L cls ver sd 22 (hsBytes ms) f).2

def evNext (P : Prims) (L : SealLaws P) (cls : CipherClass) (ver : Bytes) (sd : SDir) : DirEv → SDir
  | .clear _ => sd
  | .ccs => sd
  | .enc typ pt f => (protect P L cls ver sd typ pt f).1
  | .hs13 ms f => switchN (finished ms) (protect P L cls ver sd 22 (hsBytes ms) f).1

theorem sendDir_cons (P : Prims) (L : SealLaws P) (cls : CipherClass) (ver : Bytes) (sd : SDir) (e : DirEv)
    (r : List DirEv) :
    sendDir P L cls ver sd (e :: r) = evRaw P L cls ver sd e :: sendDir P L cls ver (evNext P L cls ver sd e) r := by
  cases e <;> rfl

/-- what the RFCs require of the protected records of a script (`Props.C01.SendOk`; uint24 message lengths) -/
def EvOk1 (cls : CipherClass) (macLen : Nat) : DirEv → Prop
  | .enc _ pt f => SendOk cls macLen pt f
  | .hs13 ms _ => ∀ m ∈ ms, MsgOk m
  | _ => True

instance (cls : CipherClass) (macLen : Nat) (e : DirEv) : Decidable (EvOk1 cls macLen e) := by
  cases e <;> unfold EvOk1 <;> infer_instance

/-- a clear-text handshake record that is no hello, from a side whose ChangeCipherSpec has not been seen (or before any
    decryptor exists) -/
theorem handle_clear (O : Session.Ops Dec) (m : Bool) (s : Session.St Dec) (ver body : Bytes) (hv : ver.length = 2)
    (car : List Nat) (d : Bool) (hb : ∀ t ∈ body.head?, t ≠ 1 ∧ t ≠ 2) (h : s.dec = none ∨ ccOf s d = false) :
    Session.handleRecord O m s ⟨record 22 ver body, car⟩ d = Session.pushMeta m s ⟨record 22 ver body, car⟩ d := by
  have hfin : (Session.handshakeFinished O m s ⟨record 22 ver body, car⟩ d).st = s := by
    unfold Session.handshakeFinished
    cases hdec : s.dec with
    | none => rfl
    | some dd =>
      have hcc : ccOf s d = false := h.resolve_left (by rw [hdec]; simp)
      have hgate : (s.srvCC && d && s.canDecrypt || s.cliCC && !d && s.canDecrypt) = false := by
        cases d <;> simp only [ccOf, if_true, Bool.false_eq_true, if_false] at hcc <;> simp [hcc]
      simp only [hgate, Bool.false_eq_true, if_false]
      cases m <;> rfl
  rw [Session.handleRecord_handshake O m s _ d (record_typ 22 ver body car)]
  congr 1
  unfold Session.handshakeRecord
  split
  · rw [Session.tryExcept_id_st]; exact hfin
  · rw [record_body 22 ver body car hv]
    cases body with
    | nil => rfl
    | cons t rest =>
      simp only [(hb t (by simp)).1, (hb t (by simp)).2, if_false]
      rw [Session.tryExcept_id_st]; exact hfin

def AllEnc12 (l : List DirEv) : Prop := ∀ e ∈ l, ∃ typ pt f, e = DirEv.enc typ pt f ∧ (typ = 22 ∨ typ = 23)

/-- where a side is in its script, as the session's ChangeCipherSpec flag tells -/
def DirInv12 (s : Session.St Dec) (d : Bool) (rem : List DirEv) : Prop :=
  (ccOf s d = false ∧ Script12 rem) ∨ (ccOf s d = true ∧ AllEnc12 rem)

theorem ccOf_of_flags {s s' : Session.St Dec} (h1 : s'.srvCC = s.srvCC) (h2 : s'.cliCC = s.cliCC) (d : Bool) :
    ccOf s' d = ccOf s d := by
  cases d <;> simp [ccOf, h1, h2]

theorem dirPlain_added (d' d : Bool) (tr l : List Session.Entry) (h : ∀ e ∈ l, e.fromServer = d) :
    dirPlain d' (tr ++ l)
      = dirPlain d' tr ++ if d' = d then l.flatMap (fun e => e.data.getD TcpOut.placeholder) else [] := by
  rw [dirPlain_append]
  congr 1
  by_cases hd : d' = d
  · subst hd
    rw [if_pos rfl, dirPlain, List.filter_eq_self.mpr (fun e he => by simp [h e he])]
  · have hf : l.filter (fun e => e.fromServer == d') = [] :=
      List.filter_eq_nil_iff.mpr (fun e he => by simpa [h e he] using fun h' => hd h'.symm)
    rw [if_neg hd, dirPlain, hf]; rfl

theorem dirPlain_push (d' d : Bool) (tr : List Session.Entry) (pt : Bytes) (r : Session.Rec) (a : Bool) :
    dirPlain d' (tr ++ [⟨some pt, r, d, a⟩]) = dirPlain d' tr ++ (if d' = d then pt else []) := by
  simpa using dirPlain_added d' d tr [⟨some pt, r, d, a⟩] (by simp)

theorem dirPlain_pushMeta (d' : Bool) (m : Bool) (s : Session.St Dec) (r : Session.Rec) (d : Bool) :
    dirPlain d' (Session.pushMeta m s r d).traffic
      = dirPlain d' s.traffic ++ if d' = d then (if m then r.raw else []) else [] := by
  cases m
  · simp [Session.pushMeta]
  · exact dirPlain_push d' d s.traffic _ _ false

theorem DirInv12.cons {s : Session.St Dec} {d : Bool} {e : DirEv} {rem : List DirEv} (h : DirInv12 s d (e :: rem)) :
    (ccOf s d = false ∧ ((∃ b, e = .clear b ∧ (∀ t ∈ b.head?, t ≠ 1 ∧ t ≠ 2) ∧ Script12 rem) ∨
      (e = .ccs ∧ AllEnc12 rem))) ∨
    (ccOf s d = true ∧ (∃ typ pt f, e = .enc typ pt f ∧ (typ = 22 ∨ typ = 23)) ∧ AllEnc12 rem) := by
  rcases h with ⟨hcc, cl, rest, hl, hcl, hrest⟩ | ⟨hcc, hall⟩
  · refine Or.inl ⟨hcc, ?_⟩
    cases cl with
    | nil =>
      simp only [List.map_nil, List.nil_append, List.cons.injEq] at hl
      exact Or.inr ⟨hl.1, hl.2 ▸ hrest⟩
    | cons b cl' =>
      simp only [List.map_cons, List.cons_append, List.cons.injEq] at hl
      exact Or.inl ⟨b, hl.1, hcl b (by simp), cl', rest, hl.2, fun b' hb' => hcl b' (by simp [hb']), hrest⟩
  · exact Or.inr ⟨hcc, hall e (List.mem_cons_self ..), fun e' he' => hall e' (List.mem_cons_of_mem _ he')⟩

/-- what one record of a TLS ≤ 1.2 script contributes to the exported stream of its direction, `raw` being the record as
    captured: application data as plaintext; with `-a` (`m`) also clear-text handshake and ChangeCipherSpec records
    verbatim and a protected handshake record as its plaintext followed by the record -/
def out12 (m : Bool) (raw : Bytes) : DirEv → Bytes
  | .enc typ pt _ => if typ = 23 then pt else if m then pt ++ raw else []
  | .hs13 _ _ => []
  | _ => if m then raw else []

theorem plainOf_cons (e : DirEv) (r : List DirEv) :
    Spec.TlsConnection.plainOf (e :: r) = Spec.TlsConnection.plainOf [e] ++ Spec.TlsConnection.plainOf r := by
  cases e <;> simp [Spec.TlsConnection.plainOf]
  split <;> simp

theorem plainOf_out12 (raw : Bytes) (e : DirEv) (r : List DirEv) :
    Spec.TlsConnection.plainOf (e :: r) = out12 false raw e ++ Spec.TlsConnection.plainOf r := by
  rw [plainOf_cons]
  cases e <;> simp [out12, Spec.TlsConnection.plainOf]

theorem step12 (H : Crypto.Prims) (P : Prims) (L : SealLaws P) (kl : List Keylog.Key) (cls : CipherClass)
    (h13 : cls.is13 = false) (macLen : Nat) (ver : Bytes) (hv : ver.length = 2) (m : Bool) (x : Snd) (s : Session.St Dec)
    (hs : Ready cls macLen x s) (d : Bool) (e : DirEv) (rem : List DirEv) (car : List Nat)
    (hinv : DirInv12 s d (e :: rem)) (hok : EvOk1 cls macLen e) (hq : x.c.seq < seqLimit ∧ x.s.seq < seqLimit) :
    let s' := Session.handleRecord (Pipeline.ops H P kl) m s ⟨evRaw P L cls ver (x.get d) e, car⟩ d
    let x' := x.set d (evNext P L cls ver (x.get d) e)
    Ready cls macLen x' s' ∧ DirInv12 s' d rem ∧ ccOf s' (!d) = ccOf s (!d) ∧
    (∀ d', dirPlain d' s'.traffic = dirPlain d' s.traffic ++
      (if d' = d then out12 m (evRaw P L cls ver (x.get d) e) e else [])) ∧
    x'.c.seq ≤ max x.c.seq x.s.seq + 1 ∧ x'.s.seq ≤ max x.c.seq x.s.seq + 1 := by
  intro s' x'
  rcases hinv.cons with ⟨hcc, ⟨b, rfl, hb, hsc⟩ | ⟨rfl, hall⟩⟩ | ⟨hcc, ⟨typ, pt, f, rfl, htyp⟩, hall⟩
  · have hpush : s' = Session.pushMeta m s ⟨record 22 ver b, car⟩ d :=
      handle_clear _ m s ver b hv car d hb (Or.inr hcc)
    have hx : x' = x := set_get x d
    rw [hpush, hx]
    exact ⟨hs.pushMeta m _ d, Or.inl ⟨(ccOf_pushMeta ..).trans hcc, hsc⟩, ccOf_pushMeta .., fun d' => dirPlain_pushMeta ..,
      by omega, by omega⟩
  · obtain ⟨a1, a2, a3, a4⟩ := handleRecord_ccs (Pipeline.ops H P kl) m s ⟨record 20 ver [1], car⟩ d
      (record_typ 20 ver [1] car) hs
    have hx : x' = x := set_get x d
    rw [hx]
    refine ⟨a1, Or.inr ⟨a2, hall⟩, a3, fun d' => ?_, by omega, by omega⟩
    show dirPlain d' (Session.handleRecord _ m s ⟨record 20 ver [1], car⟩ d).traffic = _
    rw [a4, dirPlain_added d' d _ _ (by cases m <;> simp)]
    cases m <;> simp [out12, evRaw]
  · rcases htyp with rfl | rfl
    · obtain ⟨b1, b3, b4, b5, b6, b7⟩ := handleRecord_hsEnc H P L kl cls h13 macLen ver hv x s hs d hcc pt f hok hq m car
      refine ⟨b3, Or.inr ⟨(ccOf_of_flags b4 b5 d).trans hcc, hall⟩, ccOf_of_flags b4 b5 _, fun d' => ?_, b6, b7⟩
      show dirPlain d' (Session.handleRecord _ m s ⟨(protect P L cls ver (x.get d) 22 pt f).2, car⟩ d).traffic = _
      -- an empty plaintext is not appended (`if decrypted_data:`), the record is
      rw [b1, dirPlain_added d' d _ _ (by cases m <;> by_cases hpt : pt = [] <;> simp [hpt])]
      cases m <;> by_cases hpt : pt = [] <;> simp [hpt, out12, evRaw]
    · obtain ⟨c1, c2, f1, f2, c3, c4⟩ := handleRecord_app H P L kl cls macLen ver hv x s hs d pt f hok hq m car
      refine ⟨c2, Or.inr ⟨(ccOf_of_flags f1 f2 d).trans hcc, hall⟩, ccOf_of_flags f1 f2 _, fun d' => ?_, c3, c4⟩
      show dirPlain d' (Session.handleRecord _ m s ⟨(protect P L cls ver (x.get d) 23 pt f).2, car⟩ d).traffic = _
      rw [c1, dirPlain_push]
      simp [out12]

theorem filter_dir_cons_same (r : Session.Rec) (d : Bool) (M : List (Session.Rec × Bool)) :
    ((r, d) :: M).filter (fun q => q.2 == d) = (r, d) :: M.filter (fun q => q.2 == d) := by
  simp

theorem filter_dir_cons_other (r : Session.Rec) (d0 d : Bool) (M : List (Session.Rec × Bool)) (h : d ≠ d0) :
    ((r, d0) :: M).filter (fun q => q.2 == d) = M.filter (fun q => q.2 == d) := by
  have : (d0 == d) = false := by simpa using fun h' => h h'.symm
  simp [this]

theorem sget_set_ne (x : Snd) (d0 d : Bool) (v : SDir) (h : d ≠ d0) : (x.set d0 v).get d = x.get d := by
  cases d0 <;> cases d <;> first | rfl | exact absurd rfl h

theorem sessRun_cons (O : Session.Ops Dec) (m : Bool) (s : Session.St Dec) (q : Session.Rec × Bool)
    (M : List (Session.Rec × Bool)) :
    Session.run O m s (q :: M) = Session.run O m (Session.handleRecord O m s q.1 q.2) M := rfl

theorem mem_of_mem_upd {ε : Type} {rem : Bool → List ε} {d d' : Bool} {e e' : ε} {rest : List ε} (h : rem d = e :: rest)
    (he : e' ∈ upd rem d rest d') : e' ∈ rem d' := by
  by_cases hd : d' = d
  · subst hd; rw [upd_self] at he; rw [h]; exact List.mem_cons_of_mem _ he
  · rwa [upd_ne _ _ hd] at he

theorem budget_upd {ε : Type} (c : List ε → Nat) (hc : ∀ e r, c (e :: r) = c [e] + c r) {rem : Bool → List ε} {d : Bool}
    {e : ε} {rest : List ε} (h : rem d = e :: rest) :
    c [e] + (c (upd rem d rest false) + c (upd rem d rest true)) = c (rem false) + c (rem true) := by
  have := hc e rest
  cases d <;> simp [upd, h] <;> omega

/-- A kind of endpoint script as the session meets it: the record an endpoint in cipher state `sd` sends for `e`, its
    cipher state afterwards, what the record contributes to the export of its direction, and an invariant — sender states,
    session, what remains of the two scripts — that one record of either direction keeps. `m` is `-a`. `send` and `outs`
    (the exported stream; not `outs` at the head of this file) are fields with their equations so that an instance takes
    the functions the statements already use (`sendDir`, `stream12`, …) with `rfl` equations. -/
structure Kit (O : Session.Ops Dec) (m : Bool) (ε : Type) where
  raw : SDir → ε → Bytes
  next : SDir → ε → SDir
  out : SDir → ε → Bytes
  send : SDir → List ε → List Bytes
  outs : SDir → List ε → Bytes
  send_nil : ∀ sd, send sd [] = []
  send_cons : ∀ sd e r, send sd (e :: r) = raw sd e :: send (next sd e) r
  outs_nil : ∀ sd, outs sd [] = []
  outs_cons : ∀ sd e r, outs sd (e :: r) = out sd e ++ outs (next sd e) r
  Inv : Snd → Session.St Dec → (Bool → List ε) → Prop
  step : ∀ x s rem d e rest car, Inv x s rem → rem d = e :: rest →
    Inv (x.set d (next (x.get d) e)) (Session.handleRecord O m s ⟨raw (x.get d) e, car⟩ d) (upd rem d rest) ∧
    ∀ d', dirPlain d' (Session.handleRecord O m s ⟨raw (x.get d) e, car⟩ d).traffic
      = dirPlain d' s.traffic ++ if d' = d then out (x.get d) e else []

/-- The interleaving argument, for every kind of script: when each direction's released records are what its sender
    produces record by record, the session over ANY interleaving of the two record lists exports, per direction, the
    contributions of that direction's records. -/
theorem Kit.run {O : Session.Ops Dec} {m : Bool} {ε : Type} (K : Kit O m ε) (M : List (Session.Rec × Bool)) :
    ∀ (x : Snd) (s : Session.St Dec) (rem : Bool → List ε), K.Inv x s rem →
      (∀ d, (M.filter fun q => q.2 == d).map (·.1.raw) = K.send (x.get d) (rem d)) →
      ∀ d, dirPlain d (Session.run O m s M).traffic = dirPlain d s.traffic ++ K.outs (x.get d) (rem d) := by
  induction M with
  | nil =>
    intro x s rem _ hfil d
    cases hrem : rem d with
    | nil => rw [K.outs_nil]; simp [Session.run]
    | cons e r => have := hfil d; rw [hrem, K.send_cons] at this; cases this
  | cons q M' ih =>
    intro x s rem hinv hfil d
    obtain ⟨r, d0⟩ := q
    have h0 := hfil d0
    rw [filter_dir_cons_same, List.map_cons] at h0
    cases hrem : rem d0 with
    | nil => rw [hrem, K.send_nil] at h0; cases h0
    | cons e rest =>
      rw [hrem, K.send_cons, List.cons.injEq] at h0
      obtain ⟨hraw, htail⟩ := h0
      have hr : r = ⟨K.raw (x.get d0) e, r.carriers⟩ := by
        have hraw' : r.raw = K.raw (x.get d0) e := hraw
        rw [← hraw']
      obtain ⟨hinv', htr⟩ := K.step x s rem d0 e rest r.carriers hinv hrem
      rw [← hr] at hinv' htr
      have hfil' : ∀ d', (M'.filter fun q => q.2 == d').map (·.1.raw)
          = K.send ((x.set d0 (K.next (x.get d0) e)).get d') (upd rem d0 rest d') := by
        intro d'
        by_cases hd : d' = d0
        · subst hd; rw [Lemmas.RecLayer.sget_set, upd_self]; exact htail
        · rw [sget_set_ne _ _ _ _ hd, upd_ne _ _ hd, ← hfil d', filter_dir_cons_other _ _ _ _ hd]
      rw [sessRun_cons, ih _ _ _ hinv' hfil' d, htr d]
      by_cases hd : d = d0
      · subst hd
        rw [if_pos rfl, Lemmas.RecLayer.sget_set, upd_self, hrem, K.outs_cons, List.append_assoc]
      · rw [if_neg hd, List.append_nil, sget_set_ne _ _ _ _ hd, upd_ne _ _ hd]

/-- `stream12 false` is `Spec.TlsConnection.plainOf` (`stream12_false`); `stream12 true` is `Capstone2.metaStream12`
    (`stream12_true`), the name under which the theorems for `-a` alone state it. -/
def stream12 (m : Bool) (P : Prims) (L : SealLaws P) (cls : CipherClass) (ver : Bytes) : SDir → List DirEv → Bytes
  | _, [] => []
  | sd, e :: r => out12 m (evRaw P L cls ver sd e) e ++ stream12 m P L cls ver (evNext P L cls ver sd e) r

theorem stream12_false (P : Prims) (L : SealLaws P) (cls : CipherClass) (ver : Bytes) (sd : SDir) (l : List DirEv) :
    stream12 false P L cls ver sd l = Spec.TlsConnection.plainOf l := by
  induction l generalizing sd with
  | nil => rfl
  | cons e r ih => rw [stream12, ih, ← plainOf_out12]

/-- SSL 3.0 – TLS 1.2 after the ServerHello. One sequence number per record. -/
def kit12 (H : Crypto.Prims) (P : Prims) (L : SealLaws P) (kl : List Keylog.Key) (cls : CipherClass)
    (h13 : cls.is13 = false) (macLen : Nat) (ver : Bytes) (hv : ver.length = 2) (m : Bool) :
    Kit (Pipeline.ops H P kl) m DirEv where
  raw := evRaw P L cls ver
  next := evNext P L cls ver
  out := fun sd e => out12 m (evRaw P L cls ver sd e) e
  send := sendDir P L cls ver
  outs := stream12 m P L cls ver
  send_nil := fun _ => rfl
  send_cons := sendDir_cons P L cls ver
  outs_nil := fun _ => rfl
  outs_cons := fun _ _ _ => rfl
  Inv := fun x s rem => Ready cls macLen x s ∧ (∀ d, DirInv12 s d (rem d)) ∧ (∀ d, ∀ e ∈ rem d, EvOk1 cls macLen e) ∧
    max x.c.seq x.s.seq + ((rem false).length + (rem true).length) ≤ seqLimit
  step := by
    intro x s rem d e rest car ⟨hs, hinv, hok, hq⟩ hrem
    have hb := budget_upd List.length (fun _ _ => Nat.add_comm _ _) hrem
    simp only [List.length_singleton] at hb
    obtain ⟨g1, g2, g3, g4, g5, g6⟩ := step12 H P L kl cls h13 macLen ver hv m x s hs d e rest car (hrem ▸ hinv d)
      (hok d e (by rw [hrem]; simp)) (by omega)
    refine ⟨⟨g1, ?_, fun d' e' he' => hok d' e' (mem_of_mem_upd hrem he'), ?_⟩, g4⟩
    · intro d'
      by_cases hd : d' = d
      · subst hd; rw [upd_self]; exact g2
      · -- the other side's position is told by its own flag, which this record did not touch
        rw [upd_ne _ _ hd]
        unfold DirInv12
        rw [show ccOf _ d' = ccOf s d' by rw [Bool.eq_not_of_ne hd]; exact g3]
        exact hinv d'
    · exact Nat.le_trans (Nat.add_le_add_right (Nat.max_le.mpr ⟨g5, g6⟩) _) (by omega)

theorem set_set (x : Snd) (d : Bool) (a b : SDir) : (x.set d a).set d b = x.set d b := by cases d <;> rfl

theorem after_switches (P : Prims) (L : SealLaws P) (cls : CipherClass) (ver : Bytes) (y : Snd) (d : Bool) (n : Nat) :
    after P L cls ver y (List.replicate n (.switch d)) = y.set d (switchN n (y.get d)) := by
  induction n generalizing y with
  | zero => simp [after, switchN, set_get]
  | succ n ih =>
    simp only [List.replicate_succ, after, List.foldl_cons, step] at ih ⊢
    rw [ih, Lemmas.RecLayer.sget_set, set_set]
    rfl

/-- sequence-number budget of a script: one per record, one more per Finished -/
def cost : List DirEv → Nat
  | [] => 0
  | .hs13 ms _ :: r => 1 + finished ms + cost r
  | _ :: r => 1 + cost r

theorem prefix_clear (P : Prims) (L : SealLaws P) (cls : CipherClass) (ver : Bytes) (sd : SDir) (A : List Bytes) :
    ∀ (cl : List Bytes) (rest : List DirEv) (B : List Bytes),
      A ++ B = sendDir P L cls ver sd (cl.map DirEv.clear ++ DirEv.ccs :: rest) → (∀ r ∈ A, r.head? ≠ some 20) →
      ∃ cl1 cl2, cl = cl1 ++ cl2 ∧ A = cl1.map (record 22 ver) ∧
        B = sendDir P L cls ver sd (cl2.map DirEv.clear ++ DirEv.ccs :: rest) := by
  induction A with
  | nil => intro cl rest B h _; exact ⟨[], cl, rfl, rfl, by simpa using h⟩
  | cons r A ih =>
    intro cl rest B h hno
    cases cl with
    | nil =>
      simp only [List.map_nil, List.nil_append, sendDir, List.cons_append, List.cons.injEq] at h
      have := hno r (by simp)
      rw [h.1] at this
      simp [record] at this
    | cons b cl =>
      simp only [List.map_cons, List.cons_append, sendDir, List.cons.injEq] at h
      obtain ⟨cl1, cl2, h1, h2, h3⟩ := ih cl rest B h.2 (fun r' hr' => hno r' (by simp [hr']))
      exact ⟨b :: cl1, cl2, by rw [h1]; rfl, by rw [h.1, h2]; rfl, h3⟩

/-- `Causal12` unfolded against the two record lists: the ClientHello, then clear-text client records (no hello, no
    ChangeCipherSpec), then the ServerHello, then an interleaving of what remains -/
theorem hello_split (P : Prims) (L : SealLaws P) (cls : CipherClass) (ver : Bytes) (xc xs : SDir) (chR shR : Bytes)
    (cl : List Bytes) (rest sEvs : List DirEv) (M pre post : List (Session.Rec × Bool))
    (hC : (M.filter fun q => q.2 == false).map (·.1.raw)
      = chR :: sendDir P L cls ver xc (cl.map DirEv.clear ++ DirEv.ccs :: rest))
    (hS : (M.filter fun q => q.2 == true).map (·.1.raw) = shR :: sendDir P L cls ver xs sEvs)
    (hsplit : M = pre ++ post) (hne : pre ≠ []) (hpre : ∀ q ∈ pre, q.2 = false ∧ q.1.typ ≠ some 20)
    (hpost : ∃ q post', post = q :: post' ∧ q.2 = true) :
    ∃ (c0 : List Nat) (noise : List (Session.Rec × Bool)) (c1 : List Nat) (M' : List (Session.Rec × Bool))
      (cl2 : List Bytes), M = (⟨chR, c0⟩, false) :: (noise ++ (⟨shR, c1⟩, true) :: M') ∧
      (∀ q ∈ noise, ∃ b car, q = (⟨record 22 ver b, car⟩, false) ∧ b ∈ cl) ∧ (∀ b ∈ cl2, b ∈ cl) ∧
      cl2.length ≤ cl.length ∧
      (M'.filter fun q => q.2 == false).map (·.1.raw) = sendDir P L cls ver xc (cl2.map DirEv.clear ++ DirEv.ccs :: rest) ∧
      (M'.filter fun q => q.2 == true).map (·.1.raw) = sendDir P L cls ver xs sEvs := by
  obtain ⟨q, post', rfl, hq⟩ := hpost
  obtain ⟨rq, dq⟩ := q
  simp only at hq
  subst hq
  have hpf : pre.filter (fun q => q.2 == false) = pre := List.filter_eq_self.mpr (fun a ha => by simp [(hpre a ha).1])
  have hpt : pre.filter (fun q => q.2 == true) = [] := List.filter_eq_nil_iff.mpr (fun a ha => by simp [(hpre a ha).1])
  subst hsplit
  rw [List.filter_append, hpf, List.map_append] at hC
  rw [List.filter_append, hpt, List.nil_append, filter_dir_cons_same, List.map_cons] at hS
  rw [filter_dir_cons_other _ _ _ _ (by decide)] at hC
  simp only [List.cons.injEq] at hS
  obtain ⟨hs1, hs2⟩ := hS
  cases pre with
  | nil => exact absurd rfl hne
  | cons q0 pre' =>
    obtain ⟨r0, d0⟩ := q0
    have hd0 : d0 = false := (hpre (r0, d0) (by simp)).1
    subst hd0
    simp only [List.map_cons, List.cons_append, List.cons.injEq] at hC
    obtain ⟨hc1, hc2⟩ := hC
    obtain ⟨cl1, cl2, e1, e2, e3⟩ := prefix_clear P L cls ver xc (pre'.map (·.1.raw)) cl rest _ hc2 (by
      intro r hr
      obtain ⟨q, hq, rfl⟩ := List.mem_map.mp hr
      exact (hpre q (by simp [hq])).2)
    refine ⟨r0.carriers, pre', rq.carriers, post', cl2, ?_, ?_, ?_, by rw [e1]; simp, e3, hs2⟩
    · have h0 : r0 = ⟨chR, r0.carriers⟩ := by have h : r0.raw = chR := hc1; rw [← h]
      have h1 : rq = ⟨shR, rq.carriers⟩ := by have h : rq.raw = shR := hs1; rw [← h]
      rw [← h0, ← h1]; rfl
    · intro q hq
      have hmem : q.1.raw ∈ cl1.map (record 22 ver) := by rw [← e2]; exact List.mem_map_of_mem hq
      obtain ⟨b, hb, hbe⟩ := List.mem_map.mp hmem
      refine ⟨b, q.1.carriers, ?_, by rw [e1]; simp [hb]⟩
      obtain ⟨qr, qd⟩ := q
      have : qd = false := (hpre (qr, qd) (by simp [hq])).1
      subst this
      have h : qr.raw = record 22 ver b := hbe.symm
      rw [← h]
    · intro b hb; rw [e1]; simp [hb]

theorem run_noops (O : Session.Ops Dec) (m : Bool) (s : Session.St Dec) (l : List (Session.Rec × Bool))
    (h : ∀ q ∈ l, Session.handleRecord O m s q.1 q.2 = s) : Session.run O m s l = s := by
  induction l with
  | nil => rfl
  | cons q l ih =>
    simp only [Session.run, List.foldl_cons]
    rw [h q (by simp)]
    exact ih (fun q' hq' => h q' (by simp [hq']))

theorem plainOf_clear_prefix (cl : List Bytes) (r : List DirEv) :
    Spec.TlsConnection.plainOf (cl.map DirEv.clear ++ DirEv.ccs :: r) = Spec.TlsConnection.plainOf r := by
  induction cl with
  | nil => rfl
  | cons b cl ih => simpa [Spec.TlsConnection.plainOf] using ih

theorem cost_length (l : List DirEv) (h : ∀ e ∈ l, ∀ ms f, e ≠ DirEv.hs13 ms f) : cost l = l.length := by
  induction l with
  | nil => rfl
  | cons e r ih =>
    have := ih (fun e' he' => h e' (by simp [he']))
    cases e with
    | hs13 ms f => exact absurd rfl (h _ (by simp) ms f)
    | _ => simp [cost, this]; omega

/-- The hello phase of every connection theorem: after the two hello records the session is `Ready`, has seen no
    ChangeCipherSpec, and has exported the two records verbatim with `-a`, nothing without. -/
theorem hello_pair_ready (H : Crypto.Prims) (P : Prims) (kl : List Keylog.Key) (m : Bool)
    (ch : Spec.TlsHello.ClientHello) (hch : ch.WellFormed) (sh : Spec.TlsHello.ServerHello) (hsh : sh.WellFormed)
    (rvC rvS : Bytes) (hrc : rvC.length = 2) (hrs : rvS.length = 2) (c0 c1 : List Nat)
    (v : Session.Ver) (hneg : Negotiated rvS sh v) (hcomp : sh.compressionMethod = 0)
    (cls : CipherClass) (macLen : Nat) (x : Snd) (hinst : Installs H P kl ch sh v cls macLen x) :
    let s2 := Session.handleRecord (Pipeline.ops H P kl) m (Session.handleRecord (Pipeline.ops H P kl) m Session.St.init
      ⟨record 22 rvC (Spec.TlsHello.encodeClientHello ch), c0⟩ false)
      ⟨record 22 rvS (Spec.TlsHello.encodeServerHello sh), c1⟩ true
    Ready cls macLen x s2 ∧ (s2.srvCC = false ∧ s2.cliCC = false) ∧
    ∀ d, dirPlain d s2.traffic = if m then
      (if d then record 22 rvS (Spec.TlsHello.encodeServerHello sh) else record 22 rvC (Spec.TlsHello.encodeClientHello ch))
      else [] := by
  have h0 : (Session.St.init : Session.St Dec).srvCC = false ∧ (Session.St.init : Session.St Dec).cliCC = false :=
    ⟨rfl, rfl⟩
  obtain ⟨g1, _, g3⟩ := server_hello_installs H P kl m Session.St.init h0 ch hch sh hsh rvC rvS hrc hrs c0 c1 v hneg
  obtain ⟨hv13, dd, hinst, hR⟩ := hinst
  rw [hcomp, hinst] at g3
  simp only [hsRecord] at g1 g3
  -- the ClientHello resets flags and buffers; the ServerHello path writes gate, version and decryptor only
  have e1 := handle_clientHello (Pipeline.ops H P kl) m Session.St.init h0 rvC hrc ch hch c0
  generalize Session.handleRecord (Pipeline.ops H P kl) m Session.St.init
    ⟨record 22 rvC (Spec.TlsHello.encodeClientHello ch), c0⟩ false = s1 at e1 g1 g3 ⊢
  have hc1 : s1.core = (Session.clientHello (Session.St.init : Session.St Dec)
      ⟨record 22 rvC (Spec.TlsHello.encodeClientHello ch), c0⟩).core := by rw [e1, Session.pushMeta_core]
  have hf1 : s1.srvCC = false ∧ s1.cliCC = false := ⟨congrArg Session.Core.srvCC hc1, congrArg Session.Core.cliCC hc1⟩
  have e2 := handle_serverHello (Pipeline.ops H P kl) m s1 hf1 rvS hrs sh c1
  have hF := Session.serverHello_caught_hello (Pipeline.ops H P kl) s1
    ⟨record 22 rvS (Spec.TlsHello.encodeServerHello sh), c1⟩
  generalize (Session.tryExcept (Session.serverHello (Pipeline.ops H P kl) s1 _) _).st = c at e2 hF
  generalize Session.handleRecord (Pipeline.ops H P kl) m s1 _ true = s2 at e2 g1 g3 ⊢
  have hc2 : s2.core = c.core := by rw [e2, Session.pushMeta_core]
  refine ⟨⟨⟨g3.1, ⟨v, g1, hv13⟩, dd, g3.2, hR⟩, fun d => ?_⟩,
    ⟨(congrArg Session.Core.srvCC hc2).trans ((congrArg Session.St.srvCC hF).trans hf1.1),
     (congrArg Session.Core.cliCC hc2).trans ((congrArg Session.St.cliCC hF).trans hf1.2)⟩, fun d => ?_⟩
  · cases d
    · exact (congrArg Session.Core.hsBufC hc2).trans ((congrArg Session.St.hsBufC hF).trans (congrArg Session.Core.hsBufC hc1))
    · exact (congrArg Session.Core.hsBufS hc2).trans ((congrArg Session.St.hsBufS hF).trans (congrArg Session.Core.hsBufS hc1))
  · rw [e2]
    cases m
    · show dirPlain d c.traffic = _
      rw [hF.traffic, e1]; rfl
    · show dirPlain d (c.traffic ++ _) = _
      rw [hF.traffic, e1]
      cases d <;> simp [dirPlain, Session.pushMeta, Session.St.push, Session.clientHello, Session.St.init]

theorem hello_split13 (M : List (Session.Rec × Bool))
    (hc : ∃ q0 q1 M', M = q0 :: q1 :: M' ∧ q0.2 = false ∧ q1.2 = true) (chR shR : Bytes) (restC restS : List Bytes)
    (hC : (M.filter fun q => q.2 == false).map (·.1.raw) = chR :: restC)
    (hS : (M.filter fun q => q.2 == true).map (·.1.raw) = shR :: restS) :
    ∃ c0 c1 M', M = (⟨chR, c0⟩, false) :: (⟨shR, c1⟩, true) :: M' ∧
      (M'.filter fun q => q.2 == false).map (·.1.raw) = restC ∧
      (M'.filter fun q => q.2 == true).map (·.1.raw) = restS := by
  obtain ⟨⟨r0, d0⟩, ⟨r1, d1⟩, M', rfl, hd0, hd1⟩ := hc
  simp only at hd0 hd1
  subst hd0 hd1
  rw [filter_dir_cons_same, filter_dir_cons_other _ _ _ _ (by decide), List.map_cons] at hC
  rw [filter_dir_cons_other _ _ _ _ (by decide), filter_dir_cons_same, List.map_cons] at hS
  simp only [List.cons.injEq] at hC hS
  obtain ⟨hc1, hC'⟩ := hC
  obtain ⟨hs1, hS'⟩ := hS
  refine ⟨r0.carriers, r1.carriers, M', ?_, hC', hS'⟩
  have hr0 : r0.raw = chR := hc1
  have hr1 : r1.raw = shR := hs1
  rw [← hr0, ← hr1]

end TLX.Lemmas.Capstone
