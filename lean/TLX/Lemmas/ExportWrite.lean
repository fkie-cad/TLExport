/-
The writer end of a run of `TLX.Export.exportFile`, shared by the file-level theorems of C01 and C02: the frames handed to
the writer are `pre ++ blk ++ post`, whichever sessions, TLS or QUIC, the three parts come from.
`file_of_frames`, `ReadsBack` (`TLX.Props.C01File`) and `WritesOk` (`TLX.Props.C01File2`) keep the full names the statements of
those theorems are written with; the rest is `TLX.Lemmas.ExportWrite`.
-/
import TLX.Props.Export
set_option autoImplicit false

namespace TLX.Lemmas.ExportWrite

theorem split3 {α β : Type} (a b c : List α) (bs : List β) (h : bs.length = (a ++ b ++ c).length) :
    ∃ x y z, bs = x ++ y ++ z ∧ x.length = a.length ∧ y.length = b.length ∧ z.length = c.length := by
  refine ⟨bs.take a.length, (bs.drop a.length).take b.length, (bs.drop a.length).drop b.length, ?_, ?_, ?_, ?_⟩
  · rw [List.append_assoc, List.take_append_drop, List.take_append_drop]
  · simp only [List.length_append] at h; simp only [List.length_take]; omega
  · simp only [List.length_append] at h; simp only [List.length_take, List.length_drop]; omega
  · simp only [List.length_append] at h; simp only [List.length_drop]; omega

end TLX.Lemmas.ExportWrite

namespace TLX.Props.C01File
open TLX TLX.MainLoop TLX.OutBytes
open TLX.Container (Item)

/-- **frames → file.** If the frames handed to the writer are `pre ++ blk ++ post` and the file is written, the tool's own
    reader reads it back as (one packet per frame of `pre`) ++ (the serialisations of `blk`, in order, at their times) ++
    (one packet per frame of `post`): a session's block stays contiguous and is not touched by the other sessions; and
    every frame of the block is a `GoodFrame` (parses with the independent parser to its own fields, checksums valid,
    lengths consistent). `Container.read false` is the pcapng reader (the writer writes pcapng); `⟨ts, 10 ^ 6, 0, false⟩`
    are the operands of its time stamp expression `offset + ticks / float(divisor)` for a block of the writer's microsecond
    clock: ticks = the frame's µs, divisor 10^6, offset 0, float arithmetic (`C06Bytes.pcapng_roundtrip`). -/
theorem file_of_frames (pre blk post : List Pipeline.OutPkt) (f : Bytes)
    (hwf : ∀ p ∈ pre ++ blk ++ post, (Frame.ofOutPkt p).WF) (h : fileOf (pre ++ blk ++ post) = .ok f) :
    ∃ (A C : List Item) (B : List Bytes), A.length = pre.length ∧ C.length = post.length ∧ B.length = blk.length ∧
      Container.read false f = .ok (A ++ (blk.zip B).map (fun pb => Item.pkt ⟨pb.1.ts, 10 ^ 6, 0, false⟩ pb.2) ++ C) ∧
      ∀ pb ∈ blk.zip B, Export.GoodFrame (Frame.ofOutPkt pb.1) pb.2 := by
  obtain ⟨bs, hlen, hread, hall⟩ := C06Bytes.fileOf_roundtrip_outpkts _ f hwf h
  obtain ⟨x, y, z, rfl, hx, hy, hz⟩ := Lemmas.ExportWrite.split3 pre blk post bs hlen
  have hz1 : (pre ++ blk ++ post).zip (x ++ y ++ z) = pre.zip x ++ blk.zip y ++ post.zip z := by
    rw [List.zip_append (by simp [hx, hy]), List.zip_append hx.symm]
  refine ⟨(pre.zip x).map (fun pb => Item.pkt ⟨pb.1.ts, 10 ^ 6, 0, false⟩ pb.2),
    (post.zip z).map (fun pb => Item.pkt ⟨pb.1.ts, 10 ^ 6, 0, false⟩ pb.2), y, by simp [hx], by simp [hz], hy, ?_, ?_⟩
  · rw [hread, hz1, List.map_append, List.map_append]
  · intro pb hpb
    have hmem : pb ∈ (pre ++ blk ++ post).zip (x ++ y ++ z) := by
      rw [hz1]; simp [hpb]
    have hser := hall pb hmem
    have hp : pb.1 ∈ pre ++ blk ++ post := (List.of_mem_zip hmem).1
    exact Export.goodFrame_of _ _ (hwf _ hp) hser

/-- what the theorem says about the output file `f` for the block `blk` of one session: the tool's own reader reads `f` as
    (other sessions' packets) ++ (one packet per frame of `blk`, in order, at the frame's microsecond) ++ (other sessions'
    packets), and each packet of the block is the serialisation of its frame and a `GoodFrame`: the independent parser
    reads exactly the frame's MACs, addresses, ports and payload out of it, lengths and checksums right -/
def ReadsBack (f : Bytes) (blk : List Pipeline.OutPkt) : Prop :=
  ∃ (A C : List Item) (B : List Bytes), B.length = blk.length ∧
    Container.read false f = .ok (A ++ (blk.zip B).map (fun pb => Item.pkt ⟨pb.1.ts, 10 ^ 6, 0, false⟩ pb.2) ++ C) ∧
    ∀ pb ∈ blk.zip B, Props.Export.GoodFrame (Frame.ofOutPkt pb.1) pb.2

end TLX.Props.C01File

namespace TLX.Props.C01File2
open TLX TLX.MainLoop TLX.OutBytes

/-- the write loop takes the frame: scapy serialises it and dpkt can store its time stamp -/
def WritesOk (q : Pipeline.OutPkt) : Prop := (∃ b, serialize q = .ok b) ∧ q.ts < 2 ^ 64

end TLX.Props.C01File2

namespace TLX.Lemmas.ExportWrite
open TLX TLX.MainLoop TLX.OutBytes TLX.Export TLX.Props.C01File TLX.Props.C01File2

theorem fileOf_ok_of_writesOk (out : List Pipeline.OutPkt) (hwf : ∀ p ∈ out, (Frame.ofOutPkt p).WF)
    (h : ∀ p ∈ out, WritesOk p) : ∃ f, fileOf out = .ok f := by
  apply (Props.C06Bytes.fileOf_ok_iff (out.map Frame.ofOutPkt) ?_).mpr
  · intro fr hfr
    obtain ⟨x, hx, rfl⟩ := List.mem_map.mp hfr
    exact h x hx
  · intro fr hfr
    obtain ⟨x, hx, rfl⟩ := List.mem_map.mp hfr
    exact hwf x hx

variable (mask : Quic.Dissect.MaskFn) (H : Crypto.Prims) (P : Cipher.Prims)

theorem wrote_or_abort (args : Args) (legacy : Bool) (keyFile : Option Keylog.Str) (file : Bytes)
    (xs : List (MainLoop.Item Keylog.Key)) (is : List (Nat × Pipeline.Info))
    (hing : Ingest.itemsWith Keylog.srcHexClass args.checksumTest legacy file = .ok (xs, is))
    (hopt : optionsBad (freshState : Prior) args = false) (pre blk post : List Pipeline.OutPkt)
    (hfr : framesFrom mask H P freshState args (fileKeysOf keyFile) xs (Ingest.lookup is) = .ok (pre ++ blk ++ post)) :
    (∀ p ∈ pre ++ blk ++ post, (Frame.ofOutPkt p).WF) ∧
    ((∃ e, fileOf (pre ++ blk ++ post) = .error e ∧ exportFile mask H P args legacy keyFile file = .abort (.write e)) ∨
      ∃ f, exportFile mask H P args legacy keyFile file = .file f ∧ ReadsBack f blk) := by
  have hwf := Lemmas.Export.framesFrom_wf mask H P freshState args _ _ _ _
    (Lemmas.Export.itemsWith_good _ _ _ _ _ _ hing) hfr
  refine ⟨hwf, ?_⟩
  rcases Props.Export.exportFrom_stages mask H P freshState args legacy keyFile file hopt with
    ⟨e, hi, _⟩ | ⟨xs', is', out, hi, hf, hw⟩
  · rw [hing] at hi; cases hi
  rw [hing] at hi
  cases hi
  rw [hfr] at hf
  cases hf
  rcases hw with ⟨e, hw, he⟩ | ⟨f, hw, he⟩
  · exact .inl ⟨e, hw, he⟩
  · obtain ⟨A, C, B, _, _, hB, hr, hg⟩ := file_of_frames pre blk post f hwf hw
    exact .inr ⟨f, he, A, C, B, hB, hr, hg⟩

theorem wrote_of_fits (args : Args) (legacy : Bool) (keyFile : Option Keylog.Str) (file : Bytes)
    (xs : List (MainLoop.Item Keylog.Key)) (is : List (Nat × Pipeline.Info))
    (hing : Ingest.itemsWith Keylog.srcHexClass args.checksumTest legacy file = .ok (xs, is))
    (hopt : optionsBad (freshState : Prior) args = false) (pre blk post : List Pipeline.OutPkt)
    (hfr : framesFrom mask H P freshState args (fileKeysOf keyFile) xs (Ingest.lookup is) = .ok (pre ++ blk ++ post))
    (hfit : ∀ x ∈ pre ++ blk ++ post, WritesOk x) :
    ∃ f, exportFile mask H P args legacy keyFile file = .file f ∧ ReadsBack f blk := by
  obtain ⟨hwf, ⟨e, hw, _⟩ | h⟩ := wrote_or_abort mask H P args legacy keyFile file xs is hing hopt pre blk post hfr
  · obtain ⟨f, hf⟩ := fileOf_ok_of_writesOk _ hwf hfit
    rw [hf] at hw
    cases hw
  · exact h

omit mask H P in
theorem fits_of_block (pre blk post : List Pipeline.OutPkt) (hblk : ∀ x ∈ blk, WritesOk x)
    (hothers : ∀ x ∈ pre ++ post, WritesOk x) : ∀ x ∈ pre ++ blk ++ post, WritesOk x := by
  intro x hx
  simp only [List.mem_append] at hx hothers
  rcases hx with (hx | hx) | hx
  · exact hothers x (.inl hx)
  · exact hblk x hx
  · exact hothers x (.inr hx)

/-- `hothers` has the form of `Props.C01File2.OthersFit` and `Props.C01Full.OthersFitC` -/
theorem wrote_of_block (args : Args) (legacy : Bool) (keyFile : Option Keylog.Str) (file : Bytes)
    (xs : List (MainLoop.Item Keylog.Key)) (is : List (Nat × Pipeline.Info))
    (hing : Ingest.itemsWith Keylog.srcHexClass args.checksumTest legacy file = .ok (xs, is))
    (hopt : optionsBad (freshState : Prior) args = false) (pre blk post : List Pipeline.OutPkt)
    (hfr : framesFrom mask H P freshState args (fileKeysOf keyFile) xs (Ingest.lookup is) = .ok (pre ++ blk ++ post))
    (hblk : ∀ x ∈ blk, WritesOk x)
    (hothers : ∀ out pre post, framesFrom mask H P freshState args (fileKeysOf keyFile) xs (Ingest.lookup is) = .ok out →
      out = pre ++ blk ++ post → ∀ x ∈ pre ++ post, WritesOk x) :
    ∃ f, exportFile mask H P args legacy keyFile file = .file f ∧ ReadsBack f blk := by
  exact wrote_of_fits mask H P args legacy keyFile file xs is hing hopt pre blk post hfr
    (fits_of_block pre blk post hblk (hothers _ pre post hfr rfl))

omit mask H P in
theorem alone_fits {ε : Type} (r : Except ε (List Pipeline.OutPkt)) (blk : List Pipeline.OutPkt) (h : r = .ok blk) :
    ∀ out pre post, r = .ok out → out = pre ++ blk ++ post → ∀ x ∈ pre ++ post, WritesOk x := by
  intro out pre post hout hsplit
  rw [h] at hout
  cases hout
  have hl := congrArg List.length hsplit
  simp only [List.length_append] at hl
  rw [List.eq_nil_of_length_eq_zero (by omega : pre.length = 0), List.eq_nil_of_length_eq_zero (by omega : post.length = 0)]
  intro x hx; cases hx

omit mask H P in
/-- the constants are what scapy fills in (`C06Bytes.parse_serialize`): TTL / hop limit 64, data offset 5, reserved bits
    `flags % 512 / 256` (bit 8 of an integer flags value lands there), window 8192, urgent pointer 0, no options -/
theorem readsBack_map {α : Type} (g : α → Pipeline.OutPkt) (ts : α → Nat) (hts : ∀ d, (g d).ts = ts d) (ds : List α)
    (f : Bytes) (h : ReadsBack f (ds.map g)) :
    ∃ (A C : List Container.Item) (B : List Bytes), B.length = ds.length ∧
      Container.read false f =
        .ok (A ++ (ds.zip B).map (fun db => Container.Item.pkt ⟨ts db.1, 10 ^ 6, 0, false⟩ db.2) ++ C) ∧
      ∀ db ∈ ds.zip B, ∃ seg, Spec.FrameParse.parse db.2 = some
        { dstMac := (Frame.ofOutPkt (g db.1)).dstMac, srcMac := (Frame.ofOutPkt (g db.1)).srcMac,
          v6 := (Frame.ofOutPkt (g db.1)).ipv6, src := (Frame.ofOutPkt (g db.1)).src.ip,
          dst := (Frame.ofOutPkt (g db.1)).dst.ip, ttl := 64, sport := (Frame.ofOutPkt (g db.1)).src.port,
          dport := (Frame.ofOutPkt (g db.1)).dst.port,
          l4 := (match (Frame.ofOutPkt (g db.1)).l4 with
            | .tcp flags seq ack => .tcp seq ack 5 (flags % 512 / 256) (flags % 256) 8192 0 []
            | .udp => .udp),
          segment := seg, payload := (Frame.ofOutPkt (g db.1)).payload } := by
  obtain ⟨A, C, B, hB, hread, hgood⟩ := h
  refine ⟨A, C, B, by simpa using hB, ?_, ?_⟩
  · rw [hread, List.zip_map_left, List.map_map]
    congr 3
    apply List.map_congr_left
    intro db _
    simp only [Function.comp, Prod.map, id, hts]
  · intro db hdb
    have hg := hgood (g db.1, db.2) (by rw [List.zip_map_left]; exact List.mem_map.mpr ⟨db, hdb, rfl⟩)
    exact Props.C06Bytes.parse_serialize _ _ hg.wf hg.serialised

end TLX.Lemmas.ExportWrite
