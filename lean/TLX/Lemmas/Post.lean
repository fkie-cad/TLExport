/-
Postconditions of `Except` programs. The parsers of the model are `do` blocks in `Except`; what is proved about one is
read off its shape by four rules (`bind`, `ite`, `pure`, `error`): no rule looks at the data a branch tests, so the size of a
proof is the number of `←` and `if` on the paths that matter, not the number of paths. Core Lean only.
-/
namespace TLX

/-- if the program `e` returns, its value satisfies `P` -/
def Post {ε α : Type} (P : α → Prop) (e : Except ε α) : Prop := ∀ a, e = .ok a → P a

namespace Post
variable {ε α β : Type} {P : α → Prop}

theorem error_iff (x : ε) : Post P (.error x : Except ε α) ↔ True :=
  iff_true_intro fun _ h => nomatch h

theorem pure_iff (a : α) : Post P (pure a : Except ε α) ↔ P a :=
  ⟨fun h => h a rfl, fun h _ e => by cases e; exact h⟩

theorem bind_iff (x : Except ε β) (f : β → Except ε α) : Post P (x >>= f) ↔ ∀ b, x = .ok b → Post P (f b) := by
  cases x <;> simp [Post, bind, Except.bind]

theorem ite_iff (c : Prop) [Decidable c] (a b : Except ε α) :
    Post P (if c then a else b) ↔ (c → Post P a) ∧ (¬ c → Post P b) := by
  split <;> simp [*]

theorem error (x : ε) : Post P (.error x : Except ε α) := (error_iff x).mpr trivial
theorem pure {a : α} (h : P a) : Post P (Pure.pure a : Except ε α) := (pure_iff a).mpr h
theorem bind {x : Except ε β} {f : β → Except ε α} (h : ∀ b, x = .ok b → Post P (f b)) : Post P (x >>= f) :=
  (bind_iff x f).mpr h
theorem ite {c : Prop} [Decidable c] {a b : Except ε α} (ha : c → Post P a) (hb : ¬ c → Post P b) :
    Post P (if c then a else b) := (ite_iff c a b).mpr ⟨ha, hb⟩

theorem mono {Q : α → Prop} {e : Except ε α} (h : Post Q e) (hq : ∀ a, Q a → P a) : Post P e :=
  fun a ha => hq a (h a ha)

end Post
end TLX
