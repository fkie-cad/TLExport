/-
Helper lemmas for C17: the RFC 9000 §16 encoder of TLX/Spec/QuicFrames.lean is inverted by the model
of quic_decode.py (TLX/Quic/Varint.lean) — generic in the prefix, so one proof covers the 1-, 2-, 4-
and 8-byte encodings, minimal or not.
-/
import TLX.Quic.Varint
import TLX.Lemmas.Bytes
import TLX.Lemmas.Cursor
import TLX.Spec.QuicFrames
namespace TLX.Lemmas.QuicVarint
open TLX TLX.Quic.Varint TLX.Spec.QuicFrames TLX.Lemmas.Cursor

-- Lemmas/QuicSessionExact and Props/C02Rtt1 say `QuicVarint.ofNatBE_length`
export TLX.Bytes (ofNatBE_length)

theorem accBE_ofNatBE (a w n : Nat) (h : n < 256 ^ w) : accBE a (Bytes.ofNatBE w n) = a * 256 ^ w + n :=
  Bytes.foldl_ofNatBE a w n h

theorem ofNatBE_succ_head (w n : Nat) :
    Bytes.ofNatBE (w + 1) n = UInt8.ofNat (n / 256 ^ w) :: Bytes.ofNatBE w (n % 256 ^ w) := by
  induction w generalizing n with
  | zero =>
    simp only [Bytes.ofNatBE, List.nil_append, Nat.pow_zero, Nat.div_one]
    congr 1
    apply UInt8.toNat_inj.mp
    simp
  | succ w ih =>
    rw [Bytes.ofNatBE, ih (n / 256), List.cons_append]
    congr 1
    · congr 1
      rw [Nat.pow_succ, Nat.div_div_eq_div_mul, Nat.mul_comm]
    · conv => rhs; rw [Bytes.ofNatBE]
      congr 1
      · congr 1
        rw [Nat.pow_succ, Nat.mul_comm, Nat.mod_mul_right_div_self]
      · congr 2
        rw [Nat.pow_succ, Nat.mod_mul_left_mod]

/-- `8w − 2` usable bits, written the way the byte-level proof needs it. -/
theorem usable_bits (w : Nat) (hw : 1 ≤ w) : 2 ^ (8 * w - 2) = 64 * 256 ^ (w - 1) := by
  obtain ⟨m, rfl⟩ : ∃ m, w = m + 1 := ⟨w - 1, by omega⟩
  rw [show 8 * (m + 1) - 2 = 6 + 8 * m by omega, Nat.pow_add, Nat.pow_mul, Nat.add_sub_cancel]

theorem _root_.TLX.Spec.QuicFrames.VW.w_pos (x : VW) : 1 ≤ x.w := Nat.one_le_two_pow

theorem _root_.TLX.Spec.QuicFrames.VW.enc_length (x : VW) (v : Nat) : (x.enc v).length = x.w := by
  simp [VW.enc, ofNatBE_length]

theorem _root_.TLX.Spec.QuicFrames.VI.enc_length (x : VI) : x.enc.length = x.w.w := VW.enc_length _ _

/-- The wire image of a value that fits: a first byte that announces the width and carries the top six bits, then the
    lower bytes. -/
theorem _root_.TLX.Spec.QuicFrames.VW.enc_cons (x : VW) (v : Nat) (hv : x.fits v) :
    ∃ b body, x.enc v = b :: body ∧ varintLen b = x.w ∧ body.length + 1 = x.w ∧ accBE (b.toNat &&& 0x3f) body = v := by
  obtain ⟨p, hp⟩ := x
  have hw1 : 1 ≤ 2 ^ p := Nat.one_le_two_pow
  simp only [VW.fits, VW.enc, VW.w] at *
  rw [usable_bits _ hw1] at hv ⊢
  generalize hw : 2 ^ p = w at *
  obtain ⟨m, rfl⟩ : ∃ m, w = m + 1 := ⟨w - 1, by omega⟩
  simp only [Nat.add_sub_cancel] at hv ⊢
  generalize hM : 256 ^ m = M at hv
  have hMpos : 0 < M := by rw [← hM]; exact Nat.pow_pos (by omega)
  rw [ofNatBE_succ_head, hM]
  have hdiv : (p * (64 * M) + v) / M = p * 64 + v / M := by
    rw [← Nat.mul_assoc, Nat.add_comm, Nat.add_mul_div_right _ _ hMpos, Nat.add_comm]
  have hmod : (p * (64 * M) + v) % M = v % M := by
    rw [← Nat.mul_assoc, Nat.add_comm, Nat.add_mul_mod_self_right]
  have hq : v / M < 64 := by
    rw [Nat.div_lt_iff_lt_mul hMpos]; exact hv
  rw [hdiv, hmod]
  have hvm := Nat.div_add_mod v M
  generalize v / M = q at *
  have hx : (UInt8.ofNat (p * 64 + q)).toNat = p * 64 + q := by
    rw [UInt8.toNat_ofNat']; exact Nat.mod_eq_of_lt (by omega)
  refine ⟨_, _, rfl, ?_, by rw [ofNatBE_length], ?_⟩
  · unfold varintLen
    rw [hx, Nat.shiftRight_eq_div_pow, Nat.shiftLeft_eq, show (p * 64 + q) / 2 ^ 6 = p by omega, Nat.one_mul, hw]
  · have hand : (p * 64 + q) &&& 0x3f = q := by
      rw [show (0x3f : Nat) = 2 ^ 6 - 1 by decide, Nat.and_two_pow_sub_one_eq_mod]; omega
    rw [hx, hand, accBE_ofNatBE _ _ _ (by rw [hM]; exact Nat.mod_lt _ hMpos), hM, Nat.mul_comm]
    exact hvm

theorem decodeVarint_enc (x : VW) (v : Nat) (hv : x.fits v) (s : Bytes) : decodeVarint (x.enc v ++ s) = some v := by
  obtain ⟨b, body, he, hl, hb, ha⟩ := VW.enc_cons x v hv
  rw [he, List.cons_append, decodeVarint]
  simp only [hl]
  rw [if_neg (by rw [List.length_append]; omega), List.take_left' (by omega), ha]

/-- The byte-level round trip: the first byte announces the width, and decoding the first `w` bytes
    (whatever follows) returns the value. -/
theorem decode_enc (x : VW) (v : Nat) (hv : x.fits v) (tail : Bytes) :
    ∃ b rest, x.enc v ++ tail = b :: rest ∧ varintLen b = x.w ∧
      decodeVarint ((x.enc v ++ tail).take x.w) = some v := by
  obtain ⟨b, body, he, hl, -, -⟩ := VW.enc_cons x v hv
  refine ⟨b, body ++ tail, by rw [he]; rfl, hl, ?_⟩
  rw [List.take_left' (VW.enc_length x v), ← List.append_nil (x.enc v)]
  exact decodeVarint_enc x v hv []

theorem _root_.TLX.Lemmas.Cursor.At.varint {p rest : Bytes} {i : Nat} {x : VW} {v : Nat} (c : At p i (x.enc v ++ rest))
    (hv : x.fits v) : readVarint p i = some (v, i + x.w) ∧ At p (i + x.w) rest := by
  refine ⟨?_, (c.field _ _ (by rw [VW.enc_length])).2⟩
  obtain ⟨b, body, he, hl, hb, ha⟩ := VW.enc_cons x v hv
  rw [readVarint_eq, c.2, he, List.cons_append]
  simp only [hl]
  rw [if_neg (by rw [List.length_append]; omega), List.take_left' (by omega), ha]

theorem _root_.TLX.Lemmas.Cursor.At.vi {p rest : Bytes} {i : Nat} {x : VI} (c : At p i (x.enc ++ rest)) (hx : x.ok) :
    readVarint p i = some (x.val, i + x.w.w) ∧ At p (i + x.w.w) rest :=
  c.varint hx

theorem readVarint_enc (p pre tail : Bytes) (x : VI) (i : Nat) (hx : x.ok)
    (hp : p = pre ++ (x.enc ++ tail)) (hi : i = pre.length) :
    readVarint p i = some (x.val, i + x.w.w) := by
  subst hp hi
  exact ((At.append pre _).vi hx).1

end TLX.Lemmas.QuicVarint
