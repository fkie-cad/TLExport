/-
Helper lemmas for the hello-message theorems (Props/C02Hello.lean): integer codecs, the extension list round trip,
the hello layouts, what a round of the extension loop can do (`applyExt_cases`) and its effect on a list of sent
extensions (defined here: `toP`, `applyD`, `extsEffect`). Core Lean only.
-/
import TLX.Quic.TlsMsgs
import TLX.Spec.TlsHello
import TLX.Lemmas.QuicVarint
import TLX.Lemmas.Bytes
import TLX.Lemmas.Cursor
namespace TLX.Lemmas.TlsHello
open TLX TLX.Quic.Varint TLX.Quic.TlsMsgs TLX.Spec.TlsHello TLX.Spec.QuicFrames
open TLX.Lemmas.QuicVarint (ofNatBE_length accBE_ofNatBE)
open TLX.Lemmas.Cursor

-- Lemmas/Pipeline opens this namespace and says `toNat_ofNat` unqualified
export TLX.Bytes (beNat_ofNatBE toNat_ofNat)

theorem u8_length (n : Nat) : (u8 n).length = 1 := ofNatBE_length 1 n
theorem u16_length (n : Nat) : (u16 n).length = 2 := ofNatBE_length 2 n
theorem u24_length (n : Nat) : (u24 n).length = 3 := ofNatBE_length 3 n

theorem beNat_u16 (n : Nat) (h : n < 65536) : Bytes.beNat (u16 n) = n := beNat_ofNatBE 2 n (by simpa using h)
theorem beNat_u24 (n : Nat) (h : n < 16777216) : Bytes.beNat (u24 n) = n := beNat_ofNatBE 3 n (by simpa using h)

theorem u8_eq (n : Nat) : u8 n = [UInt8.ofNat n] := by
  simp only [u8, Bytes.ofNatBE, List.nil_append, List.cons.injEq, and_true]
  apply UInt8.toNat_inj.mp
  simp

/-- What the collecting loop of `get_extensions` should produce for a sent extension. -/
def toP (e : Ext) : PExt := ⟨u16 e.ty, e.body.length, e.body⟩

theorem extsPayload_cons (e : Ext) (es : List Ext) :
    extsPayload (e :: es) = u16 e.ty ++ (u16 e.body.length ++ (e.body ++ extsPayload es)) := by
  simp [extsPayload, encodeExt, vec16]

theorem parseExts_nil : parseExts [] = [] := by rw [parseExts]; rfl

theorem parseExts_payload (es : List Ext) (h : ∀ e ∈ es, e.wf) :
    parseExts (extsPayload es) = es.map toP := by
  induction es with
  | nil => exact parseExts_nil
  | cons e es ih =>
    have he := (h e (by simp)).2
    have hr := extsPayload_cons e es
    generalize extsPayload (e :: es) = r at hr
    obtain ⟨h0, c1⟩ := (At.start hr).field (u16 e.ty) 2 (by rw [u16_length])
    obtain ⟨h2, c2⟩ := c1.field (u16 e.body.length) 4 (by rw [u16_length])
    obtain ⟨h4, c3⟩ := c2.field e.body (4 + e.body.length) rfl
    have hlen := c3.length
    rw [parseExts]
    simp only [h2, beNat_u16 _ he, h0, h4, c3.2]
    rw [if_neg (by omega), if_neg (by omega), ih (fun x hx => h x (by simp [hx]))]
    rfl

/-- The collecting loop only keeps complete extensions: `len(e_body) == e_length`. -/
theorem parseExts_body_length (r : Bytes) : ∀ e ∈ parseExts r, e.body.length = e.len := by
  induction r using parseExts.induct with
  | case1 r h => rw [parseExts, if_pos h]; simp
  | case2 r h el h2 => rw [parseExts, if_neg h]; simp only; rw [if_pos h2]; simp
  | case3 r h el h2 ih =>
    rw [parseExts, if_neg h]; simp only; rw [if_neg h2]
    intro e he
    rcases List.mem_cons.mp he with rfl | he
    · show (Bytes.slice r 4 (4 + el)).length = el
      rw [Bytes.slice_length]; omega
    · exact ih e he

theorem qtp_frame (s : State) (b : Bytes) :
    (quicTransportParameters s b).clientRandom = s.clientRandom ∧
    (quicTransportParameters s b).ciphersuite = s.ciphersuite ∧
    (quicTransportParameters s b).sessionId = s.sessionId ∧
    (quicTransportParameters s b).newData = s.newData ∧
    (quicTransportParameters s b).tlsVers = s.tlsVers ∧
    (quicTransportParameters s b).alpn = s.alpn := by
  unfold quicTransportParameters
  split
  · simp
  · split <;> simp

/-- `e_body[2]` cannot raise: the body of a collected extension is complete. -/
theorem applyExt_isSome (s : State) (e : PExt) (h : e.body.length = e.len) : (applyExt s e).isSome = true := by
  unfold applyExt
  split
  · split <;> rfl
  · split
    · rfl
    · rename_i hl
      have : 2 < e.body.length := by omega
      rw [List.getElem?_eq_getElem this]
      simp only
      split <;> rfl
  · rfl
  · rfl

/-- What one round of the loop can do: nothing, or one of the three assignments, each under its extension type. -/
theorem applyExt_cases (s s' : State) (e : PExt) (h : applyExt s e = some s') :
    (s' = s ∧ (Bytes.beNat e.ty = 43 → e.len ≠ 2)) ∨
    (Bytes.beNat e.ty = 43 ∧ e.len = 2 ∧ s' = { s with tlsVers := some e.body }) ∨
    (Bytes.beNat e.ty = 16 ∧ ∃ name, s' = { s with alpn := some name }) ∨
    (Bytes.beNat e.ty = 57 ∧ s' = quicTransportParameters s e.body) := by
  unfold applyExt at h
  split at h
  · rename_i h43
    split at h <;> rename_i h2 <;> cases h
    · exact .inl ⟨rfl, fun _ => h2⟩
    · exact .inr (.inl ⟨h43, Decidable.not_not.mp h2, rfl⟩)
  · rename_i h16
    have h43 : Bytes.beNat e.ty = 43 → e.len ≠ 2 := fun h => by rw [h16] at h; cases h
    split at h
    · cases h; exact .inl ⟨rfl, h43⟩
    · split at h
      · cases h
      · split at h <;> cases h
        · exact .inl ⟨rfl, h43⟩
        · exact .inr (.inr (.inl ⟨h16, _, rfl⟩))
  · rename_i h57
    cases h; exact .inr (.inr (.inr ⟨h57, rfl⟩))
  · rename_i h43 _ _
    cases h; exact .inl ⟨rfl, fun h => absurd h h43⟩

theorem applyExt_frame (s s' : State) (e : PExt) (h : applyExt s e = some s') :
    s'.clientRandom = s.clientRandom ∧ s'.ciphersuite = s.ciphersuite ∧ s'.sessionId = s.sessionId ∧
    s'.newData = s.newData := by
  obtain ⟨rfl, -⟩ | ⟨-, -, rfl⟩ | ⟨-, _, rfl⟩ | ⟨-, rfl⟩ := applyExt_cases s s' e h
  · exact ⟨rfl, rfl, rfl, rfl⟩
  · exact ⟨rfl, rfl, rfl, rfl⟩
  · exact ⟨rfl, rfl, rfl, rfl⟩
  · have := qtp_frame s e.body
    exact ⟨this.1, this.2.1, this.2.2.1, this.2.2.2.1⟩

theorem applyExts_no_raise (es : List PExt) (h : ∀ e ∈ es, e.body.length = e.len) (s : State) :
    (applyExts s es).2 = none := by
  induction es generalizing s with
  | nil => rfl
  | cons e es ih =>
    have := applyExt_isSome s e (h e (by simp))
    unfold applyExts
    cases hx : applyExt s e with
    | none => rw [hx] at this; cases this
    | some s' => exact ih (fun x hx => h x (by simp [hx])) s'

theorem applyExts_frame (es : List PExt) (s : State) :
    (applyExts s es).1.clientRandom = s.clientRandom ∧ (applyExts s es).1.ciphersuite = s.ciphersuite ∧
    (applyExts s es).1.sessionId = s.sessionId ∧ (applyExts s es).1.newData = s.newData := by
  induction es generalizing s with
  | nil => simp [applyExts]
  | cons e es ih =>
    unfold applyExts
    cases hx : applyExt s e with
    | none => simp
    | some s' =>
      have h1 := applyExt_frame s s' e hx
      have h2 := ih s'
      simp only [h2, h1, and_self]

/-- `get_extensions` (hence ServerHello / EncryptedExtensions handling) never raises, on any bytes. -/
theorem _root_.TLX.Props.C02Hello.get_extensions_total (s : State) (r : Bytes) : (getExtensions s r).2 = none := by
  unfold getExtensions
  split
  · rfl
  · exact applyExts_no_raise _ (parseExts_body_length _) s

theorem getExtensions_frame (s : State) (r : Bytes) :
    (getExtensions s r).1.clientRandom = s.clientRandom ∧ (getExtensions s r).1.ciphersuite = s.ciphersuite ∧
    (getExtensions s r).1.sessionId = s.sessionId ∧ (getExtensions s r).1.newData = s.newData := by
  unfold getExtensions
  split
  · simp
  · exact applyExts_frame _ s

theorem extsThenNewData_eq (s : State) (r : Bytes) :
    extsThenNewData s r = ({ (getExtensions s r).1 with newData := true }, none) := by
  have := Props.C02Hello.get_extensions_total s r
  unfold extsThenNewData
  generalize getExtensions s r = x at *
  obtain ⟨s', e⟩ := x
  simp only at this
  subst this
  rfl

/-- One round of the loop on a *sent* extension (never raises: `applyExt_isSome`). -/
def applyD (s : State) (e : Ext) : State := (applyExt s (toP e)).getD s

/-- The state after the dispatch loop ran over the sent extensions `es`. -/
def extsEffect (s : State) (es : List Ext) : State := es.foldl applyD s

theorem applyExts_toP (es : List Ext) (s : State) : applyExts s (es.map toP) = (extsEffect s es, none) := by
  induction es generalizing s with
  | nil => rfl
  | cons e es ih =>
    have := applyExt_isSome s (toP e) rfl
    simp only [List.map_cons, applyExts, extsEffect, List.foldl_cons, applyD]
    cases hx : applyExt s (toP e) with
    | none => rw [hx] at this; cases this
    | some s' => simp only [Option.getD_some]; exact ih s'

theorem getExtensions_encodeExts (s : State) (es : List Ext) (h : extsWf es) :
    getExtensions s (encodeExts es) = (extsEffect s es, none) := by
  obtain ⟨h0, c⟩ := (At.start (rfl : encodeExts es = u16 (extsPayload es).length ++ extsPayload es)).field _ 2
    (by rw [u16_length])
  unfold getExtensions
  rw [h0, c.2, beNat_u16 _ h.2, if_neg (by simp), parseExts_payload es h.1, applyExts_toP]

theorem getExtensions_nil (s : State) : getExtensions s [] = (s, none) := by
  unfold getExtensions
  rw [if_neg (by decide)]
  show applyExts s (parseExts []) = _
  rw [parseExts_nil]; rfl

theorem getExtensions_encodeOptExts (s : State) (o : Option (List Ext)) (h : optExtsWf o) :
    getExtensions s (encodeOptExts o) = (extsEffect s (o.getD []), none) := by
  cases o with
  | none => exact getExtensions_nil s
  | some es => exact getExtensions_encodeExts s es h

theorem handshake_eq_cons (t : Nat) (body : Bytes) : handshake t body = UInt8.ofNat t :: (u24 body.length ++ body) := by
  simp only [handshake, u8_eq, List.cons_append, List.nil_append]

theorem handshake_length (t : Nat) (body : Bytes) : (handshake t body).length = 4 + body.length := by
  unfold handshake
  rw [List.length_append, List.length_append, u8_length, u24_length]

theorem handshake_cursor (t : Nat) (body : Bytes) :
    Bytes.slice (handshake t body) 1 4 = u24 body.length ∧ At (handshake t body) 4 body := by
  obtain ⟨-, c⟩ := (At.start (List.append_assoc ..) : At (handshake t body) 0 (u8 t ++ (u24 body.length ++ body))).field
    (u8 t) 1 (by rw [u8_length])
  exact c.field _ 4 (by rw [u24_length])

/-- where the hello handlers of both parsers (this one, and `Session.serverHello` through Lemmas/Pipeline) look in a hello
    message; about arbitrary pieces, the hellos are instances -/
theorem hello_fields (h4 lv rnd sid suite rest r : Bytes) (comp : UInt8) (hh : h4.length = 4) (hlv : lv.length = 2)
    (hrnd : rnd.length = 32) (hsu : suite.length = 2)
    (hr : r = h4 ++ (lv ++ (rnd ++ (UInt8.ofNat sid.length :: (sid ++ (suite ++ (comp :: rest))))))) :
    Bytes.slice r 4 6 = lv ∧ Bytes.slice r 6 38 = rnd ∧ r[38]? = some (UInt8.ofNat sid.length) ∧
    Bytes.slice r (38 + sid.length + 1) (38 + sid.length + 1 + 2) = suite ∧
    r[38 + sid.length + 1 + 2]? = some comp ∧ At r (38 + sid.length + 1 + 3) rest := by
  obtain ⟨-, c1⟩ := (At.start hr).field h4 4 (by omega)
  obtain ⟨e1, c2⟩ := c1.field lv 6 (by omega)
  obtain ⟨e2, c3⟩ := c2.field rnd 38 (by omega)
  obtain ⟨-, c4⟩ := At.field [_] c3 39 rfl
  obtain ⟨-, c5⟩ := c4.field sid (38 + sid.length + 1) (by omega)
  obtain ⟨e4, c6⟩ := c5.field suite (38 + sid.length + 1 + 2) (by omega)
  obtain ⟨-, c7⟩ := At.field [comp] c6 (38 + sid.length + 1 + 3) rfl
  exact ⟨e1, e2, c3.get, e4, c6.get, c7⟩

theorem handshake_lenfield (t : Nat) (body : Bytes) (h : body.length < 16777216) :
    Bytes.beNat (Bytes.slice (handshake t body) 1 4) = body.length := by
  rw [(handshake_cursor t body).1]
  exact beNat_u24 _ h

theorem handshake_drop (t : Nat) (body : Bytes) : (handshake t body).drop 4 = body :=
  (handshake_cursor t body).2.2

/-- `handle_client_hello` after `record = record[4:]`, on a body laid out as RFC 8446 §4.1.2 says. -/
theorem chBody_layout (s : State) (lv rnd sid suites comp extblk : Bytes)
    (hlv : lv.length = 2) (hrnd : rnd.length = 32) (hsid : sid.length < 256)
    (hsu : suites.length < 65536) (hcomp : comp.length < 256) :
    chBody s (lv ++ rnd ++ vec8 sid ++ vec16 suites ++ vec8 comp ++ extblk) =
      extsThenNewData { s with tlsVers := some lv, clientRandom := some rnd, sessionId := some sid,
                               ciphersuite := some (Bytes.slice suites 0 2) } extblk := by
  have hr : lv ++ rnd ++ vec8 sid ++ vec16 suites ++ vec8 comp ++ extblk =
      lv ++ (rnd ++ (UInt8.ofNat sid.length :: (sid ++ (u16 suites.length ++ (suites ++
        (UInt8.ofNat comp.length :: (comp ++ extblk))))))) := by
    simp only [vec8, vec16, u8_eq, List.append_assoc, List.cons_append, List.nil_append]
  generalize lv ++ rnd ++ vec8 sid ++ vec16 suites ++ vec8 comp ++ extblk = r at hr
  obtain ⟨e0, c1⟩ := (At.start hr).field lv 2 (by omega)
  obtain ⟨e1, c2⟩ := c1.field rnd 34 (by omega)
  obtain ⟨-, c3⟩ := At.field [_] c2 35 rfl
  obtain ⟨e3, c4⟩ := c3.field sid _ rfl
  obtain ⟨e4, c5⟩ := c4.field (u16 suites.length) (35 + sid.length + 2) (by rw [u16_length])
  obtain ⟨e5, c6⟩ := c5.field suites _ rfl
  obtain ⟨-, c7⟩ := At.field [_] c6 (35 + sid.length + 2 + suites.length + 1) rfl
  obtain ⟨-, c8⟩ := c7.field comp (35 + sid.length + 2 + suites.length + (1 + comp.length)) (by omega)
  unfold chBody
  simp only [e0, e1, c2.get, toNat_ofNat _ hsid, e3, e4, beNat_u16 _ hsu, e5, c6.get, toNat_ofNat _ hcomp, c8.2]

theorem first_suite (suites : List Bytes) (h : ∀ x ∈ suites, x.length = 2) :
    Bytes.slice suites.flatten 0 2 = suites.head?.getD [] := by
  cases suites with
  | nil => rfl
  | cons x xs =>
    have := h x (by simp)
    simp only [List.flatten_cons, List.head?_cons, Option.getD_some]
    exact ((At.start rfl).field x 2 (by omega)).1

theorem flatten_length2 (suites : List Bytes) (h : ∀ x ∈ suites, x.length = 2) :
    suites.flatten.length = 2 * suites.length := by
  induction suites with
  | nil => rfl
  | cons x xs ih =>
    have := h x (by simp)
    simp only [List.flatten_cons, List.length_append, List.length_cons, ih (fun y hy => h y (by simp [hy]))]
    omega

/-- `handle_server_hello` on a record laid out as RFC 8446 §4.1.3 says, when the 44-byte guard passes. -/
theorem handleServerHello_layout (s : State) (hdr lv rnd sid suite : Bytes) (cm : UInt8) (extblk : Bytes)
    (hhdr : hdr.length = 4) (hlv : lv.length = 2) (hrnd : rnd.length = 32) (hsid : sid.length < 256)
    (hsuite : suite.length = 2) (hlen : 2 ≤ sid.length + extblk.length) :
    handleServerHello s (hdr ++ (lv ++ rnd ++ vec8 sid ++ suite ++ [cm] ++ extblk)) =
      extsThenNewData { s with ciphersuite := some suite } extblk := by
  have hr : hdr ++ (lv ++ rnd ++ vec8 sid ++ suite ++ [cm] ++ extblk) =
      hdr ++ (lv ++ (rnd ++ (UInt8.ofNat sid.length :: (sid ++ (suite ++ (cm :: extblk)))))) := by
    simp only [vec8, u8_eq, List.append_assoc, List.cons_append, List.nil_append]
  generalize hdr ++ (lv ++ rnd ++ vec8 sid ++ suite ++ [cm] ++ extblk) = r at hr
  obtain ⟨-, -, e38, esu, -, c⟩ := hello_fields hdr lv rnd sid suite extblk r cm hhdr hlv hrnd hsuite hr
  have hl := c.length
  unfold handleServerHello
  rw [if_neg (by omega)]
  -- the handler slices `record[39 + sid_len:]`; `hello_fields` counts `38 + sid_len + 1`
  simp only [e38, toNat_ofNat _ hsid, Bytes.slice_drop, List.drop_drop]
  rw [show 39 + sid.length + 0 = 38 + sid.length + 1 by omega, show 39 + sid.length + 2 = 38 + sid.length + 1 + 2 by omega,
    esu, show 39 + sid.length + 3 = 38 + sid.length + 1 + 3 by omega, c.2]

theorem extsEffect_eq (s : State) (es : List Ext) : extsEffect s es = (applyExts s (es.map toP)).1 := by
  rw [applyExts_toP]

theorem extsEffect_append (s : State) (a b : List Ext) :
    extsEffect s (a ++ b) = extsEffect (extsEffect s a) b := by
  simp [extsEffect, List.foldl_append]

theorem extsEffect_cons (s : State) (e : Ext) (es : List Ext) :
    extsEffect s (e :: es) = extsEffect (applyD s e) es := rfl

theorem extsEffect_frame (s : State) (es : List Ext) :
    (extsEffect s es).clientRandom = s.clientRandom ∧ (extsEffect s es).ciphersuite = s.ciphersuite ∧
    (extsEffect s es).sessionId = s.sessionId ∧ (extsEffect s es).newData = s.newData := by
  rw [extsEffect_eq]; exact applyExts_frame _ s

theorem optExtsWf_mem {o : Option (List Ext)} (h : optExtsWf o) : ∀ e ∈ o.getD [], e.wf := by
  cases o with
  | none => intro e he; cases he
  | some es => exact h.1

theorem applyD_spec (s : State) (e : Ext) : applyExt s (toP e) = some (applyD s e) := by
  have := applyExt_isSome s (toP e) rfl
  unfold applyD
  cases hx : applyExt s (toP e) with
  | none => rw [hx] at this; cases this
  | some s' => rfl

theorem applyD_cases (s : State) (e : Ext) (he : e.ty < 65536) :
    (applyD s e = s ∧ (e.ty = 43 → e.body.length ≠ 2)) ∨
    (e.ty = 43 ∧ e.body.length = 2 ∧ applyD s e = { s with tlsVers := some e.body }) ∨
    (e.ty = 16 ∧ ∃ name, applyD s e = { s with alpn := some name }) ∨
    (e.ty = 57 ∧ applyD s e = quicTransportParameters s e.body) := by
  have := applyExt_cases s _ (toP e) (applyD_spec s e)
  rwa [show Bytes.beNat (toP e).ty = e.ty from beNat_u16 _ he] at this

theorem extsEffect_keeps {β : Type} (π : State → β) (es : List Ext) (h : ∀ e ∈ es, ∀ s, π (applyD s e) = π s)
    (s : State) : π (extsEffect s es) = π s := by
  induction es generalizing s with
  | nil => rfl
  | cons e es ih =>
    rw [extsEffect_cons, ih (fun x hx => h x (List.mem_cons_of_mem _ hx)), h e List.mem_cons_self]

theorem applyD_tlsVers (s : State) (e : Ext) (he : e.ty < 65536) :
    (applyD s e).tlsVers = if (e.ty == 43 && e.body.length == 2) = true then some e.body else s.tlsVers := by
  simp only [Bool.and_eq_true, beq_iff_eq]
  obtain ⟨h, hn⟩ | ⟨h43, h2, h⟩ | ⟨h16, _, h⟩ | ⟨h57, h⟩ := applyD_cases s e he <;> rw [h]
  · rw [if_neg (fun h => hn h.1 h.2)]
  · rw [if_pos ⟨h43, h2⟩]
  · rw [if_neg (fun h => by rw [h16] at h; cases h.1)]
  · rw [if_neg (fun h => by rw [h57] at h; cases h.1)]
    exact (qtp_frame s e.body).2.2.2.2.1

theorem versionSeen_cons (d : Option Bytes) (e : Ext) (es : List Ext) :
    versionSeen d (e :: es) =
      versionSeen (if (e.ty == 43 && e.body.length == 2) = true then some e.body else d) es := by
  unfold versionSeen
  rw [List.reverse_cons, List.find?_append]
  cases es.reverse.find? (fun e => e.ty == 43 && e.body.length == 2) with
  | some x => rfl
  | none =>
    simp only [Option.none_or, List.find?_cons, List.find?_nil]
    cases h : (e.ty == 43 && e.body.length == 2) <;> simp

theorem extsEffect_tlsVers (es : List Ext) (h : ∀ e ∈ es, e.wf) (s : State) :
    (extsEffect s es).tlsVers = versionSeen s.tlsVers es := by
  induction es generalizing s with
  | nil => rfl
  | cons e es ih =>
    rw [extsEffect_cons, ih (fun x hx => h x (by simp [hx])), versionSeen_cons,
      applyD_tlsVers s e (h e (by simp)).1]

theorem extsEffect_alpn_other (es : List Ext) (h : ∀ e ∈ es, e.wf ∧ e.ty ≠ 16) (s : State) :
    (extsEffect s es).alpn = s.alpn := by
  refine extsEffect_keeps (·.alpn) es (fun e he s => ?_) s
  obtain ⟨h, -⟩ | ⟨-, -, h⟩ | ⟨h16, -⟩ | ⟨-, h⟩ := applyD_cases s e (h e he).1.1
  · rw [h]
  · rw [h]
  · exact absurd h16 (h e he).2
  · rw [h]; exact (qtp_frame s e.body).2.2.2.2.2

theorem extsEffect_greasy_other (es : List Ext) (h : ∀ e ∈ es, e.wf ∧ e.ty ≠ 57) (s : State) :
    (extsEffect s es).greasyBit = s.greasyBit := by
  refine extsEffect_keeps (·.greasyBit) es (fun e he s => ?_) s
  obtain ⟨h, -⟩ | ⟨-, -, h⟩ | ⟨-, _, h⟩ | ⟨h57, -⟩ := applyD_cases s e (h e he).1.1
  · rw [h]
  · rw [h]
  · rw [h]
  · exact absurd h57 (h e he).2

theorem applyExt_alpn_one (s s' : State) (e : PExt) (name : Bytes) (hty : Bytes.beNat e.ty = 16)
    (hl : e.len = 3 + name.length) (hbl : e.body.length = 3 + name.length)
    (e2 : e.body[2]? = some (UInt8.ofNat name.length)) (hn : name.length < 256)
    (e3 : Bytes.slice e.body 3 (3 + name.length) = name)
    (h : applyExt s e = some s') : s'.alpn = some name := by
  unfold applyExt at h
  simp only [hty] at h
  rw [if_neg (by omega)] at h
  simp only [e2, toNat_ofNat _ hn] at h
  rw [if_neg (by omega), e3] at h
  cases h; rfl

/-- RFC 7301 body with exactly one protocol name. -/
theorem applyD_alpn_one (s : State) (name : Bytes) (hn : name.length < 256) :
    (applyD s ⟨16, alpnBody [name]⟩).alpn = some name := by
  have hb : alpnBody [name] = u16 (vec8 name ++ []).length ++ (UInt8.ofNat name.length :: name) := by
    simp [alpnBody, vec16, vec8, u8_eq]
  generalize alpnBody [name] = b at hb
  obtain ⟨-, c1⟩ := (At.start hb).field (u16 _) 2 (by rw [u16_length])
  obtain ⟨-, c2⟩ := At.field [_] c1 3 rfl
  have hl := c2.length
  exact applyExt_alpn_one s _ (toP ⟨16, b⟩) name (beNat_u16 16 (by decide)) hl hl c1.get hn (hl ▸ c2.toEnd.1)
    (applyD_spec s ⟨16, b⟩)

theorem applyExt_57 (s s' : State) (e : PExt) (hty : Bytes.beNat e.ty = 57) (h : applyExt s e = some s') :
    s' = quicTransportParameters s e.body := by
  unfold applyExt at h
  simp only [hty, Option.some.injEq] at h
  exact h.symm

/-- `get_quic_transport_parameters` reads back a well-formed RFC 9000 §18 parameter sequence. -/
theorem parseTP_tpBody (ps : List TParam) (h : ∀ p ∈ ps, p.wf) :
    parseTP (tpBody ps) = some (ps.map fun p => (p.id.val, p.value.length, p.value)) := by
  induction ps with
  | nil => rw [parseTP]; rfl
  | cons p ps ih =>
    have hp := h p (by simp)
    have hr : tpBody (p :: ps) = p.id.enc ++ (p.lenW.enc p.value.length ++ (p.value ++ tpBody ps)) := by
      simp [tpBody, encodeTParam]
    generalize tpBody (p :: ps) = r at hr
    have hp1 := p.id.w.w_pos
    obtain ⟨r1, c1⟩ := (At.start hr).vi hp.1
    obtain ⟨r2, c2⟩ := c1.varint hp.2
    obtain ⟨e3, c3⟩ := c2.field p.value _ rfl
    have hlen := c1.length
    rw [parseTP, if_neg (by omega)]
    split
    · rename_i hx; rw [r1] at hx; cases hx
    · rename_i pty index hx
      rw [r1] at hx; cases hx
      split
      · rename_i hy; rw [r2] at hy; cases hy
      · rename_i plen index2 hy
        rw [r2] at hy; cases hy
        rw [c3.2, ih (fun x hx => h x (by simp [hx])), e3]
        rfl

theorem applyD_greasy_tp (s : State) (ps : List TParam) (hw : ∀ p ∈ ps, p.wf) :
    (applyD s ⟨57, tpBody ps⟩).greasyBit = (s.greasyBit || ps.any (fun p => p.id.val == 0x2ab2)) := by
  rw [applyExt_57 s _ (toP ⟨57, tpBody ps⟩) (beNat_u16 57 (by decide)) (applyD_spec s ⟨57, tpBody ps⟩)]
  show (quicTransportParameters s (tpBody ps)).greasyBit = _
  unfold quicTransportParameters
  rw [parseTP_tpBody ps hw]
  simp only [List.any_map]
  have : ((fun p : Nat × Nat × Bytes => p.1 == 0x2ab2) ∘ fun p : TParam => (p.id.val, p.value.length, p.value)) =
      fun p : TParam => p.id.val == 0x2ab2 := rfl
  rw [this]
  cases ps.any (fun p => p.id.val == 0x2ab2) <;> simp

end TLX.Lemmas.TlsHello
