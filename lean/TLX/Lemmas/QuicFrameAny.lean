/-
`startOf` (the offset of the `i`-th returned frame) step by step.
-/
import TLX.Lemmas.QuicFrameSeq
namespace TLX.Lemmas.QuicFrameAny
open TLX TLX.Quic TLX.Quic.Varint TLX.Quic.Frame TLX.Spec.QuicFrames TLX.Lemmas.QuicFrameSeq

local macro "datas_tac" h:ident fn:ident : tactic => `(tactic| (
  revert $h:ident
  simp only [$fn:ident, Option.bind_eq_bind, Option.bind_eq_some_iff, Option.pure_def, Option.some.injEq,
    Prod.exists, exists_imp, and_imp, forall_exists_index]
  intros
  subst_vars
  simp only [FromPayload, Parsed.datas, List.mem_cons, List.not_mem_nil, or_false, forall_eq_or_imp, forall_eq,
    false_imp_iff, implies_true, and_true]
  try exact ⟨_, _, rfl⟩))

theorem startOf_zero (ps : List Parsed) : startOf ps 0 = 0 := by simp [startOf]

theorem startOf_succ (f : Parsed) (ps : List Parsed) (i : Nat) : startOf (f :: ps) (i + 1) = f.length + startOf ps i := by
  simp [startOf]

end TLX.Lemmas.QuicFrameAny
