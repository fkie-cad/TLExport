/-
The capture layer of the file-level C01 theorems (`Props/C01File` … `Props/C01All`): what a capture file is to the read loop,
and what a capture DESCRIBED FROM THE SENDER'S SIDE is to the session object of its connection.
Two namespaces, because the statements of the file-level theorems name these notions in full: `TLX.Props.C01File` (`CapEv` …
`WiresInOrder`; the theorems about them are in `Lemmas/C01Segs` and `Props/C01File`), then `TLX.Lemmas.C01Full`.

Suffixes. A plain name is the notion without `-c` and, over IPv6, without extension headers; the suffixed one is the general
notion, the plain one its case `c = false` / no extension header (`pktOfC_false`, `itemsFromC_false`, `capOkC_false`,
`isSegX_of_isSeg`, `describedX_of_described`):
  `C`   with the `-c` bit `c` as a parameter (`pktOfC`, `itemsFromC`, `CapOkC`, `ForeignC`): every item carries the verdict of
        `calculate_checksum_tcp/udp` (`csumBit`); for a segment of the connection it is the RFC 1071 receiver's
        (`CsumValid`, through `Lemmas.Ingest.ingest_verdict`)
  `X`   IPv6 extension headers admitted (`IsSegX`): any chain dpkt's walk survives (`Props.C12Dissect.dissect_view`; that
        dpkt's `IP6OptsHeader` reads back every options header the encoder lays out is `Lemmas.Dissect.extOk_opts`).
        `DescribedX` is general in both respects: it takes `c` and is made of `IsSegX` and `ForeignC`.
-/
import TLX.Props.Export
import TLX.Props.C01Capstone
import TLX.Props.C12Dissect
import TLX.Lemmas.Ingest
import TLX.Props.C11
import TLX.Spec.TlsCapture
set_option autoImplicit false
namespace TLX.Props.C01File
open TLX TLX.MainLoop TLX.Spec.Demux TLX.Lemmas.MainLoop TLX.Dissect TLX.OutBytes
open TLX.Container (Item)

/-- one packet of a capture as the reader yields it and as dpkt dissects it: the time stamp operands, the frame bytes,
    and what `Packet(buf, ts)` finds in them -/
structure CapEv where
  t : Container.Time
  buf : Bytes
  d : Dissected

def CapEv.item (e : CapEv) : Container.Item := .pkt e.t e.buf

/-- the microsecond the tool computes for the packet (`float(ts)`, then dpkt's `round(ts * 1e6)`): IEEE-754, executable only -/
def CapEv.us (e : CapEv) : Nat := Container.usOfFloat e.t.toFloat

/-- `Packet(buf, ts)` as a `MainLoop.Pkt` (without `-c`: the checksum verdict is not computed) -/
def pktOf (tag : Nat) : Dissected → Pkt
  | .notIp => Ingest.otherPkt tag
  | .ip x =>
    match x.l4 with
    | .tcp sp dp _ _ pl => ⟨.tcp, ⟨x.src, sp⟩, ⟨x.dst, dp⟩, pl, true, tag⟩
    | .udp sp dp pl => ⟨.udp, ⟨x.src, sp⟩, ⟨x.dst, dp⟩, pl, true, tag⟩
    | .other => Ingest.otherPkt tag

/-- what `Pipeline` reads behind the packet's tag -/
def infoOf (us : Nat) : Dissected → Pipeline.Info
  | .notIp => ⟨0, us, [], [], false⟩
  | .ip x =>
    match x.l4 with
    | .tcp _ _ seq _ _ => ⟨seq, us, x.srcMac, x.dstMac, x.v6⟩
    | _ => ⟨0, us, x.srcMac, x.dstMac, x.v6⟩

/-- the items the main loop iterates over: the packets of the capture, tagged by position -/
def itemsFrom : Nat → List CapEv → List (MainLoop.Item Keylog.Key)
  | _, [] => []
  | tag, e :: rest => .frame (pktOf tag e.d) :: itemsFrom (tag + 1) rest

def infosFrom : Nat → List CapEv → List (Nat × Pipeline.Info)
  | _, [] => []
  | tag, e :: rest => (tag, infoOf e.us e.d) :: infosFrom (tag + 1) rest

/-- the capture as a well-formed input of the read loop: every frame is dissected without an exception (`d` is what dpkt
    finds), and no time stamp evaluates to −1.0 (the tool would take the packet for a secrets block) -/
def CapOk (cap : List CapEv) : Prop :=
  ∀ e ∈ cap, dissect e.buf = .ok e.d ∧ Ingest.isMinusOne e.t = false

theorem lookup_infosFrom (cap : List CapEv) (n i : Nat) (e : CapEv) (h : cap[i]? = some e) :
    Ingest.lookup (infosFrom n cap) (n + i) = infoOf e.us e.d := by
  induction cap generalizing n i with
  | nil => cases h
  | cons c rest ih =>
    cases i with
    | zero =>
      simp only [List.getElem?_cons_zero, Option.some.injEq] at h
      subst h
      rw [infosFrom]
      exact Lemmas.Export.lookup_cons_eq _ _ _
    | succ j =>
      simp only [List.getElem?_cons_succ] at h
      rw [infosFrom, Lemmas.Export.lookup_cons_ne _ _ _ _ (by omega), ← ih (n + 1) j h]
      congr 1; omega

section
open TLX.Export TLX.Cipher TLX.RecordLayer TLX.Spec.TlsSender TLX.Props.C01 TLX.Lemmas.Pipeline TLX.Spec.TlsConnection
open TLX.Lemmas.Capstone TLX.Props.C01Pipeline TLX.Spec.TlsFraming TLX.Props.C01Capstone

/-- what `Pipeline` finds behind the tags of a capture -/
def capInfo (cap : List CapEv) : Nat → Pipeline.Info := Ingest.lookup (infosFrom 0 cap)

/-- THE session object `run()` builds for a flow whose TLS-relevant packets are `p0 :: rest`: roles by the server ports,
    MAC addresses and IP version of the first packet, all packets of the flow in capture order -/
def sessionOf (cap : List CapEv) (o : Opts) (p0 : Pkt) (rest : List Pkt) : Pipeline.Conn :=
  let r := rolesOf o.ports p0
  let i := capInfo cap p0.tag
  { opts := o, server := r.1, client := r.2,
    serverMac := if r.1 == p0.src then i.srcMac else i.dstMac,
    clientMac := if r.1 == p0.src then i.dstMac else i.srcMac,
    ipv6 := i.ipv6, pkts := p0 :: rest }

end

theorem capInfo_at (cap : List CapEv) (i : Nat) (e : CapEv) (h : cap[i]? = some e) :
    capInfo cap i = infoOf e.us e.d := by
  have := lookup_infosFrom cap 0 i e h
  rw [Nat.zero_add] at this
  exact this

/-- the `i`-th event of a part `evs` of a capture `pre ++ evs.map cap ++ post`, whatever the kind of event -/
theorem cap_at {ε : Type} (cap : ε → CapEv) (evs : List ε) (full pre post : List CapEv)
    (hfull : full = pre ++ evs.map cap ++ post) (off : Nat) (hoff : pre.length = off) (i : Nat) (ev : ε)
    (hi : evs[i]? = some ev) : full[off + i]? = some (cap ev) := by
  have hlt : i < (evs.map cap).length := by rw [List.length_map]; exact (List.getElem?_eq_some_iff.mp hi).1
  rw [hfull, ← hoff, List.append_assoc, List.getElem?_append_right (Nat.le_add_right ..), Nat.add_sub_cancel_left,
    List.getElem?_append_left hlt, List.getElem?_map, hi]
  rfl

section
open TLX.Spec.FrameBuild TLX.Spec.TlsCapture TLX.Props.C12Dissect

/-- what dpkt finds in a frame built by `Spec.FrameBuild` (`dissect_build_v4/_v6`) -/
def viewOf (fr : Spec.FrameBuild.Frame) : Dissected :=
  match fr.net with
  | .v4 h => .ip ⟨false, fr.srcMac, fr.dstMac, h.src, h.dst, fr.upper.proto, fr.upper.encode, transportOf fr.upper⟩
  | .v6 h => .ip ⟨true, fr.srcMac, fr.dstMac, h.src, h.dst, fr.upper.proto, fr.upper.encode, transportOf fr.upper⟩

def clientEp (fl : Flow) : Endpoint := ⟨fl.clientIp, fl.clientPort⟩
def serverEp (fl : Flow) : Endpoint := ⟨fl.serverIp, fl.serverPort⟩


/-- a described capture: segments of the connection (each with the time the reader yields for it) and anything else -/
inductive CEv
  | seg (t : Container.Time) (fromServer : Bool) (fr : Spec.FrameBuild.Frame) (tcp : Tcp)
  | foreign (e : CapEv)

def CEv.cap : CEv → CapEv
  | .seg t _ fr _ => ⟨t, fr.encode, viewOf fr⟩
  | .foreign e => e

/-- a packet of the flow, to select it with -/
def refPkt (fl : Flow) : Pkt := ⟨.tcp, clientEp fl, serverEp fl, [], true, 0⟩

/-- a foreign packet: dpkt dissects it without exception, and IF the main loop takes it for a TCP segment with payload, it
    is between another pair of endpoints than the connection's (anything else — non-IP frames, ARP, ICMP, fragments, UDP
    and QUIC, TCP of other flows with or without TLS in them, pure ACKs of any flow — is admitted) -/
def Foreign (fl : Flow) (e : CapEv) : Prop :=
  dissect e.buf = .ok e.d ∧
  ∀ tag, (pktOf tag e.d).l4 = .tcp → (pktOf tag e.d).payload ≠ [] → sameFlow (refPkt fl) (pktOf tag e.d) = false

def Described (fl : Flow) (evs : List CEv) : Prop :=
  ∀ ev ∈ evs, match ev with
    | .seg _ d fr t => IsSeg fl d fr t
    | .foreign e => Foreign fl e

/-- the packets of the connection that reach its session: the segments with payload, tagged by their position in the capture -/
def flowPkts (fl : Flow) : Nat → List CEv → List Pkt
  | _, [] => []
  | n, .seg _ d _ t :: rest =>
    if t.payload = [] then flowPkts fl (n + 1) rest
    else ⟨.tcp, if d then serverEp fl else clientEp fl, if d then clientEp fl else serverEp fl, t.payload, true, n⟩ ::
      flowPkts fl (n + 1) rest
  | n, .foreign _ :: rest => flowPkts fl (n + 1) rest

theorem tcpView_cons (o : Opts) (x : MainLoop.Item Keylog.Key) (l : List (MainLoop.Item Keylog.Key)) :
    tcpView o (x :: l) = tcpView o [x] ++ tcpView o l :=
  tcpView_append o [x] l

theorem sameFlow_ref (fl : Flow) (d : Bool) (pl : Bytes) (c : Bool) (n : Nat) :
    sameFlow (refPkt fl)
      ⟨.tcp, if d then serverEp fl else clientEp fl, if d then clientEp fl else serverEp fl, pl, c, n⟩ = true := by
  cases d <;> simp [sameFlow, refPkt]

/-- the segments of direction `d` that carry data, as a receiver of the capture sees them: (sequence number, data) -/
def dirWires (d : Bool) : List CEv → List Spec.TlsFraming.Wire
  | [] => []
  | .seg _ d' _ t :: rest => if t.payload ≠ [] ∧ d' = d then (t.seq, t.payload) :: dirWires d rest else dirWires d rest
  | .foreign _ :: rest => dirWires d rest

theorem flowPkts_shape (fl : Flow) (evs : List CEv) (n : Nat) :
    ∀ p ∈ flowPkts fl n evs, ∃ (d : Bool) (pl : Bytes) (tag : Nat),
      p = ⟨.tcp, if d then serverEp fl else clientEp fl, if d then clientEp fl else serverEp fl, pl, true, tag⟩ := by
  induction evs generalizing n with
  | nil => intro p hp; cases hp
  | cons ev rest ih =>
    intro p hp
    cases ev with
    | foreign e => exact ih (n + 1) p hp
    | seg t d fr tcp =>
      simp only [flowPkts] at hp
      split at hp
      · exact ih (n + 1) p hp
      · rcases List.mem_cons.mp hp with rfl | hp
        · exact ⟨d, _, _, rfl⟩
        · exact ih (n + 1) p hp

/-- roles: the server port is a server port (`-p` or built in), the client port is not — then whichever side sent the
    first captured packet, the session's server is the connection's server (C10) -/
theorem roles_of_flow (fl : Flow) (ports : List Int) (hsp : ports.contains (fl.serverPort : Int) = true)
    (hcp : ports.contains (fl.clientPort : Int) = false) (d : Bool) (pl : Bytes) (c : Bool) (tag : Nat) (o : Opts)
    (ho : o.ports = ports) :
    let p : Pkt := ⟨.tcp, if d then serverEp fl else clientEp fl, if d then clientEp fl else serverEp fl, pl, c, tag⟩
    rolesOf o.ports p = (serverEp fl, clientEp fl) ∧ candidate o p = true := by
  have hs : (fl.serverPort : Int) ∈ ports := by simpa using hsp
  have hc : ¬ (fl.clientPort : Int) ∈ ports := by simpa using hcp
  cases d <;> simp [rolesOf, candidate, ho, hs, hc, serverEp, clientEp]

end

section
open TLX.Export TLX.Spec.FrameBuild TLX.Spec.TlsCapture TLX.Props.C12Dissect
open TLX.Cipher TLX.RecordLayer TLX.Spec.TlsSender TLX.Props.C01 TLX.Lemmas.Pipeline TLX.Spec.TlsConnection
open TLX.Lemmas.Capstone TLX.Props.C01Pipeline TLX.Spec.TlsFraming TLX.Props.C01Capstone

/-- the capture, seen from the sender's side, delivers both byte streams in order: per direction the (sequence number,
    data) pairs of the connection's segments with data are an in-order delivery — any cut, exact duplicates, any ISN — of
    the stream, which is shorter than 2^31 -/
def WiresInOrder (evs : List CEv) (streams : Bool → Bytes) : Prop :=
  ∀ d, (∃ isn, InOrder isn (streams d) (dirWires d evs)) ∧ (streams d).length ≤ 2 ^ 31

end

end TLX.Props.C01File

namespace TLX.Lemmas.C01Full
open TLX TLX.MainLoop TLX.Spec.Demux TLX.Lemmas.MainLoop TLX.Dissect TLX.OutBytes TLX.Props.C01File
open TLX.Spec.FrameBuild TLX.Spec.TlsCapture TLX.Props.C12Dissect

/-- `csumOk` as `run()` computes it: without `-c` never looked at (`true`), with `-c` the verdict of
    `calculate_checksum_tcp/udp` for TCP / UDP with a payload -/
def csumBit (c : Bool) : Dissected → Bool
  | .notIp => true
  | .ip x => if c then (match Ingest.verdict x with | .ok v => v.getD true | .error _ => true) else true

def pktOfC (c : Bool) (tag : Nat) (d : Dissected) : Pkt := { pktOf tag d with csumOk := csumBit c d }

def itemsFromC (c : Bool) : Nat → List CapEv → List (MainLoop.Item Keylog.Key)
  | _, [] => []
  | tag, e :: rest => .frame (pktOfC c tag e.d) :: itemsFromC c (tag + 1) rest

/-- `CapOk`, and with `-c` the checksum functions do not raise (they raise OverflowError only for a transport segment
    of 2^16 bytes or more over IPv4) -/
def CapOkC (c : Bool) (cap : List CapEv) : Prop :=
  ∀ e ∈ cap, dissect e.buf = .ok e.d ∧ Ingest.isMinusOne e.t = false ∧
    (c = true → ∀ x, e.d = .ip x → ∃ v, Ingest.verdict x = .ok v)

theorem pktOfC_false (tag : Nat) (d : Dissected) : pktOfC false tag d = pktOf tag d := by
  cases d with
  | notIp => rfl
  | ip x => simp only [pktOfC, csumBit, Bool.false_eq_true, if_false, pktOf]; cases x.l4 <;> rfl

theorem itemsFromC_false (tag : Nat) (cap : List CapEv) : itemsFromC false tag cap = itemsFrom tag cap := by
  induction cap generalizing tag with
  | nil => rfl
  | cons e rest ih => rw [itemsFromC, itemsFrom, pktOfC_false, ih]

theorem capOkC_false (cap : List CapEv) (h : CapOk cap) : CapOkC false cap :=
  fun e he => ⟨(h e he).1, (h e he).2, fun hc => by cases hc⟩

theorem framePkt_c (c : Bool) (tag us : Nat) (buf : Bytes) (d : Dissected) (h : dissect buf = .ok d)
    (hv : c = true → ∀ x, d = .ip x → ∃ v, Ingest.verdict x = .ok v) :
    Ingest.framePkt c tag us buf = .ok (pktOfC c tag d, infoOf us d) := by
  unfold Ingest.framePkt
  rw [h]
  cases d with
  | notIp => cases c <;> rfl
  | ip x =>
    cases c with
    | false =>
      simp only [Bool.false_eq_true, if_false, pktOfC, csumBit, pktOf, infoOf, Option.getD_none]
      cases x.l4 <;> rfl
    | true =>
      obtain ⟨v, hv⟩ := hv rfl x rfl
      simp only [if_true, hv, pktOfC, csumBit, pktOf, infoOf]
      cases hx : x.l4 with
      | tcp sp dp sq ak pl => rfl
      | udp sp dp pl => rfl
      | other =>
        -- no verdict is computed for what is neither TCP nor UDP
        unfold Ingest.verdict at hv
        rw [hx] at hv
        cases hv
        rfl

theorem go_of_cap_c (hc : Keylog.HexClass) (c : Bool) (cap : List CapEv) (hok : CapOkC c cap) (tag : Nat) :
    Ingest.go hc c tag (cap.map CapEv.item) = .ok (itemsFromC c tag cap, infosFrom tag cap) := by
  induction cap generalizing tag with
  | nil => rfl
  | cons e rest ih =>
    obtain ⟨hd, ht, hv⟩ := hok e (by simp)
    have := ih (fun x hx => hok x (by simp [hx])) (tag + 1)
    rw [List.map_cons, CapEv.item, Ingest.go]
    simp only [ht, Bool.false_eq_true, if_false, framePkt_c c tag _ e.buf e.d hd hv, this]
    rfl

theorem ingest_of_capture_c (hc : Keylog.HexClass) (c legacy : Bool) (file : Bytes) (cap : List CapEv)
    (hread : Container.read legacy file = .ok (cap.map CapEv.item)) (hok : CapOkC c cap) :
    Ingest.itemsWith hc c legacy file = .ok (itemsFromC c 0 cap, infosFrom 0 cap) := by
  unfold Container.read at hread
  unfold Ingest.itemsWith
  cases hp : Container.readPrefix legacy file with
  | error e => rw [hp] at hread; cases hread
  | ok v =>
    obtain ⟨its, ended⟩ := v
    rw [hp] at hread
    cases ended with
    | some e => cases hread
    | none =>
      cases hread
      simp only [go_of_cap_c hc c cap hok 0]

/-- the TCP checksum of the segment is right: the RFC 1071 receiver (pseudo-header of the frame's addresses, RFC 9293 §3.1 /
    RFC 8200 §8.1) accepts it -/
def CsumValid (fr : Spec.FrameBuild.Frame) (t : Tcp) : Prop :=
  match fr.net with
  | .v4 h => Spec.Rfc1071.verdict .tcp false h.src h.dst t.encode = .valid
  | .v6 h => Spec.Rfc1071.verdict .tcp true h.src h.dst t.encode = .valid

instance (fr : Spec.FrameBuild.Frame) (t : Tcp) : Decidable (CsumValid fr t) := by
  unfold CsumValid; cases fr.net <;> infer_instance

/-- `calculate_checksum_tcp` on a TCP segment as dpkt delivers it is the RFC 1071 receiver: `ip.p = 6`, addresses of 4 / 16
    bytes, the segment holds its checksum field (bytes 16 and 17 of the TCP header, hence 18) and its length fits the
    pseudo-header's length field (32 bits over IPv6, 16 over IPv4) — `Lemmas.OnesComplement.Dissected .tcp` written out -/
theorem verdict_tcp (x : IpPkt) (sp dp sq ak : Nat) (pl : Bytes) (hl4 : x.l4 = .tcp sp dp sq ak pl) (hp : x.p = 6)
    (hs : x.src.length % 2 = 0) (hd : x.dst.length % 2 = 0) (hf : 18 ≤ x.seg.length)
    (hlen : x.seg.length < (if x.v6 then 4294967296 else 65536)) :
    Ingest.verdict x = .ok (if pl = [] then none
      else some (decide (Spec.Rfc1071.verdict .tcp x.v6 x.src x.dst x.seg = .valid))) := by
  have := Lemmas.Ingest.ingest_verdict x .tcp (by rw [hl4]; rfl) hp ⟨hs, hd, hf, hlen⟩
  rw [hl4] at this
  exact this

/-- **a segment of the connection, IPv6 extension headers admitted**: as `Spec.TlsCapture.IsSeg`, but over IPv6 ANY chain of
    well-formed hop-by-hop / destination options / routing / fragment (offset 0) / authentication headers may stand between
    the IPv6 header and TCP — EXCEPT a chain that starts with a fragment header and ends with another kind: there dpkt
    raises AttributeError (`Props.C12Dissect.Ex.attribute_aborts`; e.g. the RFC 8200 order fragment, destination options)
    and the run aborts. -/
def IsSegX (fl : Flow) (fromServer : Bool) (fr : Spec.FrameBuild.Frame) (t : Tcp) : Prop :=
  fr.WF ∧ fr.upper = .tcp t ∧
  t.sport = (if fromServer then fl.serverPort else fl.clientPort) ∧
  t.dport = (if fromServer then fl.clientPort else fl.serverPort) ∧
  (match fr.net with
   | .v4 h => fl.v6 = false ∧ h.src = (if fromServer then fl.serverIp else fl.clientIp) ∧
              h.dst = (if fromServer then fl.clientIp else fl.serverIp)
   | .v6 h => fl.v6 = true ∧ ¬ (fragFirst h.exts = true ∧ fragLast h.exts = false) ∧
              h.src = (if fromServer then fl.serverIp else fl.clientIp) ∧
              h.dst = (if fromServer then fl.clientIp else fl.serverIp))

theorem isSegX_of_isSeg (fl : Flow) (d : Bool) (fr : Spec.FrameBuild.Frame) (t : Tcp) (h : IsSeg fl d fr t) :
    IsSegX fl d fr t := by
  obtain ⟨a, b, c, e, f⟩ := h
  refine ⟨a, b, c, e, ?_⟩
  cases hn : fr.net with
  | v4 h4 => rw [hn] at f; exact f
  | v6 h6 =>
    rw [hn] at f
    obtain ⟨f1, f2, f3, f4⟩ := f
    exact ⟨f1, by rw [f2]; simp [fragFirst], f3, f4⟩

theorem dissect_viewOf (fr : Spec.FrameBuild.Frame) (hwf : fr.WF)
    (hc : ∀ h, fr.net = .v6 h → ¬ (fragFirst h.exts = true ∧ fragLast h.exts = false)) :
    dissect fr.encode = .ok (viewOf fr) := by
  rw [dissect_view fr hwf hc]
  unfold viewOf
  cases fr.net <;> rfl

theorem dissect_segX (fl : Flow) (d : Bool) (fr : Spec.FrameBuild.Frame) (t : Tcp) (h : IsSegX fl d fr t) :
    dissect fr.encode = .ok (viewOf fr) :=
  dissect_viewOf fr h.1 fun h6 hn => by
    obtain ⟨_, _, _, _, hnet⟩ := h
    rw [hn] at hnet
    obtain ⟨_, hchain, _⟩ := hnet
    exact hchain

theorem viewOf_segX (fl : Flow) (d : Bool) (fr : Spec.FrameBuild.Frame) (t : Tcp) (h : IsSegX fl d fr t) :
    viewOf fr = .ip ⟨fl.v6, fr.srcMac, fr.dstMac, if d then fl.serverIp else fl.clientIp,
      if d then fl.clientIp else fl.serverIp, 6, t.encode, transportOf (.tcp t)⟩ := by
  obtain ⟨_, hu, _, _, hnet⟩ := h
  unfold viewOf
  cases hn : fr.net with
  | v4 h4 =>
    rw [hn] at hnet
    obtain ⟨hv, hs, hd⟩ := hnet
    rw [hu, hv, ← hs, ← hd]; rfl
  | v6 h6 =>
    rw [hn] at hnet
    obtain ⟨hv, _, hs, hd⟩ := hnet
    rw [hu, hv, ← hs, ← hd]; rfl

theorem pktOf_segX (fl : Flow) (d : Bool) (fr : Spec.FrameBuild.Frame) (t : Tcp) (h : IsSegX fl d fr t) (tag : Nat) :
    pktOf tag (viewOf fr) =
      ⟨.tcp, if d then serverEp fl else clientEp fl, if d then clientEp fl else serverEp fl, t.payload, true, tag⟩ := by
  rw [viewOf_segX fl d fr t h]
  simp only [pktOf, transportOf, h.2.2.1, h.2.2.2.1, clientEp, serverEp]
  cases d <;> rfl

theorem infoOf_segX (fl : Flow) (d : Bool) (fr : Spec.FrameBuild.Frame) (t : Tcp) (h : IsSegX fl d fr t) (us : Nat) :
    infoOf us (viewOf fr) = ⟨t.seq, us, fr.srcMac, fr.dstMac, fl.v6⟩ := by
  rw [viewOf_segX fl d fr t h]; rfl

theorem verdict_segX (fl : Flow) (d : Bool) (fr : Spec.FrameBuild.Frame) (t : Tcp) (h : IsSegX fl d fr t) :
    ∀ x, viewOf fr = .ip x →
      Ingest.verdict x = .ok (if t.payload = [] then none else some (decide (CsumValid fr t))) := by
  obtain ⟨⟨_, _, -, wn⟩, hu, -⟩ := h
  have hlen : t.encode.length = 20 + t.options.length + t.payload.length := Lemmas.Dissect.tcp_encode_length t
  intro x hx
  unfold viewOf at hx
  rw [hu] at hx wn
  cases hn : fr.net with
  | v4 h4 =>
    rw [hn] at hx wn
    obtain ⟨w1, w2, _, _, w5⟩ : h4.WF t.encode.length := wn
    cases hx
    have := Lemmas.Ingest.ingest_verdict ⟨false, fr.srcMac, fr.dstMac, h4.src, h4.dst, 6, t.encode, transportOf (.tcp t)⟩ .tcp rfl rfl
      ⟨by simp [w1], by simp [w2], by simp only [Checksum.L4.off]; omega, by simp only [Bool.false_eq_true, if_false]; omega⟩
    simp only [CsumValid, hn]
    exact this
  | v6 h6 =>
    rw [hn] at hx wn
    obtain ⟨w1, w2, _, _, _, _, w7⟩ : h6.WF (encChain h6.exts 6 t.encode).2.length := wn
    cases hx
    have hge := Lemmas.Dissect.encChain_length_ge_upper h6.exts 6 t.encode
    have := Lemmas.Ingest.ingest_verdict ⟨true, fr.srcMac, fr.dstMac, h6.src, h6.dst, 6, t.encode, transportOf (.tcp t)⟩ .tcp rfl rfl
      ⟨by simp [w1], by simp [w2], by simp only [Checksum.L4.off]; omega, by simp only [if_true]; omega⟩
    simp only [CsumValid, hn]
    exact this

theorem csumBit_segX (fl : Flow) (c d : Bool) (fr : Spec.FrameBuild.Frame) (t : Tcp) (h : IsSegX fl d fr t)
    (hv : c = true → t.payload ≠ [] → CsumValid fr t) : csumBit c (viewOf fr) = true := by
  cases c with
  | false =>
    unfold viewOf
    cases fr.net <;> rfl
  | true =>
    have hvd := verdict_segX fl d fr t h
    cases hvo : viewOf fr with
    | notIp => rfl
    | ip x =>
      simp only [csumBit, if_true, hvd x hvo]
      by_cases hp : t.payload = []
      · simp [hp]
      · simp [hp, hv rfl hp]

theorem pktOfC_segX (fl : Flow) (c d : Bool) (fr : Spec.FrameBuild.Frame) (t : Tcp) (h : IsSegX fl d fr t)
    (hv : c = true → t.payload ≠ [] → CsumValid fr t) (tag : Nat) :
    pktOfC c tag (viewOf fr) =
      ⟨.tcp, if d then serverEp fl else clientEp fl, if d then clientEp fl else serverEp fl, t.payload, true, tag⟩ := by
  simp only [pktOfC, csumBit_segX fl c d fr t h hv, pktOf_segX fl d fr t h tag]

/-- a foreign packet (`Props.C01File.Foreign`: anything that is not a data segment of the connection's 4-tuple; its
    checksums may be right or wrong); with `-c` the checksum functions do not raise on it -/
def ForeignC (fl : Flow) (c : Bool) (e : CapEv) : Prop :=
  Foreign fl e ∧ (c = true → ∀ x, e.d = .ip x → ∃ v, Ingest.verdict x = .ok v)

/-- the capture, sender side: segments of the connection (`IsSegX`; with `-c` every data segment carries a valid TCP
    checksum) and foreign packets -/
def DescribedX (fl : Flow) (c : Bool) (evs : List CEv) : Prop :=
  ∀ ev ∈ evs, match ev with
    | .seg _ d fr t => IsSegX fl d fr t ∧ (c = true → t.payload ≠ [] → CsumValid fr t)
    | .foreign e => ForeignC fl c e

theorem describedX_of_described (fl : Flow) (evs : List CEv) (h : Described fl evs) : DescribedX fl false evs := by
  intro ev hev
  have := h ev hev
  cases ev with
  | seg t d fr tcp => exact ⟨isSegX_of_isSeg fl d fr tcp this, fun hc => by cases hc⟩
  | foreign e => exact ⟨this, fun hc => by cases hc⟩

theorem capOkC_of_describedX (fl : Flow) (c : Bool) (evs : List CEv) (h : DescribedX fl c evs)
    (ht : ∀ e ∈ evs.map CEv.cap, Ingest.isMinusOne e.t = false) : CapOkC c (evs.map CEv.cap) := by
  intro e he
  refine ⟨?_, ht e he, ?_⟩
  · simp only [List.mem_map] at he
    obtain ⟨ev, hev, rfl⟩ := he
    have := h ev hev
    cases ev with
    | seg t d fr tcp => exact dissect_segX fl d fr tcp this.1
    | foreign e => exact this.1.1
  · simp only [List.mem_map] at he
    obtain ⟨ev, hev, rfl⟩ := he
    have := h ev hev
    intro hc x hx
    cases ev with
    | seg t d fr tcp => exact ⟨_, verdict_segX fl d fr tcp this.1 x hx⟩
    | foreign e => exact this.2 hc x hx

theorem tcpView_frame_c (o : Opts) (p : Pkt) :
    tcpView o [(.frame p : MainLoop.Item Keylog.Key)] =
      if p.l4 = .tcp ∧ p.payload ≠ [] ∧ ¬ (o.checksumTest = true ∧ p.csumOk = false) then [p] else [] := by
  cases hl : p.l4 with
  | other => simp [Spec.Demux.tcpView, classify_other o p hl]
  | udp => rcases classify_udp_cases (κ := Keylog.Key) o p hl with ⟨w, h⟩ | ⟨b0, r, h, _⟩ <;> simp [Spec.Demux.tcpView, h]
  | tcp =>
    simp only [Spec.Demux.tcpView, List.filterMap_cons, List.filterMap_nil, classify_tcp o p hl]
    cases p.payload <;> cases o.checksumTest <;> cases p.csumOk <;> simp

theorem flow_filter_c (fl : Flow) (o : Opts) (evs : List CEv) (h : DescribedX fl o.checksumTest evs) (n : Nat) :
    (tcpView o (itemsFromC o.checksumTest n (evs.map CEv.cap))).filter (sameFlow (refPkt fl)) = flowPkts fl n evs := by
  induction evs generalizing n with
  | nil => rfl
  | cons ev rest ih =>
    have hrest := ih (fun x hx => h x (by simp [hx])) (n + 1)
    have hev := h ev (by simp)
    rw [List.map_cons, itemsFromC, tcpView_cons, List.filter_append, hrest, tcpView_frame_c o]
    cases ev with
    | seg t d fr tcp =>
      have hp := pktOfC_segX fl o.checksumTest d fr tcp hev.1 hev.2 n
      simp only [CEv.cap, hp, flowPkts]
      by_cases hpl : tcp.payload = []
      · simp [hpl]
      · simp [hpl, sameFlow_ref]
    | foreign e =>
      have hev : Foreign fl e := hev.1
      simp only [flowPkts]
      show List.filter (sameFlow (refPkt fl))
          (if (pktOfC o.checksumTest n e.d).l4 = MainLoop.L4.tcp ∧ (pktOfC o.checksumTest n e.d).payload ≠ [] ∧
              ¬ (o.checksumTest = true ∧ (pktOfC o.checksumTest n e.d).csumOk = false)
            then [pktOfC o.checksumTest n e.d] else []) ++ flowPkts fl (n + 1) rest = flowPkts fl (n + 1) rest
      by_cases hcond : (pktOfC o.checksumTest n e.d).l4 = MainLoop.L4.tcp ∧ (pktOfC o.checksumTest n e.d).payload ≠ [] ∧
          ¬ (o.checksumTest = true ∧ (pktOfC o.checksumTest n e.d).csumOk = false)
      · have hsf := hev.2 n hcond.1 hcond.2.1
        have hsf' : sameFlow (refPkt fl) (pktOfC o.checksumTest n e.d) = false := hsf
        rw [if_pos hcond]
        simp [hsf']
      · rw [if_neg hcond]
        rfl

end TLX.Lemmas.C01Full
