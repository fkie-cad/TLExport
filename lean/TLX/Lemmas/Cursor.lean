/-
Reading a byte string field by field. `At d i r` says that at offset `i` the data `d` continues with `r`; a field `f`
in front of `r` is what the Python slice `d[i:i+len(f)]` returns, and the cursor moves past it. Layout proofs chain
`At.field` along the concatenation that defines the message, with no re-association of the concatenation. Equations are
taken as the callers hold them: `At.start` from a layout proof (`d = layout`), `At.first` / `At.index` from `Lemmas/QuicFrames`,
where the data is the variable (`layout = d`). Core Lean only.
-/
import TLX.Py
namespace TLX.Lemmas.Cursor
open TLX

/-- at offset `i` the data `d` continues with `r` -/
def At (d : Bytes) (i : Nat) (r : Bytes) : Prop := i ≤ d.length ∧ d.drop i = r

theorem At.start {d r : Bytes} (h : d = r) : At d 0 r := ⟨Nat.zero_le _, h⟩

theorem At.length {d r : Bytes} {i : Nat} (h : At d i r) : d.length = i + r.length := by
  have := congrArg List.length h.2
  rw [List.length_drop] at this
  have := h.1
  omega

/-- the field `f` under the cursor is the slice up to its end `j`, and the cursor moves on -/
theorem At.field {d r : Bytes} {i : Nat} (f : Bytes) (h : At d i (f ++ r)) (j : Nat) (hj : j = i + f.length) :
    Bytes.slice d i j = f ∧ At d j r := by
  have hl := h.length
  rw [List.length_append] at hl
  subst hj
  refine ⟨?_, by omega, ?_⟩
  · unfold Bytes.slice; rw [h.2, Nat.add_sub_cancel_left, List.take_left]
  · rw [← List.drop_drop, h.2, List.drop_left]

theorem At.get {d r : Bytes} {i : Nat} {x : UInt8} (h : At d i (x :: r)) : d[i]? = some x := by
  rw [← Nat.add_zero i, ← List.getElem?_drop, h.2]; rfl

theorem At.slice {d r : Bytes} {i : Nat} (h : At d i r) (k n : Nat) :
    Bytes.slice d (i + k) (i + k + n) = (r.drop k).take n := by
  unfold Bytes.slice; rw [← List.drop_drop, h.2, Nat.add_sub_cancel_left]

theorem At.first {d r : Bytes} {t : UInt8} (h : t :: r = d) : d[0]? = some t ∧ At d 1 r := by
  subst h
  exact ⟨rfl, Nat.le_add_left 1 _, rfl⟩

theorem At.next {d r : Bytes} {i : Nat} {x : UInt8} (h : At d i (x :: r)) : At d (i + 1) r :=
  (At.field [x] h (i + 1) rfl).2

theorem At.toEnd {d r : Bytes} {i : Nat} (h : At d i r) : Bytes.slice d i d.length = r ∧ d.length - i = r.length := by
  have hl := h.length
  refine ⟨?_, by omega⟩
  unfold Bytes.slice
  rw [h.2, hl, Nat.add_sub_cancel_left, List.take_length]

theorem At.index {e tail d : Bytes} {i : Nat} (hd : e ++ tail = d) (h : At d i tail) : i = e.length := by
  have := h.length
  rw [← hd, List.length_append] at this
  omega

theorem At.append (pre r : Bytes) : At (pre ++ r) pre.length r :=
  ⟨by rw [List.length_append]; exact Nat.le_add_right _ _, List.drop_left⟩

end TLX.Lemmas.Cursor
