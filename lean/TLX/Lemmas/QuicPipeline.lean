/-
Helper lemmas for `Props/C02Pipeline.lean`: what the dissector can produce (`Pkt.classOk`), an invariant principle for the
coalescing loop, invariants of the main loop's QUIC session list.
-/
import TLX.QuicPipeline
import TLX.Lemmas.QuicMachine
import TLX.Lemmas.QuicDissect
import TLX.Lemmas.QuicSession
import TLX.Lemmas.MainLoop
namespace TLX.Lemmas.QuicPipeline
open TLX TLX.Quic TLX.Quic.Dissect TLX.QuicPipeline

theorem extract_classOk (mask : MaskFn) (env : Env) (isServer : Bool) (guessed : Bytes) (ts : Nat) (d : Bytes) :
    ∀ p ∈ (extract mask env isServer guessed ts d).pkts, Session.Pkt.classOk p := by
  intro p hp hs
  obtain ⟨_, -, -, -, -, -, -, hk⟩ := extract_returned mask env isServer guessed ts d p hp
  exact hk.resolve_left (by rw [hs]; nofun)

theorem dissectLoop_inv {σ : Type} (mask : MaskFn) (envOf : σ → Env) (handle : σ → List Pkt → σ)
    (isServer : Bool) (guessed : Bytes) (ts : Nat) (I : σ → Prop)
    (hstep : ∀ s pkts, I s → (∀ p ∈ pkts, Session.Pkt.classOk p) → I (handle s pkts))
    (s : σ) (d : Bytes) (hs : I s) : I (dissectLoop mask envOf handle isServer guessed ts s d).1 := by
  revert hs
  refine QuicDissect.dissectLoop_induct mask envOf handle isServer guessed ts (Q := fun s _ r => I s → I r.1)
    (fun _ h => h) ?_ s d
  intro s d hd ih hs
  rw [QuicDissect.dissectLoop_cons _ _ _ _ _ _ _ _ hd]
  exact ih (hstep _ _ hs (extract_classOk mask (envOf s) isServer guessed ts d))

theorem handleTurn_none (P : Session.Params Tls) (x : LoopSt) (pkts : List Pkt) (hx : x.2 = none)
    (hp : ∀ p ∈ pkts, Session.Pkt.classOk p) : (handleTurn P x pkts).2 = none := by
  unfold handleTurn
  rw [hx]
  simp only
  rw [Lemmas.QuicSession.handleQuicPackets_esc]
  exact Lemmas.QuicSession.escapes_none P _ _ hp

section MainLoop
open TLX.MainLoop
variable {κ σ τ ο : Type}

theorem runItems_quic_inv (TM : TlsMachine κ σ ο) (QM : QuicMachine κ τ ο) (I : τ → Prop)
    (hnew : ∀ o p, I (QM.new o p)) (hfeed : ∀ t kl p c v, I t → I (QM.feed t kl p c v))
    (o : Opts) (items : List (Item κ)) (st : State κ σ τ) (hst : ∀ s ∈ st.quic, I s.st) :
    ∀ s ∈ (runItems TM QM o st items).quic, I s.st :=
  (Lemmas.MainLoop.runItems_inv TM QM o (fun _ => True) (fun s => I s.st) items st (fun _ _ _ => trivial)
    (fun _ _ _ _ _ => trivial) (fun _ _ => hfeed _ _ _ _ _ (hnew _ _)) (fun _ _ _ _ h _ => hfeed _ _ _ _ _ h)
    (fun _ _ => trivial) hst).2

end MainLoop

end TLX.Lemmas.QuicPipeline
