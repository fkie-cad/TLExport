/-
Lemmas for C09 (`TLX.Props.C09`) and the notions its statements use (`MatchesPattern`, `CrOk`, `joinLF`, `KeyOf`, `RepFor`,
`SelRep`, `ClassifiedFor`): splitting, hex coding, the recogniser against the pattern and against the declarative NSS
specification, and the lookups on key lists that represent a set of triples.
-/
import TLX.Keylog
import TLX.Spec.NssKeylog
namespace TLX.Lemmas.Keylog
open TLX.Keylog TLX.Spec.NssKeylog

theorem splitOn_ne_nil (sep : Nat) (s : Str) : splitOn sep s ≠ [] := by
  induction s with
  | nil => simp [splitOn]
  | cons c cs ih =>
    simp only [splitOn]
    split
    · simp
    · cases h : splitOn sep cs with
      | nil => exact absurd h ih
      | cons a b => simp [consHead]

theorem consHead_append (c : Nat) (a b : List Str) (h : a ≠ []) :
    consHead c (a ++ b) = consHead c a ++ b := by
  cases a with
  | nil => exact absurd rfl h
  | cons x xs => simp [consHead]

/-- `(a + sep + b).split(sep) == a.split(sep) + b.split(sep)` -/
theorem splitOn_append (sep : Nat) (a b : Str) :
    splitOn sep (a ++ sep :: b) = splitOn sep a ++ splitOn sep b := by
  induction a with
  | nil => simp [splitOn]
  | cons c cs ih =>
    simp only [List.cons_append, splitOn]
    split
    · simp [ih]
    · rw [ih, consHead_append _ _ _ (splitOn_ne_nil sep cs)]

theorem splitOn_of_not_mem (sep : Nat) (a : Str) (h : sep ∉ a) : splitOn sep a = [a] := by
  induction a with
  | nil => simp [splitOn]
  | cons c cs ih =>
    have hc : c ≠ sep := fun e => h (by simp [e])
    have hcs : sep ∉ cs := fun e => h (by simp [e])
    simp [splitOn, hc, ih hcs, consHead]

theorem splitOn_filter (sep : Nat) (p : Nat → Bool) (hp : p sep = true) (s : Str) :
    splitOn sep (s.filter p) = (splitOn sep s).map (·.filter p) := by
  induction s with
  | nil => simp [splitOn]
  | cons c cs ih =>
    by_cases hc : c = sep
    · subst hc
      simp [hp, splitOn, ih]
    · cases h : splitOn sep cs with
      | nil => exact absurd h (splitOn_ne_nil sep cs)
      | cons a b =>
        rw [h] at ih
        by_cases hpc : p c = true <;> simp [hpc, splitOn, hc, ih, h, consHead]

theorem splitLF_eq (t : Str) : splitLF t = splitOn 10 t := by
  induction t with
  | nil => simp [splitLF, splitOn]
  | cons c cs ih =>
    simp only [splitLF, splitOn, ih]
    cases h : splitOn 10 cs with
    | nil => exact absurd h (splitOn_ne_nil 10 cs)
    | cons a b => by_cases hc : c = 10 <;> simp [hc, consHead]

theorem pos?_eq_none {c : Nat} : ∀ {ds : List Nat}, c ∉ ds → pos? c ds = none
  | [], _ => rfl
  | d :: ds, h => by
    rw [pos?, if_neg (fun e => h (List.mem_cons.mpr (.inl e))), pos?_eq_none (fun m => h (List.mem_cons_of_mem _ m))]
    rfl

/-- The two digit strings of the specification against the three ranges of the model: a table from
    `'0'` to `'f'`, and no digit outside. -/
theorem digitVal_eq_hexVal (c : Nat) : digitVal c = hexVal c := by
  by_cases h : 48 ≤ c ∧ c < 103
  · obtain ⟨k, rfl⟩ : ∃ k, c = 48 + k := ⟨c - 48, by omega⟩
    exact (by decide +kernel : ∀ k, k < 55 → digitVal (48 + k) = hexVal (48 + k)) k (by omega)
  · have hd : ∀ d ∈ lowerDigits ++ upperDigits, 48 ≤ d ∧ d < 103 := by decide
    rw [digitVal, pos?_eq_none (fun m => h (hd c (List.mem_append_left _ m))),
      pos?_eq_none (fun m => h (hd c (List.mem_append_right _ m))),
      hexVal, if_neg (by omega), if_neg (by omega), if_neg (by omega)]
    rfl

theorem hexVal_eq_some {c n : Nat} (h : hexVal c = some n) :
    (48 ≤ c ∧ c ≤ 57 ∧ n = c - 48) ∨ (97 ≤ c ∧ c ≤ 102 ∧ n = c - 87) ∨ (65 ≤ c ∧ c ≤ 70 ∧ n = c - 55) := by
  unfold hexVal at h
  by_cases h1 : 48 ≤ c ∧ c ≤ 57
  · rw [if_pos h1] at h; exact .inl ⟨h1.1, h1.2, (Option.some.inj h).symm⟩
  by_cases h2 : 97 ≤ c ∧ c ≤ 102
  · rw [if_neg h1, if_pos h2] at h; exact .inr (.inl ⟨h2.1, h2.2, (Option.some.inj h).symm⟩)
  by_cases h3 : 65 ≤ c ∧ c ≤ 70
  · rw [if_neg h1, if_neg h2, if_pos h3] at h; exact .inr (.inr ⟨h3.1, h3.2, (Option.some.inj h).symm⟩)
  · rw [if_neg h1, if_neg h2, if_neg h3] at h; cases h

theorem hexVal_facts (c n : Nat) (h : hexVal c = some n) :
    isWs c = false ∧ c ≠ 32 ∧ (if 65 ≤ c ∧ c ≤ 90 then c + 32 else c) = hexDigit n ∧
    (hexLower c || hexUpper c) = true := by
  simp only [isWs, hexDigit, hexLower, hexUpper, Bool.or_eq_true, Bool.and_eq_true, decide_eq_true_eq,
    Bool.or_eq_false_iff, Bool.and_eq_false_iff, decide_eq_false_iff_not, beq_eq_false_iff_ne]
  rcases hexVal_eq_some h with ⟨h1, h2, rfl⟩ | ⟨h1, h2, rfl⟩ | ⟨h1, h2, rfl⟩
  · rw [if_neg (by omega), if_pos (by omega)]; omega
  · rw [if_neg (by omega), if_neg (by omega)]; omega
  · rw [if_pos (by omega), if_neg (by omega)]; omega

@[elab_as_elim]
theorem isHexOf_induction {motive : Str → List Nat → Prop} (nil : motive [] [])
    (cons : ∀ a c r x xs, x < 256 → hexVal a = some (x / 16) → hexVal c = some (x % 16) → motive r xs →
      motive (a :: c :: r) (x :: xs)) : ∀ {h : Str} {b : List Nat}, IsHexOf h b → motive h b
  | [], [], _ => nil
  | a :: c :: r, x :: xs, H => by
    simp only [IsHexOf, digitVal_eq_hexVal] at H
    exact cons a c r x xs H.1 H.2.1 H.2.2.1 (isHexOf_induction nil cons H.2.2.2)
  | [], _ :: _, H => H.elim
  | [_], [], H => H.elim
  | [_], _ :: _, H => H.elim
  | _ :: _ :: _, [], H => H.elim

theorem fromHex_of_isHexOf {h : Str} {b : List Nat} (H : IsHexOf h b) : fromHex h = some b := by
  refine isHexOf_induction rfl (fun a c r x xs hx ha hc ih => ?_) H
  simp only [fromHex, (hexVal_facts a _ ha).1, ha, hc, ih]
  have := Nat.div_add_mod x 16
  simp; omega

theorem lower_of_isHexOf {h : Str} {b : List Nat} (H : IsHexOf h b) : lower h = hexOf b := by
  refine isHexOf_induction rfl (fun a c r x xs hx ha hc ih => ?_) H
  simp only [lower, List.map_cons, hexOf] at ih ⊢
  rw [(hexVal_facts a _ ha).2.2.1, (hexVal_facts c _ hc).2.2.1, ih]

theorem props_of_isHexOf {h : Str} {b : List Nat} (H : IsHexOf h b) :
    32 ∉ h ∧ h.all (HexClass.any.ok) = true ∧ h.length = 2 * b.length ∧
    h.all (fun c => (digitVal c).isSome) = true ∧ (h.all hexLower = true → h.all HexClass.lower.ok = true) := by
  refine isHexOf_induction (by simp) (fun a c r x xs hx ha hc ih => ?_) H
  have fa := hexVal_facts a _ ha
  have fc := hexVal_facts c _ hc
  obtain ⟨i1, i2, i3, i4, _⟩ := ih
  refine ⟨?_, ?_, ?_, ?_, fun h => h⟩
  · simp [i1]; exact ⟨fun e => fa.2.1 e.symm, fun e => fc.2.1 e.symm⟩
  · simp only [List.all_cons, HexClass.ok, fa.2.2.2, fc.2.2.2, Bool.true_and]; exact i2
  · simp [i3]; omega
  · simp only [digitVal_eq_hexVal] at i4 ⊢
    simp only [List.all_cons, ha, hc, Option.isSome_some, Bool.true_and]; exact i4

theorem hexDigit_inj {m n : Nat} (h : hexDigit m = hexDigit n) : m = n := by
  unfold hexDigit at h
  split at h <;> split at h <;> omega

theorem hexOf_inj : ∀ {a b : List Nat}, hexOf a = hexOf b → a = b
  | [], [], _ => rfl
  | [], _ :: _, h => by simp [hexOf] at h
  | _ :: _, [], h => by simp [hexOf] at h
  | x :: xs, y :: ys, h => by
    simp only [hexOf, List.cons.injEq] at h
    have h1 := hexDigit_inj h.1
    have h2 := hexDigit_inj h.2.1
    have := hexOf_inj h.2.2
    have := Nat.div_add_mod x 16
    have := Nat.div_add_mod y 16
    simp; exact ⟨by omega, by assumption⟩

theorem lowerChar_hexDigit (n : Nat) : (if 65 ≤ hexDigit n ∧ hexDigit n ≤ 90 then hexDigit n + 32 else hexDigit n) = hexDigit n := by
  unfold hexDigit
  split <;> split <;> omega

theorem lower_hexOf (b : List Nat) : lower (hexOf b) = hexOf b := by
  induction b with
  | nil => rfl
  | cons x xs ih =>
    simp only [lower, hexOf, List.map_cons] at ih ⊢
    rw [lowerChar_hexDigit, lowerChar_hexDigit, ih]

theorem crMatch_eq {s : Str} {b : List Nat} (h : lower s = hexOf b) (cr : List Nat) :
    (lower s == lower (hexOf cr)) = decide (b = cr) := by
  rw [h, lower_hexOf]
  by_cases e : b = cr
  · simp [e]
  · have : hexOf b ≠ hexOf cr := fun h' => e (hexOf_inj h')
    simp [e, this]


theorem takeWhile_dropWhile_stop (p : Nat → Bool) (l r : Str) (c : Nat) (hl : l.all p = true)
    (hc : p c = false) :
    (l ++ c :: r).takeWhile p = l ∧ (l ++ c :: r).dropWhile p = c :: r := by
  induction l with
  | nil => simp [hc]
  | cons x xs ih =>
    simp only [List.all_cons, Bool.and_eq_true] at hl
    simp [hl.1, ih hl.2]

theorem all_takeWhile (p : Nat → Bool) (l : Str) : (l.takeWhile p).all p = true := by
  induction l with
  | nil => rfl
  | cons x xs ih =>
    by_cases h : p x = true
    · simp [List.takeWhile, h]
    · simp [List.takeWhile, h]

theorem nss_facts : ∀ l ∈ nssLabels, 32 ∉ l ∧ l.all isLabelChar = true ∧ 3 ≤ l.length ∧
    l.length ≤ 32 ∧ l ≠ s_RSA := by decide +kernel

/-- `Key.__init__` on a line whose first two fields hold no space: the fields, and what stands before
    the next space (or the rest). -/
theorem keyOfLine_fields {w h rest f : Str} {fs : List Str} (hw : 32 ∉ w) (hh : 32 ∉ h)
    (hf : splitOn 32 rest = f :: fs) : keyOfLine (w ++ 32 :: h ++ 32 :: rest) = some ⟨w, h, f⟩ := by
  simp only [keyOfLine, splitOn_append, splitOn_of_not_mem 32 _ hw, splitOn_of_not_mem 32 _ hh, hf,
    List.cons_append, List.nil_append]

theorem keyOfLine_of_denotes {line : Str} {tr : Triple} {hc hv : Str}
    (H : DenotesVia line tr hc hv) : keyOfLine line = some ⟨tr.label, hc, hv⟩ := by
  obtain ⟨rfl, hl, hcr, _, hsec, _⟩ := H
  exact keyOfLine_fields (nss_facts _ hl).1 (props_of_isHexOf hcr).1 (splitOn_of_not_mem 32 _ (props_of_isHexOf hsec).1)

/-- `([A-Z]|\_|0){3,32} (H){64} (H)*` under `re.match`, read literally: for some repetition count
    `k` between 3 and 32 the line starts with `k` label characters, a space, 64 characters of the
    class `H` and a space (the final `(H)*` matches the empty string; `re.match` does not anchor at
    the end). -/
def MatchesPattern (hx : HexClass) (line : Str) : Prop :=
  ∃ k lab h rest, 3 ≤ k ∧ k ≤ 32 ∧ lab.length = k ∧ lab.all isLabelChar = true ∧
    h.length = 64 ∧ h.all hx.ok = true ∧ line = lab ++ 32 :: h ++ 32 :: rest

/-- C09: the hand-written prefix recogniser accepts exactly the lines the pattern — read literally, with
    an explicit repetition count for `{3,32}` and `re.match`'s start-only anchoring — matches. -/
theorem _root_.TLX.Props.C09.recogniser_is_pattern (hx : HexClass) (line : Str) :
    accepts hx line = true ↔ MatchesPattern hx line := by
  constructor
  · intro H
    unfold accepts at H
    generalize hw : line.takeWhile isLabelChar = w at H
    have hsplit : w ++ line.dropWhile isLabelChar = line := hw ▸ List.takeWhile_append_dropWhile
    have hall : w.all isLabelChar = true := hw ▸ all_takeWhile isLabelChar line
    split at H
    · rename_i r hd
      simp only [Bool.and_eq_true, decide_eq_true_eq, beq_iff_eq] at H
      obtain ⟨⟨h3, h32⟩, ⟨hl, hok⟩, hhead⟩ := H
      obtain ⟨rest, hrest⟩ := List.head?_eq_some_iff.mp hhead
      refine ⟨w.length, w, r.take 64, rest, h3, h32, rfl, hall, hl, hok, ?_⟩
      rw [← hsplit, hd, List.append_assoc, List.cons_append, ← hrest, List.take_append_drop]
    · simp at H
  · intro ⟨k, lab, h, rest, h3, h32, hk, hlab, hlen, hok, e⟩
    subst e hk
    have tw := takeWhile_dropWhile_stop isLabelChar lab (h ++ 32 :: rest) 32 hlab rfl
    rw [List.append_assoc, List.cons_append, accepts, tw.1, tw.2]
    simp only [List.take_left' hlen, List.drop_left' hlen, hlen, hok, h3, h32, List.head?_cons, decide_true,
      BEq.rfl, Bool.and_self]

theorem accepts_of_denotes {hx : HexClass} {line : Str} {tr : Triple} {hc hv : Str}
    (H : DenotesVia line tr hc hv) (hcls : hc.all hx.ok = true) : accepts hx line = true := by
  obtain ⟨rfl, hl, hcr, hlen, _⟩ := H
  obtain ⟨_, f2, f3, f4, _⟩ := nss_facts _ hl
  have l64 : hc.length = 64 := by rw [(props_of_isHexOf hcr).2.2.1, hlen]
  exact (Props.C09.recogniser_is_pattern hx _).mpr ⟨_, tr.label, hc, hv, f3, f4, rfl, f2, l64, hcls, rfl⟩

theorem isLabelChar_word (c : Nat) (h : isLabelChar c = true) : isWordChar c = true := by
  simp only [isLabelChar, isWordChar, Bool.or_eq_true, Bool.and_eq_true, decide_eq_true_eq, beq_iff_eq] at h ⊢
  omega

theorem ok_digit (hx : HexClass) (c : Nat) (h : hx.ok c = true) : (digitVal c).isSome = true := by
  have : hexLower c = true ∨ hexUpper c = true := by
    cases hx
    · exact .inl h
    · exact (Bool.or_eq_true _ _).mp h
  simp only [hexLower, hexUpper, Bool.or_eq_true, Bool.and_eq_true, decide_eq_true_eq] at this
  rw [digitVal_eq_hexVal, hexVal]
  by_cases h1 : 48 ≤ c ∧ c ≤ 57
  · rw [if_pos h1]; rfl
  by_cases h2 : 97 ≤ c ∧ c ≤ 102
  · rw [if_neg h1, if_pos h2]; rfl
  · rw [if_neg h1, if_neg h2, if_pos (by omega)]; rfl

theorem looks_of_accepts {hx : HexClass} {line : Str} (H : accepts hx line = true) :
    LooksLikeKey line := by
  obtain ⟨k, lab, h, rest, h3, _, hk, hlab, hlen, hok, e⟩ := (Props.C09.recogniser_is_pattern hx line).mp H
  refine ⟨lab, h, rest, e, fun e' => ?_, ?_, hlen, ?_⟩
  · rw [e', List.length_nil] at hk; omega
  · exact List.all_eq_true.mpr fun c hc => isLabelChar_word c (List.all_eq_true.mp hlab c hc)
  · exact List.all_eq_true.mpr fun c hc => ok_digit hx c (List.all_eq_true.mp hok c hc)


/-- `k` is the key of the triple `tr`: what the lookups read off `k` is what `tr` says. -/
structure KeyOf (k : Key) (tr : Triple) : Prop where
  label : k.label = tr.label
  nss : tr.label ∈ nssLabels
  cr : fromHex k.clientRandom = some tr.cr
  crLower : lower k.clientRandom = hexOf tr.cr
  value : fromHex k.value = some tr.secret

theorem keyOf_of_denotes {line : Str} {tr : Triple} {hc hv : Str} (H : DenotesVia line tr hc hv) :
    KeyOf ⟨tr.label, hc, hv⟩ tr :=
  ⟨rfl, H.2.1, fromHex_of_isHexOf H.2.2.1, lower_of_isHexOf H.2.2.1, fromHex_of_isHexOf H.2.2.2.2.1⟩

theorem filter_of_stripCR (l : Str) (h : 13 ∉ stripCR l) : l.filter (· ≠ 13) = stripCR l := by
  unfold stripCR at h ⊢
  split
  · rename_i hl
    rw [if_pos hl] at h
    obtain ⟨ys, rfl⟩ := List.getLast?_eq_some_iff.mp hl
    simp only [List.dropLast_concat] at h ⊢
    rw [List.filter_append, List.filter_eq_self.mpr]
    · simp
    · intro a ha; simp; intro e'; exact h (e' ▸ ha)
  · rename_i hl
    rw [if_neg hl] at h
    rw [List.filter_eq_self]
    intro a ha; simp; intro e'; exact h (e' ▸ ha)

theorem model_lines_eq (t : Str) (h : ∀ l ∈ lines t, 13 ∉ l) : splitOn 10 (removeCR t) = lines t := by
  unfold removeCR lines
  rw [splitOn_filter 10 _ (by decide), splitLF_eq]
  apply List.map_congr_left
  intro l hl
  apply filter_of_stripCR
  apply h
  unfold lines
  rw [splitLF_eq]
  exact List.mem_map_of_mem hl

/-- The client-random digits of every secret line are in the pattern's class. -/
def CrInClass (hx : HexClass) (t : Str) : Prop :=
  ∀ l ∈ lines t, ∀ tr hc hv, DenotesVia l tr hc hv → hc.all hx.ok = true

theorem crInClass_any (t : Str) : CrInClass .any t :=
  fun _ _ _ _ _ H => (props_of_isHexOf H.2.2.1).2.1

/-- `s` (the lines of one client random, in some order, with repetitions) carries exactly the
    secrets `σ`, one per label. -/
structure SelRep (s : List Key) (σ : Str → Option (List Nat)) : Prop where
  sound : ∀ k ∈ s, k.label ∈ nssLabels ∧ ∃ v, σ k.label = some v ∧ fromHex k.value = some v
  complete : ∀ l v, σ l = some v → ∃ k ∈ s, k.label = l

theorem selRep_nil_iff {s₁ s₂ : List Key} {σ : Str → Option (List Nat)} (h₁ : SelRep s₁ σ)
    (h₂ : SelRep s₂ σ) : s₁ = [] ↔ s₂ = [] := by
  have key : ∀ {a b : List Key}, SelRep a σ → SelRep b σ → b = [] → a = [] := by
    intro a b ha hb e
    cases a with
    | nil => rfl
    | cons k ks =>
      obtain ⟨_, v, hv, _⟩ := ha.sound k (by simp)
      obtain ⟨k', hk', _⟩ := hb.complete _ _ hv
      rw [e] at hk'; cases hk'
  exact ⟨key h₂ h₁, key h₁ h₂⟩

theorem scan_rep (labels : List Str) (σ : Str → Option (List Nat)) :
    ∀ (s : List Key) (st : Str → Option (List Nat)),
      (∀ k ∈ s, ∃ v, σ k.label = some v ∧ fromHex k.value = some v) →
      ∃ st', scan labels s st = some st' ∧
        ∀ l, st' l = σ l ∨ (st' l = st l ∧ (l ∈ labels → ∀ k ∈ s, k.label ≠ l)) := by
  intro s
  induction s with
  | nil => exact fun st _ => ⟨st, rfl, fun l => .inr ⟨rfl, fun _ _ hk => nomatch hk⟩⟩
  | cons k ks ih =>
    intro st hs
    obtain ⟨v, hσ, hv⟩ := hs k List.mem_cons_self
    have hks := fun k' hk' => hs k' (List.mem_cons_of_mem _ hk')
    by_cases hc : labels.contains k.label = true
    · obtain ⟨st', e, hst'⟩ := ih (fun l => if l = k.label then some v else st l) hks
      refine ⟨st', by rw [scan, if_pos hc, hv]; exact e, fun l => ?_⟩
      rcases hst' l with h | ⟨h, hno⟩
      · exact .inl h
      · by_cases hl : l = k.label
        · rw [if_pos hl] at h; exact .inl (by rw [h, hl, hσ])
        · rw [if_neg hl] at h
          refine .inr ⟨h, fun hm k' hk' => ?_⟩
          rcases List.mem_cons.mp hk' with rfl | hk'
          · exact fun e' => hl e'.symm
          · exact hno hm k' hk'
    · obtain ⟨st', e, hst'⟩ := ih st hks
      refine ⟨st', by rw [scan, if_neg hc]; exact e, fun l => ?_⟩
      rcases hst' l with h | ⟨h, hno⟩
      · exact .inl h
      · refine .inr ⟨h, fun hm k' hk' => ?_⟩
        rcases List.mem_cons.mp hk' with rfl | hk'
        · exact fun e' => hc (e' ▸ List.contains_iff_mem.mpr hm)
        · exact hno hm k' hk'

theorem scan_selRep (labels : List Str) {s : List Key} {σ : Str → Option (List Nat)}
    (h : SelRep s σ) :
    ∃ st', scan labels s (fun _ => none) = some st' ∧ ∀ l ∈ labels, st' l = σ l := by
  obtain ⟨st', e, hst'⟩ := scan_rep labels σ s (fun _ => none) (fun k hk => (h.sound k hk).2)
  refine ⟨st', e, fun l hl => ?_⟩
  rcases hst' l with h' | ⟨h', hno⟩
  · exact h'
  · cases hσ : σ l with
    | none => exact h'
    | some v =>
      obtain ⟨k, hk, hkl⟩ := h.complete l v hσ
      exact absurd hkl (hno hl k hk)

theorem installed13_of_selRep {K : List Key} {cr : List Nat} {σ : Str → Option (List Nat)}
    (h : SelRep (findSessionSecrets K cr) σ) :
    installed13 K cr = if findSessionSecrets K cr = [] then .missing else .ok (labels13.map σ) := by
  unfold installed13
  obtain ⟨st', e, hst'⟩ := scan_selRep labels13 h
  cases hs : findSessionSecrets K cr with
  | nil => simp
  | cons k ks =>
    rw [hs] at e
    simp only [e, reduceCtorEq, if_false]
    congr 1
    exact List.map_congr_left hst'

theorem rsa_not_nss : s_RSA ∉ nssLabels := by decide
theorem cr_nss : s_CLIENT_RANDOM ∈ nssLabels := by decide

theorem installed12_master_of_selRep {K : List Key} {cr : List Nat} {σ : Str → Option (List Nat)}
    (h : SelRep (findSessionSecrets K cr) σ) :
    installed12 .firstMaster K cr =
      match σ s_CLIENT_RANDOM with | some v => .ok (false, v) | none => .missing := by
  unfold installed12
  simp only
  generalize findSessionSecrets K cr = s at h
  cases hf : s.filter (fun k => k.label == s_CLIENT_RANDOM || k.label == s_RSA) with
  | nil =>
    simp only
    cases hσ : σ s_CLIENT_RANDOM with
    | none => rfl
    | some v =>
      obtain ⟨k, hk, hkl⟩ := h.complete _ _ hσ
      have : k ∈ s.filter (fun k => k.label == s_CLIENT_RANDOM || k.label == s_RSA) := by
        simp [List.mem_filter, hk, hkl]
      rw [hf] at this; cases this
  | cons k ks =>
    have hk : k ∈ s.filter (fun k => k.label == s_CLIENT_RANDOM || k.label == s_RSA) := by
      rw [hf]; simp
    simp only [List.mem_filter, Bool.or_eq_true, beq_iff_eq] at hk
    obtain ⟨hks, hlab⟩ := hk
    obtain ⟨hn, v, hσ, hv⟩ := h.sound k hks
    have hl : k.label = s_CLIENT_RANDOM := by
      rcases hlab with e | e
      · exact e
      · rw [e] at hn; exact absurd hn rsa_not_nss
    simp only [hl, if_true]
    rw [hl] at hσ
    simp [hσ, hv]

theorem installed12_first_of_selRep {K : List Key} {cr : List Nat} {σ : Str → Option (List Nat)}
    (h : SelRep (findSessionSecrets K cr) σ)
    (hmix : ∀ v, σ s_CLIENT_RANDOM = some v → ∀ l w, σ l = some w → l = s_CLIENT_RANDOM) :
    installed12 .first K cr =
      match σ s_CLIENT_RANDOM with
      | some v => .ok (false, v)
      | none => if findSessionSecrets K cr = [] then .missing else .unbound := by
  unfold installed12
  simp only
  generalize findSessionSecrets K cr = s at h
  cases s with
  | nil =>
    simp only
    cases hσ : σ s_CLIENT_RANDOM with
    | none => simp
    | some v =>
      obtain ⟨k, hk, _⟩ := h.complete _ _ hσ
      cases hk
  | cons k ks =>
    obtain ⟨hn, v, hσ, hv⟩ := h.sound k (by simp)
    simp only
    cases hσc : σ s_CLIENT_RANDOM with
    | some v' =>
      have hl : k.label = s_CLIENT_RANDOM := hmix v' hσc _ _ hσ
      rw [hl] at hσ
      rw [hσc] at hσ; cases hσ
      simp [hl, hv]
    | none =>
      have hl : k.label ≠ s_CLIENT_RANDOM := by
        intro e; rw [e, hσc] at hσ; cases hσ
      have hr : k.label ≠ s_RSA := by
        intro e; rw [e] at hn; exact absurd hn rsa_not_nss
      simp [hl, hr]


open Classical in
/-- The secret of label `l` for client random `cr` in the set `T` (if any). -/
noncomputable def secretOf (T : Triple → Prop) (cr : List Nat) (l : Str) : Option (List Nat) :=
  if h : ∃ v, T ⟨l, cr, v⟩ then some (Classical.choose h) else none

theorem secretOf_some {T : Triple → Prop} {cr : List Nat} {l : Str} {v : List Nat}
    (h : secretOf T cr l = some v) : T ⟨l, cr, v⟩ := by
  unfold secretOf at h
  split at h
  · rename_i hex
    cases h
    exact Classical.choose_spec hex
  · cases h

theorem removeCR_cons (c : Nat) (r : Str) :
    removeCR (c :: r) = if c = 13 then removeCR r else c :: removeCR r := by
  by_cases h : c = 13 <;> simp [removeCR, h]

theorem removeCR_append_lf (a b : Str) : removeCR (a ++ 10 :: b) = removeCR a ++ 10 :: removeCR b := by
  simp [removeCR, List.filter_append]

/-- C09: cutting a key log at a line boundary and parsing the pieces separately gives the same key list
    in the same order: which lines travel in the `-s` file and which in which DSB is irrelevant. -/
theorem _root_.TLX.Props.C09.parse_split_at_line_boundary (hx : HexClass) (a b : Str) :
    getKeysFromString hx (a ++ 10 :: b) = getKeysFromString hx a ++ getKeysFromString hx b := by
  simp only [getKeysFromString, removeCR_append_lf, splitOn_append, List.filterMap_append]

theorem parse_nil (hx : HexClass) : getKeysFromString hx [] = [] := by
  cases hx <;> decide

/-- pieces joined with `"\n"` -/
def joinLF : List Str → Str
  | [] => []
  | [a] => a
  | a :: b :: rest => a ++ 10 :: joinLF (b :: rest)

/-- every CR is immediately followed by LF -/
def CrOk : Str → Prop
  | [] => True
  | 13 :: 10 :: r => CrOk r
  | 13 :: _ => False
  | _ :: r => CrOk r

theorem removeCR_universalNewlines (t : Str) (h : CrOk t) :
    removeCR (universalNewlines t) = removeCR t := by
  fun_induction universalNewlines t with
  | case1 => rfl
  | case2 r ih =>
    rw [CrOk] at h
    rw [removeCR_cons, if_neg (by decide), removeCR_cons 13, if_pos rfl, removeCR_cons, if_neg (by decide), ih h]
  | case3 r hne ih =>
    cases r with
    | nil => exact h.elim
    | cons c r' =>
      rw [CrOk] at h
      · exact h.elim
      · exact fun r'' e => hne r'' (by rw [e])
  | case4 c r hc1 hc2 ih =>
    rw [CrOk] at h
    · rw [removeCR_cons, removeCR_cons c, if_neg hc2, if_neg hc2, ih h]
    · exact fun _ e _ => hc2 e
    · exact hc2


theorem keyOfLine_of_accepts {hx : HexClass} {line : Str} (H : accepts hx line = true) :
    ∃ k, keyOfLine line = some k := by
  obtain ⟨_, lab, h, rest, _, _, _, hlab, _, hok, rfl⟩ := (Props.C09.recogniser_is_pattern hx line).mp H
  obtain ⟨f, fs, hf⟩ := List.exists_cons_of_ne_nil (splitOn_ne_nil 32 rest)
  have hsp : hx.ok 32 = false := by cases hx <;> rfl
  exact ⟨_, keyOfLine_fields (fun m => absurd (List.all_eq_true.mp hlab 32 m) (by decide))
    (fun m => absurd (List.all_eq_true.mp hok 32 m) (by rw [hsp]; decide)) hf⟩

instance decIsHexOf : ∀ h b, Decidable (IsHexOf h b)
  | [], [] => isTrue trivial
  | [], _ :: _ => isFalse id
  | [_], [] => isFalse id
  | [_], _ :: _ => isFalse id
  | _ :: _ :: _, [] => isFalse id
  | a :: b :: r, x :: xs =>
    have := decIsHexOf r xs
    inferInstanceAs (Decidable (x < 256 ∧ digitVal a = some (x / 16) ∧ digitVal b = some (x % 16) ∧ IsHexOf r xs))

instance (line : Str) (tr : Triple) (hc hv : Str) : Decidable (DenotesVia line tr hc hv) := by
  unfold DenotesVia; exact inferInstance

theorem denotes_unique {l : Str} {tr tr' : Triple} (h : Denotes l tr) (h' : Denotes l tr') : tr = tr' := by
  obtain ⟨hc, hv, H⟩ := h
  obtain ⟨hc', hv', H'⟩ := h'
  have e := (keyOfLine_of_denotes H).symm.trans (keyOfLine_of_denotes H')
  simp only [Option.some.injEq, Key.mk.injEq] at e
  obtain ⟨e1, e2, e3⟩ := e
  have c1 := fromHex_of_isHexOf H.2.2.1
  have c2 := fromHex_of_isHexOf H'.2.2.1
  have v1 := fromHex_of_isHexOf H.2.2.2.2.1
  have v2 := fromHex_of_isHexOf H'.2.2.2.2.1
  rw [e2] at c1; rw [e3] at v1
  cases tr; cases tr'
  simp only [Triple.mk.injEq]
  exact ⟨e1, Option.some.inj (c1.symm.trans c2), Option.some.inj (v1.symm.trans v2)⟩

theorem looks_of_denotes {l : Str} {tr : Triple} (h : Denotes l tr) : LooksLikeKey l := by
  obtain ⟨hc, hv, H⟩ := h
  exact looks_of_accepts (accepts_of_denotes (hx := .any) H (props_of_isHexOf H.2.2.1).2.1)

theorem not_looks_nil : ¬ LooksLikeKey [] := by
  intro ⟨w, h, rest, e, hw, _⟩
  cases w with
  | nil => exact hw rfl
  | cons a b => simp at e

theorem not_looks_of_first (c : Nat) (r : Str) (hc : isWordChar c = false) : ¬ LooksLikeKey (c :: r) := by
  intro ⟨w, h, rest, e, hw, hall, _⟩
  cases w with
  | nil => exact hw rfl
  | cons a b =>
    simp only [List.cons_append, List.cons.injEq] at e
    simp only [List.all_cons, Bool.and_eq_true] at hall
    rw [← e.1, hc] at hall
    exact absurd hall.1 (by decide)

/-- `k`'s client-random field is hex text for the byte string `b`. -/
structure CrOf (k : Key) (b : List Nat) : Prop where
  cr : fromHex k.clientRandom = some b
  crLower : lower k.clientRandom = hexOf b

/-- As far as client random `cr` is concerned, `K` represents the set of triples `T`: every key has
    a decodable client-random field, the keys of `cr` are keys of triples of `T`, and every triple of
    `T` for `cr` has a key. -/
def RepFor (cr : List Nat) (K : List Key) (T : Triple → Prop) : Prop :=
  (∀ k ∈ K, ∃ b, CrOf k b ∧ (b = cr → ∃ tr, KeyOf k tr ∧ T tr ∧ tr.cr = cr)) ∧
  (∀ tr, T tr → tr.cr = cr → ∃ k ∈ K, KeyOf k tr)

theorem keyOfLine_of_alien {cr : List Nat} {line : Str} (H : AlienFor cr line) :
    ∃ k b, keyOfLine line = some k ∧ CrOf k b ∧ b ≠ cr := by
  obtain ⟨w, h, rest, b, rfl, hw, hh, _, hne⟩ := H
  obtain ⟨f, fs, hf⟩ := List.exists_cons_of_ne_nil (splitOn_ne_nil 32 rest)
  exact ⟨⟨w, h, f⟩, b, keyOfLine_fields hw (props_of_isHexOf hh).1 hf,
    ⟨fromHex_of_isHexOf hh, lower_of_isHexOf hh⟩, hne⟩

theorem repFor_parse (hx : HexClass) (cr : List Nat) (t : Str) (wf : WellFormedFor cr t)
    (hcls : CrInClass hx t) : RepFor cr (getKeysFromString hx t) (HasTriple t) := by
  have hlines := model_lines_eq t (fun l hl => (wf l hl).1)
  constructor
  · intro k hk
    simp only [getKeysFromString, hlines, List.mem_filterMap] at hk
    obtain ⟨line, hmem, hline⟩ := hk
    simp only [getKeyFromLine] at hline
    split at hline
    · rename_i hacc
      rcases (wf line hmem).2 with ⟨tr, hc, hv, H⟩ | hno | hal
      · rw [keyOfLine_of_denotes H] at hline
        cases hline
        have ko := keyOf_of_denotes H
        exact ⟨tr.cr, ⟨ko.cr, ko.crLower⟩, fun e => ⟨tr, ko, ⟨line, hmem, hc, hv, H⟩, e⟩⟩
      · exact absurd (looks_of_accepts hacc) hno
      · obtain ⟨k', b, hk', hcr, hne⟩ := keyOfLine_of_alien hal
        rw [hk'] at hline
        cases hline
        exact ⟨b, hcr, fun e => absurd e hne⟩
    · cases hline
  · intro tr ⟨line, hmem, hc, hv, H⟩ _
    refine ⟨⟨tr.label, hc, hv⟩, ?_, keyOf_of_denotes H⟩
    simp only [getKeysFromString, hlines, List.mem_filterMap]
    refine ⟨line, hmem, ?_⟩
    simp only [getKeyFromLine, accepts_of_denotes H (hcls line hmem tr hc hv H), if_true]
    exact keyOfLine_of_denotes H

theorem quicSessionKeys_of_repFor {cr : List Nat} {K : List Key} {T : Triple → Prop}
    (h : RepFor cr K T) : quicSessionKeys K cr = some (findSessionSecrets K cr) := by
  unfold quicSessionKeys findSessionSecrets
  have hall : (K.all fun k => (fromHex k.clientRandom).isSome) = true := by
    rw [List.all_eq_true]
    intro k hk
    obtain ⟨b, hko, _⟩ := h.1 k hk
    simp [hko.cr]
  rw [if_pos hall]
  congr 1
  apply List.filter_congr
  intro k hk
  obtain ⟨b, hko, _⟩ := h.1 k hk
  rw [crMatch_eq hko.crLower cr, hko.cr]
  by_cases e : b = cr <;> simp [e]

theorem installedQuic_of_selRep' {K : List Key} {cr : List Nat}
    (hq : quicSessionKeys K cr = some (findSessionSecrets K cr))
    {σ : Str → Option (List Nat)} (h : SelRep (findSessionSecrets K cr) σ) :
    installedQuic K cr =
      if (σ s_CHTS).isNone || (σ s_SHTS).isNone || (σ s_CTS0).isNone || (σ s_STS0).isNone
      then .unbound else .ok (labelsQuic.map σ) := by
  unfold installedQuic
  rw [hq]
  obtain ⟨st', e, hst'⟩ := scan_selRep labelsQuic h
  simp only [e]
  rw [hst' s_CHTS (by decide), hst' s_SHTS (by decide), hst' s_CTS0 (by decide), hst' s_STS0 (by decide)]
  rw [List.map_congr_left hst']

/-- One secret per label among the triples of client random `cr`. -/
def ConsistentTFor (cr : List Nat) (T : Triple → Prop) : Prop :=
  ∀ tr tr', T tr → T tr' → tr.cr = cr → tr'.cr = cr → tr.label = tr'.label → tr.secret = tr'.secret

theorem secretOf_of_mem' {T : Triple → Prop} {cr : List Nat} (hc : ConsistentTFor cr T) {l : Str}
    {v : List Nat} (h : T ⟨l, cr, v⟩) : secretOf T cr l = some v := by
  have hex : ∃ v, T ⟨l, cr, v⟩ := ⟨v, h⟩
  unfold secretOf
  rw [dif_pos hex]
  congr 1
  exact hc _ _ (Classical.choose_spec hex) h rfl rfl rfl

theorem selRep_of_repFor {cr : List Nat} {K : List Key} {T : Triple → Prop} (hr : RepFor cr K T)
    (hc : ConsistentTFor cr T) : SelRep (findSessionSecrets K cr) (secretOf T cr) := by
  constructor
  · intro k hk
    simp only [findSessionSecrets, List.mem_filter] at hk
    obtain ⟨hkK, hm⟩ := hk
    obtain ⟨b, hcr, hT⟩ := hr.1 k hkK
    rw [crMatch_eq hcr.crLower cr] at hm
    have hb : b = cr := by simpa using hm
    obtain ⟨tr, hko, hTtr, htc⟩ := hT hb
    refine ⟨hko.label ▸ hko.nss, tr.secret, ?_, hko.value⟩
    apply secretOf_of_mem' hc
    rw [hko.label, ← htc]
    exact hTtr
  · intro l v hσ
    obtain ⟨k, hk, hko⟩ := hr.2 _ (secretOf_some hσ) rfl
    refine ⟨k, ?_, hko.label⟩
    simp only [findSessionSecrets, List.mem_filter]
    refine ⟨hk, ?_⟩
    rw [crMatch_eq hko.crLower cr]
    simp

/-- Key lists that represent, for `cr`, the same consistent set of triples install the same secrets in a
    session with client random `cr`. For the selection as found (first line whatever its label) this needs
    that `cr` has no line with another label beside a CLIENT_RANDOM line. -/
theorem installed_eq_of_repFor {cr : List Nat} {K₁ K₂ : List Key} {T : Triple → Prop} (sel : Sel12)
    (h₁ : RepFor cr K₁ T) (h₂ : RepFor cr K₂ T) (hc : ConsistentTFor cr T)
    (hmix : sel = .first → ∀ v l w, T ⟨s_CLIENT_RANDOM, cr, v⟩ → T ⟨l, cr, w⟩ → l = s_CLIENT_RANDOM) :
    installed sel K₁ cr = installed sel K₂ cr := by
  have s₁ := selRep_of_repFor h₁ hc
  have s₂ := selRep_of_repFor h₂ hc
  have hnil := selRep_nil_iff s₁ s₂
  have h12 : installed12 sel K₁ cr = installed12 sel K₂ cr := by
    cases sel with
    | firstMaster => rw [installed12_master_of_selRep s₁, installed12_master_of_selRep s₂]
    | first =>
      have hm : ∀ v, secretOf T cr s_CLIENT_RANDOM = some v → ∀ l w, secretOf T cr l = some w →
          l = s_CLIENT_RANDOM := fun v hv l w hw => hmix rfl v l w (secretOf_some hv) (secretOf_some hw)
      rw [installed12_first_of_selRep s₁ hm, installed12_first_of_selRep s₂ hm]
      simp only [hnil]
  unfold installed
  rw [h12, installed13_of_selRep s₁, installed13_of_selRep s₂,
    installedQuic_of_selRep' (quicSessionKeys_of_repFor h₁) s₁,
    installedQuic_of_selRep' (quicSessionKeys_of_repFor h₂) s₂]
  simp only [hnil]

theorem wellFormedFor_of_wellFormed {t : Str} (h : WellFormed t) (cr : List Nat) : WellFormedFor cr t :=
  fun l hl => ⟨(h l hl).1, (h l hl).2.elim Or.inl (fun x => Or.inr (Or.inl x))⟩


inductive LineKind | secret (tr : Triple) | inert | alien
  deriving DecidableEq

/-- `ls` classified line by line, relative to the session with client random `cr`. -/
def ClassifiedFor (cr : List Nat) : List Str → List LineKind → Prop
  | [], [] => True
  | l :: ls, c :: cs =>
    (13 ∉ l ∧ match c with
      | .secret tr => Denotes l tr
      | .inert => ¬ LooksLikeKey l
      | .alien => AlienFor cr l) ∧ ClassifiedFor cr ls cs
  | _, _ => False

theorem not_denotes_of_alien {cr : List Nat} {l : Str} {tr : Triple} (ha : AlienFor cr l)
    (hd : Denotes l tr) : tr.cr ≠ cr := by
  obtain ⟨k, b, hk, hcr, hne⟩ := keyOfLine_of_alien ha
  obtain ⟨hc, hv, H⟩ := hd
  rw [keyOfLine_of_denotes H] at hk
  cases hk
  have := (keyOf_of_denotes H).cr
  rw [hcr.cr] at this
  cases this
  exact hne

theorem classifiedFor_spec {cr : List Nat} : ∀ {ls : List Str} {cs : List LineKind}, ClassifiedFor cr ls cs →
    (∀ l ∈ ls, 13 ∉ l ∧ ((∃ tr, Denotes l tr ∧ LineKind.secret tr ∈ cs) ∨ (¬ LooksLikeKey l) ∨ AlienFor cr l)) ∧
    (∀ tr, LineKind.secret tr ∈ cs → ∃ l ∈ ls, Denotes l tr)
  | [], [], _ => ⟨fun _ hl => (nomatch hl), fun _ h => (nomatch h)⟩
  | l₀ :: ls, c :: cs, h => by
    obtain ⟨⟨h13, hc⟩, hrest⟩ := h
    obtain ⟨ih1, ih2⟩ := classifiedFor_spec hrest
    constructor
    · intro l hl
      rcases List.mem_cons.mp hl with rfl | hl'
      · refine ⟨h13, ?_⟩
        cases c with
        | secret tr => exact Or.inl ⟨tr, hc, List.mem_cons_self⟩
        | inert => exact Or.inr (Or.inl hc)
        | alien => exact Or.inr (Or.inr hc)
      · obtain ⟨h1, h2⟩ := ih1 l hl'
        exact ⟨h1, h2.imp (fun ⟨tr, hd, hm⟩ => ⟨tr, hd, List.mem_cons_of_mem _ hm⟩) id⟩
    · intro tr hm
      rcases List.mem_cons.mp hm with rfl | hm'
      · exact ⟨l₀, List.mem_cons_self, hc⟩
      · obtain ⟨l, hl, hd⟩ := ih2 tr hm'
        exact ⟨l, List.mem_cons_of_mem _ hl, hd⟩
  | [], _ :: _, h => h.elim
  | _ :: _, [], h => h.elim

theorem wellFormedFor_of_classified {cr : List Nat} {t : Str} {cs : List LineKind}
    (h : ClassifiedFor cr (lines t) cs) : WellFormedFor cr t := by
  intro l hl
  obtain ⟨h1, h2⟩ := (classifiedFor_spec h).1 l hl
  refine ⟨h1, ?_⟩
  rcases h2 with ⟨tr, hd, _⟩ | hn | ha
  · exact Or.inl ⟨tr, hd⟩
  · exact Or.inr (Or.inl hn)
  · exact Or.inr (Or.inr ha)

theorem hasTriple_iff_of_classified {cr : List Nat} {t : Str} {cs : List LineKind}
    (h : ClassifiedFor cr (lines t) cs) (tr : Triple) (hcr : tr.cr = cr) :
    HasTriple t tr ↔ LineKind.secret tr ∈ cs := by
  constructor
  · intro ⟨l, hl, hd⟩
    obtain ⟨_, h2⟩ := (classifiedFor_spec h).1 l hl
    rcases h2 with ⟨tr', hd', hm⟩ | hn | ha
    · rw [denotes_unique hd hd']; exact hm
    · exact absurd (looks_of_denotes hd) hn
    · exact absurd hcr (not_denotes_of_alien ha hd)
  · intro hm
    exact (classifiedFor_spec h).2 tr hm

theorem equivalentFor_of_classified {cr : List Nat} {t₁ t₂ : Str} {cs₁ cs₂ : List LineKind}
    (h₁ : ClassifiedFor cr (lines t₁) cs₁) (h₂ : ClassifiedFor cr (lines t₂) cs₂)
    (h : ∀ tr, LineKind.secret tr ∈ cs₁ ↔ LineKind.secret tr ∈ cs₂) : EquivalentFor cr t₁ t₂ := fun tr hcr => by
  rw [hasTriple_iff_of_classified h₁ tr hcr, hasTriple_iff_of_classified h₂ tr hcr]; exact h tr

theorem consistentFor_of_classified {cr : List Nat} {t : Str} {cs : List LineKind}
    (h : ClassifiedFor cr (lines t) cs)
    (hc : ∀ tr tr', LineKind.secret tr ∈ cs → LineKind.secret tr' ∈ cs → tr.label = tr'.label →
      tr.secret = tr'.secret) : ConsistentFor cr t := fun tr tr' a b c d e =>
  hc tr tr' ((hasTriple_iff_of_classified h tr c).mp a) ((hasTriple_iff_of_classified h tr' d).mp b) e


end TLX.Lemmas.Keylog
