/-
The TLS session state machine does not look at the carrier lists of the records it is handed: for ANY function `ρ` on
carrier lists, running on records with `ρ` applied commutes with applying `ρ` to the carrier lists stored in
`application_traffic` — the instance "keep every entry, relabel the records" of `Session.run_view`. With `ρ := List.map f`
(`Lemmas/TagNat`): the packets may be renamed.
-/
import TLX.Lemmas.Session
namespace TLX.Lemmas.CarrierMap
open TLX

namespace Sess
open TLX.Session

variable (ρ : List Nat → List Nat)

def rec (r : Rec) : Rec := { r with carriers := ρ r.carriers }
def entry (e : Entry) : Entry := { e with record := rec ρ e.record }
def st {δ : Type} (s : St δ) : St δ := { s with traffic := s.traffic.map (entry ρ) }

variable {δ : Type}

@[simp] theorem rec_raw (r : Rec) : (rec ρ r).raw = r.raw := rfl
@[simp] theorem rec_typ (r : Rec) : (rec ρ r).typ = r.typ := rfl
@[simp] theorem rec_ver (r : Rec) : (rec ρ r).ver = r.ver := rfl
@[simp] theorem rec_body (r : Rec) : (rec ρ r).body = r.body := rfl
@[simp] theorem st_canDecrypt (s : St δ) : (st ρ s).canDecrypt = s.canDecrypt := rfl
@[simp] theorem st_chSeen (s : St δ) : (st ρ s).chSeen = s.chSeen := rfl
@[simp] theorem st_ver (s : St δ) : (st ρ s).ver = s.ver := rfl
@[simp] theorem st_srvCC (s : St δ) : (st ρ s).srvCC = s.srvCC := rfl
@[simp] theorem st_cliCC (s : St δ) : (st ρ s).cliCC = s.cliCC := rfl
@[simp] theorem st_dec (s : St δ) : (st ρ s).dec = s.dec := rfl
@[simp] theorem st_cr (s : St δ) : (st ρ s).cr = s.cr := rfl

theorem clientHello_nat (s : St δ) (r : Rec) : clientHello (st ρ s) (rec ρ r) = st ρ (clientHello s r) := rfl

/-- `st ρ` is the observer's view (`Lemmas/Session`) that keeps every entry and relabels the records by `rec ρ` -/
theorem st_eq_view (s : St δ) : st ρ s = s.view true (rec ρ) := by
  have : ∀ l : List Entry, l.map (entry ρ) = l.filterMap (Entry.view true (rec ρ)) := by
    intro l
    induction l with
    | nil => rfl
    | cons e es ih => simp [Entry.view, entry, ih]
  simp only [st, St.view, this]

variable (O : Ops δ) (hdec : ∀ d r srv, O.decrypt d (rec ρ r) srv = O.decrypt d r srv)
include hdec

theorem handleRecord_nat (m : Bool) (s : St δ) (r : Rec) (srv : Bool) :
    handleRecord O m (st ρ s) (rec ρ r) srv = st ρ (handleRecord O m s r srv) := by
  rw [st_eq_view, st_eq_view, handleRecord_view O true (rec ρ) hdec (fun _ => rfl), Bool.and_true]

theorem run_nat (m : Bool) (s : St δ) (rs : List (Rec × Bool)) :
    run O m (st ρ s) (rs.map fun x => (rec ρ x.1, x.2)) = st ρ (run O m s rs) := by
  rw [st_eq_view, st_eq_view, run_view O true (rec ρ) hdec (fun _ => rfl), Bool.and_true]

end Sess

end TLX.Lemmas.CarrierMap
