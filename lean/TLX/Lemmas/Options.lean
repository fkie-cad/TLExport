/- Helper lemmas for C10 (`TLX.Props.C10`). -/
import TLX.Options
namespace TLX.Lemmas.Options
open TLX.Options

theorem dictGet_update (m : List (Int × Int)) (k v k' : Int) :
    dictGet? (m.map fun e => if e.1 == k then (k, v) else e) k' =
      if k' = k then (if m.any (·.1 == k) then some v else none) else dictGet? m k' := by
  induction m with
  | nil => simp [dictGet?]
  | cons e es ih =>
    unfold dictGet? at ih ⊢
    by_cases he : e.1 = k
    · by_cases hk : k' = k
      · subst hk; simp [he]
      · have hkk : ¬ k = k' := fun h => hk h.symm
        simp only [List.map_cons, he, if_true, List.find?_cons, beq_iff_eq, 
          hk, if_false] at ih ⊢
        have hb : (k == k') = false := by simp [hkk]
        simp only [hb]
        exact ih
    · have heb : (e.1 == k) = false := by simp [he]
      by_cases hek : e.1 = k'
      · have hk : ¬ k' = k := fun h => he (hek.trans h)
        simp [hek, hk]
      · have hekb : (e.1 == k') = false := by simp [hek]
        simp only [List.map_cons, heb, Bool.false_eq_true, if_false, List.find?_cons, hekb,
          List.any_cons, Bool.false_or] at ih ⊢
        exact ih

end TLX.Lemmas.Options
