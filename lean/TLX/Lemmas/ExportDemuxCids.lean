/-
What a QUIC session can hold (helper of `Props/ExportDemux.lean`: `SeparatedByContent`, `captureSeparated_of_content`): an UPPER bound on the connection-ID sets, the
counterpart of the lower bounds `cid_learning_*` and of `CidsMono` (Lemmas/QuicSession): every member was put there by
`learnCids` (DCID / SCID of a long-header Initial packet) or by a NEW_CONNECTION_ID frame of a packet the session opened.
`CidsLe S s a`: the CIDs of `a` are those of `s` or satisfy `S`; the chain follows `handle_frame` … `handle_packet` up to the
composed machine and the run (`everHolds_sources`).
-/
import TLX.Lemmas.QuicSession
import TLX.Props.ExportPropsQuic
import TLX.Lemmas.ExportDemux
namespace TLX.Lemmas.ExportDemuxCids
open TLX TLX.Quic TLX.Cipher TLX.Quic.Session TLX.Lemmas.QuicSession

variable {σ : Type} (P : Params σ)

def CidsLe (S : Bytes → Prop) (s a : St σ) : Prop :=
  (∀ c, c ∈ a.clientCids → c ∈ s.clientCids ∨ S c) ∧ (∀ c, c ∈ a.serverCids → c ∈ s.serverCids ∨ S c)

theorem CidsLe.refl (S : Bytes → Prop) (s : St σ) : CidsLe S s s := ⟨fun _ h => .inl h, fun _ h => .inl h⟩

theorem CidsLe.trans {S : Bytes → Prop} {s a b : St σ} (h1 : CidsLe S s a) (h2 : CidsLe S a b) : CidsLe S s b :=
  ⟨fun c h => (h2.1 c h).elim (h1.1 c) .inr, fun c h => (h2.2 c h).elim (h1.2 c) .inr⟩

theorem CidsLe.of_eq {S : Bytes → Prop} {s a : St σ} (hc : a.clientCids = s.clientCids) (hs : a.serverCids = s.serverCids) :
    CidsLe S s a := ⟨fun _ h => .inl (hc ▸ h), fun _ h => .inl (hs ▸ h)⟩

theorem CidsLe.mono {S T : Bytes → Prop} {s a : St σ} (h : CidsLe S s a) (hST : ∀ c, S c → T c) : CidsLe T s a :=
  ⟨fun c hc => (h.1 c hc).imp id (hST c), fun c hc => (h.2 c hc).imp id (hST c)⟩

theorem CidsLe.mem_or {S : Bytes → Prop} {s a : St σ} (h : CidsLe S s a) {c : Bytes}
    (hc : c ∈ a.clientCids ∨ c ∈ a.serverCids) : (c ∈ s.clientCids ∨ c ∈ s.serverCids) ∨ S c :=
  hc.elim (fun h' => (h.1 c h').imp .inl id) (fun h' => (h.2 c h').imp .inr id)

theorem mem_setAdd {s : List Bytes} {x y : Bytes} (h : x ∈ setAdd s y) : x ∈ s ∨ x = y := by
  unfold setAdd at h
  split at h
  · exact .inl h
  · simpa using h

theorem mem_optAdd {s : List Bytes} {x : Bytes} {y : Option Bytes} (h : x ∈ optAdd s y) : x ∈ s ∨ y = some x := by
  cases y with
  | none => exact .inl h
  | some z => rcases mem_setAdd h with h | h; exact .inl h; exact .inr (by rw [h])

theorem le_of_sel {S : Bytes → Prop} {s a : St σ} (h : FrameSel s a) : CidsLe S s a := by
  obtain ⟨_, _, _, _, _, rfl⟩ := h; exact CidsLe.refl _ _
theorem le_of_pn {S : Bytes → Prop} {s a : St σ} (h : FramePn s a) : CidsLe S s a := by
  obtain ⟨_, _, rfl⟩ := h; exact CidsLe.refl _ _
theorem le_of_c {S : Bytes → Prop} {s a : St σ} (h : FrameC s a) : CidsLe S s a := by
  obtain ⟨_, _, _, _, _, _, _, _, _, _, _, rfl⟩ := h; exact CidsLe.refl _ _

def ncidOf : Frame.Parsed → Option Bytes
  | .newConnectionId _ _ _ _ cid _ => some cid
  | _ => none

theorem handleFrames_le (s : St σ) (p : Pkt) (fs : List Frame.Parsed) :
    CidsLe (fun c => ∃ f ∈ fs, ncidOf f = some c) s (handleFrames P s p fs).1 :=
  handleFrames_inv P (CidsLe _ s) p fs (fun b _ _ _ _ _ hb => hb.trans (le_of_c (handleCrypto_frame P b p _ _)))
    (fun _ _ _ hb => hb.trans (CidsLe.of_eq rfl rfl))
    (fun b l sq r n cid t hm hb =>
      have hi : ∃ f ∈ fs, ncidOf f = some cid := ⟨_, hm, rfl⟩
      ⟨hb.trans ⟨fun _ h => .inl h, fun c h => (mem_setAdd h).imp id (fun e => by rw [e]; exact hi)⟩,
       hb.trans ⟨fun c h => (mem_setAdd h).imp id (fun e => by rw [e]; exact hi), fun _ h => .inl h⟩⟩)
    s (CidsLe.refl _ s)

/-- the packet `p`, opened by a decryptor the session holds, carries a NEW_CONNECTION_ID frame with the CID `c` -/
def Issues (p : Pkt) (c : Bytes) : Prop :=
  ∃ d pn aad pt fs, decDecrypt P d p.payload pn aad p.isServer = .ok pt ∧ Frame.parseFrames pt = some fs ∧
    ∃ f ∈ fs, ncidOf f = some c

theorem decryptPacket_le (s : St σ) (p : Pkt) : CidsLe (Issues P p) s (decryptPacket P s p).1 :=
  decryptPacket_inv P (CidsLe (Issues P p) s) p (fun _ _ f h => h.trans (le_of_sel f)) (fun _ _ f h => h.trans (le_of_pn f))
    (fun a fs ⟨d, pn, aad, pt, hd, hfs⟩ h => h.trans ((handleFrames_le P a p fs).mono
      fun _ ⟨f, hf, hc⟩ => ⟨d, pn, aad, pt, fs, hd, hfs, f, hf, hc⟩)) s (CidsLe.refl _ s)

/-- the packet `p` is a long-header Initial whose DCID or SCID is `c` -/
def Names (p : Pkt) (c : Bytes) : Prop :=
  p.ptype = .initial ∧ p.htype ≠ .short ∧ (c = p.dcid ∨ p.scid = some c)

theorem learnCids_le (s : St σ) (p : Pkt) : CidsLe (fun c => c = p.dcid ∨ p.scid = some c) s (learnCids s p) := by
  unfold learnCids
  split
  · exact ⟨fun c h => (mem_setAdd h).imp id .inl, fun c h => (mem_optAdd h).imp id .inr⟩
  · exact ⟨fun c h => (mem_optAdd h).imp id .inr, fun c h => (mem_setAdd h).imp id .inl⟩

theorem afterDecrypt_le (s : St σ) (c : Option PyErr) (p : Pkt) : CidsLe (Names p) s (afterDecrypt P s c p).st := by
  unfold afterDecrypt
  let Q : StepRes σ → Prop := fun x => CidsLe (Names p) s x.st
  refine ite_rec Q (ite_rec Q (CidsLe.refl _ _) (CidsLe.of_eq rfl rfl)) (ite_rec Q (CidsLe.of_eq rfl rfl) ?_)
  by_cases hi : p.ptype = .initial
  · rw [if_pos hi]
    by_cases hs : p.htype = .short
    · rw [if_pos hs]; exact CidsLe.refl _ _
    · rw [if_neg hs]; exact (learnCids_le s p).mono fun c hc => ⟨hi, hs, hc⟩
  · rw [if_neg hi]; exact CidsLe.refl _ _

def Teaches (p : Pkt) (c : Bytes) : Prop := Names p c ∨ Issues P p c

theorem stepPkt_le (s : St σ) (p : Pkt) : CidsLe (Teaches P p) s (stepPkt P s p).st := by
  unfold stepPkt
  split
  · exact ((decryptPacket_le P s p).mono fun c h => .inr h).trans ((afterDecrypt_le P _ _ p).mono fun c h => .inl h)
  · exact (afterDecrypt_le P s none p).mono fun c h => .inl h

theorem handleQuicPackets_le (s : St σ) (ps : List Pkt) :
    CidsLe (fun c => ∃ p ∈ ps, Teaches P p c) s (handleQuicPackets P s ps).1 := by
  rw [handleQuicPackets_st]
  exact runPkts_inv P (fun a => CidsLe (fun c => ∃ p ∈ ps, Teaches P p c) s a) (· ∈ ps)
    (fun a p hq h => h.trans ((stepPkt_le P a p).mono fun c hc => ⟨p, hq, hc⟩)) ps (fun _ h => h) s (CidsLe.refl _ _)

section Pipeline
open TLX.QuicPipeline TLX.MainLoop
variable (mask : Quic.Dissect.MaskFn) (H : Crypto.Prims) (Pc : Cipher.Prims) (info : Nat → Pipeline.Info)

theorem handleTurn_le (P : Params Tls) (x : LoopSt) (ps : List Quic.Pkt) :
    CidsLe (fun c => ∃ p ∈ ps, Teaches P p c) x.1 (handleTurn P x ps).1 := by
  obtain ⟨s, e⟩ := x
  unfold handleTurn
  cases e with
  | some e => exact CidsLe.refl _ _
  | none => exact (handleQuicPackets_le P s ps).trans (CidsLe.of_eq rfl rfl)

theorem dissectLoop_le (P : Params Tls) (srv : Bool) (guessed : Bytes) (ts : Nat) (d : Bytes) :
    ∀ x : LoopSt, CidsLe
      (fun c => ∃ p ∈ (Quic.Dissect.dissectLoop mask (fun x : LoopSt => envOf x.1) (handleTurn P) srv guessed ts x d).2,
        Teaches P p c) x.1
      (Quic.Dissect.dissectLoop mask (fun x : LoopSt => envOf x.1) (handleTurn P) srv guessed ts x d).1.1 := by
  intro x
  refine Lemmas.QuicDissect.dissectLoop_induct mask _ (handleTurn P) srv guessed ts
    (Q := fun x _ r => CidsLe (fun c => ∃ p ∈ r.2, Teaches P p c) x.1 r.1.1) (fun _ => CidsLe.refl _ _) ?_ x d
  intro x d hd ih
  rw [Lemmas.QuicDissect.dissectLoop_cons _ _ _ _ _ _ _ _ hd]
  refine ((handleTurn_le P x _).mono ?_).trans (ih.mono ?_)
  · intro c ⟨p, hp, h⟩; exact ⟨p, List.mem_append_left _ hp, h⟩
  · intro c ⟨p, hp, h⟩; exact ⟨p, List.mem_append_right _ hp, h⟩

theorem feedPre_cids (P : Params Tls) (s : St Tls) (dcid : Bytes) (v : Quic.Session.Version) :
    (feedPre H P s dcid v).clientCids = s.clientCids ∧ (feedPre H P s dcid v).serverCids = s.serverCids :=
  ⟨Eq.trans (congrArg St.clientCids (Props.ExportPropsQuic.feedPre_pre H P s dcid v)) rfl,
   Eq.trans (congrArg St.serverCids (Props.ExportPropsQuic.feedPre_pre H P s dcid v)) rfl⟩

/-- the QUIC packets the dissector extracts from the datagram `payload` while the session, in state `s`, handles it -/
def dissected (P : Params Tls) (s : St Tls) (fromClient : Bool) (dcid : Bytes) (v : Quic.Session.Version) (ts : Nat)
    (payload : Bytes) : List Quic.Pkt :=
  (Quic.Dissect.dissectLoop mask (fun x : LoopSt => envOf x.1) (handleTurn P)
    (packetIsServer (feedPre H P s dcid v) fromClient dcid) dcid ts (feedPre H P s dcid v, none) payload).2

theorem handleDatagram_le (P : Params Tls) (s : St Tls) (fromClient : Bool) (dcid : Bytes) (v : Quic.Session.Version)
    (ts : Nat) (payload : Bytes) :
    CidsLe (fun c => ∃ p ∈ dissected mask H P s fromClient dcid v ts payload, Teaches P p c) s
      (handleDatagram mask H P s fromClient dcid v ts payload).1 := by
  unfold handleDatagram dissected
  obtain ⟨h1, h2⟩ := feedPre_cids H P s dcid v
  exact (CidsLe.of_eq h1 h2).trans (dissectLoop_le mask P _ dcid ts payload (feedPre H P s dcid v, none))

/-- the datagram `x` teaches the connection ID `c`: handled by a session (in some state `s`, with some routing DCID `d`),
    the dissector extracts from it a QUIC packet that is a long-header Initial with DCID or SCID `c` (`Names`), or that the
    session opens and finds a NEW_CONNECTION_ID frame carrying `c` in (`Issues`) -/
def TaughtBy (x : QIn Keylog.Key) (c : Bytes) : Prop :=
  ∃ (s : St Tls) (fromClient : Bool) (d : Bytes),
    ∃ p ∈ dissected mask H (params H Pc x.kl) s fromClient d (sver x.h.ver) (info x.p.tag).ts x.p.payload,
      Teaches (params H Pc x.kl) p c

theorem feed_le (x : QIn Keylog.Key) (c : QConn) (d : Bytes) :
    CidsLe (TaughtBy mask H Pc info x) c.st ((quicMachine mask H Pc info).feed c x.kl x.p d x.h.ver).st := by
  rw [quicMachine_feed_eq]
  cases c.raised with
  | some e => exact CidsLe.refl _ _
  | none =>
    exact (handleDatagram_le mask H (params H Pc x.kl) c.st _ d _ _ _).mono
      fun cid ⟨p, hp, ht⟩ => ⟨c.st, _, d, p, hp, ht⟩

open TLX.Lemmas.ExportDemux in
/-- **what a QUIC session can hold.** Every connection ID that a session of the run on the datagrams `A` ever holds was
    taught by one of these datagrams: it is the DCID or SCID of a long-header Initial packet dissected from it, or it arrived
    in a NEW_CONNECTION_ID frame of a packet the session could open. Nothing else enters the CID sets — not the routing DCID
    the loop hands over, not a Retry's SCID as such, nothing from another connection's datagrams. -/
theorem everHolds_sources (o : Opts) (A : List (QIn Keylog.Key)) (c : Bytes)
    (h : EverHolds (quicMachine mask H Pc info) o A c) : ∃ x ∈ A, TaughtBy mask H Pc info x c := by
  obtain ⟨n, s, hs, hc⟩ := h
  refine Lemmas.MainLoop.quicRun_inv (quicMachine mask H Pc info) o
    (fun s => ∀ c, (c ∈ s.st.st.clientCids ∨ c ∈ s.st.st.serverCids) → ∃ x ∈ A, TaughtBy mask H Pc info x c) (A.take n)
    ?_ ?_ [] (fun s hs => nomatch hs) s hs c hc
  · intro x hx c hc
    rcases (feed_le mask H Pc info x ((quicMachine mask H Pc info).new o x.p) x.h.dcid).mem_or hc with h | h
    · exact h.elim (fun h => nomatch h) (fun h => nomatch h)
    · exact ⟨x, List.mem_of_mem_take hx, h⟩
  · intro x hx s d hQ _ c hc
    rcases (feed_le mask H Pc info x s.st d).mem_or hc with h | h
    · exact hQ c h
    · exact ⟨x, List.mem_of_mem_take hx, h⟩

end Pipeline
end TLX.Lemmas.ExportDemuxCids

