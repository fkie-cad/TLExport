/-
Small facts about byte strings and their big-endian readings, shared by the layout proofs. Core Lean only.
-/
import TLX.Py
namespace TLX.Bytes
open TLX

theorem ofNatBE_length (w n : Nat) : (Bytes.ofNatBE w n).length = w := by
  induction w generalizing n with
  | zero => rfl
  | succ w ih => simp [Bytes.ofNatBE, ih]

theorem toNat_ofNat (n : Nat) (h : n < 256) : (UInt8.ofNat n).toNat = n := by
  rw [UInt8.toNat_ofNat']
  exact Nat.mod_eq_of_lt h

theorem u8_toNat (n : Nat) : (UInt8.ofNat (n % 256)).toNat = n % 256 := by
  simp [UInt8.toNat_ofNat']

theorem beNat_one (x : UInt8) : Bytes.beNat [x] = x.toNat := by simp [Bytes.beNat]

theorem beNat2 (a b : UInt8) : Bytes.beNat [a, b] = a.toNat * 256 + b.toNat := by
  simp [Bytes.beNat]

theorem beNat_toBytes2 (n : Nat) (h : n < 65536) : Bytes.beNat [UInt8.ofNat (n / 256), UInt8.ofNat (n % 256)] = n := by
  simp only [beNat2, UInt8.toNat_ofNat']
  omega

theorem beNat_inj2 (a b : Bytes) (ha : a.length = 2) (hb : b.length = 2) (h : Bytes.beNat a = Bytes.beNat b) : a = b := by
  match a, b, ha, hb with
  | [a0, a1], [b0, b1], _, _ =>
    have h0 := a0.toNat_lt; have h1 := a1.toNat_lt; have h2 := b0.toNat_lt; have h3 := b1.toNat_lt
    rw [beNat2, beNat2] at h
    have e0 : a0.toNat = b0.toNat := by omega
    have e1 : a1.toNat = b1.toNat := by omega
    rw [UInt8.toNat_inj.mp e0, UInt8.toNat_inj.mp e1]

theorem beNat_fold_lt (b : Bytes) (a : Nat) :
    b.foldl (fun acc x => acc * 256 + x.toNat) a + 1 ≤ (a + 1) * 256 ^ b.length := by
  induction b generalizing a with
  | nil => simp
  | cons x r ih =>
    simp only [List.foldl_cons, List.length_cons]
    refine Nat.le_trans (ih _) ?_
    have hx := x.toNat_lt
    have : a * 256 + x.toNat + 1 ≤ (a + 1) * 256 := by omega
    calc (a * 256 + x.toNat + 1) * 256 ^ r.length ≤ ((a + 1) * 256) * 256 ^ r.length := Nat.mul_le_mul_right _ this
      _ = (a + 1) * 256 ^ (r.length + 1) := by rw [Nat.pow_succ, Nat.mul_assoc, Nat.mul_comm 256]

theorem beNat_lt (b : Bytes) : Bytes.beNat b < 256 ^ b.length := by
  have := beNat_fold_lt b 0
  simp only [Nat.zero_add, Nat.one_mul] at this
  exact this

theorem beNat_snoc (l : Bytes) (x : UInt8) : Bytes.beNat (l ++ [x]) = Bytes.beNat l * 256 + x.toNat := by
  simp [Bytes.beNat, List.foldl_append]

/-- the big-endian fold over `n.to_bytes(w, "big")`, continued from any value `a` -/
theorem foldl_ofNatBE (a w n : Nat) (h : n < 256 ^ w) :
    (Bytes.ofNatBE w n).foldl (fun acc x => acc * 256 + x.toNat) a = a * 256 ^ w + n := by
  induction w generalizing n with
  | zero => simp [Bytes.ofNatBE] at *; omega
  | succ w ih =>
    rw [Bytes.ofNatBE, List.foldl_append, ih (n / 256) (by rw [Nat.pow_succ] at h; omega)]
    simp only [List.foldl_cons, List.foldl_nil]
    rw [toNat_ofNat _ (Nat.mod_lt _ (by decide)), Nat.pow_succ, Nat.add_mul, Nat.mul_assoc]
    have := Nat.div_add_mod n 256
    omega

/-- `int.from_bytes(n.to_bytes(k, "big"), "big") == n` -/
theorem beNat_ofNatBE (k n : Nat) (h : n < 256 ^ k) : Bytes.beNat (Bytes.ofNatBE k n) = n := by
  rw [Bytes.beNat, foldl_ofNatBE 0 k n h, Nat.zero_mul, Nat.zero_add]

theorem slice_drop (p : Bytes) (k a b : Nat) : Bytes.slice (p.drop k) a b = Bytes.slice p (k + a) (k + b) := by
  unfold Bytes.slice
  rw [List.drop_drop, Nat.add_sub_add_left]

theorem slice_zero (b : Bytes) (n : Nat) : Bytes.slice b 0 n = b.take n := by simp [Bytes.slice]

theorem slice_length (b : Bytes) (i j : Nat) : (Bytes.slice b i j).length = min (j - i) (b.length - i) := by
  simp [Bytes.slice]

theorem slice_length_eq (d : Bytes) (a n : Nat) (h : ¬ d.length < a + n) : (Bytes.slice d a (a + n)).length = n := by
  rw [slice_length]; omega

theorem slice_length_le (d : Bytes) (a b : Nat) : (Bytes.slice d a b).length ≤ b - a := by
  rw [slice_length]; omega

theorem slice_to_length (x : Bytes) (i : Nat) : Bytes.slice x i x.length = x.drop i := by
  rw [Bytes.slice, List.take_of_length_le (by simp only [List.length_drop]; omega)]

/-- Python's slice bounds are clamped to the length; `Bytes.slice` needs no clamping -/
theorem slice_clamp (x : Bytes) (i j : Nat) : Bytes.slice x (min i x.length) (min j x.length) = Bytes.slice x i j := by
  unfold Bytes.slice
  rcases Nat.le_total i x.length with h1 | h1
  · rw [Nat.min_eq_left h1]
    rcases Nat.le_total j x.length with h2 | h2
    · rw [Nat.min_eq_left h2]
    · rw [Nat.min_eq_right h2, List.take_of_length_le (by simp only [List.length_drop]; omega),
        List.take_of_length_le (by simp only [List.length_drop]; omega)]
  · rw [Nat.min_eq_right h1, List.drop_eq_nil_of_le h1, List.drop_eq_nil_of_le (Nat.le_refl _), List.take_nil, List.take_nil]

theorem slice_left (a b : Bytes) (i j : Nat) (h : j ≤ a.length) : Bytes.slice (a ++ b) i j = Bytes.slice a i j := by
  unfold Bytes.slice
  rw [List.drop_append, List.take_append]
  have : j - i - (a.drop i).length = 0 := by simp; omega
  rw [this, List.take_zero, List.append_nil]

end TLX.Bytes
