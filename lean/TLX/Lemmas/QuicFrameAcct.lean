/-
Helper lemmas for C17, "every payload byte accounted for exactly once": for a well-formed sequence
the returned frames tile the payload and each byte-string attribute is the slice of the payload
that lies, inside the frame's own extent, where the frame's integer attributes say. Defines `Placed`.
-/
import TLX.Lemmas.QuicFrameAny
namespace TLX.Lemmas.QuicFrameAcct
open TLX TLX.Quic TLX.Quic.Varint TLX.Quic.Frame TLX.Spec.QuicFrames TLX.Lemmas.QuicVarint TLX.Lemmas.QuicFrames
open TLX.Lemmas.QuicFrameSeq TLX.Lemmas.QuicFrameAny

/-- what "accounted" means for one byte-string attribute `ad = (relative start, bytes)` of a frame of
    length `len` whose wire image starts `q` -/
def Placed (q : Bytes) (len : Nat) (ad : Nat × Bytes) : Prop :=
  ad.1 + ad.2.length ≤ len ∧ Bytes.slice q ad.1 (ad.1 + ad.2.length) = ad.2

theorem placed_mid (hdr d post tail : Bytes) (i : Nat) (hi : i = (hdr ++ d ++ post).length - post.length - d.length) :
    Placed (hdr ++ d ++ post ++ tail) (hdr ++ d ++ post).length (i, d) := by
  simp only [List.length_append] at hi
  have hi : i = hdr.length := by omega
  refine ⟨?_, slice_mid _ hdr d (post ++ tail) i _ (by simp only [List.append_assoc]) hi rfl⟩
  simp only [hi, List.length_append]; omega

theorem placed_suffix (hdr d tail : Bytes) (i : Nat) (hi : i = (hdr ++ d).length - d.length) :
    Placed (hdr ++ d ++ tail) (hdr ++ d).length (i, d) := by
  have := placed_mid hdr d [] tail i (by simpa only [List.append_nil, List.length_nil, Nat.sub_zero] using hi)
  simpa only [List.append_nil] using this

theorem placed_one {q : Bytes} {len : Nat} {x : Nat × Bytes} (h : Placed q len x) :
    (∀ ad ∈ [x], Placed q len ad) ∧ [x].Pairwise (fun x y => x.1 + x.2.length ≤ y.1) :=
  ⟨fun _ had => List.mem_singleton.mp had ▸ h, List.pairwise_singleton _ _⟩

/-- Every byte-string attribute is the last field of its frame, except the connection id, which the 16-byte reset
    token follows. -/
theorem dataAt_encode (g : QFrame) (hwf : g.wf) (tail : Bytes) :
    (∀ ad ∈ g.toParsed.dataAt, Placed (g.encode ++ tail) g.encode.length ad) ∧
    g.toParsed.dataAt.Pairwise (fun x y => x.1 + x.2.length ≤ y.1) := by
  cases g
  case crypto off lw d => exact placed_one (placed_suffix _ d tail _ rfl)
  case newToken lw d => exact placed_one (placed_suffix _ d tail _ rfl)
  case stream fin sid off lw d => exact placed_one (placed_suffix _ d tail _ rfl)
  case connectionClose e ft lw d => exact placed_one (placed_suffix _ d tail _ rfl)
  case datagram lw d => exact placed_one (placed_suffix _ d tail _ rfl)
  case pathChallenge d => exact placed_one (placed_suffix [26] d tail 1 (Nat.add_sub_cancel_left ..).symm)
  case pathResponse d => exact placed_one (placed_suffix [27] d tail 1 (Nat.add_sub_cancel_left ..).symm)
  case newConnectionId seq rpt cid tok =>
    have h4 : tok.length = 16 := hwf.2.2.2
    refine ⟨List.forall_mem_cons.mpr ⟨?_, List.forall_mem_cons.mpr ⟨?_, nofun⟩⟩, List.pairwise_pair.mpr ?_⟩
    · exact placed_mid _ cid tok tail _ (by rw [h4]; rfl)
    · exact placed_suffix _ tok tail _ (by rw [h4]; rfl)
    · show (QFrame.newConnectionId seq rpt cid tok).encode.length - 16 - cid.length + cid.length ≤ _ - 16
      have : 16 + cid.length ≤ (QFrame.newConnectionId seq rpt cid tok).encode.length := by
        show _ ≤ (_ ++ cid ++ tok).length
        simp only [List.length_append, h4]; omega
      omega
  all_goals exact ⟨nofun, List.Pairwise.nil⟩

theorem wfSeq_all (fs : List QFrame) (h : WellFormedSeq fs) : ∀ f ∈ fs, f.wf := by
  induction fs with
  | nil => simp
  | cons f rest ih =>
    obtain ⟨hf, _, hr⟩ := (wfSeq_cons f rest).mp h
    intro g hg
    rcases List.mem_cons.mp hg with rfl | hg
    · exact hf
    · exact ih hr g hg

theorem accounted (gs : List QFrame) (hwf : ∀ g ∈ gs, g.wf) :
    ((gs.map QFrame.toParsed).map Parsed.length).sum = (encodeAll gs).length ∧
    ∀ i (hi : i < (gs.map QFrame.toParsed).length),
      (∀ ad ∈ ((gs.map QFrame.toParsed)[i]).dataAt,
        ad.1 + ad.2.length ≤ ((gs.map QFrame.toParsed)[i]).length ∧
        Bytes.slice (encodeAll gs) (startOf (gs.map QFrame.toParsed) i + ad.1)
          (startOf (gs.map QFrame.toParsed) i + ad.1 + ad.2.length) = ad.2) ∧
      ((gs.map QFrame.toParsed)[i]).dataAt.Pairwise (fun x y => x.1 + x.2.length ≤ y.1) := by
  induction gs with
  | nil => simp [encodeAll]
  | cons g rest ih =>
    have hg := hwf g (by simp)
    obtain ⟨ih1, ih2⟩ := ih (fun x hx => hwf x (by simp [hx]))
    have hl := Props.C17.parsed_length_eq_encoded g hg
    refine ⟨?_, ?_⟩
    · simp only [List.map_cons, List.sum_cons, encodeAll_cons, List.length_append, hl, ih1]
    · intro i hi
      cases i with
      | zero =>
        obtain ⟨d1, d2⟩ := dataAt_encode g hg (encodeAll rest)
        simp only [List.map_cons, List.getElem_cons_zero, startOf_zero, Nat.zero_add, encodeAll_cons, hl]
        exact ⟨fun ad had => d1 ad had, d2⟩
      | succ j =>
        have hj : j < (rest.map QFrame.toParsed).length := by simpa using hi
        obtain ⟨e1, e2⟩ := ih2 j hj
        simp only [List.map_cons, List.getElem_cons_succ, startOf_succ, encodeAll_cons, hl]
        refine ⟨fun ad had => ⟨(e1 ad had).1, ?_⟩, e2⟩
        rw [Nat.add_assoc, Nat.add_assoc, ← Bytes.slice_drop, List.drop_left]
        exact (e1 ad had).2

/-- Frame extents `[startOf ps i, startOf ps (i+1))` of frames with positive length tile `[0, Σ length)`:
    every position lies in exactly one of them. -/
theorem unique_extent (ps : List Parsed) (hpos : ∀ f ∈ ps, 1 ≤ f.length) (k : Nat)
    (hk : k < (ps.map Parsed.length).sum) :
    ∃ i, (i < ps.length ∧ startOf ps i ≤ k ∧ k < startOf ps (i + 1)) ∧
      ∀ j, (j < ps.length ∧ startOf ps j ≤ k ∧ k < startOf ps (j + 1)) → j = i := by
  induction ps generalizing k with
  | nil => simp at hk
  | cons f rest ih =>
    have hf := hpos f (by simp)
    by_cases hlt : k < f.length
    · refine ⟨0, ⟨by simp, by simp [startOf_zero], by simpa [startOf_succ, startOf_zero] using hlt⟩, ?_⟩
      intro j ⟨_, hj1, _⟩
      cases j with
      | zero => rfl
      | succ j' => rw [startOf_succ] at hj1; omega
    · simp only [List.map_cons, List.sum_cons] at hk
      obtain ⟨i, ⟨hi1, hi2, hi3⟩, hu⟩ := ih (fun g hg => hpos g (by simp [hg])) (k - f.length) (by omega)
      refine ⟨i + 1, ⟨by simpa using hi1, by rw [startOf_succ]; omega, by rw [startOf_succ]; omega⟩, ?_⟩
      intro j ⟨hj0, hj1, hj2⟩
      cases j with
      | zero => simp only [startOf_succ, startOf_zero] at hj2; omega
      | succ j' =>
        rw [startOf_succ] at hj1 hj2
        have := hu j' ⟨by simpa using hj0, by omega, by omega⟩
        omega

end TLX.Lemmas.QuicFrameAcct
