/-
What the read loop of `run()` (`TLX/Ingest.lean`) gets from dpkt and from the checksum functions, for ARBITRARY buffers:
`dissect_l4_facts` (the addresses: `Lemmas.DissectAddr.dissect_addr_lengths`) and `ingest_verdict`. Declares
`Props.ExportInputs.kindOf`, with which the statements of that module are written. Core Lean only.
-/
import TLX.Ingest
import TLX.Lemmas.OnesComplement
namespace TLX.Lemmas.Ingest
open TLX TLX.Dissect
open TLX.Checksum (check L4)
open TLX.Spec.Rfc1071 (verdict)
open TLX.Lemmas.OnesComplement (toSpec check_valid check_ok_len)

/-- the transport the tool found in a dissected frame -/
def _root_.TLX.Props.ExportInputs.kindOf : Transport → Option Checksum.L4
  | .tcp .. => some .tcp
  | .udp .. => some .udp
  | .other => none

open TLX.Props.ExportInputs (kindOf)

theorem tcpOk_len (seg : Bytes) (u : Unit) (h : tcpOk seg = .ok u) : 20 ≤ seg.length := by
  unfold tcpOk at h
  split at h
  · cases h
  · omega

theorem view4_facts (d s b : Bytes) (k : Checksum.L4) (hk : kindOf (ip4View d s b).l4 = some k) :
    (ip4View d s b).p = k.num ∧ k.off + 2 ≤ (ip4View d s b).seg.length := by
  unfold ip4View at hk ⊢
  simp only at hk ⊢
  by_cases h0 : ip4Offset b ≠ 0
  · rw [if_pos h0] at hk; cases hk
  · rw [if_neg h0] at hk
    by_cases h6 : u8 b 9 = 6
    · rw [if_pos h6] at hk
      cases ht : tcpOk (ip4Payload b) with
      | error e => rw [ht] at hk; cases hk
      | ok u =>
        rw [ht] at hk
        simp only [Dissect.tcpView, kindOf, Option.some.injEq] at hk
        subst hk
        exact ⟨h6, by have := tcpOk_len _ u ht; simp only [L4.off]; omega⟩
    · rw [if_neg h6] at hk
      by_cases h17 : u8 b 9 = 17
      · rw [if_pos h17] at hk
        by_cases hl : (ip4Payload b).length < 8
        · rw [if_pos hl] at hk; cases hk
        · rw [if_neg hl] at hk
          simp only [udpView, kindOf, Option.some.injEq] at hk
          subst hk
          exact ⟨h17, by simp only [L4.off]; omega⟩
      · rw [if_neg h17] at hk; cases hk

theorem view6_facts (d s b : Bytes) (k : Checksum.L4) (hk : kindOf (ip6View d s b).l4 = some k) :
    (ip6View d s b).p = k.num ∧ k.off + 2 ≤ (ip6View d s b).seg.length := by
  unfold ip6View at hk ⊢
  cases hc : ip6Chain b with
  | error e => rw [hc] at hk; cases hk
  | ok ch =>
    rw [hc] at hk
    simp only at hk ⊢
    by_cases h0 : u8 b 6 = 44 ∧ ch.lastOff > 0
    · rw [if_pos h0] at hk; cases hk
    · rw [if_neg h0] at hk
      by_cases h6 : ch.nxt = some 6
      · rw [if_pos h6] at hk
        cases ht : tcpOk ch.rest with
        | error e => rw [ht] at hk; cases hk
        | ok u =>
          rw [ht] at hk
          simp only [Dissect.tcpView, kindOf, Option.some.injEq] at hk
          subst hk
          exact ⟨by rw [h6]; rfl, by have := tcpOk_len _ u ht; simp only [L4.off]; omega⟩
      · rw [if_neg h6] at hk
        by_cases h17 : ch.nxt = some 17
        · rw [if_pos h17] at hk
          by_cases hl : ch.rest.length < 8
          · rw [if_pos hl] at hk; cases hk
          · rw [if_neg hl] at hk
            simp only [udpView, kindOf, Option.some.injEq] at hk
            subst hk
            exact ⟨by rw [h17]; rfl, by simp only [L4.off]; omega⟩
        · rw [if_neg h17] at hk; cases hk

/-- dpkt makes a `TCP` / `UDP` instance only for protocol 6 / 17 and only of a buffer that holds the whole fixed header -/
theorem dissect_l4_facts (buf : Bytes) (x : IpPkt) (k : Checksum.L4) (h : dissect buf = .ok (.ip x))
    (hk : kindOf x.l4 = some k) : x.p = k.num ∧ k.off + 2 ≤ x.seg.length := by
  unfold dissect dissectD at h
  split at h
  · cases h
  · split at h
    · cases h; exact view4_facts _ _ _ k hk
    · cases h; exact view6_facts _ _ _ k hk
    · cases h

def payloadOf : Dissect.Transport → Bytes
  | .tcp _ _ _ _ pl => pl
  | .udp _ _ pl => pl
  | .other => []

/-- **the `-c` verdict of the read loop is the RFC 1071 receiver's**, in general: TCP and UDP, IPv4 and IPv6, no case
    excluded (`Props.ExportInputs.ingest_verdict_rfc1071`, `Lemmas.C01Full.verdict_tcp` and `verdict_segX` are instances). `hD`: the
    packet as dpkt delivers it (even addresses, whole fixed transport header, length within the IP field). -/
theorem ingest_verdict (x : IpPkt) (k : L4) (hk : kindOf x.l4 = some k) (hp : x.p = k.num)
    (hD : OnesComplement.Dissected k x.v6 x.src x.dst x.seg) :
    Ingest.verdict x = .ok (if payloadOf x.l4 = [] then none
      else some (decide (verdict (toSpec k) x.v6 x.src x.dst x.seg = .valid))) := by
  have hc := check_valid k x.v6 x.src x.dst x.seg hD
  rw [← hp] at hc
  unfold Ingest.verdict
  cases hx : x.l4 with
  | other => rw [hx] at hk; cases hk
  | tcp sp dp sq ak pl =>
    rw [hx] at hk; cases hk
    cases pl <;> simp [payloadOf, hc]
  | udp sp dp pl =>
    rw [hx] at hk; cases hk
    cases pl <;> simp [payloadOf, hc]

/-- the verdict is computed only for a segment whose length the pseudo-header holds (`check` raises otherwise) -/
theorem verdict_ok_len (x : IpPkt) (v : Option Bool) (hv : Ingest.verdict x = .ok v) (hne : payloadOf x.l4 ≠ []) :
    x.seg.length < (if x.v6 then 4294967296 else 65536) := by
  unfold Ingest.verdict at hv
  cases hx : x.l4 with
  | other => rw [hx] at hne; exact absurd rfl hne
  | tcp sp dp sq ak pl =>
    rw [hx] at hv hne
    have : pl.isEmpty = false := by cases pl <;> simp_all [payloadOf]
    simp only [this, Bool.false_eq_true, if_false] at hv
    split at hv
    · exact check_ok_len _ _ _ _ _ _ _ ‹_›
    · cases hv
  | udp sp dp pl =>
    rw [hx] at hv hne
    have : pl.isEmpty = false := by cases pl <;> simp_all [payloadOf]
    simp only [this, Bool.false_eq_true, if_false] at hv
    split at hv
    · exact check_ok_len _ _ _ _ _ _ _ ‹_›
    · cases hv

end TLX.Lemmas.Ingest
