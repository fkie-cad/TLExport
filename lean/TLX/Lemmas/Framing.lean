/-
Helper lemmas for C05/C07: the framing scans of `Reassembly` (`needData`, `records`) expressed through
one drop-based scan `scanD`, the facts about `scanD` on streams of whole records, and the link to the
independent `Spec.TlsFraming.frame`.  Core Lean only.
-/
import TLX.Reassembly
import TLX.Spec.TlsFraming
namespace TLX.Lemmas.Framing
open TLX TLX.Reassembly TLX.Spec.TlsFraming

/-- Length of the record that starts at the head of `r`, as the implementation reads it. -/
def recLen (r : Bytes) : Nat := Bytes.beNat ((r.drop 3).take 2) + 5

theorem recLen_ge (r : Bytes) : 5 ≤ recLen r := by unfold recLen; omega

theorem recLenAt_eq (d : Bytes) (i : Nat) : recLenAt d i = recLen (d.drop i) := by
  simp [recLenAt, recLen, Bytes.slice, List.drop_drop, Nat.add_comm]

/-- The whole buffer as a list of records, `none` if it does not end on a record boundary. -/
def scanD (d : Bytes) : Option (List Bytes) :=
  if d.length = 0 then some []
  else if d.length < 5 then none
  else if d.length < recLen d then none
  else (scanD (d.drop (recLen d))).map (d.take (recLen d) :: ·)
termination_by d.length
decreasing_by
  simp only [List.length_drop]
  have := recLen_ge d
  omega

/-- A whole record: header present and the length field says exactly its length. -/
def WF (r : Bytes) : Prop := 5 ≤ r.length ∧ recLen r = r.length

theorem recLen_append (r t : Bytes) (h : 5 ≤ r.length) : recLen (r ++ t) = recLen r := by
  unfold recLen
  rw [List.drop_append_of_le_length (by omega), List.take_append_of_le_length (by simp; omega)]

theorem recLen_eq_hdr (r : Bytes) (h : 5 ≤ r.length) : recLen r = 5 + hdrLen r := by
  match r, h with
  | a0 :: a1 :: a2 :: a3 :: a4 :: rest, _ =>
    show (0 * 256 + a3.toNat) * 256 + a4.toNat + 5 = 5 + (256 * a3.toNat + a4.toNat)
    omega

theorem scanD_nil : scanD [] = some [] := by rw [scanD]; rfl

theorem scanD_short (d : Bytes) (h0 : 0 < d.length) (h : d.length < recLen d) : scanD d = none := by
  rw [scanD, if_neg (by omega)]
  by_cases h5 : d.length < 5
  · rw [if_pos h5]
  · rw [if_neg h5, if_pos h]

theorem scanD_step (d : Bytes) (h : recLen d ≤ d.length) :
    scanD d = (scanD (d.drop (recLen d))).map (d.take (recLen d) :: ·) := by
  have := recLen_ge d
  rw [scanD, if_neg (by omega), if_neg (by omega), if_neg (by omega)]

theorem scanD_cons (r t : Bytes) (h : WF r) : scanD (r ++ t) = (scanD t).map (r :: ·) := by
  have e : recLen (r ++ t) = r.length := by rw [recLen_append r t h.1, h.2]
  rw [scanD_step _ (by rw [e, List.length_append]; omega), e, List.drop_left, List.take_left]

theorem scanD_prefix_none (r : Bytes) (h : WF r) (k : Nat) (hk0 : 0 < k) (hk : k < r.length) :
    scanD (r.take k) = none := by
  have hlen : (r.take k).length = k := by rw [List.length_take]; omega
  apply scanD_short _ (by omega)
  rw [hlen]
  by_cases hk5 : k < 5
  · have := recLen_ge (r.take k); omega
  · have := recLen_append (r.take k) (r.drop k) (by omega)
    rw [List.take_append_drop] at this
    rw [← this, h.2]; exact hk

theorem scanD_flatten (rs : List Bytes) (h : ∀ r ∈ rs, WF r) : scanD rs.flatten = some rs := by
  induction rs with
  | nil => exact scanD_nil
  | cons r rs ih =>
    rw [List.flatten_cons, scanD_cons r _ (h r (List.mem_cons_self ..)),
      ih (fun x hx => h x (List.mem_cons_of_mem _ hx))]
    rfl

/-- Framing is deterministic: whatever scans out of a prefix of the stream is a prefix of the records. -/
theorem scanD_take (rs : List Bytes) (h : ∀ r ∈ rs, WF r) (n : Nat) (recs : List Bytes)
    (hs : scanD (rs.flatten.take n) = some recs) :
    ∃ k, recs = rs.take k ∧ (rs.take k).flatten = rs.flatten.take n := by
  induction rs generalizing n recs with
  | nil =>
    simp only [List.flatten_nil, List.take_nil] at hs
    rw [scanD_nil] at hs
    exact ⟨0, by simpa using hs.symm, by simp⟩
  | cons r rs ih =>
    have hr := h r (List.mem_cons_self ..)
    have hrs : ∀ x ∈ rs, WF x := fun x hx => h x (List.mem_cons_of_mem _ hx)
    rw [List.flatten_cons] at hs ⊢
    by_cases hn0 : n = 0
    · subst hn0
      simp only [List.take_zero] at hs ⊢
      rw [scanD_nil] at hs
      exact ⟨0, by simpa using hs.symm, by simp⟩
    by_cases hn : n < r.length
    · rw [List.take_append_of_le_length (by omega)] at hs
      rw [scanD_prefix_none r hr n (by omega) hn] at hs
      exact absurd hs (by simp)
    · have hsplit : (r ++ rs.flatten).take n = r ++ rs.flatten.take (n - r.length) := by
        rw [List.take_append]
        rw [List.take_of_length_le (by omega)]
      rw [hsplit, scanD_cons r _ hr] at hs
      cases hsc : scanD (rs.flatten.take (n - r.length)) with
      | none => rw [hsc] at hs; exact absurd hs (by simp)
      | some recs' =>
        rw [hsc] at hs
        obtain ⟨k, hk1, hk2⟩ := ih hrs (n - r.length) recs' hsc
        refine ⟨k + 1, ?_, ?_⟩
        · simp only [Option.map_some, Option.some.injEq] at hs
          rw [← hs, hk1]; rfl
        · rw [List.take_succ_cons, List.flatten_cons, hk2, hsplit]

theorem wf_flatten_nil (rs : List Bytes) (h : ∀ r ∈ rs, WF r) (hf : rs.flatten = []) : rs = [] := by
  cases rs with
  | nil => rfl
  | cons r t =>
    have := (h r (List.mem_cons_self ..)).1
    rw [List.flatten_cons] at hf
    have : (r ++ t.flatten).length = 0 := by rw [hf]; rfl
    rw [List.length_append] at this
    omega

theorem needData_eq (d : Bytes) (i : Nat) (hi : i ≤ d.length) :
    needData d i = (scanD (d.drop i)).isNone := by
  fun_induction needData d i with
  | case1 => rw [List.drop_length, scanD_nil]; rfl
  | case2 i h0 h5 =>
    have := recLen_ge (d.drop i)
    rw [scanD_short _ (by rw [List.length_drop]; omega) (by rw [List.length_drop]; omega)]; rfl
  | case3 i h0 h5 ih =>
    rw [recLenAt_eq] at ih ⊢
    by_cases hl : i + recLen (d.drop i) ≤ d.length
    · rw [ih hl, scanD_step (d.drop i) (by rw [List.length_drop]; omega), List.drop_drop, Option.isNone_map]
    · -- the walk overshoots: the next call sees `index > total`
      have := recLen_ge (d.drop i)
      rw [needData, if_neg (by omega), if_pos (by omega),
        scanD_short _ (by rw [List.length_drop]; omega) (by rw [List.length_drop]; omega)]; rfl

theorem records_fst (d : Bytes) (rs : List (Nat × Nat × Nat)) (i : Nat) (hi : i ≤ d.length)
    (recs : List Bytes) (hs : scanD (d.drop i) = some recs) :
    (records d rs i).map (·.1) = recs := by
  fun_induction records d rs i generalizing recs with
  | case1 i h0 =>
    rw [List.drop_of_length_le h0, scanD_nil] at hs
    exact (Option.some.inj hs) ▸ rfl
  | case2 i h0 ih =>
    rw [recLenAt_eq] at ih ⊢
    by_cases hl : recLen (d.drop i) ≤ (d.drop i).length
    · rw [scanD_step _ hl, List.drop_drop] at hs
      obtain ⟨recs', hsc, rfl⟩ := Option.map_eq_some_iff.mp hs
      rw [List.length_drop] at hl
      rw [List.map_cons, ih (by omega) recs' hsc, Bytes.slice, Nat.add_sub_cancel_left]
    · rw [scanD_short _ (by rw [List.length_drop]; omega) (by omega)] at hs
      cases hs

theorem flush_fst (buf : List Seg) :
    (flush buf).map (·.map (·.1)) = scanD (bufData buf) := by
  unfold flush
  have hn := needData_eq (bufData buf) 0 (Nat.zero_le _)
  rw [List.drop_zero] at hn
  cases hsc : scanD (bufData buf) with
  | none => rw [hsc] at hn; simp [hn]
  | some recs =>
    rw [hsc] at hn
    have := records_fst (bufData buf) (ranges buf 0) 0 (Nat.zero_le _) recs (by simpa using hsc)
    simp [hn, this]

theorem scanD_some_nil (d : Bytes) (h : scanD d = some []) : d = [] := by
  false_or_by_contra; rename_i hne
  by_cases hl : recLen d ≤ d.length
  · rw [scanD_step d hl] at h
    obtain ⟨_, _, h'⟩ := Option.map_eq_some_iff.mp h
    cases h'
  · rw [scanD_short d (List.length_pos_iff.mpr hne) (by omega)] at h
    cases h

theorem flush_nil {buf : List Seg} (h : flush buf = some []) : bufData buf = [] := by
  have h1 := flush_fst buf
  rw [h] at h1
  exact scanD_some_nil _ h1.symm

theorem frame_of_scanD (b : Bytes) (recs : List Bytes) (hs : scanD b = some recs) : frame b = recs := by
  fun_induction frame b generalizing recs with
  | case1 b h5 =>
    by_cases h0 : b.length = 0
    · rw [List.eq_nil_of_length_eq_zero h0, scanD_nil] at hs; exact Option.some.inj hs
    · have := recLen_ge b
      rw [scanD_short b (by omega) (by omega)] at hs; cases hs
  | case2 b h5 hl =>
    rw [← recLen_eq_hdr b (by omega)] at hl
    rw [scanD_short b (by omega) hl] at hs; cases hs
  | case3 b h5 hl ih =>
    rw [← recLen_eq_hdr b (by omega)] at hl ih ⊢
    rw [scanD_step b (by omega)] at hs
    obtain ⟨recs', hsc, rfl⟩ := Option.map_eq_some_iff.mp hs
    rw [ih recs' hsc]

theorem frame_wf (b : Bytes) : ∀ r ∈ frame b, WF r := by
  fun_induction frame b with
  | case1 | case2 => exact fun _ h => nomatch h
  | case3 b h5 hl ih =>
    intro r hr
    rcases List.mem_cons.mp hr with rfl | hr
    · have he := recLen_eq_hdr b (by omega)
      have hlen : (b.take (5 + hdrLen b)).length = 5 + hdrLen b := by rw [List.length_take]; omega
      have := recLen_append (b.take (5 + hdrLen b)) (b.drop (5 + hdrLen b)) (by omega)
      rw [List.take_append_drop] at this
      exact ⟨by omega, by rw [← this, he, hlen]⟩
    · exact ih r hr
theorem scanD_of_whole (b : Bytes) (h : WholeRecords b) : scanD b = some (frame b) := by
  have := scanD_flatten (frame b) (frame_wf b)
  rw [h] at this
  exact this

end TLX.Lemmas.Framing
