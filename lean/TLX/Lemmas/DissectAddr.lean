/-
What dpkt hands the tool for an IP packet, whatever the frame: 6-byte MAC addresses and 4- / 16-byte IP addresses matching
the IP version (`dissect_addr_lengths`). Needed for `OutBytes.Frame.WF` of every exported frame (`Lemmas/Export.lean`) and by `Props.ExportInputs.ingest_verdict_rfc1071`.
Core Lean only.

The parser is a family of `Except` programs; what is proved about each is a postcondition (`TLX.Post`), read off the shape
of the program.
-/
import TLX.Dissect
import TLX.Lemmas.Post
namespace TLX.Lemmas.DissectAddr
open TLX TLX.Dissect

/-- a `do` block of the parser that ends in `pure {}` on every path: unfold, split every branch, read the result off (no
    proof calls it: they go through `TLX.Post`) -/
macro "res_tac" h:ident : tactic =>
  `(tactic| (simp only [bind, Except.bind, pure, Except.pure] at $h:ident
             repeat' split at $h:ident
             all_goals first | (cases $h:ident; rfl) | cases $h:ident))

/-- an `IP` / `IP6` instance was parsed from at least a fixed header -/
def DataOk : EData → Prop
  | .ip4 b => 20 ≤ b.length
  | .ip6 b => 40 ≤ b.length
  | _ => True

/-- What is kept of an `Ethernet` object. The MACs are claimed only when `data` is not `.obj`: the result `{}` of every
    other class has empty MACs, and nobody reads them unless `data` is an IP instance (or raw bytes that the second
    `_unpack_data` pass may still turn into one). -/
def EInv (r : ERes) : Prop :=
  (r.data = .obj ∨ (r.dst.length = 6 ∧ r.src.length = 6)) ∧ DataOk r.data

theorem einv_default : EInv {} := ⟨.inl rfl, trivial⟩

/-- what a constructor call of class `l` on `buf` that returns `r` establishes: the invariant of `r`, and for `IP` / `IP6`
    that `buf` held a whole fixed header -/
def Claim (l : Layer) (buf : Bytes) (r : ERes) : Prop :=
  EInv r ∧ (l = .ip4 → 20 ≤ buf.length) ∧ (l = .ip6 → 40 ≤ buf.length)

/-- the induction hypothesis on the recursive calls -/
def RecOk (rec : Rec) : Prop := ∀ d l buf, Post (Claim l buf) (rec d l buf)

variable {rec : Rec}

theorem guarded_true {r : Except DErr ERes} (h : guarded r = .ok true) : ∃ x, r = .ok x := by
  unfold guarded at h
  split at h
  · exact ⟨_, rfl⟩
  · split at h <;> cases h

theorem unpackData_inv (hrec : RecOk rec) (d : Dep) (nt : Option Nat) (ty : Nat) (buf : Bytes) :
    Post (fun x => DataOk x.2) (unpackData rec d nt ty buf) := by
  unfold unpackData
  refine .bind fun ⟨nt1, buf1⟩ _ => ?_
  dsimp only
  split
  · exact .pure trivial
  · rename_i l _
    refine .bind fun made hm => .ite (fun ht => .pure ?_) fun _ => .pure trivial
    obtain ⟨x, hx⟩ := guarded_true (ht ▸ hm)
    have hc := hrec _ _ _ _ hx
    show DataOk (if l = .ip4 then .ip4 buf1 else if l = .ip6 then .ip6 buf1 else .obj)
    split
    · exact hc.2.1 ‹_›
    · split
      · exact hc.2.2 ‹_›
      · trivial

theorem mac_len (buf : Bytes) (h : ¬ buf.length < 14) : (buf.take 6).length = 6 ∧ (buf.slice 6 12).length = 6 := by
  simp only [Bytes.slice, List.length_take, List.length_drop]; omega

theorem ethUnpack_inv (hrec : RecOk rec) (u : Dep) (top : Bool) (buf : Bytes) : Post EInv (ethUnpack rec u top buf) := by
  unfold ethUnpack
  refine .bind fun _ _ => .ite (fun _ => .error _) fun hlen => ?_
  have hm := mac_len buf hlen
  -- after `_unpack_data` the MACs are those of this header
  have unpacked : ∀ nt, Post EInv (do
      let (nt, dt) ← unpackData rec (u + 1) nt (u16 buf 12) (buf.drop 14)
      pure ⟨buf.take 6, buf.slice 6 12, u16 buf 12, nt, dt⟩) :=
    fun nt => .bind fun ⟨_, _⟩ h => .pure ⟨.inr hm, unpackData_inv hrec _ _ _ _ _ h⟩
  have obj : ∀ {α} (x : Except DErr α) (ty : Nat),
      Post EInv (do let _ ← x; pure ⟨buf.take 6, buf.slice 6 12, ty, none, .obj⟩) :=
    fun _ _ => .bind fun _ _ => .pure ⟨.inl rfl, trivial⟩
  exact .ite (fun _ => unpacked _) fun _ =>
    .ite (fun _ => .bind fun _ _ => .ite (fun _ => .error _) fun _ => (hrec _ _ _).mono fun _ h => h.1) fun _ =>
    .ite (fun _ => obj _ _) fun _ => .ite (fun _ => unpacked _) fun _ => obj _ _

theorem secondPass_inv (hrec : RecOk rec) (d : Dep) (r : ERes) (hr : EInv r) : Post EInv (secondPass rec d r) := by
  unfold secondPass
  split
  · rename_i b hb
    refine .ite (fun _ => .pure hr) fun _ => .bind fun ⟨_, _⟩ h => .pure ⟨?_, unpackData_inv hrec _ _ _ _ _ h⟩
    exact hr.1.imp (fun ho => by rw [hb] at ho; cases ho) id
  · exact .pure hr

theorem ethLayer_inv (hrec : RecOk rec) (d : Dep) (buf : Bytes) : Post EInv (ethLayer rec d buf) :=
  .bind fun _ h0 => secondPass_inv hrec _ _ (ethUnpack_inv hrec _ _ _ _ h0)

theorem body_ok (hrec : RecOk rec) (d : Dep) (l : Layer) (buf : Bytes) : Post (Claim l buf) (body rec d l buf) := by
  -- every class but `Ethernet` leaves `{}`; `IP` / `IP6` only after the length test
  have dflt (h4 : l = .ip4 → 20 ≤ buf.length) (h6 : l = .ip6 → 40 ≤ buf.length) : Claim l buf {} :=
    ⟨einv_default, h4, h6⟩
  cases l with
  | eth => exact (ethLayer_inv hrec d buf).mono fun _ h => ⟨h, nofun, nofun⟩
  | ethInner => exact (ethUnpack_inv hrec _ _ _).mono fun _ h => ⟨h, nofun, nofun⟩
  | ip4 =>
    refine .bind fun _ _ => .ite (fun _ => .error _) fun h => .ite (fun _ => .error _) fun _ => ?_
    have := dflt (fun _ => by omega) nofun
    exact .ite (fun _ => .bind fun _ _ => .pure this) fun _ => .pure this
  | ip6 =>
    refine .bind fun _ _ => .ite (fun _ => .error _) fun h => ?_
    have := dflt nofun (fun _ => by omega)
    -- `if isExt … then need …`, then the same continuation on both sides
    split
    case' isTrue => refine .bind fun _ _ => ?_
    all_goals
      refine .bind fun ch _ => .ite (fun _ => .error _) fun _ => .ite (fun _ => .pure this) fun _ => ?_
      split
      · exact .pure this
      · exact .bind fun _ _ => .pure this
  | _ =>
    have := dflt nofun nofun
    simp only [body, llcLayer, greLayer, ahLayer, icmpLayer, icmp6Layer, pppLayer, pppoeLayer, cdpLayer,
      Post.bind_iff, Post.ite_iff, Post.error_iff, Post.pure_iff, this, implies_true, and_self]

theorem parse_ok (fuel : Nat) : RecOk (parse fuel) := by
  induction fuel with
  | zero => exact fun _ _ _ => .error _
  | succ n ih =>
    intro d l buf
    unfold parse
    split
    · exact .error _
    · exact body_ok ih _ l buf

/-- **What dpkt hands the tool for an IP packet**: whenever `Packet(buf, ts)` finds an `IP` / `IP6` instance in
    `ethernet.data`, the MAC addresses are 6 bytes each and the IP addresses are 4 bytes (IPv4) or 16 bytes (IPv6) each —
    for every frame, through every nesting dpkt follows (VLAN, MPLS, ISL, the second `_unpack_data` pass). -/
theorem dissect_addr_lengths (base : Dep) (buf : Bytes) (x : IpPkt) (h : dissectD base buf = .ok (.ip x)) :
    x.srcMac.length = 6 ∧ x.dstMac.length = 6 ∧
      x.src.length = (if x.v6 then 16 else 4) ∧ x.dst.length = (if x.v6 then 16 else 4) := by
  unfold dissectD at h
  split at h
  · cases h
  · rename_i r hr
    obtain ⟨hmac, hl⟩ := (parse_ok _ _ _ _ _ hr).1
    split at h
    · rename_i b hb
      cases h
      rw [hb] at hl hmac
      have hl : 20 ≤ b.length := hl
      obtain ⟨hd, hs⟩ := hmac.resolve_left nofun
      simp only [ip4View, Bool.false_eq_true, if_false, Bytes.slice, List.length_take, List.length_drop]
      exact ⟨hs, hd, by omega, by omega⟩
    · rename_i b hb
      cases h
      rw [hb] at hl hmac
      have hl : 40 ≤ b.length := hl
      obtain ⟨hd, hs⟩ := hmac.resolve_left nofun
      unfold ip6View
      split <;> simp only [if_true, Bytes.slice, List.length_take, List.length_drop] <;>
        exact ⟨hs, hd, by omega, by omega⟩
    · cases h
end TLX.Lemmas.DissectAddr
