/-
`QuicPipeline.quicMachine` field by field: what `new`, `feed`, the two CID projections and `out` of the main loop's QUIC machine
are, so that no proof has to unfold the record. Imports the composed model only.
-/
import TLX.QuicPipeline
namespace TLX.QuicPipeline
open TLX TLX.Quic TLX.MainLoop

variable (mask : Dissect.MaskFn) (H : Crypto.Prims) (Pc : Cipher.Prims) (info : Nat → Pipeline.Info)

theorem quicMachine_new (o : Opts) (p : MainLoop.Pkt) :
    (quicMachine mask H Pc info).new o p =
      { opts := o, server := (rolesOf o.ports p).1, client := (rolesOf o.ports p).2,
        serverMac := if o.ports.contains (p.src.port : Int) then (info p.tag).srcMac else (info p.tag).dstMac,
        clientMac := if o.ports.contains (p.src.port : Int) then (info p.tag).dstMac else (info p.tag).srcMac,
        ipv6 := (info p.tag).ipv6, st := Quic.Session.St.init (params H Pc []) } := rfl

theorem quicMachine_feed_eq (c : QConn) (kl : List Keylog.Key) (p : MainLoop.Pkt) (dcid : Bytes)
    (ver : Version) :
    (quicMachine mask H Pc info).feed c kl p dcid ver =
      match c.raised with
      | some _ => c
      | none =>
        { c with
          st := (handleDatagram mask H (params H Pc kl) c.st (p.src == c.client) dcid (sver ver) (info p.tag).ts p.payload).1,
          raised := (handleDatagram mask H (params H Pc kl) c.st (p.src == c.client) dcid (sver ver) (info p.tag).ts
            p.payload).2 } := rfl

theorem quicMachine_feed (c : QConn) (kl : List Keylog.Key) (p : MainLoop.Pkt) (dcid : Bytes)
    (ver : Version) (hr : c.raised = none) :
    (quicMachine mask H Pc info).feed c kl p dcid ver =
      { c with
        st := (handleDatagram mask H (params H Pc kl) c.st (p.src == c.client) dcid (sver ver) (info p.tag).ts p.payload).1,
        raised := (handleDatagram mask H (params H Pc kl) c.st (p.src == c.client) dcid (sver ver) (info p.tag).ts
          p.payload).2 } := by
  rw [quicMachine_feed_eq, hr]

theorem quicMachine_clientCids (c : QConn) :
    (quicMachine mask H Pc info).clientCids c = c.st.clientCids := rfl

theorem quicMachine_serverCids (c : QConn) :
    (quicMachine mask H Pc info).serverCids c = c.st.serverCids := rfl

theorem quicMachine_out (md : Bool) (c : QConn) :
    (quicMachine mask H Pc info).out md c = connOut md c := rfl

end TLX.QuicPipeline
