/-
The chain of IPv6 extension headers that `Props.C12Dissect.dissect_build_v6` excludes (dpkt reads `frag_off` from the LAST header
and raises AttributeError when the first is a fragment header and the last is not), in terms of the header list: `fragFirst`,
`fragLast`, `chain_cond`. A module of its own: `Lemmas.C01Full.fragFirst` / `fragLast` (named after the file layer whose
statements are written with them) must not share compiler-generated case auxiliaries with `Lemmas.Dissect.isFrag`. Core Lean only.
-/
import TLX.Lemmas.Dissect
namespace TLX.Lemmas.Dissect
open TLX TLX.Dissect TLX.Spec.FrameBuild

/-- the chain starts with a fragment header -/
def _root_.TLX.Lemmas.C01Full.fragFirst : List Ext → Bool
  | .fragment .. :: _ => true
  | _ => false

/-- the chain ends with a fragment header -/
def _root_.TLX.Lemmas.C01Full.fragLast (es : List Ext) : Bool :=
  match es.getLast? with
  | some (.fragment ..) => true
  | _ => false

open TLX.Lemmas.C01Full (fragFirst fragLast)

theorem lastFrag_eq (es : List Ext) (b : Bool) :
    lastFrag es b = match es.getLast? with
      | some e => isFrag e
      | none => b := by
  induction es generalizing b with
  | nil => rfl
  | cons e es ih =>
    simp only [lastFrag]
    rw [ih]
    cases es with
    | nil => rfl
    | cons e' es' =>
      rw [List.getLast?_cons_cons]
      cases hl : (e' :: es').getLast? with
      | none => simp at hl
      | some x => rfl

theorem chain_cond (es : List Ext) (p : Nat) (up : Bytes) (hp : p ≠ 44)
    (h : ¬ (fragFirst es = true ∧ fragLast es = false)) :
    ¬ ((encChain es p up).1 = 44 ∧ lastFrag es false = false) := by
  rintro ⟨h1, h2⟩
  apply h
  constructor
  · cases es with
    | nil => simp [encChain] at h1; exact absurd h1 hp
    | cons e es => cases e <;> simp [encChain, Ext.proto] at h1 <;> rfl
  · rw [lastFrag_eq] at h2
    unfold fragLast
    cases hl : es.getLast? with
    | none => rfl
    | some e =>
      rw [hl] at h2
      cases e <;> simp [isFrag] at h2 <;> rfl

end TLX.Lemmas.Dissect
