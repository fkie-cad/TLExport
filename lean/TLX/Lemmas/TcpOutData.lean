/-
`OutputBuilder.build` (`TcpOut.build`) in closed form. The model keeps the three nested loops of the source (records → parts →
two frames per part); nothing proved about the output depends on the nesting: the body of the conversation is the run of ONE
online machine (`segMachine`, a `TLX.Machine`) over the flat list of data segments `recs.flatMap recData`, and `build` is the
handshake in front of it (`bodyFrames_eq`, `build_some`). Declares into the model's namespace `TLX.TcpOut`. Core Lean only.
-/
import TLX.Generic
import TLX.TcpOut
namespace TLX.TcpOut
open TLX

/-- (direction, time, payload) of a PSH|ACK data segment -/
def Frame.data? (f : Frame) : Option (Bool × Nat × Bytes) :=
  if f.flags = 0x18 then some (f.fromServer, f.ts, f.payload) else none

def dataFrames (fs : List Frame) : List (Bool × Nat × Bytes) := fs.filterMap Frame.data?

/-- the data segments one record contributes: part `j` at the time of carrier `j`, in the record's direction -/
def recData (r : Rec) : List (Bool × Nat × Bytes) :=
  match parts r.bytes r.ts.length with
  | none => []
  | some ps => (ps.zip r.ts).map fun (p, t) => (r.fromServer, t, p)

theorem dataFrames_append (a b : List Frame) : dataFrames (a ++ b) = dataFrames a ++ dataFrames b := by
  simp [dataFrames, List.filterMap_append]

/-- state: the running sequence numbers; input: one data segment; output: its data frame and the receiver's ACK -/
def segMachine : Machine Seqs (Bool × Nat × Bytes) Frame := ⟨fun q s => partFrames q s.1 s.2.2 s.2.1⟩

def segFrames (q : Seqs) (ss : List (Bool × Nat × Bytes)) : Seqs × List Frame := segMachine.run q ss

theorem segFrames_nil (q : Seqs) : segFrames q [] = (q, []) := rfl

theorem segFrames_cons (q : Seqs) (s : Bool × Nat × Bytes) (ss : List (Bool × Nat × Bytes)) :
    segFrames q (s :: ss) =
      ((segFrames (partFrames q s.1 s.2.2 s.2.1).1 ss).1,
        (partFrames q s.1 s.2.2 s.2.1).2 ++ (segFrames (partFrames q s.1 s.2.2 s.2.1).1 ss).2) := rfl

theorem segFrames_append (q : Seqs) (a b : List (Bool × Nat × Bytes)) :
    segFrames q (a ++ b) =
      ((segFrames (segFrames q a).1 b).1, (segFrames q a).2 ++ (segFrames (segFrames q a).1 b).2) := by
  induction a generalizing q with
  | nil => rfl
  | cons s ss ih => simp only [List.cons_append, segFrames_cons, ih, List.append_assoc]

theorem partsFrames_eq (q : Seqs) (srv : Bool) (ps : List Bytes) (ts : List Nat) :
    partsFrames q srv ps ts = segFrames q ((ps.zip ts).map fun (p, t) => (srv, t, p)) := by
  induction ps generalizing q ts with
  | nil => rfl
  | cons p ps ih =>
    cases ts with
    | nil => rfl
    | cons t tl => simp only [partsFrames, ih, List.zip_cons_cons, List.map_cons, segFrames_cons]

theorem parts_eq_none (d : Bytes) (k : Nat) : parts d k = none ↔ k = 0 := by
  unfold parts; split <;> simp [*]

theorem recFrames_eq (q : Seqs) (r : Rec) :
    recFrames q r = if r.ts = [] then none else some (segFrames q (recData r)) := by
  unfold recFrames recData
  cases hp : parts r.bytes r.ts.length with
  | none => rw [if_pos (List.eq_nil_of_length_eq_zero ((parts_eq_none _ _).mp hp))]; rfl
  | some ps =>
    have : r.ts ≠ [] := fun h => by rw [h] at hp; cases ((parts_eq_none r.bytes 0).mpr rfl).symm.trans hp
    rw [if_neg this, Option.map_some, partsFrames_eq]

/-- **The builder's loop in closed form**: it fails exactly on a record without carriers, and otherwise its frames are
    those of the records' data segments in order. -/
theorem bodyFrames_eq (q : Seqs) (recs : List Rec) :
    bodyFrames q recs = if ∀ r ∈ recs, r.ts ≠ [] then some (segFrames q (recs.flatMap recData)) else none := by
  induction recs generalizing q with
  | nil => simp [bodyFrames, segFrames_nil]
  | cons r rs ih =>
    rw [bodyFrames, recFrames_eq]
    by_cases hr : r.ts = []
    · rw [if_pos hr, if_neg fun h => h r List.mem_cons_self hr]; rfl
    · rw [if_neg hr, Option.bind_some]
      -- the model's `match` on the pair, in projections
      show (bodyFrames (segFrames q (recData r)).1 rs).map (fun x => (x.1, (segFrames q (recData r)).2 ++ x.2)) = _
      rw [ih]
      by_cases hrs : ∀ r ∈ rs, r.ts ≠ []
      · rw [if_pos hrs, if_pos (List.forall_mem_cons (p := fun r : Rec => r.ts ≠ []) |>.mpr ⟨hr, hrs⟩), List.flatMap_cons,
          segFrames_append]
        rfl
      · rw [if_neg hrs, if_neg fun h => hrs (List.forall_mem_cons.mp h).2]; rfl

/-- `build` returns: nothing for no records, else the handshake at the first carrier time and the data segments -/
theorem build_some {recs : List Rec} {fs : List Frame} (h : build recs = some fs) :
    (recs = [] ∧ fs = []) ∨ ∃ t0, (recs.head?.bind (·.ts.head?)) = some t0 ∧ (∀ r ∈ recs, r.ts ≠ []) ∧
      fs = handshake t0 ++ (segFrames (1, 1) (recs.flatMap recData)).2 := by
  unfold build at h
  cases recs with
  | nil => exact .inl ⟨rfl, (Option.some.inj h).symm⟩
  | cons r rs =>
    simp only at h
    cases hts : r.ts with
    | nil => rw [hts] at h; cases h
    | cons t0 tl =>
      simp only [hts, bodyFrames_eq] at h
      split at h
      · exact .inr ⟨t0, by simp [hts], ‹_›, (Option.some.inj h).symm⟩
      · cases h

def sentBytes (d : Bool) (ss : List (Bool × Nat × Bytes)) : Bytes := (ss.filter (·.1 == d)).flatMap (·.2.2)

theorem sentBytes_cons (d : Bool) (s : Bool × Nat × Bytes) (ss : List (Bool × Nat × Bytes)) :
    sentBytes d (s :: ss) = (if s.1 = d then s.2.2 else []) ++ sentBytes d ss := by
  unfold sentBytes
  by_cases h : s.1 = d <;> simp [h]

theorem sentBytes_append (d : Bool) (a b : List (Bool × Nat × Bytes)) :
    sentBytes d (a ++ b) = sentBytes d a ++ sentBytes d b := by
  simp [sentBytes]

theorem segFrames_data (q : Seqs) (ss : List (Bool × Nat × Bytes)) : dataFrames (segFrames q ss).2 = ss := by
  induction ss generalizing q with
  | nil => rfl
  | cons s ss ih =>
    obtain ⟨srv, t, p⟩ := s
    rw [segFrames_cons, dataFrames_append, ih]
    cases srv <;> simp [partFrames, dataFrames, Frame.data?]

end TLX.TcpOut
