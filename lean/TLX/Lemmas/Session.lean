/-
The session state machine (`TLX/Session.lean`) step by step: total, append-only, and commuting with an observer's view
of the traffic (`St.view`; `strip` and `SessionCarriers.erase` are instances). The file DEFINES what its statements
need: `Core`, `Appends`, `Out.map`, `St.strip`, `St.view`, the frames `FlagsOf` / `HelloOf`, and `appRecord` /
`alertRecord` / `ccsRecord` — the non-handshake branches of `handleRecordRaw` under names, so that `handleRecordRaw_eq`
is one `if` on the record type.
-/
import TLX.Session
import TLX.Generic
namespace TLX.Session
open TLX

variable {δ : Type}

/-- everything but `application_traffic` -/
structure Core (δ : Type) where
  canDecrypt : Bool
  chSeen : Bool
  ver : Option Ver
  srvCC : Bool
  cliCC : Bool
  dec : Option δ
  cr : Option Bytes
  hsBufC : Bytes
  hsBufS : Bytes

def St.core (s : St δ) : Core δ := ⟨s.canDecrypt, s.chSeen, s.ver, s.srvCC, s.cliCC, s.dec, s.cr, s.hsBufC, s.hsBufS⟩

theorem St.ext' (a b : St δ) (hc : a.core = b.core) (ht : a.traffic = b.traffic) : a = b := by
  cases a; cases b
  simp only [St.core, Core.mk.injEq] at hc
  simp_all

/-- what the export keeps when metadata is off: the application-data entries -/
def St.strip (s : St δ) : St δ := { s with traffic := s.traffic.filter (·.isApp) }

@[simp] theorem strip_core (s : St δ) : s.strip.core = s.core := rfl
@[simp] theorem strip_canDecrypt (s : St δ) : s.strip.canDecrypt = s.canDecrypt := rfl
@[simp] theorem strip_chSeen (s : St δ) : s.strip.chSeen = s.chSeen := rfl
@[simp] theorem strip_ver (s : St δ) : s.strip.ver = s.ver := rfl
@[simp] theorem strip_srvCC (s : St δ) : s.strip.srvCC = s.srvCC := rfl
@[simp] theorem strip_cliCC (s : St δ) : s.strip.cliCC = s.cliCC := rfl
@[simp] theorem strip_dec (s : St δ) : s.strip.dec = s.dec := rfl
@[simp] theorem strip_cr (s : St δ) : s.strip.cr = s.cr := rfl
@[simp] theorem strip_hsBufC (s : St δ) : s.strip.hsBufC = s.hsBufC := rfl
@[simp] theorem strip_hsBufS (s : St δ) : s.strip.hsBufS = s.hsBufS := rfl
@[simp] theorem strip_traffic (s : St δ) : s.strip.traffic = s.traffic.filter (·.isApp) := rfl

theorem hsBuf_setHsBuf (s : St δ) (srv : Bool) (b : Bytes) (d : Bool) :
    (s.setHsBuf srv b).hsBuf d = if d = srv then b else s.hsBuf d := by
  cases d <;> cases srv <;> rfl

theorem setHsBuf_traffic (s : St δ) (srv : Bool) (b : Bytes) : (s.setHsBuf srv b).traffic = s.traffic := by
  cases srv <;> rfl

/-- from `s` to `s'` the traffic only grows, by entries of record `r` and direction `srv` -/
def Appends (r : Rec) (srv : Bool) (s s' : St δ) : Prop :=
  ∃ l : List Entry, s'.traffic = s.traffic ++ l ∧ ∀ e ∈ l, e.record = r ∧ e.fromServer = srv

theorem Appends.of_traffic_eq (r : Rec) (srv : Bool) (s s' : St δ) (h : s'.traffic = s.traffic) :
    Appends r srv s s' := ⟨[], by simp [h], by simp⟩

theorem Appends.refl (r : Rec) (srv : Bool) (s : St δ) : Appends r srv s s := Appends.of_traffic_eq r srv s s rfl

theorem Appends.trans {r : Rec} {srv : Bool} {a b c : St δ} (h1 : Appends r srv a b) (h2 : Appends r srv b c) :
    Appends r srv a c := by
  obtain ⟨l1, e1, p1⟩ := h1
  obtain ⟨l2, e2, p2⟩ := h2
  refine ⟨l1 ++ l2, by rw [e2, e1, List.append_assoc], ?_⟩
  intro e he
  rcases List.mem_append.mp he with h | h
  · exact p1 e h
  · exact p2 e h

theorem Appends.push (r : Rec) (srv : Bool) (s : St δ) (d : Option Bytes) (a : Bool) :
    Appends r srv s (s.push ⟨d, r, srv, a⟩) := ⟨[⟨d, r, srv, a⟩], rfl, by simp⟩

theorem Rec.fields_of_raw {r r' : Rec} (h : r'.raw = r.raw) : r'.typ = r.typ ∧ r'.ver = r.ver ∧ r'.body = r.body := by
  simp only [Rec.typ, Rec.ver, Rec.body, h, and_self]

def Out.map {σ τ : Type} (f : σ → τ) : Out σ → Out τ
  | .ok s => .ok (f s)
  | .raised s => .raised (f s)

@[simp] theorem tryExcept_isOk {σ : Type} (x : Out σ) (h : σ → σ) : (tryExcept x h).isOk = true := by
  cases x <;> rfl

@[simp] theorem tryExcept_id_st {σ : Type} (x : Out σ) : (tryExcept x id).st = x.st := by
  cases x <;> rfl

theorem tryExcept_map {σ τ : Type} (f : σ → τ) (x : Out σ) (h : σ → σ) (h' : τ → τ) (hh : ∀ s, f (h s) = h' (f s)) :
    (tryExcept x h).map f = tryExcept (x.map f) h' := by
  cases x <;> simp [tryExcept, Out.map, hh]

@[simp] theorem Out.st_ok {σ : Type} (x : σ) : (Out.ok x).st = x := rfl

theorem Out.map_st {σ τ : Type} (f : σ → τ) (x : Out σ) : (x.map f).st = f x.st := by cases x <;> rfl

theorem Out.eq_ok {σ : Type} {x : Out σ} (h : x.isOk = true) : x = .ok x.st := by
  cases x
  · rfl
  · cases h

theorem pushMeta_appends (m : Bool) (s : St δ) (r : Rec) (srv : Bool) : Appends r srv s (pushMeta m s r srv) := by
  unfold pushMeta
  split
  · exact Appends.push ..
  · exact Appends.refl ..

@[simp] theorem pushMeta_core (m : Bool) (s : St δ) (r : Rec) (srv : Bool) : (pushMeta m s r srv).core = s.core := by
  unfold pushMeta; split <;> rfl

def flagSet (s a : St δ) : St δ :=
  { s with canDecrypt := a.canDecrypt, chSeen := a.chSeen, ver := a.ver, srvCC := a.srvCC, cliCC := a.cliCC }

/-- `a` is `s` but for the flags and the version (every other field is read off by `congrArg`) -/
def FlagsOf (s a : St δ) : Prop := a = flagSet s a

theorem FlagsOf.trans {s a b : St δ} (h1 : FlagsOf s a) (h2 : FlagsOf a b) : FlagsOf s b := by
  have h : flagSet a b = flagSet (flagSet s a) b := congrArg (flagSet · b) h1
  exact Eq.trans h2 h

theorem FlagsOf.traffic {s a : St δ} (h : FlagsOf s a) : a.traffic = s.traffic := (congrArg St.traffic h :)

theorem FlagsOf.dec {s a : St δ} (h : FlagsOf s a) : a.dec = s.dec := (congrArg St.dec h :)

theorem latch_flags (s : St δ) : FlagsOf s (latch s) := ite_rec (FlagsOf s) rfl rfl

theorem chooseVersion_flags (s : St δ) (recVer helloVer : Nat) (is13 : Bool) :
    FlagsOf s (chooseVersion s recVer helloVer is13) :=
  ite_rec (FlagsOf s) rfl (ite_rec (FlagsOf s) rfl (ite_rec (FlagsOf s) rfl
    (ite_rec (FlagsOf s) (ite_rec (FlagsOf s) rfl rfl) rfl)))

def helloSet (s a : St δ) : St δ := { s with canDecrypt := a.canDecrypt, ver := a.ver, dec := a.dec }

/-- `a` is `s` but for `can_decrypt`, the version and the decryptor: all that `handle_tls_server_hello` writes -/
def HelloOf (s a : St δ) : Prop := a = helloSet s a

theorem HelloOf.trans {s a b : St δ} (h1 : HelloOf s a) (h2 : HelloOf a b) : HelloOf s b := by
  have h : helloSet a b = helloSet (helloSet s a) b := congrArg (helloSet · b) h1
  exact Eq.trans h2 h

theorem HelloOf.traffic {s a : St δ} (h : HelloOf s a) : a.traffic = s.traffic := (congrArg St.traffic h :)

theorem latch_hello (s : St δ) : HelloOf s (latch s) := ite_rec (HelloOf s) rfl rfl

theorem chooseVersion_hello (s : St δ) (recVer helloVer : Nat) (is13 : Bool) :
    HelloOf s (chooseVersion s recVer helloVer is13) :=
  ite_rec (HelloOf s) rfl (ite_rec (HelloOf s) rfl (ite_rec (HelloOf s) rfl
    (ite_rec (HelloOf s) (ite_rec (HelloOf s) rfl rfl) rfl)))

theorem serverHelloKeys_hello (O : Ops δ) (s : St δ) (su sr : Bytes) (e : Exts) (c : UInt8) :
    HelloOf s (serverHelloKeys O s su sr e c).st := by
  unfold serverHelloKeys
  split
  · rfl
  · split <;> rfl

theorem serverHello_hello (O : Ops δ) (s : St δ) (r : Rec) : HelloOf s (serverHello O s r).st := by
  unfold serverHello
  simp only
  split
  · exact latch_hello s
  · split
    · exact latch_hello s
    · exact ((latch_hello s).trans (chooseVersion_hello ..)).trans (serverHelloKeys_hello ..)

theorem serverHello_caught_hello (O : Ops δ) (s : St δ) (r : Rec) :
    HelloOf s (tryExcept (serverHello O s r) fun s' => { s' with canDecrypt := false }).st := by
  have h := serverHello_hello O s r
  cases hsh : serverHello O s r with
  | ok a => rw [hsh] at h; exact h
  | raised a => rw [hsh] at h; exact h.trans rfl

theorem serverHelloKeys_caught (O : Ops δ) (s : St δ) (cr : Bytes) (hcr : s.cr = some cr) (su sr : Bytes) (e : Exts)
    (c : UInt8) :
    let s' := (tryExcept (serverHelloKeys O s su sr e c) fun s' => { s' with canDecrypt := false }).st
    s'.ver = s.ver ∧ s'.cr = s.cr ∧
      match O.genKeys s.ver su cr sr e c with
      | .installed d => s'.canDecrypt = s.canDecrypt ∧ s'.dec = some d
      | _ => s'.canDecrypt = false := by
  simp only [serverHelloKeys, hcr]
  cases O.genKeys s.ver su cr sr e c
  case installed d => exact ⟨rfl, rfl, rfl, rfl⟩
  case raised => exact ⟨rfl, hcr, rfl⟩
  all_goals exact ⟨rfl, rfl, rfl⟩

theorem clientHello_traffic (s : St δ) (r : Rec) : (clientHello s r).traffic = s.traffic := rfl

theorem handshakeFinished_appends (O : Ops δ) (m : Bool) (s : St δ) (r : Rec) (srv : Bool) :
    Appends r srv s (handshakeFinished O m s r srv).st := by
  unfold handshakeFinished
  cases s.dec with
  | none => exact Appends.refl ..
  | some d =>
    simp only
    split
    · rcases hdec : O.decrypt d r srv with ⟨d', _ | pt⟩
      · exact Appends.of_traffic_eq _ _ _ _ rfl
      · simp only
        split
        · exact Appends.push r srv { s with dec := some d' } pt false
        · exact Appends.of_traffic_eq _ _ _ _ rfl
    · split <;> exact Appends.refl ..

theorem handshakeFinished_silent (O : Ops δ) (s : St δ) (r : Rec) (srv : Bool) :
    (handshakeFinished O false s r srv).st.traffic = s.traffic := by
  unfold handshakeFinished
  cases s.dec with
  | none => rfl
  | some d =>
    simp only
    split
    · rcases O.decrypt d r srv with ⟨d', _ | pt⟩ <;> rfl
    · rfl

variable (O : Ops δ)

theorem handshakeRecord_isOk (m : Bool) (s : St δ) (r : Rec) (srv : Bool) :
    (handshakeRecord O m s r srv).isOk = true := by
  unfold handshakeRecord
  refine ite_rec (fun x : Out (St δ) => x.isOk = true) (tryExcept_isOk ..) ?_
  cases r.body with
  | nil => rfl
  | cons t _ =>
    exact ite_rec (fun x : Out (St δ) => x.isOk = true) rfl
      (ite_rec (fun x : Out (St δ) => x.isOk = true) (tryExcept_isOk ..) (tryExcept_isOk ..))

theorem handshakeRecord_cases (Q : St δ → Prop) (m : Bool) (s : St δ) (r : Rec) (srv : Bool)
    (fin : Q (handshakeFinished O m s r srv).st) (ch : Q (clientHello s r))
    (sh : Q (tryExcept (serverHello O s r) fun s' => { s' with canDecrypt := false }).st) (other : Q s) :
    Q (handshakeRecord O m s r srv).st := by
  have fin' : Q (tryExcept (handshakeFinished O m s r srv) id).st := by rw [tryExcept_id_st]; exact fin
  unfold handshakeRecord
  refine ite_rec (fun x : Out (St δ) => Q x.st) fin' ?_
  cases r.body with
  | nil => exact other
  | cons t _ => exact ite_rec (fun x : Out (St δ) => Q x.st) ch (ite_rec (fun x : Out (St δ) => Q x.st) sh fin')

theorem handshakeRecord_appends (m : Bool) (s : St δ) (r : Rec) (srv : Bool) :
    Appends r srv s (handshakeRecord O m s r srv).st :=
  handshakeRecord_cases O (Appends r srv s) m s r srv (handshakeFinished_appends ..)
    (Appends.of_traffic_eq _ _ _ _ (clientHello_traffic ..))
    (Appends.of_traffic_eq _ _ _ _ (serverHello_caught_hello ..).traffic) (Appends.refl ..)

theorem handshakeRecord_silent (s : St δ) (r : Rec) (srv : Bool) :
    (handshakeRecord O false s r srv).st.traffic = s.traffic :=
  handshakeRecord_cases O (fun s' => s'.traffic = s.traffic) false s r srv (handshakeFinished_silent ..) rfl
    (serverHello_caught_hello ..).traffic rfl

theorem app13_appends (s : St δ) (r : Rec) (srv : Bool) : Appends r srv s (app13 O s r srv).st := by
  unfold app13
  cases s.dec with
  | none => exact Appends.refl ..
  | some d =>
    simp only
    rcases O.decrypt d r srv with ⟨d1, _ | _ | pt⟩
    · exact Appends.of_traffic_eq _ _ _ _ rfl
    · exact Appends.of_traffic_eq _ _ _ _ rfl
    · simp only
      cases (rstrip0 pt).getLast? with
      | none => exact Appends.of_traffic_eq _ _ _ _ rfl
      | some t =>
        refine ite_rec (fun x : Out (St δ) => Appends r srv s x.st) ?_
          (ite_rec (fun x : Out (St δ) => Appends r srv s x.st) (Appends.push r srv { s with dec := some d1 } _ true)
            (Appends.of_traffic_eq _ _ _ _ rfl))
        rcases hs13Loop O srv _ (s.hsBuf srv ++ (rstrip0 pt).dropLast) d1 with ⟨d2, b, _ | _⟩ <;>
          exact Appends.of_traffic_eq _ _ _ _ (setHsBuf_traffic _ _ _)

theorem appLegacy_appends (s : St δ) (r : Rec) (srv : Bool) : Appends r srv s (appLegacy O s r srv).st := by
  unfold appLegacy
  cases s.dec with
  | none => exact Appends.refl ..
  | some d =>
    simp only
    rcases hdec : O.decrypt d r srv with ⟨d1, _ | pt⟩
    · exact Appends.of_traffic_eq _ _ _ _ rfl
    · exact Appends.push r srv { s with dec := some d1 } pt true

theorem appLegacy_isOk (s : St δ) (r : Rec) (srv : Bool) : (appLegacy O s r srv).isOk = true := by
  unfold appLegacy
  cases s.dec with
  | none => rfl
  | some d =>
    simp only
    rcases hdec : O.decrypt d r srv with ⟨d1, _ | pt⟩ <;> rfl

theorem appLegacy_ok {s : St δ} {d d' : δ} {r : Rec} {srv : Bool} {pt : Option Bytes} (hd : s.dec = some d)
    (h : O.decrypt d r srv = (d', some pt)) :
    appLegacy O s r srv = .ok ({ s with dec := some d' }.push ⟨pt, r, srv, true⟩) := by
  rw [appLegacy, hd]
  simp only [h]

theorem rstrip0_inner (pt : Bytes) (typ : UInt8) (n : Nat) (ht : typ ≠ 0) :
    rstrip0 (pt ++ [typ] ++ List.replicate n 0) = pt ++ [typ] := by
  have hz : ∀ (n : Nat) (l : Bytes), List.dropWhile (fun x => decide (x = 0)) (List.replicate n (0 : UInt8) ++ l)
      = List.dropWhile (fun x => decide (x = 0)) l := by
    intro n l
    induction n with
    | zero => rfl
    | succ n ih => simp [List.replicate_succ, ih]
  unfold rstrip0
  simp only [List.reverse_append, List.reverse_replicate, List.reverse_cons, List.reverse_nil, List.nil_append,
    List.singleton_append, hz]
  simp [ht]

theorem app13_inner {s : St δ} {d d1 : δ} {r : Rec} {srv : Bool} (pt : Bytes) (typ : UInt8) (n : Nat) (ht : typ ≠ 0)
    (hd : s.dec = some d) (h : O.decrypt d r srv = (d1, some (some (pt ++ [typ] ++ List.replicate n 0)))) :
    app13 O s r srv =
      if typ = 0x16 then
        match hs13Loop O srv (s.hsBuf srv ++ pt).length (s.hsBuf srv ++ pt) d1 with
        | (d2, b, true) => .ok ({ s with dec := some d2 }.setHsBuf srv b)
        | (d2, b, false) => .raised ({ s with dec := some d2 }.setHsBuf srv b)
      else if typ = 0x17 then .ok ({ s with dec := some d1 }.push ⟨some pt, r, srv, true⟩)
      else .ok { s with dec := some d1 } := by
  rw [app13, hd]
  simp only [h, rstrip0_inner pt typ n ht, List.getLast?_append, List.getLast?_singleton, Option.some_or,
    List.dropLast_concat]
  rfl

def appRecord (s : St δ) (r : Rec) (srv : Bool) : Out (St δ) :=
  if s.canDecrypt && s.dec.isSome then
    match s.ver with
    | some .tls13 => tryExcept (app13 O s r srv) id
    | some _ => appLegacy O s r srv
    | none => .ok { s with canDecrypt := false }
  else .ok s

def alertRecord (s : St δ) (r : Rec) : St δ :=
  match r.body with
  | [] => s
  | lvl :: _ => alert s lvl

def ccsRecord (s : St δ) (srv : Bool) : St δ := if srv then { s with srvCC := true } else { s with cliCC := true }

theorem alertRecord_flags (s : St δ) (r : Rec) : FlagsOf s (alertRecord s r) := by
  unfold alertRecord
  cases r.body with
  | nil => rfl
  | cons lvl _ => exact ite_rec (FlagsOf s) rfl rfl

theorem ccsRecord_flags (s : St δ) (srv : Bool) : FlagsOf s (ccsRecord s srv) := ite_rec (FlagsOf s) rfl rfl

theorem appRecord_isOk (s : St δ) (r : Rec) (srv : Bool) : (appRecord O s r srv).isOk = true := by
  unfold appRecord
  split
  · split
    · simp
    · exact appLegacy_isOk ..
    · rfl
  · rfl

theorem appRecord_appends (s : St δ) (r : Rec) (srv : Bool) : Appends r srv s (appRecord O s r srv).st := by
  unfold appRecord
  split
  · split
    · rw [tryExcept_id_st]; exact app13_appends ..
    · exact appLegacy_appends ..
    · exact Appends.of_traffic_eq _ _ _ _ rfl
  · exact Appends.refl ..

theorem appRecord_closed (s : St δ) (r : Rec) (srv : Bool) (hg : (s.canDecrypt && s.dec.isSome) = false) :
    appRecord O s r srv = .ok s := by
  unfold appRecord
  rw [hg]
  rfl

theorem appRecord_legacy {s : St δ} {d : δ} {v : Ver} (r : Rec) (srv : Bool) (hc : s.canDecrypt = true)
    (hd : s.dec = some d) (hv : s.ver = some v) (hne : v ≠ .tls13) : appRecord O s r srv = appLegacy O s r srv := by
  rw [appRecord, hc, hd, hv]
  cases v <;> first | rfl | exact absurd rfl hne

theorem appRecord_13 {s : St δ} {d : δ} (r : Rec) (srv : Bool) (hc : s.canDecrypt = true) (hd : s.dec = some d)
    (hv : s.ver = some .tls13) : appRecord O s r srv = tryExcept (app13 O s r srv) id := by
  rw [appRecord, hc, hd, hv]
  rfl

theorem serverHelloKeys_no_cr (s x : St δ) (suite sr : Bytes) (exts : Exts) (comp : UInt8)
    (hf : FlagsOf s x) (hc : s.cr = none) : ∃ y, serverHelloKeys O x suite sr exts comp = .raised y ∧ FlagsOf s y := by
  unfold serverHelloKeys
  rw [(congrArg St.cr hf).trans hc]
  exact ⟨x, rfl, hf⟩

theorem serverHello_no_cr (s : St δ) (r : Rec) (hc : s.cr = none) :
    ∃ x, serverHello O s r = .raised x ∧ FlagsOf s x := by
  unfold serverHello
  dsimp only
  cases r.body[38]? with
  | none => exact ⟨_, rfl, latch_flags s⟩
  | some sidLen =>
    dsimp only
    cases r.body[38 + sidLen.toNat + 1 + 2]? with
    | none => exact ⟨_, rfl, latch_flags s⟩
    | some comp =>
      exact serverHelloKeys_no_cr O s _ _ _ _ _ ((latch_flags s).trans (chooseVersion_flags (latch s) _ _ _)) hc

theorem handshakeFinished_no_dec (m : Bool) (s : St δ) (r : Rec) (srv : Bool) (hd : s.dec = none) :
    handshakeFinished O m s r srv = .ok s := by
  unfold handshakeFinished
  rw [hd]

theorem handshakeRecord_no_dec (m : Bool) (s : St δ) (r : Rec) (srv : Bool) (hd : s.dec = none) :
    handshakeRecord O m s r srv = .ok s ∨
    (r.body.head? = some 0x01 ∧ handshakeRecord O m s r srv = .ok (clientHello s r)) ∨
    (r.body.head? = some 0x02 ∧
      handshakeRecord O m s r srv = tryExcept (serverHello O s r) fun s' => { s' with canDecrypt := false }) := by
  unfold handshakeRecord
  rw [handshakeFinished_no_dec O m s r srv hd]
  by_cases hcc : (s.srvCC || s.cliCC) = true
  · rw [if_pos hcc]; exact .inl rfl
  rw [if_neg hcc]
  cases r.body with
  | nil => exact .inl rfl
  | cons t _ =>
    dsimp only
    by_cases h1 : t = 0x01
    · rw [if_pos h1]; exact .inr (.inl ⟨congrArg some h1, rfl⟩)
    rw [if_neg h1]
    by_cases h2 : t = 0x02
    · rw [if_pos h2]; exact .inr (.inr ⟨congrArg some h2, rfl⟩)
    · rw [if_neg h2]; exact .inl rfl

/-- `handle_tls_record` by record type. No branch raises: the handshake branch because `handle_tls_handshake_record`
    catches everything below it, the application-data branch by `appRecord_isOk`. -/
theorem handleRecordRaw_eq (m : Bool) (s : St δ) (r : Rec) (srv : Bool) :
    handleRecordRaw O m s r srv = .ok (
      if r.typ = some 0x16 then pushMeta m (handshakeRecord O m s r srv).st r srv
      else if r.typ = some 0x17 then (appRecord O s r srv).st
      else if r.typ = some 0x15 then pushMeta m (alertRecord s r) r srv
      else if r.typ = some 0x14 then pushMeta m (ccsRecord s srv) r srv
      else s) := by
  unfold handleRecordRaw
  cases r.typ with
  | none => rfl
  | some t =>
    simp only [Option.some.injEq]
    by_cases h16 : t = 0x16
    · rw [if_pos h16, if_pos h16, Out.eq_ok (handshakeRecord_isOk O m s r srv)]; rfl
    rw [if_neg h16, if_neg h16]
    by_cases h17 : t = 0x17
    · rw [if_pos h17, if_pos h17]; exact Out.eq_ok (appRecord_isOk O s r srv)
    rw [if_neg h17, if_neg h17]
    by_cases h15 : t = 0x15
    · rw [if_pos h15, if_pos h15]; rfl
    rw [if_neg h15, if_neg h15]
    by_cases h14 : t = 0x14
    · rw [if_pos h14, if_pos h14]; rfl
    · rw [if_neg h14, if_neg h14]

theorem handleRecord_eq (m : Bool) (s : St δ) (r : Rec) (srv : Bool) :
    handleRecord O m s r srv =
      if r.typ = some 0x16 then pushMeta m (handshakeRecord O m s r srv).st r srv
      else if r.typ = some 0x17 then (appRecord O s r srv).st
      else if r.typ = some 0x15 then pushMeta m (alertRecord s r) r srv
      else if r.typ = some 0x14 then pushMeta m (ccsRecord s srv) r srv
      else s := by
  rw [handleRecord, handleRecordRaw_eq]; rfl

theorem handleRecord_handshake (m : Bool) (s : St δ) (r : Rec) (srv : Bool) (h : r.typ = some 0x16) :
    handleRecord O m s r srv = pushMeta m (handshakeRecord O m s r srv).st r srv := by
  rw [handleRecord_eq, if_pos h]

theorem handleRecord_appData (m : Bool) (s : St δ) (r : Rec) (srv : Bool) (h : r.typ = some 0x17) :
    handleRecord O m s r srv = (appRecord O s r srv).st := by
  rw [handleRecord_eq, h]; rfl

theorem handleRecord_changeCipherSpec (m : Bool) (s : St δ) (r : Rec) (srv : Bool) (h : r.typ = some 0x14) :
    handleRecord O m s r srv = pushMeta m (ccsRecord s srv) r srv := by
  rw [handleRecord_eq, h]; rfl

theorem handleRecord_cases (Q : St δ → Prop) (m : Bool) (s : St δ) (r : Rec) (srv : Bool)
    (hs : Q (pushMeta m (handshakeRecord O m s r srv).st r srv)) (app : Q (appRecord O s r srv).st)
    (al : Q (pushMeta m (alertRecord s r) r srv)) (ccs : Q (pushMeta m (ccsRecord s srv) r srv)) (other : Q s) :
    Q (handleRecord O m s r srv) := by
  rw [handleRecord_eq]
  exact ite_rec Q hs (ite_rec Q app (ite_rec Q al (ite_rec Q ccs other)))

theorem handleRecordRaw_isOk (m : Bool) (s : St δ) (r : Rec) (srv : Bool) :
    (handleRecordRaw O m s r srv).isOk = true := by
  rw [handleRecordRaw_eq]; rfl

theorem handleRecord_appends (m : Bool) (s : St δ) (r : Rec) (srv : Bool) :
    Appends r srv s (handleRecord O m s r srv) :=
  handleRecord_cases O (Appends r srv s) m s r srv ((handshakeRecord_appends O m s r srv).trans (pushMeta_appends ..))
    (appRecord_appends O s r srv)
    ((Appends.of_traffic_eq _ _ _ _ (alertRecord_flags s r).traffic).trans (pushMeta_appends ..))
    ((Appends.of_traffic_eq _ _ _ _ (ccsRecord_flags s srv).traffic).trans (pushMeta_appends ..)) (Appends.refl ..)

theorem run_append (m : Bool) (s : St δ) (a b : List (Rec × Bool)) :
    run O m s (a ++ b) = run O m (run O m s a) b := by
  simp [run, List.foldl_append]

theorem handleRecord_traffic_prefix (m : Bool) (s : St δ) (r : Rec) (srv : Bool) :
    s.traffic <+: (handleRecord O m s r srv).traffic :=
  let ⟨_, hl, _⟩ := handleRecord_appends O m s r srv
  hl ▸ List.prefix_append _ _

theorem run_traffic_prefix (m : Bool) (s : St δ) (rs : List (Rec × Bool)) :
    s.traffic <+: (run O m s rs).traffic :=
  foldl_grows (fun s (x : Rec × Bool) => handleRecord O m s x.1 x.2) (·.traffic)
    (fun s x => handleRecord_traffic_prefix O m s x.1 x.2) s rs

section View
variable (keep : Bool) (ρ : Rec → Rec)

/-- What an observer keeps of a traffic entry: application data always, a metadata entry iff `keep`; the record the
    entry is attributed to is relabelled by `ρ`. Instances: `false`, `id` (`St.strip`, the export without `-a`); `true`
    with `ρ` changing the carriers only (`SessionCarriers.erase`, `CarrierMap.Sess`). -/
def Entry.view (e : Entry) : Option Entry :=
  if e.isApp || keep then some { e with record := ρ e.record } else none

def St.view (s : St δ) : St δ :=
  { s with traffic := s.traffic.filterMap (Entry.view keep ρ) }

theorem view_push_app (s : St δ) (d : Option Bytes) (r : Rec) (srv : Bool) :
    (s.push ⟨d, r, srv, true⟩).view keep ρ = (s.view keep ρ).push ⟨d, ρ r, srv, true⟩ := by
  simp [St.view, St.push, Entry.view, List.filterMap_append]

theorem view_push_meta (s : St δ) (d : Option Bytes) (r : Rec) (srv : Bool) :
    (s.push ⟨d, r, srv, false⟩).view keep ρ
      = if keep then (s.view keep ρ).push ⟨d, ρ r, srv, false⟩ else s.view keep ρ := by
  cases keep <;> simp [St.view, St.push, Entry.view, List.filterMap_append]

@[simp] theorem view_canDecrypt (s : St δ) : (s.view keep ρ).canDecrypt = s.canDecrypt := rfl
@[simp] theorem view_ver (s : St δ) : (s.view keep ρ).ver = s.ver := rfl
@[simp] theorem view_srvCC (s : St δ) : (s.view keep ρ).srvCC = s.srvCC := rfl
@[simp] theorem view_cliCC (s : St δ) : (s.view keep ρ).cliCC = s.cliCC := rfl
@[simp] theorem view_dec (s : St δ) : (s.view keep ρ).dec = s.dec := rfl
@[simp] theorem view_cr (s : St δ) : (s.view keep ρ).cr = s.cr := rfl
@[simp] theorem view_hsBuf (s : St δ) (srv : Bool) : (s.view keep ρ).hsBuf srv = s.hsBuf srv := by
  cases srv <;> rfl

theorem setHsBuf_view (s : St δ) (srv : Bool) (b : Bytes) :
    (s.setHsBuf srv b).view keep ρ = (s.view keep ρ).setHsBuf srv b := by
  cases srv <;> rfl

theorem chooseVersion_view (s : St δ) (a b : Nat) (c : Bool) :
    (chooseVersion s a b c).view keep ρ = chooseVersion (s.view keep ρ) a b c := by
  simp only [chooseVersion, apply_ite (St.view keep ρ)]
  rfl

theorem latch_view (s : St δ) : (latch s).view keep ρ = latch (s.view keep ρ) := by
  simp only [latch, apply_ite (St.view keep ρ)]
  rfl

theorem alert_view (s : St δ) (l : UInt8) : (alert s l).view keep ρ = alert (s.view keep ρ) l := by
  simp only [alert, apply_ite (St.view keep ρ)]
  rfl

theorem serverHelloKeys_view (s : St δ) (su sr : Bytes) (e : Exts) (c : UInt8) :
    (serverHelloKeys O s su sr e c).map (St.view keep ρ) = serverHelloKeys O (s.view keep ρ) su sr e c := by
  unfold serverHelloKeys
  simp only [view_cr, view_ver]
  cases s.cr with
  | none => rfl
  | some cr => simp only; split <;> rfl

variable (hdec : ∀ d r srv, O.decrypt d (ρ r) srv = O.decrypt d r srv)
include hdec

/-- The plaintext of a Finished is a metadata entry; the raise for an unbound `_plaintext` happens only with `-a`, so
    the two sides may differ in `ok`/`raised` and agree in the state. -/
theorem handshakeFinished_view (m : Bool) (s : St δ) (r : Rec) (srv : Bool) :
    (handshakeFinished O m s r srv).st.view keep ρ = (handshakeFinished O (m && keep) (s.view keep ρ) (ρ r) srv).st := by
  unfold handshakeFinished
  simp only [view_dec, view_srvCC, view_cliCC, view_canDecrypt, hdec]
  cases s.dec with
  | none => rfl
  | some d =>
    simp only
    by_cases hg : (s.srvCC && srv && s.canDecrypt || s.cliCC && !srv && s.canDecrypt) = true
    · rw [if_pos hg, if_pos hg]
      rcases O.decrypt d r srv with ⟨d', _ | pt⟩
      · rfl
      · simp only
        cases m
        · rfl
        · cases decide (pt ≠ some [])
          · cases keep <;> rfl
          · simp only [Bool.and_self, if_true, Out.st, view_push_meta, Bool.true_and, Bool.and_true]
            cases keep <;> rfl
    · rw [if_neg hg, if_neg hg]
      cases m <;> cases keep <;> rfl

theorem app13_view (s : St δ) (r : Rec) (srv : Bool) :
    (app13 O s r srv).map (St.view keep ρ) = app13 O (s.view keep ρ) (ρ r) srv := by
  unfold app13
  simp only [view_dec, hdec]
  cases s.dec with
  | none => rfl
  | some d =>
    simp only
    rcases O.decrypt d r srv with ⟨d1, _ | _ | pt⟩
    · rfl
    · rfl
    · simp only [view_hsBuf]
      cases (rstrip0 pt).getLast? with
      | none => rfl
      | some t =>
        simp only
        by_cases h16 : t = 0x16
        · rw [if_pos h16, if_pos h16]
          rcases hs13Loop O srv _ (s.hsBuf srv ++ (rstrip0 pt).dropLast) d1 with ⟨d2, b, _ | _⟩ <;>
            (simp only [Out.map, setHsBuf_view]; rfl)
        · rw [if_neg h16, if_neg h16]
          by_cases h17 : t = 0x17
          · rw [if_pos h17, if_pos h17, Out.map, view_push_app]; rfl
          · rw [if_neg h17, if_neg h17]; rfl

theorem appLegacy_view (s : St δ) (r : Rec) (srv : Bool) :
    (appLegacy O s r srv).map (St.view keep ρ) = appLegacy O (s.view keep ρ) (ρ r) srv := by
  unfold appLegacy
  simp only [view_dec, hdec]
  cases s.dec with
  | none => rfl
  | some d =>
    simp only
    rcases O.decrypt d r srv with ⟨d1, _ | pt⟩
    · rfl
    · simp only [Out.map, view_push_app]; rfl

theorem appRecord_view (s : St δ) (r : Rec) (srv : Bool) :
    (appRecord O s r srv).map (St.view keep ρ) = appRecord O (s.view keep ρ) (ρ r) srv := by
  unfold appRecord
  simp only [view_canDecrypt, view_dec, view_ver]
  by_cases hg : (s.canDecrypt && s.dec.isSome) = true
  · simp only [hg, if_true]
    cases s.ver with
    | none => rfl
    | some v =>
      cases v
      case tls13 => simp only; rw [tryExcept_map (St.view keep ρ) _ id id (fun _ => rfl), app13_view O keep ρ hdec]
      all_goals exact appLegacy_view O keep ρ hdec ..
  · simp only [hg]; rfl

variable (hraw : ∀ r, (ρ r).raw = r.raw)
include hraw

omit hdec in
theorem pushMeta_view (m : Bool) (s : St δ) (r : Rec)
    (srv : Bool) : (pushMeta m s r srv).view keep ρ = pushMeta (m && keep) (s.view keep ρ) (ρ r) srv := by
  cases m
  · rfl
  · simp only [pushMeta, if_true, view_push_meta, hraw, Bool.true_and]

omit hdec in
theorem serverHello_view (s : St δ) (r : Rec) :
    (serverHello O s r).map (St.view keep ρ) = serverHello O (s.view keep ρ) (ρ r) := by
  obtain ⟨-, hv, hb⟩ := Rec.fields_of_raw (hraw r)
  unfold serverHello
  simp only [hv, hb]
  split
  · simp only [Out.map, latch_view]
  · split
    · simp only [Out.map, latch_view]
    · rw [serverHelloKeys_view, chooseVersion_view, latch_view]

theorem handshakeRecord_view (m : Bool) (s : St δ) (r : Rec) (srv : Bool) :
    (handshakeRecord O m s r srv).st.view keep ρ = (handshakeRecord O (m && keep) (s.view keep ρ) (ρ r) srv).st := by
  obtain ⟨-, -, hb⟩ := Rec.fields_of_raw (hraw r)
  have hfin := handshakeFinished_view O keep ρ hdec m s r srv
  unfold handshakeRecord
  simp only [view_srvCC, view_cliCC, hb]
  by_cases hcc : (s.srvCC || s.cliCC) = true
  · rw [if_pos hcc, if_pos hcc, tryExcept_id_st, tryExcept_id_st]; exact hfin
  rw [if_neg hcc, if_neg hcc]
  cases hrb : r.body with
  | nil => rfl
  | cons t _ =>
    simp only
    by_cases h1 : t = 0x01
    · rw [if_pos h1, if_pos h1]
      simp only [Out.st_ok, clientHello, hb]
      rfl
    rw [if_neg h1, if_neg h1]
    by_cases h2 : t = 0x02
    · rw [if_pos h2, if_pos h2, ← Out.map_st (St.view keep ρ),
        tryExcept_map (St.view keep ρ) _ _ (fun s' : St δ => { s' with canDecrypt := false }) (fun _ => rfl),
        serverHello_view O keep ρ hraw]
    · rw [if_neg h2, if_neg h2, tryExcept_id_st, tryExcept_id_st]; exact hfin

theorem handleRecord_view (m : Bool) (s : St δ) (r : Rec) (srv : Bool) :
    (handleRecord O m s r srv).view keep ρ = handleRecord O (m && keep) (s.view keep ρ) (ρ r) srv := by
  obtain ⟨ht, -, hb⟩ := Rec.fields_of_raw (hraw r)
  have hal : (alertRecord s r).view keep ρ = alertRecord (s.view keep ρ) (ρ r) := by
    unfold alertRecord
    rw [hb]
    split
    · rfl
    · exact alert_view ..
  have hcc : (ccsRecord s srv).view keep ρ = ccsRecord (s.view keep ρ) srv := by cases srv <;> rfl
  simp only [handleRecord_eq, ht, apply_ite (St.view keep ρ), pushMeta_view keep ρ hraw,
    handshakeRecord_view O keep ρ hdec hraw, ← Out.map_st (St.view keep ρ), appRecord_view O keep ρ hdec, hal, hcc]

end View

/-- The one commutation theorem of the machine: an observer's view of a run is the run on the viewed input. `ρ` may
    relabel a record as long as the decryptor (`hdec`) and the machine (`hraw`) cannot tell; dropping the metadata entries
    (`keep = false`) is running without `-a` (`m && keep`). -/
theorem run_view (keep : Bool) (ρ : Rec → Rec) (hdec : ∀ d r srv, O.decrypt d (ρ r) srv = O.decrypt d r srv)
    (hraw : ∀ r, (ρ r).raw = r.raw) (m : Bool) (s : St δ) (rs : List (Rec × Bool)) :
    (run O m s rs).view keep ρ = run O (m && keep) (s.view keep ρ) (rs.map fun q => (ρ q.1, q.2)) := by
  induction rs generalizing s with
  | nil => rfl
  | cons x rest ih =>
    simp only [run, List.map_cons, List.foldl_cons] at ih ⊢
    rw [ih, handleRecord_view O keep ρ hdec hraw]

theorem strip_eq_view (s : St δ) : s.strip = s.view false id := by
  have : ∀ l : List Entry, l.filter (·.isApp) = l.filterMap (Entry.view false id) := by
    intro l
    induction l with
    | nil => rfl
    | cons e es ih => obtain ⟨d, r, srv, a⟩ := e; cases a <;> simp [Entry.view, ih]
  simp only [St.strip, St.view, this]

theorem run_strip (s : St δ) (rs : List (Rec × Bool)) :
    (run O true s rs).strip = run O false s.strip rs := by
  rw [strip_eq_view, strip_eq_view, run_view O false id (fun _ _ _ => rfl) (fun _ => rfl)]
  simp

end TLX.Session
