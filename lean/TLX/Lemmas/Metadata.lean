/-
Helper lemmas for C07 `metadata_is_overlap`: where the records of `Reassembly.records` start, and what
the source's carrier test `index < end and index + record_len > start` selects from `packet_ranges`.
Core Lean only.
-/
import TLX.Lemmas.Framing
namespace TLX.Lemmas.Metadata
open TLX TLX.Reassembly TLX.Lemmas.Framing

/-- Start of the `i`-th buffered packet inside the concatenated buffer. -/
def segStart (buf : List Seg) (i : Nat) : Nat := (bufData (buf.take i)).length

/-- The half-open byte ranges `[a, b)` and `[c, d)` have a byte in common. -/
def Overlaps (a b c d : Nat) : Prop := ∃ q, q < d ∧ (a ≤ q ∧ q < b ∧ c ≤ q)

instance (a b c d : Nat) : Decidable (Overlaps a b c d) := by unfold Overlaps; infer_instance

/-- The source's test, for a non-empty packet range `[s, e)` and a non-empty record `[i, i + n)`. -/
theorem test_iff_overlaps (s e i n : Nat) (hse : s < e) (hn : 0 < n) :
    (decide (i < e) && decide (i + n > s)) = true ↔ Overlaps s e i (i + n) := by
  simp only [Bool.and_eq_true, decide_eq_true_eq, Overlaps]
  constructor
  · -- the later of the two starts lies in both ranges
    rintro ⟨h1, h2⟩
    by_cases hsi : s ≤ i
    · exact ⟨i, Nat.lt_add_of_pos_right hn, hsi, h1, Nat.le_refl _⟩
    · exact ⟨s, h2, Nat.le_refl _, hse, Nat.le_of_lt (Nat.lt_of_not_le hsi)⟩
  · rintro ⟨q, h1, h2, h3, h4⟩
    exact ⟨Nat.lt_of_le_of_lt h4 h3, Nat.lt_of_le_of_lt h2 h1⟩

theorem bufData_append (a b : List Seg) : bufData (a ++ b) = bufData a ++ bufData b := by
  simp [bufData]

theorem segStart_succ (buf : List Seg) (i : Nat) (h : i < buf.length) :
    segStart buf (i + 1) = segStart buf i + buf[i].data.length := by
  unfold segStart
  rw [List.take_succ_eq_append_getElem h, bufData_append]
  simp [bufData]

theorem segStart_zero (buf : List Seg) : segStart buf 0 = 0 := by simp [segStart, bufData]

theorem segStart_cons (x : Seg) (xs : List Seg) (j : Nat) :
    segStart (x :: xs) (j + 1) = x.data.length + segStart xs j := by
  simp [segStart, bufData]

/-- Packet id at buffer position `j`. -/
def idAt (buf : List Seg) (j : Nat) : Nat := ((buf[j]?).map (·.id)).getD 0

/-- `packet_ranges` are the `segStart`s. -/
theorem ranges_eq (buf : List Seg) (s : Nat) :
    ranges buf s =
      (List.range buf.length).map (fun j => (s + segStart buf j, s + segStart buf (j + 1), idAt buf j)) := by
  induction buf generalizing s with
  | nil => rfl
  | cons x xs ih =>
    rw [ranges, ih, List.length_cons, List.range_succ_eq_map, List.map_cons, List.map_map]
    congr 1
    · simp [segStart_cons, segStart_zero, idAt]
    · apply List.map_congr_left
      intro j _
      simp [segStart_cons, idAt, Nat.add_assoc]

/-- The carriers of `[i, i+n)`: the packets, in buffer order, whose range passes the source's test. -/
theorem carriers_ranges (buf : List Seg) (i n : Nat) :
    carriers (ranges buf 0) i n =
      ((List.range buf.length).filter (fun j =>
          decide (i < segStart buf (j + 1)) && decide (i + n > segStart buf j))).map (idAt buf) := by
  unfold carriers
  rw [ranges_eq, List.filter_map, List.map_map]
  congr 1
  apply List.filter_congr
  intro j _
  simp

/-- The first scan said "complete": the record at `i` lies inside the buffer and the scan goes on behind it. -/
theorem needData_step {d : Bytes} {i : Nat} (h0 : i < d.length) (h : needData d i = false) :
    i + recLenAt d i ≤ d.length ∧ needData d (i + recLenAt d i) = false := by
  have hge := recLenAt_ge d i
  rw [needData, if_neg (by omega)] at h
  by_cases h5 : d.length < i + 5
  · rw [if_pos h5] at h; cases h
  · rw [if_neg h5] at h
    refine ⟨?_, h⟩
    false_or_by_contra
    rw [needData, if_neg (by omega), if_pos (by omega)] at h
    cases h

/-- Where the records of the second scan start, and that each lies inside the buffer. -/
theorem records_spec (d : Bytes) (rs : List (Nat × Nat × Nat)) :
    ∀ (i : Nat), i ≤ d.length → needData d i = false →
      ∀ (j : Nat) (hj : j < (records d rs i).length),
        let a := i + (((records d rs i).take j).map (·.1.length)).sum
        ((records d rs i)[j]).2 = carriers rs a ((records d rs i)[j]).1.length ∧
          5 ≤ ((records d rs i)[j]).1.length ∧ a + ((records d rs i)[j]).1.length ≤ d.length := by
  intro i
  fun_induction records d rs i with
  | case1 i h0 => intro _ _ j hj; exact absurd hj (Nat.not_lt_zero _)
  | case2 i h0 ih =>
    intro hi hnd j hj
    obtain ⟨hin, hnd'⟩ := needData_step (by omega) hnd
    have hlen : (d.slice i (i + recLenAt d i)).length = recLenAt d i := by
      rw [Bytes.slice, List.length_take, List.length_drop]; omega
    cases j with
    | zero =>
      simp only [List.take_zero, List.map_nil, List.sum_nil, Nat.add_zero, List.getElem_cons_zero, hlen]
      exact ⟨trivial, recLenAt_ge d i, hin⟩
    | succ j =>
      have := ih hin hnd' j (Nat.lt_of_succ_lt_succ hj)
      simp only [List.take_succ_cons, List.map_cons, List.sum_cons, List.getElem_cons_succ, hlen]
      rw [← Nat.add_assoc]
      exact this
theorem segStart_length (buf : List Seg) : segStart buf buf.length = (bufData buf).length := by
  simp [segStart]

/-- Every byte position of the buffer lies in the range of some packet. -/
theorem exists_seg_of_pos (buf : List Seg) (a : Nat) :
    ∀ m, m ≤ buf.length → a < segStart buf m → ∃ i, i < m ∧ segStart buf i ≤ a ∧ a < segStart buf (i + 1) := by
  intro m
  induction m with
  | zero => intro _ h; rw [segStart_zero] at h; omega
  | succ m ih =>
    intro hm h
    by_cases hlt : a < segStart buf m
    · obtain ⟨i, hi, h1, h2⟩ := ih (by omega) hlt
      exact ⟨i, by omega, h1, h2⟩
    · exact ⟨m, by omega, by omega, h⟩

end TLX.Lemmas.Metadata
