/-
The invariant behind C05 (`Props/C05.reassembly_of_cut`; the machine `Reassembly.stepW`, not `Reassembly.Legacy`), generic in
the modulus `W`.  Fixed data: a cut `cs` of the stream into non-empty chunks, the records `rs` of the
stream.  State description: `done ++ rest = cs` (the chunks delivered so far / not yet), `k` records
handed on, `pend` = the buffered packets as (offset, id, payload), strictly ordered by offset.
Core Lean only.
-/
import TLX.Lemmas.Framing
import TLX.Lemmas.ReasmSort
import TLX.Lemmas.TwoPass
namespace TLX.Lemmas.ReasmInv
open TLX TLX.Reassembly TLX.Lemmas.ModSeq TLX.Lemmas.ReasmSort TLX.Lemmas.Framing TLX.Lemmas.TwoPass

/-- What `deliver` tests before it hands records on. -/
def Flushable (W base : Nat) (buf : List Seg) : Prop :=
  (∃ h t, buf = h :: t ∧ h.seq = base) ∧ contiguous W buf = true ∧ (flush buf).isSome = true

theorem deliver_cases (W : Nat) (st : St) (base : Nat) (h : Seg) (t : List Seg) :
    (¬ Flushable W base (h :: t) ∧ deliver W st base (h :: t) = { st with buf := h :: t }) ∨
    (∃ recs, Flushable W base (h :: t) ∧ flush (h :: t) = some recs ∧
      deliver W st base (h :: t) =
        { st with buf := [], next := some ((base + (bufData (h :: t)).length) % W), out := st.out ++ recs }) := by
  unfold deliver
  by_cases h1 : h.seq ≠ base
  · left
    refine ⟨?_, by simp [h1]⟩
    rintro ⟨⟨h', t', he, hb⟩, _⟩
    cases he
    exact h1 hb
  · by_cases h2 : contiguous W (h :: t) = true
    · cases hf : flush (h :: t) with
      | none =>
        left
        refine ⟨?_, by simp [h1, h2]⟩
        rintro ⟨_, _, h3⟩
        rw [hf] at h3; exact absurd h3 (by simp)
      | some recs =>
        right
        refine ⟨recs, ⟨⟨h, t, rfl, by simpa using h1⟩, h2, by simp [hf]⟩, rfl, by simp [h1, h2]⟩
    · left
      refine ⟨?_, by simp [h1, h2]⟩
      rintro ⟨_, h3, _⟩
      exact h2 h3

theorem bufData_toSeg (W isn : Nat) (pend : List P) :
    bufData (pend.map (toSeg W isn)) = ((pend.map oc).map (·.2)).flatten := by
  simp [bufData, toSeg, oc, List.map_map, Function.comp_def]

theorem contiguous_of_offs (W isn : Nat) :
    ∀ (pend : List P) (d : Nat) (rest : List Bytes), pend.map oc = offs d rest →
      contiguous W (pend.map (toSeg W isn)) = true := by
  intro pend
  induction pend with
  | nil => intros; rfl
  | cons e t ih =>
    intro d rest h
    cases rest with
    | nil => simp [offs] at h
    | cons c rest' =>
      simp only [List.map_cons, offs, List.cons.injEq] at h
      obtain ⟨he, ht⟩ := h
      cases t with
      | nil => rfl
      | cons e2 t' =>
        cases rest' with
        | nil => simp [offs] at ht
        | cons c2 rest'' =>
          have ht' := ht
          simp only [List.map_cons, offs, List.cons.injEq] at ht'
          simp only [List.map_cons, contiguous, Bool.and_eq_true, beq_iff_eq]
          refine ⟨?_, ih (d + c.length) (c2 :: rest'') ht⟩
          have h1 : e.1 = d := congrArg Prod.fst he
          have h2 : e.2.2 = c := congrArg Prod.snd he
          have h3 : e2.1 = d + c.length := congrArg Prod.fst ht'.1
          simp only [toSeg]
          rw [sq_add, h1, h2, h3]

theorem contig_prefix (W isn L : Nat) (hL : L < W) :
    ∀ (pend : List P) (d : Nat) (rest : List Bytes), (∀ c ∈ rest, c ≠ []) → d + rest.flatten.length ≤ L →
      pend.Pairwise (fun a b => a.1 < b.1) → (∀ e ∈ pend, oc e ∈ offs d rest) →
      (∀ e t, pend = e :: t → e.1 = d) → contiguous W (pend.map (toSeg W isn)) = true →
      ∃ front back, rest = front ++ back ∧ pend.map oc = offs d front := by
  intro pend
  induction pend with
  | nil => intro _ rest _ _ _ _ _ _; exact ⟨[], rest, rfl, rfl⟩
  | cons e t ih =>
    intro d rest hne hlen hsort hmem hhead hcont
    have he1 : e.1 = d := hhead e t rfl
    have hemem := hmem e (List.mem_cons_self ..)
    cases rest with
    | nil => simp [offs] at hemem
    | cons c0 rest' =>
      have hc0 : 0 < c0.length := List.length_pos_iff.mpr (hne c0 (List.mem_cons_self ..))
      have hne' : ∀ c ∈ rest', c ≠ [] := fun c hc => hne c (List.mem_cons_of_mem _ hc)
      have hoe : oc e = (d, c0) :=
        offs_functional d (c0 :: rest') hne (oc e) (d, c0) hemem (by simp [offs]) (by simp [oc, he1])
      have hp := List.pairwise_cons.mp hsort
      have hlen' : d + c0.length + rest'.flatten.length ≤ L := by
        simp only [List.flatten_cons, List.length_append] at hlen; omega
      have hmem' : ∀ x ∈ t, oc x ∈ offs (d + c0.length) rest' := by
        intro x hx
        have h1 := hmem x (List.mem_cons_of_mem _ hx)
        simp only [offs, List.mem_cons] at h1
        rcases h1 with h1 | h1
        · have := hp.1 x hx
          have : x.1 = d := congrArg Prod.fst h1
          omega
        · exact h1
      have hhead' : ∀ e2 t', t = e2 :: t' → e2.1 = d + c0.length := by
        intro e2 t' ht
        subst ht
        simp only [List.map_cons, contiguous, Bool.and_eq_true, beq_iff_eq] at hcont
        have h1 := hcont.1
        simp only [toSeg] at h1
        rw [sq_add] at h1
        have h2 : e.2.2 = c0 := congrArg Prod.snd hoe
        rw [he1, h2] at h1
        have hb := offs_bounds _ _ _ (hmem' e2 (List.mem_cons_self ..))
        have hc2 : 0 < (oc e2).2.length :=
          List.length_pos_iff.mpr (hne' _ hb.2.2)
        have : (oc e2).1 = e2.1 := rfl
        exact (sq_inj' W isn (d + c0.length) e2.1 (L + 1) (by omega) (by omega) (by omega) h1).symm
      have hcont' : contiguous W (t.map (toSeg W isn)) = true := by
        cases t with
        | nil => rfl
        | cons e2 t' =>
          simp only [List.map_cons, contiguous, Bool.and_eq_true] at hcont
          exact hcont.2
      obtain ⟨front, back, hr, hm⟩ := ih (d + c0.length) rest' hne' hlen' hp.2 hmem' hhead' hcont'
      exact ⟨c0 :: front, back, by rw [hr]; rfl, by simp only [List.map_cons, offs, hoe, hm]⟩

section
variable (W isn : Nat) (cs rs : List Bytes)

structure Setup : Prop where
  hW : 0 < W / 2
  hne : ∀ c ∈ cs, c ≠ []
  hwf : ∀ r ∈ rs, WF r
  hstr : cs.flatten = rs.flatten
  hL : cs.flatten.length + W / 2 ≤ W

structure Inv (st : St) (done rest : List Bytes) (k : Nat) (pend : List P) : Prop where
  split : cs = done ++ rest
  recs : st.out.map (·.1) = rs.take k
  bound : (rs.take k).flatten.length = done.flatten.length
  next : st.next = some (sq W isn done.flatten.length) ∨ (st.next = none ∧ done = [])
  buf : st.buf = pend.map (toSeg W isn)
  sorted : pend.Pairwise (fun a b => a.1 < b.1)
  mem : ∀ e ∈ pend, oc e ∈ offs done.flatten.length rest
  seenDone : ∀ x ∈ offs 0 done, sq W isn x.1 ∈ st.seen
  seenPend : ∀ e ∈ pend, sq W isn e.1 ∈ st.seen
  seenRest : ∀ x ∈ offs done.flatten.length rest, sq W isn x.1 ∈ st.seen → ∃ e ∈ pend, e.1 = x.1
  stuck : st.buf = [] ∨ ¬ Flushable W (sq W isn done.flatten.length) st.buf

theorem inv_init : Inv W isn cs rs St.init [] cs 0 [] where
  split := rfl
  recs := rfl
  bound := rfl
  next := Or.inr ⟨rfl, rfl⟩
  buf := rfl
  sorted := List.Pairwise.nil
  mem := by simp
  seenDone := by simp [offs]
  seenPend := by simp
  seenRest := by simp [St.init]
  stuck := Or.inl rfl

end

theorem stepW_seen (W : Nat) (st : St) (p : Seg) :
    (stepW W st p).seen = if st.seen.contains p.seq then st.seen else st.seen ++ [p.seq] := by
  unfold stepW
  split
  · rfl
  · rw [extract_seen]

section
variable {W isn : Nat} {cs rs : List Bytes} {st : St} {done rest : List Bytes} {k : Nat} {pend : List P}

theorem Setup.hLW (S : Setup W cs rs) : cs.flatten.length < W := by
  have := S.hW; have := S.hL; omega

theorem Inv.len
    (I : Inv W isn cs rs st done rest k pend) :
    done.flatten.length + rest.flatten.length = cs.flatten.length := by
  rw [I.split, List.flatten_append, List.length_append]

theorem Inv.rest_ne (S : Setup W cs rs)
    (I : Inv W isn cs rs st done rest k pend) : ∀ c ∈ rest, c ≠ [] := by
  intro c hc
  apply S.hne
  rw [I.split]
  exact List.mem_append_right _ hc

theorem Inv.rest_bounds (S : Setup W cs rs)
    (I : Inv W isn cs rs st done rest k pend) (x : Nat × Bytes) (hx : x ∈ offs done.flatten.length rest) :
    done.flatten.length ≤ x.1 ∧ x.1 < cs.flatten.length := by
  have hb := offs_bounds _ _ _ hx
  have hpos : 0 < x.2.length := List.length_pos_iff.mpr (I.rest_ne S _ hb.2.2)
  have := I.len
  omega

theorem Inv.rest_stream (S : Setup W cs rs)
    (I : Inv W isn cs rs st done rest k pend) : (rs.drop k).flatten = rest.flatten := by
  have h1 : cs.flatten = done.flatten ++ rest.flatten := by rw [I.split, List.flatten_append]
  have h2 : rs.flatten = (rs.take k).flatten ++ (rs.drop k).flatten := by
    rw [← List.flatten_append, List.take_append_drop]
  have h3 := S.hstr
  rw [h1, h2] at h3
  exact ((List.append_inj h3 I.bound.symm).2).symm

theorem Inv.mem_insP
    (I : Inv W isn cs rs st done rest k pend) {pe : P} (hpe : oc pe ∈ offs done.flatten.length rest) :
    ∀ a ∈ insP pe pend, oc a ∈ offs done.flatten.length rest := by
  intro a ha
  rcases (ReasmSort.mem_insP pe pend a).mp ha with rfl | ha
  · exact hpe
  · exact I.mem a ha

theorem seenRest_step (S : Setup W cs rs)
    (I : Inv W isn cs rs st done rest k pend) (pe : P) (hpe : oc pe ∈ offs done.flatten.length rest)
    (x : Nat × Bytes) (hx : x ∈ offs done.flatten.length rest)
    (hs : sq W isn x.1 ∈ st.seen ++ [sq W isn pe.1]) : ∃ e ∈ insP pe pend, e.1 = x.1 := by
  rcases List.mem_append.mp hs with h | h
  · obtain ⟨e, he, h1⟩ := I.seenRest x hx h
    exact ⟨e, (mem_insP pe pend e).mpr (Or.inr he), h1⟩
  · simp only [List.mem_singleton] at h
    have b1 := I.rest_bounds S x hx
    have b2 := I.rest_bounds S (oc pe) hpe
    have := sq_inj' W isn x.1 pe.1 cs.flatten.length (Nat.le_of_lt S.hLW) b1.2 b2.2 h
    exact ⟨pe, self_mem_insP pe pend, this.symm⟩

theorem Inv.fresh (I : Inv W isn cs rs st done rest k pend) {o : Nat} {c : Bytes}
    (hp : (o, c) ∈ offs 0 cs) (hns : sq W isn o ∉ st.seen) :
    (o, c) ∈ offs done.flatten.length rest ∧ ∀ a ∈ pend, a.1 ≠ o := by
  refine ⟨?_, fun a ha h => hns (h ▸ I.seenPend a ha)⟩
  rw [I.split, offs_append, Nat.zero_add] at hp
  exact (List.mem_append.mp hp).resolve_left fun h => hns (I.seenDone _ h)

theorem Inv.seenPend_insP (I : Inv W isn cs rs st done rest k pend) (pe : P) :
    ∀ e ∈ insP pe pend, sq W isn e.1 ∈ st.seen ++ [sq W isn pe.1] := by
  intro e he
  rcases (ReasmSort.mem_insP pe pend e).mp he with rfl | he
  · exact List.mem_append_right _ (List.mem_singleton.mpr rfl)
  · exact List.mem_append_left _ (I.seenPend e he)

/-- Before anything was delivered `min` picks a buffered chunk with the least key, and relative to the first segment the
    key grows with the offset: no buffered chunk lies before it. -/
theorem baseOf_inv (S : Setup W cs rs) (I : Inv W isn cs rs st done rest k pend) (pe : P)
    (hpe : oc pe ∈ offs done.flatten.length rest) (first : Seg) (tl : List Seg)
    (hb : pend.map (toSeg W isn) ++ [toSeg W isn pe] = first :: tl) :
    ∃ b, baseOf W st.next first tl = sq W isn b ∧ (∀ a ∈ insP pe pend, b ≤ a.1) ∧
      (st.next ≠ none → b = done.flatten.length) := by
  have hmemAll := I.mem_insP hpe
  rcases I.next with h | ⟨hn, _⟩
  · exact ⟨done.flatten.length, by rw [h]; rfl, fun a ha => (I.rest_bounds S _ (hmemAll a ha)).1, fun _ => rfl⟩
  · have hseg : ∀ x, x ∈ first :: tl ↔ ∃ a ∈ insP pe pend, x = toSeg W isn a := by
      intro x
      rw [← hb, List.mem_append, List.mem_map, List.mem_singleton]
      constructor
      · rintro (⟨a, ha, rfl⟩ | rfl)
        · exact ⟨a, (ReasmSort.mem_insP pe pend a).mpr (Or.inr ha), rfl⟩
        · exact ⟨pe, self_mem_insP pe pend, rfl⟩
      · rintro ⟨a, ha, rfl⟩
        rcases (ReasmSort.mem_insP pe pend a).mp ha with rfl | ha
        · exact Or.inr rfl
        · exact Or.inl ⟨a, ha, rfl⟩
    obtain ⟨e0, he0, hfirst⟩ := (hseg first).mp List.mem_cons_self
    have hlt : ∀ a ∈ insP pe pend, a.1 < cs.flatten.length := fun a ha => (I.rest_bounds S _ (hmemAll a ha)).2
    have hkey : ∀ a ∈ insP pe pend, presyncKey W first.seq (toSeg W isn a) = a.1 + W / 2 - e0.1 := by
      intro a ha
      have := hlt a ha; have := hlt e0 he0; have := S.hL
      rw [hfirst]
      exact presyncKey_sq_eq W isn e0.1 a.1 a.2.1 a.2.2 (by omega) (by omega)
    obtain ⟨hm, hmin⟩ := minBy_spec (presyncKey W first.seq) first tl
    obtain ⟨m, hmI, hme⟩ := (hseg _).mp hm
    refine ⟨m.1, by rw [hn]; show (minBy (presyncKey W first.seq) first tl).seq = _; rw [hme]; rfl,
      fun a ha => ?_, fun h => absurd hn h⟩
    have := hmin _ ((hseg _).mpr ⟨a, ha, rfl⟩)
    rw [hme, hkey m hmI, hkey a ha] at this
    have := hlt e0 he0; have := S.hL
    omega

theorem sort_inv (S : Setup W cs rs)
    (I : Inv W isn cs rs st done rest k pend) (pe : P) (hpe : oc pe ∈ offs done.flatten.length rest)
    (hfresh : ∀ a ∈ pend, a.1 ≠ pe.1) (b : Nat) (hb : ∀ a ∈ insP pe pend, b ≤ a.1) :
    sortBy (syncKey W (sq W isn b)) (pend.map (toSeg W isn) ++ [toSeg W isn pe]) =
      (insP pe pend).map (toSeg W isn) := by
  have hrange : ∀ a : P, a ∈ insP pe pend → b ≤ a.1 ∧ a.1 - b < W := by
    intro a ha
    have b1 := I.rest_bounds S (oc a) (I.mem_insP hpe a ha)
    have := S.hLW
    have := hb a ha
    simp only [oc] at b1
    omega
  have hin : ∀ a ∈ pend, a ∈ insP pe pend := fun a ha => (mem_insP pe pend a).mpr (Or.inr ha)
  have hpein := self_mem_insP pe pend
  have hk : ∀ a : P, a ∈ insP pe pend → syncKey W (sq W isn b) (toSeg W isn a) = a.1 - b :=
    fun a ha => syncKey_sq W isn b a.1 a.2.1 a.2.2 (hrange a ha).1 (hrange a ha).2
  rw [sortBy_append_one]
  · exact insertBy_toSeg W isn b pe pend (hrange pe hpein) (fun a ha => hrange a (hin a ha))
  · rw [List.pairwise_map]
    refine List.Pairwise.imp_of_mem ?_ I.sorted
    intro a c ha hc hac
    rw [hk a (hin a ha), hk c (hin c hc)]
    have := hrange a (hin a ha); have := hrange c (hin c hc)
    omega
  · intro x hx
    obtain ⟨a, ha, rfl⟩ := List.mem_map.mp hx
    rw [hk a (hin a ha), hk pe hpein]
    have := hrange a (hin a ha); have := hrange pe hpein
    have := hfresh a ha
    omega

/-- The base `sq b` is the next expected sequence number or, while nothing has been delivered, that of the least
    buffered offset — 0 once the chunk at offset 0 is there. -/
theorem Inv.absorb (S : Setup W cs rs) (I : Inv W isn cs rs st done rest k pend) (pe : P)
    (hpe : oc pe ∈ offs done.flatten.length rest) (hfresh : ∀ a ∈ pend, a.1 ≠ pe.1) (seen : List Nat) :
    ∃ b, extract W { st with seen := seen, buf := st.buf ++ [toSeg W isn pe] } =
        deliver W { st with seen := seen, buf := st.buf ++ [toSeg W isn pe] } (sq W isn b)
          ((insP pe pend).map (toSeg W isn)) ∧
      (∀ a ∈ insP pe pend, b ≤ a.1) ∧ (b = done.flatten.length ∨ (done = [] ∧ 0 < b)) := by
  obtain ⟨first, tl, hft⟩ := List.exists_cons_of_ne_nil
    (show pend.map (toSeg W isn) ++ [toSeg W isn pe] ≠ [] by simp)
  obtain ⟨b, hbase, hble, hbsync⟩ := baseOf_inv S I pe hpe first tl hft
  refine ⟨b, ?_, hble, ?_⟩
  · rw [extract_of_cons W _ first tl (by simp only [I.buf]; exact hft)]
    simp only
    rw [hbase, ← hft, sort_inv S I pe hpe hfresh b hble]
  · rcases I.next with hn | ⟨hn, hd⟩
    · exact .inl (hbsync (by rw [hn]; simp))
    · by_cases hb0 : b = 0
      · exact .inl (by rw [hd]; simpa using hb0)
      · exact .inr ⟨hd, by omega⟩

theorem Inv.before_origin (S : Setup W cs rs) (I : Inv W isn cs rs st done rest k pend) (pe : P)
    (hpe : oc pe ∈ offs done.flatten.length rest) (hd : done = []) {b : Nat} (hb : 0 < b)
    (hble : ∀ a ∈ insP pe pend, b ≤ a.1) :
    (∀ x ∈ st.seen ++ [sq W isn pe.1], x ≠ sq W isn 0) ∧
      ¬ Flushable W (sq W isn done.flatten.length) ((insP pe pend).map (toSeg W isn)) := by
  have hpos : ∀ a ∈ insP pe pend, a.1 ≠ 0 := fun a ha h => by have := hble a ha; omega
  constructor
  · intro x hx hx0
    obtain ⟨c0, rest', hrest⟩ := List.exists_cons_of_ne_nil
      (show rest ≠ [] by intro h; rw [h] at hpe; simp [offs] at hpe)
    obtain ⟨e, he, h1⟩ := seenRest_step S I pe hpe (0, c0) (by rw [hrest, hd]; simp [offs]) (hx0 ▸ hx)
    exact hpos e he h1
  · rintro ⟨⟨h, t, hht, hseq⟩, _, _⟩
    obtain ⟨e, he, rfl⟩ := List.mem_map.mp (hht ▸ List.mem_cons_self : h ∈ (insP pe pend).map (toSeg W isn))
    rw [hd] at hseq
    have hlt : e.1 < cs.flatten.length := (I.rest_bounds S (oc e) (I.mem_insP hpe e he)).2
    exact hpos e he (sq_inj' W isn e.1 0 cs.flatten.length (Nat.le_of_lt S.hLW) hlt (by omega) hseq)

theorem Inv.keep (S : Setup W cs rs) (I : Inv W isn cs rs st done rest k pend) (pe : P)
    (hpe : oc pe ∈ offs done.flatten.length rest) (hfresh : ∀ a ∈ pend, a.1 ≠ pe.1)
    (hst : ¬ Flushable W (sq W isn done.flatten.length) ((insP pe pend).map (toSeg W isn))) :
    Inv W isn cs rs { st with seen := st.seen ++ [sq W isn pe.1], buf := (insP pe pend).map (toSeg W isn) }
      done rest k (insP pe pend) where
  split := I.split
  recs := I.recs
  bound := I.bound
  next := I.next
  buf := rfl
  sorted := sorted_insP pe pend I.sorted hfresh
  mem := I.mem_insP hpe
  seenDone := fun x hx => List.mem_append_left _ (I.seenDone x hx)
  seenPend := Inv.seenPend_insP I pe
  seenRest := fun x hx hs => seenRest_step S I pe hpe x hx hs
  stuck := Or.inr hst

theorem Inv.frames (S : Setup W cs rs) (I : Inv W isn cs rs st done rest k pend) {front back : List Bytes}
    (hrest : rest = front ++ back) {buf : List Seg} {recs : List Rec} (hdata : bufData buf = front.flatten)
    (hflush : flush buf = some recs) :
    ∃ j, recs.map (·.1) = (rs.drop k).take j ∧ ((rs.drop k).take j).flatten = front.flatten := by
  have hpre : front.flatten = (rs.drop k).flatten.take front.flatten.length := by
    rw [I.rest_stream S, hrest, List.flatten_append, List.take_left' rfl]
  have hscan : scanD ((rs.drop k).flatten.take front.flatten.length) = some (recs.map (·.1)) := by
    have := flush_fst buf
    rw [hflush, hdata, hpre] at this
    simpa using this.symm
  obtain ⟨j, hj1, hj2⟩ := scanD_take (rs.drop k) (fun r hr => S.hwf r (List.mem_of_mem_drop hr)) _ _ hscan
  exact ⟨j, hj1, hj2.trans hpre.symm⟩

theorem Inv.release (S : Setup W cs rs) (I : Inv W isn cs rs st done rest k pend) (pe : P)
    (hpe : oc pe ∈ offs done.flatten.length rest) {front back : List Bytes} (hrest : rest = front ++ back)
    (hbuf : (insP pe pend).map oc = offs done.flatten.length front) {recs : List Rec} {j : Nat}
    (hrecs : recs.map (·.1) = (rs.drop k).take j) (hj : ((rs.drop k).take j).flatten = front.flatten) :
    Inv W isn cs rs
      { seen := st.seen ++ [sq W isn pe.1], next := some (sq W isn (done ++ front).flatten.length), buf := [],
        out := st.out ++ recs } (done ++ front) back (k + j) [] where
  split := by rw [List.append_assoc, ← hrest]; exact I.split
  recs := by simp only [List.map_append]; rw [I.recs, hrecs, List.take_add]
  bound := by
    rw [List.take_add, List.flatten_append, List.length_append, I.bound, hj, List.flatten_append, List.length_append]
  next := Or.inl rfl
  buf := rfl
  sorted := List.Pairwise.nil
  mem := fun _ h => nomatch h
  seenDone := by
    intro x hx
    rw [offs_append, Nat.zero_add] at hx
    rcases List.mem_append.mp hx with hx | hx
    · exact List.mem_append_left _ (I.seenDone x hx)
    · rw [← hbuf] at hx
      obtain ⟨e, he, rfl⟩ := List.mem_map.mp hx
      exact Inv.seenPend_insP I pe e he
  seenPend := fun _ h => nomatch h
  seenRest := by
    -- a chunk of `back` that has been seen would be buffered, hence in `front`: but `front` ends where `back` begins
    intro x hx hs
    exfalso
    rw [List.flatten_append, List.length_append] at hx
    obtain ⟨e, he, h1⟩ := seenRest_step S I pe hpe x
      (by rw [hrest, offs_append]; exact List.mem_append_right _ hx) hs
    have b1 := offs_bounds _ _ _ (hbuf ▸ List.mem_map_of_mem he : oc e ∈ offs done.flatten.length front)
    have b2 := offs_bounds _ _ _ hx
    have hpos : 0 < (oc e).2.length :=
      List.length_pos_iff.mpr (I.rest_ne S _ (hrest ▸ List.mem_append_left _ b1.2.2))
    simp only [oc] at b1 hpos
    omega
  stuck := Or.inl rfl

/-- `hearly`: as long as the chunk at offset 0 has not been seen, nothing has been handed on (used only while nothing
    was delivered). -/
theorem step_inv (S : Setup W cs rs)
    (I : Inv W isn cs rs st done rest k pend) (p : Seg) (o : Nat)
    (hp : (o, p.data) ∈ offs 0 cs) (hseq : p.seq = sq W isn o)
    (hearly : (∀ x ∈ (stepW W st p).seen, x ≠ sq W isn 0) → (stepW W st p).out = []) :
    ∃ done' rest' k' pend', Inv W isn cs rs (stepW W st p) done' rest' k' pend' := by
  unfold stepW at hearly ⊢
  by_cases hc : st.seen.contains p.seq = true
  · rw [if_pos hc]; exact ⟨done, rest, k, pend, I⟩
  rw [if_neg hc] at hearly ⊢
  have hns : sq W isn o ∉ st.seen := by rw [← hseq]; simpa using hc
  let pe : P := (o, p.id, p.data)
  obtain ⟨hpe, hfresh⟩ : oc pe ∈ offs done.flatten.length rest ∧ ∀ a ∈ pend, a.1 ≠ pe.1 := I.fresh hp hns
  have hto : p = toSeg W isn pe := by cases p; simp only [toSeg, pe]; simp only at hseq; rw [hseq]
  obtain ⟨b, hext, hble, hb⟩ := I.absorb S pe hpe hfresh (st.seen ++ [p.seq])
  rw [← hto] at hext
  rw [hext] at hearly ⊢
  have hmem' := I.mem_insP hpe
  obtain ⟨h, t, hht⟩ := List.exists_cons_of_ne_nil
    (List.ne_nil_of_mem (List.mem_map_of_mem (f := toSeg W isn) (self_mem_insP pe pend)))
  rw [hht] at hearly ⊢
  rcases deliver_cases W { st with seen := st.seen ++ [p.seq], buf := st.buf ++ [p] }
      (sq W isn b) h t with ⟨hnf, heq⟩ | ⟨recs, hfl, hflush, heq⟩
  · rw [heq, ← hht, hseq]
    refine ⟨done, rest, k, insP pe pend, I.keep S pe hpe hfresh ?_⟩
    rcases hb with hb | ⟨hd, hbpos⟩
    · rw [← hb, hht]; exact hnf
    · exact (I.before_origin S pe hpe hd hbpos hble).2
  · rw [heq] at hearly ⊢
    rw [← hht] at hfl hflush
    obtain ⟨⟨h', t', hh', hhseq⟩, hcont, _⟩ := hfl
    have hb' : b = done.flatten.length := by
      refine hb.elim id fun ⟨hd, hbpos⟩ => False.elim ?_
      -- before the origin something would be handed on: excluded by `hearly`
      have hout := hearly (hseq ▸ (I.before_origin S pe hpe hd hbpos hble).1)
      rw [(List.append_eq_nil_iff.mp hout).2] at hflush
      have := flush_nil hflush
      rw [bufData_toSeg] at this
      exact I.rest_ne S _ (offs_bounds _ _ _ hpe).2.2 (List.flatten_eq_nil_iff.mp this pe.2.2
        (List.mem_map.mpr ⟨oc pe, List.mem_map_of_mem (self_mem_insP pe pend), rfl⟩))
    subst hb'
    have hhead : ∀ e t, insP pe pend = e :: t → e.1 = done.flatten.length := by
      intro e t2 he
      have h1 : sq W isn done.flatten.length = sq W isn e.1 := by
        rw [← hhseq]; rw [he] at hh'; exact (List.cons.inj hh').1 ▸ rfl
      have hbd := I.rest_bounds S (oc e) (hmem' e (by rw [he]; exact List.mem_cons_self))
      have := S.hLW
      simp only [oc] at hbd
      exact (sq_inj' W isn done.flatten.length e.1 (cs.flatten.length + 1) (by omega) (by omega) (by omega) h1).symm
    obtain ⟨front, back, hrest, hpre⟩ := contig_prefix W isn cs.flatten.length S.hLW (insP pe pend)
      done.flatten.length rest (I.rest_ne S) (Nat.le_of_eq I.len) (sorted_insP pe pend I.sorted hfresh) hmem' hhead hcont
    have hdata : bufData ((insP pe pend).map (toSeg W isn)) = front.flatten := by
      rw [bufData_toSeg, hpre, offs_map_snd]
    obtain ⟨j, hj1, hj2⟩ := I.frames S hrest hdata hflush
    refine ⟨done ++ front, back, k + j, [], ?_⟩
    have := I.release S pe hpe hrest hpre hj1 hj2
    rw [List.flatten_append (L₁ := done), List.length_append, ← sq_add, ← hdata, hht] at this
    rw [hseq]
    exact this

/-- `pre` is the part already worked through. -/
theorem fold_inv_from (S : Setup W cs rs) (segs : List Seg)
    (hcopy : ∀ p ∈ segs, p.data ≠ [] ∧ ∃ o, (o, p.data) ∈ offs 0 cs ∧ p.seq = sq W isn o)
    (hearly : ∀ pre post, segs = pre ++ post → (∀ s ∈ pre, s.seq ≠ sq W isn 0) →
      (pre.foldl (ingestW W) St.init).out = []) :
    ∀ (post pre : List Seg), segs = pre ++ post → ∀ {done rest : List Bytes} {k : Nat} {pend : List P},
      Inv W isn cs rs (pre.foldl (ingestW W) St.init) done rest k pend →
      (∀ p ∈ pre, p.seq ∈ (pre.foldl (ingestW W) St.init).seen) →
      ∃ done rest k pend, Inv W isn cs rs (segs.foldl (ingestW W) St.init) done rest k pend ∧
        ∀ p ∈ segs, p.seq ∈ (segs.foldl (ingestW W) St.init).seen := by
  intro post
  induction post with
  | nil =>
    intro pre h _ _ _ _ I hseen
    rw [List.append_nil] at h
    subst h
    exact ⟨_, _, _, _, I, hseen⟩
  | cons p post ih =>
    intro pre h done rest k pend I hseen
    have h' : segs = (pre ++ [p]) ++ post := by rw [h, List.append_assoc]; rfl
    obtain ⟨hpne, o, hpo, hseq⟩ := hcopy p (by rw [h]; exact List.mem_append_right _ List.mem_cons_self)
    have hfold : (pre ++ [p]).foldl (ingestW W) St.init = stepW W (pre.foldl (ingestW W) St.init) p := by
      rw [List.foldl_append, List.foldl_cons, List.foldl_nil, ingestW, if_neg (by simpa using hpne)]
    have hall : ∀ q ∈ pre ++ [p], q.seq ∈ (stepW W (pre.foldl (ingestW W) St.init) p).seen := by
      intro q hq
      rw [stepW_seen]
      rcases List.mem_append.mp hq with hq | hq
      · split
        · exact hseen q hq
        · exact List.mem_append_left _ (hseen q hq)
      · rw [List.mem_singleton.mp hq]
        split
        · rename_i hc; simpa using hc
        · simp
    obtain ⟨_, _, _, _, I1⟩ := step_inv S I p o hpo hseq (fun hno => by
      have := hearly _ _ h' (fun s hs => hno _ (hall s hs))
      rwa [hfold] at this)
    exact ih (pre ++ [p]) h' (hfold ▸ I1) (hfold ▸ hall)

theorem inv_final (S : Setup W cs rs)
    (I : Inv W isn cs rs st done rest k pend) (hall : ∀ x ∈ offs 0 cs, sq W isn x.1 ∈ st.seen) :
    st.out.map (·.1) = rs := by
  have hrne := I.rest_ne S
  have hpend : pend.map oc = offs done.flatten.length rest := by
    apply sorted_ext Prod.fst
    · rw [List.pairwise_map]; exact I.sorted
    · exact offs_sorted _ _ hrne
    · intro x
      constructor
      · intro hx
        obtain ⟨e, he, rfl⟩ := List.mem_map.mp hx
        exact I.mem e he
      · intro hx
        have hx0 : x ∈ offs 0 cs := by
          rw [I.split, offs_append, Nat.zero_add]; exact List.mem_append_right _ hx
        obtain ⟨e, he, h1⟩ := I.seenRest x hx (hall x hx0)
        have := offs_functional _ _ hrne (oc e) x (I.mem e he) hx h1
        rw [← this]; exact List.mem_map_of_mem he
  have hwf' : ∀ r ∈ rs.drop k, WF r := fun r hr => S.hwf r (List.mem_of_mem_drop hr)
  have hrest : rest = [] := by
    cases hr : rest with
    | nil => rfl
    | cons c0 rest' =>
      exfalso
      rw [hr] at hpend
      cases hp : pend with
      | nil => rw [hp] at hpend; simp [offs] at hpend
      | cons e t =>
        have hfl : Flushable W (sq W isn done.flatten.length) st.buf := by
          rw [I.buf]
          refine ⟨?_, contiguous_of_offs W isn pend _ _ hpend, ?_⟩
          · rw [hp] at hpend ⊢
            simp only [List.map_cons, offs, List.cons.injEq] at hpend
            have : e.1 = done.flatten.length := congrArg Prod.fst hpend.1
            exact ⟨toSeg W isn e, t.map (toSeg W isn), rfl, by simp [toSeg, this]⟩
          · have h1 := flush_fst (pend.map (toSeg W isn))
            rw [bufData_toSeg, hpend, offs_map_snd, ← hr, ← I.rest_stream S, scanD_flatten _ hwf'] at h1
            cases hf : flush (pend.map (toSeg W isn)) with
            | none => rw [hf] at h1; exact absurd h1 (by simp)
            | some _ => rfl
        rcases I.stuck with hb | hb
        · rw [I.buf, hp] at hb; exact absurd hb (by simp)
        · exact hb hfl
  have hk : rs.drop k = [] := wf_flatten_nil _ hwf' (by rw [I.rest_stream S, hrest]; rfl)
  rw [I.recs]
  have := List.take_append_drop k rs
  rw [hk, List.append_nil] at this
  exact this

end
end TLX.Lemmas.ReasmInv
