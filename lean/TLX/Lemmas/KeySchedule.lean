/-
Helper lemmas for C15 (loop-to-spec, stream prefixes, slice algebra). Core Lean only.
-/
import TLX.KeySchedule
import TLX.Spec.KeySchedules
namespace TLX.Lemmas.KeySchedule
open TLX TLX.Crypto TLX.KeySchedule
open TLX.Spec.KeySchedules

theorem exists_of_map_ok {ε α β : Type} {f : α → β} {r : Except ε α} {y : β} (h : r.map f = .ok y) :
    ∃ a, r = .ok a ∧ f a = y := by
  cases r with
  | error e => cases h
  | ok a => exact ⟨a, rfl, Except.ok.inj h⟩

theorem lt_ceilDiv_iff (n L j : Nat) (hL : 0 < L) : j < ceilDiv n L ↔ j * L < n := by
  unfold ceilDiv
  rw [Nat.lt_iff_add_one_le, Nat.le_div_iff_mul_le hL, Nat.add_mul]
  omega

theorem ceilDiv_le_self (n L : Nat) (hL : 0 < L) : ceilDiv n L ≤ n := by
  false_or_by_contra; rename_i h
  have h1 : n < ceilDiv n L := by omega
  rw [lt_ceilDiv_iff n L n hL] at h1
  have := Nat.le_mul_of_pos_right n hL
  omega

theorem ceilDiv_mul_ge (n L : Nat) (hL : 0 < L) : n ≤ ceilDiv n L * L := by
  false_or_by_contra; rename_i h
  have : ceilDiv n L < ceilDiv n L := (lt_ceilDiv_iff n L _ hL).2 (by omega)
  omega

theorem ceilDiv_mono (n n' L : Nat) (hL : 0 < L) (h : n ≤ n') : ceilDiv n L ≤ ceilDiv n' L := by
  unfold ceilDiv
  exact Nat.div_le_div_right (by omega)

theorem concatTerms_succ (t : Nat → Bytes) (m : Nat) : concatTerms t (m + 1) = concatTerms t m ++ t m := by
  simp [concatTerms, List.range_succ, List.flatMap_append]

theorem concatTerms_length (t : Nat → Bytes) (L : Nat) (hlen : ∀ j, (t j).length = L) (m : Nat) :
    (concatTerms t m).length = m * L := by
  induction m with
  | zero => simp [concatTerms]
  | succ m ih => rw [concatTerms_succ, List.length_append, ih, hlen, Nat.add_mul]; omega

theorem concatTerms_add (t : Nat → Bytes) (m k : Nat) :
    concatTerms t (m + k) = concatTerms t m ++ concatTerms (fun i => t (m + i)) k := by
  induction k with
  | zero => simp [concatTerms]
  | succ k ih => rw [← Nat.add_assoc, concatTerms_succ, ih, concatTerms_succ, List.append_assoc]

theorem take_concatTerms_of_le (t : Nat → Bytes) (L : Nat) (hlen : ∀ j, (t j).length = L) (m m' n : Nat)
    (hm : m ≤ m') (hn : n ≤ m * L) : (concatTerms t m').take n = (concatTerms t m).take n := by
  obtain ⟨k, rfl⟩ : ∃ k, m' = m + k := ⟨m' - m, by omega⟩
  rw [concatTerms_add, List.take_append_of_le_length]
  rw [concatTerms_length t L hlen]; exact hn

theorem stream_prefix (t : Nat → Bytes) (L : Nat) (hL : 0 < L) (hlen : ∀ j, (t j).length = L) (n n' : Nat)
    (h : n ≤ n') :
    ((concatTerms t (ceilDiv n' L)).take n').take n = (concatTerms t (ceilDiv n L)).take n := by
  rw [List.take_take, Nat.min_eq_left h]
  exact take_concatTerms_of_le t L hlen _ _ _ (ceilDiv_mono n n' L hL h) (ceilDiv_mul_ge n L hL)

theorem stream_length (t : Nat → Bytes) (L : Nat) (hL : 0 < L) (hlen : ∀ j, (t j).length = L) (n : Nat) :
    ((concatTerms t (ceilDiv n L)).take n).length = n := by
  rw [List.length_take, concatTerms_length t L hlen]
  have := ceilDiv_mul_ge n L hL
  omega

theorem whileShort_terms {σ : Type} (body : σ → R (σ × Bytes)) (st : Nat → σ) (t : Nat → Bytes) (L n K : Nat)
    (hL : 0 < L) (hbody : ∀ j, j < K → body (st j) = .ok (st (j + 1), t j)) (hlen : ∀ j, (t j).length = L)
    (hK : ceilDiv n L ≤ K) :
    ∀ fuel j, j ≤ ceilDiv n L → ceilDiv n L ≤ j + fuel →
      whileShort body n fuel (st j) (concatTerms t j) = .ok (concatTerms t (ceilDiv n L)) := by
  intro fuel
  induction fuel with
  | zero =>
    intro j h1 h2
    have hj : j = ceilDiv n L := by omega
    subst hj
    have : ¬ (concatTerms t (ceilDiv n L)).length < n := by
      rw [concatTerms_length t L hlen]; have := ceilDiv_mul_ge n L hL; omega
    unfold whileShort
    rw [if_neg this]
  | succ fuel ih =>
    intro j h1 h2
    unfold whileShort
    rw [concatTerms_length t L hlen]
    by_cases hlt : j * L < n
    · have hjm : j < ceilDiv n L := (lt_ceilDiv_iff n L j hL).2 hlt
      rw [if_pos hlt, hbody j (by omega)]
      simp only
      rw [← concatTerms_succ]
      exact ih (j + 1) (by omega) (by omega)
    · have hjm : ¬ j < ceilDiv n L := fun h => hlt ((lt_ceilDiv_iff n L j hL).1 h)
      have hj : j = ceilDiv n L := by omega
      rw [if_neg hlt, ← hj]

theorem whileShort_eq {σ : Type} (body : σ → R (σ × Bytes)) (st : Nat → σ) (t : Nat → Bytes) (L n K : Nat)
    (hL : 0 < L) (hbody : ∀ j, j < K → body (st j) = .ok (st (j + 1), t j)) (hlen : ∀ j, (t j).length = L)
    (hK : ceilDiv n L ≤ K) :
    whileShort body n n (st 0) [] = .ok (concatTerms t (ceilDiv n L)) := by
  have := whileShort_terms body st t L n K hL hbody hlen hK n 0 (by omega)
    (by have := ceilDiv_le_self n L hL; omega)
  simpa [concatTerms] using this

theorem partition_fields (kb : Bytes) (m k i : Nat) :
    partition kb m k i = ⟨kb.take m, (kb.drop m).take m, (kb.drop (2*m)).take k, (kb.drop (2*m+k)).take k,
      (kb.drop (2*m+2*k)).take i, (kb.drop (2*m+2*k+i)).take i⟩ := by
  simp only [partition, List.splitAt_eq, List.drop_drop, Nat.two_mul, ← Nat.add_assoc]

theorem take_drop_take (kb : Bytes) (N a l : Nat) (h : a + l ≤ N) :
    ((kb.take N).drop a).take l = (kb.drop a).take l := by
  rw [List.drop_take, List.take_take, Nat.min_eq_left (by omega)]

/-- a model key block read as the RFC's record -/
def toSpec (k : Keys6) : KeyMaterial := ⟨k.clientMac, k.serverMac, k.clientKey, k.serverKey, k.clientIv, k.serverIv⟩

theorem slice_take (kb : Bytes) (N a b l : Nat) (hl : b = a + l) (h : b ≤ N) :
    kb.slice a b = ((kb.take N).drop a).take l := by
  subst hl
  rw [Bytes.slice, Nat.add_sub_cancel_left, take_drop_take kb N a l h]

theorem sliceKeys_eq_partition (kb : Bytes) (m k i N : Nat) (hN : 2*m+2*k+2*i ≤ N) :
    toSpec (sliceKeys kb m k i) = partition (kb.take N) m k i := by
  rw [partition_fields]
  -- written as successive sums the bounds have the form `a`, `a + l`; each slice ends before the last one does
  simp only [toSpec, sliceKeys, Nat.two_mul, ← Nat.add_assoc] at hN ⊢
  have h5 := Nat.le_trans (Nat.le_add_right _ i) hN
  have h4 := Nat.le_trans (Nat.le_add_right _ i) h5
  have h3 := Nat.le_trans (Nat.le_add_right _ k) h4
  have h2 := Nat.le_trans (Nat.le_add_right _ k) h3
  have h1 := Nat.le_trans (Nat.le_add_right _ m) h2
  congr 1
  · exact slice_take kb N 0 m m (Nat.zero_add m).symm h1
  · exact slice_take kb N _ _ m rfl h2
  · exact slice_take kb N _ _ k rfl h3
  · exact slice_take kb N _ _ k rfl h4
  · exact slice_take kb N _ _ i rfl h5
  · exact slice_take kb N _ _ i rfl hN


/-- The key-block functions differ only in the PRF: the six slices of a longer output of a prefix-stable
    stream are the RFC's partition of the output of exactly the partition's length. -/
theorem sliceKeys_stream (S : Nat → Bytes) (hS : ∀ n n', n ≤ n' → (S n').take n = S n) (m k i N : Nat)
    (hN : 2*m+2*k+2*i ≤ N) : toSpec (sliceKeys (S N) m k i) = partition (S (2*m+2*k+2*i)) m k i := by
  rw [sliceKeys_eq_partition _ _ _ _ _ (Nat.le_refl _), hS _ _ hN]

theorem pHashLoop_eq (h : HashSuite) (hl : h.Lawful) (secret seed : Bytes) (n : Nat) :
    whileShort (pHashBody h.hmac secret seed) n n seed [] =
      .ok (concatTerms (pHashTerm h secret seed) (ceilDiv n h.outLen)) :=
  whileShort_eq (pHashBody h.hmac secret seed) (A h secret seed) (pHashTerm h secret seed) h.outLen n
    (ceilDiv n h.outLen) hl.outLen_pos (fun _ _ => rfl) (fun _ => hl.hmac_len _ _) (Nat.le_refl _)

theorem pHash_length (h : HashSuite) (hl : h.Lawful) (secret seed : Bytes) (n : Nat) :
    (pHash h secret seed n).length = n :=
  stream_length _ h.outLen hl.outLen_pos (fun _ => hl.hmac_len _ _) n

theorem pHash_prefix (h : HashSuite) (hl : h.Lawful) (secret seed : Bytes) (n n' : Nat) (hn : n ≤ n') :
    (pHash h secret seed n').take n = pHash h secret seed n :=
  stream_prefix _ h.outLen hl.outLen_pos (fun _ => hl.hmac_len _ _) n n' hn

theorem xorZip_eq_xorBytes (a b : Bytes) : xorZip a b = xorBytes a b := by
  induction a generalizing b with
  | nil => rfl
  | cons x xs ih =>
    cases b with
    | nil => rfl
    | cons y ys => exact congrArg (_ :: ·) (ih ys)

theorem xorBytes_take (a b : Bytes) (n : Nat) : (xorBytes a b).take n = xorBytes (a.take n) (b.take n) := by
  rw [← xorZip_eq_xorBytes, ← xorZip_eq_xorBytes]; exact List.take_zipWith

theorem xorBytes_length (a b : Bytes) : (xorBytes a b).length = min a.length b.length := by
  rw [← xorZip_eq_xorBytes]; exact List.length_zipWith

theorem prf10_length (P : Prims) (hmd5 : P.md5.Lawful) (hsha : P.sha1.Lawful) (secret label seed : Bytes) (n : Nat) :
    (prf10 P.md5 P.sha1 secret label seed n).length = n := by
  simp [prf10, xorBytes_length, pHash_length _ hmd5, pHash_length _ hsha]

theorem bKeyExpansion_eq : bKeyExpansion = asc "key expansion" := by decide +kernel
theorem bMasterSecret_eq : bMasterSecret = asc "master secret" := by decide +kernel

theorem tls12PrfHash_eq (P : Prims) (mac : MacTag) : tls12PrfHash P (mac = .sha384) = prfHash12 P mac := by
  cases mac <;> rfl

theorem prfHash12_lawful (P : Prims) (hP : P.Lawful) (mac : MacTag) : (prfHash12 P mac).Lawful := by
  unfold prfHash12; split; exact hP.sha384; exact hP.sha256

theorem secBits_get : ∀ j, j < 10 → secBits[j]? = some (UInt8.ofNat (0x41 + j)) := by decide

theorem ssl30Body_eq (P : Prims) (secret cr sr : Bytes) (nonKey : Bool) (j : Nat) (hj : j < 10) :
    ssl30Body P secret cr sr nonKey (j + 1) =
      .ok (j + 2, ssl3Term P.md5 P.sha1 secret (if nonKey then cr ++ sr else sr ++ cr) j) := by
  simp only [ssl30Body, Nat.add_sub_cancel, secBits_get j hj, ssl3Term, ssl3Salt]

theorem ssl3KeyBlock_prefix (P : Prims) (hmd5 : P.md5.Lawful) (master cr sr : Bytes) (n n' : Nat) (hn : n ≤ n') :
    (ssl3KeyBlock P.md5 P.sha1 master cr sr n').take n = ssl3KeyBlock P.md5 P.sha1 master cr sr n :=
  stream_prefix _ P.md5.outLen hmd5.outLen_pos (fun _ => hmd5.hash_len _) n n' hn

theorem prf10_prefix (P : Prims) (hmd5 : P.md5.Lawful) (hsha : P.sha1.Lawful) (secret label seed : Bytes) (n n' : Nat)
    (hn : n ≤ n') : (prf10 P.md5 P.sha1 secret label seed n').take n = prf10 P.md5 P.sha1 secret label seed n := by
  simp only [prf10, xorBytes_take, pHash_prefix _ hmd5 _ _ _ _ hn, pHash_prefix _ hsha _ _ _ _ hn]

theorem bTls13_eq : bTls13 = asc "tls13 " := by decide +kernel

/-- C15: `make_info(l, n)` is exactly RFC 8446 §7.1's `HkdfLabel` (length `n`, label `"tls13 " + l`, empty
    context) whenever both length fields fit, and raises OverflowError otherwise. -/
theorem _root_.TLX.Props.C15.hkdf_label_bytes (l : Bytes) (n : Nat) :
    makeInfo l n = if n < 65536 ∧ l.length + 6 < 256 then .ok (hkdfLabel n l []) else .error .overflow := by
  unfold makeInfo toBytes2 toBytes1
  by_cases h1 : n < 65536
  · by_cases h2 : l.length + 6 < 256
    · rw [if_pos h1, if_pos h2, if_pos ⟨h1, h2⟩]
      simp only [bind, Except.bind, pure, Except.pure, hkdfLabel, uint16, uint8, opaque8, ← bTls13_eq,
        List.length_append, List.append_assoc, List.cons_append, List.nil_append, List.length_nil,
        show bTls13.length = 6 from rfl, Nat.add_comm 6]
      rfl
    · rw [if_pos h1, if_neg h2, if_neg (show ¬ (n < 65536 ∧ l.length + 6 < 256) from fun h => h2 h.2)]; rfl
  · rw [if_neg h1, if_neg (show ¬ (n < 65536 ∧ l.length + 6 < 256) from fun h => h1 h.1)]; rfl

theorem makeInfo_ok (l : Bytes) (n : Nat) (h1 : n < 65536) (h2 : l.length + 6 < 256) :
    makeInfo l n = .ok (hkdfLabel n l []) := by
  rw [Props.C15.hkdf_label_bytes, if_pos ⟨h1, h2⟩]

/-- the value of the last key-log entry carrying label `l` (later assignments overwrite earlier ones) -/
def pick (l : Label) (acc : Option Bytes) (s : Secret) : Option Bytes := if s.1 = l then some s.2 else acc
def lastOf (l : Label) (ss : List Secret) : Option Bytes := ss.foldl (pick l) none

theorem tls13_keyInfo (keyLen : Nat) :
    [UInt8.ofNat (keyLen / 256), UInt8.ofNat (keyLen % 256)] ++ [0x09] ++ bTls13Key ++ [0x00] =
      hkdfLabel keyLen (asc "key") [] := by
  rw [hkdfLabel, opaque8, opaque8, show asc "tls13 " ++ asc "key" = bTls13Key by decide +kernel]
  rfl

theorem tls13_ivInfo : ([0x00, 0x0c] ++ [0x08] ++ bTls13Iv ++ [0x00] : Bytes) = hkdfLabel 12 (asc "iv") [] := by
  decide +kernel

def acc13 (f g : Bytes → Bytes) (c1 c2 c3 c4 : Option Bytes) : Tls13Acc :=
  { clientHsKey := c1.map f, clientHsIv := c1.map g, serverHsKey := c2.map f, serverHsIv := c2.map g,
    clientAppKey := c3.map f, clientAppIv := c3.map g, serverAppKey := c4.map f, serverAppIv := c4.map g }

theorem tls13_fold (h : HashSuite) (keyLen : Nat) (ki ii : Bytes) (ss : List Secret) :
    ∀ c1 c2 c3 c4,
      ss.foldl (tls13Step h keyLen ki ii)
          (acc13 (fun s => h.hkdfExpand s ki keyLen) (fun s => h.hkdfExpand s ii 12) c1 c2 c3 c4) =
        acc13 (fun s => h.hkdfExpand s ki keyLen) (fun s => h.hkdfExpand s ii 12)
          (ss.foldl (pick .clientHandshake) c1) (ss.foldl (pick .serverHandshake) c2)
          (ss.foldl (pick .clientTraffic0) c3) (ss.foldl (pick .serverTraffic0) c4) := by
  induction ss with
  | nil => intros; rfl
  | cons s ss ih =>
    intro c1 c2 c3 c4
    simp only [List.foldl_cons]
    rw [← ih]
    congr 1
    obtain ⟨l, v⟩ := s
    cases l <;> simp [tls13Step, acc13, pick]

theorem saltV1_eq : saltV1 = quicInitialSalt := by decide +kernel
theorem bClientIn_eq : bClientIn = asc "client in" := by decide +kernel
theorem bServerIn_eq : bServerIn = asc "server in" := by decide +kernel
theorem bQuicKey_eq : bQuicKey = asc "quic key" := by decide +kernel
theorem bQuicIv_eq : bQuicIv = asc "quic iv" := by decide +kernel
theorem bQuicHp_eq : bQuicHp = asc "quic hp" := by decide +kernel
theorem bQuicKu_eq : bQuicKu = asc "quic ku" := by decide +kernel

/-- a model triple read as the RFC's packet keys -/
def tripleSpec (t : QuicPacketKeys) : Triple := ⟨t.key, t.iv, t.hp⟩

def accQ (f : Bytes → Triple) (c1 c2 c3 c4 c5 c6 : Option Bytes) : QuicAcc :=
  { clientHs := c1.map f, serverHs := c2.map f, clientApp := c3.map fun s => (f s, s),
    serverApp := c4.map fun s => (f s, s), clientEarly := c5.map f, serverEarly := c6.map f }

theorem quic_fold (h : HashSuite) (keyLen : Nat) (ki ii hi : Bytes) (ss : List Secret) :
    ∀ c1 c2 c3 c4 c5 c6,
      ss.foldl (quicStep h keyLen ki ii hi)
          (accQ (fun s => ⟨h.hkdfExpand s ki keyLen, h.hkdfExpand s ii 12, h.hkdfExpand s hi keyLen⟩) c1 c2 c3 c4 c5 c6) =
        accQ (fun s => ⟨h.hkdfExpand s ki keyLen, h.hkdfExpand s ii 12, h.hkdfExpand s hi keyLen⟩)
          (ss.foldl (pick .clientHandshake) c1) (ss.foldl (pick .serverHandshake) c2)
          (ss.foldl (pick .clientTraffic0) c3) (ss.foldl (pick .serverTraffic0) c4)
          (ss.foldl (pick .clientEarly) c5) (ss.foldl (pick .serverEarly) c6) := by
  induction ss with
  | nil => intros; rfl
  | cons s ss ih =>
    intro c1 c2 c3 c4 c5 c6
    simp only [List.foldl_cons]
    rw [← ih]
    congr 1
    obtain ⟨l, v⟩ := s
    cases l <;> simp [quicStep, accQ, pick]

/-- The suite table of `set_tls_decryptors` is RFC 8446 B.4's: same code points, same key lengths,
    SHA-384 for 0x1302 only. -/
theorem quicSuiteParams_eq (P : Prims) (code : Nat) :
    quicSuiteParams P code =
      (quicSuiteKeyLength code).map fun n => (if quicSuiteUsesSha384 code then P.sha384 else P.sha256, n) := by
  unfold quicSuiteParams quicSuiteKeyLength quicSuiteUsesSha384
  by_cases a : code = 0x1301; · subst a; rfl
  by_cases b : code = 0x1302; · subst b; rfl
  by_cases c : code = 0x1303; · subst c; rfl
  by_cases d : code = 0x1304; · subst d; rfl
  rw [if_neg a, if_neg b, if_neg c, if_neg d, if_neg a, if_neg b, if_neg c, if_neg d]; rfl

theorem quicSuiteKeyLength_le {code n : Nat} (h : quicSuiteKeyLength code = some n) : n ≤ 32 := by
  unfold quicSuiteKeyLength at h
  by_cases a : code = 0x1301; · rw [if_pos a] at h; cases h; decide
  by_cases b : code = 0x1302; · rw [if_neg a, if_pos b] at h; cases h; decide
  by_cases c : code = 0x1303; · rw [if_neg a, if_neg b, if_pos c] at h; cases h; decide
  by_cases d : code = 0x1304; · rw [if_neg a, if_neg b, if_neg c, if_pos d] at h; cases h; decide
  rw [if_neg a, if_neg b, if_neg c, if_neg d] at h; cases h

/-- the RFC's Application decryptor of key-update generation `n`, in `QuicDecryptor.keys` order -/
def specGeneration (h : HashSuite) (keyLen : Nat) (server0 client0 : Bytes) (n : Nat) : QDec :=
  [quicKey h (quicGeneration h server0 n) keyLen, quicIv h (quicGeneration h server0 n),
   quicKey h (quicGeneration h client0 n) keyLen, quicIv h (quicGeneration h client0 n),
   quicGeneration h server0 n, quicGeneration h client0 n]

theorem quicGeneration_length (h : HashSuite) (hl : h.Lawful) (s0 : Bytes) (hs : s0.length = h.outLen) (n : Nat) :
    (quicGeneration h s0 n).length = h.outLen := by
  induction n with
  | zero => exact hs
  | succ n ih =>
    simp only [quicGeneration, quicNextSecret, hkdfExpandLabel, ih]
    exact hl.expand_len _ _ _ (by omega)

theorem keyUpdate_eq (h : HashSuite) (keyLen : Nat) (hk : keyLen < 65536) (ho : h.outLen < 65536) (d : QDec)
    (sS sC : Bytes) (h4 : d[4]? = some sS) (h5 : d[5]? = some sC) (hS : sS.length = h.outLen)
    (hC : sC.length = h.outLen) :
    keyUpdate h keyLen d =
      .ok [quicKey h (quicNextSecret h sS) keyLen, quicIv h (quicNextSecret h sS),
           quicKey h (quicNextSecret h sC) keyLen, quicIv h (quicNextSecret h sC),
           quicNextSecret h sS, quicNextSecret h sC] := by
  simp only [keyUpdate, makeInfo_ok bQuicKey keyLen hk (by decide), makeInfo_ok bQuicIv 12 (by decide) (by decide),
    makeInfo_ok bQuicKu h.outLen ho (by decide), bind, Except.bind, h4, h5, pure, Except.pure]
  simp only [quicKey, quicIv, quicNextSecret, hkdfExpandLabel, hS, hC, bQuicKey_eq, bQuicIv_eq, bQuicKu_eq]

/-- `n` successive `key_update`s -/
def iterKeyUpdate (h : HashSuite) (keyLen : Nat) : Nat → QDec → R QDec
  | 0, d => .ok d
  | n + 1, d => (iterKeyUpdate h keyLen n d).bind (keyUpdate h keyLen)

theorem keyUpdate_specGeneration (h : HashSuite) (hl : h.Lawful) (keyLen : Nat) (hk : keyLen < 65536)
    (ho : h.outLen < 65536) (s0 c0 : Bytes) (hs : s0.length = h.outLen) (hc : c0.length = h.outLen) (n : Nat) :
    keyUpdate h keyLen (specGeneration h keyLen s0 c0 n) = .ok (specGeneration h keyLen s0 c0 (n + 1)) := by
  rw [keyUpdate_eq h keyLen hk ho _ (quicGeneration h s0 n) (quicGeneration h c0 n) rfl rfl
    (quicGeneration_length h hl s0 hs n) (quicGeneration_length h hl c0 hc n)]
  rfl

theorem keyBlock_prefix (P : Prims) (hP : P.Lawful) (pv : ProtocolVersion) (prf : HashSuite) (hprf : prf.Lawful)
    (m k i : Nat) (ms cr sr : Bytes) :
    (keyBlock P pv ⟨prf, m, k, i⟩ ms cr sr).take (2 * m + 2 * k) = keyBlock P pv ⟨prf, m, k, 0⟩ ms cr sr := by
  cases pv <;> simp only [keyBlock, SecurityParameters.keyBlockLength]
  · exact ssl3KeyBlock_prefix P hP.md5 ms cr sr _ _ (by omega)
  · exact prf10_prefix P hP.md5 hP.sha1 _ _ _ _ _ (by omega)
  · exact prf10_prefix P hP.md5 hP.sha1 _ _ _ _ _ (by omega)
  · exact pHash_prefix prf hprf _ _ _ _ (by omega)

theorem partition_macs_keys (kb kb' : Bytes) (m k i i' : Nat)
    (h : kb.take (2 * m + 2 * k) = kb'.take (2 * m + 2 * k)) :
    (partition kb m k i).clientWriteMacKey = (partition kb' m k i').clientWriteMacKey ∧
    (partition kb m k i).serverWriteMacKey = (partition kb' m k i').serverWriteMacKey ∧
    (partition kb m k i).clientWriteKey = (partition kb' m k i').clientWriteKey ∧
    (partition kb m k i).serverWriteKey = (partition kb' m k i').serverWriteKey := by
  simp only [partition_fields, Nat.two_mul, ← Nat.add_assoc] at h ⊢
  have e : ∀ a l, a + l ≤ m + m + k + k → (kb.drop a).take l = (kb'.drop a).take l := fun a l hal => by
    rw [← take_drop_take kb _ a l hal, ← take_drop_take kb' _ a l hal, h]
  have h3 : m + m + k ≤ m + m + k + k := Nat.le_add_right _ _
  have h2 := Nat.le_trans (Nat.le_add_right (m + m) k) h3
  have h1 := Nat.le_trans (Nat.le_add_right m m) h2
  exact ⟨e 0 m (by rw [Nat.zero_add]; exact h1), e m m h2, e (m + m) k h3, e (m + m + k) k (Nat.le_refl _)⟩

theorem connectionKeys_macs_keys (P : Prims) (hP : P.Lawful) (pv : ProtocolVersion) (prf : HashSuite)
    (hprf : prf.Lawful) (m k i i' : Nat) (ms cr sr : Bytes) :
    let a := connectionKeys P pv ⟨prf, m, k, i⟩ ms cr sr
    let b := connectionKeys P pv ⟨prf, m, k, i'⟩ ms cr sr
    a.clientWriteMacKey = b.clientWriteMacKey ∧ a.serverWriteMacKey = b.serverWriteMacKey ∧
    a.clientWriteKey = b.clientWriteKey ∧ a.serverWriteKey = b.serverWriteKey := by
  simp only [connectionKeys]
  apply partition_macs_keys
  rw [keyBlock_prefix P hP pv prf hprf, keyBlock_prefix P hP pv prf hprf]

end TLX.Lemmas.KeySchedule
