/-
Shared by the instance modules `Props/C01RfcEx`, `C01FullEx`, `C01AllEx`, `ExportSegEx`. Defines `tripleOf` and, through it,
`Decidable` instances for `HasLine` and `OnlySecret`; the other lemmas are about key-log files, captured segments and the
range conditions of the write loop (`conv_fits`).
-/
import TLX.Props.C01Rfc
set_option autoImplicit false
namespace TLX.Lemmas.C01Instance
open TLX TLX.Spec.NssKeylog TLX.Props.C09Found TLX.Lemmas.C01Rfc TLX.Props.C01Capstone TLX.Props.C01File TLX.Spec.TlsFraming

theorem fileKeys_wf (ls : List (FLine × Bool)) (hwf : ∀ x ∈ ls, x.1.WF) :
    Export.fileKeysOf (some (fileText ls)) = some (ls.filterMap fun x => x.1.key?) :=
  congrArg some (parse_fileText _ ls hwf (src_cls ls hwf))

/-- of the packets of a flow only the first has to be evaluated -/
theorem eq_head_cons_tail {α : Type} {l : List α} {a : α} (h : l.head? = some a) : l = a :: l.tail := by
  cases l with
  | nil => cases h
  | cons x xs => cases h; rfl

def tripleOf : FLine × Bool → Option Triple
  | (.key tr _ _, _) => some tr
  | (.other _, _) => none

theorem mem_triples (ls : List (FLine × Bool)) (tr : Triple) :
    tr ∈ ls.filterMap tripleOf ↔ ∃ hc hv crlf, (FLine.key tr hc hv, crlf) ∈ ls := by
  rw [List.mem_filterMap]
  constructor
  · rintro ⟨⟨l, crlf⟩, hm, h⟩
    cases l with
    | key tr' hc hv => cases h; exact ⟨hc, hv, crlf, hm⟩
    | other s => cases h
  · rintro ⟨hc, hv, crlf, hm⟩
    exact ⟨_, hm, rfl⟩

instance (ls : List (FLine × Bool)) (label cr secret : List Nat) : Decidable (HasLine ls label cr secret) :=
  decidable_of_iff _ (mem_triples ls ⟨label, cr, secret⟩)

instance (ls : List (FLine × Bool)) (label cr secret : List Nat) : Decidable (OnlySecret ls label cr secret) :=
  decidable_of_iff (∀ tr ∈ ls.filterMap tripleOf, tr.label = label → tr.cr = cr → tr.secret = secret)
    ⟨fun h tr hc hv crlf hm => h tr ((mem_triples ls tr).mpr ⟨hc, hv, crlf, hm⟩),
     fun h tr htr => by
      obtain ⟨hc, hv, crlf, hm⟩ := (mem_triples ls tr).mp htr
      exact h tr hc hv crlf hm⟩

theorem wiresInOrder_of_delivered (evs : List CEv) (info : Nat → Pipeline.Info) (c : Pipeline.Conn) (streams : Bool → Bytes)
    (e : ∀ d, dirWires d evs = (Lemmas.Capstone.dirSegs info c.server d c.pkts).map Props.C05.wire)
    (h : DeliveredInOrder info c streams) : WiresInOrder evs streams := fun d => by
  rw [e d]; exact h d

/-- for a capture built from the records both equations hold by `with_unfolding_all rfl`, without computing a byte -/
theorem inOrder_of_cut {w : List Wire} {str : Bytes} (isn : Nat) (chunks : List Bytes) (hne : ∀ c ∈ chunks, c ≠ [])
    (hflat : chunks.flatten = str) (hw : w = segsOf isn 0 chunks) : ∃ isn, InOrder isn str w :=
  ⟨isn, by unfold InOrder; rw [hw]; exact Delivers.cut _ ⟨hne, hflat⟩⟩

theorem delivers_dupAt {k isn : Nat} {str : Bytes} {l : List Wire} (h : Delivers k isn str l) (i : Nat)
    (hi : i < l.length) (x : Wire) : Delivers k isn str (l.take (i + 1) ++ l.getD i x :: l.drop (i + 1)) := by
  have e : l.take i ++ l[i] :: ([] ++ l.drop (i + 1)) = l := by
    rw [List.nil_append, ← List.drop_eq_getElem_cons hi, List.take_append_drop]
  have := Delivers.dup (l.take i) [] (l.drop (i + 1)) l[i] (by rw [e]; exact h)
  rwa [List.getD_eq_getElem?_getD, List.getElem?_eq_getElem hi, Option.getD_some, List.take_succ_eq_append_getElem hi,
    List.append_assoc]

theorem delivers_swapAt {k isn : Nat} {str : Bytes} {l : List Wire} (h : Delivers k isn str l) (hk : 1 ≤ k) (i : Nat)
    (hi : i + 1 < l.length) (x : Wire) :
    Delivers k isn str (l.take i ++ l.getD (i + 1) x :: l.getD i x :: l.drop (i + 2)) := by
  have hi' : i < l.length := by omega
  have e : l.take i ++ l[i] :: ([l[i + 1]] ++ l.drop (i + 2)) = l := by
    rw [List.singleton_append, ← List.drop_eq_getElem_cons hi, ← List.drop_eq_getElem_cons hi', List.take_append_drop]
  rw [List.getD_eq_getElem?_getD, List.getElem?_eq_getElem hi, Option.getD_some, List.getD_eq_getElem?_getD,
    List.getElem?_eq_getElem hi', Option.getD_some]
  exact Delivers.displace _ _ (by rw [e]; exact h) (Displaced.later (l.take i) [l[i + 1]] (l.drop (i + 2)) l[i] hk)

section
open TLX.MainLoop TLX.Props.C01File TLX.Props.C01File2 TLX.Export TLX.Lemmas.Capstone TLX.Lemmas.Pipeline TLX.Props.C01Pipeline

/-- the range conditions of `Props.C01File2.connOut_fits` for one conversation, as a Boolean: no record above 65495 bytes,
    fewer than 2^32 − 1 exported bytes in all, both exported ports below 2^16 -/
def fitsB (H : Crypto.Prims) (P : Cipher.Prims) (info : Nat → Pipeline.Info) (kl : List Keylog.Key) (c : Pipeline.Conn) : Bool :=
  (sessTraffic H P info c kl).all (fun e => decide ((e.data.getD TcpOut.placeholder).length ≤ 65495)) &&
  decide ((dirPlain false (sessTraffic H P info c kl)).length + (dirPlain true (sessTraffic H P info c kl)).length + 1 < 2 ^ 32) &&
  decide (c.client.port < 65536) &&
  decide (TcpOut.exportedServerPort c.opts.keep (Pipeline.portmapFn c.opts.portmap) c.server.port < 65536)

theorem conv_fits (H : Crypto.Prims) (P : Cipher.Prims) (info : Nat → Pipeline.Info) (kl : List Keylog.Key)
    (c : Pipeline.Conn) (h : fitsB H P info kl c = true) (hts : ∀ id, (info id).ts < 2 ^ 64) :
    ∀ q ∈ (Pipeline.connOut H P info c kl).getD [], WritesOk q := by
  simp only [fitsB, Bool.and_eq_true, List.all_eq_true, decide_eq_true_eq] at h
  obtain ⟨⟨⟨h1, h2⟩, h3⟩, h4⟩ := h
  have hsome := (connOut_never_raises H P info c kl).2.2
  have heq := connOut_eq H P info c kl
  rw [heq, Option.isSome_map] at hsome
  obtain ⟨frames, hb⟩ := Option.isSome_iff_exists.mp hsome
  have hconn : Pipeline.connOut H P info c kl = some (frames.map (Pipeline.addressed c.opts c)) := by rw [heq, hb]; rfl
  have hre := Props.C06.reassemble_build _ _ hb
  rw [dirBytes_toRec, dirBytes_toRec] at hre
  have := connOut_fits H P info c kl frames _ _ hconn hre (fun e he => h1 e he) h2 h3 h4 hts
  rw [hconn]
  exact this

end

end TLX.Lemmas.C01Instance
