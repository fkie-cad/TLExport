/-
Model of `OutputBuilder` (tlexport/output_builder.py:12-177): how decrypted TLS records become a synthetic TCP
conversation. Core Lean only.

Mirrors: `__init__` port choice (30-36), `build` (38-76), `build_ack_handshake` (80-103: SYN seq 0 / SYN-ACK seq 0
ack 1 / ACK seq 1 ack 1, all at the time of the first exported record's first carrier), `build_server_packet` /
`build_client_packet` (105-177: the split arithmetic `part_len = floor(n / k)`, `k - 1` equal parts, the remainder,
one PSH|ACK segment per part at the running sequence number, followed by a pure ACK of the receiver).
Not modelled here: scapy's serialisation of the abstract frame (`TLX/OutBytes.lean`; compared byte-for-byte by the harness), `None` entries in
the record list (`conn_reset`; `Session` never appends them).
-/
import TLX.Py
namespace TLX.TcpOut

/-- one element of `application_traffic`: decrypted bytes (`none` = the decryptor returned `None`),
    the capture times of the packets that carried the record, and the direction -/
structure Rec where
  plain : Option Bytes
  ts : List Nat
  fromServer : Bool
  deriving Repr

/-- abstract TCP frame; addresses/MACs/ports follow from `fromServer` and the session (see `Pipeline.addressed`) -/
structure Frame where
  ts : Nat
  fromServer : Bool
  flags : Nat            -- 0x02 SYN, 0x12 SYN|ACK, 0x10 ACK, 0x18 PSH|ACK
  seq : Nat
  ack : Nat
  payload : Bytes
  deriving Repr, DecidableEq

/-- `decrypted = b'123345'` when the record's plaintext is `None` -/
def placeholder : Bytes := [0x31, 0x32, 0x33, 0x33, 0x34, 0x35]

/-- the first `k - 1` parts of length `pl` each: `decrypted[i*pl : i*pl + pl]` for `i < m` -/
def equalParts (d : Bytes) (pl : Nat) : Nat → List Bytes
  | 0 => []
  | m + 1 => equalParts d pl m ++ [Bytes.slice d (m * pl) (m * pl + pl)]

/-- the split of `build_*_packet`: `k = len(ts)` carriers; `none` = ZeroDivisionError (`k = 0`).
    After the loop `last_len = (k - 1) * part_len`. -/
def parts (d : Bytes) (k : Nat) : Option (List Bytes) :=
  if k = 0 then none else
    let pl := d.length / k
    let lastLen := (k - 1) * pl
    some (equalParts d pl (k - 1) ++ (if lastLen < d.length then [d.drop lastLen] else []))

/-- running sequence numbers `(client_seq, server_seq)` -/
abbrev Seqs := Nat × Nat

/-- one part → data segment + the receiver's pure ACK, both at the carrier's time -/
def partFrames (q : Seqs) (fromServer : Bool) (p : Bytes) (t : Nat) : Seqs × List Frame :=
  if fromServer then
    ((q.1, q.2 + p.length),
      [⟨t, true, 0x18, q.2, q.1, p⟩, ⟨t, false, 0x10, q.1, q.2 + p.length, []⟩])
  else
    ((q.1 + p.length, q.2),
      [⟨t, false, 0x18, q.1, q.2, p⟩, ⟨t, true, 0x10, q.2, q.1 + p.length, []⟩])

/-- parts paired with `ts[i]` (there are never more parts than carriers, `Props.C06.parts_length_le`) -/
def partsFrames (q : Seqs) (fromServer : Bool) : List Bytes → List Nat → Seqs × List Frame
  | p :: ps, t :: tl =>
    let (q', fs) := partFrames q fromServer p t
    let (q'', fs') := partsFrames q' fromServer ps tl
    (q'', fs ++ fs')
  | _, _ => (q, [])

def handshake (t0 : Nat) : List Frame :=
  [⟨t0, false, 0x02, 0, 0, []⟩, ⟨t0, true, 0x12, 0, 1, []⟩, ⟨t0, false, 0x10, 1, 1, []⟩]

/-- the bytes exported for a record -/
def Rec.bytes (r : Rec) : Bytes := r.plain.getD placeholder

/-- one record; `none` = an uncaught exception (ZeroDivisionError on an empty carrier list) -/
def recFrames (q : Seqs) (r : Rec) : Option (Seqs × List Frame) :=
  (parts r.bytes r.ts.length).map fun ps => partsFrames q r.fromServer ps r.ts

def bodyFrames (q : Seqs) : List Rec → Option (Seqs × List Frame)
  | [] => some (q, [])
  | r :: rs =>
    (recFrames q r).bind fun (q', fs) =>
      (bodyFrames q' rs).map fun (q'', fs') => (q'', fs ++ fs')

/-- `OutputBuilder.build()`: `[]` when there are no records, else the handshake at the first record's first
    carrier time followed by the records' segments -/
def build (recs : List Rec) : Option (List Frame) :=
  match recs with
  | [] => some []
  | r :: _ =>
    match r.ts with
    | [] => none                                 -- record[1].metadata[0] raises IndexError
    | t0 :: _ => (bodyFrames (1, 1) recs).map fun (_, fs) => handshake t0 ++ fs

/-- exported server port (`__init__`): original unless `-m`; then the mapped port or 8080 -/
def exportedServerPort (keepOriginal : Bool) (portmap : Nat → Option Nat) (serverPort : Nat) : Nat :=
  if keepOriginal then serverPort else (portmap serverPort).getD 8080

end TLX.TcpOut
