/-
The ONE concrete executable instance of `Prims` (twin: `harness/toy_crypto.py`, byte-for-byte the same
functions; compared on every run by the `toy.twin` correspondence point).

Not cryptography: a 32-bit FNV-1a hash seeds a random-access byte pad. What matters is that EVERY input
matters (algorithm, key, nonce/IV, AAD, keystream offset, previous ciphertext block, slice boundaries), so that
a model or an implementation that passes a wrong key, nonce, AAD, IV, offset or slice to a primitive gets a
different output or an error, and that the validation errors are the real library's (cryptography 50):

  AEAD   key length (GCM/CCM 16/24/32, ChaCha20-Poly1305 32) → ValueError; CCM tag length ∉ {4,6,…,16} →
         ValueError; nonce length (GCM 8…128, CCM 7…13, ChaCha 12) → ValueError; input shorter than the tag or
         tag mismatch → InvalidTag.  body = pt XOR pad(seed(alg,key,nonce)); tag = tagLen bytes of
         pad(fnv(alg,key,nonce,aad,body)).
  CBC    key length per algorithm → ValueError; IV length ≠ block size → ValueError; input not a multiple of the
         block size → ValueError (as `finalize()` does).  c_i = p_i XOR pad(fnv(seed(alg,key), c_{i-1})), c_0 = IV:
         the whole previous ciphertext block and the key enter every block.
  RC4    key length ∈ {5,7,8,10,16,20,24,32} else ValueError; out = data XOR pad(seed(key)) at the running offset.

All arithmetic is on `Nat` modulo 2^32 with products below 2^63 (kernel- and compiler-friendly).
`Toy.laws : SealLaws Toy.prims` is proved below.
-/
import TLX.Crypto.Prims
namespace TLX.Cipher.Toy

def M : Nat := 4294967296

def fnvStep (h : Nat) (b : Nat) : Nat := (Nat.xor h b * 16777619) % M

def fnv (h : Nat) (bs : Bytes) : Nat := bs.foldl (fun h b => fnvStep h b.toNat) h

/-- Length-prefixed absorption (2 length bytes), so that (key, nonce, aad, …) boundaries matter. -/
def fnvL (h : Nat) (bs : Bytes) : Nat :=
  fnv (fnvStep (fnvStep h (bs.length / 256 % 256)) (bs.length % 256)) bs

/-- Random-access pad byte `i` of the stream with seed `s`. -/
def pad (s i : Nat) : UInt8 :=
  let x := (s + i * 2654435761) % M
  let y := (Nat.xor x (x >>> 15) * 739982445) % M
  UInt8.ofNat (y >>> 24)

/-- `data[j] XOR pad(s, i + j)`. -/
def xorPad (s : Nat) : Nat → Bytes → Bytes
  | _, [] => []
  | i, b :: bs => (b ^^^ pad s i) :: xorPad s (i + 1) bs

def Alg.id : Alg → Nat
  | .aes => 1 | .tdes => 2 | .camellia => 3 | .idea => 4 | .aesccm => 5 | .aesgcm => 6
  | .chacha20 => 7 | .chachaPoly => 8 | .arc4 => 9 | .none => 10

-- ------------------------------------------------------------------ AEAD
def seedA (a : Alg) (key nonce : Bytes) : Nat := fnvL (fnvL (fnvStep 2166136261 (Alg.id a)) key) nonce

def tagOf (a : Alg) (key nonce aad : Bytes) (tl : Nat) (body : Bytes) : Bytes :=
  let h := fnvL (fnvL (fnvL (fnvL (fnvStep 2166136000 (Alg.id a)) key) nonce) aad) body
  (List.range tl).map (fun j => pad h j)

def isAead : Alg → Bool
  | .aesgcm | .aesccm | .chachaPoly => true | _ => false

def aeadSeal (a : Alg) (key nonce aad : Bytes) (tl : Nat) (pt : Bytes) : Bytes :=
  let body := xorPad (seedA a key nonce) 0 pt
  body ++ tagOf a key nonce aad tl body

def aeadOpen (a : Alg) (key nonce aad : Bytes) (tl : Nat) (ct : Bytes) : Py Bytes :=
  if !isAead a then .error .type
  else if !a.keyOk key.length then .error .value
  else if a = .aesccm ∧ !ccmTagOk tl then .error .value
  else if !a.nonceOk nonce.length then .error .value
  else if ct.length < tl then .error .invalidTag
  else
    let body := ct.take (ct.length - tl)
    let tg := ct.drop (ct.length - tl)
    if tg = tagOf a key nonce aad tl body then .ok (xorPad (seedA a key nonce) 0 body)
    else .error .invalidTag

-- ------------------------------------------------------------------ CBC
def seedK (a : Alg) (key : Bytes) : Nat := fnvL (fnvStep 2166136523 (Alg.id a)) key

def cbcEncGo (sk bs : Nat) : Nat → Bytes → Bytes → Bytes
  | 0, _, _ => []
  | f + 1, prev, data =>
    match data with
    | [] => []
    | _ :: _ =>
      let c := xorPad (fnv sk prev) 0 (data.take bs)
      c ++ cbcEncGo sk bs f c (data.drop bs)

def cbcDecGo (sk bs : Nat) : Nat → Bytes → Bytes → Bytes
  | 0, _, _ => []
  | f + 1, prev, data =>
    match data with
    | [] => []
    | _ :: _ =>
      let c := data.take bs
      xorPad (fnv sk prev) 0 c ++ cbcDecGo sk bs f c (data.drop bs)

/-- Total; for a non-block algorithm (never used) it is the identity. A trailing partial block is padded with
    nothing (the sender never produces one). -/
def cbcEnc (a : Alg) (key iv pt : Bytes) : Bytes :=
  if a.blk = 0 then pt else cbcEncGo (seedK a key) a.blk pt.length iv pt

def cbcDec (a : Alg) (key iv ct : Bytes) : Py Bytes :=
  match a with
  | .none | .chacha20 => .error .type                       -- `None(key)`, `ChaCha20(key)` (missing nonce)
  | .aesgcm | .aesccm | .chachaPoly =>                       -- `AESGCM(key)` then `Cipher(<not a CipherAlgorithm>, …)`
    if !a.keyOk key.length then .error .value else .error .type
  | .arc4 => if !a.keyOk key.length then .error .value else .error .unsupported   -- CBC needs a block cipher
  | _ =>
    if !a.keyOk key.length then .error .value
    else if key.length = 64 then .error .value                -- AES-512 keys are XTS only
    else if iv.length ≠ a.blk then .error .value
    else if ct.length % a.blk ≠ 0 then .error .value
    else .ok (cbcDecGo (seedK a key) a.blk ct.length iv ct)

-- ------------------------------------------------------------------ RC4
def seedR (key : Bytes) : Nat := fnvL 2166136777 key

def rc4Init (key : Bytes) : Py Unit :=
  if Alg.arc4.keyOk key.length then .ok () else .error .value

def rc4 (key : Bytes) (off : Nat) (data : Bytes) : Bytes := xorPad (seedR key) off data

def prims : Prims := { aeadOpen := aeadOpen, cbcDec := cbcDec, rc4Init := rc4Init, rc4 := rc4 }

-- ------------------------------------------------------------------ the toy satisfies the laws
theorem xorPad_length (s : Nat) : ∀ (i : Nat) (d : Bytes), (xorPad s i d).length = d.length
  | _, [] => rfl
  | i, _ :: bs => by simp [xorPad, xorPad_length s (i + 1) bs]

theorem xorPad_invol (s : Nat) : ∀ (i : Nat) (d : Bytes), xorPad s i (xorPad s i d) = d
  | _, [] => rfl
  | i, b :: bs => by
    simp only [xorPad, xorPad_invol s (i + 1) bs, UInt8.xor_assoc, UInt8.xor_self, UInt8.xor_zero]

theorem tagOf_length (a : Alg) (k n ad : Bytes) (tl : Nat) (b : Bytes) : (tagOf a k n ad tl b).length = tl := by
  simp [tagOf]

theorem seal_len (a : Alg) (k n ad : Bytes) (tl : Nat) (p : Bytes) :
    (aeadSeal a k n ad tl p).length = p.length + tl := by
  simp [aeadSeal, xorPad_length, tagOf_length]

theorem open_seal (a : Alg) (k n ad : Bytes) (tl : Nat) (p : Bytes) (h : AeadOk a k.length n.length tl) :
    aeadOpen a k n ad tl (aeadSeal a k n ad tl p) = .ok p := by
  obtain ⟨ha, hk, hn, ht⟩ := h
  have hA : isAead a = true := by rcases ha with rfl | rfl | rfl <;> rfl
  have hccm : ¬ (a = .aesccm ∧ (!ccmTagOk tl) = true) := by
    intro ⟨h1, h2⟩
    rw [if_pos h1] at ht
    simp [ht] at h2
  have hlen : (aeadSeal a k n ad tl p).length = p.length + tl := seal_len a k n ad tl p
  unfold aeadOpen
  simp only [hA, hk, hn, Bool.not_true, Bool.false_eq_true, if_false, hccm, hlen]
  rw [if_neg (by omega)]
  have e : p.length + tl - tl = (xorPad (seedA a k n) 0 p).length := by rw [xorPad_length]; omega
  simp only [aeadSeal, e, List.take_left', List.drop_left', if_true, xorPad_invol]

theorem cbcEncGo_nil (sk bs f : Nat) (prev : Bytes) : cbcEncGo sk bs f prev [] = [] := by cases f <;> rfl
theorem cbcDecGo_nil (sk bs f : Nat) (prev : Bytes) : cbcDecGo sk bs f prev [] = [] := by cases f <;> rfl

theorem cbcEncGo_succ (sk bs f : Nat) (prev p : Bytes) (hp : p ≠ []) :
    cbcEncGo sk bs (f + 1) prev p =
      xorPad (fnv sk prev) 0 (p.take bs) ++ cbcEncGo sk bs f (xorPad (fnv sk prev) 0 (p.take bs)) (p.drop bs) := by
  cases p with
  | nil => exact absurd rfl hp
  | cons _ _ => rfl

theorem cbcDecGo_succ (sk bs f : Nat) (prev p : Bytes) (hp : p ≠ []) :
    cbcDecGo sk bs (f + 1) prev p =
      xorPad (fnv sk prev) 0 (p.take bs) ++ cbcDecGo sk bs f (p.take bs) (p.drop bs) := by
  cases p with
  | nil => exact absurd rfl hp
  | cons _ _ => rfl

theorem cbcEncGo_length (sk bs : Nat) (hbs : 0 < bs) (f : Nat) :
    ∀ (prev p : Bytes), p.length ≤ f → (cbcEncGo sk bs f prev p).length = p.length := by
  induction f with
  | zero => intro prev p h; rw [List.eq_nil_of_length_eq_zero (Nat.le_zero.mp h)]; rfl
  | succ f ih =>
    intro prev p h
    by_cases hp : p = []
    · rw [hp, cbcEncGo_nil]
    · have := List.length_pos_iff.mpr hp
      rw [cbcEncGo_succ _ _ _ _ _ hp, List.length_append, xorPad_length, ih _ _ (by rw [List.length_drop]; omega),
        List.length_take, List.length_drop]
      omega

theorem cbc_go_roundtrip (sk bs : Nat) (hbs : 0 < bs) (f1 : Nat) :
    ∀ (f2 : Nat) (prev p : Bytes), p.length ≤ f1 → p.length ≤ f2 → p.length % bs = 0 →
      cbcDecGo sk bs f2 prev (cbcEncGo sk bs f1 prev p) = p := by
  induction f1 with
  | zero =>
    intro f2 prev p h1 _ _
    rw [List.eq_nil_of_length_eq_zero (Nat.le_zero.mp h1), cbcEncGo_nil, cbcDecGo_nil]
  | succ f1 ih =>
    intro f2 prev p h1 h2 hal
    by_cases hp : p = []
    · rw [hp, cbcEncGo_nil, cbcDecGo_nil]
    have hpos := List.length_pos_iff.mpr hp
    have hge : bs ≤ p.length := Nat.le_of_dvd hpos (Nat.dvd_of_mod_eq_zero hal)
    obtain ⟨f2, rfl⟩ : ∃ k, f2 = k + 1 := ⟨f2 - 1, by omega⟩
    -- the first ciphertext block is one block long, so decryption cuts where encryption did
    have hc : (xorPad (fnv sk prev) 0 (p.take bs)).length = bs := by
      rw [xorPad_length, List.length_take]; omega
    rw [cbcEncGo_succ _ _ _ _ _ hp,
      cbcDecGo_succ _ _ _ _ _ (by intro h; rw [List.append_eq_nil_iff] at h; rw [h.1] at hc; exact absurd hc (by simp; omega)),
      List.take_left' hc, List.drop_left' hc, xorPad_invol,
      ih f2 _ _ (by rw [List.length_drop]; omega) (by rw [List.length_drop]; omega)
        (by rw [List.length_drop]; exact Nat.sub_mod_eq_zero_of_mod_eq (by rw [hal, Nat.mod_self])),
      List.take_append_drop]
theorem enc_len (a : Alg) (k iv p : Bytes) : (cbcEnc a k iv p).length = p.length := by
  unfold cbcEnc
  split
  · rfl
  · exact cbcEncGo_length _ _ (by omega) _ _ _ (Nat.le_refl _)

theorem blk_pos (a : Alg) : a.isBlock = true → 0 < a.blk := by cases a <;> decide

/-- `cbcDec` for the four block ciphers: the checks of the library in its order, then the decryption. -/
theorem cbcDec_block (a : Alg) (hb : a.isBlock = true) (key iv ct : Bytes) :
    cbcDec a key iv ct =
      if !a.keyOk key.length then .error .value
      else if key.length = 64 then .error .value
      else if iv.length ≠ a.blk then .error .value
      else if ct.length % a.blk ≠ 0 then .error .value
      else .ok (cbcDecGo (seedK a key) a.blk ct.length iv ct) := by
  cases a with
  | aes | camellia | tdes | idea => rfl
  | _ => cases hb

theorem dec_enc (a : Alg) (k iv p : Bytes) (h : CbcOk a k.length iv.length) (hal : p.length % a.blk = 0) :
    cbcDec a k iv (cbcEnc a k iv p) = .ok p := by
  obtain ⟨hb, hk, h64, hiv⟩ := h
  have hpos := blk_pos a hb
  rw [cbcDec_block a hb, hk, enc_len, if_neg (by decide), if_neg h64, if_neg (fun h => h hiv), if_neg (fun h => h hal),
    cbcEnc, if_neg (by omega), cbc_go_roundtrip _ _ hpos _ _ _ _ (Nat.le_refl _) (Nat.le_refl _) hal]

theorem rc4_invol (k : Bytes) (off : Nat) (p : Bytes) : rc4 k off (rc4 k off p) = p := xorPad_invol _ _ _

theorem rc4_len (k : Bytes) (off : Nat) (p : Bytes) : (rc4 k off p).length = p.length := xorPad_length _ _ _

/-- The toy instance satisfies the law structure: the C01 theorems are not vacuous. -/
def laws : SealLaws prims where
  aeadSeal := aeadSeal
  open_seal := fun a k n ad tl p h => open_seal a k n ad tl p h
  seal_len := fun a k n ad tl p _ => seal_len a k n ad tl p
  cbcEnc := cbcEnc
  dec_enc := fun a k iv p h hal => dec_enc a k iv p h hal
  enc_len := enc_len
  rc4_init := fun k h => by simp [prims, rc4Init, h]
  rc4_invol := rc4_invol
  rc4_len := rc4_len

end TLX.Cipher.Toy
