/-
Model of `QuicSession.get_full_packet_number` and `set_largest_packet_number` (tlexport/quic/quic_session.py) and of
the RFC 9000 Appendix A.3 algorithm the first has to equal (C16).

Core Lean only (this file is linked into the `tlxdriver` executable).
-/
namespace TLX.Quic.PktNum

/-- RFC 9000 Appendix A.3 `DecodePacketNumber`, generic in the window `W = 2^(8n)` and the
    packet-number bound `B = 2^62`. `(expected & ~mask) | trunc` is `expected - expected % W + trunc`
    for `trunc < W`. -/
def rfcDecode (W B largest trunc : Nat) : Nat :=
  let hwin := W / 2
  let expected := largest + 1
  let cand := (expected - expected % W) + trunc
  if cand + hwin ≤ expected ∧ cand + W < B then cand + W
  else if cand > expected + hwin ∧ cand ≥ W then cand - W
  else cand

/-- The implementation: `if packet_number_int > largest_pkn == 0: return packet_num` first
    (shortcut when nothing larger than 0 has been seen), then A.3 with an *integer* half window. -/
def implDecode (W B largest trunc : Nat) : Nat :=
  if trunc > largest ∧ largest = 0 then trunc else rfcDecode W B largest trunc

/-- The per-(space, direction) table update: the entry becomes the maximum seen so far. -/
def implUpdate (largest out : Nat) : Nat := if out > largest then out else largest

/-- Packet-number spaces as keyed by `PACKET_TYPE_MAP`: Initial, Handshake, and one shared space
    for 0-RTT and 1-RTT. -/
inductive Space | initial | handshake | app
  deriving DecidableEq, Repr

/-- Packet types that carry a packet number, and the space `PACKET_TYPE_MAP` sends them to. -/
inductive PType | initial | handshake | zeroRtt | oneRtt
  deriving DecidableEq, Repr

def PType.space : PType → Space
  | .initial => .initial
  | .handshake => .handshake
  | .zeroRtt => .app
  | .oneRtt => .app

/-- `packet_number_server` / `packet_number_client`: largest packet number per (direction, space). -/
structure Table where
  get : Bool → Space → Nat

def Table.init : Table := ⟨fun _ _ => 0⟩

def Table.set (t : Table) (srv : Bool) (sp : Space) (v : Nat) : Table :=
  ⟨fun b s => if b = srv ∧ s = sp then v else t.get b s⟩

/-- `get_full_packet_number` (it only reads the table) followed by `set_largest_packet_number` on its result, as
    `decrypt_packet` calls them around the AEAD check: the reconstructed number and the new table. -/
def step (t : Table) (srv : Bool) (ty : PType) (n trunc : Nat) : Nat × Table :=
  let largest := t.get srv ty.space
  let out := implDecode (2 ^ (8 * n)) (2 ^ 62) largest trunc
  (out, t.set srv ty.space (implUpdate largest out))

end TLX.Quic.PktNum
