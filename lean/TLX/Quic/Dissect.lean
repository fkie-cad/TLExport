/-
Model of the QUIC packet dissector of TLExport (C02; totality part of C03):

  source (tlexport/quic/quic_dissector.py)                     model
  -----------------------------------------------------------  ---------------------------------------------
  byte_xor / byte_and (9-20)                                    `byteXor` / `byteAnd` (zip: the shorter operand wins)
  get_header_type (23-27)                                       `isLong`
  get_packet_type (30-42)                                       `packetType` (its `case _` is unreachable: 2 bits)
  remove_header_protection (45-62)                              `removeHP`
  extract_quic_packet (65-287)                                  `extractLong`, `protectedTail` (the Length / packet number /
                                                                payload part that the INITIAL and the HANDSHAKE|RTT_O
                                                                branches spell out twice), `extractShort`, `extract`
  QuicSession.handle_packet, the loop (quic_session.py 262-267) `dissectLoop` (any per-iteration state), `dissectAll`
  QuicSession.decrypt_packet, associated data (219-228)         `aad`

What is a parameter and what is an input
  * `make_hp_mask` / `make_chacha_hp_mask` (quic_key_generation.py) are cryptographic primitives:
    `MaskFn = (chacha : Bool) → (hpKey sample : Bytes) → Option Bytes`; `none` = the primitive raises
    (cryptography 50: AES key length ∉ {16,24,32} or ChaCha20 key length ≠ 32 → ValueError; AES-ECB of a 1…15 byte
    sample → ValueError at `finalize`; ChaCha20 nonce (= sample) ≠ 16 bytes → ValueError). AES-ECB of the EMPTY
    sample returns `b""`: the mask is then empty and `mask[0]` raises IndexError — the model keeps a mask of any
    length (`mask[0]` on `[]` → `.index`; `mask[1:pn_len+1]` clamps and `zip` truncates the packet number).
  * `keys` is an input: `KeyName → Option Bytes`; `none` = the name is missing (KeyError), the value is `None`
    (`dev_quic_keys` stores `None` for absent early secrets → TypeError in the primitive) or `keys` itself is `None`.
  * `ciphersuite == b'\x13\x03'` is the input `chacha : Bool`; INITIAL passes `ciphersuite=None` (always AES).
  * `guessed_dcid` is a byte string (handle_packet always passes one; `None` is not modelled).
  * `in_packet.timestamp` is copied into every packet: `ts`.

Python traps kept
  * `struct.unpack_from(fmt, data)` raises struct.error iff `len(data) < calcsize(fmt)` (`need`); all formats are
    `B`/`<n>s` (no alignment); `"0s"` yields `b""`; `str(n) + "s"` with `n < 0` is a bad format → struct.error.
  * `scid_len = decode_variable_length_int(header_parts[4])` decodes ONE byte as a varint: a SCID-length byte ≥ 0x40
    announces 2/4/8 bytes and `variable_integer[1]` raises IndexError.
  * `datagram_data[0]` on `b""` raises IndexError (before the zero-padding test).
  * `int.from_bytes(datagram_data, "big") == 0`: an all-zero remainder is dropped without a packet.
  * VERSION_NEG: the packet IS appended, `supported_version = header_parts[-1:-5]` is the empty tuple (constant, no
    field), `total_packet_len` is never bound → UnboundLocalError at the final slice → caught: remainder dropped,
    the packet is returned. `first_byte` of VERSION_NEG and RETRY is a Python `int` (not `bytes`): the model keeps
    the one byte, the driver marks it.
  * every exception ends in the `except Exception`: `tls_data = b""`, packets appended so far are returned.
    `Out.err` records which trap fired (not observable from the return value; the real code prints it).
  * the two `case _: pass` arms (header type, packet type) are unreachable.
  * RETRY: `x[:-16]` / `x[-16:]` on a remainder shorter than 16 bytes: token empty, tag = the whole remainder.
  * derived attributes `token_len` (int) and `packet_len` (bytes) are functions of stored fields: `Pkt.tokenLen`,
    `Pkt.packetLen`.

`dissectLoop` is defined by well-founded recursion on the remaining length; Lean accepts it only because of
`extract_rest_lt` (every call on non-empty data returns a strictly shorter remainder) — the "cannot hang" part: an
edit of the model that mirrors a source change letting some branch return the data unshortened breaks the build at
the termination obligation.
Core Lean only (linked into `tlxdriver`).
-/
import TLX.Quic.Packet
import TLX.Quic.Varint
import TLX.Lemmas.Post
namespace TLX.Quic.Dissect
open TLX TLX.Quic TLX.Quic.Varint

/-- which Python exception the final `except Exception` caught -/
inductive DErr
  | index      -- IndexError (`datagram_data[0]`, `variable_integer[i]`, `mask[0]`)
  | struct     -- struct.error (buffer too short, negative count)
  | key        -- KeyError / TypeError: no usable header-protection key under the name looked up
  | mask       -- the header-protection primitive raised (ValueError)
  | unbound    -- UnboundLocalError: `total_packet_len` (VERSION_NEG)
  deriving DecidableEq, Repr, Inhabited

/-- the seven `keys[...]` names the dissector reads -/
inductive KeyName
  | serverInitial | clientInitial | serverHandshake | clientHandshake | clientEarly
  | serverApplication | clientApplication
  deriving DecidableEq, Repr, Inhabited

/-- `make_chacha_hp_mask(hp_key, sample)` (`chacha = true`) / `make_hp_mask(hp_key, sample)`; `none` = raises -/
abbrev MaskFn := Bool → Bytes → Bytes → Option Bytes

/-- what `handle_packet` passes besides the datagram: `keys=self.keys`, `ciphersuite=self.tls_session.ciphersuite` -/
structure Env where
  keys : KeyName → Option Bytes
  /-- `ciphersuite == b'\x13\x03'` -/
  chacha : Bool

/-- result of one `extract_quic_packet` call: `packet_buf`, the new `in_packet.tls_data`, the exception caught -/
structure Out where
  pkts : List Pkt
  rest : Bytes
  err : Option DErr := none
  deriving DecidableEq, Repr, Inhabited

def byteXor (a b : Bytes) : Bytes := List.zipWith (· ^^^ ·) a b
def byteAnd (a b : Bytes) : Bytes := List.zipWith (· &&& ·) a b

/-- `datagram_data[0] >> 7 & 1 == 1` -/
def isLong (fb : UInt8) : Bool := (fb >>> 7) &&& 1 == 1

/-- `(datagram_data[0] & 0b00110000) >> 4`, matched against 0..3 -/
def packetType (fb : UInt8) : PType :=
  match ((fb &&& 0x30) >>> 4).toNat with
  | 0 => .initial
  | 1 => .rtt0
  | 2 => .handshake
  | _ => .retry          -- 3; `case _: return None` is unreachable

/-- `struct.unpack_from(fmt, data)` with `calcsize(fmt) = size` -/
def need (d : Bytes) (size : Nat) : Except DErr Unit :=
  if d.length < size then .error .struct else .ok ()

def ofOpt {α} (e : DErr) : Option α → Except DErr α
  | none => .error e
  | some a => .ok a

/-- remove_header_protection: `(first_packet_byte, packet_number_field, pn_len)` -/
def removeHP (mask : MaskFn) (long : Bool) (sample : Bytes) (fb : UInt8) (hpKey : Bytes) (d : Bytes)
    (pnOff : Nat) (chacha : Bool) : Except DErr (UInt8 × Bytes × Nat) := do
  let m ← ofOpt .mask (mask chacha hpKey sample)
  let m0 ← ofOpt .index m[0]?
  -- byte_xor(bytes([first_packet_byte]), byte_and(bytes([mask[0]]), b"\x0f" | b"\x1f")): one byte each
  let fb' := fb ^^^ (m0 &&& (if long then 0x0f else 0x1f))
  -- `decode_variable_length_int(byte_and(bytes([first]), b"\x03")) + 1`
  let v ← ofOpt .index (decodeVarint [fb' &&& 0x03])
  let pnLen := v + 1
  .ok (fb', byteXor (Bytes.slice d pnOff (pnOff + pnLen)) (Bytes.slice m 1 (pnLen + 1)), pnLen)

/-- the part both protected long-header branches share, from the Length field at `lenOff` on:
      packet_len_len = get_variable_length_int_length(unpack(fmt + "s")[-1]); … packet_len_bytes; pn_offset;
      sample; hp_key = keys[name]; remove_header_protection; payload
    → `(packet_len_bytes, first_byte, packet_num, pn_len, payload, packet_len_len)` -/
def protectedTail (mask : MaskFn) (env : Env) (name : KeyName) (chacha : Bool) (d : Bytes) (fb : UInt8)
    (lenOff : Nat) : Except DErr (Bytes × UInt8 × Bytes × Nat × Bytes × Nat) := do
  need d (lenOff + 1)
  let pll ← ofOpt .index (getVarintLength (Bytes.slice d lenOff (lenOff + 1)))
  need d (lenOff + pll)
  let plb := Bytes.slice d lenOff (lenOff + pll)
  let plen ← ofOpt .index (decodeVarint plb)       -- `.to_bytes(packet_len_len, "big")` always fits
  let pnOff := lenOff + pll
  let sample := Bytes.slice d (pnOff + 4) (pnOff + 4 + 16)
  let key ← ofOpt .key (env.keys name)
  let (fb', pn, pnLen) ← removeHP mask true sample fb key d pnOff chacha
  -- fmt += str(pn_len) + "s" + str(packet_len - pn_len) + "s"
  if plen < pnLen then .error .struct
  else do
    need d (pnOff + pnLen + (plen - pnLen))
    let payload := Bytes.slice d (pnOff + pnLen) (pnOff + pnLen + (plen - pnLen))
    .ok (plb, fb', pn, pnLen, payload, pll)

/-- the `case QuicHeaderType.LONG` arm: the packet and `total_packet_len` (`none` = never bound) -/
def extractLong (mask : MaskFn) (env : Env) (isServer : Bool) (ts : Nat) (d : Bytes) (fb : UInt8) :
    Except DErr (Pkt × Option Nat) := do
  need d 6                                             -- "B4sB"
  let version := Bytes.slice d 1 5
  let ptype := packetType fb
  let dlb ← ofOpt .struct d[5]?
  let dl := dlb.toNat
  need d (6 + dl)
  let dcid := Bytes.slice d 6 (6 + dl)
  need d (7 + dl)
  let sl ← ofOpt .index (decodeVarint (Bytes.slice d (6 + dl) (7 + dl)))
  need d (7 + dl + sl)
  let scid := Bytes.slice d (7 + dl) (7 + dl + sl)
  let pnOff := 7 + dcid.length + scid.length
  let base : Pkt := { htype := .long, ptype := ptype, isServer := isServer, ts := ts, firstByte := [fb],
                      version := some version, dcidLen := some [dlb], dcid := dcid,
                      scidLen := some [UInt8.ofNat sl], scid := some scid }
  if version = [0, 0, 0, 0] then do
    need d (pnOff + 4)                                 -- fmt + "ssss"
    .ok ({ base with ptype := .versionNeg }, none)
  else match ptype with
  | .initial => do
    need d (pnOff + 1)
    let tll ← ofOpt .index (getVarintLength (Bytes.slice d pnOff (pnOff + 1)))
    need d (pnOff + tll)
    let tlb := Bytes.slice d pnOff (pnOff + tll)
    let tl ← ofOpt .index (decodeVarint tlb)
    need d (pnOff + tll + tl)
    let token := Bytes.slice d (pnOff + tll) (pnOff + tll + tl)
    let (plb, fb', pn, pnLen, payload, pll) ←
      protectedTail mask env (if isServer then .serverInitial else .clientInitial) false d fb (pnOff + tll + tl)
    .ok ({ base with firstByte := [fb'], tokenLenBytes := some tlb, token := some token, lenBytes := some plb,
                     pn := some pn, payload := some payload },
         some (1 + 4 + 1 + dl + 1 + sl + tll + tl + pll + pnLen + payload.length))
  | .handshake => do
    let (plb, fb', pn, pnLen, payload, pll) ←
      protectedTail mask env (if isServer then .serverHandshake else .clientHandshake) env.chacha d fb pnOff
    .ok ({ base with firstByte := [fb'], lenBytes := some plb, pn := some pn, payload := some payload },
         some (1 + 4 + 1 + dl + 1 + sl + pll + pnLen + payload.length))
  | .rtt0 => do
    let (plb, fb', pn, pnLen, payload, pll) ← protectedTail mask env .clientEarly env.chacha d fb pnOff
    .ok ({ base with firstByte := [fb'], lenBytes := some plb, pn := some pn, payload := some payload },
         some (1 + 4 + 1 + dl + 1 + sl + pll + pnLen + payload.length))
  | .retry =>
    -- fmt + str(len(datagram_data) - (1 + 4 + 1 + dcid_len + 1 + scid_len)) + "s"
    if d.length < 1 + 4 + 1 + dl + 1 + sl then .error .struct   -- not reached: the unpack above succeeded
    else
      let x := Bytes.slice d (7 + dl + sl) (7 + dl + sl + (d.length - (1 + 4 + 1 + dl + 1 + sl)))
      let token := x.take (x.length - 16)              -- x[:-16]
      let tag := x.drop (x.length - 16)                -- x[-16:]
      .ok ({ base with retryToken := some token, retryTag := some tag },
           some (1 + 4 + 1 + dl + 1 + sl + token.length + tag.length))
  | _ => .error .unbound                               -- not reached: `packetType` has four values

/-- the `case QuicHeaderType.SHORT` arm -/
def extractShort (mask : MaskFn) (env : Env) (isServer : Bool) (guessed : Bytes) (ts : Nat) (d : Bytes)
    (fb : UInt8) : Except DErr (Pkt × Option Nat) := do
  let g := guessed.length
  need d (1 + g)                                       -- "B" + str(len(guessed_dcid)) + "s"
  let pnOff := 1 + g
  let sample := Bytes.slice d (pnOff + 4) (pnOff + 4 + 16)
  let key ← ofOpt .key (env.keys (if isServer then .serverApplication else .clientApplication))
  let (fb', pn, pnLen) ← removeHP mask false sample fb key d pnOff env.chacha
  -- fmt += str(pn_len) + "s" + str(len(datagram_data) - (1 + len(guessed_dcid) + pn_len)) + "s"
  if d.length < 1 + g + pnLen then .error .struct
  else
    let payload := Bytes.slice d (1 + g + pnLen) (1 + g + pnLen + (d.length - (1 + g + pnLen)))
    .ok ({ htype := .short, ptype := .rtt1, isServer := isServer, ts := ts, firstByte := [fb'], dcid := guessed,
           pn := some pn, payload := some payload, keyPhase := some (((fb' >>> 2) &&& 1).toNat) },
         some (1 + g + pnLen + payload.length))

/-- extract_quic_packet(in_packet, isserver, guessed_dcid, keys, ciphersuite) on `in_packet.tls_data = d` -/
def extract (mask : MaskFn) (env : Env) (isServer : Bool) (guessed : Bytes) (ts : Nat) (d : Bytes) : Out :=
  match d with
  | [] => { pkts := [], rest := [], err := some .index }          -- get_header_type: `datagram_data[0]`
  | fb :: _ =>
    if Bytes.beNat d = 0 then { pkts := [], rest := [] }           -- zero padding at the end
    else
      match (if isLong fb then extractLong mask env isServer ts d fb
             else extractShort mask env isServer guessed ts d fb) with
      | .error e => { pkts := [], rest := [], err := some e }
      | .ok (p, none) => { pkts := [p], rest := [], err := some .unbound }
      | .ok (p, some total) => { pkts := [p], rest := d.drop total }   -- datagram_data[total_packet_len:]

/-! ### what a call that succeeds returns

Facts about every `return` of the code are read off by walking the program once, backwards, with a postcondition. -/

/-- an optional field that, when set, is a Python slice `d[a:b]` -/
def IsSlice (d : Bytes) (o : Option Bytes) : Prop := ∀ x, o = some x → ∃ a b, x = Bytes.slice d a b

theorem IsSlice.none {d : Bytes} : IsSlice d none := fun _ h => by cases h
theorem IsSlice.slice {d : Bytes} (a b : Nat) : IsSlice d (some (Bytes.slice d a b)) :=
  fun _ h => by cases h; exact ⟨a, b, rfl⟩

/-- a bound `total_packet_len` is at least 1 (in fact ≥ 1 + len(guessed_dcid) resp. ≥ 7); the payload, the token
    and the Length bytes of the packet are slices of the data; the packet carries the time and direction it was
    given, and is a long-header packet or 1-RTT -/
def Returned (d : Bytes) (ts : Nat) (isServer : Bool) (r : Pkt × Option Nat) : Prop :=
  (∀ t, r.2 = some t → 1 ≤ t) ∧ IsSlice d r.1.payload ∧ IsSlice d r.1.token ∧ IsSlice d r.1.lenBytes ∧
  r.1.ts = ts ∧ r.1.isServer = isServer ∧ (r.1.htype = .long ∨ r.1.ptype = .rtt1)

theorem protectedTail_ok (mask : MaskFn) (env : Env) (name : KeyName) (chacha : Bool) (d : Bytes) (fb : UInt8)
    (lenOff : Nat) :
    Post (fun r => IsSlice d (some r.1) ∧ IsSlice d (some r.2.2.2.2.1)) (protectedTail mask env name chacha d fb lenOff) := by
  unfold protectedTail
  refine Post.bind fun _ _ => ?_
  refine Post.bind fun _ _ => ?_
  refine Post.bind fun _ _ => ?_
  refine Post.bind fun _ _ => ?_
  refine Post.bind fun _ _ => ?_
  refine Post.bind fun _ _ => ?_
  refine Post.ite (fun _ => Post.error _) fun _ => Post.bind fun _ _ => ?_
  exact Post.pure ⟨.slice _ _, .slice _ _⟩

theorem extractLong_ok (mask : MaskFn) (env : Env) (isServer : Bool) (ts : Nat) (d : Bytes) (fb : UInt8) :
    Post (Returned d ts isServer) (extractLong mask env isServer ts d fb) := by
  unfold extractLong
  refine Post.bind fun _ _ => ?_
  refine Post.bind fun _ _ => ?_
  refine Post.bind fun _ _ => ?_
  refine Post.bind fun _ _ => ?_
  refine Post.bind fun _ _ => ?_
  refine Post.bind fun _ _ => ?_
  refine Post.ite (fun _ => Post.bind fun _ _ => ?_) fun _ => ?_
  · exact Post.pure ⟨fun _ h => (nomatch h), .none, .none, .none, rfl, rfl, .inl rfl⟩
  split
  · refine Post.bind fun _ _ => ?_
    refine Post.bind fun _ _ => ?_
    refine Post.bind fun _ _ => ?_
    refine Post.bind fun _ _ => ?_
    refine Post.bind fun _ _ => ?_
    refine Post.bind fun r hr => ?_
    have hs := protectedTail_ok _ _ _ _ _ _ _ _ hr
    exact Post.pure ⟨fun t h => by cases h; omega, hs.2, .slice _ _, hs.1, rfl, rfl, .inl rfl⟩
  · refine Post.bind fun r hr => ?_
    have hs := protectedTail_ok _ _ _ _ _ _ _ _ hr
    exact Post.pure ⟨fun t h => by cases h; omega, hs.2, .none, hs.1, rfl, rfl, .inl rfl⟩
  · refine Post.bind fun r hr => ?_
    have hs := protectedTail_ok _ _ _ _ _ _ _ _ hr
    exact Post.pure ⟨fun t h => by cases h; omega, hs.2, .none, hs.1, rfl, rfl, .inl rfl⟩
  · refine Post.ite (fun _ => Post.error _) fun _ => ?_
    exact Post.pure ⟨fun t h => by cases h; omega, .none, .none, .none, rfl, rfl, .inl rfl⟩
  · exact Post.error _

theorem extractShort_ok (mask : MaskFn) (env : Env) (isServer : Bool) (guessed : Bytes) (ts : Nat) (d : Bytes)
    (fb : UInt8) : Post (Returned d ts isServer) (extractShort mask env isServer guessed ts d fb) := by
  unfold extractShort
  refine Post.bind fun _ _ => ?_
  refine Post.bind fun _ _ => ?_
  refine Post.bind fun _ _ => ?_
  refine Post.ite (fun _ => Post.error _) fun _ => ?_
  exact Post.pure ⟨fun t h => by cases h; omega, .slice _ _, .none, .none, rfl, rfl, .inr rfl⟩

theorem call_ok (mask : MaskFn) (env : Env) (isServer : Bool) (guessed : Bytes) (ts : Nat) (d : Bytes) (fb : UInt8) :
    Post (Returned d ts isServer) (if isLong fb then extractLong mask env isServer ts d fb
                         else extractShort mask env isServer guessed ts d fb) :=
  Post.ite (fun _ => extractLong_ok _ _ _ _ _ _) (fun _ => extractShort_ok _ _ _ _ _ _ _)

/-! ### every call shortens non-empty data -/

/-- the last `match` of `extract` under a name, for the lemmas: `extract` above is the model and spells the three arms out
    itself, `extract_cons_eq` says the two agree -/
def finish (d : Bytes) : Except DErr (Pkt × Option Nat) → Out
  | .error e => { pkts := [], rest := [], err := some e }
  | .ok (p, none) => { pkts := [p], rest := [], err := some .unbound }
  | .ok (p, some total) => { pkts := [p], rest := d.drop total }

theorem extract_cons_eq (mask : MaskFn) (env : Env) (isServer : Bool) (guessed : Bytes) (ts : Nat) (fb : UInt8) (r : Bytes) :
    extract mask env isServer guessed ts (fb :: r) =
      if Bytes.beNat (fb :: r) = 0 then { pkts := [], rest := [] }
      else finish (fb :: r) (if isLong fb then extractLong mask env isServer ts (fb :: r) fb
             else extractShort mask env isServer guessed ts (fb :: r) fb) := by
  unfold extract
  simp only
  split <;> rfl

theorem finish_cases (d : Bytes) (m : Except DErr (Pkt × Option Nat)) :
    ((finish d m).pkts = [] ∧ (finish d m).rest = []) ∨
    ∃ p o, m = .ok (p, o) ∧ (finish d m).pkts = [p] ∧ (finish d m).rest = o.elim [] d.drop :=
  match m with
  | .error _ => .inl ⟨rfl, rfl⟩
  | .ok (p, none) => .inr ⟨p, none, rfl, rfl, rfl⟩
  | .ok (p, some t) => .inr ⟨p, some t, rfl, rfl, rfl⟩

/-- a call returns nothing, or the one packet of the arm taken and the data after `total_packet_len` (nothing when
    that is unbound) -/
theorem extract_cases (mask : MaskFn) (env : Env) (isServer : Bool) (guessed : Bytes) (ts : Nat) (d : Bytes) :
    ((extract mask env isServer guessed ts d).pkts = [] ∧ (extract mask env isServer guessed ts d).rest = []) ∨
    ∃ fb p o, (if isLong fb then extractLong mask env isServer ts d fb
               else extractShort mask env isServer guessed ts d fb) = .ok (p, o) ∧
      (extract mask env isServer guessed ts d).pkts = [p] ∧
      (extract mask env isServer guessed ts d).rest = o.elim [] d.drop := by
  cases d with
  | nil => exact .inl ⟨rfl, rfl⟩
  | cons fb r =>
    rw [extract_cons_eq]
    split
    · exact .inl ⟨rfl, rfl⟩
    · exact (finish_cases _ _).imp_right fun ⟨p, o, h⟩ => ⟨fb, p, o, h⟩

theorem extract_returned (mask : MaskFn) (env : Env) (isServer : Bool) (guessed : Bytes) (ts : Nat) (d : Bytes) (p : Pkt)
    (hp : p ∈ (extract mask env isServer guessed ts d).pkts) : ∃ o, Returned d ts isServer (p, o) := by
  obtain ⟨h, -⟩ | ⟨fb, q, o, hq, h, -⟩ := extract_cases mask env isServer guessed ts d <;> rw [h] at hp
  · cases hp
  · obtain rfl := List.mem_singleton.mp hp
    exact ⟨o, call_ok mask env isServer guessed ts d fb _ hq⟩

/-- the remainder is a proper suffix: `rest = d[t:]` for some `t ≥ 1` (`t = len(d)` when it is dropped) -/
theorem extract_rest_suffix (mask : MaskFn) (env : Env) (isServer : Bool) (guessed : Bytes) (ts : Nat) (d : Bytes)
    (hd : d ≠ []) : ∃ t, 1 ≤ t ∧ (extract mask env isServer guessed ts d).rest = d.drop t := by
  have hnil : ∃ t, 1 ≤ t ∧ ([] : Bytes) = d.drop t :=
    ⟨d.length, List.length_pos_iff.mpr hd, List.drop_length.symm⟩
  obtain ⟨-, h⟩ | ⟨_, _, o, hq, -, h⟩ := extract_cases mask env isServer guessed ts d <;> rw [h]
  · exact hnil
  · cases o with
    | none => exact hnil
    | some t => exact ⟨t, (call_ok _ _ _ _ _ _ _ _ hq).1 t rfl, rfl⟩

theorem extract_rest_lt (mask : MaskFn) (env : Env) (isServer : Bool) (guessed : Bytes) (ts : Nat) (d : Bytes)
    (hd : d.length ≠ 0) : (extract mask env isServer guessed ts d).rest.length < d.length := by
  obtain ⟨t, ht, h⟩ := extract_rest_suffix mask env isServer guessed ts d (by intro h; simp [h] at hd)
  rw [h, List.length_drop]; omega

/-! ### the loop of handle_packet -/

/-- `while len(packet.tls_data) != 0: quic_packets, packet = extract_quic_packet(…, keys=self.keys,
    ciphersuite=self.tls_session.ciphersuite); self.packet_buffer_quic.extend(quic_packets); self.handle_quic_packet()`
    — `handle_quic_packet` may change the keys and the cipher suite between two turns (handshake keys derived from
    the Initial of the same datagram; Retry clears them): `s` is the session state, `envOf s` what the next call
    is given, `handle s pkts` the state after `handle_quic_packet`. Returns the final state and all packets. -/
def dissectLoop {σ : Type} (mask : MaskFn) (envOf : σ → Env) (handle : σ → List Pkt → σ)
    (isServer : Bool) (guessed : Bytes) (ts : Nat) (s : σ) (d : Bytes) : σ × List Pkt :=
  if h : d.length = 0 then (s, [])
  else
    let o := extract mask (envOf s) isServer guessed ts d
    let r := dissectLoop mask envOf handle isServer guessed ts (handle s o.pkts) o.rest
    (r.1, o.pkts ++ r.2)
termination_by d.length
decreasing_by exact extract_rest_lt mask (envOf s) isServer guessed ts d h

/-- the loop with keys and cipher suite that do not change during the datagram -/
def dissectAll (mask : MaskFn) (env : Env) (isServer : Bool) (guessed : Bytes) (ts : Nat) (d : Bytes) : List Pkt :=
  (dissectLoop (σ := Unit) mask (fun _ => env) (fun _ _ => ()) isServer guessed ts () d).2

/-- the calls the loop makes, in order: (data given, result) -/
def dissectTrace {σ : Type} (mask : MaskFn) (envOf : σ → Env) (handle : σ → List Pkt → σ)
    (isServer : Bool) (guessed : Bytes) (ts : Nat) (s : σ) (d : Bytes) : List (Bytes × Out) :=
  if h : d.length = 0 then []
  else
    let o := extract mask (envOf s) isServer guessed ts d
    (d, o) :: dissectTrace mask envOf handle isServer guessed ts (handle s o.pkts) o.rest
termination_by d.length
decreasing_by exact extract_rest_lt mask (envOf s) isServer guessed ts d h

/-! ### derived attributes and the associated data -/

/-- `token_len = decode_variable_length_int(token_len_bytes)` -/
def _root_.TLX.Quic.Pkt.tokenLen (p : Pkt) : Option Nat := p.tokenLenBytes.bind decodeVarint

/-- `packet_len = decode_variable_length_int(packet_len_bytes).to_bytes(packet_len_len, "big")` -/
def _root_.TLX.Quic.Pkt.packetLen (p : Pkt) : Option Bytes :=
  p.lenBytes.bind fun b => (decodeVarint b).map (Bytes.ofNatBE b.length)

/-- `associated_data` of QuicSession.decrypt_packet (quic_session.py 219-228); `none` = the expression raises
    (an attribute the constructor did not set / no `case` matched → `associated_data` unbound) -/
def aad (p : Pkt) : Option Bytes :=
  match p.htype with
  | .long =>
    match p.ptype with
    | .initial => do
      let v ← p.version; let dl ← p.dcidLen; let sl ← p.scidLen; let sc ← p.scid
      let tlb ← p.tokenLenBytes; let tok ← p.token; let lb ← p.lenBytes; let pn ← p.pn
      pure (p.firstByte ++ v ++ dl ++ p.dcid ++ sl ++ sc ++ tlb ++ tok ++ lb ++ pn)
    | .handshake | .rtt0 => do
      let v ← p.version; let dl ← p.dcidLen; let sl ← p.scidLen; let sc ← p.scid
      let lb ← p.lenBytes; let pn ← p.pn
      pure (p.firstByte ++ v ++ dl ++ p.dcid ++ sl ++ sc ++ lb ++ pn)
    | _ => none
  | .short => do
    let pn ← p.pn
    pure (p.firstByte ++ p.dcid ++ pn)

end TLX.Quic.Dissect
