/-
Model of tlexport/quic/quic_decode.py (C17):

  * `getVarintLength`  — `get_variable_length_int_length(b)`  (quic_decode.py:16-21)
  * `decodeVarint`     — `decode_variable_length_int(b)`      (quic_decode.py:4-13)
  * `readVarint p idx` — the two-line idiom every frame class of quic_frame.py uses:
        self.length += get_variable_length_int_length(payload[index:index + 1])
        value = decode_variable_length_int(payload[index:self.length])
    returning the value and the new `self.length` (= next index).

`none` is Python's `IndexError` (`b[0]` on an empty slice, `b[i]` past the end of a short slice) —
the only exception these functions can raise on `bytes` input.
Core Lean only (linked into `tlxdriver`).
-/
import TLX.Py
namespace TLX.Quic.Varint
open TLX

/-- `v = (v << 8) + b[i]` folded over the bytes `b`, starting from `a`. -/
def accBE (a : Nat) (b : Bytes) : Nat := b.foldl (fun a x => a * 256 + x.toNat) a

/-- `prefix = v >> 6; length = 1 << prefix` on the first byte. -/
def varintLen (x : UInt8) : Nat := 1 <<< (x.toNat >>> 6)

/-- `get_variable_length_int_length(first_byte_of_variable_int)`: `b[0]` raises on `b""`. -/
def getVarintLength : Bytes → Option Nat
  | [] => none
  | x :: _ => some (varintLen x)

/-- `decode_variable_length_int(variable_integer)`: reads `b[0]`, then `b[1] … b[length-1]`
    (IndexError if the slice is shorter than the announced length; extra bytes are ignored). -/
def decodeVarint : Bytes → Option Nat
  | [] => none
  | x :: rest =>
    let len := varintLen x
    if rest.length < len - 1 then none
    else some (accBE (x.toNat &&& 0x3f) (rest.take (len - 1)))

/-- The idiom at `index = idx`: returns `(value, idx + varint length)`. -/
def readVarint (p : Bytes) (idx : Nat) : Option (Nat × Nat) :=
  match getVarintLength (Bytes.slice p idx (idx + 1)) with
  | none => none
  | some l =>
    match decodeVarint (Bytes.slice p idx (idx + l)) with
    | none => none
    | some v => some (v, idx + l)

theorem varintLen_pos (x : UInt8) : 1 ≤ varintLen x := by
  unfold varintLen
  rw [Nat.shiftLeft_eq, Nat.one_mul]
  exact Nat.one_le_two_pow

/-- `readVarint` seen from the bytes that remain at `idx` (used by all lemmas). -/
theorem readVarint_eq (p : Bytes) (idx : Nat) :
    readVarint p idx =
      match p.drop idx with
      | [] => none
      | x :: r =>
        if r.length < varintLen x - 1 then none
        else some (accBE (x.toNat &&& 0x3f) (r.take (varintLen x - 1)), idx + varintLen x) := by
  unfold readVarint Bytes.slice
  cases h : p.drop idx with
  | nil => simp [getVarintLength]
  | cons x r =>
    have hl := varintLen_pos x
    simp only [Nat.add_sub_cancel_left, List.take_succ_cons, List.take_zero, getVarintLength]
    obtain ⟨m, hm⟩ : ∃ m, varintLen x = m + 1 := ⟨varintLen x - 1, by omega⟩
    simp only [hm, List.take_succ_cons, decodeVarint, Nat.add_sub_cancel, List.length_take,
      List.take_take, Nat.min_self]
    by_cases hlt : r.length < m
    · have : min m r.length < m := by omega
      simp [hlt, this]
    · have : ¬ min m r.length < m := by omega
      simp [hlt, this]

theorem readVarint_some (p : Bytes) (i v j : Nat) (h : readVarint p i = some (v, j)) :
    ∃ x r, p.drop i = x :: r ∧ varintLen x - 1 ≤ r.length ∧ j = i + varintLen x := by
  rw [readVarint_eq] at h
  split at h
  · cases h
  · rename_i x r hd
    split at h
    · cases h
    · cases h
      exact ⟨x, r, hd, by omega, rfl⟩

/-- A successful read moves the index forward … -/
theorem readVarint_idx (p : Bytes) (i v j : Nat) (h : readVarint p i = some (v, j)) : i < j := by
  obtain ⟨x, _, _, _, rfl⟩ := readVarint_some p i v j h
  exact Nat.lt_add_of_pos_right (varintLen_pos x)

/-- … and stays inside the payload (so `len(payload) - index` in StreamFrame is never negative). -/
theorem readVarint_le (p : Bytes) (i v j : Nat) (h : readVarint p i = some (v, j)) : j ≤ p.length := by
  obtain ⟨x, r, hd, hr, rfl⟩ := readVarint_some p i v j h
  have : (p.drop i).length = r.length + 1 := by rw [hd]; rfl
  have := varintLen_pos x
  simp only [List.length_drop] at *
  omega

end TLX.Quic.Varint
