/-
Model of tlexport/quic/quic_frame.py (C17): `parse_frames` and every frame class constructor.

  source                                   model
  ---------------------------------------  ---------------------------------------------
  parse_frames (quic_frame.py:5-25)        `lookup` (key loop, LAST matching key wins, over the
                                           table regenerated from the source: TLX.Gen.frameTable),
                                           `parseOne` (dispatch + constructor), `parseFrames` (loop)
  PaddingFrame.__init__ (36-47)            `padLen`, `parsePadding`
  GenericFrame (50-58)                     `parseGeneric` (with its odd `data` slice starting at 1 + self.length)
  PingFrame (61-66), HandshakeDoneFrame    `.ping`, `.handshakeDone` (class attribute length = 1)
  AckFrame (69-112)                        `parseAck`, `ackRanges` (the `for i in range(0, range_count)` loop)
  ResetStreamFrame … DatagramFrame         `parseResetStream` … `parseDatagram`

Python semantics kept: slices clamp (`Bytes.slice`), `payload[i]` raises, every exception the
constructors can raise on `bytes` input is an `IndexError` and makes `parse_frames` raise as a
whole: the model returns `none` (no frames). `src_packet` is stored, never read: not modelled.
`PseudoVersionNegotiationFrame` is not in `frame_type`, hence unreachable from `parse_frames`: not modelled.
Attributes that are pure functions of another attribute (`StreamFrame.server_initiated`,
`stream_unidirectional`) are the functions `streamServerInitiated`/`streamUnidirectional` below.

`parseFrames` is defined by well-founded recursion on the remaining payload length; Lean accepts it
only because of `parseOne_length_pos` (every constructed frame has `length ≥ 1`) — this is the
"cannot hang" half of C17: an edit of the model mirroring a source change that lets some frame
have length 0 breaks the build at the termination obligation.
Core Lean only (linked into `tlxdriver`).
-/
import TLX.Quic.Varint
import TLX.Gen.FrameTable
set_option linter.unusedVariables false  -- the `h` of `match h : parseOne p` (`parseFrames`) is read by `decreasing_by` only
namespace TLX.Quic.Frame
open TLX TLX.Quic TLX.Quic.Varint

/-- The attributes a frame object carries after construction (`length` always; per class the rest). -/
inductive Parsed where
  | padding (length : Nat)
  | ping
  | ack (ftype length largest delay rangeCount firstRange : Nat) (ranges : List (Nat × Nat))
      (ecn : Option (Nat × Nat × Nat))
  | resetStream (length sid err finalSize : Nat)
  | stopSending (length sid err : Nat)
  | crypto (length offset cryptoLength : Nat) (data : Bytes)
  | newToken (length tokenLength : Nat) (token : Bytes)
  | stream (ftype length : Nat) (fin lenBit offBit : Bool) (sid offset dataLength : Nat) (data : Bytes)
  | maxData (length max : Nat)
  | maxStreamData (length sid max : Nat)
  | maxStreams (ftype length max : Nat)
  | dataBlocked (length max : Nat)
  | streamDataBlocked (length sid max : Nat)
  | streamsBlocked (ftype length max : Nat)
  | newConnectionId (length seq retire cidLen : Nat) (cid token : Bytes)
  | retireConnectionId (length seq : Nat)
  | pathChallenge (data : Bytes)
  | pathResponse (data : Bytes)
  | connectionClose (ftype length err : Nat) (closeType : Option Nat) (reasonLength : Nat) (reason : Bytes)
  | handshakeDone
  | datagram (ftype length : Nat) (lenBit : Bool) (payload : Bytes)
  | generic (length frameLength : Nat) (data : Bytes)
  deriving DecidableEq, Repr

/-- `frame.length` -/
def Parsed.length : Parsed → Nat
  | .padding n => n
  | .ping => 1
  | .ack _ n _ _ _ _ _ _ => n
  | .resetStream n _ _ _ => n
  | .stopSending n _ _ => n
  | .crypto n _ _ _ => n
  | .newToken n _ _ => n
  | .stream _ n _ _ _ _ _ _ _ => n
  | .maxData n _ => n
  | .maxStreamData n _ _ => n
  | .maxStreams _ n _ => n
  | .dataBlocked n _ => n
  | .streamDataBlocked n _ _ => n
  | .streamsBlocked _ n _ => n
  | .newConnectionId n _ _ _ _ _ => n
  | .retireConnectionId n _ => n
  | .pathChallenge _ => 9
  | .pathResponse _ => 9
  | .connectionClose _ n _ _ _ _ => n
  | .handshakeDone => 1
  | .datagram _ n _ _ => n
  | .generic n _ _ => n

/-- `type(frame).__name__` -/
def Parsed.cls : Parsed → Cls
  | .padding .. => .PaddingFrame
  | .ping => .PingFrame
  | .ack .. => .AckFrame
  | .resetStream .. => .ResetStreamFrame
  | .stopSending .. => .StopSendingFrame
  | .crypto .. => .CryptoFrame
  | .newToken .. => .NewTokenFrame
  | .stream .. => .StreamFrame
  | .maxData .. => .MaxDataFrame
  | .maxStreamData .. => .MaxStreamDataFrame
  | .maxStreams .. => .MaxStreamsFrame
  | .dataBlocked .. => .DataBlockedFrame
  | .streamDataBlocked .. => .StreamDataBlockedFrame
  | .streamsBlocked .. => .StreamsBlockedFrame
  | .newConnectionId .. => .NewConnectionIdFrame
  | .retireConnectionId .. => .RetireConnectionIdFrame
  | .pathChallenge .. => .PathChallengeFrame
  | .pathResponse .. => .PathResponseFrame
  | .connectionClose .. => .ConnectionCloseFrame
  | .handshakeDone => .HandshakeDoneFrame
  | .datagram .. => .DatagramFrame
  | .generic .. => .GenericFrame

/-- The byte-string attributes of a frame (`crypto`, `token`, `stream_data`, `connection_id`,
    `stateless_reset_token`, `data`, `reason_phrase`, `payload`), in wire order. -/
def Parsed.datas : Parsed → List Bytes
  | .crypto _ _ _ d => [d]
  | .newToken _ _ d => [d]
  | .stream _ _ _ _ _ _ _ _ d => [d]
  | .newConnectionId _ _ _ _ cid tok => [cid, tok]
  | .pathChallenge d => [d]
  | .pathResponse d => [d]
  | .connectionClose _ _ _ _ _ d => [d]
  | .datagram _ _ _ d => [d]
  | .generic _ _ d => [d]
  | _ => []

/-- `self.server_initiated = bool(self.stream_id & 1)` -/
def streamServerInitiated (sid : Nat) : Bool := sid &&& 1 != 0
/-- `self.stream_unidirectional = bool((self.stream_id >> 1) & 1)` -/
def streamUnidirectional (sid : Nat) : Bool := (sid >>> 1) &&& 1 != 0

/-! ### frame class constructors -/

/-- PaddingFrame: index of the first non-zero byte, or `len(payload)`. -/
def padLen : Bytes → Nat
  | [] => 0
  | x :: r => if x = 0 then padLen r + 1 else 0

def parsePadding (p : Bytes) : Option Parsed := some (.padding (padLen p))

/-- GenericFrame: `length = 1 + vlen; frame_length = varint; data = payload[1+length : 1+length+frame_length]`
    (sic: one byte further than the length field ends); `length += frame_length`. -/
def parseGeneric (p : Bytes) : Option Parsed := do
  let (fl, l) ← readVarint p 1
  pure (.generic (l + fl) fl (Bytes.slice p (1 + l) (1 + l + fl)))

/-- The `for i in range(0, self.range_count)` loop of AckFrame, from `index = idx`. -/
def ackRanges (p : Bytes) : Nat → Nat → Option (List (Nat × Nat) × Nat)
  | 0, idx => some ([], idx)
  | n + 1, idx => do
    let (gap, i1) ← readVarint p idx
    let (len, i2) ← readVarint p i1
    let (rs, j) ← ackRanges p n i2
    pure ((gap, len) :: rs, j)

def parseAck (p : Bytes) : Option Parsed := do
  let t ← p[0]?
  let (largest, i1) ← readVarint p 1
  let (delay, i2) ← readVarint p i1
  let (cnt, i3) ← readVarint p i2
  let (first, i4) ← readVarint p i3
  let (ranges, i5) ← ackRanges p cnt i4
  if t.toNat = 0x03 then do
    let (e0, i6) ← readVarint p i5
    let (e1, i7) ← readVarint p i6
    let (ce, i8) ← readVarint p i7
    pure (.ack t.toNat i8 largest delay cnt first ranges (some (e0, e1, ce)))
  else
    pure (.ack t.toNat i5 largest delay cnt first ranges none)

def parseResetStream (p : Bytes) : Option Parsed := do
  let (sid, i1) ← readVarint p 1
  let (err, i2) ← readVarint p i1
  let (fs, i3) ← readVarint p i2
  pure (.resetStream i3 sid err fs)

def parseStopSending (p : Bytes) : Option Parsed := do
  let (sid, i1) ← readVarint p 1
  let (err, i2) ← readVarint p i1
  pure (.stopSending i2 sid err)

def parseCrypto (p : Bytes) : Option Parsed := do
  let (off, i1) ← readVarint p 1
  let (n, i2) ← readVarint p i1
  pure (.crypto (i2 + n) off n (Bytes.slice p i2 (i2 + n)))

def parseNewToken (p : Bytes) : Option Parsed := do
  let (n, i1) ← readVarint p 1
  pure (.newToken (i1 + n) n (Bytes.slice p i1 (i1 + n)))

/-- `if self.off: <read offset> else: self.offset = 0` -/
def readOffsetIf (c : Bool) (p : Bytes) (i : Nat) : Option (Nat × Nat) :=
  if c then readVarint p i else some (0, i)

/-- `if self.frame_type == 0x1c: <read close_frame_type>` (attribute absent otherwise) -/
def readCloseTypeIf (c : Bool) (p : Bytes) (i : Nat) : Option (Option Nat × Nat) :=
  if c then (readVarint p i).map (fun (v, j) => (some v, j)) else some (none, i)

def parseStream (p : Bytes) : Option Parsed := do
  let t ← p[0]?
  let ft := t.toNat
  let fin := ft &&& 1 != 0
  let len := (ft >>> 1) &&& 1 != 0
  let off := (ft >>> 2) &&& 1 != 0
  let (sid, i1) ← readVarint p 1
  let (offset, i2) ← readOffsetIf off p i1
  if len then do
    let (n, i3) ← readVarint p i2
    pure (.stream ft (i3 + n) fin len off sid offset n (Bytes.slice p i3 (i3 + n)))
  else
    -- `self.length = len(payload); self.data_length = len(payload) - index` (index ≤ len: readVarint_le)
    pure (.stream ft p.length fin len off sid offset (p.length - i2) (Bytes.slice p i2 p.length))

def parseMaxData (p : Bytes) : Option Parsed := do
  let (m, i1) ← readVarint p 1
  pure (.maxData i1 m)

def parseMaxStreamData (p : Bytes) : Option Parsed := do
  let (sid, i1) ← readVarint p 1
  let (m, i2) ← readVarint p i1
  pure (.maxStreamData i2 sid m)

def parseMaxStreams (p : Bytes) : Option Parsed := do
  let t ← p[0]?
  let (m, i1) ← readVarint p 1
  pure (.maxStreams t.toNat i1 m)

def parseDataBlocked (p : Bytes) : Option Parsed := do
  let (m, i1) ← readVarint p 1
  pure (.dataBlocked i1 m)

def parseStreamDataBlocked (p : Bytes) : Option Parsed := do
  let (sid, i1) ← readVarint p 1
  let (m, i2) ← readVarint p i1
  pure (.streamDataBlocked i2 sid m)

def parseStreamsBlocked (p : Bytes) : Option Parsed := do
  let t ← p[0]?
  let (m, i1) ← readVarint p 1
  pure (.streamsBlocked t.toNat i1 m)

def parseNewConnectionId (p : Bytes) : Option Parsed := do
  let (seq, i1) ← readVarint p 1
  let (rpt, i2) ← readVarint p i1
  let cl ← p[i2]?                       -- `payload[self.length]` raises when the payload ends here
  let l := i2 + 1
  let cid := Bytes.slice p l (l + cl.toNat)
  let l := l + cl.toNat
  let tok := Bytes.slice p l (l + 16)
  pure (.newConnectionId (l + 16) seq rpt cl.toNat cid tok)

def parseRetireConnectionId (p : Bytes) : Option Parsed := do
  let (seq, i1) ← readVarint p 1
  pure (.retireConnectionId i1 seq)

def parsePathChallenge (p : Bytes) : Option Parsed := some (.pathChallenge (Bytes.slice p 1 9))
def parsePathResponse (p : Bytes) : Option Parsed := some (.pathResponse (Bytes.slice p 1 9))

def parseConnectionClose (p : Bytes) : Option Parsed := do
  let t ← p[0]?
  let (err, i1) ← readVarint p 1
  let (ct, i2) ← readCloseTypeIf (t.toNat == 0x1c) p i1
  let (rl, i3) ← readVarint p i2
  pure (.connectionClose t.toNat (i3 + rl) err ct rl (Bytes.slice p i3 (i3 + rl)))

def parseDatagram (p : Bytes) : Option Parsed := do
  let t ← p[0]?
  let lenBit := t.toNat &&& 1 == 1
  if lenBit then do
    let (n, i1) ← readVarint p 1       -- i1 = 1 + var_int_length
    pure (.datagram t.toNat (i1 + n) lenBit (Bytes.slice p i1 (i1 + n)))
  else
    pure (.datagram t.toNat p.length lenBit (Bytes.slice p 1 p.length))

/-- `frame_type.get(key)(payload, src_packet)` for the class `key` maps to. -/
def construct : Cls → Bytes → Option Parsed
  | .PaddingFrame, p => parsePadding p
  | .PingFrame, _ => some .ping
  | .AckFrame, p => parseAck p
  | .ResetStreamFrame, p => parseResetStream p
  | .StopSendingFrame, p => parseStopSending p
  | .CryptoFrame, p => parseCrypto p
  | .NewTokenFrame, p => parseNewToken p
  | .StreamFrame, p => parseStream p
  | .MaxDataFrame, p => parseMaxData p
  | .MaxStreamDataFrame, p => parseMaxStreamData p
  | .MaxStreamsFrame, p => parseMaxStreams p
  | .DataBlockedFrame, p => parseDataBlocked p
  | .StreamDataBlockedFrame, p => parseStreamDataBlocked p
  | .StreamsBlockedFrame, p => parseStreamsBlocked p
  | .NewConnectionIdFrame, p => parseNewConnectionId p
  | .RetireConnectionIdFrame, p => parseRetireConnectionId p
  | .PathChallengeFrame, p => parsePathChallenge p
  | .PathResponseFrame, p => parsePathResponse p
  | .ConnectionCloseFrame, p => parseConnectionClose p
  | .HandshakeDoneFrame, _ => some .handshakeDone
  | .DatagramFrame, p => parseDatagram p
  | .GenericFrame, p => parseGeneric p

/-- The key loop of parse_frames: `for k in keys: if payload[0] in k: key = k` — the LAST matching
    key of the table (dict iteration order) wins; `none` = `key` stayed `0xff` → GenericFrame. -/
def lookup (t : Nat) : Option Cls :=
  TLX.Gen.frameTable.foldl (fun acc kc => if t ∈ kc.1 then some kc.2 else acc) none

/-- One iteration of the loop body on a non-empty payload: the frame object constructed. -/
def parseOne (p : Bytes) : Option Parsed :=
  match p with
  | [] => none                 -- not reached: the loop runs only while `len(payload) != 0`
  | t :: _ =>
    match lookup t.toNat with
    | some c => construct c p
    | none => parseGeneric p

theorem padLen_pos (x : UInt8) (r : Bytes) (h : x = 0) : 1 ≤ padLen (x :: r) := by simp [padLen, h]

theorem lookup_mem (t : Nat) (c : Cls) (h : lookup t = some c) : ∃ kc ∈ TLX.Gen.frameTable, t ∈ kc.1 ∧ kc.2 = c := by
  have fold : ∀ (T : List (List Nat × Cls)) (a : Option Cls),
      T.foldl (fun acc kc => if t ∈ kc.1 then some kc.2 else acc) a = some c →
      a = some c ∨ ∃ kc ∈ T, t ∈ kc.1 ∧ kc.2 = c := by
    intro T
    induction T with
    | nil => exact fun a h => Or.inl h
    | cons kc T ih =>
      intro a h
      rw [List.foldl_cons] at h
      rcases ih _ h with h | ⟨e, he, h⟩
      · split at h
        · exact Or.inr ⟨kc, List.mem_cons_self, ‹_›, Option.some.inj h⟩
        · exact Or.inl h
      · exact Or.inr ⟨e, List.mem_cons_of_mem _ he, h⟩
  exact (fold _ none h).resolve_left (by simp)

/-- Only type byte 0 is dispatched to PaddingFrame: `[0]` is the only key tuple of the regenerated table with that class. -/
theorem lookup_padding (t : Nat) (h : lookup t = some .PaddingFrame) : t = 0 := by
  obtain ⟨kc, hkc, ht, hc⟩ := lookup_mem t _ h
  have : ∀ kc ∈ TLX.Gen.frameTable, kc.2 = .PaddingFrame → kc.1 = [0] := by decide
  rw [this kc hkc hc] at ht
  exact List.mem_singleton.mp ht

theorem readVarint_bind_some {α : Type} {p : Bytes} {i : Nat} {g : Nat × Nat → Option α} {a : α}
    (h : (readVarint p i).bind g = some a) : ∃ v j, i < j ∧ g (v, j) = some a := by
  obtain ⟨⟨v, j⟩, h1, h2⟩ := Option.bind_eq_some_iff.mp h
  exact ⟨v, j, readVarint_idx p i v j h1, h2⟩

theorem ackRanges_idx (p : Bytes) (n i : Nat) (rs : List (Nat × Nat)) (j : Nat)
    (h : ackRanges p n i = some (rs, j)) : i ≤ j := by
  induction n generalizing i rs j with
  | zero => cases h; exact Nat.le_refl _
  | succ n ih =>
    obtain ⟨_, _, h1, h⟩ := readVarint_bind_some h
    obtain ⟨_, _, h2, h⟩ := readVarint_bind_some h
    obtain ⟨⟨_, _⟩, h3, h⟩ := Option.bind_eq_some_iff.mp h
    cases h
    exact Nat.le_of_lt (Nat.lt_of_lt_of_le (Nat.lt_trans h1 h2) (ih _ _ _ h3))

theorem readOffsetIf_idx (c : Bool) (p : Bytes) (i v j : Nat) (h : readOffsetIf c p i = some (v, j)) : i ≤ j := by
  unfold readOffsetIf at h
  split at h
  · exact Nat.le_of_lt (readVarint_idx _ _ _ _ h)
  · simp only [Option.some.injEq, Prod.mk.injEq] at h; omega

theorem readCloseTypeIf_idx (c : Bool) (p : Bytes) (i : Nat) (v : Option Nat) (j : Nat)
    (h : readCloseTypeIf c p i = some (v, j)) : i ≤ j := by
  unfold readCloseTypeIf at h
  split at h
  · simp only [Option.map_eq_some_iff, Prod.exists, Prod.mk.injEq] at h
    obtain ⟨a, b, h1, _, rfl⟩ := h
    exact Nat.le_of_lt (readVarint_idx _ _ _ _ h1)
  · simp only [Option.some.injEq, Prod.mk.injEq] at h; omega

/-- Every byte-string attribute of `f` is some Python slice `p[a:b]`. -/
def FromPayload (p : Bytes) (f : Parsed) : Prop := ∀ d ∈ f.datas, ∃ a b, d = Bytes.slice p a b

theorem fromPayload_slices {p : Bytes} {f : Parsed} (l : List (Nat × Nat))
    (h : f.datas = l.map fun ab => Bytes.slice p ab.1 ab.2) : FromPayload p f := by
  intro d hd
  rw [h] at hd
  obtain ⟨ab, -, rfl⟩ := List.mem_map.mp hd
  exact ⟨_, _, rfl⟩

/-- One inversion of the reads of every constructor. The length is 1, 9, the payload length, a PADDING run, or an
    index some read has returned plus a data length: the last read alone shows that it is positive. The byte-string
    attributes are built only as `payload[a:b]`, whatever the reads return. -/
theorem construct_sound (c : Cls) (p : Bytes) (f : Parsed) (h : construct c p = some f) :
    (∀ t r, p = t :: r → (c = .PaddingFrame → t = 0) → 1 ≤ f.length) ∧ FromPayload p f := by
  have pos : ∀ {i j : Nat}, i < j → ∀ n, 1 ≤ j + n := fun h n => Nat.le_add_right_of_le (Nat.zero_lt_of_lt h)
  have whole : ∀ t r, p = t :: r → 1 ≤ p.length := fun t r hp => hp ▸ Nat.le_add_left 1 _
  cases c
  case PaddingFrame =>
    cases h; exact ⟨fun t r hp hc => hp ▸ padLen_pos t r (hc rfl), fromPayload_slices [] rfl⟩
  case PingFrame | HandshakeDoneFrame => cases h; exact ⟨fun _ _ _ _ => Nat.le_refl 1, fromPayload_slices [] rfl⟩
  case PathChallengeFrame | PathResponseFrame => cases h; exact ⟨fun _ _ _ _ => Nat.le_add_left 1 8, fromPayload_slices [(_, _)] rfl⟩
  case AckFrame =>
    obtain ⟨_, -, h⟩ := Option.bind_eq_some_iff.mp h
    obtain ⟨_, _, -, h⟩ := readVarint_bind_some h
    obtain ⟨_, _, -, h⟩ := readVarint_bind_some h
    obtain ⟨_, _, -, h⟩ := readVarint_bind_some h
    obtain ⟨_, _, h4, h⟩ := readVarint_bind_some h
    obtain ⟨_, h5, h⟩ := Option.bind_eq_some_iff.mp h
    have h5 := Nat.lt_of_lt_of_le h4 (ackRanges_idx _ _ _ _ _ h5)
    dsimp only at h
    split at h
    · obtain ⟨_, _, -, h⟩ := readVarint_bind_some h
      obtain ⟨_, _, -, h⟩ := readVarint_bind_some h
      obtain ⟨_, _, h8, h⟩ := readVarint_bind_some h
      cases h; exact ⟨fun _ _ _ _ => pos h8 0, fromPayload_slices [] rfl⟩
    · cases h; exact ⟨fun _ _ _ _ => pos h5 0, fromPayload_slices [] rfl⟩
  case ResetStreamFrame =>
    obtain ⟨_, _, -, h⟩ := readVarint_bind_some h
    obtain ⟨_, _, -, h⟩ := readVarint_bind_some h
    obtain ⟨_, _, h3, h⟩ := readVarint_bind_some h
    cases h; exact ⟨fun _ _ _ _ => pos h3 0, fromPayload_slices [] rfl⟩
  case StopSendingFrame | MaxStreamDataFrame | StreamDataBlockedFrame =>
    obtain ⟨_, _, -, h⟩ := readVarint_bind_some h
    obtain ⟨_, _, h2, h⟩ := readVarint_bind_some h
    cases h; exact ⟨fun _ _ _ _ => pos h2 0, fromPayload_slices [] rfl⟩
  case CryptoFrame =>
    obtain ⟨_, _, -, h⟩ := readVarint_bind_some h
    obtain ⟨_, _, h2, h⟩ := readVarint_bind_some h
    cases h; exact ⟨fun _ _ _ _ => pos h2 _, fromPayload_slices [(_, _)] rfl⟩
  case NewTokenFrame | GenericFrame =>
    obtain ⟨_, _, h1, h⟩ := readVarint_bind_some h
    cases h; exact ⟨fun _ _ _ _ => pos h1 _, fromPayload_slices [(_, _)] rfl⟩
  case StreamFrame =>
    obtain ⟨_, -, h⟩ := Option.bind_eq_some_iff.mp h
    obtain ⟨_, _, -, h⟩ := readVarint_bind_some h
    obtain ⟨_, -, h⟩ := Option.bind_eq_some_iff.mp h
    dsimp only at h
    split at h
    · obtain ⟨_, _, h3, h⟩ := readVarint_bind_some h
      cases h; exact ⟨fun _ _ _ _ => pos h3 _, fromPayload_slices [(_, _)] rfl⟩
    · cases h; exact ⟨fun t r hp _ => whole t r hp, fromPayload_slices [(_, _)] rfl⟩
  case MaxDataFrame | DataBlockedFrame | RetireConnectionIdFrame =>
    obtain ⟨_, _, h1, h⟩ := readVarint_bind_some h
    cases h; exact ⟨fun _ _ _ _ => pos h1 0, fromPayload_slices [] rfl⟩
  case MaxStreamsFrame | StreamsBlockedFrame =>
    obtain ⟨_, -, h⟩ := Option.bind_eq_some_iff.mp h
    obtain ⟨_, _, h1, h⟩ := readVarint_bind_some h
    cases h; exact ⟨fun _ _ _ _ => pos h1 0, fromPayload_slices [] rfl⟩
  case NewConnectionIdFrame =>
    obtain ⟨_, _, -, h⟩ := readVarint_bind_some h
    obtain ⟨_, _, -, h⟩ := readVarint_bind_some h
    obtain ⟨_, -, h⟩ := Option.bind_eq_some_iff.mp h
    cases h; exact ⟨fun _ _ _ _ => Nat.le_add_left 1 _, fromPayload_slices [(_, _), (_, _)] rfl⟩
  case ConnectionCloseFrame =>
    obtain ⟨_, -, h⟩ := Option.bind_eq_some_iff.mp h
    obtain ⟨_, _, -, h⟩ := readVarint_bind_some h
    obtain ⟨_, -, h⟩ := Option.bind_eq_some_iff.mp h
    obtain ⟨_, _, h3, h⟩ := readVarint_bind_some h
    cases h; exact ⟨fun _ _ _ _ => pos h3 _, fromPayload_slices [(_, _)] rfl⟩
  case DatagramFrame =>
    obtain ⟨_, -, h⟩ := Option.bind_eq_some_iff.mp h
    dsimp only at h
    split at h
    · obtain ⟨_, _, h1, h⟩ := readVarint_bind_some h
      cases h; exact ⟨fun _ _ _ _ => pos h1 _, fromPayload_slices [(_, _)] rfl⟩
    · cases h; exact ⟨fun t r hp _ => whole t r hp, fromPayload_slices [(_, _)] rfl⟩

theorem parseOne_some (p : Bytes) (f : Parsed) (h : parseOne p = some f) :
    ∃ t r c, p = t :: r ∧ (c = .PaddingFrame → t = 0) ∧ construct c p = some f := by
  unfold parseOne at h
  split at h
  · cases h
  · rename_i t r
    split at h
    · rename_i c hc
      exact ⟨t, r, c, rfl, fun hp => UInt8.toNat_inj.mp (lookup_padding t.toNat (hp ▸ hc)), h⟩
    · exact ⟨t, r, .GenericFrame, rfl, nofun, h⟩

/-- Every frame the loop body constructs consumes at least one byte: the parse loop cannot spin. -/
theorem parseOne_length_pos (p : Bytes) (f : Parsed) (h : parseOne p = some f) : 1 ≤ f.length := by
  obtain ⟨t, r, c, rfl, hc, h⟩ := parseOne_some p f h
  exact (construct_sound c _ f h).1 t r rfl hc

theorem parseOne_datas (p : Bytes) (f : Parsed) (h : parseOne p = some f) : FromPayload p f := by
  obtain ⟨_, _, c, -, -, h⟩ := parseOne_some p f h
  exact (construct_sound c _ f h).2

/-- `parse_frames`: `while len(payload) != 0: frame = …; frames.append(frame); payload = payload[frame.length:]`.
    `none` = the call raised (IndexError). Accepted by Lean only because of `parseOne_length_pos`. -/
def parseFrames (p : Bytes) : Option (List Parsed) :=
  if _hp : p.length = 0 then some []
  else
    match h : parseOne p with
    | none => none
    | some f => (parseFrames (p.drop f.length)).map (f :: ·)
termination_by p.length
decreasing_by
  have := parseOne_length_pos p f h
  simp only [List.length_drop]
  omega

theorem parseFrames_nil : parseFrames [] = some [] := by
  rw [parseFrames]; simp

theorem parseFrames_step (p : Bytes) (hp : p ≠ []) :
    parseFrames p = (parseOne p).bind fun f => (parseFrames (p.drop f.length)).map (f :: ·) := by
  rw [parseFrames]
  have : ¬ p.length = 0 := by
    intro h; exact hp (List.eq_nil_of_length_eq_zero h)
  rw [dif_neg this]
  split <;> simp [*]

theorem parseFrames_induct {Q : Bytes → List Parsed → Prop} (nil : Q [] [])
    (step : ∀ p f rest, p ≠ [] → parseOne p = some f → parseFrames (p.drop f.length) = some rest →
      Q (p.drop f.length) rest → Q p (f :: rest))
    (p : Bytes) (fs : List Parsed) (h : parseFrames p = some fs) : Q p fs := by
  fun_induction parseFrames p generalizing fs with
  | case1 p hp =>
    cases h
    obtain rfl := List.eq_nil_of_length_eq_zero hp
    exact nil
  | case2 p hp hn => cases h
  | case3 p hp f hf ih =>
    obtain ⟨rest, h2, rfl⟩ := Option.map_eq_some_iff.mp h
    exact step p f rest (fun h0 => hp (h0 ▸ rfl)) hf h2 (ih rest h2)

end TLX.Quic.Frame
