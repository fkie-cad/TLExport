/-
Model of `QuicTlsSession.update_session` + `handle_buffer` (tlexport/quic/quic_tls_parser.py:27-73): how CRYPTO
frames become TLS handshake messages. Core Lean only.

Mirrors
* the eight independent (direction, packet type) spaces of `__init__` (17-24): `State` is a function of `Key`;
* `update_session` (27-49), identical code for both directions: append the frame, *stable* sort by offset
  (`sortByOffset`), iterate over a SNAPSHOT of the sorted buffer and consume every frame whose offset equals the
  running offset — which advances by `crypto_length` (not by `len(crypto)`) during the pass — removing it with
  `list.remove` (`removeFrame`: first element that *is* the object; `CryptoFrame` has no `__eq__`, so object
  identity, modelled by the `id` field); then `handle_buffer(isserver)`;
* `handle_buffer` (51-73): for the four packet types in the order INITIAL, RTT_O, RTT_1, HANDSHAKE of the frame's
  direction: `len(buffer) <= 4: break`, 3-byte length `buffer[1:4]`, `len(buffer) < 4 + record_len: break`,
  `handle_record(buffer[0], buffer[:4+record_len])`, keep the rest. The buffer attribute is assigned *after*
  `handle_record` returned: when `handle_record` raises (IndexError inside the hello parsers, see `Quic/TlsMsgs`),
  the message stays at the head of the buffer, later packet types are not looked at, and the exception leaves
  `update_session` (frame buffer, offset and byte buffer changes of the pass stay in place).
  `handle_record` is a parameter here: `raises m` says whether it raises on message `m`.
* `CryptoFrame.__init__` (quic_frame.py:152-165): `crypto = payload[index : index + crypto_length]`, so
  `len(crypto) ≤ crypto_length` with `<` when the packet payload ends early; hence `clen` is its own field.

Not modelled: `packet_type` outside the four dict keys (KeyError; CRYPTO frames are only parsed out of Initial,
0-RTT, Handshake and 1-RTT packets), `list.remove` raising ValueError (unreachable: the object was in the snapshot
and is removed at most as often as it occurs there).
-/
import TLX.Py
namespace TLX.Quic.CryptoStream
open TLX

/-- what `update_session` reads of a `CryptoFrame`; `id` = object identity -/
structure CFrame where
  id : Nat
  offset : Nat
  crypto : Bytes
  clen : Nat
  deriving DecidableEq, Repr

/-- the dict keys of the per-direction tables, in dict (= iteration) order -/
inductive PT | initial | rtt0 | rtt1 | handshake
  deriving DecidableEq, Repr

/-- (isserver, packet type) -/
abbrev Key := Bool × PT

/-- one space: `*_frame_buffer[pt]`, `*_offset[pt]`, `*_buffer[pt]` -/
structure KState where
  fb : List CFrame := []
  off : Nat := 0
  buf : Bytes := []
  deriving DecidableEq, Repr

/-- insert `f`, which stood *before* all of the (sorted) list in the original order: before the first element
    whose key is not smaller -/
def insertSorted (f : CFrame) : List CFrame → List CFrame
  | [] => [f]
  | g :: gs => if f.offset ≤ g.offset then f :: g :: gs else g :: insertSorted f gs

/-- `list.sort(key=lambda x: x.offset)`: stable -/
def sortByOffset : List CFrame → List CFrame
  | [] => []
  | f :: fs => insertSorted f (sortByOffset fs)

/-- `list.remove(frame)` with identity comparison -/
def removeFrame (f : CFrame) : List CFrame → List CFrame
  | [] => []
  | g :: gs => if g.id = f.id then gs else g :: removeFrame f gs

/-- the `for crypto_frame in list(buffer)` pass over the snapshot -/
def pass : List CFrame → KState → KState
  | [], s => s
  | g :: gs, s =>
    if g.offset = s.off then pass gs ⟨removeFrame g s.fb, s.off + g.clen, s.buf ++ g.crypto⟩
    else pass gs s

/-- `update_session` up to the call of `handle_buffer`, for the frame's own space -/
def absorb (s : KState) (f : CFrame) : KState :=
  let fb := sortByOffset (s.fb ++ [f])
  pass fb { s with fb := fb }

/-- the `while True` loop of `handle_buffer` on one buffer: (messages given to `handle_record`, the raising one
    included; what the buffer attribute holds afterwards; whether `handle_record` raised) -/
def msgLoop (raises : Bytes → Bool) (b : Bytes) : List Bytes × Bytes × Bool :=
  if b.length ≤ 4 then ([], b, false)
  else
    let n := Bytes.beNat (Bytes.slice b 1 4)
    if b.length < 4 + n then ([], b, false)
    else
      let m := b.take (4 + n)
      if raises m then ([m], b, true)
      else
        let r := msgLoop raises (b.drop (4 + n))
        (m :: r.1, r.2.1, r.2.2)
termination_by b.length
decreasing_by simp only [List.length_drop]; omega

structure State where
  ks : Key → KState

def State.init : State := ⟨fun _ => {}⟩

def State.set (st : State) (k : Key) (v : KState) : State :=
  ⟨fun k' => if k' = k then v else st.ks k'⟩

/-- `handle_buffer(isserver)` over the remaining packet types -/
def handleBufferGo (raises : Bytes → Bool) (srv : Bool) : List PT → State → State × List Bytes × Bool
  | [], st => (st, [], false)
  | pt :: pts, st =>
    let r := msgLoop raises (st.ks (srv, pt)).buf
    let st' := st.set (srv, pt) { st.ks (srv, pt) with buf := r.2.1 }
    if r.2.2 then (st', r.1, true)
    else
      let q := handleBufferGo raises srv pts st'
      (q.1, r.1 ++ q.2.1, q.2.2)

def handleBuffer (raises : Bytes → Bool) (srv : Bool) (st : State) : State × List Bytes × Bool :=
  handleBufferGo raises srv [.initial, .rtt0, .rtt1, .handshake] st

/-- `update_session(frame)` for a frame of space `k`: new state, the messages passed to `handle_record` in call
    order, and whether the call ended in an exception -/
def update (raises : Bytes → Bool) (st : State) (k : Key) (f : CFrame) : State × List Bytes × Bool :=
  handleBuffer raises k.1 (st.set k (absorb (st.ks k) f))

/-- a whole history of `update_session` calls; an exception ends one call, not the history (the caller,
    `QuicSession.decrypt_packet`, catches it per packet) -/
def run (raises : Bytes → Bool) : State → List (Key × CFrame) → State × List Bytes
  | st, [] => (st, [])
  | st, (k, f) :: rest =>
    let r := update raises st k f
    let q := run raises r.1 rest
    (q.1, r.2.1 ++ q.2)

/-! Single-space view used by the theorems: one space fed in isolation. -/

/-- one `update_session` seen from the frame's own space when no other buffer of that direction holds a whole
    message (`Lemmas.CryptoStream.update_own_space`) -/
def kstep (raises : Bytes → Bool) (s : KState) (f : CFrame) : KState × List Bytes × Bool :=
  let a := absorb s f
  let r := msgLoop raises a.buf
  ({ a with buf := r.2.1 }, r.1, r.2.2)

def krun (raises : Bytes → Bool) : KState → List CFrame → KState × List Bytes
  | s, [] => (s, [])
  | s, f :: rest =>
    let r := kstep raises s f
    let q := krun raises r.1 rest
    (q.1, r.2.1 ++ q.2)

end TLX.Quic.CryptoStream
