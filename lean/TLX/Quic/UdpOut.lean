/-
Model of `QUICOutputbuilder.build(metadata)` (tlexport/quic/quic_output_builder.py, lines 28–111): the QUIC export
loop that turns the decrypted frame list of one connection into output UDP datagrams.

Source lines mirrored (quic_output_builder.py):
* `exported`   — l. 33–42: `data = None`; under `metadata` frame type 0x06 reads `frame.crypto`, 0xfe reads
                 `frame.payload`; then `if frame_type in [0x08 … 0x0f]: data = frame.stream_data`
                 `elif data is None: continue`. (With metadata and type 0x06/0xfe the `in [...]` test is false and
                 `data is None` is false, so the frame goes on to the grouping code.) `Frame.data` stands for the one
                 attribute the code reads for that frame type.
* `step`       — l. 44–47 (`ts is None`: the first exported frame sets `ts`, `isserver`), l. 50–52 (same
                 `(ts, isserver)` as the open datagram: `packets.extend(data)`), l. 53–83 (otherwise: the open datagram
                 is appended to `self.out` with the *old* `ts`/`isserver`, and a new one is opened with this frame).
* `finish`     — l. 85–87 (`ts is None` at the end: nothing is exported), l. 89–111 (final flush).
* `build`      — the whole method on a fresh builder object.
* `stepG`/`finishG`/`groups` — the same loop, instrumented: an output datagram is kept as the list of the input
                 frames whose data it carries instead of the concatenation. `chunks` forgets everything about a
                 frame but (is it a STREAM frame, its data). `build_eq_groups` (Lemmas/UdpOut.lean) and
                 `build_eq_chunks` (Props/C02Out.lean) tie them to `build`.

Python traps kept: `ts is None` is tested on the *variable* (a frame whose capture time is 0 still counts: `Nat`
times are never `None`, so `cur = none` is exactly "no exported frame yet"); `frame.src_packet.ts == ts` is an
equality test only, the time is otherwise only copied.

Not modelled: scapy serialisation, MAC/IP addresses and ports of the produced packets (the port choice is
`exportedServerPort` in TcpOut / Props C10), the `ipv6` switch (it only selects the IP layer class), and `self.out`
persisting across repeated `build()` calls on the same object (`QuicSession` builds a fresh object per export).

Core Lean only (linked into `tlxdriver`).
-/
import TLX.Py
namespace TLX.Quic.UdpOut
open TLX

/-- One decrypted QUIC frame as the builder sees it: `frame_type`, `src_packet.ts`, `src_packet.isserver`, and the
    attribute read for this type (`stream_data` / `crypto` / `payload`). -/
structure Frame where
  ftype : Nat
  ts : Nat
  isServer : Bool
  data : Bytes
  deriving DecidableEq, Repr

/-- One element of `self.out`: `(packet, ts)` with the direction and UDP payload of `packet`. -/
structure Dgram where
  isServer : Bool
  ts : Nat
  payload : Bytes
  deriving DecidableEq, Repr

/-- `frame.frame_type in [0x08, 0x09, 0x0a, 0x0b, 0x0c, 0x0d, 0x0e, 0x0f]` -/
def isStream (t : Nat) : Bool := t ∈ [0x08, 0x09, 0x0a, 0x0b, 0x0c, 0x0d, 0x0e, 0x0f]

/-- l. 33–42: the data this frame contributes, `none` = `continue`. -/
def exported (md : Bool) (f : Frame) : Option Bytes :=
  let data : Option Bytes :=
    if md then
      if f.ftype = 0x06 then some f.data
      else if f.ftype = 0xfe then some f.data
      else none
    else none
  if isStream f.ftype then some f.data
  else match data with
    | none => none
    | some d => some d

/-- the grouping key `(frame.src_packet.ts, frame.src_packet.isserver)` -/
def Frame.key (f : Frame) : Nat × Bool := (f.ts, f.isServer)

/-- Loop state: the open datagram `(ts, isserver, packets)` (`none` = `ts is None`) and `self.out`. -/
abbrev St := Option (Nat × Bool × Bytes) × List Dgram

def init : St := (none, [])

/-- One iteration of the `for frame in self.decrypted_traffic` loop. -/
def step (md : Bool) (s : St) (f : Frame) : St :=
  match exported md f with
  | none => s
  | some data =>
    match s.1 with
    | none => (some (f.ts, f.isServer, data), s.2)
    | some (ts, srv, packets) =>
      if f.ts = ts ∧ f.isServer = srv then (some (ts, srv, packets ++ data), s.2)
      else (some (f.ts, f.isServer, data), s.2 ++ [⟨srv, ts, packets⟩])

/-- After the loop: `if ts is None: return self.out`, else the final flush. -/
def finish (s : St) : List Dgram :=
  match s.1 with
  | none => s.2
  | some (ts, srv, packets) => s.2 ++ [⟨srv, ts, packets⟩]

def build (md : Bool) (fs : List Frame) : List Dgram := finish (fs.foldl (step md) init)

/-! The same loop, keeping the frames of each output datagram apart. -/

abbrev Group := (Nat × Bool) × List Frame
abbrev StG := Option Group × List Group

def stepG (md : Bool) (s : StG) (f : Frame) : StG :=
  match exported md f with
  | none => s
  | some _ =>
    match s.1 with
    | none => (some (f.key, [f]), s.2)
    | some (k, acc) =>
      if f.ts = k.1 ∧ f.isServer = k.2 then (some (k, acc ++ [f]), s.2)
      else (some (f.key, [f]), s.2 ++ [(k, acc)])

def finishG (s : StG) : List Group :=
  match s.1 with
  | none => s.2
  | some g => s.2 ++ [g]

/-- `build`, with every output datagram given as its key and the exported input frames it was made of. -/
def groups (md : Bool) (fs : List Frame) : List Group := finishG (fs.foldl (stepG md) (none, []))

/-- what `chunks` remembers of a frame: is it a STREAM frame (exported with and without metadata), and its data -/
def chunkOf (f : Frame) : Bool × Bytes := (isStream f.ftype, f.data)

/-- `build`, with every output datagram given as its key and the list of its `(isStream, data)` chunks. -/
def chunks (md : Bool) (fs : List Frame) : List ((Nat × Bool) × List (Bool × Bytes)) :=
  (groups md fs).map fun g => (g.1, g.2.map chunkOf)

/-- the output datagram of a group -/
def Group.dgram (g : Group) : Dgram := ⟨g.1.2, g.1.1, (g.2.map (·.data)).flatten⟩

end TLX.Quic.UdpOut
