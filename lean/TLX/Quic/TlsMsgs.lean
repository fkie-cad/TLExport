/-
Model of the TLS handshake-message parser of QUIC sessions,
`QuicTlsSession` in tlexport/quic/quic_tls_parser.py:

  * `handleRecord`               — `handle_record`                  (lines 191-199)
  * `handleClientHello`/`chBody` — `handle_client_hello`            (lines 75-106)
  * `handleServerHello`          — `handle_server_hello`            (lines 108-119)
  * `handleEncryptedExtensions`  — `handle_encrypted_extensions`    (lines 121-126)
  * `getExtensions`, `parseExts`, `applyExt`, `applyExts` — `get_extensions` (lines 128-168)
  * `parseTP`, `quicTransportParameters` — `get_quic_transport_parameters` (lines 170-189)

State: the attributes the rest of the tool reads (`client_random`, `ciphersuite`, `alpn`, `tls_vers`,
`greasy_bit`, `new_data`) plus `session_id` (an attribute that does not exist before the first
ClientHello: `none`). `None` is `none`, `b""` is `some []`.

Python traps mirrored:
  * slices clamp (`Bytes.slice`, `List.drop`), `int.from_bytes(b"")` is 0;
  * `record[i]` on `bytes` raises IndexError when `i >= len(record)` — *not* caught in this file; the
    error leaves `handle_record` (result `(state, some .index)`), and the attribute assignments made
    before it stay in place (`tls_vers`, `client_random` before `record[34]`; also `session_id`,
    `ciphersuite` before `record[index]`); `new_data` is not set;
  * `e_body[2]` in the ALPN case is modelled as raising too (`applyExt = none`); it is unreachable
    because the collecting loop only keeps extensions whose body is complete
    (Props.C02Hello.get_extensions_total);
  * `get_quic_transport_parameters` runs inside a bare `try/except: pass`: any exception of the
    varint helpers (`b[0]` on an empty slice, short slice) is swallowed and `greasy_bit` is unchanged,
    because it is only assigned in the second loop, after all parameters were parsed;
  * `get_extensions` returns silently when the outer length does not match exactly, and its
    collecting loop silently stops at the first incomplete extension.
Both `while True` loops terminate on every input: the extension loop consumes at least 4 bytes per
round, the transport-parameter loop at least 2 (two varints were read from a non-empty body, so
`index >= 2 <= len(extension_body)`); this is what the `termination_by` proofs below check.

Not modelled: `update_session`/`handle_buffer` (CRYPTO-frame reassembly; `handle_buffer` passes
`buffer[0]` and `buffer[:4 + record_len]`, so there `len(record) == 4 + length field`).
Core Lean only (linked into `tlxdriver`).
-/
import TLX.Py
import TLX.Quic.Varint
namespace TLX.Quic.TlsMsgs
open TLX TLX.Quic.Varint

inductive Err | index
  deriving DecidableEq, Repr

structure State where
  clientRandom : Option Bytes := none
  ciphersuite : Option Bytes := none
  alpn : Option Bytes := none
  tlsVers : Option Bytes := none
  greasyBit : Bool := false
  newData : Bool := false
  sessionId : Option Bytes := none
  deriving DecidableEq, Repr

def State.init : State := {}

/-- An entry of the `extensions` list: `(extension_type, extension_length, extension_body)`. -/
structure PExt where
  ty : Bytes
  len : Nat
  body : Bytes
  deriving DecidableEq, Repr

/-- The collecting `while True` loop of `get_extensions` (after the outer length was stripped). -/
def parseExts (r : Bytes) : List PExt :=
  if r.length < 4 then []
  else
    let el := Bytes.beNat (Bytes.slice r 2 4)
    if r.length < 4 + el then []
    else ⟨Bytes.slice r 0 2, el, Bytes.slice r 4 (4 + el)⟩ :: parseExts (r.drop (4 + el))
termination_by r.length
decreasing_by simp only [List.length_drop]; omega

set_option linter.unusedVariables false in
/-- The first loop of `get_quic_transport_parameters`; `none` = an exception was raised
    (`IndexError` from `get_variable_length_int_length` / `decode_variable_length_int`). -/
def parseTP (eb : Bytes) : Option (List (Nat × Nat × Bytes)) :=
  if eb.length < 1 then some []
  else
    -- parameter_type_length / parameter_type
    match h1 : readVarint eb 0 with
    | none => none
    | some (pty, index) =>
      -- parameter_length_field_length / parameter_length at `index = parameter_type_length`
      match h2 : readVarint eb index with
      | none => none
      | some (plen, index2) =>
        match parseTP (eb.drop (index2 + plen)) with
        | none => none
        | some ps => some ((pty, plen, Bytes.slice eb index2 (index2 + plen)) :: ps)
termination_by eb.length
decreasing_by
  have := readVarint_idx _ _ _ _ h1
  have := readVarint_idx _ _ _ _ h2
  simp only [List.length_drop]; omega

/-- `try: self.get_quic_transport_parameters(e_body) except: pass`. -/
def quicTransportParameters (s : State) (eb : Bytes) : State :=
  match parseTP eb with
  | none => s
  | some ps => if ps.any (fun p => p.1 == 0x2ab2) then { s with greasyBit := true } else s

/-- One round of the `for e_type, e_length, e_body in extensions: match …` loop;
    `none` = IndexError from `e_body[2]`. -/
def applyExt (s : State) (e : PExt) : Option State :=
  match Bytes.beNat e.ty with
  | 43 => if e.len ≠ 2 then some s else some { s with tlsVers := some e.body }
  | 16 =>
    if e.len < 3 then some s
    else
      match e.body[2]? with
      | none => none
      | some al =>
        if e.body.length ≠ 3 + al.toNat then some s
        else some { s with alpn := some (Bytes.slice e.body 3 (3 + al.toNat)) }
  | 57 => some (quicTransportParameters s e.body)
  | _ => some s

def applyExts (s : State) : List PExt → State × Option Err
  | [] => (s, none)
  | e :: es =>
    match applyExt s e with
    | none => (s, some .index)
    | some s' => applyExts s' es

/-- `get_extensions(record)`. -/
def getExtensions (s : State) (r : Bytes) : State × Option Err :=
  if (r.drop 2).length ≠ Bytes.beNat (Bytes.slice r 0 2) then (s, none)
  else applyExts s (parseExts (r.drop 2))

/-- `get_extensions(...)` followed by `self.new_data = True` (skipped when the call raised). -/
def extsThenNewData (s : State) (r : Bytes) : State × Option Err :=
  match getExtensions s r with
  | (s', some e) => (s', some e)
  | (s', none) => ({ s' with newData := true }, none)

/-- `handle_client_hello` from `record = record[4:]` on. -/
def chBody (s : State) (r : Bytes) : State × Option Err :=
  let s := { s with tlsVers := some (Bytes.slice r 0 2), clientRandom := some (Bytes.slice r 2 34) }
  match r[34]? with
  | none => (s, some .index)                       -- session_id_length = record[34]
  | some sil =>
    let s := { s with sessionId := some (Bytes.slice r 35 (35 + sil.toNat)) }
    let csl := Bytes.beNat (Bytes.slice r (35 + sil.toNat) (35 + sil.toNat + 2))
    let cs := Bytes.slice r (35 + sil.toNat + 2) (35 + sil.toNat + 2 + csl)
    let s := { s with ciphersuite := some (Bytes.slice cs 0 2) }
    match r[35 + sil.toNat + 2 + csl]? with
    | none => (s, some .index)                     -- compression_methods_length = record[index]
    | some cml => extsThenNewData s (r.drop (35 + sil.toNat + 2 + csl + (1 + cml.toNat)))

def handleClientHello (s : State) (record : Bytes) : State × Option Err :=
  if record.length < 38 then (s, none)
  else if record.length < 4 + Bytes.beNat (Bytes.slice record 1 4) then (s, none)
  else chBody s (record.drop 4)

def handleServerHello (s : State) (record : Bytes) : State × Option Err :=
  if record.length < 44 then (s, none)
  else
    match record[38]? with
    | none => (s, some .index)                     -- unreachable: len(record) >= 44
    | some sil =>
      let r := record.drop (39 + sil.toNat)
      let s := { s with ciphersuite := some (Bytes.slice r 0 2) }
      extsThenNewData s (r.drop 3)

def handleEncryptedExtensions (s : State) (record : Bytes) : State × Option Err :=
  if record.length < 6 then (s, none)
  else extsThenNewData s (record.drop 4)

/-- `handle_record(record_type, record)`. -/
def handleRecord (s : State) (recordType : Nat) (record : Bytes) : State × Option Err :=
  match recordType with
  | 1 => handleClientHello s record
  | 2 => handleServerHello s record
  | 8 => handleEncryptedExtensions s record
  | _ => (s, none)

end TLX.Quic.TlsMsgs
