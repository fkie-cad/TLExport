/-
What the negotiated cipher suite means for the SENDER of a QUIC v1 connection, in RFC terms only (used by `Props/C02Rfc`):

  `quicSuite`     code point ─IANA registry copy (`Spec.Iana`)→ name ─`Spec.denote`→ `Spec.RfcSuite.SuiteSpec`, restricted to the
                  AEADs RFC 9001 §5.3 admits: AEAD_AES_128_GCM, AEAD_AES_256_GCM, AEAD_CHACHA20_POLY1305, AEAD_AES_128_CCM
                  (tag length 16: `TLS_AES_128_CCM_8_SHA256` MUST NOT be used)
  `aeadOf`        the AEAD algorithm of the suite
  `selOf`         hash / AEAD / key length as one record (the record type `Quic.Session.SuiteSel` is plain data; NOTHING here
                  looks at the tool's table `Quic.Session.selectSuite`)
  `hpChacha`      RFC 9001 §5.4.3 / §5.4.4: header protection is ChaCha20-based exactly for AEAD_CHACHA20_POLY1305
  `labelCETS`     the NSS key-log label of the 0-RTT secret (the four others are `Spec.RfcSuite.label…`)
`quicSuite_codes`: the denotation at the four code points, evaluated by the kernel; `quicSuite_table`: it agrees with RFC 9001's
own table (`Spec.KeySchedules.quicSuiteKeyLength`, `quicSuiteUsesSha384`).
Core Lean only.
-/
import TLX.Spec.RfcSuite
import TLX.Quic.Session
namespace TLX.Spec.RfcQuic
open TLX TLX.Cipher TLX.Spec.RfcSuite TLX.Spec.KeySchedules TLX.CipherSuite

/-- the AEAD of a TLS 1.3 suite that QUIC v1 may use (RFC 9001 §5.3) -/
def aeadOf (sp : SuiteSpec) : Option Alg :=
  if sp.tagLen = 16 then
    match sp.bulk with
    | .aesGcm => some .aesgcm
    | .aesCcm => some .aesccm
    | .chacha20Poly1305 => some .chachaPoly
    | _ => none
  else none

def hashSelOf : HashName → Option Quic.Session.HashSel
  | .sha256 => some .sha256
  | .sha384 => some .sha384
  | _ => none

/-- hash, AEAD and key length of the suite -/
def selOf (sp : SuiteSpec) : Option Quic.Session.SuiteSel :=
  match hashSelOf sp.hash, aeadOf sp with
  | some h, some a => some ⟨h, a, sp.keyLen⟩
  | _, _ => none

/-- the suite of a QUIC v1 connection: what the IANA name of the ServerHello's code point denotes, if RFC 9001 admits it -/
def quicSuite (cs : Nat) : Option (SuiteSpec × Quic.Session.SuiteSel) :=
  (suiteOfCode cs).bind fun sp => (selOf sp).map fun s => (sp, s)

/-- RFC 9001 §5.4.4: ChaCha20-based header protection for AEAD_CHACHA20_POLY1305, AES-based (§5.4.3) otherwise -/
def hpChacha (sel : Quic.Session.SuiteSel) : Bool := sel.alg == .chachaPoly

def labelCETS : List Nat := ascii "CLIENT_EARLY_TRAFFIC_SECRET"

/-- RFC 8446 B.4: the cipher suites of TLS 1.3 (QUIC v1 runs TLS 1.3: RFC 9001 §4.2), as `ServerHello.cipher_suite` bytes -/
def tls13Codes : List Bytes := [[0x13, 0x01], [0x13, 0x02], [0x13, 0x03], [0x13, 0x04], [0x13, 0x05]]

/-- what the IANA names of the four code points QUIC v1 uses denote (the registry copy and `Spec.denote`, evaluated once) -/
theorem quicSuite_codes :
    quicSuite 0x1301 = some (⟨.aesGcm, 16, .sha256, 16⟩, ⟨.sha256, .aesgcm, 16⟩) ∧
    quicSuite 0x1302 = some (⟨.aesGcm, 32, .sha384, 16⟩, ⟨.sha384, .aesgcm, 32⟩) ∧
    quicSuite 0x1303 = some (⟨.chacha20Poly1305, 32, .sha256, 16⟩, ⟨.sha256, .chachaPoly, 32⟩) ∧
    quicSuite 0x1304 = some (⟨.aesCcm, 16, .sha256, 16⟩, ⟨.sha256, .aesccm, 16⟩) := by
  decide +kernel

/-- the four TLS 1.3 suites QUIC v1 uses: the denotation of their IANA names is RFC 9001's table -/
theorem quicSuite_table :
    ∀ cs ∈ [0x1301, 0x1302, 0x1303, 0x1304], (quicSuite cs).isSome = true ∧
      (quicSuite cs).map (·.2.keyLen) = quicSuiteKeyLength cs ∧
      (quicSuite cs).map (fun p => p.2.hash == .sha384) = some (quicSuiteUsesSha384 cs) ∧
      (quicSuite cs).map (fun p => decide (p.1.keyLen = p.2.keyLen)) = some true := by
  obtain ⟨e1, e2, e3, e4⟩ := quicSuite_codes
  intro cs hcs
  simp only [List.mem_cons, List.not_mem_nil, or_false] at hcs
  rcases hcs with rfl | rfl | rfl | rfl
  · rw [e1]; decide
  · rw [e2]; decide
  · rw [e3]; decide
  · rw [e4]; decide

/-- … and RFC 9001 §5.3 excludes the fifth TLS 1.3 suite -/
theorem quicSuite_ccm8 : quicSuite 0x1305 = none := by decide +kernel

end TLX.Spec.RfcQuic
