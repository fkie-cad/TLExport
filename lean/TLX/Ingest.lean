/-
From the capture FILE to what the main loop iterates over: the glue of `run()` (main.py l. 204–232).  Core Lean only.

    for ts, buf in pcap_reader:                                   Container.read
        if ts == -1:
            keylog.extend(get_keys_from_string(buf.decode('ascii')))   `decodeAscii`, Keylog.getKeysFromString
            continue
        packet = Packet(buf, float(ts))                            Dissect.dissect, `Container.Time.toFloat`
        … calculate_checksum_tcp(packet) / calculate_checksum_udp(packet)   Checksum.check  (only with `-c`, only for a
                                                                             non-empty payload)

An exception anywhere in this loop ends the run before anything is written (the output is written after the loop), so the
whole function is `Except`: the first failing step decides, in the order the generator and the loop body alternate.

`Pkt.tag` is the index of the item in the capture (DSB items count), `Info` is what `Pipeline` reads through the tag: the TCP
sequence number, the time stamp in integer microseconds (`Container.usOfFloat` of the double `float(ts)` — executable only),
the MAC addresses and `ipv6_packet`.

`ts == -1`: a PACKET whose time stamp evaluates to −1 would be taken for a DSB by the tool; with the unsigned tick counts of
both containers that needs a negative `if_tsoffset` (C12's variants include those) — modelled: `isMinusOne`.
-/
import TLX.Container
import TLX.Dissect
import TLX.Checksum
import TLX.KeylogSrc
import TLX.Pipeline
namespace TLX.Ingest
open TLX

inductive Err
  | container (e : Container.Err)   -- the reader raised
  | unicode                         -- `buf.decode('ascii')`: UnicodeDecodeError
  | frame (e : Dissect.DErr)        -- `Packet(buf, ts)` raised
  | overflow                        -- `len(packet.tcp).to_bytes(2, 'big')`: OverflowError (IPv4, ≥ 65536 transport bytes, `-c`)
  deriving DecidableEq, Repr

def Err.name : Err → String
  | .container e => s!"container-{e.name}"
  | .unicode => "unicode"
  | .frame e => s!"frame-{e.name}"
  | .overflow => "overflow"

/-- `buf.decode('ascii')` -/
def decodeAscii (b : Bytes) : Except Err Keylog.Str :=
  if b.all (· < 0x80) then .ok (b.map UInt8.toNat) else .error .unicode

/-- `ts == -1` for a packet item: on the double the reader computed, or exactly for a `Decimal` -/
def isMinusOne (t : Container.Time) : Bool :=
  if t.decimal then t.offset * t.divisor + t.ticks == -(t.divisor : Int) && t.divisor != 0
  else t.toFloat == -1.0

/-- the checksum verdict `run()` computes for an accepted packet (`-c`); `none`: not computed (no TCP/UDP or empty payload) -/
def verdict (x : Dissect.IpPkt) : Except Err (Option Bool) :=
  let go := fun (k : Checksum.L4) (payload : Bytes) =>
    if payload.isEmpty then (.ok none : Except Err (Option Bool))
    else match Checksum.check k x.v6 x.src x.dst x.p x.seg with
      | .ok b => .ok (some b)
      | .error _ => .error .overflow
  match x.l4 with
  | .tcp _ _ _ _ pl => go .tcp pl
  | .udp _ _ pl => go .udp pl
  | .other => .ok none

def otherPkt (tag : Nat) : MainLoop.Pkt := ⟨.other, ⟨[], 0⟩, ⟨[], 0⟩, [], true, tag⟩

/-- `Packet(buf, float(ts))` and the checksum call, as a `MainLoop.Pkt` plus the `Info` behind its tag -/
def framePkt (c : Bool) (tag us : Nat) (buf : Bytes) : Except Err (MainLoop.Pkt × Pipeline.Info) :=
  match Dissect.dissect buf with
  | .error e => .error (.frame e)
  | .ok .notIp => .ok (otherPkt tag, ⟨0, us, [], [], false⟩)
  | .ok (.ip x) =>
    match (if c then verdict x else .ok none) with
    | .error e => .error e
    | .ok v =>
      let ok := v.getD true
      let info (seq : Nat) : Pipeline.Info := ⟨seq, us, x.srcMac, x.dstMac, x.v6⟩
      match x.l4 with
      | .tcp sp dp seq _ pl => .ok (⟨.tcp, ⟨x.src, sp⟩, ⟨x.dst, dp⟩, pl, ok, tag⟩, info seq)
      | .udp sp dp pl => .ok (⟨.udp, ⟨x.src, sp⟩, ⟨x.dst, dp⟩, pl, ok, tag⟩, info 0)
      | .other => .ok (otherPkt tag, info 0)

abbrev Out := List (MainLoop.Item Keylog.Key) × List (Nat × Pipeline.Info)

/-- the loop over what the reader yields; `tag` counts items -/
def go (hc : Keylog.HexClass) (c : Bool) : Nat → List Container.Item → Except Err Out
  | _, [] => .ok ([], [])
  | tag, .dsb s :: rest =>
    match decodeAscii s with
    | .error e => .error e
    | .ok str =>
      match go hc c (tag + 1) rest with
      | .error e => .error e
      | .ok (xs, is) => .ok (.dsb (Keylog.getKeysFromString hc str) :: xs, is)
  | tag, .pkt t buf :: rest =>
    if isMinusOne t then                                   -- taken for a DSB: `buf.decode('ascii')`
      match decodeAscii buf with
      | .error e => .error e
      | .ok str =>
        match go hc c (tag + 1) rest with
        | .error e => .error e
        | .ok (xs, is) => .ok (.dsb (Keylog.getKeysFromString hc str) :: xs, is)
    else
      match framePkt c tag (Container.usOfFloat t.toFloat) buf with
      | .error e => .error e
      | .ok (p, i) =>
        match go hc c (tag + 1) rest with
        | .error e => .error e
        | .ok (xs, is) => .ok (.frame p :: xs, (tag, i) :: is)

/-- The reader is a generator: the loop body runs on every item BEFORE the reader looks at the next block, so an item that
    raises wins over damage further down the file (`Container.readPrefix`: what was yielded, and how the generator ended). -/
def itemsWith (hc : Keylog.HexClass) (c legacy : Bool) (file : Bytes) : Except Err Out :=
  match Container.readPrefix legacy file with
  | .error e => .error (.container e)
  | .ok (its, ended) =>
    match go hc c 0 its with
    | .error e => .error e
    | .ok out =>
      match ended with
      | none => .ok out
      | some e => .error (.container e)

def lookup (is : List (Nat × Pipeline.Info)) (tag : Nat) : Pipeline.Info :=
  ((is.find? (·.1 == tag)).map (·.2)).getD default

/-- the capture file as the main loop sees it (checksums evaluated as under `-c`; without `-c` nothing reads `csumOk`) -/
def items (legacy : Bool) (file : Bytes) : Except Err (List (MainLoop.Item Keylog.Key) × (Nat → Pipeline.Info)) :=
  match itemsWith Keylog.srcHexClass true legacy file with
  | .error e => .error e
  | .ok (xs, is) => .ok (xs, lookup is)

end TLX.Ingest
