/-
Model of `tlexport/checksums.py` and of the `-c` (`--checksumTest`) branches of the packet loop in
`tlexport/main.py` (C11).  Core Lean only (linked into `tlxdriver`).

The model mirrors the source *with the C11 repairs of known_findings.json applied* (fold while `> 0xFFFF`; `len(packet.udp)`
in the UDP/IPv4 pseudo-header; `packet.ip.p` as upper-layer protocol for IPv6; a computed UDP checksum of
zero compared as `0xffff`; TCP computed `0x0000` also matches stored `0xffff`).  The first commit of this
file modelled the unrepaired source (loop `> 65536`, `AttributeError` on UDP/IPv4, plain compare) and agreed
with it on every generated case; `implFoldPreFix` keeps the old loop for the regression theorem.

Source map (line numbers of checksums.py after the repair):
* `toBytes1/2/4`            – `int.to_bytes(n, 'big')`: `OverflowError` when the value does not fit.
* `pad`, `wordSum`          – :10-17 (pad to 16 bit, sum of big-endian 16-bit chunks).
* `implFold`                – :19-23 (the `while` loop, with the source's loop condition).
* `complement`              – :26-28 (`out_arr[i] = ~out_arr[i] + 256`, i.e. `255 - x`).
* `onesComplementChecksum`  – :7-30 as a whole; `to_bytes(2)` is the only raise site.
* `pseudoHeader`            – :38-53 (UDP) / :81-96 (TCP), field by field, in the source's evaluation order.
* `zeroField`, `storedField`– `tcp_data[16:18] = b"\0\0"` (:100) / `udp_data[6:8] = …` (:57) (Python slice
                              assignment: `b[:i] + x + b[j:]` with clamping) and
                              `packet.tcp.sum.to_bytes(2, 'big')` (:107 / :70; dpkt parsed the field from
                              exactly these two bytes).
* `check`                   – `calculate_checksum_tcp` (:76-116) / `calculate_checksum_udp` (:33-73):
                              `ok true | ok false | error`.
* `step`, `run`, `filterValid` – main.py:214-260, the loop body around the two handlers.

Inputs of `check` are what the functions read from the `Packet` object: `ipv6_packet`, `ip_src`, `ip_dst`,
the protocol byte `ip.p`, and `bytes(packet.tcp)` / `bytes(packet.udp)` — for a parsed packet dpkt
re-serialises the transport header, options and payload to the bytes it was parsed from, and
`len(packet.tcp)` is the length of those bytes (the harness compares them on every generated frame).

Not modelled here: dpkt's dissection (`TLX/Dissect.lean`; which frames become a `tcp`/`udp` object: at least 20 / 8 bytes of
transport header, protocol 6 / 17, not a later fragment), the logging calls, `copy.deepcopy` (the
argument is not mutated), and the two handlers `handle_packet` / `handle_quic_packet` (parameters of `run`).
-/
import TLX.Py
namespace TLX.Checksum
open TLX

/-- Python exceptions that can leave `checksums.py`: only `int.to_bytes` can raise. -/
inductive Err
  | overflow   -- OverflowError: int too big to convert
  deriving DecidableEq, Repr

def Err.tag : Err → String
  | .overflow => "overflow"

def toBytes1 (n : Nat) : Except Err Bytes :=
  if n < 256 then .ok (Bytes.ofNatBE 1 n) else .error .overflow
def toBytes2 (n : Nat) : Except Err Bytes :=
  if n < 65536 then .ok (Bytes.ofNatBE 2 n) else .error .overflow
def toBytes4 (n : Nat) : Except Err Bytes :=
  if n < 4294967296 then .ok (Bytes.ofNatBE 4 n) else .error .overflow

/-- `if len(arr) % 2 != 0: arr.extend(b'\x00')` -/
def pad (b : Bytes) : Bytes := if b.length % 2 ≠ 0 then b ++ [0] else b

/-- `for i in range(0, len(arr), 2): checksum += int.from_bytes(arr[i:i+2], "big")`
    (a last one-byte slice counts as that byte; it cannot occur after `pad`). -/
def wordSum : Bytes → Nat
  | [] => 0
  | [a] => a.toNat
  | a :: b :: rest => a.toNat * 256 + b.toNat + wordSum rest

/-- `while checksum > 0xFFFF: checksum = (checksum >> 16) + (checksum & 0xFFFF)` -/
def implFold (s : Nat) : Nat :=
  if s > 65535 then implFold (s / 65536 + s % 65536) else s
termination_by s
decreasing_by omega

/-- The loop as it was before the repair (`while checksum > 65536`): kept only for the regression
    theorem `TLX.Props.C11.prefix_loop_counterexample`; nothing else uses it. -/
def implFoldPreFix (s : Nat) : Nat :=
  if s > 65536 then implFoldPreFix (s / 65536 + s % 65536) else s
termination_by s
decreasing_by omega

/-- `out_arr[i] = ~out_arr[i] + 256` for both bytes. -/
def complement (b : Bytes) : Bytes := b.map fun x => UInt8.ofNat (255 - x.toNat)

/-- `ones_complement_checksum(byte_arr)` -/
def onesComplementChecksum (b : Bytes) : Except Err Bytes := do
  let s := implFold (wordSum (pad b))
  let out ← toBytes2 s
  pure (complement out)

/-- The two transports the tool verifies, with the offset of the checksum field in the segment. -/
inductive L4 | tcp | udp
  deriving DecidableEq, Repr

def L4.off : L4 → Nat
  | .tcp => 16
  | .udp => 6

/-- IANA protocol number. -/
def L4.num : L4 → Nat
  | .tcp => 6
  | .udp => 17

/-- The pseudo-header as the source builds it; `p` is `packet.ip.p` (for IPv6 dpkt sets it to the
    upper-layer protocol behind the extension headers), `l4len` is `len(packet.tcp)` / `len(packet.udp)`.
    Both functions build it the same way. -/
def pseudoHeader (v6 : Bool) (src dst : Bytes) (p l4len : Nat) : Except Err Bytes :=
  if !v6 then do
    let pb ← toBytes1 p
    let lb ← toBytes2 l4len
    pure (src ++ dst ++ [0] ++ pb ++ lb)
  else do
    let lb ← toBytes4 l4len
    let pb ← toBytes1 p
    pure (src ++ dst ++ lb ++ [0, 0, 0] ++ pb)

/-- `data[off:off+2] = b"\x00\x00"` on a bytearray. -/
def zeroField (k : L4) (seg : Bytes) : Bytes := seg.take k.off ++ [0, 0] ++ seg.drop (k.off + 2)

/-- `packet.<l4>.sum.to_bytes(2, 'big')`: the two bytes dpkt parsed the field from. -/
def storedField (k : L4) (seg : Bytes) : Bytes := seg.slice k.off (k.off + 2)

/-- `calculate_checksum_tcp(packet)` / `calculate_checksum_udp(packet)`.
    UDP: a computed zero is replaced by all ones before the comparison (RFC 768).
    TCP: computed `0x0000` also matches a stored `0xffff` (the two one's-complement zeros). -/
def check (k : L4) (v6 : Bool) (src dst : Bytes) (p : Nat) (seg : Bytes) : Except Err Bool := do
  let ph ← pseudoHeader v6 src dst p seg.length
  let calculated ← onesComplementChecksum (ph ++ zeroField k seg)
  let stored := storedField k seg
  match k with
  | .udp =>
    let calculated := if calculated == [0, 0] then [0xFF, 0xFF] else calculated
    pure (calculated == stored)
  | .tcp =>
    if calculated == [0, 0] && stored == [0xFF, 0xFF] then pure true
    else pure (calculated == stored)

/-! ### The packet loop of `run()` -/

/-- What `Packet.__init__` leaves for the loop: `tcp_packet` / `udp_packet` / neither. -/
inductive Kind | l4 (k : L4) | other
  deriving DecidableEq, Repr

/-- The fields of a `Packet` the loop and the checksum functions read. -/
structure Pkt where
  kind : Kind
  v6 : Bool
  src : Bytes
  dst : Bytes
  p : Nat
  /-- `bytes(packet.tcp)` / `bytes(packet.udp)` -/
  seg : Bytes
  /-- `len(packet.tls_data)` -/
  payloadLen : Nat

/-- One iteration of `for ts, buf in pcap_reader` for a packet block (`ts != -1`).
    `c` is `args.checksumTest`; `h k` stands for everything the loop does with an accepted packet
    (`handle_packet` for TCP; the QUIC/DTLS dispatch for UDP) and may itself raise. -/
def step {σ : Type} (c : Bool) (h : L4 → σ → Pkt → Except Err σ) (s : σ) (pk : Pkt) : Except Err σ :=
  match pk.kind with
  | .other => pure s
  | .l4 k =>
    if pk.payloadLen = 0 then pure s          -- `if len(packet.tls_data) == 0: continue`
    else do
      let test ← if !c then pure true else check k pk.v6 pk.src pk.dst pk.p pk.seg
      if test then h k s pk else pure s

/-- The whole loop: an exception ends the run. -/
def run {σ : Type} (c : Bool) (h : L4 → σ → Pkt → Except Err σ) (s : σ) (pkts : List Pkt) : Except Err σ :=
  pkts.foldlM (step c h) s

/-- The `-c` filter on its own: the packets that reach a handler, in capture order. -/
def filterValid (pkts : List Pkt) : Except Err (List Pkt) :=
  run true (fun _ acc pk => pure (acc ++ [pk])) [] pkts

end TLX.Checksum
