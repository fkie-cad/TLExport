/-
Runtime of the Python→Lean translator (`harness/py2lean.py`): the meaning the translator gives to the Python
operations of its subset. HAND-WRITTEN and small: this file (with the translator) is the trusted part of the
"regenerated model" tie; `harness/translate.py selftest()` runs every translated definition against CPython on
sampled inputs to guard it.

  Python                              here
  ----------------------------------  -------------------------------------------------------------------
  int (unbounded, signed)             `Int`; a value the translator has shown to be `≥ 0` may live in `Nat`
                                      (the `Nat` operations `+ * / % <<< >>> &&& ||| ^^^` agree with Python's there)
  `a & b`, `a | b`, `a ^ b`, `~a`     `band`, `bor`, `bxor`, `~~~` on `Int`: two's complement, as Python defines them
  `a << b`, `a >> b` (b ≥ 0 shown)    `shl`, `shr`; otherwise `shlE`, `shrE` (ValueError: negative shift count)
  `a // b`, `a % b`                   `Int.fdiv`, `Int.fmod` (floor), ZeroDivisionError as `.zeroDiv`: `floordivE`, `modE`
  `x[i]` on bytes                     `getItem x i` (negative `i` counts from the end, IndexError as `.index`)
  `x[a:b]` with a sign not known      `pySlice x a b` (negative bounds count from the end, then clamp)
  `n.to_bytes(k, "big")`              `toBytesE n k` (OverflowError as `.overflow`)
  `d[k]`, `k in d`                    `Dict κ ν = κ → Option ν`: `dictGetE`, `(d k).isSome`
  an exception                        `Except Err α`; with attribute writes before it: `Res σ α` (the state survives)
  `for i in range(a, b)`              `List.range' a (b - a)` (bounds shown `≥ 0`; else `rangeL a b`), folded
Core Lean only.
-/
import TLX.Py
namespace TLX.PyRt
open TLX

/-- the Python exceptions the subset can raise; `fuel` is not one: a `while` loop ran out of the rounds its spec
    allows (the theorems exclude it) -/
inductive Err | index | zeroDiv | value | overflow | key | type | struct | unbound | attr | fuel
  deriving DecidableEq, Repr, Inhabited

/-- how a statement list was left -/
inductive Exit | fall | cont | brk | ret
  deriving DecidableEq, Repr, Inhabited

/-- result of a state-passing function that may raise: the attribute writes made before the exception stay -/
inductive Res (σ α : Type)
  | ok (v : α) (s : σ)
  | raised (e : Err) (s : σ)
  deriving DecidableEq, Repr

abbrev Dict (κ ν : Type) := κ → Option ν

deriving instance DecidableEq for Except

/-- `try: v = x … except: …` as the translator spells it: no `match` in generated code, so that lemmas can name the shape -/
@[inline] def tryE {α β : Type} (x : Except Err α) (onErr : Err → β) (onOk : α → β) : β :=
  match x with
  | .error e => onErr e
  | .ok a => onOk a

@[simp] theorem tryE_ok {α β : Type} (a : α) (f : Err → β) (g : α → β) : tryE (.ok a) f g = g a := rfl
@[simp] theorem tryE_error {α β : Type} (e : Err) (f : Err → β) (g : α → β) : tryE (.error e : Except Err α) f g = f e := rfl

/-- what follows a state-passing call, per way it ended (the state it left is there in both cases) -/
@[inline] def tryR {σ α β : Type} (x : Res σ α) (onErr : Err → σ → β) (onOk : α → σ → β) : β :=
  match x with
  | .raised e s => onErr e s
  | .ok v s => onOk v s

@[simp] theorem tryR_ok {σ α β : Type} (v : α) (s : σ) (f : Err → σ → β) (g : α → σ → β) : tryR (.ok v s) f g = g v s := rfl
@[simp] theorem tryR_raised {σ α β : Type} (e : Err) (s : σ) (f : Err → σ → β) (g : α → σ → β) :
    tryR (.raised e s : Res σ α) f g = f e s := rfl

/-- reading an attribute that may not have been assigned yet, or an attribute / method of a value that may be `None`:
    AttributeError -/
def attrE {α : Type} (x : Option α) : Except Err α :=
  match x with
  | none => .error .attr
  | some a => .ok a

@[simp] theorem attrE_some {α : Type} (a : α) : attrE (some a) = .ok a := rfl
@[simp] theorem attrE_none {α : Type} : attrE (none : Option α) = .error .attr := rfl

/-! ### integers -/

/-- bits of `a` that are not bits of `b` (`a & ~b` for naturals) -/
def ldiff (a b : Nat) : Nat := a ^^^ (a &&& b)

/-- `a & b` -/
def band : Int → Int → Int
  | .ofNat a, .ofNat b => .ofNat (a &&& b)
  | .ofNat a, .negSucc b => .ofNat (ldiff a b)
  | .negSucc a, .ofNat b => .ofNat (ldiff b a)
  | .negSucc a, .negSucc b => .negSucc (a ||| b)

/-- `a | b` -/
def bor : Int → Int → Int
  | .ofNat a, .ofNat b => .ofNat (a ||| b)
  | .ofNat a, .negSucc b => .negSucc (ldiff b a)
  | .negSucc a, .ofNat b => .negSucc (ldiff a b)
  | .negSucc a, .negSucc b => .negSucc (a &&& b)

/-- `a ^ b` -/
def bxor : Int → Int → Int
  | .ofNat a, .ofNat b => .ofNat (a ^^^ b)
  | .ofNat a, .negSucc b => .negSucc (a ^^^ b)
  | .negSucc a, .ofNat b => .negSucc (a ^^^ b)
  | .negSucc a, .negSucc b => .ofNat (a ^^^ b)

/-- `a << b` for `b ≥ 0` -/
def shl (a b : Int) : Int := a <<< b.toNat
/-- `a >> b` for `b ≥ 0` (floor) -/
def shr (a b : Int) : Int := a >>> b.toNat

def shlE (a b : Int) : Except Err Int := if b < 0 then .error .value else .ok (shl a b)
def shrE (a b : Int) : Except Err Int := if b < 0 then .error .value else .ok (shr a b)

def floordivE (a b : Int) : Except Err Int := if b = 0 then .error .zeroDiv else .ok (a.fdiv b)
def modE (a b : Int) : Except Err Int := if b = 0 then .error .zeroDiv else .ok (a.fmod b)

/-! ### bytes -/

/-- `x[i]` -/
def getItem (x : Bytes) (i : Int) : Except Err Nat :=
  let j := if i < 0 then i + x.length else i
  if j < 0 then .error .index
  else match x[j.toNat]? with
    | none => .error .index
    | some b => .ok b.toNat

/-- a slice bound: negative counts from the end, then clamp to `0 … len` -/
def bound (len : Nat) (i : Int) : Nat :=
  if i < 0 then (i + len).toNat else min i.toNat len

/-- `x[a:b]`; `none` = bound omitted -/
def pySlice (x : Bytes) (a b : Option Int) : Bytes :=
  Bytes.slice x ((a.map (bound x.length)).getD 0) ((b.map (bound x.length)).getD x.length)

/-- `n.to_bytes(k, "big")` / `int.to_bytes(n, k, "big", signed=False)` -/
def toBytesE (n k : Int) : Except Err Bytes :=
  if k < 0 then .error .value
  else if n < 0 ∨ n ≥ 256 ^ k.toNat then .error .overflow
  else .ok (Bytes.ofNatBE k.toNat n.toNat)

/-- `x.rstrip(chars)` on bytes: the trailing bytes that occur in `chars` are dropped -/
def rstrip (x chars : Bytes) : Bytes := (x.reverse.dropWhile fun b => chars.contains b).reverse

def dictGetE {κ ν : Type} (d : Dict κ ν) (k : κ) : Except Err ν :=
  match d k with
  | none => .error .key
  | some v => .ok v

/-- a dict display as an association list in display order: a later entry of the same key wins -/
def tableGet {κ ν : Type} [DecidableEq κ] (t : List (κ × ν)) (k : κ) : Option ν :=
  (t.reverse.find? (fun e => decide (e.1 = k))).map (·.2)

/-- `d.keys()` of a dict display: every key once, at the place of its first entry -/
def tableKeys {κ ν : Type} [DecidableEq κ] (t : List (κ × ν)) : List κ := (t.map (·.1)).eraseDups

/-- `d.get(x)` where `x` is an int or a key-typed value and the keys are not ints: an int is never found -/
def tableGetU {κ ν : Type} [DecidableEq κ] (t : List (κ × ν)) (x : Sum Int κ) : Option ν :=
  match x with
  | .inl _ => none
  | .inr k => tableGet t k

/-- calling what `d.get(k)` returned: `None` is not callable (TypeError) -/
def callClass {κ α : Type} (f : Option κ) (k : κ → Except Err α) : Except Err α :=
  match f with
  | none => .error .type
  | some c => k c

/-- `d[k]` on a dict display: KeyError -/
def tableGetE {κ ν : Type} [DecidableEq κ] (t : List (κ × ν)) (k : κ) : Except Err ν :=
  match tableGet t k with
  | none => .error .key
  | some v => .ok v

/-- `d[k] = v` / `d.update({k: v})`: an existing key keeps its place and gets the value, a new key goes to the end -/
def tableSet {κ ν : Type} [DecidableEq κ] (t : List (κ × ν)) (k : κ) (v : ν) : List (κ × ν) :=
  if (t.any fun e => decide (e.1 = k)) then t.map (fun e => if e.1 = k then (k, v) else e) else t ++ [(k, v)]

/-- `s.startswith(p)`; `strIn`: `p in s` for `str` (code points), `p` occurs as a contiguous part of `s` -/
def strPrefix : List Nat → List Nat → Bool
  | [], _ => true
  | _ :: _, [] => false
  | a :: as, b :: bs => a == b && strPrefix as bs

def strIn (p : List Nat) : List Nat → Bool
  | [] => p.isEmpty
  | s@(_ :: t) => strPrefix p s || strIn p t

/-- a field of a `struct` format of the subset: `B`, or `<n>s` (a negative `n` prints as "-…": a bad format) -/
inductive Fld | B | S (n : Int)
  deriving DecidableEq, Repr

def Fld.size : Fld → Except Err Nat
  | .B => .ok 1
  | .S n => if n < 0 then .error .struct else .ok n.toNat

def fmtSize : List Fld → Except Err Nat
  | [] => .ok 0
  | f :: r =>
    match f.size with
    | .error e => .error e
    | .ok a =>
      match fmtSize r with
      | .error e => .error e
      | .ok b => .ok (a + b)

/-- the bytes of the fields of a format whose sizes are known to be fine, cut from `d` -/
def cutFields : List Fld → Bytes → List Bytes
  | [], _ => []
  | .B :: r, d => d.take 1 :: cutFields r (d.drop 1)
  | .S n :: r, d => d.take n.toNat :: cutFields r (d.drop n.toNat)

/-- `struct.unpack_from(fmt, d)`: struct.error for a bad format or a buffer shorter than the format; else the raw
    bytes of every field (`fldB` / `fldS` read a field as the int or the bytes its kind says) -/
def unpackFrom (fmt : List Fld) (d : Bytes) : Except Err (List Bytes) :=
  match fmtSize fmt with
  | .error e => .error e
  | .ok n => if d.length < n then .error .struct else .ok (cutFields fmt d)

def fldS (parts : List Bytes) (i : Nat) : Bytes := parts.getD i []
def fldB (parts : List Bytes) (i : Nat) : Nat := ((parts.getD i []).headD 0).toNat

/-- `zip(a, b)` of two byte strings -/
def zipBytes (a b : Bytes) : List (Nat × Nat) := List.zipWith (fun x y => (x.toNat, y.toNat)) a b

/-- `bytes([…])`: ValueError unless every element is in range(256) -/
def bytesOfE (l : List Int) : Except Err Bytes :=
  if l.all (fun v => decide (0 ≤ v ∧ v < 256)) then .ok (l.map fun v => UInt8.ofNat v.toNat) else .error .value

/-- `n * x` for a str / bytes `x`: `n ≤ 0` gives the empty sequence -/
def repeatSeq {α : Type} (n : Int) (x : List α) : List α := (List.replicate n.toNat x).flatten

/-- `s[i]` on a str (code points): the one-character string -/
def strItemE (s : List Nat) (i : Int) : Except Err (List Nat) :=
  let j := if i < 0 then i + s.length else i
  if j < 0 then .error .index
  else match s[j.toNat]? with
    | none => .error .index
    | some c => .ok [c]

/-- the UTF-8 bytes of one code point; `none`: a surrogate or a value beyond U+10FFFF (no Python str holds the latter) -/
def utf8One (c : Nat) : Option Bytes :=
  if c < 0x80 then some [UInt8.ofNat c]
  else if c < 0x800 then some [UInt8.ofNat (0xC0 ||| (c >>> 6)), UInt8.ofNat (0x80 ||| (c &&& 0x3F))]
  else if 0xD800 ≤ c ∧ c < 0xE000 then none
  else if c < 0x10000 then some [UInt8.ofNat (0xE0 ||| (c >>> 12)), UInt8.ofNat (0x80 ||| ((c >>> 6) &&& 0x3F)), UInt8.ofNat (0x80 ||| (c &&& 0x3F))]
  else if c < 0x110000 then some [UInt8.ofNat (0xF0 ||| (c >>> 18)), UInt8.ofNat (0x80 ||| ((c >>> 12) &&& 0x3F)),
                                  UInt8.ofNat (0x80 ||| ((c >>> 6) &&& 0x3F)), UInt8.ofNat (0x80 ||| (c &&& 0x3F))]
  else none

/-- `bytes(s, 'utf-8')`: UnicodeEncodeError (a ValueError) on a surrogate -/
def utf8E : List Nat → Except Err Bytes
  | [] => .ok []
  | c :: r =>
    match utf8One c, utf8E r with
    | some b, .ok rest => .ok (b ++ rest)
    | _, _ => .error .value

/-- a hash / HMAC object of `cryptography`: what `finalize()` computes from the bytes the `update()` calls appended -/
structure Acc where
  fin : Bytes → Bytes
  buf : Bytes

def Acc.update (a : Acc) (x : Bytes) : Acc := { a with buf := a.buf ++ x }
def Acc.finalize (a : Acc) : Bytes := a.fin a.buf

/-- `l[i]` on a list -/
def listItemE {α : Type} (l : List α) (i : Int) : Except Err α :=
  let j := if i < 0 then i + l.length else i
  if j < 0 then .error .index
  else match l[j.toNat]? with
    | none => .error .index
    | some a => .ok a

/-- reading a local that no statement on the path has assigned: UnboundLocalError -/
def unboundE {α : Type} (x : Option α) : Except Err α :=
  match x with
  | none => .error .unbound
  | some a => .ok a

@[simp] theorem unboundE_some {α : Type} (a : α) : unboundE (some a) = .ok a := rfl
@[simp] theorem unboundE_none {α : Type} : unboundE (none : Option α) = .error .unbound := rfl

/-- a value that must not be `None` where it is used (`bytearray.extend(None)`: TypeError) -/
def someE {α : Type} (e : Err) (x : Option α) : Except Err α :=
  match x with
  | none => .error e
  | some a => .ok a

@[simp] theorem someE_some {α : Type} (e : Err) (a : α) : someE e (some a) = .ok a := rfl
@[simp] theorem someE_none {α : Type} (e : Err) : someE e (none : Option α) = .error e := rfl

/-- `hexStr`: `x.hex()`, two lower-case hex digits per byte (as code points) -/
def hexDigit (n : Nat) : Nat := if n < 10 then 48 + n else 87 + n
def hexStr (x : Bytes) : List Nat := x.flatMap fun b => [hexDigit (b.toNat / 16), hexDigit (b.toNat % 16)]

/-- `bytes(n)`: `n` zero bytes, ValueError for a negative `n` -/
def zerosE (n : Int) : Except Err Bytes := if n < 0 then .error .value else .ok (List.replicate n.toNat 0)

/-- `d.update(other)`: the entries of `other` in their order (an existing key keeps its place and gets the value) -/
def tableUpdate {κ ν : Type} [DecidableEq κ] (t other : List (κ × ν)) : List (κ × ν) :=
  other.foldl (fun acc e => tableSet acc e.1 e.2) t

/-- `s.add(x)` on a set kept as a list without duplicates (a set is only ever asked `in`) -/
def setAdd {α : Type} [DecidableEq α] (s : List α) (x : α) : List α := if x ∈ s then s else s ++ [x]

/-- `s.add(x)` where `x` may be `None`, on a set of which only `bytes` members are ever asked: `None` changes no answer -/
def setAddO {α : Type} [DecidableEq α] (s : List α) : Option α → List α
  | none => s
  | some x => setAdd s x

/-- reading an attribute only some classes of the object have: `e` where the guard says it is absent -/
def guardE {α : Type} (e : Err) (c : Bool) (a : α) : Except Err α := if c then .ok a else .error e

/-- `for x in l: …` over a list of objects whose body may mutate `x` (through its methods) and may `return`: the list with the
    visited objects as they are afterwards, and whether the body returned (the objects after that one are not visited) -/
def forObjs {α : Type} (l : List α) (body : α → α × Bool) : List α × Bool :=
  match l with
  | [] => ([], false)
  | x :: rest =>
    if (body x).2 then ((body x).1 :: rest, true)
    else (((body x).1 :: (forObjs rest body).1), (forObjs rest body).2)

/-- `forObjs` for a body that may raise: each round ends in (the object as it is then, `.ok returned?` or the exception);
    an exception ends the loop like a `return` does (the objects after that one are not visited) -/
def forObjsE {α : Type} (l : List α) (body : α → α × Except Err Bool) : List α × Except Err Bool :=
  match l with
  | [] => ([], .ok false)
  | x :: rest =>
    match (body x).2 with
    | .ok false => (((body x).1 :: (forObjsE rest body).1), (forObjsE rest body).2)
    | r => ((body x).1 :: rest, r)

/-- the list after its last element (an object that was appended and is still held by a local) was mutated -/
def setLast {α : Type} (l : List α) (x : α) : List α := l.dropLast ++ [x]

/-- `s.split(sep)` for a one-character separator (a str is the list of its code points): never the empty list -/
def strSplit (sep : Nat) : List Nat → List (List Nat)
  | [] => [[]]
  | c :: cs =>
    if c = sep then [] :: strSplit sep cs
    else match strSplit sep cs with
      | [] => [[c]]
      | h :: t => (c :: h) :: t

/-- `s.replace(c, "")` for a one-character `c` -/
def strRemove (c : Nat) (s : List Nat) : List Nat := s.filter (· ≠ c)

/-- `bytearray.append(v)`: ValueError unless `v` is in range(256) -/
def appendByteE (x : Bytes) (v : Int) : Except Err Bytes :=
  if v < 0 ∨ v ≥ 256 then .error .value else .ok (x ++ [UInt8.ofNat v.toNat])

/-! ### loops -/

/-- `range(a, b)` -/
def rangeL (a b : Int) : List Int := (List.range (b - a).toNat).map fun (i : Nat) => a + (i : Int)

/-- `for i in range(a, b): st = body(st, i)` where the body may raise -/
def forE {σ ι : Type} (l : List ι) (st : σ) (body : σ → ι → Except Err σ) : Except Err σ :=
  match l with
  | [] => .ok st
  | i :: rest =>
    match body st i with
    | .error e => .error e
    | .ok st' => forE rest st' body

/-- one round of a loop that can be left by `break` or `return`: go on with the new state, leave the loop with it, or leave with the result -/
inductive Step (σ ρ : Type)
  | next (s : σ)
  | brk (s : σ)
  | ret (r : ρ)

/-- `for x in l: …` whose body may raise or `return` -/
def forS {σ ι ρ : Type} (l : List ι) (st : σ) (body : σ → ι → Except Err (Step σ ρ)) : Except Err (Step σ ρ) :=
  match l with
  | [] => .ok (.next st)
  | i :: rest =>
    match body st i with
    | .error e => .error e
    | .ok (.ret r) => .ok (.ret r)
    | .ok (.brk s) => .ok (.next s)
    | .ok (.next s) => forS rest s body

/-- `while cond: …` with at most `fuel` rounds; needing more is `.error .fuel` -/
def whileS {σ ρ : Type} (fuel : Nat) (st : σ) (cond : σ → Bool) (body : σ → Except Err (Step σ ρ)) :
    Except Err (Step σ ρ) :=
  match fuel with
  | 0 => if cond st then .error .fuel else .ok (.next st)
  | n + 1 =>
    if cond st then
      match body st with
      | .error e => .error e
      | .ok (.ret r) => .ok (.ret r)
      | .ok (.brk s) => .ok (.next s)
      | .ok (.next s) => whileS n s cond body
    else .ok (.next st)

/-- what follows a loop, per way it ended (no `match` in generated code) -/
@[inline] def loopS {σ ρ β : Type} (x : Except Err (Step σ ρ)) (onErr : Err → β) (onRet : ρ → β) (onNext : σ → β) : β :=
  match x with
  | .error e => onErr e
  | .ok (.ret r) => onRet r
  | .ok (.brk s) => onNext s
  | .ok (.next s) => onNext s

@[simp] theorem loopS_next {σ ρ β : Type} (s : σ) (f : Err → β) (g : ρ → β) (h : σ → β) :
    loopS (.ok (.next s) : Except Err (Step σ ρ)) f g h = h s := rfl
@[simp] theorem loopS_ret {σ ρ β : Type} (r : ρ) (f : Err → β) (g : ρ → β) (h : σ → β) :
    loopS (.ok (.ret r) : Except Err (Step σ ρ)) f g h = g r := rfl
@[simp] theorem loopS_error {σ ρ β : Type} (e : Err) (f : Err → β) (g : ρ → β) (h : σ → β) :
    loopS (.error e : Except Err (Step σ ρ)) f g h = f e := rfl

/-- `enumerate(x)` on bytes, counting from `n` -/
def enumFrom (n : Nat) : Bytes → List (Nat × Nat)
  | [] => []
  | b :: r => (n, b.toNat) :: enumFrom (n + 1) r

/-- iterating over bytes yields ints -/
def bytesNat (b : Bytes) : List Nat := b.map UInt8.toNat

/-- `range(a, b, step)` for `a, b ≥ 0`, `step > 0` -/
def rangeStep (a b step : Nat) : List Nat := (List.range ((b - a + step - 1) / step)).map fun i => a + i * step

/-- `x[a:b] = v` on a bytearray (`a, b ≥ 0`): the slice `[a', max a' b')` after clamping is replaced -/
def setSlice (x : Bytes) (a b : Nat) (v : Bytes) : Bytes :=
  x.take (min a x.length) ++ v ++ x.drop (max (min a x.length) (min b x.length))

/-- `x[i] = v` on a bytearray: IndexError, ValueError (`v` not in range(256)) -/
def setItemE (x : Bytes) (i v : Int) : Except Err Bytes :=
  let j := if i < 0 then i + x.length else i
  if j < 0 ∨ j ≥ x.length then .error .index
  else if v < 0 ∨ v ≥ 256 then .error .value
  else .ok (x.set j.toNat (UInt8.ofNat v.toNat))

end TLX.PyRt
