/-
QUIC output builder (`QUICOutputbuilder.build`, model `TLX.Quic.UdpOut`) — the output-side parts of
  C02  one output datagram per input datagram that carried exported data (`build_groups`, `build_eq_runs`),
  C13  metadata export only adds (`meta_only_adds_quic`, `meta_only_adds_quic_sublist`, `meta_regroup`),
  C08  cutting the capture short gives a prefix of the export (`build_take_prefix_quic`, `build_take_dropLast_prefix`),
  C07  nothing is invented (`out_bytes_from_frames`, `out_key_from_frames`, `out_key_occurs`).

The builder tells input datagrams apart only by `(capture time, direction)`. Every "per input datagram" statement
therefore needs that neighbouring exported datagrams differ in that key (`DistinctAdjacent`); the `…_needs_distinct`
theorems show what happens otherwise, and the unconditional theorems (`build_eq_runs`, `meta_regroup`,
`build_take_dropLast_prefix`, `out_*`) say what holds for every frame list.
-/
import TLX.Lemmas.UdpOut
namespace TLX.Props.C02Out
open TLX TLX.Quic.UdpOut

/-! ### vocabulary: a capture as a list of input datagrams -/

/-- One input datagram of the connection after decryption: capture time, direction and the `(frame type, data)`
    items of its frames. All its frames carry its `(ts, isServer)` by construction. -/
structure InDgram where
  ts : Nat
  isServer : Bool
  items : List (Nat × Bytes)
  deriving DecidableEq, Repr

def InDgram.key (d : InDgram) : Nat × Bool := (d.ts, d.isServer)

def InDgram.frames (d : InDgram) : List Frame := d.items.map fun it => ⟨it.1, d.ts, d.isServer, it.2⟩

/-- the frame list the builder gets: all frames of all datagrams in capture order -/
def framesOf (ds : List InDgram) : List Frame := ds.flatMap (·.frames)

/-- the datagram has at least one frame that is exported under `metadata = md` -/
def hasExported (md : Bool) (d : InDgram) : Bool := d.frames.any (fun f => (exported md f).isSome)

/-- consecutive datagrams among those with an exported frame differ in `(ts, isServer)` -/
def DistinctAdjacent (md : Bool) (ds : List InDgram) : Prop :=
  AdjDistinct ((ds.filter (hasExported md)).map (·.key))

instance (md : Bool) (ds : List InDgram) : Decidable (DistinctAdjacent md ds) := by
  unfold DistinctAdjacent; infer_instance

/-- all datagrams of the capture differ pairwise in `(ts, isServer)` (what distinct capture times give) -/
def DistinctKeys (ds : List InDgram) : Prop := (ds.map (·.key)).Pairwise (· ≠ ·)

instance (ds : List InDgram) : Decidable (DistinctKeys ds) := by unfold DistinctKeys; infer_instance

/-- the output datagram an input datagram should become: same direction and time, the exported data concatenated -/
def outDgram (md : Bool) (d : InDgram) : Dgram := ⟨d.isServer, d.ts, (d.frames.filterMap (exported md)).flatten⟩

theorem hasExported_iff (md : Bool) (d : InDgram) : hasExported md d = true ↔ d.frames.filter (isExp md) ≠ [] := by
  unfold hasExported isExp
  rw [List.any_eq_true, Ne, List.filter_eq_nil_iff]
  constructor
  · rintro ⟨f, hf, he⟩ h; exact h f hf he
  · intro h
    apply Classical.byContradiction
    intro hn
    exact h (fun f hf he => hn ⟨f, hf, he⟩)

theorem filter_of_not_hasExported {md : Bool} {d : InDgram} (h : ¬ hasExported md d = true) :
    d.frames.filter (isExp md) = [] :=
  Decidable.not_not.mp (mt (hasExported_iff md d).mpr h)

theorem frames_key (d : InDgram) : ∀ f ∈ d.frames, f.key = d.key := by
  intro f hf
  simp only [InDgram.frames, List.mem_map] at hf
  obtain ⟨it, _, rfl⟩ := hf
  rfl

theorem filter_framesOf (md : Bool) (ds : List InDgram) :
    ((ds.filter (hasExported md)).map (fun d => (d.key, d.frames.filter (isExp md)))).flatMap (·.2) =
      (framesOf ds).filter (isExp md) := by
  induction ds with
  | nil => rfl
  | cons d ds ih =>
    unfold framesOf at ih ⊢
    rw [List.flatMap_cons, List.filter_append, ← ih]
    by_cases h : hasExported md d = true
    · rw [List.filter_cons_of_pos h, List.map_cons, List.flatMap_cons]
    · rw [List.filter_cons_of_neg h]
      rw [filter_of_not_hasExported h, List.nil_append]

theorem DistinctKeys.adjacent {ds : List InDgram} (h : DistinctKeys ds) (md : Bool) : DistinctAdjacent md ds := by
  unfold DistinctAdjacent
  unfold DistinctKeys at h
  have hsub : ((ds.filter (hasExported md)).map (·.key)).Sublist (ds.map (·.key)) :=
    List.Sublist.map _ List.filter_sublist
  have hp := h.sublist hsub
  generalize (ds.filter (hasExported md)).map (·.key) = l at hp
  induction l with
  | nil => trivial
  | cons a r ih =>
    rw [List.pairwise_cons] at hp
    rw [adjDistinct_cons]
    exact ⟨fun b hb => hp.1 b (List.mem_of_mem_head? hb), ih hp.2⟩

/-- the frames of each output datagram, per input datagram -/
theorem groups_of_dgrams (md : Bool) (ds : List InDgram) (h : DistinctAdjacent md ds) :
    groups md (framesOf ds) =
      (ds.filter (hasExported md)).map (fun d => (d.key, d.frames.filter (isExp md))) := by
  rw [groups_eq_groupRuns, ← filter_framesOf]
  apply groupRuns_of_valid
  · intro g hg
    simp only [List.mem_map, List.mem_filter] at hg
    obtain ⟨d, ⟨_, hd⟩, rfl⟩ := hg
    refine ⟨(hasExported_iff md d).mp hd, ?_⟩
    intro f hf
    exact frames_key d f (List.mem_filter.mp hf).1
  · rw [List.map_map]
    exact h

/-! ### C02 -/

/-- **Unconditionally**: the output datagrams are the maximal runs of equal `(ts, isserver)` among the exported
    frames, each run concatenated. -/
theorem build_eq_runs (md : Bool) (fs : List Frame) :
    build md fs = (groupRuns Frame.key (fs.filter (fun f => (exported md f).isSome))).map Group.dgram := by
  rw [build_eq_groups, groups_eq_groupRuns]; rfl

/-- the runs are what one expects: they partition the exported frames in order, are non-empty, of constant key,
    and maximal -/
theorem runs_spec (md : Bool) (fs : List Frame) :
    (groups md fs).flatMap (·.2) = fs.filter (fun f => (exported md f).isSome) ∧
    (∀ g ∈ groups md fs, g.2 ≠ [] ∧ ∀ f ∈ g.2, f.key = g.1) ∧
    AdjDistinct ((groups md fs).map (·.1)) := by
  rw [groups_eq_groupRuns]
  exact ⟨groupRuns_flatten _ _, groupRuns_mem _ _, groupRuns_adjDistinct _ _⟩

/-- **C02 (output side)**: if consecutive data-carrying input datagrams differ in `(capture time, direction)`, the
    export has exactly one datagram per input datagram with an exported frame, in order, with that datagram's
    direction, time and exported data. -/
theorem build_groups (md : Bool) (ds : List InDgram) (h : DistinctAdjacent md ds) :
    build md (framesOf ds) = (ds.filter (hasExported md)).map (outDgram md) := by
  rw [build_eq_groups, groups_of_dgrams md ds h, List.map_map]
  apply List.map_congr_left
  intro d _
  simp only [Function.comp, Group.dgram, outDgram, filterMap_exported, InDgram.key]

/-- the hypothesis is needed: two data-carrying datagrams with the same time and direction become ONE output
    datagram -/
theorem build_groups_needs_distinct :
    ∃ (md : Bool) (ds : List InDgram), ¬ DistinctAdjacent md ds ∧
      build md (framesOf ds) ≠ (ds.filter (hasExported md)).map (outDgram md) ∧
      build md (framesOf ds) = [⟨false, 7, [1, 2, 3]⟩] :=
  ⟨false, [⟨7, false, [(8, [1, 2])]⟩, ⟨7, false, [(10, [3])]⟩], by decide⟩

-- Non-vacuity: three datagrams (one without exported data in between, equal time in the opposite direction)
example : DistinctAdjacent true
    [⟨7, false, [(8, [1, 2]), (6, [9])]⟩, ⟨7, true, [(2, [5])]⟩, ⟨7, true, [(0x0f, [3]), (1, [])]⟩] := by decide
example : build true (framesOf
    [⟨7, false, [(8, [1, 2]), (6, [9])]⟩, ⟨7, true, [(2, [5])]⟩, ⟨7, true, [(0x0f, [3]), (1, [])]⟩]) =
    [⟨false, 7, [1, 2, 9]⟩, ⟨true, 7, [3]⟩] := by decide

/-! ### C13 -/

theorem chunks_of_dgrams (md : Bool) (ds : List InDgram) (h : DistinctAdjacent md ds) :
    chunks md (framesOf ds) =
      (ds.filter (hasExported md)).map (fun d => (d.key, (d.frames.filter (isExp md)).map chunkOf)) := by
  rw [chunks, groups_of_dgrams md ds h, List.map_map]; rfl

/-- `build` is `chunks` with the chunks of every datagram concatenated -/
theorem build_eq_chunks (md : Bool) (fs : List Frame) :
    build md fs = (chunks md fs).map (fun g => ⟨g.1.2, g.1.1, (g.2.map (·.2)).flatten⟩) := by
  rw [build_eq_groups, chunks, List.map_map]
  apply List.map_congr_left
  intro g _
  simp [Group.dgram, chunkOf, List.map_map, Function.comp_def]

theorem stream_chunks (fs : List Frame) :
    ((fs.filter (isExp true)).map chunkOf).filter (·.1) = (fs.filter (isExp false)).map chunkOf := by
  induction fs with
  | nil => rfl
  | cons f fs ih =>
    by_cases hs : isStream f.ftype = true
    · have h0 : isExp false f = true := by rw [isExp_false]; exact hs
      have h1 : isExp true f = true := isExp_mono f h0
      rw [List.filter_cons_of_pos h1, List.filter_cons_of_pos h0, List.map_cons, List.map_cons,
        List.filter_cons_of_pos (by simpa [chunkOf] using hs), ih]
    · have h0 : ¬ isExp false f = true := by rw [isExp_false]; exact hs
      rw [List.filter_cons_of_neg h0]
      by_cases h1 : isExp true f = true
      · rw [List.filter_cons_of_pos h1, List.map_cons, List.filter_cons_of_neg (by simpa [chunkOf] using hs), ih]
      · rw [List.filter_cons_of_neg h1, ih]

/-- **C13 (QUIC builder)**: when neighbouring exported datagrams differ in `(time, direction)` — with and without
    metadata —, the export without metadata is the export with metadata with the non-STREAM chunks taken out of every
    datagram and the datagrams that become empty dropped. The STREAM chunks of every datagram (hence of every
    direction) are the same, in the same order. -/
theorem meta_only_adds_quic (ds : List InDgram) (h1 : DistinctAdjacent true ds) (h0 : DistinctAdjacent false ds) :
    chunks false (framesOf ds) =
      ((chunks true (framesOf ds)).map (fun g => (g.1, g.2.filter (·.1)))).filter (fun g => g.2 ≠ []) := by
  rw [chunks_of_dgrams true ds h1, chunks_of_dgrams false ds h0, List.map_map]
  clear h0 h1
  induction ds with
  | nil => rfl
  | cons d ds ih =>
    by_cases hs : hasExported false d = true
    · have hne := (hasExported_iff false d).mp hs
      have ht : hasExported true d = true := by
        rw [hasExported_iff] at hs ⊢
        intro hn; apply hs
        rw [List.filter_eq_nil_iff] at hn ⊢
        intro f hf he; exact hn f hf (isExp_mono f he)
      rw [List.filter_cons_of_pos hs, List.filter_cons_of_pos ht, List.map_cons, List.map_cons,
        List.filter_cons_of_pos, ← ih]
      · simp only [Function.comp, stream_chunks]
      · simp only [Function.comp, stream_chunks]
        simpa using hne
    · rw [List.filter_cons_of_neg hs]
      have hnil := filter_of_not_hasExported hs
      by_cases ht : hasExported true d = true
      · rw [List.filter_cons_of_pos ht, List.map_cons, List.filter_cons_of_neg, ← ih]
        simp only [Function.comp, stream_chunks, hnil]
        simp
      · rw [List.filter_cons_of_neg ht, ih]

/-- with pairwise distinct `(time, direction)` of the input datagrams both hypotheses hold -/
theorem meta_only_adds_quic_of_distinct_keys (ds : List InDgram) (h : DistinctKeys ds) :
    chunks false (framesOf ds) =
      ((chunks true (framesOf ds)).map (fun g => (g.1, g.2.filter (·.1)))).filter (fun g => g.2 ≠ []) :=
  meta_only_adds_quic ds (h.adjacent true) (h.adjacent false)

/-- corollary: every datagram exported without metadata has a datagram exported with metadata of the same time and
    direction whose chunk list contains its chunks — exactly the STREAM chunks — as a subsequence -/
theorem meta_only_adds_quic_sublist (ds : List InDgram) (h1 : DistinctAdjacent true ds)
    (h0 : DistinctAdjacent false ds) :
    ∀ g ∈ chunks false (framesOf ds), ∃ g' ∈ chunks true (framesOf ds),
      g'.1 = g.1 ∧ g.2 = g'.2.filter (·.1) ∧ g.2.Sublist g'.2 := by
  intro g hg
  rw [meta_only_adds_quic ds h1 h0] at hg
  simp only [List.mem_filter, List.mem_map] at hg
  obtain ⟨⟨g', hg', rfl⟩, _⟩ := hg
  exact ⟨g', hg', rfl, rfl, List.filter_sublist⟩

/-- the same on the output datagrams themselves -/
theorem meta_only_adds_quic_dgram (ds : List InDgram) (h1 : DistinctAdjacent true ds)
    (h0 : DistinctAdjacent false ds) :
    ∀ d ∈ build false (framesOf ds), ∃ g' ∈ chunks true (framesOf ds),
      g'.1 = (d.ts, d.isServer) ∧ d.payload = ((g'.2.filter (·.1)).map (·.2)).flatten ∧
      (⟨d.isServer, d.ts, (g'.2.map (·.2)).flatten⟩ : Dgram) ∈ build true (framesOf ds) := by
  intro d hd
  rw [build_eq_chunks] at hd
  obtain ⟨g, hg, rfl⟩ := List.mem_map.mp hd
  obtain ⟨g', hg', hk, hf, _⟩ := meta_only_adds_quic_sublist ds h1 h0 g hg
  refine ⟨g', hg', by rw [hk], by rw [hf], ?_⟩
  rw [build_eq_chunks]
  exact List.mem_map.mpr ⟨g', hg', by rw [hk]⟩

/-- `DistinctAdjacent true` alone is not enough: a metadata-only datagram between two STREAM datagrams of equal key
    keeps them apart with metadata, without metadata they merge -/
theorem meta_only_adds_needs_distinct_false :
    ∃ ds : List InDgram, DistinctAdjacent true ds ∧ ¬ DistinctAdjacent false ds ∧
      chunks false (framesOf ds) ≠
        ((chunks true (framesOf ds)).map (fun g => (g.1, g.2.filter (·.1)))).filter (fun g => g.2 ≠ []) ∧
      build false (framesOf ds) = [⟨false, 7, [1, 3]⟩] ∧
      build true (framesOf ds) = [⟨false, 7, [1]⟩, ⟨true, 8, [2]⟩, ⟨false, 7, [3]⟩] :=
  ⟨[⟨7, false, [(8, [1])]⟩, ⟨8, true, [(6, [2])]⟩, ⟨7, false, [(9, [3])]⟩], by decide⟩

-- Non-vacuity: a capture with STREAM, CRYPTO and datagram-extension frames satisfying both hypotheses
example : DistinctKeys [⟨7, false, [(8, [1]), (6, [9])]⟩, ⟨8, true, [(6, [2])]⟩, ⟨9, false, [(0xfe, [4]), (9, [3])]⟩] := by
  decide
example : chunks true (framesOf [⟨7, false, [(8, [1]), (6, [9])]⟩, ⟨8, true, [(6, [2])]⟩, ⟨9, false, [(0xfe, [4]), (9, [3])]⟩])
    = [((7, false), [(true, [1]), (false, [9])]), ((8, true), [(false, [2])]), ((9, false), [(false, [4]), (true, [3])])] := by
  decide
example : chunks false (framesOf [⟨7, false, [(8, [1]), (6, [9])]⟩, ⟨8, true, [(6, [2])]⟩, ⟨9, false, [(0xfe, [4]), (9, [3])]⟩])
    = [((7, false), [(true, [1])]), ((9, false), [(true, [3])])] := by decide

/-! ### C08 -/

/-- **C08 (QUIC builder)**: the export of the first `n` datagrams of the capture is a prefix of the export of the
    whole capture. -/
theorem build_take_prefix_quic (md : Bool) (ds : List InDgram) (n : Nat) (h : DistinctAdjacent md ds) :
    build md (framesOf (ds.take n)) <+: build md (framesOf ds) := by
  have hp : (ds.take n).filter (hasExported md) <+: ds.filter (hasExported md) :=
    List.IsPrefix.filter _ (List.take_prefix n ds)
  have hn : DistinctAdjacent md (ds.take n) := AdjDistinct.prefix (List.IsPrefix.map _ hp) h
  rw [build_groups md ds h, build_groups md _ hn]
  exact List.IsPrefix.map _ hp

/-- **Unconditionally**, for any frame list cut anywhere (also inside a datagram): all output datagrams of the cut
    capture but the last one are a prefix of the full export. -/
theorem build_take_dropLast_prefix (md : Bool) (fs : List Frame) (n : Nat) :
    (build md (fs.take n)).dropLast <+: build md fs := by
  unfold build
  conv => rhs; rw [← List.take_append_drop n fs, List.foldl_append]
  exact (finish_dropLast_prefix _).trans ((foldl_grows (step md) (·.2) (step_out_prefix md) _ _).trans (out_prefix_finish _))

/-- the hypothesis of `build_take_prefix_quic` is needed: the last datagram of the cut export can still grow -/
theorem build_take_prefix_needs_distinct :
    ∃ (md : Bool) (ds : List InDgram) (n : Nat), ¬ DistinctAdjacent md ds ∧
      ¬ (build md (framesOf (ds.take n)) <+: build md (framesOf ds)) ∧
      build md (framesOf (ds.take n)) = [⟨true, 4, [1]⟩] ∧ build md (framesOf ds) = [⟨true, 4, [1, 2]⟩] :=
  ⟨false, [⟨4, true, [(8, [1])]⟩, ⟨4, true, [(8, [2])]⟩], 1, by decide⟩

example : DistinctAdjacent false [⟨4, true, [(8, [1])]⟩, ⟨5, true, [(1, [])]⟩, ⟨4, false, [(8, [2]), (9, [3])]⟩] := by decide
example : build false (framesOf ([⟨4, true, [(8, [1])]⟩, ⟨5, true, [(1, [])]⟩, ⟨4, false, [(8, [2]), (9, [3])]⟩].take 2)) =
    [⟨true, 4, [1]⟩] := by decide
example : (build true ([(⟨8, 4, true, [1]⟩ : Frame), ⟨6, 5, true, [2]⟩, ⟨8, 5, true, [3]⟩].take 2)).dropLast =
    [⟨true, 4, [1]⟩] := by decide

/-! ### C07 -/

theorem flatMap_payload_dgram (gs : List Group) :
    (gs.map Group.dgram).flatMap (·.payload) = ((gs.flatMap (·.2)).map (·.data)).flatten := by
  induction gs with
  | nil => rfl
  | cons g gs ih => simp [Group.dgram, ih]

/-- **C07 (bytes)**: for every frame list the exported payload bytes, all output datagrams together, are exactly the
    data of the exported frames, once each, in order. -/
theorem out_bytes_from_frames (md : Bool) (fs : List Frame) :
    (build md fs).flatMap (·.payload) = (fs.filterMap (exported md)).flatten := by
  rw [build_eq_groups, flatMap_payload_dgram, groups_eq_groupRuns, groupRuns_flatten, filterMap_exported]

/-- **C07 (origin)**: for every frame list, every output datagram (`build md fs = (groups md fs).map Group.dgram`)
    is made of at least one frame, and every frame whose data it contains is an exported frame of the input with
    exactly the datagram's time and direction. -/
theorem out_key_from_frames (md : Bool) (fs : List Frame) :
    build md fs = (groups md fs).map Group.dgram ∧
    ∀ g ∈ groups md fs, g.2 ≠ [] ∧
      ∀ f ∈ g.2, f ∈ fs ∧ (exported md f).isSome ∧ f.ts = g.dgram.ts ∧ f.isServer = g.dgram.isServer := by
  refine ⟨build_eq_groups md fs, ?_⟩
  intro g hg
  have hmem := (runs_spec md fs).2.1 g hg
  refine ⟨hmem.1, ?_⟩
  intro f hf
  have hin : f ∈ (groups md fs).flatMap (·.2) := List.mem_flatMap.mpr ⟨g, hg, hf⟩
  rw [(runs_spec md fs).1, List.mem_filter] at hin
  have hk := hmem.2 f hf
  exact ⟨hin.1, hin.2, congrArg Prod.fst hk, congrArg Prod.snd hk⟩

/-- every output datagram's time and direction are those of some exported input frame -/
theorem out_key_occurs (md : Bool) (fs : List Frame) :
    ∀ d ∈ build md fs, ∃ f ∈ fs, (exported md f).isSome ∧ f.ts = d.ts ∧ f.isServer = d.isServer := by
  intro d hd
  obtain ⟨hb, hall⟩ := out_key_from_frames md fs
  rw [hb] at hd
  obtain ⟨g, hg, rfl⟩ := List.mem_map.mp hd
  obtain ⟨hne, hf⟩ := hall g hg
  obtain ⟨f, rest, hfr⟩ := List.exists_cons_of_ne_nil hne
  obtain ⟨h1, h2, h3, h4⟩ := hf f (by rw [hfr]; simp)
  exact ⟨f, h1, h2, h3, h4⟩

example : groups true [⟨8, 4, true, [1]⟩, ⟨1, 4, true, []⟩, ⟨6, 4, true, [2]⟩, ⟨0x0b, 4, false, [3]⟩] =
    [((4, true), [⟨8, 4, true, [1]⟩, ⟨6, 4, true, [2]⟩]), ((4, false), [⟨0x0b, 4, false, [3]⟩])] := by decide
example : (build true [⟨8, 4, true, [1]⟩, ⟨1, 4, true, [7]⟩, ⟨6, 4, true, [2]⟩, ⟨0x0b, 4, false, [3]⟩]).flatMap (·.payload) =
    [1, 2, 3] := by decide

/-! ### C13, unconditional form -/

theorem push_map {α β K : Type} [DecidableEq K] (f : α → β) (k : K) (as : List α) (g : List (K × List α)) :
    (push k as g).map (fun x => (x.1, x.2.map f)) = push k (as.map f) (g.map (fun x => (x.1, x.2.map f))) := by
  cases g with
  | nil => rfl
  | cons y rest =>
    obtain ⟨k', bs⟩ := y
    by_cases hk : k = k'
    · subst hk; rw [push_cons_same, List.map_cons, List.map_cons, push_cons_same, List.map_append]
    · rw [push_cons_ne hk, List.map_cons, List.map_cons]
      exact (push_cons_ne hk _ _ _).symm

theorem regroup_map {α β K : Type} [DecidableEq K] (f : α → β) (gs : List (K × List α)) :
    (regroup gs).map (fun x => (x.1, x.2.map f)) = regroup (gs.map (fun x => (x.1, x.2.map f))) := by
  induction gs with
  | nil => rfl
  | cons g rest ih =>
    obtain ⟨k, bs⟩ := g
    rw [regroup_cons, push_map, ih, List.map_cons, regroup_cons]

theorem restrict_map {α β K : Type} (f : α → β) (p : β → Bool) (gs : List (K × List α)) :
    (restrict (fun a => p (f a)) gs).map (fun x => (x.1, x.2.map f)) =
      restrict p (gs.map (fun x => (x.1, x.2.map f))) := by
  induction gs with
  | nil => rfl
  | cons g rest ih =>
    obtain ⟨k, bs⟩ := g
    have hf : (bs.map f).filter p = (bs.filter (fun a => p (f a))).map f := by
      rw [List.filter_map]; rfl
    rw [List.map_cons, restrict_cons, restrict_cons, hf]
    by_cases hb : bs.filter (fun a => p (f a)) = []
    · rw [if_pos hb, if_pos (by rw [hb]; rfl), ih]
    · rw [if_neg hb, if_neg (by simpa using hb), List.map_cons, ih]

/-- **C13, for every frame list**: the export without metadata is the export with metadata with the non-STREAM
    chunks removed, emptied datagrams dropped, and datagrams that thereby become neighbours with equal
    `(time, direction)` merged (`regroup`; the identity when those keys differ, `regroup_of_adjDistinct`). -/
theorem meta_regroup (fs : List Frame) :
    chunks false fs = regroup (restrict (·.1) (chunks true fs)) := by
  have hfil : fs.filter (isExp false) = (fs.filter (isExp true)).filter (fun f => isStream f.ftype) := by
    rw [List.filter_filter]
    apply List.filter_congr
    intro f _
    rw [isExp_false, isExp_true]
    cases isStream f.ftype <;> simp
  unfold chunks
  rw [groups_eq_groupRuns, groups_eq_groupRuns, hfil, groupRuns_filter, regroup_map]
  exact congrArg regroup (restrict_map chunkOf (·.1) _)

end TLX.Props.C02Out
