import TLX.Props.C02AllRfc
import TLX.Props.C02File2
set_option autoImplicit false
/-! # C02, all together — 3. from the capture to the connection's session

`QEv3`: the events of a described capture (first Initial + Retry, interleaved part with 0-RTT packets, 1-RTT-only part, packets
of other QUIC connections, anything else); its QUIC view is the connection's calls and the others', interleaved (`quicView3`);
on the connection's own datagrams the loop keeps ONE session (`own_run_tail`: `C02File.own_run_G` at `yView`), whose export is
`expectedOutX`. Third of the four files of the namespace `TLX.Props.C02All`. Core Lean only. -/
namespace TLX.Props.C02All
open TLX TLX.MainLoop TLX.Spec.Demux TLX.Lemmas.MainLoop TLX.Dissect TLX.OutBytes
open TLX.Container (Item)
open TLX.Props.C01File TLX.Spec.FrameBuild TLX.Spec.TlsCapture TLX.Spec.QuicCapture TLX.Props.C12Dissect
open TLX.Spec.QuicSender TLX.Spec.QuicConnection TLX.Spec.QuicPackets TLX.QuicPipeline TLX.Props.C02Capstone
open TLX.Props.C02File TLX.Props.C02Capstone3 TLX.Props.C02File2 TLX.Props.C02Zr TLX.Props.C02Sim

-- the distinctness hypothesis is only handed on in this file; unfolding it when an application is elaborated is expensive
attribute [local irreducible] C02Out.DistinctAdjacent

/-- one event of the capture, described from the senders' side -/
inductive QEv3
  /-- the client's first Initial datagram, answered by a Retry -/
  | pre (t : Container.Time) (fr : Spec.FrameBuild.Frame) (u : Udp) (d : DgH)
  /-- the server's Retry datagram -/
  | retry (t : Container.Time) (fr : Spec.FrameBuild.Frame) (u : Udp) (r : Retry)
  /-- a datagram of the interleaved part: coalesced long-header packets, 0-RTT packets, optionally a closing 1-RTT packet -/
  | mix (t : Container.Time) (fr : Spec.FrameBuild.Frame) (u : Udp) (d : DgY)
  /-- a datagram of the 1-RTT-only part -/
  | one (t : Container.Time) (fr : Spec.FrameBuild.Frame) (u : Udp) (d : Dg1)
  /-- a packet the main loop takes for QUIC that belongs to ANOTHER connection -/
  | other (e : CapEv)
  /-- a packet the main loop does not take for QUIC (TLS over TCP, ARP, DNS …) -/
  | foreign (e : CapEv)

def QEv3.cap : QEv3 → CapEv
  | .pre t fr _ _ => ⟨t, fr.encode, viewOf fr⟩
  | .retry t fr _ _ => ⟨t, fr.encode, viewOf fr⟩
  | .mix t fr _ _ => ⟨t, fr.encode, viewOf fr⟩
  | .one t fr _ _ => ⟨t, fr.encode, viewOf fr⟩
  | .other e => e
  | .foreign e => e

/-- the header the main loop parses off a datagram of the interleaved part -/
def hdrX (d : DgX) : Hdr := if d.base.longs = [] ∧ d.zr = [] then .short else .long d.dcid .v1

/-- direction, UDP datagram and parsed header of an event of the connection -/
def QEv3.own : QEv3 → Option (Bool × Udp × Hdr)
  | .pre _ _ u d => some (d.srv, u, .long (dgDcid d) .v1)
  | .retry _ _ u r => some (true, u, .long r.dcid .v1)
  | .mix _ _ u d => some (d.x.base.srv, u, hdrX d.x)
  | .one _ _ u d => some (d.x.srv, u, .short)
  | _ => none

def QEv3.frame : QEv3 → Option Spec.FrameBuild.Frame
  | .pre _ fr _ _ | .retry _ fr _ _ | .mix _ fr _ _ | .one _ fr _ _ => some fr
  | _ => none

/-- what the generic view lemma needs of an event -/
def EvBase (fl : Flow) (o : Opts) (ev : QEv3) : Prop :=
  match ev.own, ev.frame with
  | some (srv, u, h), some fr => IsDg fl srv fr u ∧ ∃ b0 rest, u.payload = b0 :: rest ∧ (b0.toNat &&& 0x40) >>> 6 = 1 ∧
      parseHeader1 b0 rest = h
  | _, _ => match ev with
    | .other e => dissect e.buf = .ok e.d
    | .foreign e => dissect e.buf = .ok e.d ∧ ∀ tag, NotQuic o (pktOf tag e.d)
    | _ => True

/-- the main loop's calls for the connection's own datagrams (tag = position in the capture) -/
def ownIn (fl : Flow) (kl : List Keylog.Key) : Nat → List QEv3 → List (QIn Keylog.Key)
  | _, [] => []
  | n, ev :: rest =>
    match ev.own with
    | some (srv, u, h) => ⟨kl, h, dgPkt fl srv u.payload n⟩ :: ownIn fl kl (n + 1) rest
    | none => ownIn fl kl (n + 1) rest

/-- … and for the packets of the OTHER QUIC connections -/
def othIn (o : Opts) (kl : List Keylog.Key) : Nat → List QEv3 → List (QIn Keylog.Key)
  | _, [] => []
  | n, .other e :: rest => quicView o kl [.frame (pktOf n e.d)] ++ othIn o kl (n + 1) rest
  | n, _ :: rest => othIn o kl (n + 1) rest

theorem capOk3 (fl : Flow) (o : Opts) (evs : List QEv3) (h : ∀ ev ∈ evs, EvBase fl o ev)
    (ht : ∀ e ∈ evs.map QEv3.cap, Ingest.isMinusOne e.t = false) : CapOk (evs.map QEv3.cap) := by
  refine capOk_of_events _ _ (fun ev hev => ?_) ht
  have := h ev hev
  cases ev with
  | pre t fr u d => exact dissect_dg fl d.srv fr u this.1
  | retry t fr u r => exact dissect_dg fl true fr u this.1
  | mix t fr u d => exact dissect_dg fl d.x.base.srv fr u this.1
  | one t fr u d => exact dissect_dg fl d.x.srv fr u this.1
  | other e => exact this
  | foreign e => exact this.1

theorem quicView3 (fl : Flow) (o : Opts) (hc : o.checksumTest = false) (kl : List Keylog.Key) (evs : List QEv3)
    (hd : ∀ ev ∈ evs, EvBase fl o ev) (n : Nat) :
    Merge (ownIn fl kl n evs) (othIn o kl n evs) (quicView o kl (itemsFrom n (evs.map QEv3.cap))) := by
  induction evs generalizing n with
  | nil => exact Merge.nil
  | cons ev rest ih =>
    have hrest := ih (fun e he => hd e (List.mem_cons_of_mem _ he)) (n + 1)
    have hev := hd ev (List.mem_cons_self ..)
    rw [List.map_cons, itemsFrom, quicView_cons]
    have own_case : ∀ (fr : Spec.FrameBuild.Frame) (srv : Bool) (u : Udp) (h : Hdr),
        IsDg fl srv fr u → (∃ b0 r, u.payload = b0 :: r ∧ (b0.toNat &&& 0x40) >>> 6 = 1 ∧ parseHeader1 b0 r = h) →
        Merge ((⟨kl, h, dgPkt fl srv u.payload n⟩ : QIn Keylog.Key) :: ownIn fl kl (n + 1) rest) (othIn o kl (n + 1) rest)
          (quicView o kl [.frame (pktOf n (viewOf fr))] ++ quicView o kl (itemsFrom (n + 1) (rest.map QEv3.cap))) := by
      intro fr srv u h hdg ⟨b0, r, hw, hfix, hparse⟩
      rw [quicView_own o hc kl fl srv fr u hdg b0 r hw hfix n, hparse]
      exact Merge.left _ hrest
    cases ev with
    | pre t fr u d => exact own_case fr d.srv u _ hev.1 hev.2
    | retry t fr u r => exact own_case fr true u _ hev.1 hev.2
    | mix t fr u d => exact own_case fr d.x.base.srv u _ hev.1 hev.2
    | one t fr u d => exact own_case fr d.x.srv u _ hev.1 hev.2
    | foreign e =>
      simp only [QEv3.cap, ownIn, othIn, QEv3.own]
      rw [quicView_notQuic o _ (hev.2 n) kl]; exact hrest
    | other e =>
      simp only [QEv3.cap, ownIn, othIn, QEv3.own]
      exact merge_right_append _ hrest

theorem ownIn_append (fl : Flow) (kl : List Keylog.Key) (a b : List QEv3) (n : Nat) :
    ownIn fl kl n (a ++ b) = ownIn fl kl n a ++ ownIn fl kl (n + a.length) b := by
  induction a generalizing n with
  | nil => simp [ownIn]
  | cons e rest ih =>
    have hn : n + 1 + rest.length = n + (rest.length + 1) := by omega
    simp only [List.cons_append, ownIn, ih (n + 1), hn, List.length_cons]
    cases e.own <;> simp

section Headers3
open TLX.Quic.Session TLX.Cipher TLX.Spec.KeySchedules
variable (H : Crypto.Prims) (Pc : Cipher.Prims)

/-- the first packet on the wire of a datagram of the interleaved part carries what the main loop routes by -/
def HdrOkX (d : DgX) : Prop :=
  (∃ q qs, d.base.longs.take d.pos = q :: qs ∧ LongShape q.x ∧ 1 ≤ q.x.pnLen ∧ q.x.pnLen ≤ 4) ∨
  (d.base.longs.take d.pos = [] ∧ ∃ q qs, d.zr = q :: qs ∧ ZrShape q.x ∧ 1 ≤ q.x.pnLen ∧ q.x.pnLen ≤ 4) ∨
  (d.base.longs.take d.pos = [] ∧ d.zr = [] ∧ HdrOkM d.base)

theorem take_nil_drop {α : Type} (l : List α) (n : Nat) (h : l.take n = []) : l.drop n = l := by
  cases n with
  | zero => rfl
  | succ k => cases l with
    | nil => rfl
    | cons a as => simp at h

theorem xHeader_wire (L : SealLaws Pc) (dcid0 : Bytes) (sel selR : SuiteSel) (sh ch sa ca e : Bytes) (d : DgX)
    (hd : HdrOkX d) :
    ∃ b0 rest, DgX.wire H Pc L dcid0 sel selR sh ch sa ca e d = b0 :: rest ∧ (b0.toNat &&& 0x40) >>> 6 = 1 ∧
      parseHeader1 b0 rest = hdrX d := by
  rcases hd with ⟨q, qs, hp, hshape, h1, h4⟩ | ⟨ht, q, qs, hz, hshape, h1, h4⟩ | ⟨ht, hz, hm⟩
  · have hl : ∃ l', d.base.longs = q :: l' := by
      cases hlg : d.base.longs with
      | nil => rw [hlg] at hp; simp at hp
      | cons a l' =>
        rw [hlg] at hp
        cases hpos : d.pos with
        | zero => rw [hpos] at hp; simp at hp
        | succ k => rw [hpos] at hp; simp only [List.take_succ_cons, List.cons.injEq] at hp; exact ⟨l', by rw [hp.1]⟩
    obtain ⟨l', hl'⟩ := hl
    have hw : DgX.wire H Pc L dcid0 sel selR sh ch sa ca e d =
        (longOf q.x (protectedPayload L.aeadSeal (lvlDec H dcid0 sel sh ch q.x.level).alg
          (lvlKey H dcid0 sel sh ch q.x.level q.x.srv) q.x)).protect q.mask ++
        ((qs.map (pkWire H Pc L dcid0 sel sh ch)).flatten ++ ((d.zr.map (zrWire H Pc L selR e)).flatten ++
          (((d.base.longs.drop d.pos).map (pkWire H Pc L dcid0 sel sh ch)).flatten ++
          (d.base.short.map (wireOf H Pc L sel .v1 (rfcGen (hashOf H sel.hash) sel.keyLen sa ca 0))).getD []))) := by
      unfold DgX.wire; rw [hp]; simp [pkWire, PkH.wire, List.append_assoc]
    have hdc : d.dcid = q.x.dcid := by unfold DgX.dcid; rw [hp]; simp [DgM.dcid, hl']
    have hh : hdrX d = .long q.x.dcid .v1 := by unfold hdrX; rw [hl', hdc]; simp
    rw [hw, hh]
    exact longOf_wire_header q.x _ hshape.version hshape.dcid hshape.scid h1 h4 _ _
  · have hw : DgX.wire H Pc L dcid0 sel selR sh ch sa ca e d =
        (longOf q.x (protectedPayload L.aeadSeal selR.alg (earlyDec H selR e).client q.x)).protect q.mask ++
        ((qs.map (zrWire H Pc L selR e)).flatten ++
          (((d.base.longs.drop d.pos).map (pkWire H Pc L dcid0 sel sh ch)).flatten ++
          (d.base.short.map (wireOf H Pc L sel .v1 (rfcGen (hashOf H sel.hash) sel.keyLen sa ca 0))).getD [])) := by
      unfold DgX.wire; rw [ht, hz]; simp [zrWire, PkH.wire, List.append_assoc]
    have hdc : d.dcid = q.x.dcid := by unfold DgX.dcid; rw [ht, hz]
    have hh : hdrX d = .long q.x.dcid .v1 := by unfold hdrX; rw [hz, hdc]; simp
    rw [hw, hh]
    exact longOf_wire_header q.x _ hshape.version hshape.dcid hshape.scid h1 h4 _ _
  · have hw : DgX.wire H Pc L dcid0 sel selR sh ch sa ca e d = DgM.wire H Pc L dcid0 sel sh ch sa ca d.base := by
      unfold DgX.wire DgM.wire; rw [ht, hz, take_nil_drop _ _ ht]; simp
    have hdc : d.dcid = d.base.dcid := by unfold DgX.dcid; rw [ht, hz]
    have hh : hdrX d = hdrM d.base := by unfold hdrX hdrM; rw [hz, hdc]; simp
    rw [hw, hh]
    exact mixHeader_wire H Pc L dcid0 sel sh ch sa ca d.base hm

theorem retry_wire_header (r : Retry) (hv : r.version = [0, 0, 0, 1]) (hu : r.unused < 16) (hd : r.dcid.length ≤ 255)
    (hs63 : r.scid.length ≤ 63) :
    ∃ b0 rest, r.encode = b0 :: rest ∧ (b0.toNat &&& 0x40) >>> 6 = 1 ∧ parseHeader1 b0 rest = .long r.dcid .v1 := by
  have hbits : ∀ n : Fin 16, Quic.Dissect.isLong (UInt8.ofNat (0xF0 + n.val)) = true ∧
      ((UInt8.ofNat (0xF0 + n.val)).toNat &&& 0x40) >>> 6 = 1 := by decide
  obtain ⟨b7, b6⟩ := hbits ⟨r.unused, hu⟩
  refine ⟨r.first, r.version ++ (UInt8.ofNat r.dcid.length :: (r.dcid ++ (UInt8.ofNat r.scid.length :: (r.scid ++
      (r.token ++ r.tag))))), ?_, b6, parseHeader1_long r.first b7 _ _ _ _ hv hd hs63⟩
  simp [Retry.encode, List.append_assoc]

end Headers3

section Runs3
open TLX.Quic.Session TLX.Cipher TLX.Props.C02Session TLX.Spec.KeySchedules TLX.Props.C02Capstone4
variable (maskFn : Quic.Dissect.MaskFn) (H : Crypto.Prims) (Pc : Cipher.Prims) (info : Nat → Pipeline.Info)

/-- routing of the interleaved part: a datagram that BEGINS with a 1-RTT packet is found by the loop's connection-ID search
    (`C02File.RouteOk`, for the CIDs its receiver has issued so far); long-header datagrams carry their DCID -/
def RoutesY (w : DgX → Bytes) : Trk → List DgY → Prop
  | _, [] => True
  | t, d :: ds => (d.x.base.longs = [] ∧ d.x.zr = [] → RouteOk (if d.x.base.srv then t.cc else t.sc) (w d.x) d.x.dcid) ∧
      RoutesY w (t.dgx d.eff) ds

theorem hdrX_eq (d : DgY) : hdrX d.x = hdrG yView d := by
  unfold hdrX hdrG
  show _ = if DgX.ver d.x = .unknown then _ else _
  unfold DgX.ver
  by_cases h : d.x.base.longs = [] ∧ d.x.zr = [] <;> simp [h] <;> rfl

variable {maskFn H Pc}

theorem routesG_of_Y (L : SealLaws Pc) (dcid0 ch sh sa ca : Bytes) (early : Option Bytes) (e : Bytes) (sel selR : SuiteSel)
    (t : Trk) (ecs : Option SuiteSel) (ds : List DgY)
    (h : RoutesY (DgX.wire H Pc L dcid0 sel selR sh ch sa ca e) t ds) :
    RoutesG (pevK maskFn H Pc L dcid0 ch sh early e sel selR) yView
      (yView.wire H Pc L ca sa sel (pevK maskFn H Pc L dcid0 ch sh early e sel selR)) ⟨t, ecs⟩ ds := by
  induction ds generalizing t ecs with
  | nil => trivial
  | cons d ds ih =>
    refine ⟨fun hu => ?_, by rw [yView_after]; exact ih _ _ h.2⟩
    have hw : ∀ d : DgY, yView.wire H Pc L ca sa sel (pevK maskFn H Pc L dcid0 ch sh early e sel selR) d =
        DgX.wire H Pc L dcid0 sel selR sh ch sa ca e d.x := by
      rintro ⟨x, good⟩
      cases good
      · exact evsOf_wire PEv.zrBad (fun _ => rfl) x
      · exact evsOf_wire PEv.zr (fun _ => rfl) x
    rw [hw]
    refine h.1 (Classical.byContradiction fun hl => ?_)
    have : DgX.ver d.x = .v1 := by unfold DgX.ver; rw [if_neg hl]
    rw [show yView.ver d = DgX.ver d.x from rfl, this] at hu
    cases hu

end Runs3

section Tail3
open TLX.Quic.Session TLX.Cipher TLX.Props.C02Session TLX.Spec.KeySchedules TLX.Props.C02Capstone4
variable (maskFn : Quic.Dissect.MaskFn) (H : Crypto.Prims) (Pc : Cipher.Prims) (info : Nat → Pipeline.Info)

/-- the session `s` has just been fed the first datagram `d0` of the interleaved part (by `quicNew` on a fresh session, or
    after a Retry): the loop on the remaining datagrams of the connection — interleaved part, then 1-RTT-only part — keeps
    it the ONE session (`C02File.own_run_G`), and its export is `expectedOutX` (`quic_connection_exact_from`); `tF`: the
    observer's bookkeeping after the interleaved part `dsA`; `dsB`: the 1-RTT-only part -/
theorem own_run_tail (o : Opts) (hl : H.Lawful) (L : SealLaws Pc)
    (dcid0 cr csel ch sh ca sa : Bytes) (early : Option Bytes) (e : Bytes) (sel selR : SuiteSel) (csR : Bytes)
    (hsel : selectSuite csel = some sel) (hselR : selectSuite csR = some selR)
    (ho : (hashOf H sel.hash).outLen < 65536)
    (hsa : sa.length = (hashOf H sel.hash).outLen) (hca : ca.length = (hashOf H sel.hash).outLen)
    (t0 : Trk) (ecs0 : Option SuiteSel)
    (kl0 : List Keylog.Key) (p0 : MainLoop.Pkt) (d0 : DgY) (itemsA : List (List Keylog.Key × MainLoop.Pkt × DgY))
    (dsA : List DgY) (hdsA : itemsA.map (·.2.2) = dsA) (tF : Trk) (htF : ((d0 :: dsA).map DgY.eff).foldl Trk.dgx t0 = tF)
    (hkl : ∀ x ∈ (kl0, p0, d0) :: itemsA, KeylogHas x.1 cr ch sh ca sa early)
    (he : ∀ d ∈ d0 :: dsA, d.x.zr ≠ [] → early = some e)
    (c : QConn) (hr : c.raised = none) (hout0 : expo c.st.out = [])
    (hsim : C02Sim.Sim H dcid0 ch sh ca sa early sel ⟨t0, ecs0⟩
      (feedPre H (params H Pc kl0) c.st d0.x.dcid (sver d0.x.ver)))
    (hok : YDgs maskFn H Pc L dcid0 sel selR sh ch sa ca e t0 ecs0 (d0 :: dsA))
    (htr : PTrace cr csel t0.core (allInsM ((d0 :: dsA).map (·.x.base))))
    (hcar : ∀ x ∈ (kl0, p0, d0) :: itemsA,
      CarriesX info c (DgX.wire H Pc L dcid0 sel selR sh ch sa ca e) x.2.1 x.2.2.x)
    (hkeyed : tF.keyed = true)
    (hrouteA : RoutesY (DgX.wire H Pc L dcid0 sel selR sh ch sa ca e) (t0.dgx d0.eff) dsA)
    (keys : List Keylog.Key) (itemsB : List (MainLoop.Pkt × Dg1)) (dsB : List Dg1) (hdsB : itemsB.map (·.2) = dsB)
    (hcarB : ∀ x ∈ itemsB, Carries info c
      (wireOf H Pc L sel .v1 (rfcGen (hashOf H sel.hash) sel.keyLen sa ca 0)) x.1 x.2)
    (hsend : Send1 maskFn H Pc L sel .v1 (rfcGen (hashOf H sel.hash) sel.keyLen sa ca 0)
      (quicHp (hashOf H sel.hash) ca sel.keyLen) (quicHp (hashOf H sel.hash) sa sel.keyLen)
      (chachaOf tF.core) 0 0 tF.tc.app tF.ts.app tF.cc tF.sc dsB)
    (hrouteB : Routes1 (wireOf H Pc L sel .v1 (rfcGen (hashOf H sel.hash) sel.keyLen sa ca 0)) tF.cc tF.sc dsB)
    (hadj : C02Out.DistinctAdjacent false (((d0 :: dsA).map DgY.eff).map inDgX ++ dsB.map fun d => inDg d.x))
    (s : QuicSess QConn) (hsst : s.st = (quicMachine maskFn H Pc info).feed c kl0 p0 d0.x.dcid d0.x.ver)
    (hcl : s.client = c.client)
    (hmA : ∀ x ∈ itemsA, s.matches x.2.1 = true) (hmB : ∀ x ∈ itemsB, s.matches x.1 = true) :
    let QM := quicMachine maskFn H Pc info
    let F := C02Capstone.feedAll QM (yFeedAll QM c ((kl0, p0, d0) :: itemsA)) (itemsB.map fun x => (keys, x.1, x.2))
    quicRun QM o [s] ((itemsA.map fun x => (⟨x.1, hdrX x.2.2.x, x.2.1⟩ : QIn Keylog.Key)) ++
        itemsB.map fun x => (⟨keys, .short, x.1⟩ : QIn Keylog.Key)) = [{ s with st := F }] ∧
    QM.out false F = expectedOutX c ((d0 :: dsA).map DgY.eff) dsB := by
  intro QM F
  subst hdsA hdsB htF
  have hmap : (itemsB.map fun x => (keys, x.1, x.2)).map (·.2.2) = itemsB.map (·.2) := by simp [List.map_map]
  obtain ⟨_, r2, _⟩ := quic_connection_exact_from maskFn H Pc info hl L dcid0 cr csel ch sh ca sa early e sel selR csR hsel
    hselR ho hsa hca t0 ecs0 kl0 p0 d0 itemsA hkl he c (SameEnds.refl c) hr hout0 hsim hok htr hcar hkeyed
    (itemsB.map fun x => (keys, x.1, x.2))
    (by
      intro x hx
      obtain ⟨y, hy, rfl⟩ := List.mem_map.mp hx
      exact hcarB y hy)
    (by rw [hmap]; exact hsend) (by rw [hmap]; exact hadj)
  rw [hmap] at r2
  refine ⟨?_, r2⟩
  have hk0 := keysWf_rfc H hl Pc [] csel sel hsel .v1 ho sa ca hsa hca
  have hrun := yView_dgx (maskFn := maskFn) (H := H) (Pc := Pc) (L := L) (dcid0 := dcid0) (ch := ch) (sh := sh)
    (early := early) (e := e) (sel := sel) (selR := selR) (d0 :: itemsA.map (·.2.2)) t0 ecs0
  show quicRun QM o [s] _ = [{ s with st := C02Capstone.feedAll QM (yFeedAll QM c ((kl0, p0, d0) :: itemsA)) _ }]
  simp only [hdrX_eq]
  rw [yFeedAll_eq]
  exact own_run_G (V := yView) (steps_pev hl hsel hselR) hl hsel ho hsa hca o kl0 p0 d0 itemsA hkl ⟨t0, ecs0⟩ c (SameEnds.refl c)
    hr hsim (yView_oks hk0 _ he t0 ecs0 hok) (by rw [yView_ins]; exact htr) (fun x hx => carriesG_of_Y (hcar x hx))
    (by rw [hrun]; exact hkeyed)
    (by rw [yView_after]; exact routesG_of_Y L dcid0 ch sh sa ca early e sel selR _ _ _ hrouteA) keys itemsB hcarB
    (by rw [hrun]; exact hsend) (by rw [hrun]; exact hrouteB) s hsst hcl hmA hmB

end Tail3

end TLX.Props.C02All
