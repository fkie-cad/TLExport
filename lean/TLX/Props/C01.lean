/-
C01 — record-layer part: `Decryptor.decrypt` undoes RFC record protection, record after record, for every cipher
class, every plaintext, every fresh randomness and every history.

Model: `TLX/RecordLayer.lean` (decryptor.py). Independent spec: `TLX/Spec/TlsSender.lean` (RFC protect direction).
Primitives are a parameter `P : Prims` with the law structure `L : SealLaws P` as a hypothesis; `Toy.laws` inhabits it.

Covered (version × class → routine), see `CfgOk`:
  SSL 3.0, TLS 1.0, 1.1, 1.2 × RC4                                  decrypt_generic_stream_cipher
  SSL 3.0, TLS 1.0 × AES / 3DES / Camellia / IDEA-CBC × MtE / EtM   decrypt_last_block_iv_cbc
  TLS 1.1, 1.2     × AES / 3DES / Camellia / IDEA-CBC × MtE / EtM   decrypt_tls12_block_cipher
  every version but 1.3 × AES-GCM / AES-CCM / AES-CCM_8             decrypt_tls12_aead
  TLS 1.2 × ChaCha20-Poly1305                                       decrypt_tls12_chacha20
  TLS 1.3 × AES-GCM / AES-CCM / AES-CCM_8                           decrypt_tls13_aead
  TLS 1.3 × ChaCha20-Poly1305                                       decrypt_tls13_stream_cipher
plus `update_keys` (TLS 1.3 handshake → application epoch, with and without handshake secrets) and `__init__`.

Theorems: `unprotect_protect_<class>` (one record, all seven classes; `unprotect_protect` = all in one),
`updateKeys_switch`, `step_exact`, `stream_exact` (any history), `stream_exact_after_switch` (TLS 1.3 without
handshake secrets), `init_rel_pre13`, `init_rel_13`, `init_rel_13_fallback` (construction establishes the relation),
`classOf_spec` (constructor arguments → class). What is returned in TLS 1.3 is the TLSInnerPlaintext
`content ‖ type ‖ zeros`, not the content (`tls13_returns_inner_plaintext`); `stream_mac0_returns_empty`,
`chacha_before_tls12_raises`, `failed_record_keeps_state` state what happens outside the hypotheses.
Hypotheses that are genuinely needed: sequence numbers below 2^64 (`to_bytes(8)` raises beyond), TLS 1.2 AEAD
plaintext shorter than 2^16 (`to_bytes(2)`), MAC length > 0 for RC4 / CBC (`x[:-0]` is empty), a 2-byte version field.
-/
import TLX.RecordLayer
import TLX.Spec.TlsSender
import TLX.Crypto.Toy
import TLX.Lemmas.RecLayer
namespace TLX.Props.C01
open TLX TLX.Cipher TLX.RecordLayer TLX.Spec.TlsSender TLX.Lemmas.RecLayer

/-- Sequence numbers are uint64 and must not wrap (RFC 5246 §6.1, RFC 8446 §5.3); `int(seq).to_bytes(8, 'big')`
    raises OverflowError beyond. -/
def seqLimit : Nat := 256 ^ 8

/-- Static agreement of the Decryptor's construction-time constants with the cipher class in use. These are the
    (version × class) combinations covered; `decrypt` dispatches each to the routine named in the comment. -/
def CfgOk (cls : CipherClass) (macLen : Nat) (cfg : Cfg) : Prop :=
  match cls with
  | .stream =>                 -- SSL 3.0 … TLS 1.2, RC4          → decrypt_generic_stream_cipher
    cfg.bulk = .arc4 ∧ cfg.ctype = .stream ∧ cfg.version ≠ .tls13 ∧ cfg.macLen = macLen ∧ 0 < macLen
  | .cbcImplicit a etm =>      -- SSL 3.0 / TLS 1.0, AES/3DES/Camellia/IDEA → decrypt_last_block_iv_cbc
    cfg.bulk = a ∧ a.isBlock = true ∧ cfg.ctype = .block ∧ (cfg.version = .tls10 ∨ cfg.version = .ssl30) ∧
    cfg.etm = etm ∧ cfg.macLen = macLen ∧ 0 < macLen ∧ cfg.blockLen / 8 = a.blk
  | .cbcExplicit a etm =>      -- TLS 1.1 / 1.2                   → decrypt_tls12_block_cipher
    cfg.bulk = a ∧ a.isBlock = true ∧ cfg.ctype = .block ∧ (cfg.version = .tls12 ∨ cfg.version = .tls11) ∧
    cfg.etm = etm ∧ cfg.macLen = macLen ∧ 0 < macLen
  | .aead12 a tl =>            -- any version but 1.3, GCM/CCM/CCM_8 → decrypt_tls12_aead
    cfg.bulk = a ∧ (a = .aesgcm ∨ a = .aesccm) ∧ cfg.ctype = .aead ∧ cfg.version ≠ .tls13 ∧ cfg.tagLen = tl
  | .chacha12 =>               -- TLS 1.2                         → decrypt_tls12_chacha20
    cfg.bulk = .chachaPoly ∧ cfg.version = .tls12
  | .aead13 a tl =>            -- TLS 1.3 GCM/CCM/CCM_8           → decrypt_tls13_aead
    cfg.bulk = a ∧ (a = .aesgcm ∨ a = .aesccm) ∧ cfg.ctype = .aead ∧ cfg.version = .tls13 ∧ cfg.tagLen = tl ∧
    cfg.has13 = true
  | .chacha13 =>               -- TLS 1.3, anything that is not GCM/CCM → decrypt_tls13_stream_cipher, which opens
                               -- with ChaCha20-Poly1305 whatever `bulk_alg` is: the key sizes are `RelDir`'s part
    cfg.version = .tls13 ∧ cfg.ctype ≠ .aead ∧ cfg.has13 = true

/-- The TLS 1.3 part of the relation that makes the handshake→application switch possible: the receiver holds the
    sender's application traffic key/IV and its `*_handshake_*` attributes are not `None`. -/
def AppRel (a : Alg) (tl : Nat) (sd : SDir) (rd : DirSt) : Prop :=
  rd.appKey = some sd.appKey ∧ rd.appIv = some sd.appIv ∧ rd.hsKey ≠ none ∧ rd.hsIv ≠ none ∧
  AeadOk a sd.appKey.length sd.appIv.length tl ∧ 8 ≤ sd.appIv.length

/-- The refinement relation between one direction of the sender and the same direction of the Decryptor: same
    key epoch (current key and IV), equal sequence numbers (where the receiver uses one), receiver's last block =
    sender's last ciphertext block, equal RC4 keystream positions — plus well-formedness of the sender's key
    material for the class (lengths the primitives accept). -/
def RelDir (cls : CipherClass) (sd : SDir) (rd : DirSt) : Prop :=
  match cls with
  | .stream => rd.rc4 = some (sd.key, sd.off)
  | .cbcImplicit a _ => rd.key = some sd.key ∧ rd.last = some sd.last ∧ CbcOk a sd.key.length sd.last.length
  | .cbcExplicit a _ => rd.key = some sd.key ∧ CbcOk a sd.key.length a.blk
  | .aead12 a tl =>
    rd.key = some sd.key ∧ rd.iv = some sd.iv ∧ rd.seq = sd.seq ∧ AeadOk a sd.key.length (sd.iv.length + 8) tl
  | .chacha12 =>
    rd.key = some sd.key ∧ rd.iv = some sd.iv ∧ rd.seq = sd.seq ∧ AeadOk .chachaPoly sd.key.length sd.iv.length 16
  | .aead13 a tl =>
    rd.key = some sd.key ∧ rd.iv = some sd.iv ∧ rd.seq = sd.seq ∧ AeadOk a sd.key.length sd.iv.length tl ∧
    8 ≤ sd.iv.length ∧ AppRel a tl sd rd
  | .chacha13 =>
    rd.key = some sd.key ∧ rd.iv = some sd.iv ∧ rd.seq = sd.seq ∧ AeadOk .chachaPoly sd.key.length sd.iv.length 16 ∧
    AppRel .chachaPoly 16 sd rd

/-- What the RFCs require of one outgoing record (everything else about `Fresh` is arbitrary). -/
def SendOk (cls : CipherClass) (macLen : Nat) (pt : Bytes) (f : Fresh) : Prop :=
  match cls with
  | .stream => f.mac.length = macLen
  | .cbcImplicit a etm =>
    f.mac.length = macLen ∧ f.padding.length < 256 ∧ ((if etm then pt else pt ++ f.mac) ++ padBlock f).length % a.blk = 0
  | .cbcExplicit a etm =>
    f.mac.length = macLen ∧ f.padding.length < 256 ∧ ((if etm then pt else pt ++ f.mac) ++ padBlock f).length % a.blk = 0 ∧
    f.explicit.length = a.blk
  | .aead12 _ _ => f.explicit.length = 8 ∧ pt.length < 65536
  | .chacha12 => pt.length < 65536
  | .aead13 _ _ => True
  | .chacha13 => True

/-- The sequence number has not reached 2^64 (only the AEAD classes use it on the receiving side). -/
def SeqOk (cls : CipherClass) (sd : SDir) : Prop :=
  match cls with
  | .stream | .cbcImplicit _ _ | .cbcExplicit _ _ => True
  | _ => sd.seq < seqLimit

/-- The statement shape shared by all seven classes: the protected record parses, `decrypt` returns exactly what
    the record layer has to deliver, nothing but this direction's state changes, and the relation is re-established. -/
def Roundtrip (P : Prims) (L : SealLaws P) (cls : CipherClass) (ver : Bytes) (d : Dec) (srv : Bool) (sd : SDir)
    (typ : UInt8) (pt : Bytes) (f : Fresh) : Prop :=
  ∃ r d', Rec.ofRaw (protect P L cls ver sd typ pt f).2 = .ok r ∧
    d.decrypt P r srv = .ok (some (delivered cls typ pt f)) d' ∧
    d'.cfg = d.cfg ∧ d'.get (!srv) = d.get (!srv) ∧
    RelDir cls (protect P L cls ver sd typ pt f).1 (d'.get srv)

/-- RC4 (SSL 3.0 … TLS 1.2): keystream position chaining, MAC stripped. -/
theorem unprotect_protect_stream (P : Prims) (L : SealLaws P) (macLen : Nat) (ver : Bytes) (hv : ver.length = 2)
    (d : Dec) (srv : Bool) (sd : SDir) (typ : UInt8) (pt : Bytes) (f : Fresh)
    (hc : CfgOk .stream macLen d.cfg) (hr : RelDir .stream sd (d.get srv)) (hs : SendOk .stream macLen pt f) :
    Roundtrip P L .stream ver d srv sd typ pt f := by
  obtain ⟨hb, ht, hv13, hm, hm0⟩ := hc
  simp only [RelDir] at hr
  simp only [SendOk] at hs
  unfold Roundtrip
  refine ⟨_, d.set srv { d.get srv with rc4 := some (sd.key, sd.off + (pt ++ f.mac).length) },
    ofRaw_record typ ver _ hv, ?_, ?_, ?_, ?_⟩
  · rw [dispatch_generic_stream P _ srv d ht hv13 (by rw [hb]; decide)]
    simp only [genericStream, hr, L.rc4_invol, L.rc4_len, hm, lift, pure, Except.pure,
      delivered]
    rw [cutEnd_append pt f.mac macLen hs hm0]
  · exact cfg_set _ _ _
  · exact get_set_other _ _ _
  · simp only [RelDir, get_set, protect, L.rc4_len]

/-- CBC with explicit IV (TLS 1.1 / 1.2), MAC-then-encrypt and encrypt-then-MAC (RFC 7366); any padding length and
    content, any MAC bytes, any explicit IV. No receiver state is involved. -/
theorem unprotect_protect_cbcExplicit (P : Prims) (L : SealLaws P) (a : Alg) (etm : Bool) (macLen : Nat)
    (ver : Bytes) (hv : ver.length = 2) (d : Dec) (srv : Bool) (sd : SDir) (typ : UInt8) (pt : Bytes) (f : Fresh)
    (hc : CfgOk (.cbcExplicit a etm) macLen d.cfg) (hr : RelDir (.cbcExplicit a etm) sd (d.get srv))
    (hs : SendOk (.cbcExplicit a etm) macLen pt f) :
    Roundtrip P L (.cbcExplicit a etm) ver d srv sd typ pt f := by
  obtain ⟨hb, hblk, ht, hver, hetm, hm, hm0⟩ := hc
  obtain ⟨hk, hok⟩ := hr
  obtain ⟨hmac, hpad, hal, hex⟩ := hs
  have hcp : d.cfg.bulk ≠ .chachaPoly := by rw [hb]; intro h; rw [h] at hblk; cases hblk
  have hok' : CbcOk a sd.key.length f.explicit.length := by rw [hex]; exact hok
  unfold Roundtrip
  refine ⟨_, d, ofRaw_record typ ver _ hv, ?_, rfl, rfl, ?_⟩
  · rw [dispatch_tls12_block P _ srv d ht hver hcp]
    have hde := L.dec_enc a sd.key f.explicit _ hok' hal
    obtain ⟨hlast, hstrip⟩ := cbc_post (if etm then pt else pt ++ f.mac) f hpad
    obtain ⟨hct, hpt⟩ := cbc_mac etm (L.cbcEnc a sd.key f.explicit ((if etm then pt else pt ++ f.mac) ++ padBlock f))
      pt f.mac macLen hmac hm0
    simp only [tls12Block, hb, hblk, hk, hetm, hm, lift, bind, Except.bind, pure, Except.pure, delivered,
      Bool.not_true, Bool.false_eq_true, if_false, ← hex, List.take_left', List.drop_left',
      hct, hde, hlast, hstrip, hpt]
  · simp only [RelDir, protect]
    exact ⟨hk, hok⟩

/-- CBC with implicit IV (SSL 3.0 / TLS 1.0): the receiver's `last_block_*` is the sender's last ciphertext block
    before and after the record; MAC-then-encrypt and encrypt-then-MAC; any padding content (SSL 3.0: arbitrary). -/
theorem unprotect_protect_cbcImplicit (P : Prims) (L : SealLaws P) (a : Alg) (etm : Bool) (macLen : Nat)
    (ver : Bytes) (hv : ver.length = 2) (d : Dec) (srv : Bool) (sd : SDir) (typ : UInt8) (pt : Bytes) (f : Fresh)
    (hc : CfgOk (.cbcImplicit a etm) macLen d.cfg) (hr : RelDir (.cbcImplicit a etm) sd (d.get srv))
    (hs : SendOk (.cbcImplicit a etm) macLen pt f) :
    Roundtrip P L (.cbcImplicit a etm) ver d srv sd typ pt f := by
  obtain ⟨hb, hblk, ht, hver, hetm, hm, hm0, hbl⟩ := hc
  obtain ⟨hk, hl, hok⟩ := hr
  obtain ⟨hmac, hpad, hal⟩ := hs
  have hpos := blk_pos a hblk
  have hne : a.blk ≠ 0 := by omega
  unfold Roundtrip
  let ct := L.cbcEnc a sd.key sd.last ((if etm then pt else pt ++ f.mac) ++ padBlock f)
  refine ⟨_, d.set srv { d.get srv with last := some (ct.drop (ct.length - a.blk)) },
    ofRaw_record typ ver _ hv, ?_, cfg_set _ _ _, get_set_other _ _ _, ?_⟩
  · rw [dispatch_last_block P _ srv d ht hver]
    have hde := L.dec_enc a sd.key sd.last _ hok hal
    obtain ⟨hlast, hstrip⟩ := cbc_post (if etm then pt else pt ++ f.mac) f hpad
    obtain ⟨hct, hpt⟩ := cbc_mac etm (L.cbcEnc a sd.key sd.last ((if etm then pt else pt ++ f.mac) ++ padBlock f))
      pt f.mac macLen hmac hm0
    simp only [lastBlockCbc, hexOf, hb, hk, hl, hetm, hm, hbl, lift, bind, Except.bind, pure, Except.pure,
      delivered, lastN, hne, if_false, ct, hct, hde, hlast, hstrip, hpt]
  · simp only [RelDir, protect, get_set]
    refine ⟨hk, rfl, hok.1, hok.2.1, hok.2.2.1, ?_⟩
    have hlen : ct.length = ((if etm then pt else pt ++ f.mac) ++ padBlock f).length := L.enc_len _ _ _ _
    apply last_block_length ct a.blk
    · rw [hlen, List.length_append, padBlock, List.length_append, List.length_singleton]; omega
    · rw [hlen]; exact hal

private theorem toBE_seq (n : Nat) (h : n < seqLimit) : toBE 8 (n : Int) = .ok (u64 n) := toBE_nat 8 n h

/-- TLS 1.2 AEAD with explicit nonce (AES-GCM, AES-CCM, AES-CCM_8): nonce = write IV ‖ explicit part, additional
    data = seq ‖ type ‖ version ‖ plaintext length; the sequence number advances on both sides. -/
theorem unprotect_protect_aead12 (P : Prims) (L : SealLaws P) (a : Alg) (tl : Nat) (macLen : Nat)
    (ver : Bytes) (hv : ver.length = 2) (d : Dec) (srv : Bool) (sd : SDir) (typ : UInt8) (pt : Bytes) (f : Fresh)
    (hc : CfgOk (.aead12 a tl) macLen d.cfg) (hr : RelDir (.aead12 a tl) sd (d.get srv))
    (hs : SendOk (.aead12 a tl) macLen pt f) (hq : SeqOk (.aead12 a tl) sd) :
    Roundtrip P L (.aead12 a tl) ver d srv sd typ pt f := by
  obtain ⟨hb, ha, ht, hver, htl⟩ := hc
  obtain ⟨hk, hiv, hseq, hok⟩ := hr
  obtain ⟨hex, hlen⟩ := hs
  simp only [SeqOk] at hq
  have hcp : d.cfg.bulk ≠ .chachaPoly := by rw [hb]; rcases ha with rfl | rfl <;> decide
  have hok' : AeadOk a sd.key.length (sd.iv ++ f.explicit).length tl := by
    rw [List.length_append, hex]; exact hok
  have hsl := L.seal_len a sd.key (sd.iv ++ f.explicit) (aad12 sd.seq typ ver pt.length) tl pt hok'
  unfold Roundtrip
  refine ⟨_, bumpSeq d srv, ofRaw_record typ ver _ hv, ?_, cfg_set _ _ _, get_set_other _ _ _, ?_⟩
  · rw [dispatch_tls12_aead P _ srv d ht hver hcp]
    have hcl := toBE_len8 (f.explicit ++ L.aeadSeal a sd.key (sd.iv ++ f.explicit) (aad12 sd.seq typ ver pt.length) tl pt).length
      tl pt.length (by rw [List.length_append, hsl, hex]; omega) hlen
    simp only [tls12Aead, hexOf, hk, hiv, hseq, toBE_seq _ hq, htl, hcl, record_take3 typ ver _ hv, lift, bind,
      Except.bind, pure, Except.pure, delivered, List.take_left' hex, List.drop_left' hex]
    rw [show u64 sd.seq ++ ([typ] ++ ver) ++ u16 pt.length = aad12 sd.seq typ ver pt.length by
      simp only [aad12, List.append_assoc], aeadByBulk_seal P L d.cfg a tl _ _ _ pt hb ha htl hok']
  · simp only [RelDir, protect, bumpSeq, get_set]
    exact ⟨hk, hiv, by rw [hseq], hok⟩

/-- TLS 1.2 ChaCha20-Poly1305 (RFC 7905): nonce = write IV XOR left-padded sequence number, no explicit part. -/
theorem unprotect_protect_chacha12 (P : Prims) (L : SealLaws P) (macLen : Nat)
    (ver : Bytes) (hv : ver.length = 2) (d : Dec) (srv : Bool) (sd : SDir) (typ : UInt8) (pt : Bytes) (f : Fresh)
    (hc : CfgOk .chacha12 macLen d.cfg) (hr : RelDir .chacha12 sd (d.get srv))
    (hs : SendOk .chacha12 macLen pt f) (hq : SeqOk .chacha12 sd) :
    Roundtrip P L .chacha12 ver d srv sd typ pt f := by
  obtain ⟨hb, hver⟩ := hc
  obtain ⟨hk, hiv, hseq, hok⟩ := hr
  simp only [SendOk] at hs
  simp only [SeqOk] at hq
  obtain ⟨hbx, hok'⟩ := nonce_ok sd.iv sd.seq (by rw [chacha_iv12 hok]; decide) hok
  have hsl := L.seal_len .chachaPoly sd.key (nonceXor sd.iv sd.seq) (aad12 sd.seq typ ver pt.length) 16 pt hok'
  have hop := L.open_seal .chachaPoly sd.key (nonceXor sd.iv sd.seq) (aad12 sd.seq typ ver pt.length) 16 pt hok'
  unfold Roundtrip
  refine ⟨_, bumpSeq d srv, ofRaw_record typ ver _ hv, ?_, cfg_set _ _ _, get_set_other _ _ _, ?_⟩
  · rw [dispatch_tls12_chacha P _ srv d hver hb]
    have hcl := toBE_len16 (L.aeadSeal .chachaPoly sd.key (nonceXor sd.iv sd.seq) (aad12 sd.seq typ ver pt.length) 16 pt).length
      pt.length hsl hs
    simp only [tls12Chacha, hexOf, hk, hiv, hseq, toBE_seq _ hq, hcl, hbx, lift, bind,
      Except.bind, pure, Except.pure, delivered]
    rw [show u64 sd.seq ++ [typ] ++ ver ++ u16 pt.length = aad12 sd.seq typ ver pt.length from rfl, hop]
  · simp only [RelDir, protect, bumpSeq, get_set]
    exact ⟨hk, hiv, by rw [hseq], hok⟩

private theorem appRel_bump {a : Alg} {tl : Nat} {sd : SDir} {rd : DirSt} (h : AppRel a tl sd rd) :
    AppRel a tl { sd with seq := sd.seq + 1 } { rd with seq := rd.seq + 1 } := h

/-- TLS 1.3 AES-GCM / AES-CCM / AES-CCM_8: nonce = IV XOR left-padded sequence number, additional data = the record
    header. `decrypt` returns the TLSInnerPlaintext `content ‖ type ‖ zeros` UNSTRIPPED (removing the padding and the
    type byte is Session's job). -/
theorem unprotect_protect_aead13 (P : Prims) (L : SealLaws P) (a : Alg) (tl : Nat) (macLen : Nat)
    (ver : Bytes) (d : Dec) (srv : Bool) (sd : SDir) (typ : UInt8) (pt : Bytes) (f : Fresh)
    (hc : CfgOk (.aead13 a tl) macLen d.cfg) (hr : RelDir (.aead13 a tl) sd (d.get srv))
    (hq : SeqOk (.aead13 a tl) sd) :
    Roundtrip P L (.aead13 a tl) ver d srv sd typ pt f := by
  obtain ⟨hb, ha, ht, hver, htl, -⟩ := hc
  obtain ⟨hk, hiv, hseq, hok, h8, happ⟩ := hr
  simp only [SeqOk] at hq
  obtain ⟨hbx, hok'⟩ := nonce_ok sd.iv sd.seq h8 hok
  unfold Roundtrip
  refine ⟨_, bumpSeq d srv, ofRaw_hdr13 _ _, ?_, cfg_set _ _ _, get_set_other _ _ _, ?_⟩
  · rw [dispatch_tls13_aead P _ srv d ht hver]
    simp only [tls13Aead, hexOf, hk, hiv, hseq, toBE_seq _ hq, hbx, lift, bind, Except.bind, pure, Except.pure,
      delivered]
    rw [show [(23 : UInt8)] ++ [3, 3] ++ u16 ((inner13 typ pt f).length + tl) = hdr13 ((inner13 typ pt f).length + tl)
      from rfl, aeadByBulk_seal P L d.cfg a tl _ _ _ (inner13 typ pt f) hb ha htl hok']
  · simp only [RelDir, protect, bumpSeq, get_set]
    exact ⟨hk, hiv, by rw [hseq], hok, h8, appRel_bump happ⟩

/-- TLS 1.3 ChaCha20-Poly1305 (`decrypt_tls13_stream_cipher`); returns the unstripped TLSInnerPlaintext. -/
theorem unprotect_protect_chacha13 (P : Prims) (L : SealLaws P) (macLen : Nat)
    (ver : Bytes) (d : Dec) (srv : Bool) (sd : SDir) (typ : UInt8) (pt : Bytes) (f : Fresh)
    (hc : CfgOk .chacha13 macLen d.cfg) (hr : RelDir .chacha13 sd (d.get srv))
    (hq : SeqOk .chacha13 sd) :
    Roundtrip P L .chacha13 ver d srv sd typ pt f := by
  obtain ⟨hver, ht, -⟩ := hc
  obtain ⟨hk, hiv, hseq, hok, happ⟩ := hr
  simp only [SeqOk] at hq
  obtain ⟨hbx, hok'⟩ := nonce_ok sd.iv sd.seq (by rw [chacha_iv12 hok]; decide) hok
  have hop := L.open_seal .chachaPoly sd.key (nonceXor sd.iv sd.seq) (hdr13 ((inner13 typ pt f).length + 16)) 16
    (inner13 typ pt f) hok'
  unfold Roundtrip
  refine ⟨_, bumpSeq d srv, ofRaw_hdr13 _ _, ?_, cfg_set _ _ _, get_set_other _ _ _, ?_⟩
  · rw [dispatch_tls13_stream P _ srv d ht hver]
    simp only [tls13Stream, hexOf, hk, hiv, hseq, toBE_seq _ hq, hbx, lift, bind, Except.bind, pure, Except.pure,
      delivered]
    rw [show [(23 : UInt8)] ++ [3, 3] ++ u16 ((inner13 typ pt f).length + 16) = hdr13 ((inner13 typ pt f).length + 16)
      from rfl, hop]
  · simp only [RelDir, protect, bumpSeq, get_set]
    exact ⟨hk, hiv, by rw [hseq], hok, appRel_bump happ⟩

theorem unprotect_protect (P : Prims) (L : SealLaws P) (cls : CipherClass) (macLen : Nat)
    (ver : Bytes) (hv : ver.length = 2) (d : Dec) (srv : Bool) (sd : SDir) (typ : UInt8) (pt : Bytes) (f : Fresh)
    (hc : CfgOk cls macLen d.cfg) (hr : RelDir cls sd (d.get srv)) (hs : SendOk cls macLen pt f) (hq : SeqOk cls sd) :
    Roundtrip P L cls ver d srv sd typ pt f := by
  cases cls with
  | stream => exact unprotect_protect_stream P L macLen ver hv d srv sd typ pt f hc hr hs
  | cbcImplicit a etm => exact unprotect_protect_cbcImplicit P L a etm macLen ver hv d srv sd typ pt f hc hr hs
  | cbcExplicit a etm => exact unprotect_protect_cbcExplicit P L a etm macLen ver hv d srv sd typ pt f hc hr hs
  | aead12 a tl => exact unprotect_protect_aead12 P L a tl macLen ver hv d srv sd typ pt f hc hr hs hq
  | chacha12 => exact unprotect_protect_chacha12 P L macLen ver hv d srv sd typ pt f hc hr hs hq
  | aead13 a tl => exact unprotect_protect_aead13 P L a tl macLen ver d srv sd typ pt f hc hr hq
  | chacha13 => exact unprotect_protect_chacha13 P L macLen ver d srv sd typ pt f hc hr hq

/-- The application-epoch part of the relation, per class (`True` outside TLS 1.3). -/
def AppRelOf (cls : CipherClass) (sd : SDir) (rd : DirSt) : Prop :=
  match cls with
  | .aead13 a tl => AppRel a tl sd rd
  | .chacha13 => AppRel .chachaPoly 16 sd rd
  | _ => True

/-- `update_keys` succeeds when the TLS 1.3 attributes exist and the `*_handshake_*` ones are not `None` (the logging
    f-strings call `.hex()` on all four), and installs the application key / IV with sequence number 0 -/
theorem updateKeys_ok {a : Alg} {tl : Nat} {sd : SDir} (d : Dec) (srv : Bool) (h13 : d.cfg.has13 = true)
    (happ : AppRel a tl sd (d.get srv)) :
    d.updateKeys srv = .ok () (d.set srv { d.get srv with key := some sd.appKey, iv := some sd.appIv, seq := 0 }) := by
  obtain ⟨hak, haiv, hhk, hhiv, -, -⟩ := happ
  obtain ⟨hk, hhk'⟩ := Option.ne_none_iff_exists'.mp hhk
  obtain ⟨hi, hhiv'⟩ := Option.ne_none_iff_exists'.mp hhiv
  simp only [Dec.updateKeys, h13, hhk', hhiv', hak, haiv, Bool.not_true, Bool.false_eq_true, if_false]

/-- `update_keys(isserver)` when the sender of that direction moves to its application traffic keys: it succeeds,
    touches only that direction, installs the application key/IV and resets the sequence number — so the relation
    holds afterwards WHATEVER the handshake-epoch state was (in particular when the key log had no handshake secrets
    and `parse_keys` fell back to the application keys, and when handshake records could not be decrypted). -/
theorem updateKeys_switch (cls : CipherClass) (h13 : cls.is13 = true) (macLen : Nat) (d : Dec) (srv : Bool)
    (sd : SDir) (hc : CfgOk cls macLen d.cfg) (happ : AppRelOf cls sd (d.get srv)) :
    ∃ d', d.updateKeys srv = .ok () d' ∧ d'.cfg = d.cfg ∧ d'.get (!srv) = d.get (!srv) ∧
      RelDir cls (switchToApp sd) (d'.get srv) := by
  cases cls with
  | aead13 a tl =>
    refine ⟨_, updateKeys_ok d srv hc.2.2.2.2.2 happ, cfg_set _ _ _, get_set_other _ _ _, ?_⟩
    obtain ⟨hak, haiv, hhk, hhiv, hok, h8⟩ := happ
    simp only [RelDir, switchToApp, get_set, true_and]
    exact ⟨hok, h8, hak, haiv, hhk, hhiv, hok, h8⟩
  | chacha13 =>
    refine ⟨_, updateKeys_ok d srv hc.2.2 happ, cfg_set _ _ _, get_set_other _ _ _, ?_⟩
    obtain ⟨hak, haiv, hhk, hhiv, hok, h8⟩ := happ
    simp only [RelDir, switchToApp, get_set, true_and]
    exact ⟨hok, hak, haiv, hhk, hhiv, hok, h8⟩
  | _ => cases h13

theorem relDir_appRel (cls : CipherClass) (sd : SDir) (rd : DirSt) (h : RelDir cls sd rd) : AppRelOf cls sd rd := by
  cases cls <;> simp only [AppRelOf]
  · exact h.2.2.2.2.2
  · exact h.2.2.2.2

/-- What the receiving side observes for one wire item. -/
inductive Out
  | data (pt : Option Bytes)      -- the value `decrypt` returned (`none` = Python `None`)
  | switched                      -- `update_keys` returned
  | failed (e : PyErr)            -- `TlsRecord(...)`, `decrypt` or `update_keys` raised
  deriving DecidableEq, Repr

/-- One wire item through the real call sequence: `TlsRecord(raw)`, `decrypt(record, isserver)` — or
    `update_keys(isserver)` when the peer switches epoch. -/
def recvStep (P : Prims) (d : Dec) : Wire → Dec × Out
  | .record srv raw =>
    match Rec.ofRaw raw with
    | .error e => (d, .failed e)
    | .ok r =>
      match d.decrypt P r srv with
      | .ok x d' => (d', .data x)
      | .err e d' => (d', .failed e)
  | .switch srv =>
    match d.updateKeys srv with
    | .ok _ d' => (d', .switched)
    | .err e d' => (d', .failed e)

def recvAll (P : Prims) : Dec → List Wire → List Out
  | _, [] => []
  | d, w :: ws =>
    let o := recvStep P d w
    o.2 :: recvAll P o.1 ws

/-- What the record layer has to deliver for an event of the sender. -/
def expected (cls : CipherClass) : Ev → Out
  | .send _ typ pt f => .data (some (delivered cls typ pt f))
  | .switch _ => .switched

/-- Events the sender may produce: RFC-conformant records; epoch switches only in TLS 1.3. -/
def EvOk (cls : CipherClass) (macLen : Nat) : Ev → Prop
  | .send _ _ pt f => SendOk cls macLen pt f
  | .switch _ => cls.is13 = true

/-- The refinement relation between the two-directional sender state and the Decryptor. -/
def Rel (cls : CipherClass) (macLen : Nat) (x : Snd) (d : Dec) : Prop :=
  CfgOk cls macLen d.cfg ∧ ∀ srv, RelDir cls (x.get srv) (d.get srv)

private theorem seqOk_of_lt (cls : CipherClass) (sd : SDir) (h : sd.seq < seqLimit) : SeqOk cls sd := by
  cases cls <;> simp only [SeqOk] <;> exact h

theorem Rel.set {cls : CipherClass} {macLen : Nat} {x : Snd} {d d' : Dec} (hR : Rel cls macLen x d) (srv : Bool)
    (sd' : SDir) (hcfg : d'.cfg = d.cfg) (hother : d'.get (!srv) = d.get (!srv)) (hrel : RelDir cls sd' (d'.get srv)) :
    Rel cls macLen (x.set srv sd') d' := by
  refine ⟨hcfg ▸ hR.1, fun b => ?_⟩
  rcases bool_cases srv b with rfl | rfl
  · rw [sget_set]; exact hrel
  · rw [sget_set_other, hother]; exact hR.2 _

/-- One event. The bound on the sequence numbers is the same for both directions (`max … + 1`) so that a history of
    `n` events needs one budget `max x.c.seq x.s.seq + n ≤ 2^64`, whatever the direction order. -/
theorem step_exact (P : Prims) (L : SealLaws P) (cls : CipherClass) (macLen : Nat) (ver : Bytes) (hv : ver.length = 2)
    (x : Snd) (d : Dec) (hR : Rel cls macLen x d) (e : Ev) (he : EvOk cls macLen e)
    (hq : x.c.seq < seqLimit ∧ x.s.seq < seqLimit) :
    (recvStep P d (step P L cls ver x e).2).2 = expected cls e ∧
    Rel cls macLen (step P L cls ver x e).1 (recvStep P d (step P L cls ver x e).2).1 ∧
    (step P L cls ver x e).1.c.seq ≤ max x.c.seq x.s.seq + 1 ∧
    (step P L cls ver x e).1.s.seq ≤ max x.c.seq x.s.seq + 1 := by
  have hc : x.c.seq ≤ max x.c.seq x.s.seq + 1 := Nat.le_succ_of_le (Nat.le_max_left ..)
  have hs : x.s.seq ≤ max x.c.seq x.s.seq + 1 := Nat.le_succ_of_le (Nat.le_max_right ..)
  cases e with
  | send srv typ pt f =>
    have hlt : (x.get srv).seq < seqLimit := by cases srv; exact hq.1; exact hq.2
    obtain ⟨r, d', h1, h2, h3, h4, h5⟩ :=
      unprotect_protect P L cls macLen ver hv d srv (x.get srv) typ pt f hR.1 (hR.2 srv) he (seqOk_of_lt _ _ hlt)
    have hle : (x.get srv).seq ≤ max x.c.seq x.s.seq := by
      cases srv; exact Nat.le_max_left ..; exact Nat.le_max_right ..
    simp only [step, recvStep, h1, h2, expected]
    exact ⟨trivial, hR.set srv _ h3 h4 h5,
      snd_seq_set x srv _ _ (by rw [protect_seq]; exact Nat.succ_le_succ hle) hc hs⟩
  | switch srv =>
    obtain ⟨d', h1, h3, h4, h5⟩ :=
      updateKeys_switch cls he macLen d srv (x.get srv) hR.1 (relDir_appRel _ _ _ (hR.2 srv))
    simp only [step, recvStep, h1, expected]
    exact ⟨trivial, hR.set srv _ h3 h4 h5, snd_seq_set x srv _ _ (Nat.zero_le _) hc hs⟩

/-- C01 at the record layer: for ANY history of records in any direction order (and, in TLS 1.3, epoch switches at
    any points), of any length below the 2^64 sequence-number limit, the sequence of values the Decryptor returns is
    exactly the sequence the sender protected — nothing lost, added, duplicated, reordered or left encrypted. -/
theorem stream_exact (P : Prims) (L : SealLaws P) (cls : CipherClass) (macLen : Nat) (ver : Bytes) (hv : ver.length = 2)
    (evs : List Ev) (x : Snd) (d : Dec) (hR : Rel cls macLen x d) (hev : ∀ e ∈ evs, EvOk cls macLen e)
    (hq : max x.c.seq x.s.seq + evs.length ≤ seqLimit) :
    recvAll P d (run P L cls ver x evs) = evs.map (expected cls) := by
  induction evs generalizing x d with
  | nil => rfl
  | cons e es ih =>
    simp only [List.length_cons] at hq
    have hq' : x.c.seq < seqLimit ∧ x.s.seq < seqLimit := by omega
    obtain ⟨h1, h2, h3, h4⟩ := step_exact P L cls macLen ver hv x d hR e (hev e (List.mem_cons_self ..)) hq'
    simp only [run, recvAll, List.map_cons, h1]
    rw [ih _ _ h2 (fun e' he' => hev e' (List.mem_cons_of_mem _ he')) (by omega)]

/-- The constructor arguments Session passes for a cipher class. -/
def bulkOf : CipherClass → Alg
  | .stream => .arc4
  | .cbcImplicit a _ | .cbcExplicit a _ | .aead12 a _ | .aead13 a _ => a
  | .chacha12 | .chacha13 => .chachaPoly

def etmOf : CipherClass → Bool
  | .cbcImplicit _ e | .cbcExplicit _ e => e
  | _ => false

def tagOf : CipherClass → Nat
  | .aead12 _ t | .aead13 _ t => t
  | _ => 16

/-- The two remaining constructor arguments as far as the class constrains them: the encrypt-then-MAC flag (extension
    0x0016 seen) for the CBC classes, the tag length (`None` ⇒ 16) for the AES AEAD classes. -/
def ParamOk : CipherClass → Option Nat → Bool → Prop
  | .cbcImplicit _ e, _, etm => etm = e
  | .cbcExplicit _ e, _, etm => etm = e
  | .aead12 _ tl, tagLen, _ => tagLen.getD 16 = tl
  | .aead13 _ tl, tagLen, _ => tagLen.getD 16 = tl
  | _, _, _ => True

/-- Protocol versions a class is used with (what `decrypt` dispatches on). -/
def VersionOk : CipherClass → Version → Prop
  | .stream, v => v = .ssl30 ∨ v = .tls10 ∨ v = .tls11 ∨ v = .tls12
  | .cbcImplicit _ _, v => v = .ssl30 ∨ v = .tls10
  | .cbcExplicit _ _, v => v = .tls11 ∨ v = .tls12
  | .aead12 _ _, v => v ≠ .tls13
  | .chacha12, v => v = .tls12
  | .aead13 _ _, v => v = .tls13
  | .chacha13, v => v = .tls13

/-- `block_length` (bits) is only read by the implicit-IV CBC routine: `int(self.block_length / 8)`. -/
def BlockLenOk : CipherClass → Nat → Prop
  | .cbcImplicit a _, n => n / 8 = a.blk
  | _, _ => True

/-- Key material of one direction as the key schedule has to deliver it for the class (C15's obligation). -/
def KeyMatOk : CipherClass → Bytes → Bytes → Prop
  | .stream, k, _ => Alg.arc4.keyOk k.length = true
  | .cbcImplicit a _, k, iv => CbcOk a k.length iv.length
  | .cbcExplicit a _, k, _ => CbcOk a k.length a.blk
  | .aead12 a tl, k, iv => (a = .aesgcm ∨ a = .aesccm) ∧ AeadOk a k.length (iv.length + 8) tl
  | .chacha12, k, iv => AeadOk .chachaPoly k.length iv.length 16
  | .aead13 a tl, k, iv => (a = .aesgcm ∨ a = .aesccm) ∧ AeadOk a k.length iv.length tl ∧ 8 ≤ iv.length
  | .chacha13, k, iv => AeadOk .chachaPoly k.length iv.length 16 ∧ 8 ≤ iv.length

/-- `__init__` for SSL 3.0 – TLS 1.2 written out: configuration and one direction. -/
def initCfg (bulk : Alg) (v : Version) (macLen : Nat) (tagLen : Option Nat) (blockLen : Nat) (etm : Bool) : Cfg :=
  { version := v, bulk := bulk, ctype := cipherType bulk, macLen := macLen, tagLen := tagLen.getD 16,
    blockLen := blockLen, etm := etm, has13 := decide (v = .tls13) }

def initDir (v : Version) (key iv : Bytes) (ctx : Option (Bytes × Nat)) : DirSt :=
  { key := some key, iv := some iv, seq := 0, last := if v = .tls10 ∨ v = .ssl30 then some iv else none, rc4 := ctx,
    hsKey := none, hsIv := none, appKey := none, appIv := none }

theorem init_pre13_noctx (P : Prims) (bulk : Alg) (v : Version) (macLen : Nat) (tagLen : Option Nat) (blockLen : Nat)
    (etm : Bool) (ck sk civ siv : Bytes) (hv : v ≠ .tls13) (hs : ¬ (cipherType bulk = .stream ∧ bulk ≠ .chachaPoly)) :
    Dec.init P bulk v macLen tagLen blockLen etm { cKey := some ck, sKey := some sk, cIv := some civ, sIv := some siv }
      = .ok { cfg := initCfg bulk v macLen tagLen blockLen etm, c := initDir v ck civ none, s := initDir v sk siv none } := by
  simp [Dec.init, hv, hs, initCfg, initDir, bind, Except.bind, pure, Except.pure]

theorem init_pre13_rc4 (P : Prims) (v : Version) (macLen : Nat) (tagLen : Option Nat) (blockLen : Nat)
    (etm : Bool) (ck sk civ siv : Bytes) (hv : v ≠ .tls13) (h1 : P.rc4Init ck = .ok ()) (h2 : P.rc4Init sk = .ok ()) :
    Dec.init P .arc4 v macLen tagLen blockLen etm { cKey := some ck, sKey := some sk, cIv := some civ, sIv := some siv }
      = .ok { cfg := initCfg .arc4 v macLen tagLen blockLen etm, c := initDir v ck civ (some (ck, 0)),
              s := initDir v sk siv (some (sk, 0)) } := by
  simp [Dec.init, hv, cipherType, streamCtx, h1, h2, initCfg, initDir, bind, Except.bind, pure, Except.pure, Except.map]

theorem cipherType_block (a : Alg) (h : a.isBlock = true) : cipherType a = .block := by
  cases a <;> first | rfl | cases h

/-- SSL 3.0 – TLS 1.2: `Decryptor(...)` with the four key-block entries succeeds and is related to the sender's
    initial state (sequence numbers 0, last block = key-block IV, RC4 position 0). -/
theorem init_rel_pre13 (P : Prims) (L : SealLaws P) (cls : CipherClass) (h13 : cls.is13 = false) (v : Version)
    (hver : VersionOk cls v) (macLen : Nat) (hm : 0 < macLen) (blockLen : Nat) (hbl : BlockLenOk cls blockLen)
    (tagLen : Option Nat) (etm : Bool) (hp : ParamOk cls tagLen etm)
    (ck sk civ siv : Bytes) (hck : KeyMatOk cls ck civ) (hsk : KeyMatOk cls sk siv) :
    ∃ d, Dec.init P (bulkOf cls) v macLen tagLen blockLen etm
          { cKey := some ck, sKey := some sk, cIv := some civ, sIv := some siv } = .ok d ∧
      Rel cls macLen ⟨SDir.init ck civ [] [], SDir.init sk siv [] []⟩ d := by
  cases cls with
  | stream =>
    have hv : v ≠ .tls13 := by rcases hver with rfl | rfl | rfl | rfl <;> decide
    refine ⟨_, init_pre13_rc4 P v macLen _ blockLen _ ck sk civ siv hv (L.rc4_init ck hck) (L.rc4_init sk hsk), ?_⟩
    exact ⟨⟨rfl, rfl, hv, rfl, hm⟩, fun b => by cases b <;> rfl⟩
  | cbcImplicit a e =>
    simp only [ParamOk] at hp
    subst hp
    have hb : a.isBlock = true := hck.1
    have hty : cipherType a = .block := cipherType_block a hb
    have hv : v ≠ .tls13 := by rcases hver with rfl | rfl <;> decide
    have hl : (if v = .tls10 ∨ v = .ssl30 then some civ else none) = some civ ∧
        (if v = .tls10 ∨ v = .ssl30 then some siv else none) = some siv := by
      rcases hver with rfl | rfl <;> simp
    refine ⟨_, init_pre13_noctx P a v macLen _ blockLen etm ck sk civ siv hv (by rw [hty]; simp), ?_⟩
    refine ⟨⟨rfl, hb, hty, ?_, rfl, rfl, hm, hbl⟩, fun b => ?_⟩
    · rcases hver with rfl | rfl <;> simp [initCfg]
    · cases b
      · exact ⟨rfl, hl.1, hck⟩
      · exact ⟨rfl, hl.2, hsk⟩
  | cbcExplicit a e =>
    simp only [ParamOk] at hp
    subst hp
    have hb : a.isBlock = true := hck.1
    have hty : cipherType a = .block := cipherType_block a hb
    have hv : v ≠ .tls13 := by rcases hver with rfl | rfl <;> decide
    refine ⟨_, init_pre13_noctx P a v macLen _ blockLen etm ck sk civ siv hv (by rw [hty]; simp), ?_⟩
    refine ⟨⟨rfl, hb, hty, ?_, rfl, rfl, hm⟩, fun b => ?_⟩
    · rcases hver with rfl | rfl <;> simp [initCfg]
    · cases b
      · exact ⟨rfl, hck⟩
      · exact ⟨rfl, hsk⟩
  | aead12 a tl =>
    simp only [ParamOk] at hp
    subst hp
    obtain ⟨ha, hck'⟩ := hck
    obtain ⟨-, hsk'⟩ := hsk
    have hty : cipherType a = .aead := by rcases ha with rfl | rfl <;> rfl
    refine ⟨_, init_pre13_noctx P a v macLen _ blockLen etm ck sk civ siv hver (by rw [hty]; simp), ?_⟩
    refine ⟨⟨rfl, ha, hty, hver, rfl⟩, fun b => ?_⟩
    cases b
    · exact ⟨rfl, rfl, rfl, hck'⟩
    · exact ⟨rfl, rfl, rfl, hsk'⟩
  | chacha12 =>
    have hv : v ≠ .tls13 := by rw [hver]; decide
    refine ⟨_, init_pre13_noctx P .chachaPoly v macLen _ blockLen etm ck sk civ siv hv (by simp), ?_⟩
    refine ⟨⟨rfl, hver⟩, fun b => ?_⟩
    cases b
    · exact ⟨rfl, rfl, rfl, hck⟩
    · exact ⟨rfl, rfl, rfl, hsk⟩
  | _ => cases h13

/-- `__init__` for TLS 1.3, one direction, after the `parse_keys` fallback. -/
def initDir13 (hsKey hsIv appKey appIv : Option Bytes) : DirSt :=
  let fall := hsKey.isNone || hsIv.isNone
  let hk := if fall then appKey else hsKey
  let hi := if fall then appIv else hsIv
  { key := hk, iv := hi, seq := 0, last := none, rc4 := none, hsKey := hk, hsIv := hi, appKey := appKey, appIv := appIv }

theorem init_13_noctx (P : Prims) (bulk : Alg) (macLen : Nat) (tagLen : Option Nat) (blockLen : Nat) (etm : Bool)
    (k : Keys) (hs : ¬ (cipherType bulk = .stream ∧ bulk ≠ .chachaPoly)) :
    Dec.init P bulk .tls13 macLen tagLen blockLen etm k
      = .ok { cfg := initCfg bulk .tls13 macLen tagLen blockLen etm,
              c := initDir13 k.cHsKey k.cHsIv k.cAppKey k.cAppIv, s := initDir13 k.sHsKey k.sHsIv k.sAppKey k.sAppIv } := by
  simp [Dec.init, hs, initCfg, initDir13, bind, Except.bind, pure, Except.pure]

private def AesAead13 : CipherClass → Prop
  | .aead13 a _ => a = .aesgcm ∨ a = .aesccm
  | _ => True

private theorem cfgOk_13 (cls : CipherClass) (h13 : cls.is13 = true) (macLen blockLen : Nat)
    (tagLen : Option Nat) (etm : Bool) (hp : ParamOk cls tagLen etm) (hcls : AesAead13 cls) :
    CfgOk cls macLen (initCfg (bulkOf cls) .tls13 macLen tagLen blockLen etm) ∧
    ¬ (cipherType (bulkOf cls) = .stream ∧ bulkOf cls ≠ .chachaPoly) := by
  cases cls with
  | aead13 a tl =>
    have hty : cipherType a = .aead := by rcases hcls with rfl | rfl <;> rfl
    exact ⟨⟨rfl, hcls, hty, rfl, hp, rfl⟩, by simp [bulkOf, hty]⟩
  | chacha13 => exact ⟨⟨rfl, by simp [initCfg, bulkOf, cipherType], rfl⟩, by simp [bulkOf]⟩
  | _ => cases h13

private theorem relDir_13 (cls : CipherClass) (h13 : cls.is13 = true) (hk hi ak ai : Bytes)
    (h1 : KeyMatOk cls hk hi) (h2 : KeyMatOk cls ak ai) :
    RelDir cls (SDir.init hk hi ak ai) (initDir13 (some hk) (some hi) (some ak) (some ai)) := by
  cases cls with
  | aead13 a tl =>
    exact ⟨rfl, rfl, rfl, h1.2.1, h1.2.2, rfl, rfl, by simp [initDir13], by simp [initDir13], h2.2.1, h2.2.2⟩
  | chacha13 =>
    exact ⟨rfl, rfl, rfl, h1.1, rfl, rfl, by simp [initDir13], by simp [initDir13], h2.1, h2.2⟩
  | _ => cases h13

/-- TLS 1.3 with all four traffic secrets in the key log: the Decryptor starts in the handshake epoch, related to the
    sender's initial state. -/
theorem init_rel_13 (P : Prims) (cls : CipherClass) (h13 : cls.is13 = true) (macLen blockLen : Nat)
    (tagLen : Option Nat) (etm : Bool) (hp : ParamOk cls tagLen etm)
    (chk chiv cak caiv shk shiv sak saiv : Bytes)
    (h1 : KeyMatOk cls chk chiv) (h2 : KeyMatOk cls cak caiv) (h3 : KeyMatOk cls shk shiv) (h4 : KeyMatOk cls sak saiv) :
    ∃ d, Dec.init P (bulkOf cls) .tls13 macLen tagLen blockLen etm
          { cHsKey := some chk, sHsKey := some shk, cAppKey := some cak, sAppKey := some sak,
            cHsIv := some chiv, sHsIv := some shiv, cAppIv := some caiv, sAppIv := some saiv } = .ok d ∧
      Rel cls macLen ⟨SDir.init chk chiv cak caiv, SDir.init shk shiv sak saiv⟩ d := by
  have hcls : AesAead13 cls := by
    cases cls <;> first | trivial | exact h1.1
  obtain ⟨hc, hs⟩ := cfgOk_13 cls h13 macLen blockLen tagLen etm hp hcls
  refine ⟨_, init_13_noctx P _ macLen _ blockLen etm _ hs, hc, fun b => ?_⟩
  cases b
  · exact relDir_13 cls h13 chk chiv cak caiv h1 h2
  · exact relDir_13 cls h13 shk shiv sak saiv h3 h4

/-- TLS 1.3 WITHOUT handshake secrets in the key log (`parse_keys` fallback, decryptor.py 97-107): construction
    succeeds, the handshake-epoch slots hold the application keys, and the application part of the relation holds for
    both directions with any sender whose application traffic keys are the logged ones — which is all
    `updateKeys_switch` needs. -/
theorem init_rel_13_fallback (P : Prims) (cls : CipherClass) (h13 : cls.is13 = true) (macLen blockLen : Nat)
    (tagLen : Option Nat) (etm : Bool) (hp : ParamOk cls tagLen etm)
    (cak caiv sak saiv : Bytes) (h2 : KeyMatOk cls cak caiv) (h4 : KeyMatOk cls sak saiv)
    (x : Snd) (hxc : x.c.appKey = cak ∧ x.c.appIv = caiv) (hxs : x.s.appKey = sak ∧ x.s.appIv = saiv) :
    ∃ d, Dec.init P (bulkOf cls) .tls13 macLen tagLen blockLen etm
          { cAppKey := some cak, sAppKey := some sak, cAppIv := some caiv, sAppIv := some saiv } = .ok d ∧
      CfgOk cls macLen d.cfg ∧ (∀ srv, AppRelOf cls (x.get srv) (d.get srv)) ∧
      d.c.key = some cak ∧ d.s.key = some sak := by
  have hcls : AesAead13 cls := by
    cases cls <;> first | trivial | exact h2.1
  obtain ⟨hc, hs⟩ := cfgOk_13 cls h13 macLen blockLen tagLen etm hp hcls
  refine ⟨_, init_13_noctx P _ macLen _ blockLen etm _ hs, hc, fun b => ?_, rfl, rfl⟩
  obtain ⟨xc, xs⟩ := x
  obtain ⟨rfl, rfl⟩ := hxc
  obtain ⟨rfl, rfl⟩ := hxs
  have n1 : ∀ (a b : Bytes), (initDir13 none none (some a) (some b)).hsKey ≠ none := by intro a b; simp [initDir13]
  have n2 : ∀ (a b : Bytes), (initDir13 none none (some a) (some b)).hsIv ≠ none := by intro a b; simp [initDir13]
  cases cls with
  | aead13 a tl =>
    cases b
    · exact ⟨rfl, rfl, n1 _ _, n2 _ _, h2.2.1, h2.2.2⟩
    · exact ⟨rfl, rfl, n1 _ _, n2 _ _, h4.2.1, h4.2.2⟩
  | chacha13 =>
    cases b
    · exact ⟨rfl, rfl, n1 _ _, n2 _ _, h2.1, h2.2⟩
    · exact ⟨rfl, rfl, n1 _ _, n2 _ _, h4.1, h4.2⟩
  | _ => cases h13

/-- TLS 1.3 without handshake secrets, whole histories: once both sides have switched to their application traffic
    keys (`update_keys` for each direction — whatever happened to the handshake-epoch records before), every further
    history is decrypted exactly. Only the application part of the relation is assumed. -/
theorem stream_exact_after_switch (P : Prims) (L : SealLaws P) (cls : CipherClass) (h13 : cls.is13 = true)
    (macLen : Nat) (ver : Bytes) (hv : ver.length = 2) (evs : List Ev) (x : Snd) (d : Dec)
    (hc : CfgOk cls macLen d.cfg) (happ : ∀ srv, AppRelOf cls (x.get srv) (d.get srv))
    (hev : ∀ e ∈ evs, EvOk cls macLen e) (hq : evs.length ≤ seqLimit) :
    recvAll P d (run P L cls ver x (.switch false :: .switch true :: evs))
      = .switched :: .switched :: evs.map (expected cls) := by
  obtain ⟨d1, a1, a2, a3, a4⟩ := updateKeys_switch cls h13 macLen d false (x.get false) hc (happ false)
  have hc1 : CfgOk cls macLen d1.cfg := by rw [a2]; exact hc
  have happ1 : AppRelOf cls ((x.set false (switchToApp (x.get false))).get true) (d1.get true) := by
    have := happ true
    simp only [Bool.not_false] at a3
    rw [a3]
    exact this
  obtain ⟨d2, b1, b2, b3, b4⟩ := updateKeys_switch cls h13 macLen d1 true
    ((x.set false (switchToApp (x.get false))).get true) hc1 happ1
  have hR : Rel cls macLen ((x.set false (switchToApp (x.get false))).set true
      (switchToApp ((x.set false (switchToApp (x.get false))).get true))) d2 := by
    refine ⟨by rw [b2]; exact hc1, fun b => ?_⟩
    cases b
    · simp only [Bool.not_true] at b3
      rw [b3]
      exact a4
    · exact b4
  have hz : max ((x.set false (switchToApp (x.get false))).set true
      (switchToApp ((x.set false (switchToApp (x.get false))).get true))).c.seq
      ((x.set false (switchToApp (x.get false))).set true
      (switchToApp ((x.set false (switchToApp (x.get false))).get true))).s.seq = 0 := by
    simp [Snd.set, Snd.get, switchToApp]
  simp only [run, step, recvAll, recvStep, a1, b1]
  rw [stream_exact P L cls macLen ver hv evs _ d2 hR hev (by rw [hz]; omega)]

/-- The cipher class that the constructor arguments put the Decryptor in — the bridge from the resolved suite
    (C14: `bulk_alg`, tag length), the negotiated version and the encrypt-then-MAC extension to the theorems above.
    `none`: combinations that no table suite × valid version produces and that `decrypt` cannot serve
    (ChaCha20-Poly1305 before TLS 1.2 has no cipher context; RC4 / CBC algorithms in TLS 1.3 would be opened as
    ChaCha20-Poly1305; `bulk_alg` None; version UNDEFINED). -/
def classOf (bulk : Alg) (v : Version) (etm : Bool) (tagLen : Option Nat) : Option CipherClass :=
  match v with
  | .undefined => none
  | .tls13 =>
    match bulk with
    | .aesgcm => some (.aead13 .aesgcm (tagLen.getD 16))
    | .aesccm => some (.aead13 .aesccm (tagLen.getD 16))
    | .chachaPoly => some .chacha13
    | _ => none
  | v =>
    match bulk with
    | .arc4 => some .stream
    | .aes | .tdes | .camellia | .idea =>
      if v = .ssl30 ∨ v = .tls10 then some (.cbcImplicit bulk etm) else some (.cbcExplicit bulk etm)
    | .aesgcm | .aesccm => some (.aead12 bulk (tagLen.getD 16))
    | .chachaPoly => if v = .tls12 then some .chacha12 else none
    | _ => none

theorem classOf_spec (bulk : Alg) (v : Version) (etm : Bool) (tagLen : Option Nat) (cls : CipherClass)
    (h : classOf bulk v etm tagLen = some cls) :
    bulkOf cls = bulk ∧ VersionOk cls v ∧ ParamOk cls tagLen etm ∧ cls.is13 = decide (v = .tls13) := by
  cases v <;> cases bulk <;> simp [classOf] at h <;> subst h <;>
    simp [bulkOf, VersionOk, ParamOk, CipherClass.is13]

/-- A record that raises leaves the whole cipher state untouched (every routine mutates after its last raising
    statement): the next record of either direction is decrypted as if the bad one had never been seen. -/
theorem failed_record_keeps_state (P : Prims) (r : Rec) (srv : Bool) (d d' : Dec) (e : PyErr)
    (h : d.decrypt P r srv = .err e d') : d' = d := by
  rcases Dec.decrypt_cases P r srv d with h0 | ⟨x, hx⟩
  · rw [h0] at h; cases h
  · rw [hx] at h; exact lift_err h

/-- TLS 1.3: what `decrypt` returns is never the bare content — it is `content ‖ type ‖ zeros`, at least one byte
    longer. Stripping the zeros and the type byte is left to the caller (`Session.handle_tls_13_application_record`:
    `rstrip(b'\x00')`, then the last byte is the content type; `Session.app13_inner`). -/
theorem tls13_returns_inner_plaintext (a : Alg) (tl : Nat) (typ : UInt8) (pt : Bytes) (f : Fresh) :
    delivered (.aead13 a tl) typ pt f = pt ++ [typ] ++ List.replicate f.pad13 0 ∧
    delivered .chacha13 typ pt f = pt ++ [typ] ++ List.replicate f.pad13 0 ∧
    delivered (.aead13 a tl) typ pt f ≠ pt := by
  refine ⟨rfl, rfl, ?_⟩
  intro h
  have := congrArg List.length h
  simp [delivered, inner13] at this

/-- The `[:-mac_length]` trap: with `mac_length = 0` the stream routine returns the EMPTY string for every record
    (`decrypted[0:-0]`). No suite of the table has a zero MAC length, hence `0 < macLen` in `CfgOk`. -/
theorem stream_mac0_returns_empty (P : Prims) (r : Rec) (srv : Bool) (d : Dec) (k : Bytes) (off : Nat)
    (ht : d.cfg.ctype = .stream) (hv : d.cfg.version ≠ .tls13) (hb : d.cfg.bulk ≠ .chachaPoly)
    (hm : d.cfg.macLen = 0) (hc : (d.get srv).rc4 = some (k, off)) :
    ∃ d', d.decrypt P r srv = .ok (some []) d' := by
  rw [dispatch_generic_stream P r srv d ht hv hb]
  simp [genericStream, hc, hm, Bytes.cutEnd, lift, pure, Except.pure]

/-- Outside the covered combinations, e.g. ChaCha20-Poly1305 negotiated below TLS 1.2 (no table suite is valid
    there): `__init__` creates no cipher context for it and `decrypt` falls into the generic stream routine, which
    raises AttributeError on every record. -/
theorem chacha_before_tls12_raises (P : Prims) (r : Rec) (srv : Bool) (d : Dec)
    (ht : d.cfg.ctype = .stream) (hv13 : d.cfg.version ≠ .tls13) (hv12 : d.cfg.version ≠ .tls12)
    (hc : (d.get srv).rc4 = none) : d.decrypt P r srv = .err .attr d := by
  simp [Dec.decrypt, ht, hv13, hv12, genericStream, hc, lift, throw, throwThe, MonadExceptOf.throw]

instance (cls : CipherClass) (k iv : Bytes) : Decidable (KeyMatOk cls k iv) := by
  cases cls <;> unfold KeyMatOk <;> infer_instance
instance (cls : CipherClass) (m : Nat) (pt : Bytes) (f : Fresh) : Decidable (SendOk cls m pt f) := by
  cases cls <;> unfold SendOk <;> infer_instance

namespace Ex
def k16 : Bytes := [1, 2, 3, 4, 5, 6, 7, 8, 9, 10, 11, 12, 13, 14, 15, 16]
def k16' : Bytes := [16, 15, 14, 13, 12, 11, 10, 9, 8, 7, 6, 5, 4, 3, 2, 1]
def k24 : Bytes := k16 ++ [17, 18, 19, 20, 21, 22, 23, 24]
def k32 : Bytes := k16 ++ k16'
def iv4 : Bytes := [9, 8, 7, 6]
def iv8 : Bytes := [1, 1, 2, 3, 5, 8, 13, 21]
def iv12 : Bytes := [0, 1, 2, 3, 4, 5, 6, 7, 8, 9, 10, 11]
def iv16 : Bytes := k16'
def mac20 : Bytes := List.replicate 20 0xAB
def hi : Bytes := [104, 105]

/-- Run a history through the toy sender and the model constructed by `Dec.init` over the toy primitives. -/
def roundtrip (cls : CipherClass) (v : Version) (macLen blockLen : Nat) (k : Keys) (x : Snd) (evs : List Ev) : Bool :=
  match Dec.init Toy.prims (bulkOf cls) v macLen (some (tagOf cls)) blockLen (etmOf cls) k with
  | .ok d => recvAll Toy.prims d (run Toy.prims Toy.laws cls [3, 3] x evs) == evs.map (expected cls)
  | .error _ => false

def keys4 (ck sk civ siv : Bytes) : Keys := { cKey := some ck, sKey := some sk, cIv := some civ, sIv := some siv }

-- the hypotheses of the theorems are satisfiable for every class (toy laws + concrete key material) …
example : ∃ d, Rel .stream 20 ⟨SDir.init k16 [] [] [], SDir.init k16' [] [] []⟩ d :=
  let ⟨d, _, h⟩ := init_rel_pre13 Toy.prims Toy.laws .stream rfl .ssl30 (Or.inl rfl) 20 (by decide) 0 trivial none true trivial
    k16 k16' [] [] (by decide) (by decide)
  ⟨d, h⟩
example : ∃ d, Rel (.cbcImplicit .tdes false) 20 ⟨SDir.init k24 iv8 [] [], SDir.init k24 iv8 [] []⟩ d :=
  let ⟨d, _, h⟩ := init_rel_pre13 Toy.prims Toy.laws (.cbcImplicit .tdes false) rfl .tls10 (Or.inr rfl) 20 (by decide) 64 rfl (some 16) false rfl
    k24 k24 iv8 iv8 (by decide) (by decide)
  ⟨d, h⟩
example : ∃ d, Rel (.cbcExplicit .aes true) 20 ⟨SDir.init k32 [] [] [], SDir.init k16 [] [] []⟩ d :=
  let ⟨d, _, h⟩ := init_rel_pre13 Toy.prims Toy.laws (.cbcExplicit .aes true) rfl .tls12 (Or.inr rfl) 20 (by decide) 128 trivial none true rfl
    k32 k16 [] [] (by decide) (by decide)
  ⟨d, h⟩
example : ∃ d, Rel (.aead12 .aesccm 8) 32 ⟨SDir.init k16 iv4 [] [], SDir.init k16' iv4 [] []⟩ d :=
  let ⟨d, _, h⟩ := init_rel_pre13 Toy.prims Toy.laws (.aead12 .aesccm 8) rfl .tls12 (by intro h; cases h) 32 (by decide) 128 trivial (some 8) false rfl
    k16 k16' iv4 iv4 (by decide) (by decide)
  ⟨d, h⟩
example : ∃ d, Rel .chacha12 32 ⟨SDir.init k32 iv12 [] [], SDir.init k32 iv12 [] []⟩ d :=
  let ⟨d, _, h⟩ := init_rel_pre13 Toy.prims Toy.laws .chacha12 rfl .tls12 rfl 32 (by decide) 0 trivial (some 16) true trivial
    k32 k32 iv12 iv12 (by decide) (by decide)
  ⟨d, h⟩
example : ∃ d, Rel (.aead13 .aesgcm 16) 32 ⟨SDir.init k16 iv12 k16' iv12, SDir.init k16' iv12 k16 iv12⟩ d :=
  let ⟨d, _, h⟩ := init_rel_13 Toy.prims (.aead13 .aesgcm 16) rfl 32 128 none false rfl k16 iv12 k16' iv12 k16' iv12 k16 iv12
    (by decide) (by decide) (by decide) (by decide)
  ⟨d, h⟩
example : ∃ d, Rel .chacha13 32 ⟨SDir.init k32 iv12 k32 iv12, SDir.init k32 iv12 k32 iv12⟩ d :=
  let ⟨d, _, h⟩ := init_rel_13 Toy.prims .chacha13 rfl 32 0 (some 16) false trivial k32 iv12 k32 iv12 k32 iv12 k32 iv12
    (by decide) (by decide) (by decide) (by decide)
  ⟨d, h⟩
-- … and so are the per-record side conditions (two-block padding with arbitrary content; empty plaintext)
example : SendOk (.cbcExplicit .aes false) 20 hi
    { explicit := iv16, mac := mac20, padding := List.replicate 25 7, pad13 := 0 } := by decide
example : SendOk (.cbcImplicit .tdes true) 20 [] { explicit := [], mac := mac20, padding := [1, 2, 3, 4, 5, 6, 7], pad13 := 0 } := by
  decide

-- concrete histories evaluated by the kernel: both directions interleaved, empty and multi-block records,
-- state carried from record to record (RC4 position, CBC residue, sequence numbers, epoch switch)
example : roundtrip .stream .ssl30 20 0 (keys4 k16 k16' [] []) ⟨SDir.init k16 [] [] [], SDir.init k16' [] [] []⟩
    [.send false 23 hi ⟨[], mac20, [], 0⟩, .send true 23 [] ⟨[], mac20, [], 0⟩, .send false 23 k32 ⟨[], mac20, [], 0⟩,
     .send false 22 [7] ⟨[], mac20, [], 0⟩, .send true 23 hi ⟨[], mac20, [], 0⟩] = true := by decide +kernel
example : roundtrip (.cbcImplicit .tdes false) .tls10 20 64 (keys4 k24 k24 iv8 iv8)
    ⟨SDir.init k24 iv8 [] [], SDir.init k24 iv8 [] []⟩
    [.send false 23 hi ⟨[], mac20, [9], 0⟩, .send false 23 [] ⟨[], mac20, [3, 3, 3], 0⟩,
     .send true 23 k16 ⟨[], mac20, [1, 2, 3], 0⟩, .send false 23 [1, 2, 3, 4] ⟨[], mac20, List.replicate 15 0, 0⟩]
    = true := by decide +kernel
example : roundtrip (.cbcImplicit .aes true) .ssl30 20 128 (keys4 k16 k16' iv16 iv16)
    ⟨SDir.init k16 iv16 [] [], SDir.init k16' iv16 [] []⟩
    [.send true 23 hi ⟨[], mac20, List.replicate 13 5, 0⟩, .send true 23 k16 ⟨[], mac20, List.replicate 15 0, 0⟩,
     .send false 23 [] ⟨[], mac20, List.replicate 31 1, 0⟩] = true := by decide +kernel
example : roundtrip (.cbcExplicit .camellia false) .tls11 20 128 (keys4 k32 k32 [] [])
    ⟨SDir.init k32 [] [] [], SDir.init k32 [] [] []⟩
    [.send false 23 hi ⟨iv16, mac20, List.replicate 9 9, 0⟩, .send true 23 [] ⟨k16, mac20, List.replicate 27 27, 0⟩]
    = true := by decide +kernel
example : roundtrip (.cbcExplicit .idea true) .tls12 20 64 (keys4 k16 k16 [] [])
    ⟨SDir.init k16 [] [] [], SDir.init k16 [] [] []⟩
    [.send false 23 hi ⟨iv8, mac20, List.replicate 5 5, 0⟩, .send false 23 k16 ⟨iv8, mac20, List.replicate 7 0, 0⟩]
    = true := by decide +kernel
example : roundtrip (.aead12 .aesgcm 16) .tls12 32 128 (keys4 k16 k16' iv4 iv4)
    ⟨SDir.init k16 iv4 [] [], SDir.init k16' iv4 [] []⟩
    [.send false 23 hi ⟨iv8, [], [], 0⟩, .send true 23 [] ⟨iv8, [], [], 0⟩, .send false 23 k32 ⟨iv8, [], [], 0⟩]
    = true := by decide +kernel
example : roundtrip (.aead12 .aesccm 8) .tls12 32 128 (keys4 k32 k32 iv4 iv4)
    ⟨SDir.init k32 iv4 [] [], SDir.init k32 iv4 [] []⟩
    [.send true 23 hi ⟨iv8, [], [], 0⟩, .send true 23 k16 ⟨k16.take 8, [], [], 0⟩] = true := by decide +kernel
example : roundtrip .chacha12 .tls12 32 0 (keys4 k32 k32 iv12 iv12)
    ⟨SDir.init k32 iv12 [] [], SDir.init k32 iv12 [] []⟩
    [.send false 23 hi ⟨[], [], [], 0⟩, .send false 23 [] ⟨[], [], [], 0⟩, .send true 21 [2, 40] ⟨[], [], [], 0⟩]
    = true := by decide +kernel
example : roundtrip (.aead13 .aesgcm 16) .tls13 32 128
    { cHsKey := some k16, sHsKey := some k16', cAppKey := some k16', sAppKey := some k16,
      cHsIv := some iv12, sHsIv := some iv12, cAppIv := some iv12, sAppIv := some iv12 }
    ⟨SDir.init k16 iv12 k16' iv12, SDir.init k16' iv12 k16 iv12⟩
    [.send true 22 hi ⟨[], [], [], 3⟩, .switch true, .send false 22 [20, 0, 0, 0] ⟨[], [], [], 0⟩, .switch false,
     .send false 23 hi ⟨[], [], [], 5⟩, .send true 23 [] ⟨[], [], [], 0⟩, .send false 23 k16 ⟨[], [], [], 1⟩]
    = true := by decide +kernel
example : roundtrip .chacha13 .tls13 32 0
    { cHsKey := some k32, sHsKey := some k32, cAppKey := some k32, sAppKey := some k32,
      cHsIv := some iv12, sHsIv := some iv12, cAppIv := some iv12, sAppIv := some iv12 }
    ⟨SDir.init k32 iv12 k32 iv12, SDir.init k32 iv12 k32 iv12⟩
    [.send true 22 hi ⟨[], [], [], 0⟩, .switch true, .switch false, .send false 23 hi ⟨[], [], [], 2⟩]
    = true := by decide +kernel
-- TLS 1.3 without handshake secrets: handshake-epoch records fail (InvalidTag), after the switch everything is exact
example :
    (match Dec.init Toy.prims .aesgcm .tls13 32 (some 16) 128 false
        { cAppKey := some k16', sAppKey := some k16, cAppIv := some iv12, sAppIv := some iv12 } with
     | .ok d => recvAll Toy.prims d (run Toy.prims Toy.laws (.aead13 .aesgcm 16) [3, 3]
         ⟨SDir.init k16 iv12 k16' iv12, SDir.init k16' iv12 k16 iv12⟩
         [.send true 22 hi ⟨[], [], [], 0⟩, .switch true, .switch false, .send true 23 hi ⟨[], [], [], 4⟩,
          .send false 23 k16 ⟨[], [], [], 0⟩])
     | .error _ => [])
    = [.failed .invalidTag, .switched, .switched, .data (some (hi ++ [23, 0, 0, 0, 0])), .data (some (k16 ++ [23]))] := by
  decide +kernel
-- the traps, concretely: a zero MAC length empties every RC4 record; an empty CBC body raises IndexError
example :
    (match Dec.init Toy.prims .arc4 .tls10 0 (some 16) 0 false (keys4 k16 k16' [] []) with
     | .ok d => recvAll Toy.prims d [.record false ([23, 3, 1, 0, 2] ++ hi)]
     | .error _ => []) = [.data (some [])] := by decide +kernel
example :
    (match Dec.init Toy.prims .aes .tls12 20 (some 16) 128 false (keys4 k16 k16' [] []) with
     | .ok d => recvAll Toy.prims d [.record false ([23, 3, 3, 0, 16] ++ k16), .record true [23, 3, 3, 0, 0]]
     | .error _ => []) = [.failed .index, .failed .value] := by decide +kernel
end Ex

end TLX.Props.C01
