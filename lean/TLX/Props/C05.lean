/-
C05 — the exported plaintext depends only on the byte stream each endpoint sent, not on how TCP
delivered it (segmentation, retransmitted duplicates, reordering, any initial sequence number), and the
C07 by-product `metadata_is_overlap`.  Property theorems only; helper lemmas are in TLX/Lemmas
(Framing, ModSeq, ReasmSort, ReasmInv, Metadata, Delivery).

Model: `TLX.Reassembly` (one direction of `Session`: duplicate test, buffer, `extract_*_buf`), as the
code is *with* the reassembly repair; `Reassembly.Legacy` is the code before it.
Spec:  `TLX.Spec.TlsFraming` (`frame`, `WholeRecords`, `Delivers`).

Status of the statements
  `reassembly_exact_statement`       full strength (any delivery, any stream length) — a `def`, not provable:
  `reassembly_exact_counterexample`  ¬ statement: the *first* data segment of a direction overtaken by a
                                     segment that is a whole record on its own (no reassembler that never
                                     sees the SYN can tell; main.py drops packets without payload).
  `reassembly_exact_partial`         proved for every delivery (cuts, duplicates, displacement by any `k`,
                                     the first segment included, any ISN incl. wrap) with two hypotheses
                                     spelled out: `NoEarlyDelivery` (nothing is handed on before the segment
                                     that starts the stream has been captured) and stream ≤ 2^31 bytes.
  `reassembly_exact_first_in_place`  corollary with the crisp hypothesis "the first captured segment of the
                                     direction is the one that starts the stream".
  `reassembly_exact_inorder`         proved, no hypothesis on the order needed: cuts + duplicates + any ISN.
  `legacy_reorder_witness`, `legacy_wrap_witness`   the code before the repair fails inside the hypotheses of
                                     `reassembly_exact_partial` (reordering; wrap even in order).
  `two_pass_eq_fused`                full strength: the fused per-packet machine = the source's two passes.
  `metadata_is_overlap`              full strength (C07): carriers of a record = the buffered packets whose
                                     byte range intersects the record's, in buffer order, never empty.
-/
import TLX.Reassembly
import TLX.Spec.TlsFraming
import TLX.Lemmas.ReasmInv
import TLX.Lemmas.Metadata
import TLX.Lemmas.Delivery
import TLX.Lemmas.TwoPass
namespace TLX.Props.C05
open TLX TLX.Reassembly TLX.Spec.TlsFraming
open TLX.Lemmas.ModSeq TLX.Lemmas.ReasmSort TLX.Lemmas.ReasmInv TLX.Lemmas.Framing TLX.Lemmas.Metadata
open TLX.Lemmas.Delivery

/-- What a capture shows of a model segment. -/
def wire (s : Seg) : Wire := (s.seq, s.data)

/-- C05 at full strength: for every delivery of a stream of whole records — any cut, duplicates,
    displacements, initial sequence number — the records handed on are the records of the stream,
    each once, in order. -/
def reassembly_exact_statement : Prop :=
  ∀ (k isn : Nat) (str : Bytes) (segs : List Seg),
    Delivers k isn str (segs.map wire) → WholeRecords str →
    (run segs).map (·.1) = frame str

/-- The hypothesis the repaired code needs: as long as no captured segment carries the first byte of the
    stream (sequence number `isn`), nothing is handed on.  (The origin of the sequence space is the
    earliest segment seen before the first delivery; the hypothesis fails exactly when segments that
    overtook the first one are whole records on their own — see `reassembly_exact_counterexample`.) -/
def NoEarlyDelivery (isn : Nat) (segs : List Seg) : Prop :=
  ∀ pre post, segs = pre ++ post → (∀ s ∈ pre, s.seq ≠ isn % 2 ^ 32) → run pre = []

/-- C05 at the level of a cut. ANY list of copies of the segments of a cut of a stream of whole records — some
    missing, some repeated, in any order, any initial sequence number — hands on a prefix of the stream's records
    (never a record behind a hole, never one twice, never in another order), and all of them once every segment of
    the cut has been captured. Hypotheses as in `reassembly_exact_partial`. -/
theorem reassembly_of_cut (isn : Nat) (str : Bytes) (chunks : List Bytes) (segs : List Seg)
    (hcut : IsCut str chunks) (hw : WholeRecords str) (hlen : str.length ≤ 2 ^ 31)
    (hcopy : ∀ p ∈ segs, wire p ∈ segsOf isn 0 chunks) (hearly : NoEarlyDelivery isn segs) :
    (∃ n, (run segs).map (·.1) = (frame str).take n) ∧
      ((∀ w ∈ segsOf isn 0 chunks, w ∈ segs.map wire) → (run segs).map (·.1) = frame str) := by
  have S : Setup (2 ^ 32) chunks (frame str) :=
    { hW := by decide
      hne := hcut.1
      hwf := frame_wf str
      hstr := by rw [hcut.2]; exact hw.symm
      hL := by rw [hcut.2]; omega }
  obtain ⟨done, rest, k, pend, I, hseen⟩ := fold_inv_from (isn := isn) S segs
    (fun p hp => copy_of_cut hcut isn p (hcopy p hp))
    (fun pre post hsplit hno => hearly pre post hsplit fun s hs => by simpa [sq] using hno s hs)
    segs [] rfl (inv_init (2 ^ 32) isn chunks (frame str)) (fun _ h => nomatch h)
  refine ⟨⟨k, I.recs⟩, fun hall => inv_final S I fun x hx => ?_⟩
  have hx' : (sq (2 ^ 32) isn x.1, x.2) ∈ segsOf isn 0 chunks := by
    rw [segsOf_eq_offs]; exact List.mem_map_of_mem (f := fun x : Nat × Bytes => (sq (2 ^ 32) isn x.1, x.2)) hx
  obtain ⟨p, hp, hpe⟩ := List.mem_map.mp (hall _ hx')
  have hs : p.seq = sq (2 ^ 32) isn x.1 := (Prod.mk.inj hpe).1
  exact hs ▸ hseen p hp

/-- C05 for the code as repaired.  Hypotheses beyond the full statement, both explicit:
    `hearly` — nothing is handed on before the segment that starts the stream has been captured;
    `hlen` — the stream is shorter than half the sequence space (serial-number order).
    Displacement is unbounded (`k` arbitrary, `Delivers.displace` may be applied repeatedly) and may
    involve the first segment; the initial sequence number is arbitrary, so the sequence space may wrap
    anywhere in the stream. -/
theorem reassembly_exact_partial (k isn : Nat) (str : Bytes) (segs : List Seg)
    (hd : Delivers k isn str (segs.map wire)) (hw : WholeRecords str)
    (hlen : str.length ≤ 2 ^ 31) (hearly : NoEarlyDelivery isn segs) :
    (run segs).map (·.1) = frame str :=
  let ⟨chunks, hcut, hmem⟩ := delivers_mem hd
  (reassembly_of_cut isn str chunks segs hcut hw hlen (fun _ hp => (hmem _).mp (List.mem_map_of_mem hp)) hearly).2
    fun w h => (hmem w).mpr h

theorem noEarly_of_head (isn : Nat) (segs : List Seg) (h : ∀ s, segs.head? = some s → s.seq = isn % 2 ^ 32) :
    NoEarlyDelivery isn segs := by
  intro pre post hsplit hno
  cases pre with
  | nil => rfl
  | cons s t => exact absurd (h s (by rw [hsplit]; rfl)) (hno s List.mem_cons_self)

/-- C05 with the hypothesis in its simplest form: the first captured segment of the direction is the one
    that starts the stream (the first data segment of a direction is not displaced). -/
theorem reassembly_exact_first_in_place (k isn : Nat) (str : Bytes) (segs : List Seg)
    (hd : Delivers k isn str (segs.map wire)) (hw : WholeRecords str)
    (hlen : str.length ≤ 2 ^ 31)
    (hfirst : ∀ s, segs.head? = some s → s.seq = isn % 2 ^ 32) :
    (run segs).map (·.1) = frame str :=
  reassembly_exact_partial k isn str segs hd hw hlen (noEarly_of_head isn segs hfirst)

/-- C05, in-order deliveries (arbitrary cuts, exact duplicates, any initial sequence number, wrap
    included): no hypothesis on the order is needed. -/
theorem reassembly_exact_inorder (isn : Nat) (str : Bytes) (segs : List Seg)
    (hd : InOrder isn str (segs.map wire)) (hw : WholeRecords str) (hlen : str.length ≤ 2 ^ 31) :
    (run segs).map (·.1) = frame str := by
  apply reassembly_exact_first_in_place 0 isn str segs hd hw hlen
  intro s hs
  have := inorder_head hd (wire s) (by rw [List.head?_map, hs]; rfl)
  exact this

/-- The model's per-packet `step` is the source's two passes: every `handle_packet` call first (while the
    capture is read), `get_tls_records` once at the end — same records, same order, for every input. -/
theorem two_pass_eq_fused (segs : List Seg) : runTwoPassW (2 ^ 32) segs = run segs :=
  TLX.Lemmas.TwoPass.runTwoPassW_eq (2 ^ 32) segs

def r1 : Bytes := [22, 3, 3, 0, 0]
def r2 : Bytes := [23, 3, 3, 0, 1, 7]
def r3 : Bytes := [21, 3, 3, 0, 2, 1, 0]

theorem whole_r12 : WholeRecords (r1 ++ r2) := by
  unfold WholeRecords; decide +kernel

theorem whole_r123 : WholeRecords (r1 ++ r2 ++ r3) := by
  unfold WholeRecords; decide +kernel

/-- Two records, one per segment, captured in the opposite order. -/
def swapped : List Seg := [⟨1, 105, r2⟩, ⟨0, 100, r1⟩]

theorem swapped_delivers : Delivers 1 100 (r1 ++ r2) (swapped.map wire) := by
  have hc : Delivers 1 100 (r1 ++ r2) (segsOf 100 0 [r1, r2]) :=
    Delivers.cut [r1, r2] ⟨by decide, by decide⟩
  have hd : Displaced 1 (segsOf 100 0 [r1, r2]) (swapped.map wire) :=
    Displaced.later [] [(105, r2)] [] (100, r1) (by decide)
  exact Delivers.displace _ _ hc hd

/-- The full statement does not hold: when the first data segment of a direction is overtaken by a
    segment that is a whole record, that record is handed on first (nothing says a byte precedes it)
    and the overtaken one never fits behind it. -/
theorem reassembly_exact_counterexample : ¬ reassembly_exact_statement := by
  intro h
  exact absurd (h 1 100 (r1 ++ r2) swapped swapped_delivers whole_r12) (by decide +kernel)

/-- … and it is exactly the hypothesis of `reassembly_exact_partial` that fails there: the overtaking
    segment is handed on while no segment with the initial sequence number has been captured. -/
theorem swapped_early_delivery : ¬ NoEarlyDelivery 100 swapped := by
  intro h
  exact absurd (h [⟨1, 105, r2⟩] [⟨0, 100, r1⟩] rfl (by decide)) (by decide +kernel)

/-- Three records, one per segment, the second captured after the third (the first segment in place,
    stream of 18 bytes): inside the hypotheses of `reassembly_exact_partial`. -/
def reordered : List Seg := [⟨0, 100, r1⟩, ⟨2, 111, r3⟩, ⟨1, 105, r2⟩]

theorem reordered_delivers : Delivers 1 100 (r1 ++ r2 ++ r3) (reordered.map wire) := by
  have hc : Delivers 1 100 (r1 ++ r2 ++ r3) (segsOf 100 0 [r1, r2, r3]) :=
    Delivers.cut [r1, r2, r3] ⟨by decide, by decide⟩
  have hd : Displaced 1 (segsOf 100 0 [r1, r2, r3]) (reordered.map wire) :=
    Displaced.later [(100, r1)] [(111, r3)] [] (105, r2) (by decide)
  exact Delivers.displace _ _ hc hd

/-- Before the repair: a later segment that starts at a record boundary while the buffer is empty was
    handed on at once — records out of order. -/
theorem legacy_reorder_witness :
    Delivers 1 100 (r1 ++ r2 ++ r3) (reordered.map wire) ∧ WholeRecords (r1 ++ r2 ++ r3) ∧
      (r1 ++ r2 ++ r3).length ≤ 2 ^ 31 ∧ (∀ s, reordered.head? = some s → s.seq = 100 % 2 ^ 32) ∧
      (Legacy.run reordered).map (·.1) = [r1, r3, r2] ∧ frame (r1 ++ r2 ++ r3) = [r1, r2, r3] := by
  exact ⟨reordered_delivers, whole_r123, by decide, fun s hs => by cases hs; rfl, by decide +kernel, by decide +kernel⟩

/-- One record cut into two segments, in order, the sequence space wrapping between them. -/
def wrapped : List Seg := [⟨0, 4294967293, [22, 3, 3]⟩, ⟨1, 0, [0, 0]⟩]

theorem wrapped_delivers : InOrder 4294967293 r1 (wrapped.map wire) := by
  have hc : Delivers 0 4294967293 r1 (segsOf 4294967293 0 [[22, 3, 3], [0, 0]]) :=
    Delivers.cut [[22, 3, 3], [0, 0]] ⟨by decide, by decide⟩
  exact hc

/-- Before the repair: raw 32-bit comparison — the segment after the wrap sorts first and the buffer
    never becomes contiguous; nothing is handed on. -/
theorem legacy_wrap_witness :
    InOrder 4294967293 r1 (wrapped.map wire) ∧ WholeRecords r1 ∧ (Legacy.run wrapped).map (·.1) = [] ∧
      frame r1 = [r1] := by
  exact ⟨wrapped_delivers, by unfold WholeRecords; decide +kernel, by decide +kernel, by decide +kernel⟩

/-- The carriers (`TlsRecord.metadata`) of the `j`-th record handed on when a buffer of non-empty
    packets is flushed are exactly the buffered packets whose byte range
    `[segStart buf i, segStart buf (i+1))` has a byte in common with the record's range
    `[start, start + length)`, in buffer order — and there is at least one. -/
theorem metadata_is_overlap (buf : List Seg) (hne : ∀ s ∈ buf, s.data ≠ []) (recs : List Rec)
    (h : flush buf = some recs) (j : Nat) (hj : j < recs.length) :
    (recs[j]).2 =
        ((List.range buf.length).filter (fun i =>
          decide (Overlaps (segStart buf i) (segStart buf (i + 1))
            (((recs.take j).map (·.1.length)).sum) (((recs.take j).map (·.1.length)).sum + (recs[j]).1.length)))).map
          (idAt buf) ∧
      (recs[j]).2 ≠ [] := by
  unfold flush at h
  by_cases hnd : needData (bufData buf) 0 = true
  · rw [if_pos hnd] at h; cases h
  rw [if_neg hnd] at h
  cases h
  obtain ⟨hc, h5, hin⟩ := records_spec (bufData buf) (ranges buf 0) 0 (Nat.zero_le _) (by simpa using hnd) j hj
  rw [Nat.zero_add] at hc hin
  -- `a`: where the record starts, `n`: its length
  generalize (((records (bufData buf) (ranges buf 0) 0).take j).map (·.1.length)).sum = a at hc hin ⊢
  generalize ((records (bufData buf) (ranges buf 0) 0)[j]).1.length = n at hc h5 hin ⊢
  rw [hc, carriers_ranges]
  have hfil : (List.range buf.length).filter (fun i =>
      decide (a < segStart buf (i + 1)) && decide (a + n > segStart buf i)) =
      (List.range buf.length).filter (fun i =>
        decide (Overlaps (segStart buf i) (segStart buf (i + 1)) a (a + n))) := by
    apply List.filter_congr
    intro i hi
    have hi' : i < buf.length := List.mem_range.mp hi
    have hpos : 0 < buf[i].data.length := List.length_pos_iff.mpr (hne _ (List.getElem_mem hi'))
    have hss := segStart_succ buf i hi'
    rw [Bool.eq_iff_iff, test_iff_overlaps _ _ a n (by omega) (by omega), decide_eq_true_eq]
  rw [hfil]
  refine ⟨rfl, fun hnil => ?_⟩
  -- the first byte of the record lies in some packet
  obtain ⟨i, hi, h1, h2⟩ := exists_seg_of_pos buf a buf.length (Nat.le_refl _) (by rw [segStart_length]; omega)
  rw [List.map_eq_nil_iff, List.filter_eq_nil_iff] at hnil
  exact hnil i (List.mem_range.mpr hi) (decide_eq_true ⟨a, by omega, h1, h2, Nat.le_refl _⟩)

/-! ### Non-vacuity: the hypotheses are satisfiable by non-trivial inputs, and the conclusions are
    what evaluation gives -/

/-- A delivery with a displaced segment, an exact duplicate and the wrap inside the stream. -/
def busy : List Seg :=
  [⟨0, 4294967290, r1⟩, ⟨2, 5, r3⟩, ⟨9, 4294967290, r1⟩, ⟨1, 4294967295, r2⟩]

example : Delivers 1 4294967290 (r1 ++ r2 ++ r3) (busy.map wire) := by
  have hc : Delivers 1 4294967290 (r1 ++ r2 ++ r3) (segsOf 4294967290 0 [r1, r2, r3]) :=
    Delivers.cut [r1, r2, r3] ⟨by decide, by decide⟩
  have hd : Displaced 1 (segsOf 4294967290 0 [r1, r2, r3]) [(4294967290, r1), (5, r3), (4294967295, r2)] :=
    Displaced.later [(4294967290, r1)] [(5, r3)] [] (4294967295, r2) (by decide)
  exact Delivers.dup [] [(5, r3)] [(4294967295, r2)] (4294967290, r1) (Delivers.displace _ _ hc hd)

example : (r1 ++ r2 ++ r3).length ≤ 2 ^ 31 ∧ ∀ s, busy.head? = some s → s.seq = 4294967290 % 2 ^ 32 := by
  exact ⟨by decide, fun s hs => by cases hs; rfl⟩

example : run busy = [(r1, [0]), (r2, [1]), (r3, [2])] := by decide +kernel

/-- The first data segment overtaken by a segment that is *not* whole records: inside the hypotheses of
    `reassembly_exact_partial` (the origin moves back when the overtaken segment arrives). -/
def overtaken : List Seg := [⟨1, 103, [0, 1, 7]⟩, ⟨0, 100, [23, 3, 3]⟩]

example : Delivers 1 100 r2 (overtaken.map wire) := by
  have hc : Delivers 1 100 r2 (segsOf 100 0 [[23, 3, 3], [0, 1, 7]]) :=
    Delivers.cut [[23, 3, 3], [0, 1, 7]] ⟨by decide, by decide⟩
  have hd : Displaced 1 (segsOf 100 0 [[23, 3, 3], [0, 1, 7]]) (overtaken.map wire) :=
    Displaced.later [] [(103, [0, 1, 7])] [] (100, [23, 3, 3]) (by decide)
  exact Delivers.displace _ _ hc hd

example : NoEarlyDelivery 100 overtaken := by
  intro pre post hsplit hno
  cases pre with
  | nil => rfl
  | cons x t =>
    cases t with
    | nil =>
      simp only [overtaken, List.cons_append, List.nil_append, List.cons.injEq] at hsplit
      rw [← hsplit.1]
      decide +kernel
    | cons y u =>
      exfalso
      simp only [overtaken, List.cons_append, List.cons.injEq] at hsplit
      have := hno y (by simp)
      rw [← hsplit.2.1] at this
      simp at this

example : run overtaken = [(r2, [0, 1])] := by decide +kernel

-- the repaired machine on the two schedules the old one failed on
example : (run reordered).map (·.1) = [r1, r2, r3] := by decide +kernel

example : run wrapped = [(r1, [0, 1])] := by decide +kernel

-- metadata_is_overlap: a record over three packets, two records in one packet
example : flush [⟨7, 0, [22, 3]⟩, ⟨8, 2, [3, 0]⟩, ⟨9, 4, [1, 5, 23, 3, 3, 0, 0]⟩] =
    some [([22, 3, 3, 0, 1, 5], [7, 8, 9]), ([23, 3, 3, 0, 0], [9])] := by decide +kernel

example : Overlaps 4 11 6 11 ∧ ¬ Overlaps 2 4 6 11 := by decide

end TLX.Props.C05
