/-
C14 — every cipher-suite code point resolves to the parameters its IANA name denotes.
The table (`TLX.Gen`) is regenerated from /repo on every run, so `table_ok` is re-checked by the
kernel against what the source says now.
-/
import TLX.CipherSuite
import TLX.Spec.IanaRegistry
import TLX.Spec.Denote
import TLX.Lemmas.Distinct
namespace TLX.Props.C14
open TLX.CipherSuite TLX.Lemmas.Distinct

/-- one table entry is right: its code point is the IANA code point of its name, and the model of
    `split_cipher_suite` returns what the name denotes -/
def entryOk (e : Nat × List Nat) : Bool :=
  e.1 < 65536 && Spec.Iana.lookup e.1 == some e.2 &&
    Spec.denote e.2 == some (splitName Gen.cipherSuiteParts e.2)

/-- the registry copy itself has one name per code point -/
theorem registry_codes_nodup : (Spec.Iana.registry.map (·.1)).Nodup := nodup_of_distinct (by decide +kernel)

/-- kernel evaluation over the whole generated table; registry membership in one pass along the registry, which is in
    the order of the code points (`subset_of_sorted_isSublist`) -/
theorem table_ok : Gen.cipherSuites.all entryOk = true := by
  have hreg : ∀ e ∈ Gen.cipherSuites, e ∈ Spec.Iana.registry := subset_of_sorted_isSublist (by decide +kernel)
  have hden : Gen.cipherSuites.all (fun e =>
      e.1 < 65536 && Spec.denote e.2 == some (splitName Gen.cipherSuiteParts e.2)) = true := by decide +kernel
  rw [List.all_eq_true] at hden ⊢
  intro e he
  have hlookup : Spec.Iana.lookup e.1 = some e.2 := lookupName_of_mem registry_codes_nodup (hreg e he)
  have := hden e he
  simp only [Bool.and_eq_true] at this
  simp only [entryOk, hlookup, BEq.rfl, Bool.and_true, Bool.and_eq_true]
  exact this

/-- C14: for **every** code point `c`: either it is not in TLExport's table and is reported as
    unsupported (`none`), or it is in the table under the name the IANA registry gives that very
    code point, and the resolved parameters are exactly what that name denotes. -/
theorem resolve_sound_complete (c : Nat) :
    match resolve c with
    | none => ∀ n, (c, n) ∉ Gen.cipherSuites
    | some p => ∃ n, (c, n) ∈ Gen.cipherSuites ∧ c < 65536 ∧
        Spec.Iana.lookup c = some n ∧ Spec.denote n = some p := by
  unfold resolve resolveWith
  cases h : lookupName Gen.cipherSuites c with
  | none => exact lookupName_none.mp h
  | some n =>
    have hmem := mem_of_lookupName h
    have hok := List.all_eq_true.mp table_ok _ hmem
    simp only [entryOk, Bool.and_eq_true, decide_eq_true_eq, beq_iff_eq] at hok
    exact ⟨n, hmem, hok.1.1, hok.1.2, hok.2⟩

/-- By `table_ok`, a further table-wide check may read `Spec.denote`, far quicker to evaluate than `splitName`. -/
theorem all_resolved_of_denoted (p : Nat → Params → Bool)
    (h : Gen.cipherSuites.all (fun e => (Spec.denote e.2).all (p e.1)) = true) :
    Gen.cipherSuites.all (fun e => p e.1 (splitName Gen.cipherSuiteParts e.2)) = true := by
  rw [List.all_eq_true] at h ⊢
  intro e he
  have hok := List.all_eq_true.mp table_ok e he
  simp only [entryOk, Bool.and_eq_true, beq_iff_eq] at hok
  have hp := h e he
  rw [hok.2] at hp
  exact hp

-- Non-vacuity: accepted and rejected code points exist, and the spec parser really distinguishes
example : (resolve 0x1301).isSome = true ∧ (resolve 0xC0A3).isSome = true := by decide +kernel
example : resolve 0x0000 = none ∧ resolve 0x1306 = none := by decide +kernel
example : Spec.denote (Gen.cipherSuites.head!.2) ≠ none := by decide +kernel

end TLX.Props.C14
