/-
The local parser hypothesis `C02Capstone.PTrace` holds for conformant handshakes (`ConfHs`). The four phases of the CRYPTO
stream are walked ONCE (`conformant_steps`); `ptrace_of_conformant`, `C02Rfc.parser_facts` and `C02All.ecs_hello` read the
result off. Declares into `TLX.Props.C02Capstone` (where the hypothesis it discharges lives) and, for `chIns` / `shIn` /
`tailIns`, into `TLX.Props.C02Rfc`, whose statements are written with them. Core Lean only.
-/
import TLX.Props.C02Capstone
open TLX TLX.Quic TLX.Cipher TLX.Quic.Session TLX.Lemmas.QuicSession TLX.Spec.QuicSender TLX.Spec.QuicFrames
open TLX.Props.C02Session TLX.Spec.QuicConnection TLX.Spec.QuicPackets TLX.QuicPipeline
open TLX.Spec.KeySchedules TLX.Lemmas.KeySchedule
open TLX.Props.C02Pipeline TLX.Quic.CryptoStream TLX.Lemmas.CryptoStream TLX.Spec.TlsHandshakeFraming
open TLX.Spec.TlsHello TLX.Lemmas.TlsHello
namespace TLX.Props.C02Capstone

section Reassembly

/-- no byte buffer of the parser holds a whole message (true whenever `handle_record` never raised) -/
def AllDrained (fr : CryptoStream.State) : Prop := ∀ k, Drained recordRaises (fr.ks k).buf

theorem allDrained_init : AllDrained CryptoStream.State.init := fun _ => drained_nil _

/-- the CRYPTO frame object `update_session` gets for an input -/
def frameOfIn (id : Nat) (c : CryptoIn) : CFrame := ⟨id, c.offset, c.data, c.length⟩

/-- the wire view of an input -/
def wireIn (c : CryptoIn) : Wire := (c.offset, c.data, c.length)

theorem idsOK_snoc (D : List CFrame) (f : CFrame) (h : IdsOK D) (hlt : ∀ g ∈ D, g.id < f.id) : IdsOK (D ++ [f]) := by
  intro a ha b hb hab
  rcases List.mem_append.mp ha with ha1 | ha1
  · rcases List.mem_append.mp hb with hb1 | hb1
    · exact h a ha1 b hb1 hab
    · simp only [List.mem_singleton] at hb1; rw [hb1] at hab; have := hlt a ha1; omega
  · rcases List.mem_append.mp hb with hb1 | hb1
    · simp only [List.mem_singleton] at ha1; rw [ha1] at hab; have := hlt b hb1; omega
    · simp only [List.mem_singleton] at ha1 hb1; rw [ha1, hb1]

/-- the parser along the inputs `ins`: it never raises, and the `i`-th input hands exactly the complete messages `news[i]` to
    `handle_record` -/
def Steps : Tls → List CryptoIn → List (List Bytes) → Prop
  | _, [], [] => True
  | t, c :: cs, n :: ns =>
    (tlsUpdate t c).2 = none ∧ (tlsUpdate t c).1.msgs = feedRecords t.msgs n ∧ Steps (clearND (tlsUpdate t c).1) cs ns
  | _, _, _ => False

theorem steps_length (t : Tls) (ins : List CryptoIn) (news : List (List Bytes)) (h : Steps t ins news) :
    news.length = ins.length := by
  induction ins generalizing t news with
  | nil => cases news with
    | nil => rfl
    | cons _ _ => cases h
  | cons c cs ih =>
    cases news with
    | nil => cases h
    | cons n ns => simp only [List.length_cons]; rw [ih _ _ h.2.2]

theorem steps_append (t : Tls) (a b : List CryptoIn) (na nb : List (List Bytes)) (ha : Steps t a na)
    (hb : Steps (pfold t a) b nb) : Steps t (a ++ b) (na ++ nb) := by
  induction a generalizing t na with
  | nil => cases na with
    | nil => exact hb
    | cons _ _ => cases ha
  | cons c cs ih =>
    cases na with
    | nil => cases ha
    | cons n ns =>
      obtain ⟨h1, h2, h3⟩ := ha
      exact ⟨h1, h2, ih _ _ h3 (by simpa [pfold] using hb)⟩

/-- ONE PHASE of a handshake: the CRYPTO inputs of one (direction, packet type) space, fragments of a cut `frs` in any order
    with duplicates. The batches handed on are a prefix of the cut's messages, the reassembly invariant `Inv` is kept, the
    other spaces are not touched. -/
theorem phase_run (srv : Bool) (ptype : PType) (pt : PT) (hpt : ptOf ptype = some pt)
    (frs : List Bytes) (hne : ∀ c ∈ frs, c ≠ [])
    (hnr : ∀ m ∈ implFrame frs.flatten, recordRaises m = false)
    (ins : List CryptoIn)
    (hins : ∀ c ∈ ins, c.isServer = srv ∧ c.ptype = ptype ∧
      ∃ i, frs[i]? = some c.data ∧ c.offset = bnd frs i ∧ c.length = c.data.length)
    (t : Tls) (D : List CFrame) (cum : List Bytes)
    (hd : AllDrained t.frames) (hinv : Inv frs D (t.frames.ks (srv, pt)) cum)
    (hids : ∀ g ∈ D, g.id < t.nextId) (hidsok : IdsOK D) :
    ∃ (news : List (List Bytes)) (D' : List CFrame) (cum' : List Bytes),
      Steps t ins news ∧ cum' = cum ++ news.flatten ∧ cum' <+: implFrame frs.flatten ∧
      AllDrained (pfold t ins).frames ∧ Inv frs D' ((pfold t ins).frames.ks (srv, pt)) cum' ∧
      (∀ g ∈ D', g.id < (pfold t ins).nextId) ∧ IdsOK D' ∧
      (∀ k', k' ≠ (srv, pt) → (pfold t ins).frames.ks k' = t.frames.ks k') ∧
      D'.map C02Crypto.wire = D.map C02Crypto.wire ++ ins.map wireIn := by
  induction ins generalizing t D cum with
  | nil => exact ⟨[], D, cum, trivial, by simp, hinv.prefix, hd, hinv, hids, hidsok, fun _ _ => rfl, by simp⟩
  | cons c ins ih =>
    obtain ⟨rfl, rfl, i, hi1, hi2, hi3⟩ := hins c (List.mem_cons_self ..)
    obtain ⟨s', new, hup, hinv', hd'⟩ : ∃ s' new, tlsUpdate t c = _ ∧
        Inv frs (D ++ [frameOfIn t.nextId c]) s' (cum ++ new) ∧ AllDrained (t.frames.set (c.isServer, pt) s') :=
      tlsUpdate_frag pt frs hne hnr t c D cum hpt hd hinv ⟨i, hi1, hi2, hi3⟩ (idsOK_snoc D _ hidsok hids)
    obtain ⟨news, D', cum', s1, s2, s3, s4, s5, s6, s7, s8, s9⟩ :=
      ih (fun c' hc' => hins c' (List.mem_cons_of_mem _ hc')) (clearND (tlsUpdate t c).1) (D ++ [frameOfIn t.nextId c])
        (cum ++ new) (by rw [hup]; exact hd') (by rw [hup]; simpa [clearND, State.set] using hinv')
        (by
          intro g hg
          rw [hup]
          simp only [clearND]
          rcases List.mem_append.mp hg with hg | hg
          · have := hids g hg; omega
          · simp only [List.mem_singleton] at hg; subst hg; simp [frameOfIn])
        (idsOK_snoc D _ hidsok hids)
    refine ⟨new :: news, D', cum', ?_, ?_, s3, s4, s5, s6, s7, ?_, ?_⟩
    · exact ⟨by rw [hup], by rw [hup], s1⟩
    · rw [s2]; simp [List.append_assoc]
    · intro k' hk'
      have := s8 k' hk'
      show (pfold (clearND (tlsUpdate t c).1) ins).frames.ks k' = _
      rw [this, hup]
      simp [clearND, State.set, hk']
    · rw [s9]; simp [C02Crypto.wire, frameOfIn, wireIn]

theorem pfold_app (t : Tls) (a b : List CryptoIn) : pfold t (a ++ b) = pfold (pfold t a) b := by
  simp [pfold, List.foldl_append]

theorem steps_keep (G : TlsMsgs.State → Prop) (hclr : ∀ st, G st → G { st with newData := false })
    (t : Tls) (ins : List CryptoIn) (news : List (List Bytes)) (hs : Steps t ins news)
    (hn : ∀ n ∈ news, ∀ st, G st → G (feedRecords st n)) (h0 : G t.msgs) :
    ∀ a, a <+: ins → G (pfold t a).msgs := by
  induction ins generalizing t news with
  | nil => intro a ha; rw [List.prefix_nil.mp ha]; exact h0
  | cons c cs ih =>
    cases news with
    | nil => cases hs
    | cons n ns =>
      obtain ⟨h1, h2, h3⟩ := hs
      intro a ha
      cases a with
      | nil => exact h0
      | cons x a' =>
        obtain ⟨rfl, ha'⟩ := List.cons_prefix_cons.mp ha
        show G (pfold (clearND (tlsUpdate t x).1) a').msgs
        refine ih _ ns h3 (fun n' hn' => hn n' (List.mem_cons_of_mem _ hn')) ?_ a' ha'
        show G { (tlsUpdate t x).1.msgs with newData := false }
        rw [h2]
        exact hclr _ (hn n (List.mem_cons_self ..) _ h0)

/-- `MI`: an invariant of the message effects, indexed by the messages handed on so far; `ci`: the inputs are the client's
    Initial ones, for which the suite is not yet the selected one -/
theorem ptrace_steps (cr csel : Bytes) (ci : Prop) (full : List Bytes)
    (MI : List Bytes → TlsMsgs.State → Prop)
    (hMI : ∀ cum new st, cum ++ new <+: full → MI cum st → st.newData = false →
      MI (cum ++ new) { feedRecords st new with newData := false } ∧
      ((feedRecords st new).newData = true → (feedRecords st new).clientRandom = some cr ∧
        ∃ cs, (feedRecords st new).ciphersuite = some cs ∧ (¬ ci → cs = csel)))
    (rest : List CryptoIn) (ins : List CryptoIn) (hins : ∀ c ∈ ins, ci → c.isServer = false ∧ c.ptype = .initial)
    (news : List (List Bytes)) (t : Tls) (cum : List Bytes) (hs : Steps t ins news)
    (hpre : cum ++ news.flatten <+: full) (hmi : MI cum t.msgs) (hnd : t.msgs.newData = false)
    (hcont : MI (cum ++ news.flatten) (pfold t ins).msgs → (pfold t ins).msgs.newData = false →
      PTrace cr csel (pfold t ins) rest) :
    PTrace cr csel t (ins ++ rest) := by
  induction ins generalizing t news cum with
  | nil =>
    cases news with
    | nil => exact hcont (by simpa [pfold] using hmi) hnd
    | cons _ _ => cases hs
  | cons c cs ih =>
    cases news with
    | nil => cases hs
    | cons n ns =>
      obtain ⟨h1, h2, h3⟩ := hs
      have hci := hins c (List.mem_cons_self ..)
      have hpre1 : cum ++ n <+: full :=
        (List.prefix_append (cum ++ n) ns.flatten).trans (by simpa [List.append_assoc] using hpre)
      obtain ⟨m1, m2⟩ := hMI cum n t.msgs hpre1 hmi hnd
      show PTrace cr csel t (c :: (cs ++ rest))
      unfold PTrace
      refine ⟨h1, fun hn => ?_, ?_⟩
      · rw [h2] at hn ⊢
        obtain ⟨q1, cs', q2, q3⟩ := m2 hn
        exact ⟨q1, cs', q2, fun hh => q3 fun hc => hh (hci hc)⟩
      · refine ih (fun c' hc' => hins c' (List.mem_cons_of_mem _ hc')) ns _ (cum ++ n) h3
          (by simpa [List.append_assoc] using hpre) (by simpa [clearND, h2] using m1) (by simp [clearND]) ?_
        simpa [pfold, List.append_assoc] using hcont

end Reassembly
section Messages

theorem msgLoop_handshake_cons (t : Nat) (body rest : Bytes) (hb : body ≠ []) (hl : body.length < 16777216) :
    implFrame (handshake t body ++ rest) = handshake t body :: implFrame rest ∧
    rem (handshake t body ++ rest) = rem rest := by
  have hlen : (handshake t body).length = 4 + body.length := handshake_length t body
  have hpos : 0 < body.length := List.length_pos_iff.mpr hb
  have hn : Bytes.beNat (Bytes.slice (handshake t body ++ rest) 1 4) = body.length := by
    rw [slice14_append _ _ (by omega)]; exact handshake_lenfield t body hl
  unfold implFrame rem
  rw [msgLoop]
  simp only [List.length_append, hlen, hn]
  rw [if_neg (by omega), if_neg (by omega)]
  have ht : (handshake t body ++ rest).take (4 + body.length) = handshake t body := by
    rw [← hlen]; simp
  have hd : (handshake t body ++ rest).drop (4 + body.length) = rest := by
    rw [← hlen]; simp
  simp [ht, hd, never]

theorem implFrame_nil : implFrame [] = [] ∧ rem [] = [] := by
  unfold implFrame rem; rw [msgLoop_short never [] (by simp)]; exact ⟨rfl, rfl⟩

end Messages

section Conformant
open TLX.Quic.TlsMsgs

theorem feed_one (T : Nat) (hT : T < 256) (body : Bytes) (st : TlsMsgs.State) :
    feedRecords st [handshake T body] = (handleRecord st T (handshake T body)).1 := by
  simp only [feedRecords, List.foldl_cons, List.foldl_nil]
  rw [handshake_eq_cons]
  simp [Nat.mod_eq_of_lt hT]

theorem raises_one (T : Nat) (hT : T < 256) (body : Bytes) :
    recordRaises (handshake T body) = (handleRecord {} T (handshake T body)).2.isSome := by
  unfold recordRaises
  rw [handshake_eq_cons]
  simp [Nat.mod_eq_of_lt hT]

theorem helloType_other (T : Nat) (hT : T < 256) (h1 : T ≠ 1) (h2 : T ≠ 2) (h8 : T ≠ 8) (body : Bytes) :
    helloType (handshake T body) = false := by
  rw [handshake_eq_cons]
  simp only [helloType, Bool.or_eq_false_iff, beq_eq_false_iff_ne]
  refine ⟨⟨?_, ?_⟩, ?_⟩ <;> (intro h; have := congrArg UInt8.toNat h; simp [Nat.mod_eq_of_lt hT] at this; omega)

/-- a conformant handshake's TLS side: the messages (RFC 8446 encoders of `Spec/TlsHello.lean`) and how their CRYPTO streams
    are cut and delivered -/
structure ConfHs where
  ch : ClientHello
  sh : ServerHello
  shExts : List Ext
  /-- EncryptedExtensions -/
  ee : List Ext
  /-- bodies of Certificate, CertificateVerify, server Finished, client Finished -/
  cert : Bytes
  cv : Bytes
  sfin : Bytes
  cfin : Bytes
  /-- the ClientHello cut into the fragments the client's Initial packets carry, and the CRYPTO frames as delivered:
      every fragment at least once, in any order, exact duplicates allowed -/
  chFrs : List Bytes
  chDl : List Wire
  chDups : List Wire
  /-- the server's Handshake flight cut into the fragments of its CRYPTO frames, delivered in stream order -/
  sFrs : List Bytes

def ConfHs.flight (h : ConfHs) : Bytes :=
  encodeEncryptedExtensions h.ee ++ (handshake 11 h.cert ++ (handshake 15 h.cv ++ handshake 20 h.sfin))

structure ConfHs.Ok (h : ConfHs) : Prop where
  ch : h.ch.WellFormed
  sh : h.sh.WellFormed
  shE : h.sh.extensions = some h.shExts
  ee : extsWf h.ee
  cert : h.cert ≠ [] ∧ h.cert.length < 16777216
  cv : h.cv ≠ [] ∧ h.cv.length < 16777216
  sfin : h.sfin ≠ [] ∧ h.sfin.length < 16777216
  cfin : h.cfin ≠ [] ∧ h.cfin.length < 16777216
  chCut : IsCut (encodeClientHello h.ch) h.chFrs
  chPerm : h.chDl.Perm (framesOf 0 h.chFrs ++ h.chDups)
  chDupsOk : ∀ d ∈ h.chDups, d ∈ framesOf 0 h.chFrs
  sCut : IsCut h.flight h.sFrs

def inOf (srv : Bool) (pt : PType) (w : Wire) : CryptoIn := ⟨srv, pt, w.1, w.2.2, w.2.1⟩

/-- the CRYPTO inputs of the handshake in processing order: ClientHello fragments (client Initial), ServerHello (server
    Initial), the server's flight (server Handshake), the client's Finished (client Handshake) -/
def ConfHs.ins (h : ConfHs) : List CryptoIn :=
  h.chDl.map (inOf false .initial) ++
  ([inOf true .initial (0, encodeServerHello h.sh, (encodeServerHello h.sh).length)] ++
   ((framesOf 0 h.sFrs).map (inOf true .handshake) ++
    [inOf false .handshake (0, handshake 20 h.cfin, (handshake 20 h.cfin).length)]))

theorem inv_complete (frs : List Bytes) (D : List CFrame) (s : KState) (cum : List Bytes) (hinv : Inv frs D s cum)
    (hd : C02Crypto.Delivery frs D) : cum = implFrame frs.flatten :=
  (hinv.complete (C02Crypto.delivery_complete hd)).1

theorem phase_inputs_ok (srv : Bool) (pt : PType) (frs : List Bytes) (ws : List Wire)
    (h : ∀ w ∈ ws, w ∈ framesOf 0 frs) :
    ∀ c ∈ ws.map (inOf srv pt), c.isServer = srv ∧ c.ptype = pt ∧
      ∃ i, frs[i]? = some c.data ∧ c.offset = bnd frs i ∧ c.length = c.data.length := by
  intro c hc
  obtain ⟨w, hw, rfl⟩ := List.mem_map.mp hc
  obtain ⟨i, d, hi, he⟩ := (C02Crypto.mem_framesOf 0 frs w).mp (h w hw)
  refine ⟨rfl, rfl, i, ?_, ?_, ?_⟩ <;> simp [inOf, he, hi]

theorem wireIn_inOf (srv : Bool) (pt : PType) (ws : List Wire) : (ws.map (inOf srv pt)).map wireIn = ws := by
  induction ws with
  | nil => rfl
  | cons w ws ih => simp [inOf, wireIn, ih]

theorem isCut_single (M : Bytes) (h : M ≠ []) : IsCut M [M] := ⟨by simp [h], by simp⟩

theorem handshake_ne_nil (T : Nat) (b : Bytes) : handshake T b ≠ [] := by
  intro h; have := congrArg List.length h; rw [handshake_length] at this; simp at this

theorem prefix_single {α : Type} (cum new : List α) (m : α) (h : cum ++ new <+: [m]) :
    new = [] ∨ (cum = [] ∧ new = [m]) := by
  obtain ⟨r, hr⟩ := h
  cases new with
  | nil => exact Or.inl rfl
  | cons a new' =>
    right
    cases cum with
    | nil =>
      simp only [List.nil_append, List.cons_append, List.cons.injEq] at hr
      obtain ⟨rfl, h2⟩ := hr
      have : new' = [] := by cases new' <;> simp_all
      subst this; exact ⟨rfl, rfl⟩
    | cons b cum' =>
      simp only [List.cons_append, List.cons.injEq] at hr
      have := hr.2
      simp at this

theorem clear_id (st : TlsMsgs.State) (h : st.newData = false) : { st with newData := false } = st := by
  cases st; simp_all

theorem encodeExts_body (es : List Ext) (h : extsWf es) : encodeExts es ≠ [] ∧ (encodeExts es).length < 16777216 := by
  have hl : (encodeExts es).length = 2 + (extsPayload es).length := by
    simp only [encodeExts, vec16, List.length_append, u16_length]
  constructor
  · intro he; rw [he] at hl; simp at hl; omega
  · have := h.2; omega

theorem flight_msgs (h : ConfHs) (hok : h.Ok) :
    implFrame h.flight = [encodeEncryptedExtensions h.ee, handshake 11 h.cert, handshake 15 h.cv, handshake 20 h.sfin] := by
  obtain ⟨e1, e2⟩ := encodeExts_body h.ee hok.ee
  unfold ConfHs.flight encodeEncryptedExtensions
  rw [(msgLoop_handshake_cons 8 _ _ e1 e2).1, (msgLoop_handshake_cons 11 _ _ hok.cert.1 hok.cert.2).1,
    (msgLoop_handshake_cons 15 _ _ hok.cv.1 hok.cv.2).1]
  have := (msgLoop_handshake_cons 20 h.sfin [] hok.sfin.1 hok.sfin.2).1
  rw [List.append_nil, implFrame_nil.1] at this
  rw [this]

theorem single_msgs (T : Nat) (b : Bytes) (h1 : b ≠ []) (h2 : b.length < 16777216) :
    implFrame [handshake T b].flatten = [handshake T b] := by
  have := (msgLoop_handshake_cons T b [] h1 h2).1
  rw [List.append_nil, implFrame_nil.1] at this
  simpa using this

theorem ch_body (ch : ClientHello) (h : ch.WellFormed) : ch.body ≠ [] ∧ ch.body.length < 16777216 := by
  refine ⟨?_, h.2.2.2.2.2.2.2.2.2⟩
  intro he
  have := congrArg List.length he
  simp only [ClientHello.body, List.length_append, h.1] at this
  simp at this

theorem sh_body (sh : ServerHello) (h : sh.WellFormed) : sh.body ≠ [] ∧ sh.body.length < 16777216 := by
  refine ⟨?_, h.2.2.2.2.2⟩
  intro he
  have := congrArg List.length he
  simp only [ServerHello.body, List.length_append, h.1] at this
  simp at this

/-- a message of the server's flight or the client's Finished, as far as the parser tells them apart -/
def FlightMsg (h : ConfHs) (m : Bytes) : Prop :=
  m = encodeEncryptedExtensions h.ee ∨ ∃ T b, m = handshake T b ∧ T < 256 ∧ T ≠ 1 ∧ T ≠ 2 ∧ T ≠ 8

theorem feed_flight_eq (h : ConfHs) (hok : h.Ok) (new : List Bytes) (hnew : ∀ m ∈ new, FlightMsg h m)
    (st : TlsMsgs.State) :
    (feedRecords st new).clientRandom = st.clientRandom ∧ (feedRecords st new).ciphersuite = st.ciphersuite := by
  induction new generalizing st with
  | nil => exact ⟨rfl, rfl⟩
  | cons m new ih =>
    have hstep : feedRecords st (m :: new) = feedRecords (feedRecords st [m]) new := by simp [feedRecords]
    obtain ⟨i1, i2⟩ := ih (fun x hx => hnew x (List.mem_cons_of_mem _ hx)) (feedRecords st [m])
    rw [hstep, i1, i2]
    rcases hnew m (List.mem_cons_self ..) with rfl | ⟨T, b, rfl, hT, n1, n2, n8⟩
    · obtain ⟨q1, q2, q3, _⟩ := C02Hello.encrypted_extensions_parsed h.ee hok.ee st
      have : feedRecords st [encodeEncryptedExtensions h.ee] = { extsEffect st h.ee with newData := true } := by
        unfold encodeEncryptedExtensions at q1 ⊢
        rw [feed_one 8 (by decide), q1]
      rw [this]
      exact ⟨by simpa using q2, by simpa using q3⟩
    · have : feedRecords st [handshake T b] = st := by
        rw [feed_one T hT]
        have hh := helloType_other T hT n1 n2 n8 b
        have := handleRecord_not_hello st (handshake T b) hh (UInt8.ofNat T) _ (handshake_eq_cons T b)
        simp [Nat.mod_eq_of_lt hT] at this
        rw [this]
      rw [this]
      exact ⟨rfl, rfl⟩

end Conformant
end TLX.Props.C02Capstone

namespace TLX.Props.C02Rfc
open TLX.Props.C02Capstone

/-- the client's Initial CRYPTO inputs, the ServerHello input, and what follows it -/
def chIns (h : ConfHs) : List CryptoIn := h.chDl.map (inOf false .initial)
def shIn (h : ConfHs) : CryptoIn := inOf true .initial (0, encodeServerHello h.sh, (encodeServerHello h.sh).length)
def tailIns (h : ConfHs) : List CryptoIn :=
  (framesOf 0 h.sFrs).map (inOf true .handshake) ++
    [inOf false .handshake (0, handshake 20 h.cfin, (handshake 20 h.cfin).length)]

end TLX.Props.C02Rfc

namespace TLX.Props.C02Capstone
open TLX.Props.C02Rfc (chIns shIn tailIns)

section Walk
open TLX.Quic.TlsMsgs

theorem ins_split (h : ConfHs) : h.ins = chIns h ++ shIn h :: tailIns h := rfl

theorem chIns_client (h : ConfHs) : ∀ c ∈ chIns h, c.isServer = false ∧ c.ptype = .initial := by
  intro c hc
  obtain ⟨w, _, rfl⟩ := List.mem_map.mp hc
  exact ⟨rfl, rfl⟩

theorem clientHello_msgs (h : ConfHs) (hok : h.Ok) :
    implFrame h.chFrs.flatten = [encodeClientHello h.ch] ∧ ∀ m ∈ implFrame h.chFrs.flatten, recordRaises m = false := by
  obtain ⟨cb1, cb2⟩ := ch_body h.ch hok.ch
  have hM1 : implFrame h.chFrs.flatten = [encodeClientHello h.ch] := by
    rw [hok.chCut.2]
    have := single_msgs 1 h.ch.body cb1 cb2
    simp only [List.flatten_cons, List.flatten_nil, List.append_nil] at this
    exact this
  refine ⟨hM1, ?_⟩
  rw [hM1]
  intro m hm
  simp only [List.mem_singleton] at hm
  subst hm
  unfold encodeClientHello
  rw [raises_one 1 (by decide)]
  obtain ⟨s', e, _⟩ := C02Hello.client_hello_parsed h.ch hok.ch {}
  unfold encodeClientHello at e; rw [e]; rfl

theorem chIns_ok (h : ConfHs) (hok : h.Ok) : ∀ c ∈ chIns h, c.isServer = false ∧ c.ptype = .initial ∧
    ∃ i, h.chFrs[i]? = some c.data ∧ c.offset = bnd h.chFrs i ∧ c.length = c.data.length :=
  phase_inputs_ok false .initial h.chFrs h.chDl (by
    intro w hw
    rcases List.mem_append.mp (hok.chPerm.mem_iff.mp hw) with hh | hh
    · exact hh
    · exact hok.chDupsOk w hh)

/-- **the parser along the CRYPTO inputs of a conformant handshake** (`ConfHs.ins = chIns ++ shIn :: tailIns`): it never
    raises; the ClientHello inputs (any order, duplicates) hand over, all in all, exactly the ClientHello; the ServerHello
    input hands over the ServerHello; what follows hands over flight messages only. -/
theorem conformant_steps (h : ConfHs) (hok : h.Ok) :
    ∃ n1 n34 : List (List Bytes),
      Steps {} (chIns h) n1 ∧ n1.flatten = [encodeClientHello h.ch] ∧
      Steps (pfold {} (chIns h)) [shIn h] [[encodeServerHello h.sh]] ∧
      Steps (pfold (pfold {} (chIns h)) [shIn h]) (tailIns h) n34 ∧ ∀ m ∈ n34.flatten, FlightMsg h m := by
  obtain ⟨sb1, sb2⟩ := sh_body h.sh hok.sh
  obtain ⟨hM1, hnr1⟩ := clientHello_msgs h hok
  have hM2 : implFrame [encodeServerHello h.sh].flatten = [encodeServerHello h.sh] := single_msgs 2 _ sb1 sb2
  have hM3 : implFrame h.sFrs.flatten =
      [encodeEncryptedExtensions h.ee, handshake 11 h.cert, handshake 15 h.cv, handshake 20 h.sfin] := by
    rw [hok.sCut.2]; exact flight_msgs h hok
  have hM4 : implFrame [handshake 20 h.cfin].flatten = [handshake 20 h.cfin] := single_msgs 20 _ hok.cfin.1 hok.cfin.2
  have r2 : recordRaises (encodeServerHello h.sh) = false := by
    unfold encodeServerHello
    rw [raises_one 2 (by decide)]
    obtain ⟨s', e, _⟩ := C02Hello.server_hello_parsed h.sh hok.sh h.shExts hok.shE {}
    unfold encodeServerHello at e; rw [e]; rfl
  have rF : ∀ m, FlightMsg h m → recordRaises m = false := by
    rintro m (rfl | ⟨T, b, rfl, hT, n1, n2, n8⟩)
    · unfold encodeEncryptedExtensions
      rw [raises_one 8 (by decide)]
      have e := (C02Hello.encrypted_extensions_parsed h.ee hok.ee {}).1
      unfold encodeEncryptedExtensions at e; rw [e]; rfl
    · exact recordRaises_not_hello _ (helloType_other T hT n1 n2 n8 b)
  have f20 : ∀ b, FlightMsg h (handshake 20 b) :=
    fun b => .inr ⟨20, b, rfl, by decide, by decide, by decide, by decide⟩
  have hfl : ∀ m ∈ implFrame h.sFrs.flatten, FlightMsg h m := by
    rw [hM3]; intro m hm
    simp only [List.mem_cons, List.not_mem_nil, or_false] at hm
    rcases hm with rfl | rfl | rfl | rfl
    · exact .inl rfl
    · exact .inr ⟨11, _, rfl, by decide, by decide, by decide, by decide⟩
    · exact .inr ⟨15, _, rfl, by decide, by decide, by decide, by decide⟩
    · exact f20 _
  -- phase 1: the ClientHello, any order; all its fragments arrive, so the message is complete at the end
  obtain ⟨news1, D1, cum1, st1, c1, _, d1, i1, _, idok1, oth1, w1⟩ :=
    phase_run false .initial .initial rfl h.chFrs hok.chCut.1 hnr1 (chIns h) (chIns_ok h hok)
      {} [] [] allDrained_init (inv_init _) (by intro g hg; cases hg) (by intro a ha; cases ha)
  have hdel1 : C02Crypto.Delivery h.chFrs D1 := by
    refine ⟨⟨h.chDups, ?_, hok.chDupsOk⟩, idok1⟩
    rw [w1]; unfold chIns; rw [wireIn_inOf]; simpa using hok.chPerm
  have hc1 := inv_complete _ _ _ _ i1 hdel1
  rw [hM1, c1, List.nil_append] at hc1
  obtain ⟨news2, D2, cum2, st2, c2, _, d2, i2, _, idok2, oth2, w2⟩ :=
    phase_run true .initial .initial rfl [encodeServerHello h.sh]
      (by intro c hc; simp only [List.mem_singleton] at hc; subst hc; exact handshake_ne_nil _ _)
      (by rw [hM2]; intro m hm; simp only [List.mem_singleton] at hm; subst hm; exact r2)
      [shIn h] (phase_inputs_ok true .initial [encodeServerHello h.sh] [_] (by
        intro w hw; simp only [List.mem_singleton] at hw; subst hw; simp [framesOf]))
      (pfold {} (chIns h)) [] [] d1 (by rw [oth1 _ (by decide)]; exact inv_init _) (by intro g hg; cases hg)
      (by intro a ha; cases ha)
  have hdel2 : C02Crypto.Delivery [encodeServerHello h.sh] D2 := by
    refine ⟨⟨[], ?_, by simp⟩, idok2⟩
    rw [w2]; simp [wireIn, inOf, framesOf, shIn]
  have hc2 := inv_complete _ _ _ _ i2 hdel2
  rw [hM2] at hc2
  obtain ⟨n2, rfl⟩ : ∃ n, news2 = [n] := by
    have := steps_length _ _ _ st2
    match news2, this with
    | [n], _ => exact ⟨n, rfl⟩
  have hn2 : n2 = [encodeServerHello h.sh] := by
    rw [c2] at hc2; simpa using hc2
  subst hn2
  obtain ⟨news3, D3, cum3, st3, c3, pre3, d3, i3, _, _, oth3, _⟩ :=
    phase_run true .handshake .handshake rfl h.sFrs hok.sCut.1 (fun m hm => rF m (hfl m hm))
      ((framesOf 0 h.sFrs).map (inOf true .handshake)) (phase_inputs_ok true .handshake h.sFrs _ (fun w hw => hw))
      (pfold (pfold {} (chIns h)) [shIn h]) [] [] d2
      (by rw [oth2 _ (by decide), oth1 _ (by decide)]; exact inv_init _) (by intro g hg; cases hg)
      (by intro a ha; cases ha)
  obtain ⟨news4, D4, cum4, st4, c4, pre4, _, _, _, _, _, _⟩ :=
    phase_run false .handshake .handshake rfl [handshake 20 h.cfin]
      (by intro c hc; simp only [List.mem_singleton] at hc; subst hc; exact handshake_ne_nil _ _)
      (by rw [hM4]; intro m hm; simp only [List.mem_singleton] at hm; subst hm; exact rF _ (f20 _))
      [inOf false .handshake (0, handshake 20 h.cfin, (handshake 20 h.cfin).length)]
      (phase_inputs_ok false .handshake [handshake 20 h.cfin] [_] (by
        intro w hw; simp only [List.mem_singleton] at hw; subst hw; simp [framesOf]))
      (pfold (pfold (pfold {} (chIns h)) [shIn h]) ((framesOf 0 h.sFrs).map (inOf true .handshake))) [] [] d3
      (by rw [oth3 _ (by decide), oth2 _ (by decide), oth1 _ (by decide)]; exact inv_init _)
      (by intro g hg; cases hg) (by intro a ha; cases ha)
  refine ⟨news1, news3 ++ news4, st1, hc1, st2, steps_append _ _ _ _ _ st3 st4, ?_⟩
  intro m hm
  rw [List.flatten_append] at hm
  rcases List.mem_append.mp hm with hm | hm
  · exact hfl m (pre3.subset (by rw [c3]; exact hm))
  · have := pre4.subset (by rw [c4]; exact hm)
    rw [hM4] at this
    simp only [List.mem_singleton] at this
    subst this; exact f20 _

/-- **`PTrace` holds for conformant handshakes.** ClientHello (RFC 8446 encoder; any session id, suite list, extensions)
    delivered as one CRYPTO frame or as ANY cut into fragments in ANY order with duplicates; ServerHello in one frame;
    EncryptedExtensions ‖ Certificate ‖ CertificateVerify ‖ Finished over any in-order cut; the client's Finished: the
    concrete `QuicTlsSession` never raises, and `new_data` comes with the ClientHello's random and — from the ServerHello
    on — the selected suite. By `client_hello_parsed`, `server_hello_parsed`, `encrypted_extensions_parsed`, the `Inv` of
    the CRYPTO reassembly (any order), `update_own_space` / `update_keeps_drained` (the spaces do not disturb each other). -/
theorem ptrace_of_conformant (h : ConfHs) (hok : h.Ok) :
    PTrace h.ch.random h.sh.cipherSuite {} h.ins := by
  obtain ⟨n1, n34, st1, hn1, st2, st34, hfl⟩ := conformant_steps h hok
  rw [ins_split, show chIns h ++ shIn h :: tailIns h = chIns h ++ ([shIn h] ++ (tailIns h ++ [])) by simp]
  -- the ClientHello: `new_data` comes with its random and the first offered suite
  refine ptrace_steps _ _ True [encodeClientHello h.ch]
    (fun cum st => cum = [encodeClientHello h.ch] → st.clientRandom = some h.ch.random ∧ ∃ c, st.ciphersuite = some c)
    ?_ _ (chIns h) (fun c hc _ => chIns_client h c hc) n1 {} [] st1 (by rw [List.nil_append, hn1]; exact List.prefix_refl _)
    (by intro hh; cases hh) rfl ?_
  · intro cum new st hpre hmi hnd
    rcases prefix_single cum new _ hpre with rfl | ⟨rfl, rfl⟩
    · simp only [List.append_nil, feedRecords, List.foldl_nil]
      exact ⟨hmi, fun hh => by rw [hnd] at hh; cases hh⟩
    · obtain ⟨s', e, c1, c2, ⟨c, c3, _⟩, _⟩ := C02Hello.client_hello_parsed h.ch hok.ch st
      have hf : feedRecords st [encodeClientHello h.ch] = s' := by
        unfold encodeClientHello at e ⊢; rw [feed_one 1 (by decide), e]
      rw [hf]
      exact ⟨fun _ => ⟨c1, c, by rw [c2, c3]⟩, fun _ => ⟨c1, c, by rw [c2, c3], fun hh => absurd trivial hh⟩⟩
  intro mi1 nd1
  rw [List.nil_append, hn1] at mi1
  obtain ⟨cr1, _⟩ := mi1 rfl
  -- the ServerHello: from here on the selected suite
  refine ptrace_steps _ _ False [encodeServerHello h.sh]
    (fun cum st => st.clientRandom = some h.ch.random ∧
      (cum = [encodeServerHello h.sh] → st.ciphersuite = some h.sh.cipherSuite))
    ?_ _ [shIn h] (fun _ _ hf => hf.elim) [[encodeServerHello h.sh]] _ [] st2 (by simp) ⟨cr1, fun hh => by cases hh⟩ nd1
    ?_
  · intro cum new st hpre hmi hnd
    rcases prefix_single cum new _ hpre with rfl | ⟨rfl, rfl⟩
    · simp only [List.append_nil, feedRecords, List.foldl_nil]
      exact ⟨hmi, fun hh => by rw [hnd] at hh; cases hh⟩
    · obtain ⟨s', e, c1, _, c3, _⟩ := C02Hello.server_hello_parsed h.sh hok.sh h.shExts hok.shE st
      have hf : feedRecords st [encodeServerHello h.sh] = s' := by
        unfold encodeServerHello at e ⊢; rw [feed_one 2 (by decide), e]
      rw [hf]
      exact ⟨⟨c3.trans hmi.1, fun _ => c1⟩, fun _ => ⟨c3.trans hmi.1, _, c1, fun _ => rfl⟩⟩
  intro mi2 nd2
  refine ptrace_steps _ _ False n34.flatten
    (fun _ st => st.clientRandom = some h.ch.random ∧ st.ciphersuite = some h.sh.cipherSuite)
    ?_ [] (tailIns h) (fun _ _ hf => hf.elim) n34 _ [] st34 (by simp) ⟨mi2.1, mi2.2 (by simp)⟩ nd2 (fun _ _ => trivial)
  intro cum new st hpre hmi hnd
  obtain ⟨q1, q2⟩ := feed_flight_eq h hok new (fun m hm => hfl m (hpre.subset (List.mem_append_right _ hm))) st
  exact ⟨⟨q1.trans hmi.1, q2.trans hmi.2⟩, fun _ => ⟨q1.trans hmi.1, _, q2.trans hmi.2, fun _ => rfl⟩⟩

end Walk

/-! ### `ptrace_of_conformant` is not vacuous -/

namespace ExConf
open TLX.Spec.TlsHello TLX.Spec.TlsHandshakeFraming
/-- ClientHello with a session id, three offered suites (first: 0x1303, selected later: 0x1301), ALPN `h3` and a QUIC
    transport-parameters extension -/
def chx : ClientHello :=
  { legacyVersion := [3, 3], random := List.replicate 32 0x5a, sessionId := [1, 2, 3, 4],
    cipherSuites := [[0x13, 0x03], [0x13, 0x01], [0x13, 0x02]], compression := [0],
    extensions := some [⟨16, alpnBody [[0x68, 0x33]]⟩, ⟨57, [1, 2, 0x43, 0xe8]⟩, ⟨43, [2, 3, 4]⟩] }

def shx : ServerHello :=
  { legacyVersion := [3, 3], random := List.replicate 32 0x77, sessionIdEcho := [1, 2, 3, 4], cipherSuite := [0x13, 0x01],
    compressionMethod := 0, extensions := some [⟨43, [3, 4]⟩] }

/-- the ClientHello cut into three fragments, delivered last-first-(duplicate of the first)-middle; the server's flight cut
    into two frames inside the Certificate -/
def hsx : ConfHs :=
  let M := encodeClientHello chx
  let F := encodeEncryptedExtensions [⟨16, alpnBody [[0x68, 0x33]]⟩] ++
    (handshake 11 [0, 0, 0, 5, 1, 2, 3, 4, 5] ++ (handshake 15 [8, 4, 0, 2, 9, 9] ++ handshake 20 [7, 7, 7, 7]))
  { ch := chx, sh := shx, shExts := [⟨43, [3, 4]⟩], ee := [⟨16, alpnBody [[0x68, 0x33]]⟩],
    cert := [0, 0, 0, 5, 1, 2, 3, 4, 5], cv := [8, 4, 0, 2, 9, 9], sfin := [7, 7, 7, 7], cfin := [6, 6, 6, 6],
    chFrs := [M.take 10, (M.drop 10).take 30, M.drop 40],
    chDl := [(40, M.drop 40, (M.drop 40).length), (0, M.take 10, 10), (0, M.take 10, 10),
             (10, (M.drop 10).take 30, 30)],
    chDups := [(0, M.take 10, 10)],
    sFrs := [F.take 25, F.drop 25] }

theorem hsx_ok : hsx.Ok := by
  refine ⟨by decide, by decide, rfl, by decide, by decide, by decide, by decide, by decide, ⟨by decide, by decide⟩, ?_,
    by decide, ⟨by decide, by decide⟩⟩
  decide

/-- `ptrace_of_conformant` applies: the local parser hypothesis for this handshake, without evaluating the parser -/
example : PTrace chx.random [0x13, 0x01] {} hsx.ins := ptrace_of_conformant hsx hsx_ok

end ExConf
end TLX.Props.C02Capstone
