/-
C12 — the export does not depend on the capture container.

The reader model (`TLX/Container.lean`: `dpkt_dsb.Reader.__init__/__iter__`, contract of `dpkt.pcap.Reader`) is the exact
inverse of the independent encoders of `TLX/Spec/Containers.lean` for EVERY variant: container format × byte order ×
if_tsresol (10^-k and 2^-k, k < 128, or absent) × if_tsoffset (any signed 64-bit value, or absent) × unrelated blocks
anywhere × options present/absent × EPB/obsolete PB × block padding — and for every list of events.  What is
delivered per packet is the integer triple `(ticks, divisor, offset)` of the one timestamp expression and the bytes.

RUNTIME RESIDUE (not a theorem, by design): Python evaluates `offset + ticks / float(divisor)` in IEEE-754 doubles and
dpkt's writer rounds `ts * 1e6` to an integer.  That two variants of the same instant round to the same microsecond
is a floating-point fact; it is stated as `ts_us_invariant_statement` below, NOT proved, and is covered on every run
by the bit-exact execution of `Time.toFloat`/`usOfFloat` against CPython and by the end-to-end oracle on adversarial
instants (harness/c12.py).  Hypotheses common to all theorems: one section, the first IDB defines the clock
(single-interface hypothesis: the code uses only the first IDB's resolution/offset).
-/
import TLX.Lemmas.Container
namespace TLX.Props.C12
open TLX TLX.Container TLX.Spec.Containers TLX.Lemmas.Container

/-- `reader_roundtrip`, pcapng half: same packets, same order, same secrets, and `(ticks, divisor, offset)` as
    written — for every header, every placement of unrelated blocks, every per-event decoration. -/
theorem reader_roundtrip_pcapng (v : NgVariant) (evs : List Ev) (hwf : v.WF evs) :
    Container.read false (encode (.pcapng v) evs) = .ok (evs.map v.hdr.item) := by
  obtain ⟨hh, hpre, hafter, hend, hdeco, hweave⟩ := hwf
  have hbs : ∀ b ∈ v.blocks evs, b.WF := by
    intro b hb
    simp only [NgVariant.blocks, List.mem_append] at hb
    rcases hb with hb | hb | hb
    · exact (hafter b hb).1
    · exact hweave b hb
    · exact (hend b hb).1
  have := read_blocks v.hdr hh (v.blocks evs) hbs [] (by decide)
  rw [List.append_nil] at this
  rw [encode, this, List.filterMap_append, unrelated_events _ hpre, List.nil_append]
  simp only [NgVariant.blocks, List.filterMap_append, unrelated_events _ (fun b hb => (hafter b hb).2),
    unrelated_events _ (fun b hb => (hend b hb).2), weave_events v.deco hdeco 0 evs, List.nil_append, List.append_nil]

/-- `reader_roundtrip`, legacy half (the reader `-l` selects): packets in order with
    `(ticks mod U, U, ticks div U)` for `U = 10^6` or `10^9`; libpcap cannot carry secrets, so those events are absent.
    For the nanosecond magic the item is flagged `decimal` (dpkt computes a `Decimal`; main.py must convert it). -/
theorem reader_roundtrip_legacy (v : LegacyVariant) (evs : List Ev) (hwf : v.WF evs) :
    Container.read true (encode (.legacy v) evs) = .ok (evs.filterMap (scale (.legacy v))) :=
  read_legacy v evs hwf

/-- C12, `reader_roundtrip`: for EVERY variant and every event list that fits the variant's fixed-width fields,
    the reader selected for the format yields exactly `scale v` of the events. -/
theorem reader_roundtrip (v : Variant) (evs : List Ev) (hwf : v.WF evs) :
    Container.read v.isLegacy (encode v evs) = .ok (evs.filterMap (scale v)) := by
  cases v with
  | pcapng v =>
    rw [show Variant.isLegacy (.pcapng v) = false from rfl, reader_roundtrip_pcapng v evs hwf]
    congr 1
    clear hwf
    induction evs with
    | nil => rfl
    | cons ev evs ih => simp only [List.map_cons, List.filterMap_cons, scale, ih]
  | legacy v => exact reader_roundtrip_legacy v evs hwf

/-- C12, `skip_unrelated_blocks`: inserting any block that is not an EPB, PB or DSB anywhere after the first IDB
    does not change what the reader yields. -/
theorem skip_unrelated_blocks (h : NgHeader) (hwf : h.WF) (bs₁ bs₂ : List Block) (x : Block)
    (h₁ : ∀ b ∈ bs₁, b.WF) (h₂ : ∀ b ∈ bs₂, b.WF) (hx : x.WF) (hu : x.unrelated) :
    Container.read false (encodeNg h (bs₁ ++ x :: bs₂)) = Container.read false (encodeNg h (bs₁ ++ bs₂)) := by
  have e1 := read_blocks h hwf (bs₁ ++ x :: bs₂)
    (by intro b hb; simp only [List.mem_append, List.mem_cons] at hb
        rcases hb with hb | rfl | hb
        · exact h₁ b hb
        · exact hx
        · exact h₂ b hb) [] (by decide)
  have e2 := read_blocks h hwf (bs₁ ++ bs₂)
    (by intro b hb; simp only [List.mem_append] at hb
        rcases hb with hb | hb
        · exact h₁ b hb
        · exact h₂ b hb) [] (by decide)
  rw [List.append_nil] at e1 e2
  rw [e1, e2]
  simp only [List.filterMap_append, List.filterMap_cons, unrelated_event x hu]

/-- C12, `skip_unrelated_blocks` for a block inserted between the section header and the first IDB, provided it is not itself an
    interface description (type 1): the scan for the IDB skips it by its length field. -/
theorem skip_unrelated_before_idb (h : NgHeader) (hwf : h.WF) (p₁ p₂ : List Block) (hp : h.preIdb = p₁ ++ p₂)
    (ty : Nat) (body : Bytes) (hx : (Block.other ty body).WF) (hty : ty ≠ 1) (bs : List Block) (hbs : ∀ b ∈ bs, b.WF) :
    Container.read false (encodeNg { h with preIdb := p₁ ++ Block.other ty body :: p₂ } bs) =
      Container.read false (encodeNg h bs) := by
  have hwf2 : ({ h with preIdb := p₁ ++ Block.other ty body :: p₂ } : NgHeader).WF := by
    obtain ⟨a1, a2, a3, a4, a5, a6, a7, a8, a9, a10, a11, a12⟩ := hwf
    refine ⟨a1, a2, a3, a4, ?_, a6, a7, a8, a9, a10, a11, a12⟩
    intro b hb
    simp only [List.mem_append, List.mem_cons] at hb
    rcases hb with hb | rfl | hb
    · exact a5 b (by rw [hp]; simp [hb])
    · exact ⟨hx, hty⟩
    · exact a5 b (by rw [hp]; simp [hb])
  have e1 := read_blocks _ hwf2 bs hbs [] (by decide)
  have e2 := read_blocks h hwf bs hbs [] (by decide)
  rw [List.append_nil] at e1 e2
  rw [e1, e2, hp]
  simp only [List.filterMap_append, List.filterMap_cons, Block.event]
  rfl

/-- C12 at the level of the reader: whatever the container variant, the reader delivers THE CAPTURE — the same
    packets in the same order with exactly the same instants (as the integer triple handed to the one scaling
    expression) and the same secrets. Two variants of one capture therefore differ in nothing but the
    representation `(ticks, divisor, offset)` of each instant (see `same_instant_any_two_variants`). -/
theorem container_independent (v : Variant) (cap : List CEv) (evs : List Ev) (hwf : v.WF evs)
    (hrep : Zip (represents v) cap evs) :
    ∃ out, Container.read v.isLegacy (encode v evs) = .ok out ∧ Zip delivers (keep v cap) out := by
  refine ⟨_, reader_roundtrip v evs hwf, ?_⟩
  clear hwf
  induction hrep with
  | nil => cases v <;> exact Zip.nil
  | @cons c ev cs evs' hce _ ih =>
    cases v with
    | pcapng v =>
      simp only [keep, List.filterMap_cons, scale] at ih ⊢
      refine Zip.cons ?_ ih
      cases c <;> cases ev <;> simp_all [represents, delivers, NgHeader.item, Time.num]
    | legacy v =>
      cases c with
      | pkt num den data =>
        cases ev with
        | pkt ticks data' =>
          obtain ⟨hd, hi⟩ := hce
          simp only [keep, List.filter_cons, List.filterMap_cons, scale, if_true] at ih ⊢
          refine Zip.cons ⟨hd, ?_⟩ ih
          simp only [Time.num, LegacyVariant.unitsPerSecond] at hi ⊢
          have hdm : ((ticks / (if v.nano then 10 ^ 9 else 10 ^ 6 : Nat) : Nat) : Int) * ((if v.nano then 10 ^ 9 else 10 ^ 6 : Nat) : Int)
              + ((ticks % (if v.nano then 10 ^ 9 else 10 ^ 6 : Nat) : Nat) : Int) = (ticks : Int) := by
            have := Nat.div_add_mod ticks (if v.nano then 10 ^ 9 else 10 ^ 6)
            rw [Nat.mul_comm] at this
            exact_mod_cast this
          rw [hdm]; exact hi
        | dsb s => exact absurd hce (by simp [represents])
      | dsb s =>
        cases ev with
        | pkt t d => exact absurd hce (by simp [represents])
        | dsb s' =>
          simp only [keep, List.filter_cons, List.filterMap_cons, scale] at ih ⊢
          exact ih

/-- Two delivered items of the same capture packet denote the same instant: cross-multiplied equality of the two
    exact rationals `(offset·divisor + ticks)/divisor`. -/
theorem same_instant_any_two_variants (num den : Nat) (hden : 0 < den) (data : Bytes) (t₁ t₂ : Time) (d₁ d₂ : Bytes)
    (h₁ : delivers (.pkt num den data) (.pkt t₁ d₁)) (h₂ : delivers (.pkt num den data) (.pkt t₂ d₂)) :
    d₁ = d₂ ∧ Time.num t₁ * t₂.divisor = Time.num t₂ * t₁.divisor := by
  obtain ⟨e1, i1⟩ := h₁
  obtain ⟨e2, i2⟩ := h₂
  refine ⟨by rw [e1, e2], ?_⟩
  have hd : (den : Int) ≠ 0 := by omega
  apply Int.eq_of_mul_eq_mul_right hd
  calc Time.num t₁ * ↑t₂.divisor * ↑den = (Time.num t₁ * ↑den) * ↑t₂.divisor := by
        rw [Int.mul_assoc, Int.mul_comm (↑t₂.divisor) (↑den), ← Int.mul_assoc]
    _ = (↑num * ↑t₁.divisor) * ↑t₂.divisor := by rw [i1]
    _ = (↑num * ↑t₂.divisor) * ↑t₁.divisor := by
        rw [Int.mul_assoc, Int.mul_comm (↑t₁.divisor) (↑t₂.divisor), ← Int.mul_assoc]
    _ = (Time.num t₂ * ↑den) * ↑t₁.divisor := by rw [i2]
    _ = Time.num t₂ * ↑t₁.divisor * ↑den := by
        rw [Int.mul_assoc, Int.mul_comm (↑den) (↑t₁.divisor), ← Int.mul_assoc]

/-! ### the floating-point residue (stated, NOT proved; validated at run time) -/

/-- The claim the kernel does not prove: for every timestamp triple in the realistic domain (resolution 10^-k, k ≤ 9,
    or 2^-k, k ≤ 33; |offset| < 2^31 s; ticks/divisor < 2^31 s; instant in [0, 2^31) s and a whole number `k` of
    microseconds), Python's double
    `offset + ticks / float(divisor)` followed by dpkt's `round(ts * 1e6)` gives exactly `k` — hence the same
    microsecond in every container variant.  `harness/c12.py` executes `Time.toFloat`/`usOfFloat` bit for bit against
    CPython and samples this statement on adversarial instants on every run.  Outside this domain the claim is FALSE
    (found by that sampling): if_tsresol 10^-7, if_tsoffset −1000, ticks 21474846460834790 is the instant
    2147483646.083479 s but is exported as …480 µs, because the quotient exceeds 2^31 s where a double resolves 0.48 µs. -/
def ts_us_invariant_statement : Prop :=
  ∀ (t : Time) (k : Nat), t.decimal = false →
    ((∃ j, j ≤ 9 ∧ t.divisor = 10 ^ j) ∨ (∃ j, j ≤ 33 ∧ t.divisor = 2 ^ j)) →
    t.ticks < 2 ^ 64 → t.ticks < 2 ^ 31 * t.divisor → t.offset.natAbs < 2 ^ 31 → k < 2 ^ 31 * 10 ^ 6 →
    Time.num t * 10 ^ 6 = (k : Int) * t.divisor →
    usOfFloat t.toFloat = k

deriving instance DecidableEq for Except

/-! ### non-vacuity: concrete variants and events, every hypothesis satisfied, evaluated by the kernel -/

/-- big-endian, 2^-10 s resolution, offset −3 s, options and unrelated blocks everywhere, an obsolete PB -/
def exHdr : NgHeader :=
  { e := .be, shbOpts := ⟨[⟨1, [0x68, 0x69]⟩, ⟨4, [0x63, 0x31, 0x32]⟩], true⟩,
    preIdb := [nrb .be [(1, [10, 0, 0, 1, 0x68, 0])] {}],
    idbOptsBefore := [⟨2, [0x65, 0x74, 0x68, 0x30]⟩], tsresol := some (.bin 10), tsoffset := some (-3),
    idbOptsAfter := [⟨12, [0x4c]⟩] }

def exVariant : NgVariant :=
  { hdr := exHdr, afterIdb := [isb .be 0 7 {}],
    deco := fun i => { before := if i = 1 then [custom .be true 32473 [1, 2, 3] {}] else [],
                       usePb := i = 2, extraLen := i, opts := if i = 0 then ⟨[⟨1, [0x70]⟩], true⟩ else {} },
    atEnd := [spb .be 5 [9, 9, 9, 9, 9]] }

def exEvs : List Ev := [.pkt 4608 [0xde, 0xad, 0xbe], .dsb [0x43, 0x4c, 0x49], .pkt (2 ^ 40 + 1) []]

example : Container.read false (encode (.pcapng exVariant) exEvs) =
    .ok [.pkt ⟨4608, 1024, -3, false⟩ [0xde, 0xad, 0xbe], .dsb [0x43, 0x4c, 0x49], .pkt ⟨2 ^ 40 + 1, 1024, -3, false⟩ []] := by
  decide +kernel

example : (Variant.pcapng exVariant).WF exEvs := by
  refine ⟨by decide +kernel, by decide +kernel, by decide +kernel, by decide +kernel, ?_, by decide +kernel⟩
  intro i b hb
  simp only [exVariant] at hb
  split at hb
  · simp only [List.mem_singleton] at hb; subst hb; decide +kernel
  · cases hb

/-- little-endian nanosecond libpcap -/
def exLegacy : LegacyVariant := { e := .le, nano := true }

example : Container.read true (encode (.legacy exLegacy) exEvs) =
    .ok [.pkt ⟨4608, 10 ^ 9, 0, true⟩ [0xde, 0xad, 0xbe], .pkt ⟨(2 ^ 40 + 1) % 10 ^ 9, 10 ^ 9, 1099, true⟩ []] := by
  decide +kernel

example : (Variant.legacy exLegacy).WF exEvs := by
  refine ⟨by decide, by decide, by decide, by decide, by decide, ?_⟩
  simp only [exEvs, LegacyVariant.WFfrom, LegacyVariant.unitsPerSecond, exLegacy]
  decide

/-- the two containers above deliver the same instant for the first packet: 4608/1024 − 3 = 1.5 s = 1 500 000 000 ns …
    (legacy event written with the ticks of ITS variant) -/
example : delivers (.pkt 3 2 [0xde]) (.pkt ⟨4608, 1024, -3, false⟩ [0xde]) ∧
    delivers (.pkt 3 2 [0xde]) (.pkt ⟨500000000, 10 ^ 9, 1, true⟩ [0xde]) :=
  ⟨⟨rfl, by decide⟩, ⟨rfl, by decide⟩⟩

/-- malformed inputs are errors, not silent defaults: total length 3 (`read(-5)`), bad byte-order magic -/
example : Container.read false (encode (.pcapng {}) [] ++ enc .le 4 6 ++ enc .le 4 3) = .error .readNeg := by
  decide +kernel
example : Container.read false (enc .le 4 0x0A0D0D0A ++ List.replicate 24 0) = .error .endian := by decide +kernel

end TLX.Props.C12
