/-
C06 (TCP half) — every exported TCP conversation opens with a three-way handshake and carries its data in gap-free,
non-overlapping sequence space with consistent acknowledgements, so that a standard reassembler recovers exactly the
exported streams; a record of n bytes carried by k input packets is re-split into at most k segments whose
concatenation is the record.
-/
import TLX.Lemmas.TcpOutData
import TLX.Spec.TcpReassemble
namespace TLX.Props.C06
open TLX TLX.TcpOut TLX.Spec

theorem equalParts_length (d : Bytes) (pl m : Nat) : (equalParts d pl m).length = m := by
  induction m with
  | zero => rfl
  | succ m ih => simp [equalParts, ih]

theorem equalParts_flatten (d : Bytes) (pl m : Nat) :
    (equalParts d pl m).flatten = d.take (m * pl) := by
  induction m with
  | zero => simp [equalParts]
  | succ m ih =>
    simp only [equalParts, List.flatten_append, ih, List.flatten_cons, List.flatten_nil, List.append_nil,
      Bytes.slice]
    rw [Nat.succ_mul, List.take_add]
    congr 2
    omega

/-- C06: a record of `n` bytes carried by `k ≥ 1` packets is re-split into parts whose concatenation is the record -/
theorem parts_flatten (d : Bytes) (k : Nat) (ps : List Bytes) (h : parts d k = some ps) : ps.flatten = d := by
  unfold parts at h
  split at h
  · exact absurd h (by simp)
  · rename_i hk
    simp only [Option.some.injEq] at h
    subst h
    have hle : (k - 1) * (d.length / k) ≤ d.length := by
      have h1 : (k - 1) * (d.length / k) ≤ k * (d.length / k) := Nat.mul_le_mul_right _ (by omega)
      have h2 : k * (d.length / k) ≤ d.length := Nat.mul_div_le _ _
      omega
    rw [List.flatten_append, equalParts_flatten]
    split
    · simp [List.take_append_drop]
    · rename_i hlt
      have : (k - 1) * (d.length / k) = d.length := by omega
      simp [this]

/-- C06: the re-split of a record carried by `k` packets has at most `k` parts -/
theorem parts_length_le (d : Bytes) (k : Nat) (ps : List Bytes) (h : parts d k = some ps) : ps.length ≤ k := by
  unfold parts at h
  split at h
  · exact absurd h (by simp)
  · simp only [Option.some.injEq] at h
    subst h
    rw [List.length_append, equalParts_length]
    split <;> simp <;> omega

/-- bytes a list of records contributes to one direction -/
def dirBytes (fromServer : Bool) (recs : List Rec) : Bytes :=
  (recs.filter (·.fromServer == fromServer)).flatMap Rec.bytes

theorem dirBytes_cons (d : Bool) (r : Rec) (rs : List Rec) :
    dirBytes d (r :: rs) = (if r.fromServer = d then r.bytes else []) ++ dirBytes d rs := by
  by_cases hd : r.fromServer = d <;> simp [dirBytes, hd]

theorem step_data_c (c n : Nat) (a b : Bytes) (t : Nat) (p : Bytes) :
    reasmStep (some ⟨c, n, a, b⟩) ⟨t, false, 0x18, c, n, p⟩ = some ⟨c + p.length, n, a ++ p, b⟩ := by
  simp [reasmStep]

theorem step_data_s (c n : Nat) (a b : Bytes) (t : Nat) (p : Bytes) :
    reasmStep (some ⟨c, n, a, b⟩) ⟨t, true, 0x18, n, c, p⟩ = some ⟨c, n + p.length, a, b ++ p⟩ := by
  simp [reasmStep]

theorem step_ack_c (c n : Nat) (a b : Bytes) (t : Nat) :
    reasmStep (some ⟨c, n, a, b⟩) ⟨t, false, 0x10, c, n, []⟩ = some ⟨c, n, a, b⟩ := by
  simp [reasmStep]

theorem step_ack_s (c n : Nat) (a b : Bytes) (t : Nat) :
    reasmStep (some ⟨c, n, a, b⟩) ⟨t, true, 0x10, n, c, []⟩ = some ⟨c, n, a, b⟩ := by
  simp [reasmStep]

theorem mem_flatten_length {α : Type} (ps : List (List α)) (p : List α) (h : p ∈ ps) : p.length ≤ ps.flatten.length := by
  induction ps with
  | nil => cases h
  | cons x xs ih =>
    simp only [List.flatten_cons, List.length_append]
    rcases List.mem_cons.mp h with rfl | h
    · omega
    · have := ih h; omega

theorem recData_spec (r : Rec) (h : r.ts ≠ []) :
    (∀ s ∈ recData r, s.1 = r.fromServer ∧ s.2.1 ∈ r.ts ∧ s.2.2.length ≤ r.bytes.length) ∧
      ∀ d, sentBytes d (recData r) = if r.fromServer = d then r.bytes else [] := by
  unfold recData
  cases hp : parts r.bytes r.ts.length with
  | none => exact absurd (List.eq_nil_of_length_eq_zero ((parts_eq_none _ _).mp hp)) h
  | some ps =>
    have hfl := parts_flatten _ _ _ hp
    have hle := parts_length_le _ _ _ hp
    refine ⟨fun s hs => ?_, fun d => ?_⟩
    · obtain ⟨⟨p, t⟩, hz, rfl⟩ := List.mem_map.mp hs
      have := List.of_mem_zip hz
      exact ⟨rfl, this.2, hfl ▸ mem_flatten_length ps p this.1⟩
    · have hmap : ((ps.zip r.ts).map fun (p, t) => (r.fromServer, t, p)).flatMap (·.2.2) = ps.flatten := by
        rw [List.flatMap_map]
        show (ps.zip r.ts).flatMap (fun x => x.1) = _
        rw [List.flatMap_def, List.map_fst_zip hle]
      unfold sentBytes
      by_cases hd : r.fromServer = d
      · rw [if_pos hd, List.filter_eq_self.mpr, hmap, hfl]
        intro s hs; obtain ⟨x, _, rfl⟩ := List.mem_map.mp hs; simpa using hd
      · rw [if_neg hd, List.filter_eq_nil_iff.mpr]; · rfl
        intro s hs; obtain ⟨x, _, rfl⟩ := List.mem_map.mp hs; simpa using hd

theorem sentBytes_recs (d : Bool) (recs : List Rec) (h : ∀ r ∈ recs, r.ts ≠ []) :
    sentBytes d (recs.flatMap recData) = dirBytes d recs := by
  induction recs with
  | nil => rfl
  | cons r rs ih =>
    rw [List.forall_mem_cons] at h
    rw [List.flatMap_cons, sentBytes_append, (recData_spec r h.1).2, ih h.2, dirBytes_cons]

/-- the spec reassembler accepts the frames of any segment list from the builder's running numbers, ends at the builder's
    numbers, and has appended each direction's bytes -/
theorem segFrames_reasm (ss : List (Bool × Nat × Bytes)) (c n : Nat) (a b : Bytes) :
    (segFrames (c, n) ss).2.foldl reasmStep (some ⟨c, n, a, b⟩) =
        some ⟨c + (sentBytes false ss).length, n + (sentBytes true ss).length,
          a ++ sentBytes false ss, b ++ sentBytes true ss⟩ ∧
      (segFrames (c, n) ss).1 = (c + (sentBytes false ss).length, n + (sentBytes true ss).length) := by
  induction ss generalizing c n a b with
  | nil => simp [segFrames_nil, sentBytes]
  | cons s ss ih =>
    obtain ⟨srv, t, p⟩ := s
    cases srv with
    | true =>
      have := ih c (n + p.length) a (b ++ p)
      simp only [segFrames_cons, partFrames, if_true, List.foldl_append, List.foldl_cons, List.foldl_nil, step_data_s,
        step_ack_c, sentBytes_cons, Bool.true_eq_false, if_false, List.nil_append, List.length_append, this]
      simp [Nat.add_assoc]
    | false =>
      have := ih (c + p.length) n (a ++ p) b
      simp only [segFrames_cons, partFrames, Bool.false_eq_true, if_false, List.foldl_append, List.foldl_cons, List.foldl_nil,
        step_data_c, step_ack_s, sentBytes_cons, if_true, List.nil_append, List.length_append, this]
      simp [Nat.add_assoc]

/-- C06: whatever the record list, the conversation `OutputBuilder.build` emits opens with a three-way handshake,
    is gap-free, non-overlapping and consistently acknowledged (the spec reassembler accepts it), and reassembles to
    exactly the exported streams: the concatenation of the client's resp. the server's record bytes, in order. -/
theorem reassemble_build (recs : List Rec) (fs : List Frame) (h : build recs = some fs) :
    reassemble fs = some (dirBytes false recs, dirBytes true recs) := by
  rcases build_some h with ⟨rfl, rfl⟩ | ⟨t0, _, hts, rfl⟩
  · rfl
  · have := (segFrames_reasm (recs.flatMap recData) 1 1 [] []).1
    simp only [sentBytes_recs _ _ hts, List.nil_append] at this
    simp [handshake, reassemble, handshakeOk, this]

/-- the builder raises only for a record without carrier packets (reassembly never produces one:
    `Lemmas.Pipeline.released_carriers`) -/
theorem build_total (recs : List Rec) (h : ∀ r ∈ recs, r.ts ≠ []) : (build recs).isSome := by
  unfold build
  cases recs with
  | nil => rfl
  | cons r rs =>
    cases hts : r.ts with
    | nil => exact absurd hts (h r (by simp))
    | cons t0 tl => simp only [bodyFrames_eq, if_pos h, hts]; rfl

-- Non-vacuity: a concrete conversation (a 5-byte client record carried by 2 packets, a 3-byte server record)
example : build [⟨some [1, 2, 3, 4, 5], [100, 101], false⟩, ⟨some [9, 8, 7], [102], true⟩] ≠ none := by decide
example : (build [⟨some [1, 2, 3, 4, 5], [100, 101], false⟩, ⟨some [9, 8, 7], [102], true⟩]).bind reassemble
    = some ([1, 2, 3, 4, 5], [9, 8, 7]) := by decide
example : parts [1, 2, 3, 4, 5] 2 = some [[1, 2], [3, 4, 5]] := by decide
example : parts [1] 3 = some [[], [], [1]] := by decide

end TLX.Props.C06
