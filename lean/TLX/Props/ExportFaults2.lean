/-
C03, prefix clause: what the victim exports under the fault kinds other than `cut-after` (that one: `Props/ExportFaults.lean`).

1. TLS, MISSING SEGMENTS (`delete`, a `shorten`ed / truncated tail, several holes)
   `sub_delivery_releases_prefix`, `delete_releases_prefix` (one direction of `Reassembly`): whatever copies of the stream's
   segments the capture shows — some missing, some retransmitted (a retransmission of a missing segment fills the hole),
   duplicates, any order — the records handed on are the first `n` records of the stream (from `Props.C05.reassembly_of_cut`).
   `conv_direction_run`: a conversation's direction hands the session what `Reassembly.run` releases for that direction.
   `erased_prefix_exports_prefix` (`Session.run_carriers`: the session never looks at carrier lists): if the records released
   under the fault are, bytes and directions, the first ones released without it, every direction exports a byte PREFIX.
   `export_victim_delete_tls`: that holds when everything behind the fault runs in ONE direction (a transfer; the
   receiver's pure ACKs never reach the session); `tlsConvs_single_flow` links the conversation object to the main loop.
   NOT covered: a hole in one direction while the OTHER direction goes on releasing records — then the combined record list
   is not a list prefix, and a per-direction prefix would need the independence of the two directions inside `Session.run`
   (false in general: a missing ClientHello silences the server side too); oracle only.
2. TLS, CAPTURE STARTS MID-CONNECTION (`cut-before`), lost handshake records
   `keyless_run` (no record taken for a ServerHello behind one taken for a ClientHello), with its two cases `headless_run`
   (no record taken for a ClientHello) and `no_serverHello_run` (none taken for a ServerHello), for every decryptor:
   `Keyless` — no decryptor, no application entry, only verbatim metadata entries; `export_victim_headless_tls`: the
   conversation exports no plaintext, and without `-a` nothing at all. (A released record whose first body byte happens to
   be 1 / 2 and whose type is 22 IS taken for a hello while no ChangeCipherSpec was seen — the hypothesis is on what the
   reassembler releases, not on what the sender meant.)
3. QUIC, LOST DATAGRAMS in the established 1-RTT phase (`delete`, a missing stretch, `cut-before` behind the handshake)
   `quic_loss_subsequence`: the thinned history is conformant from the session's point of view (`Send1`: packet-number
   windows `PnLenOk` = `C16.pn_decode_window`, key phase at most one generation ahead, DCID issued in a captured frame) ⇒ the
   export is exactly the remaining STREAM datagrams, a subsequence of the complete export. Losses INSIDE the handshake (the
   ServerHello datagram, a CRYPTO fragment of the ClientHello): `Props/C02Loss` (`dead_run`: only frames of Initial-type
   packets are exported, as long as the keys derivable without the lost datagram are not the senders'), at the level of
   `Quic.Session`, not lifted to `quicFrames`.

`make_faults` kind                       victim's own clause
  cut-after                              ExportFaults.export_victim_cut_tls / _quic
  delete, shorten (TLS)                  sub_delivery_releases_prefix (records), export_victim_delete_tls (bytes, one-direction
                                         tail); other direction active behind the hole: oracle
  cut-before (TLS)                       export_victim_headless_tls (no plaintext)
  unknown-suite, no-keys, drop-keys      `C03.keyless_exports_no_app` at session level (`NeverInstalls`); whole program: oracle
  delete, cut-before (QUIC, 1-RTT)       quic_loss_subsequence
  delete, cut-before (QUIC, handshake)   `Props/C02Loss` (session level); whole program: oracle
  bitflip, overwrite, wrong-keys         oracle (what a damaged record decrypts to is the AEAD's business)
-/
import TLX.Props.ExportFaults
import TLX.Lemmas.Capstone
import TLX.Props.C03
import TLX.Props.C02Capstone
import TLX.Lemmas.ExportSeg
namespace TLX.Props.ExportFaults2
open TLX TLX.MainLoop

section Reasm
open TLX.Reassembly TLX.Spec.TlsFraming TLX.Lemmas.ModSeq TLX.Lemmas.ReasmSort TLX.Lemmas.ReasmInv TLX.Lemmas.Framing
open TLX.Lemmas.Delivery TLX.Props.C05

/-- **A hole releases nothing behind it — more generally: whatever is missing, what is released is a prefix.** One
    direction of a connection: `str` the byte stream sent (whole records), `chunks` any cut of it into segments. The
    capture shows ANY list of copies of these segments — some missing (lost, deleted from the capture), some repeated
    (retransmissions: a retransmitted copy of a missing segment fills the hole), in any order —, with the one condition of
    `C05.reassembly_exact_partial`: nothing is handed on before the segment that starts the stream has been captured. Then
    the records handed on are the first `n` records of the stream, for some `n`: never a record behind a hole, never a
    record twice, never in another order. (The reassembler as repaired tracks the next expected sequence number.) -/
theorem sub_delivery_releases_prefix (isn : Nat) (str : Bytes) (chunks : List Bytes) (segs : List Seg)
    (hcut : IsCut str chunks) (hw : WholeRecords str) (hlen : str.length ≤ 2 ^ 31)
    (hcopy : ∀ p ∈ segs, wire p ∈ segsOf isn 0 chunks) (hearly : NoEarlyDelivery isn segs) :
    ∃ n, (run segs).map (·.1) = (frame str).take n :=
  (reassembly_of_cut isn str chunks segs hcut hw hlen hcopy hearly).1

/-- `sub_delivery_releases_prefix` in the delivery domain of `C05.reassembly_exact_partial`: `segs` any delivery of the
    stream (cuts, duplicates, displacement), `segs'` what is left of it after removing ANY packets (the fault `delete`, a
    truncated tail, several holes), provided the first captured packet is still the one that starts the stream. The
    unfaulted capture releases all records (`C05.reassembly_exact_first_in_place`), the faulted one a prefix of them. -/
theorem delete_releases_prefix (k isn : Nat) (str : Bytes) (segs segs' : List Seg)
    (hd : Delivers k isn str (segs.map wire)) (hsub : ∀ p ∈ segs', p ∈ segs) (hw : WholeRecords str)
    (hlen : str.length ≤ 2 ^ 31) (hfirst : ∀ s, segs'.head? = some s → s.seq = isn % 2 ^ 32) :
    ∃ n, (run segs').map (·.1) = (frame str).take n := by
  obtain ⟨chunks, hcut, hmem⟩ := delivers_mem hd
  apply sub_delivery_releases_prefix isn str chunks segs' hcut hw hlen
  · intro p hp
    exact (hmem (wire p)).mp (List.mem_map_of_mem (hsub p hp))
  · exact noEarly_of_head isn segs' hfirst

end Reasm

section Conv
open TLX.Lemmas.Pipeline TLX.Lemmas.Capstone TLX.Props.C01Pipeline

variable (H : Crypto.Prims) (P : Cipher.Prims) (info : Nat → Pipeline.Info)

/-- a released record as far as the session's decisions go: its bytes and its direction -/
def erase (r : Session.Rec × Bool) : Bytes × Bool := (r.1.raw, r.2)

/-- the raw records of direction `d` among the released records, in order -/
def dirRaw (d : Bool) (recs : List (Session.Rec × Bool)) : List Bytes := (recs.filter fun r => r.2 == d).map (·.1.raw)

/-- the records a conversation's direction `d` hands to the session are what `Reassembly.run` releases for the TCP segments
    of that direction -/
theorem conv_direction_run (c : Pipeline.Conn) (d : Bool) (hne : ∀ p ∈ c.pkts, p.payload ≠ []) :
    dirRaw d (connRecs info c) = (Reassembly.run (dirSegs info c.server d c.pkts)).map (·.1) := by
  refine released_dir_run info c.server (Reassembly.St.init, Reassembly.St.init) c.pkts d (by cases d <;> rfl) ?_
  intro p hp
  obtain ⟨q, hq, rfl⟩ := List.mem_map.mp hp
  exact hne q (List.mem_filter.mp hq).1

/-- the streams the exported conversation reassembles to: per direction, the concatenation of what the session put into
    `application_traffic` (`C06.reassemble_build`) -/
def convStreams (c : Pipeline.Conn) (kl : List Keylog.Key) : Bytes × Bytes :=
  let recs := (Session.run (Pipeline.ops H P kl) c.opts.metadata Session.St.init (connRecs info c)).traffic.map
    (toRec fun id => (info id).ts)
  (Props.C06.dirBytes false recs, Props.C06.dirBytes true recs)

theorem convStreams_spec (c : Pipeline.Conn) (kl : List Keylog.Key) :
    ∃ fs, Pipeline.connOut H P info c kl = some (fs.map (Pipeline.addressed c.opts c)) ∧
      TLX.Spec.reassemble fs = some (convStreams H P info c kl) := by
  have hsome := (connOut_never_raises H P info c kl).2.2
  rw [connOut_eq, Option.isSome_map] at hsome
  obtain ⟨fs, hfs⟩ := Option.isSome_iff_exists.mp hsome
  refine ⟨fs, by rw [connOut_eq, hfs]; rfl, ?_⟩
  exact Props.C06.reassemble_build _ fs hfs

theorem dirBytes_prefix' (d : Bool) {a b : List TcpOut.Rec} (h : a <+: b) :
    Props.C06.dirBytes d a <+: Props.C06.dirBytes d b := by
  obtain ⟨t, rfl⟩ := h
  simp only [Props.C06.dirBytes, List.filter_append, List.flatMap_append]
  exact List.prefix_append _ _

/-- **What a conversation exports depends on the bytes and directions of the released records only, monotonically.** Two
    conversation objects (same `-a` flag) such that the records released for `c'` are, bytes and directions, the first
    ones released for `c`: per direction the stream `c'` exports is a byte PREFIX of the stream `c` exports. -/
theorem erased_prefix_exports_prefix (c c' : Pipeline.Conn) (kl : List Keylog.Key)
    (hm : c'.opts.metadata = c.opts.metadata)
    (hrel : (connRecs info c').map erase <+: (connRecs info c).map erase) :
    (convStreams H P info c' kl).1 <+: (convStreams H P info c kl).1 ∧
    (convStreams H P info c' kl).2 <+: (convStreams H P info c kl).2 := by
  -- the records released for `c'` are, up to carriers, the first ones released for `c`: same session state up to carriers
  have hk : Session.keys (connRecs info c') = Session.keys ((connRecs info c).take (connRecs info c').length) := by
    have e : ∀ M : List (Session.Rec × Bool), Session.keys M = (M.map erase).map fun x => ((⟨x.1, []⟩ : Session.Rec), x.2) := by
      intro M; rw [List.map_map]; rfl
    rw [e, e, List.map_take, List.prefix_iff_eq_take.mp hrel, List.length_map]
  have he : (Session.run (Pipeline.ops H P kl) c.opts.metadata Session.St.init (connRecs info c')).traffic.map
        Session.Entry.erase = (Session.run (Pipeline.ops H P kl) c.opts.metadata Session.St.init
          ((connRecs info c).take (connRecs info c').length)).traffic.map Session.Entry.erase :=
    congrArg (·.traffic) (Session.run_carriers (Pipeline.ops H P kl) (Lemmas.ExportSeg.ops_rawOnly H P kl)
      c.opts.metadata _ _ hk)
  have key : ∀ d, Props.C06.dirBytes d
        ((Session.run (Pipeline.ops H P kl) c'.opts.metadata Session.St.init (connRecs info c')).traffic.map
          (toRec fun id => (info id).ts)) <+:
      Props.C06.dirBytes d
        ((Session.run (Pipeline.ops H P kl) c.opts.metadata Session.St.init (connRecs info c)).traffic.map
          (toRec fun id => (info id).ts)) := by
    intro d
    rw [hm, Lemmas.ExportSeg.dirBytes_traffic, Lemmas.ExportSeg.exported_erase, he, ← Lemmas.ExportSeg.exported_erase,
      ← Lemmas.ExportSeg.dirBytes_traffic]
    exact dirBytes_prefix' d (List.IsPrefix.map _ (Props.C08.session_prefix_monotone _ _ _ _ _))
  exact ⟨key false, key true⟩

theorem released_all_dir (server : Endpoint) (d : Bool) (T : List Pkt) (hT : ∀ p ∈ T, (p.src == server) = d) :
    ∀ R, ∀ r ∈ released info server R T, r.2 = d := by
  induction T with
  | nil => intro R r hr; simp [released] at hr
  | cons p T ih =>
    intro R r hr
    simp only [released, List.mem_append] at hr
    rcases hr with hr | hr
    · simp only [reasmPkt, List.mem_map] at hr
      obtain ⟨q, _, rfl⟩ := hr
      exact hT p (by simp)
    · exact ih (fun q hq => hT q (by simp [hq])) _ r hr

theorem dirRaw_append (d : Bool) (a b : List (Session.Rec × Bool)) : dirRaw d (a ++ b) = dirRaw d a ++ dirRaw d b := by
  simp [dirRaw]

/-- records of one direction are told apart by their bytes alone -/
theorem erase_of_dir (d : Bool) (l : List (Session.Rec × Bool)) (h : ∀ r ∈ l, r.2 = d) :
    l.map erase = (dirRaw d l).map fun b => (b, d) := by
  unfold dirRaw
  rw [List.filter_eq_self.mpr fun r hr => by rw [h r hr]; exact beq_self_eq_true d, List.map_map]
  exact List.map_congr_left fun r hr => by rw [← h r hr]; rfl

/-- **C03, prefix clause, TLS victim, missing segments in the tail (`delete`, `shorten` of the last segments).** The
    victim's conversation `c` holds the packets `A ++ T`; under the fault it holds `A ++ T'` (the same object otherwise).
    `T` and `T'` are packets of ONE direction `d` (a transfer in one direction: the other side's pure ACKs carry no payload
    and never reach the session). `hfull` / `hsub`: what direction `d`'s reassembler releases without and with the fault —
    all records `rs`, resp. the first `n` of them (`delete_releases_prefix`: any packets of `T` missing in `T'`,
    retransmissions included). Then per direction the stream the faulted conversation exports is a byte PREFIX of the
    stream the unfaulted one exports (`convStreams_spec`: what the exported frames reassemble to). -/
theorem export_victim_delete_tls (c : Pipeline.Conn) (A T T' : List Pkt) (kl : List Keylog.Key) (d : Bool)
    (rs : List Bytes) (n : Nat) (hc : c.pkts = A ++ T)
    (hT : ∀ p ∈ T, (p.src == c.server) = d) (hT' : ∀ p ∈ T', (p.src == c.server) = d)
    (hne : ∀ p ∈ A ++ T, p.payload ≠ []) (hne' : ∀ p ∈ A ++ T', p.payload ≠ [])
    (hfull : (Reassembly.run (dirSegs info c.server d (A ++ T))).map (·.1) = rs)
    (hsub : (Reassembly.run (dirSegs info c.server d (A ++ T'))).map (·.1) = rs.take n) :
    (convStreams H P info { c with pkts := A ++ T' } kl).1 <+: (convStreams H P info c kl).1 ∧
    (convStreams H P info { c with pkts := A ++ T' } kl).2 <+: (convStreams H P info c kl).2 := by
  obtain ⟨opts, server, client, sm, cm, v6, pkts⟩ := c
  simp only at hc hT hT' hfull hsub
  subst hc
  apply erased_prefix_exports_prefix H P info ⟨opts, server, client, sm, cm, v6, A ++ T⟩
    ⟨opts, server, client, sm, cm, v6, A ++ T'⟩ kl rfl
  have e1 := conv_direction_run info ⟨opts, server, client, sm, cm, v6, A ++ T⟩ d hne
  have e2 := conv_direction_run info ⟨opts, server, client, sm, cm, v6, A ++ T'⟩ d hne'
  simp only [hfull, hsub, connRecs] at e1 e2
  simp only [connRecs]
  rw [released_append] at e1 e2 ⊢
  rw [released_append]
  rw [dirRaw_append] at e1 e2
  rw [List.map_append, List.map_append, List.prefix_append_right_inj,
    erase_of_dir d _ (released_all_dir info server d T hT _), erase_of_dir d _ (released_all_dir info server d T' hT' _)]
  refine List.IsPrefix.map _ ((List.prefix_append_right_inj (dirRaw d (released info server
    (Reassembly.St.init, Reassembly.St.init) A))).mp ?_)
  rw [e1, e2]
  exact List.take_prefix _ _

end Conv

section Headless
open TLX.Session TLX.Props.C03

variable {δ : Type}

/-- a record `handle_tls_handshake_record` takes for a hello of type `t` (1 = ClientHello, 2 = ServerHello) when no
    ChangeCipherSpec has been seen: content type 22 and first body byte `t` -/
def LooksHello (t : UInt8) (r : Rec) : Prop := r.typ = some 0x16 ∧ r.body.head? = some t

/-- what holds of a session that has no decryptor: nothing decrypted, every entry of `application_traffic` is a metadata
    entry carrying the record verbatim -/
def Keyless (s : St δ) : Prop :=
  s.dec = none ∧ ∀ e ∈ s.traffic, e.isApp = false ∧ e.data = some e.record.raw

theorem keyless_pushMeta (m : Bool) (s : St δ) (r : Rec) (srv : Bool) (h : Keyless s) : Keyless (pushMeta m s r srv) := by
  cases m
  · exact h
  · refine ⟨h.1, ?_⟩
    intro e he
    rcases List.mem_append.mp he with he | he
    · exact h.2 e he
    · rw [List.mem_singleton.mp he]; exact ⟨rfl, rfl⟩

theorem keyless_of_eq {a b : St δ} (hd : a.dec = b.dec) (ht : a.traffic = b.traffic) (h : Keyless b) : Keyless a :=
  ⟨hd.trans h.1, by rw [ht]; exact h.2⟩

/-- One record through a session without decryptor. The decryptor is made in `handle_tls_server_hello` and nowhere else,
    and there `generate_keys` reads `self.client_random`: the session stays without decryptor as long as a record taken for
    a ServerHello meets no client random. `client_random` is written by `handle_tls_client_hello` only. -/
theorem handleRecord_keyless (O : Ops δ) (m : Bool) (s : St δ) (r : Rec) (srv : Bool) (h : Keyless s)
    (hsh : LooksHello 0x02 r → s.cr = none) :
    Keyless (handleRecord O m s r srv) ∧ (¬ LooksHello 0x01 r → (handleRecord O m s r srv).cr = s.cr) := by
  have push : ∀ s1 : St δ, FlagsOf s s1 →
      Keyless (pushMeta m s1 r srv) ∧ (¬ LooksHello 0x01 r → (pushMeta m s1 r srv).cr = s.cr) :=
    fun s1 hf => ⟨keyless_pushMeta m s1 r srv (keyless_of_eq (congrArg St.dec hf :) (congrArg St.traffic hf :) h),
      fun _ => (congrArg Core.cr (pushMeta_core m s1 r srv)).trans (congrArg St.cr hf :)⟩
  rw [handleRecord_eq]
  by_cases h16 : r.typ = some 0x16
  · rw [if_pos h16]
    rcases handshakeRecord_no_dec O m s r srv h.1 with e | ⟨hb, e⟩ | ⟨hb, e⟩
    · rw [e]; exact push s rfl
    · rw [e]
      exact ⟨keyless_pushMeta m _ r srv (keyless_of_eq rfl rfl h), fun hn => absurd ⟨h16, hb⟩ hn⟩
    · obtain ⟨x, hs, hf⟩ := serverHello_no_cr O s r (hsh ⟨h16, hb⟩)
      rw [e, hs]
      exact push _ (hf.trans rfl)
  rw [if_neg h16]
  by_cases h17 : r.typ = some 0x17
  · rw [if_pos h17, appRecord_closed O s r srv (by rw [h.1]; exact Bool.and_false _)]
    exact ⟨h, fun _ => rfl⟩
  rw [if_neg h17]
  let Q : St δ → Prop := fun x => Keyless x ∧ (¬ LooksHello 0x01 r → x.cr = s.cr)
  exact ite_rec Q (push _ (alertRecord_flags s r)) (ite_rec Q (push _ (ccsRecord_flags s srv)) ⟨h, fun _ => rfl⟩)

/-- **No decryptor without a ServerHello behind a ClientHello.** A decryptor is made only when a record taken for a
    ServerHello meets a client random, and that is written only by a record taken for a ClientHello: a session that is
    handed no ServerHello-looking record behind a ClientHello-looking one stays `Keyless`, for every decryptor behaviour. -/
theorem keyless_run (O : Ops δ) (m : Bool) (rs : List (Rec × Bool))
    (hr : ∀ a x b, rs = a ++ x :: b → LooksHello 0x02 x.1 → ∀ y ∈ a, ¬ LooksHello 0x01 y.1) :
    Keyless (run O m St.init rs) := by
  suffices ∀ s : St δ, Keyless s → (s.cr ≠ none → ∀ x ∈ rs, ¬ LooksHello 0x02 x.1) → Keyless (run O m s rs) from
    this St.init ⟨rfl, fun _ he => nomatch he⟩ fun h => absurd rfl h
  induction rs with
  | nil => intro s h _; exact h
  | cons x rest ih =>
    intro s h hcr
    obtain ⟨h1, h2⟩ := handleRecord_keyless O m s x.1 x.2 h fun hl =>
      Classical.byContradiction fun hc => hcr hc x List.mem_cons_self hl
    have hr' : ∀ a y b, rest = a ++ y :: b → LooksHello 0x02 y.1 → ∀ z ∈ a, ¬ LooksHello 0x01 z.1 :=
      fun a y b e hl z hz => hr (x :: a) y b (by rw [e]; rfl) hl z (List.mem_cons_of_mem _ hz)
    refine ih hr' _ h1 fun hc' y hy hl => ?_
    by_cases hx : LooksHello 0x01 x.1
    · obtain ⟨a, b, e⟩ := List.append_of_mem hy
      exact hr (x :: a) y b (by rw [e]; rfl) hl x List.mem_cons_self hx
    · exact hcr (fun e => hc' ((h2 hx).trans e)) y (List.mem_cons_of_mem _ hy) hl

/-- **A session that never sees a ClientHello exports no plaintext.** Whatever records it is handed — as long as none of
    them is taken for a ClientHello —, for every decryptor behaviour: no decryptor is ever installed (`generate_keys` reads
    `self.client_random`, which does not exist), no application entry is ever made, and `application_traffic` holds only
    metadata entries that carry their record verbatim (with `-a`; without it, nothing). -/
theorem headless_run (O : Ops δ) (m : Bool) (rs : List (Rec × Bool)) (hr : ∀ x ∈ rs, ¬ LooksHello 0x01 x.1) :
    Keyless (run O m St.init rs) :=
  keyless_run O m rs fun a x b e _ y hy => hr y (by rw [e]; exact List.mem_append_left _ hy)

/-- **… and so does a session that sees the ClientHello but never a ServerHello** (the cut removed it, or it is damaged
    beyond recognition): the decryptor is made in `handle_tls_server_hello` and nowhere else. -/
theorem no_serverHello_run (O : Ops δ) (m : Bool) (rs : List (Rec × Bool)) (hr : ∀ x ∈ rs, ¬ LooksHello 0x02 x.1) :
    Keyless (run O m St.init rs) :=
  keyless_run O m rs fun a x b e hl => absurd hl (hr x (by rw [e]; exact List.mem_append_right _ List.mem_cons_self))

theorem keyless_appOf {s : St δ} (h : Keyless s) : appOf s = [] := by
  unfold appOf
  rw [List.filter_eq_nil_iff]
  intro e he
  simp [(h.2 e he).1]

end Headless

section HeadlessConv
open TLX.Session TLX.Props.C03 TLX.Props.C01Pipeline TLX.Lemmas.Pipeline

variable (H : Crypto.Prims) (P : Cipher.Prims) (info : Nat → Pipeline.Info)

/-- **C03, TLS victim, `cut-before` (the capture starts mid-connection) and handshake records lost.** A conversation for
    which the reassemblers release no record that is taken for a ClientHello — the capture starts behind it — or none that
    is taken for a ServerHello: whatever else it carries, whatever the key log,
    * its session installs no decryptor and makes no application entry: NO plaintext and no ciphertext-as-plaintext is
      exported;
    * what `application_traffic` holds (only with `-a`) are the released records verbatim;
    * without `-a` the conversation exports nothing at all: `Session.decrypt()` returns the empty list. -/
theorem export_victim_headless_tls (c : Pipeline.Conn) (kl : List Keylog.Key)
    (hr : (∀ x ∈ connRecs info c, ¬ LooksHello 0x01 x.1) ∨ (∀ x ∈ connRecs info c, ¬ LooksHello 0x02 x.1)) :
    Keyless (Session.run (Pipeline.ops H P kl) c.opts.metadata Session.St.init (connRecs info c)) ∧
    appOf (Session.run (Pipeline.ops H P kl) c.opts.metadata Session.St.init (connRecs info c)) = [] ∧
    (c.opts.metadata = false → Pipeline.connOut H P info c kl = some []) := by
  have hk : ∀ m, Keyless (Session.run (Pipeline.ops H P kl) m Session.St.init (connRecs info c)) := by
    intro m
    rcases hr with hr | hr
    · exact headless_run _ m _ hr
    · exact no_serverHello_run _ m _ hr
  refine ⟨hk _, keyless_appOf (hk _), ?_⟩
  intro hm
  rw [connOut_eq, hm]
  have h2 := Session.run_strip (Pipeline.ops H P kl) (Session.St.init : Session.St RecordLayer.Dec) (connRecs info c)
  have : (Session.run (Pipeline.ops H P kl) false Session.St.init (connRecs info c)).traffic = [] := by
    have h3 : (Session.St.init : Session.St RecordLayer.Dec).strip = Session.St.init := rfl
    rw [h3] at h2
    rw [← h2]
    exact keyless_appOf (hk true)
  rw [this]
  rfl

/-- the link to the main loop: a capture whose TLS-relevant TCP packets are one flow `p0 :: rest` (first packet with a
    server port at one end) yields one conversation — the object made from `p0`, holding `p0 :: rest` -/
theorem tlsConvs_single_flow (o : Opts) (xs : List (Item Keylog.Key)) (p0 : Pkt) (rest : List Pkt)
    (hv : Spec.Demux.tcpView o xs = p0 :: rest) (hflow : ∀ x ∈ rest, Spec.Demux.sameFlow p0 x = true)
    (hc : candidate o p0 = true) :
    Lemmas.ExportProps.tlsConvs H P info o xs =
      [⟨(rolesOf o.ports p0).1, (rolesOf o.ports p0).2,
        { (Pipeline.tlsMachine H P info).new o p0 with pkts := p0 :: rest }⟩] := by
  unfold Lemmas.ExportProps.tlsConvs
  rw [hv, Props.C04.tls_alone_is_run _ o p0 (p0 :: rest) fun x hx =>
    (List.mem_cons.mp hx).elim (fun e => e ▸ Lemmas.MainLoop.sameFlow_refl p0) (hflow x)]
  rw [Spec.Demux.alone, if_pos hc, Lemmas.MainLoop.feedAll_eq, Lemmas.Export.foldl_feed]
  rfl

end HeadlessConv

section QuicLoss
open TLX.Quic TLX.Quic.Session TLX.QuicPipeline TLX.Props.C02Capstone TLX.Props.C02Session TLX.Spec.QuicSender TLX.Cipher

variable (maskFn : Dissect.MaskFn) (H : Crypto.Prims) (Pc : Cipher.Prims) (info : Nat → Pipeline.Info)

theorem expectedOut_sublist (c : QConn) {ds' ds : List Spec.QuicConnection.Dg1} (h : ds'.Sublist ds) :
    (expectedOut c ds').Sublist (expectedOut c ds) := by
  unfold expectedOut
  exact (h.filter _).map _

/-- **C03 / C02, QUIC victim, datagrams lost in the established 1-RTT phase (`delete`, a missing stretch).** An
    established connection `c` (`Est`: both 1-RTT key chains installed) and a conformant history `items` of 1-RTT datagrams
    (`Send1`, distinct capture times per direction). `items'`: what is left when ANY of the datagrams are missing from the
    capture. The one condition (`hsend'`): the thinned history is again a history the sender's rules allow from the
    session's point of view — for every remaining packet, its truncated packet number still decodes against the largest
    number CAPTURED so far (`PnLenOk` = the window of RFC 9000 A.3, exactly the hypotheses of `C16.pn_decode_window`), its
    key phase is at most one generation ahead of what was captured, and its DCID was issued in a captured
    NEW_CONNECTION_ID frame. Then the session exports exactly the remaining datagrams that carry STREAM data — each
    unchanged (payload, time, addressing), in order: a SUBSEQUENCE of what it exports from the complete capture. -/
theorem quic_loss_subsequence (kl : List Keylog.Key) (L : SealLaws Pc) (sel : SuiteSel) (v : Quic.Session.Version)
    (k0 : AppKeys) (hpC hpS : Bytes) (chacha : Bool) (hk : KeysWf (params H Pc kl) sel v k0)
    (items items' : List (List Keylog.Key × MainLoop.Pkt × Spec.QuicConnection.Dg1)) (c : QConn) (gc gs lc ls : Nat) (cc sc : List Bytes)
    (hr : c.raised = none)
    (hest : Est H Pc kl sel v k0 hpC hpS chacha c.st gc gs lc ls cc sc)
    (hprev : ∀ o ∈ c.st.out, UdpOut.exported false (frameOf o) = none)
    (hcar : ∀ x ∈ items, Carries info c (wireOf H Pc L sel v k0) x.2.1 x.2.2)
    (hsend : Send1 maskFn H Pc L sel v k0 hpC hpS chacha gc gs lc ls cc sc (items.map (·.2.2)))
    (htimes : ((items.map (·.2.2)).map fun d => (d.x.ts, d.x.srv)).Pairwise (· ≠ ·))
    (hsub : items'.Sublist items)
    (hsend' : Send1 maskFn H Pc L sel v k0 hpC hpS chacha gc gs lc ls cc sc (items'.map (·.2.2))) :
    let QM := quicMachine maskFn H Pc info
    (feedAll QM c items').raised = none ∧
    QM.out false (feedAll QM c items') = expectedOut c (items'.map (·.2.2)) ∧
    (QM.out false (feedAll QM c items')).Sublist (QM.out false (feedAll QM c items)) := by
  intro QM
  have hsubd : (items'.map (·.2.2)).Sublist (items.map (·.2.2)) := hsub.map _
  have htimes' : ((items'.map (·.2.2)).map fun d => (d.x.ts, d.x.srv)).Pairwise (· ≠ ·) :=
    htimes.sublist (hsubd.map _)
  have full := quic_one_rtt_connection_exact maskFn H Pc info kl L sel v k0 hpC hpS chacha hk items c gc gs lc ls cc sc
    hr hest hprev hcar hsend htimes
  have thin := quic_one_rtt_connection_exact maskFn H Pc info kl L sel v k0 hpC hpS chacha hk items' c gc gs lc ls cc sc
    hr hest hprev (fun x hx => hcar x (hsub.subset hx)) hsend' htimes'
  refine ⟨thin.1, thin.2, ?_⟩
  show (QM.out false (feedAll QM c items')).Sublist (QM.out false (feedAll QM c items))
  rw [thin.2, full.2]
  exact expectedOut_sublist c hsubd

end QuicLoss

namespace Ex
open TLX.Reassembly TLX.Spec.TlsFraming TLX.Props.C05 TLX.Session

/-- three records (handshake, application data, alert) sent as three segments from sequence number 100; the capture
    misses the second one -/
def full3 : List Seg := [⟨1, 100, r1⟩, ⟨2, 105, r2⟩, ⟨3, 111, r3⟩]
def holed : List Seg := [⟨1, 100, r1⟩, ⟨3, 111, r3⟩]

/-- every hypothesis of `delete_releases_prefix` holds; the theorem's conclusion, evaluated: the unfaulted capture releases
    the three records, the holed one the first record only — nothing behind the hole -/
theorem delete_instance :
    Delivers 0 100 (r1 ++ r2 ++ r3) (full3.map wire) ∧ (∀ p ∈ holed, p ∈ full3) ∧ WholeRecords (r1 ++ r2 ++ r3) ∧
    (run full3).map (·.1) = [r1, r2, r3] ∧ (run holed).map (·.1) = [r1] := by
  refine ⟨?_, by decide, whole_r123, by decide +kernel, by decide +kernel⟩
  exact Delivers.cut [r1, r2, r3] ⟨by decide, by decide⟩

/-- the capture of `delete_instance` with a retransmission of the missing segment at the end: the hole is filled, all three
    records are released, in order -/
theorem retransmission_fills_hole :
    (run (holed ++ [(⟨4, 105, r2⟩ : Seg)])).map (·.1) = [r1, r2, r3] := by decide +kernel

/-- a capture that starts behind the ClientHello: a ServerHello-looking record, a ChangeCipherSpec and application data —
    none of them is taken for a ClientHello, so `headless_run` applies: no plaintext -/
def headlessRecs : List (Session.Rec × Bool) :=
  [(⟨[0x16, 3, 3, 0, 4, 2, 0, 0, 0], [7]⟩, true), (⟨[0x14, 3, 3, 0, 1, 1], [8]⟩, true), (⟨[0x17, 3, 3, 0, 2, 9, 9], [9]⟩, true)]

theorem headless_instance : ∀ x ∈ headlessRecs, ¬ LooksHello 0x01 x.1 := by
  intro x hx
  simp only [headlessRecs, List.mem_cons, List.mem_nil_iff, or_false] at hx
  rcases hx with rfl | rfl | rfl <;> simp [LooksHello, Session.Rec.typ, Session.Rec.body]

end Ex

end TLX.Props.ExportFaults2
