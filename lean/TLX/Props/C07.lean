/-
C07 (TCP builder part) — every exported data segment carries the direction of the record whose plaintext it contains
and the capture time of one of the input packets that carried that record (part j ↦ carrier j); the synthetic
handshake carries the time of the first exported record's first carrier.
(Which packets are a record's carriers is `TLX.Props.C05.metadata_is_overlap`; addresses follow from the direction
flag and are compared byte-for-byte against scapy's output by the harness.)
-/
import TLX.Lemmas.TcpOutData
namespace TLX.Props.C07
open TLX TLX.TcpOut

/-- nothing is invented: the data segments are exactly the parts of the records, in record order -/
theorem data_is_records (recs : List Rec) (fs : List Frame) (h : build recs = some fs) :
    dataFrames fs = recs.flatMap recData := by
  rcases build_some h with ⟨rfl, rfl⟩ | ⟨t0, _, _, rfl⟩
  · rfl
  · rw [dataFrames_append, segFrames_data]; rfl

/-- every data segment of the built conversation belongs to some record: same direction, its time is the time of one
    of that record's carrier packets (the j-th part has the j-th carrier's time), its payload is the j-th part -/
theorem out_ts_from_carrier (recs : List Rec) (fs : List Frame) (h : build recs = some fs)
    (d : Bool) (t : Nat) (p : Bytes) (hm : (d, t, p) ∈ dataFrames fs) :
    ∃ r ∈ recs, ∃ ps : List Bytes, parts r.bytes r.ts.length = some ps ∧ ∃ j : Nat, ps[j]? = some p ∧ r.ts[j]? = some t ∧
      r.fromServer = d := by
  rw [data_is_records recs fs h, List.mem_flatMap] at hm
  obtain ⟨r, hr, hmem⟩ := hm
  refine ⟨r, hr, ?_⟩
  unfold recData at hmem
  cases hp : parts r.bytes r.ts.length with
  | none => simp [hp] at hmem
  | some ps =>
    refine ⟨ps, rfl, ?_⟩
    simp only [hp, List.mem_map, Prod.mk.injEq] at hmem
    obtain ⟨⟨p', t'⟩, hz, h1, h2, h3⟩ := hmem
    subst h1 h2 h3
    obtain ⟨j, hj⟩ := List.getElem?_of_mem hz
    rw [List.getElem?_zip_eq_some] at hj
    exact ⟨j, hj.1, hj.2, rfl⟩

/-- the synthetic three-way handshake carries the time of the first exported record's first carrier -/
theorem handshake_ts_first (r : Rec) (rs : List Rec) (t0 : Nat) (tl : List Nat) (hts : r.ts = t0 :: tl)
    (fs : List Frame) (h : build (r :: rs) = some fs) : fs.take 3 = handshake t0 := by
  simp only [build, hts, Option.map_eq_some_iff] at h
  obtain ⟨⟨q', body⟩, _, rfl⟩ := h
  simp [handshake]

-- Non-vacuity
example : (build [⟨some [1, 2, 3, 4, 5], [100, 101], false⟩, ⟨some [9], [102], true⟩]).map dataFrames
    = some [(false, 100, [1, 2]), (false, 101, [3, 4, 5]), (true, 102, [9])] := by decide

end TLX.Props.C07
