import TLX.Props.C02Capstone4
import TLX.Lemmas.HsPkChecks
import TLX.Props.ExportPropsQuic
import TLX.Props.C02File2Ex
import TLX.Props.QuicExData
set_option autoImplicit false
namespace TLX.Props.C02Capstone4

section
open TLX TLX.Quic TLX.Cipher TLX.Quic.Session TLX.Props.C02Session TLX.Props.C02Capstone TLX.Props.C02Capstone3
variable {maskFn : Dissect.MaskFn} {H : Crypto.Prims} {Pc : Cipher.Prims}

/-- a datagram without 0-RTT packets: neither the client's resumed suite nor the suite of the last `set_tls_decryptors` call
    matters -/
theorem XDgOkE.of_noZr {L : SealLaws Pc} {dcid0 : Bytes} {sel selR selR' : SuiteSel} {sh ch sa ca e : Bytes} {t : Trk}
    {ecs ecs' : Option SuiteSel} {d : DgX} (hz : d.zr = []) (h : XDgOkE maskFn H Pc L dcid0 sel selR sh ch sa ca e t ecs d) :
    XDgOkE maskFn H Pc L dcid0 sel selR' sh ch sa ca e t ecs' d :=
  ⟨fun hn => absurd hz hn, h.dirL, h.dirZ, h.cid, h.pre, fun hn => absurd hz hn, fun i q hi => by simp [hz] at hi, h.post,
    h.short⟩
end

namespace ExZ
open TLX TLX.MainLoop TLX.Export TLX.Spec.Demux TLX.QuicPipeline TLX.Props.C02File TLX.Props.C02File2 TLX.Lemmas.ExportProps
open TLX.Quic.Session TLX.Spec.QuicSender TLX.Spec.QuicConnection TLX.Spec.QuicFrames TLX.Props.C02Capstone TLX.Props.C02Capstone3
open TLX.Props.C02File.Ex (H Pc L m5 maskFn sel hs chS shS caS saS w0 w2 cidS0 cidS cidC qCI fl line)
open TLX.Props.C02File2.Ex (dS)
open TLX.Props.ExportPropsQuic (quicFrames)
open TLX.Props.ExportPropsQuic.Ex (info view)
open TLX.Props.C02Capstone.ExConf (chx)

def qZ : PkH :=
  ⟨{ level := .zeroRtt, srv := false, ts := 101, pn := 0, pnLen := 1, typeBits := 1,
     frames := [.stream false ⟨0, w0⟩ none (some w0) [0x45, 0x41, 0x52, 0x4c, 0x59], .padding 3],
     dcid := cidS0, scid := cidC, lenW := w2 }, m5⟩
def qCI' : PkH := ⟨{ qCI.x with ts := 101 }, m5⟩

/-- first flight: Initial (ClientHello) and the 0-RTT packet in one datagram -/
def dZ : DgX := ⟨⟨false, 101, [qCI'], none⟩, [qZ], 1⟩
/-- the client's Finished and its next request in a 1-RTT packet (packet number 1: 0-RTT and 1-RTT share the space) -/
def oC1 : Dg1 :=
  ⟨{ level := .oneRtt, srv := false, ts := 104, pn := 1, pnLen := 1,
     frames := [.stream true ⟨0, w0⟩ (some ⟨5, w0⟩) (some w0) [0x47, 0x45, 0x54], .padding 3], dcid := cidS, gen := 0 }, m5⟩

def keyTextZ : Keylog.Str :=
  line Keylog.s_SHTS chx.random shS ++ line Keylog.s_CHTS chx.random chS ++ line Keylog.s_CETS chx.random eS ++
  line Keylog.s_STS0 chx.random saS ++ line Keylog.s_CTS0 chx.random caS
def keysZ : List Keylog.Key := (fileKeysOf (some keyTextZ)).getD []

def wX : DgX → Bytes := DgX.wire H Pc L cidS0 sel selR shS chS saS caS eS
def o : Opts := ⟨[443], false, false, false, true, []⟩

/-- the datagrams as capture items: first flight with 0-RTT, the server's flight (with 0.5-RTT `HI`), the client's Finished
    with `GET` in a 1-RTT packet -/
def items : List (Item Keylog.Key) :=
  [.frame (dgPkt fl false (wX dZ) 1),
   .frame (dgPkt fl true (wX ⟨dS, [], 2⟩) 2),
   .frame (dgPkt fl false (wX ⟨⟨false, 104, [C02File.Ex.qCH], some oC1⟩, [], 1⟩) 4)]

/-- the same capture from a client whose resumed suite is 0x1301 — SECOND in its list, and the one the server selects
    (RFC 8446 §4.2.11 allows it): the 0-RTT packet reaches the tool while its Early keys are those of 0x1303; the data is
    NOT exported (open finding `early-data-lost`); everything else is (the packet-number repair: the rejected packet leaves
    the session untouched) -/
def wX' : DgX → Bytes := DgX.wire H Pc L cidS0 sel sel shS chS saS caS eS
def items' : List (Item Keylog.Key) :=
  [.frame (dgPkt fl false (wX' dZ) 1),
   .frame (dgPkt fl true (wX' ⟨dS, [], 2⟩) 2),
   .frame (dgPkt fl false (wX' ⟨⟨false, 104, [C02File.Ex.qCH], some oC1⟩, [], 1⟩) 4)]

/-- both captures in ONE evaluation (the kernel shares work inside a declaration only): they differ in the protection of
    the 0-RTT packet alone; and what the key log they are read with holds for the connection -/
theorem runs :
    view (quicFrames maskFn H Pc info o (some keysZ) items) =
      [[(101, [0x45, 0x41, 0x52, 0x4c, 0x59]), (102, [0x48, 0x49]), (104, [0x47, 0x45, 0x54])]] ∧
    view (quicFrames maskFn H Pc info o (some keysZ) items') = [[(102, [0x48, 0x49]), (104, [0x47, 0x45, 0x54])]] ∧
    ((Keylog.quicSessionKeys keysZ (Pipeline.natsOfBytes chx.random)).bind quicSecrets).map (fun ss =>
      [Lemmas.KeySchedule.lastOf .clientHandshake ss, Lemmas.KeySchedule.lastOf .serverHandshake ss,
        Lemmas.KeySchedule.lastOf .clientTraffic0 ss, Lemmas.KeySchedule.lastOf .serverTraffic0 ss,
        Lemmas.KeySchedule.lastOf .clientEarly ss]) = some [some chS, some shS, some caS, some saS, some eS] := by
  decide +kernel

/-- the whole pipeline, evaluated by the kernel: the 0-RTT data is exported, with the capture time of its datagram -/
theorem zero_rtt_exported :
    view (quicFrames maskFn H Pc info o (some keysZ) items) =
      [[(101, [0x45, 0x41, 0x52, 0x4c, 0x59]), (102, [0x48, 0x49]), (104, [0x47, 0x45, 0x54])]] := runs.1

theorem zero_rtt_not_first_offered_lost :
    view (quicFrames maskFn H Pc info o (some keysZ) items') = [[(102, [0x48, 0x49]), (104, [0x47, 0x45, 0x54])]] := runs.2.1

/-! every hypothesis of `quic_connection_exact_0rtt` discharged for this history -/
open TLX.Props.C02File.Ex (qSI qSH qCH hs_ok)
open TLX.Props.C02Capstone.ExConf

def qSI' : PkH := ⟨{ qSI.x with ts := 102 }, m5⟩
def qSH' : PkH := ⟨{ qSH.x with ts := 102 }, m5⟩
def qCH' : PkH := ⟨{ qCH.x with ts := 104 }, m5⟩
def oS' : Dg1 :=
  ⟨{ level := .oneRtt, srv := true, ts := 102, pn := 0, pnLen := 1,
     frames := [.stream false ⟨3, w0⟩ none (some w0) [0x48, 0x49], .padding 3], dcid := cidC, gen := 0 }, m5⟩
def dSX : DgX := ⟨⟨true, 102, [qSI', qSH'], some oS'⟩, [], 2⟩
def dCX : DgX := ⟨⟨false, 104, [qCH'], some oC1⟩, [], 1⟩

def itemsA : List (List Keylog.Key × MainLoop.Pkt × DgX) :=
  [(keysZ, dgPkt fl true (wX dSX) 2, dSX), (keysZ, dgPkt fl false (wX dCX) 4, dCX)]
def p0 : MainLoop.Pkt := dgPkt fl false (wX dZ) 1
def c0 : QConn := (quicMachine maskFn H Pc info).new o p0

-- the key log is never looked into below: unfolding `keysZ` to compare `(keysZ, p, d).1` with `keysZ` parses the text
attribute [local irreducible] keysZ

theorem keylogZ : KeylogHas keysZ chx.random chS shS caS saS (some eS) := .of_eval runs.2.2

def t1 : Trk := trk0.dgx dZ
def t2 : Trk := t1.dgx dSX

/-- the four handshake packets against the observer's bookkeeping at their places, and what else the three datagrams
    ask of that bookkeeping (connection IDs, the suite of the last `set_tls_decryptors` call before the 0-RTT packet,
    packet-number windows, keys before the closing 1-RTT packets), and of the three datagrams together (their CRYPTO
    content is the parser input list, keys at the end, adjacent datagrams differ), in ONE evaluation: the kernel shares
    the parser runs and wire images inside a declaration only -/
theorem pk_eval' :
    (HsPkChecks maskFn H Pc L cidS0 sel shS chS trk0.keyed (chachaOf trk0.core) trk0.tc trk0.ts qCI' ∧
    HsPkChecks maskFn H Pc L cidS0 sel shS chS t1.keyed (chachaOf t1.core) t1.tc t1.ts qSI' ∧
    HsPkChecks maskFn H Pc L cidS0 sel shS chS (t1.step qSI'.x).keyed (chachaOf (t1.step qSI'.x).core) (t1.step qSI'.x).tc
      (t1.step qSI'.x).ts qSH' ∧
    HsPkChecks maskFn H Pc L cidS0 sel shS chS t2.keyed (chachaOf t2.core) t2.tc t2.ts qCH') ∧
    (DcidOk trk0.cc trk0.sc dZ.base.srv dZ.dcid ∧
      ecsFold trk0.core (insOf (List.take dZ.pos dZ.base.longs)) none = some selR ∧
      PnLenOk (List.foldl (fun t q => t.zr q.x) (DgX.t1 trk0 dZ) (List.take 0 dZ.zr)).tc.app qZ.x.pn qZ.x.pnLen) ∧
    (DcidOk t1.cc t1.sc dSX.base.srv dSX.dcid ∧
      ((DgX.tz t1 dSX).run (List.drop dSX.pos dSX.base.longs)).keyed = true ∧
      PnLenOk (if oS'.x.srv = true then ((DgX.tz t1 dSX).run (List.drop dSX.pos dSX.base.longs)).ts.app
        else ((DgX.tz t1 dSX).run (List.drop dSX.pos dSX.base.longs)).tc.app) oS'.x.pn oS'.x.pnLen) ∧
    (DcidOk t2.cc t2.sc dCX.base.srv dCX.dcid ∧
      ((DgX.tz t2 dCX).run (List.drop dCX.pos dCX.base.longs)).keyed = true ∧
      PnLenOk (if oC1.x.srv = true then ((DgX.tz t2 dCX).run (List.drop dCX.pos dCX.base.longs)).ts.app
        else ((DgX.tz t2 dCX).run (List.drop dCX.pos dCX.base.longs)).tc.app) oC1.x.pn oC1.x.pnLen) ∧
    (hs.ins = allInsM (([dZ, dSX, dCX] : List DgX).map (·.base)) ∧
      (([dZ, dSX, dCX] : List DgX).foldl Trk.dgx trk0).keyed = true ∧
      C02Out.DistinctAdjacent false (([dZ, dSX, dCX] : List DgX).map inDgX)) := by
  decide +kernel

theorem pkCI' : HsPkOk maskFn H Pc L cidS0 sel shS chS trk0 qCI' := .of_checks pk_eval'.1.1
theorem pkSI' : HsPkOk maskFn H Pc L cidS0 sel shS chS t1 qSI' := .of_checks pk_eval'.1.2.1
theorem pkSH' : HsPkOk maskFn H Pc L cidS0 sel shS chS (t1.step qSI'.x) qSH' := .of_checks pk_eval'.1.2.2.1
theorem pkCH'' : HsPkOk maskFn H Pc L cidS0 sel shS chS t2 qCH' := .of_checks pk_eval'.1.2.2.2

theorem shapeZ : ZrShape qZ.x :=
  ⟨rfl, rfl, by decide, by decide, by decide, by decide, by decide, by decide +kernel, by decide +kernel⟩

theorem okZ : XDgOkE maskFn H Pc L cidS0 sel selR shS chS saS caS eS trk0 none dZ where
  client := fun _ => rfl
  dirL := by decide
  dirZ := by decide
  cid := pk_eval'.2.1.1
  pre := ⟨pkCI', trivial⟩
  suite := fun _ => pk_eval'.2.1.2.1
  zr := by
    intro i q hi
    cases i with
    | zero =>
      simp only [dZ, List.getElem?_cons_zero, Option.some.injEq] at hi; subst hi
      exact ⟨shapeZ, by decide, by decide +kernel, pk_eval'.2.1.2.2, rfl, by decide⟩
    | succ j => simp [dZ] at hi
  post := trivial
  short := by intro o ho; cases ho

theorem okS : XDgOkE maskFn H Pc L cidS0 sel selR shS chS saS caS eS t1 (ecsDgx trk0 none dZ) dSX where
  client := fun h => absurd rfl h
  dirL := by decide
  dirZ := fun _ h => nomatch h
  cid := pk_eval'.2.2.1.1
  pre := ⟨pkSI', pkSH', trivial⟩
  suite := fun h => absurd rfl h
  zr := by intro i q hi; simp [dSX] at hi
  post := trivial
  short := by
    intro o' ho; cases ho
    exact ⟨rfl, rfl, by decide, pk_eval'.2.2.1.2.1, rfl, rfl, pk_eval'.2.2.1.2.2, by decide +kernel,
      ⟨by decide, by decide +kernel, rfl, by decide⟩⟩

theorem okC : XDgOkE maskFn H Pc L cidS0 sel selR shS chS saS caS eS t2 (ecsDgx t1 (ecsDgx trk0 none dZ) dSX) dCX where
  client := fun h => absurd rfl h
  dirL := by decide
  dirZ := fun _ h => nomatch h
  cid := pk_eval'.2.2.2.1.1
  pre := ⟨pkCH'', trivial⟩
  suite := fun h => absurd rfl h
  zr := by intro i q hi; simp [dCX] at hi
  post := trivial
  short := by
    intro o' ho; cases ho
    exact ⟨rfl, rfl, by decide, pk_eval'.2.2.2.1.2.1, rfl, rfl, pk_eval'.2.2.2.1.2.2, by decide +kernel,
      ⟨by decide, by decide +kernel, rfl, by decide⟩⟩

/-- **Non-vacuity of `quic_connection_exact_0rtt`**: first flight Initial + 0-RTT `EARLY` (resumed suite = first offered),
    the server's flight with 0.5-RTT `HI`, the client's Finished with `GET` — every hypothesis discharged; the export is
    `EARLY`, `HI`, `GET`. -/
theorem zero_rtt_instance :
    let QM := quicMachine maskFn H Pc info
    QM.out false (xFeedAll QM c0 ((keysZ, p0, dZ) :: itemsA)) = expectedOutX c0 [dZ, dSX, dCX] [] ∧
    (expectedOutX c0 [dZ, dSX, dCX] []).map (fun p => (p.ts, p.payload)) =
      [(101, [0x45, 0x41, 0x52, 0x4c, 0x59]), (102, [0x48, 0x49]), (104, [0x47, 0x45, 0x54])] := by
  refine ⟨?_, by decide +kernel⟩
  have h := (quic_connection_exact_0rtt maskFn H Pc info Props.C15.sizedToy_lawful rfl L chx.random hs.sh.cipherSuite chS shS caS
    saS eS sel selR [0x13, 0x03] (by decide) (by decide) (by decide) rfl rfl keysZ p0 dZ itemsA
    (List.forall_mem_cons.mpr ⟨keylogZ, List.forall_mem_cons.mpr ⟨keylogZ, List.forall_mem_singleton.mpr keylogZ⟩⟩)
    c0 (new_fresh maskFn H Pc info o p0) (by decide) ⟨okZ, okS, okC, trivial⟩
    (pk_eval'.2.2.2.2.1 ▸ ptrace_of_conformant hs hs_ok)
    (List.forall_mem_cons.mpr ⟨⟨rfl, rfl, by decide⟩,
      List.forall_mem_cons.mpr ⟨⟨rfl, rfl, by decide⟩, List.forall_mem_singleton.mpr ⟨rfl, rfl, by decide⟩⟩⟩)
    pk_eval'.2.2.2.2.2.1 [] (by intro x hx; cases hx) trivial pk_eval'.2.2.2.2.2.2).2
  -- the empty 1-RTT-only part is removed by rewriting: asked whether `feedAll QM c [] ≡ c`, the kernel runs `c`
  rwa [C02Capstone.feedAll] at h

end ExZ
end TLX.Props.C02Capstone4
