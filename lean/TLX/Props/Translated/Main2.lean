/-
What the Demux group leaves of main.py, as translated from the Python source (`TLX/Gen/Translated/Main2.lean`), equals the
hand-written model `TLX/MainLoop.lean`: the TCP session lookup / creation of `handle_packet` (`tlsHandle`), the key-log statements
of `run()` (the `-s` file: `body`; a decryption secrets block: `step` on `Item.dsb`), the collection of the exported frames
(`exportAll`: every TLS session in list order, then every QUIC session — nothing is ever inserted before what is there).
Sessions are the model's `Sess` objects; their methods are the machines' functions. The two session loops (`handle_packet`,
`handle_quic_packet`) are compared with `tlsHandle` / `quicLoop` as instances of `Router.handle` (`Lemmas/Translated/Router.lean`).
-/
import TLX.Gen.Translated.Main2
import TLX.Lemmas.PyRt
import TLX.Lemmas.Translated.Router
namespace TLX.Props.Translated.Main2
open TLX TLX.MainLoop TLX.Gen.Py PyRt TLX.Lemmas.MainLoop TLX.Lemmas.Translated

variable {κ σ τ ο : Type}

/-- `all_decrypted_sessions`: `session.decrypt()` of every TLS session in list order, then `build_output(metadata)` of every
    QUIC session — the model's `exportAll` -/
theorem collect_eq_model (TM : TlsMachine κ σ ο) (QM : QuicMachine κ τ ο) (o : Opts) (st : State κ σ τ) :
    (Main.collect (fun (s : TlsSess σ) => TM.out s.st st.keylog) (fun (s : QuicSess τ) m => QM.out m s.st) st.tls st.quic
        o.metadata).all_decrypted_sessions
      = exportAll TM QM o st := by
  unfold Main.collect exportAll
  simp only [List.foldl_append_eq_append, ← List.flatMap_def, List.nil_append]

/-- a decryption secrets block (`ts == -1`) extends the key log by its keys and the loop goes on with the next item -/
theorem run_dsb_eq_model (keys_of : Bytes → List κ) (ts : Int) (buf : Bytes) (kl : List κ) :
    Main.run_dsb keys_of ts buf kl = if ts = -1 then (.cont, ⟨kl ++ keys_of buf⟩) else (.fall, ⟨kl⟩) := by
  unfold Main.run_dsb
  by_cases h : ts = -1 <;> simp [h]

/-- the same as the model's `step` on a `dsb` item -/
theorem run_dsb_step (TM : TlsMachine κ σ ο) (QM : QuicMachine κ τ ο) (o : Opts) (st : State κ σ τ) (ks : List κ) (buf : Bytes) :
    (Main.run_dsb (fun _ => ks) (-1) buf st.keylog).2.keylog = (step TM QM o st (.dsb ks)).keylog := by
  simp [run_dsb_eq_model, step, classify]

/-- `if args.sslkeylog is not None: keylog.extend(read_keylog_from_file(args.sslkeylog))`: `body`'s
    `keylog ++ inp.fileKeys.getD []` -/
theorem run_keylog_file_eq_model {ρ : Type} (fk : List κ) (kl : List κ) (ssl : Option ρ) :
    (Main.run_keylog_file (fun _ => fk) kl ssl).keylog = kl ++ (ssl.map fun _ => fk).getD [] := by
  unfold Main.run_keylog_file
  cases ssl <;> simp

/-- `handle_packet(packet, …)`: the first session in list order that matches gets the packet (and the loop ends there); with
    none, a new session is appended iff one of the ports is a server port -/
theorem handle_packet_eq_model (M : TlsMachine κ σ ο) (o : Opts) (ss : List (TlsSess σ)) (p : Pkt) :
    (Main.handle_packet (fun (s : TlsSess σ) q => s.matches q) (fun s q => { s with st := M.feed s.st q }) (fun q => tlsNew M o q)
        p ss o.ports (p.dst.port : Int) (p.src.port : Int)).sessions
      = tlsHandle M o ss p := by
  have h := forObjs_router (tlsRouter M o) p
    (fun s => if s.matches p then ({ s with st := M.feed s.st p }, true) else (s, false)) (fun _ => rfl) ss
  unfold Main.handle_packet
  dsimp only
  rw [h, tlsHandle_eq_router, Router.handle_of_taker]
  cases ss.any ((tlsRouter M o).takes · p)
  · simp only [tlsRouter, candidate, List.contains_eq_mem, Bool.false_eq_true, if_false]
    split <;> simp
  · rfl

/-- `header_type` of a parsed header that is not `tooShort` -/
def htOf : Hdr → TLX.Quic.HType
  | .long _ _ => .long
  | _ => .short

/-- the loop `for cid in sorted(candidates, …): if len(cid) > 0 and cid == packet_payload[1:1 + len(cid)]: …; return` -/
theorem cid_loop {α : Type} (payload : Bytes) (hit : Bytes → α) (miss : α) (e0 : Err → α) : ∀ (l : List Bytes),
    loopS (forS l () (fun (_ : Unit) (cid : Bytes) =>
        if (decide (cid.length > 0) && decide (cid = Bytes.slice payload 1 (1 + cid.length))) then
          (.ok (.ret (hit cid)) : Except Err (Step Unit α))
        else .ok (.next ()))) e0 (fun r => r) (fun _ => miss)
      = match l.find? (cidPrefixOf payload) with
        | some c => hit c
        | none => miss := by
  intro l
  induction l with
  | nil => rfl
  | cons c rest ih =>
    have hc : cidPrefixOf payload c = (decide (c.length > 0) && decide (c = Bytes.slice payload 1 (1 + c.length))) := by
      rw [cidPrefixOf, Bool.beq_eq_decide_eq]
    simp only [forS, List.find?_cons, hc]
    cases hb : (decide (c.length > 0) && decide (c = Bytes.slice payload 1 (1 + c.length)))
    · simp only [Bool.false_eq_true, if_false]; exact ih
    · simp only [if_true, loopS_ret]

theorem setLast_append {α : Type} (l : List α) (x y : α) : PyRt.setLast (l ++ [x]) y = l ++ [y] := by
  simp [PyRt.setLast]

/-- `for session in quic_sessions: …` and the creation rule: the model's `quicLoop` (`sorted(…, key=(-len, bytes))` is
    `sortCids`; a session object is the model's `Sess`, `handle_packet` its machine's `feed` with the key log as it is now) -/
theorem quic_loop_eq_model (M : QuicMachine κ τ ο) (o : Opts) (kl : List κ) (h : Hdr) (hh : h ≠ .tooShort)
    (ss : List (QuicSess τ)) (p : Pkt) :
    ∃ ex, Main.quic_loop (fun (s : QuicSess τ) => M.clientCids s.st) (fun s => M.serverCids s.st) (fun s => s.matches p)
        (fun s => p.src == s.client) sortCids (fun s q d v => { s with st := M.feed s.st kl q d v })
        (fun q => ⟨(rolesOf o.ports q).1, (rolesOf o.ports q).2, M.new o q⟩) p (htOf h) h.dcid h.ver p.payload ss
      = .ok ex ⟨quicLoop M o kl h ss p⟩ := by
  have hq : quicLoop M o kl h ss p = (quicRouter M o).handle ss ⟨kl, h, p⟩ := by
    rw [← quicHandleH_eq_router, quicHandleH, if_neg hh]
  unfold Main.quic_loop
  rw [hq, forObjsE_router (quicRouter M o) ⟨kl, h, p⟩, Router.handle_of_taker]
  · cases ss.any ((quicRouter M o).takes · ⟨kl, h, p⟩)
    · cases h with
      | tooShort => exact absurd rfl hh
      | long d v => exact ⟨.fall, by simp [quicRouter, htOf, setLast_append, quicNew, Hdr.dcid, Hdr.ver]⟩
      | short => exact ⟨.fall, by simp [quicRouter, htOf]⟩
    · exact ⟨.ret, rfl⟩
  · intro s
    -- what the router does with `s`, by what `quicTake` finds
    have hr : (if (quicRouter M o).takes s ⟨kl, h, p⟩ then ((quicRouter M o).feed s ⟨kl, h, p⟩, (Except.ok true : Except Err Bool))
          else (s, .ok false))
        = match quicTake M h p s with
          | some c => ({ s with st := M.feed s.st kl p c h.ver }, .ok true)
          | none => (s, .ok false) := by
      simp only [quicRouter, bne_iff_ne.mpr hh, Bool.true_and]
      cases quicTake M h p s <;> rfl
    rw [hr]
    -- `dcid` and `quic_version` get names before the header is split: the `Decidable` instances mention them too, and `simp` does not rewrite there
    dsimp only
    generalize hdc : h.dcid = dc
    generalize hv : h.ver = ver
    cases h with
    | tooShort => exact absurd rfl hh
    | long d v =>
      simp only [Hdr.dcid, Hdr.ver] at hdc hv
      subst hdc hv
      simp only [htOf, decide_true, if_true, quicTake, cidMatch, Hdr.dcid]
      by_cases hc : 0 < d.length ∧ (d ∈ M.clientCids s.st ∨ d ∈ M.serverCids s.st) <;> by_cases hm : s.matches p = true <;>
        simp [hc, hm]
    | short =>
      cases hdc
      cases hv
      simp only [htOf, reduceCtorEq, decide_false, if_false, Bool.false_eq_true, quicTake, cidMatch, shortPick, Hdr.dcid, Hdr.ver]
      have hc : (if s.matches p = true then (if (p.src == s.client) = true then M.serverCids s.st else M.clientCids s.st)
            else M.clientCids s.st ++ M.serverCids s.st) = shortCandidates (M.clientCids s.st) (M.serverCids s.st) (s.side p) := by
        unfold Sess.side shortCandidates
        cases s.matches p <;> cases (p.src == s.client) <;> rfl
      rw [hc, cid_loop]
      cases (sortCids (shortCandidates (M.clientCids s.st) (M.serverCids s.st) (s.side p))).find? (cidPrefixOf p.payload) with
      | some c => rfl
      | none => by_cases hm : s.matches p = true <;> simp only [hm, Bool.false_eq_true, if_false, if_true]

/-- the write loop of `run()`: one `writer.writepkt(bytes(buf), ts)` per collected frame, in the collected order (nothing is
    reordered or dropped between `all_decrypted_sessions` and the output file) -/
theorem write_all_eq_model {β θ : Type} (l : List (β × θ)) : (Main.write_all l).acts = l := by
  unfold Main.write_all
  simp only [List.foldl_append_eq_append, ← List.flatMap_def, List.flatMap_singleton', List.nil_append]

end TLX.Props.Translated.Main2
