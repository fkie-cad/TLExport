/-
Translated Python functions, group Frames: tlexport/quic/quic_frame.py, the constructor of every frame class.
Each `<Class>_init_eq_model` says: the definition regenerated from the tree under test (`TLX/Gen/Translated/Frames.lean`,
written by `harness/translate.py`) yields — attribute for attribute — the `Parsed` value of the model's parser in
`TLX/Quic/Frame.lean`, and raises (always IndexError) exactly where the model's parser is `none`.
The constructors call the translated varint functions: this group rests on group Varint, and on nothing else.
Then `parse_frames` itself (`parse_frames_eq_model`). Defines `toParsed` (a frame object as its `Parsed` record), `keyOf`
(what the key loop leaves in `key`), `oneFrame`, `sidOf`.
-/
import TLX.Lemmas.Translated.Frames
namespace TLX.Props.Translated
open TLX TLX.PyRt TLX.Lemmas.Translated TLX.Quic.Varint TLX.Quic.Frame

/-- both sides as `obind` chains over the same reads, with the same `if`s -/
macro "frame_norm" : tactic =>
  `(tactic| simp only [try_len, try_dec, try_item0, try_item, map_obind, Option.bind_eq_bind, readVarint_bind, ofOpt_bind,
    obind_map, obind_readVarint, obind_some, Option.pure_def, map_ite, ofOpt_ite, obind_ite, decide_eq_true_eq])

/-- the leaves: the attributes, one by one -/
macro "frame_done" : tactic => `(tactic| simp only [ofOpt, Except.map])

theorem GenericFrame_init_eq_model (p : Bytes) :
    (Gen.Py.GenericFrame_init p).map (fun s => Parsed.generic s.length s.frame_length s.data) = ofOpt (parseGeneric p) := by
  simp only [Gen.Py.GenericFrame_init, parseGeneric]
  frame_norm
  frame_done

theorem ResetStreamFrame_init_eq_model (p : Bytes) :
    (Gen.Py.ResetStreamFrame_init p).map (fun s => Parsed.resetStream s.length s.stream_id s.application_protocol_error_code s.final_size) = ofOpt (parseResetStream p) := by
  simp only [Gen.Py.ResetStreamFrame_init, parseResetStream]
  frame_norm
  frame_done

theorem StopSendingFrame_init_eq_model (p : Bytes) :
    (Gen.Py.StopSendingFrame_init p).map (fun s => Parsed.stopSending s.length s.stream_id s.application_protocol_error_code) = ofOpt (parseStopSending p) := by
  simp only [Gen.Py.StopSendingFrame_init, parseStopSending]
  frame_norm
  frame_done

theorem CryptoFrame_init_eq_model (p : Bytes) :
    (Gen.Py.CryptoFrame_init p).map (fun s => Parsed.crypto s.length s.offset s.crypto_length s.crypto) = ofOpt (parseCrypto p) := by
  simp only [Gen.Py.CryptoFrame_init, parseCrypto]
  frame_norm
  frame_done

theorem NewTokenFrame_init_eq_model (p : Bytes) :
    (Gen.Py.NewTokenFrame_init p).map (fun s => Parsed.newToken s.length s.token_length s.token) = ofOpt (parseNewToken p) := by
  simp only [Gen.Py.NewTokenFrame_init, parseNewToken]
  frame_norm
  frame_done

theorem MaxDataFrame_init_eq_model (p : Bytes) :
    (Gen.Py.MaxDataFrame_init p).map (fun s => Parsed.maxData s.length s.maximum_data) = ofOpt (parseMaxData p) := by
  simp only [Gen.Py.MaxDataFrame_init, parseMaxData]
  frame_norm
  frame_done

theorem MaxStreamDataFrame_init_eq_model (p : Bytes) :
    (Gen.Py.MaxStreamDataFrame_init p).map (fun s => Parsed.maxStreamData s.length s.stream_id s.maximum_stream_data) = ofOpt (parseMaxStreamData p) := by
  simp only [Gen.Py.MaxStreamDataFrame_init, parseMaxStreamData]
  frame_norm
  frame_done

theorem MaxStreamsFrame_init_eq_model (p : Bytes) :
    (Gen.Py.MaxStreamsFrame_init p).map (fun s => Parsed.maxStreams s.frame_type s.length s.maximum_streams) = ofOpt (parseMaxStreams p) := by
  simp only [Gen.Py.MaxStreamsFrame_init, parseMaxStreams]
  frame_norm
  frame_done

theorem DataBlockedFrame_init_eq_model (p : Bytes) :
    (Gen.Py.DataBlockedFrame_init p).map (fun s => Parsed.dataBlocked s.length s.maximum_data) = ofOpt (parseDataBlocked p) := by
  simp only [Gen.Py.DataBlockedFrame_init, parseDataBlocked]
  frame_norm
  frame_done

theorem StreamDataBlockedFrame_init_eq_model (p : Bytes) :
    (Gen.Py.StreamDataBlockedFrame_init p).map (fun s => Parsed.streamDataBlocked s.length s.stream_id s.maximum_stream_data) = ofOpt (parseStreamDataBlocked p) := by
  simp only [Gen.Py.StreamDataBlockedFrame_init, parseStreamDataBlocked]
  frame_norm
  frame_done

theorem StreamsBlockedFrame_init_eq_model (p : Bytes) :
    (Gen.Py.StreamsBlockedFrame_init p).map (fun s => Parsed.streamsBlocked s.frame_type s.length s.maximum_streams) = ofOpt (parseStreamsBlocked p) := by
  simp only [Gen.Py.StreamsBlockedFrame_init, parseStreamsBlocked]
  frame_norm
  frame_done

theorem NewConnectionIdFrame_init_eq_model (p : Bytes) :
    (Gen.Py.NewConnectionIdFrame_init p).map (fun s => Parsed.newConnectionId s.length s.sequence_number s.retire_prior_to s.connection_id_length s.connection_id s.stateless_reset_token) = ofOpt (parseNewConnectionId p) := by
  simp only [Gen.Py.NewConnectionIdFrame_init, parseNewConnectionId]
  frame_norm
  frame_done

theorem RetireConnectionIdFrame_init_eq_model (p : Bytes) :
    (Gen.Py.RetireConnectionIdFrame_init p).map (fun s => Parsed.retireConnectionId s.length s.sequence_number) = ofOpt (parseRetireConnectionId p) := by
  simp only [Gen.Py.RetireConnectionIdFrame_init, parseRetireConnectionId]
  frame_norm
  frame_done

theorem PathChallengeFrame_init_eq_model (p : Bytes) :
    some (Parsed.pathChallenge (Gen.Py.PathChallengeFrame_init p).data) = parsePathChallenge p := rfl

theorem PathResponseFrame_init_eq_model (p : Bytes) :
    some (Parsed.pathResponse (Gen.Py.PathResponseFrame_init p).data) = parsePathResponse p := rfl

theorem DatagramFrame_init_eq_model (p : Bytes) :
    (Gen.Py.DatagramFrame_init p).map (fun s => Parsed.datagram s.frame_type s.length s.len_bit s.payload_) = ofOpt (parseDatagram p) := by
  cases p with  -- `payload[0]` is read twice
  | nil => rfl
  | cons t r =>
    simp only [Gen.Py.DatagramFrame_init, parseDatagram, getItem_cons_zero, tryE_ok, List.getElem?_cons_zero,
      Option.bind_eq_bind, Option.bind_some, Bool.beq_eq_decide_eq]
    frame_norm
    simp [ofOpt, Except.map, Bytes.slice]  -- `payload[1:]` is `payload[1:len(payload)]`

theorem ConnectionCloseFrame_init_eq_model (p : Bytes) :
    (Gen.Py.ConnectionCloseFrame_init p none).map
      (fun s => Parsed.connectionClose s.frame_type s.length s.error_code s.close_frame_type s.reason_phrase_length s.reason_phrase) =
      ofOpt (parseConnectionClose p) := by
  simp only [Gen.Py.ConnectionCloseFrame_init, parseConnectionClose, readCloseTypeIf, Bool.beq_eq_decide_eq]
  frame_norm
  frame_done

/-- `stream_id` of a parsed STREAM frame -/
def sidOf : Parsed → Nat
  | .stream _ _ _ _ _ sid _ _ _ => sid
  | _ => 0

/-- `StreamFrame.__init__`, every attribute, all eight flag combinations (`off`, `len`, `fin` are read from the type byte
    as the model reads them); `data_length` is `len(payload) - index` on Python integers -/
theorem StreamFrame_init_all (p : Bytes) :
    (Gen.Py.StreamFrame_init p).map (fun s =>
      (Parsed.stream s.frame_type s.length s.fin s.len s.off s.stream_id s.offset s.data_length.toNat (s.stream_data.getD []),
        s.server_initiated, s.stream_unidirectional, s.stream_data.isSome)) =
      (ofOpt (parseStream p)).map (fun f => (f, streamServerInitiated (sidOf f), streamUnidirectional (sidOf f), true)) := by
  simp only [Gen.Py.StreamFrame_init, parseStream, readOffsetIf, ne_eq, decide_ne_bne, Int.ofNat_eq_natCast, ← Int.natCast_add]
  frame_norm
  simp only [ofOpt, Except.map, Int.toNat_natCast, Int.toNat_sub, Option.getD_some, sidOf, streamServerInitiated,
    streamUnidirectional, Option.isSome_some]

theorem StreamFrame_init_eq_model (p : Bytes) :
    (Gen.Py.StreamFrame_init p).map
      (fun s => Parsed.stream s.frame_type s.length s.fin s.len s.off s.stream_id s.offset s.data_length.toNat (s.stream_data.getD [])) =
      ofOpt (parseStream p) := by
  have h := congrArg (Except.map Prod.fst) (StreamFrame_init_all p)
  rw [exc_map_map, exc_map_map] at h
  cases hp : parseStream p <;> rw [hp] at h <;> exact h

/-- the loop of `PaddingFrame.__init__` from position `n` on: leaves by `return` at the first non-zero byte -/
theorem padding_loop (p : Bytes) (n s : Nat) :
    loopS (forS (enumFrom n p) s (fun (py_s : Nat) (py_i : Nat × Nat) =>
        if (decide (py_i.2 ≠ (0 : Nat))) then
          (Except.ok (Step.ret (Except.ok ({ length := py_i.1 } : Gen.Py.PaddingFrame_init.St))) : Except Err (Step Nat (Except Err Gen.Py.PaddingFrame_init.St)))
        else .ok (.next py_s)))
      (fun py_e => .error py_e) (fun py_r => py_r)
      (fun _ => (.ok { length := n + p.length } : Except Err Gen.Py.PaddingFrame_init.St))
    = .ok { length := n + padLen p } := by
  induction p generalizing n s with
  | nil => simp [enumFrom, forS, padLen]
  | cons x r ih =>
    by_cases hx : x = 0
    · have := ih (n + 1) s
      simp only [List.length_cons, enumFrom, forS, padLen, hx, ne_eq, if_true] at this ⊢
      rw [show n + (r.length + 1) = n + 1 + r.length by omega, show n + (padLen r + 1) = n + 1 + padLen r by omega]
      exact this
    · have h0 : x.toNat ≠ 0 := by
        intro h; exact hx (UInt8.toNat_inj.mp (by simpa using h))
      simp [enumFrom, forS, padLen, h0, hx]

theorem PaddingFrame_init_eq_model (p : Bytes) :
    (Gen.Py.PaddingFrame_init p).map (fun s => Parsed.padding s.length) = ofOpt (parsePadding p) := by
  have := padding_loop p 0 1
  simp only [Nat.zero_add] at this
  simp only [Gen.Py.PaddingFrame_init, parsePadding, this]
  rfl

/-- the `for i in range(0, self.range_count)` loop of `AckFrame.__init__` (state: `self.length`, `index`, `self.ack_ranges`;
    `index == self.length` at the head of every round) is the model's `ackRanges` -/
theorem ack_loop (p : Bytes) (n s L : Nat) (acc : List (Nat × Nat)) :
    forE (List.range' s n) (L, L, acc) (fun (py_s : Nat × Nat × List (Nat × Nat)) (_ : Nat) =>
      obind (getVarintLength (Bytes.slice p py_s.snd.fst (py_s.snd.fst + 1))) fun py_t_10 =>
        obind (decodeVarint (Bytes.slice p py_s.snd.fst (py_s.fst + py_t_10))) fun py_t_11 =>
          obind (getVarintLength (Bytes.slice p (py_s.fst + py_t_10) (py_s.fst + py_t_10 + 1))) fun py_t_12 =>
            obind (decodeVarint (Bytes.slice p (py_s.fst + py_t_10) (py_s.fst + py_t_10 + py_t_12))) fun py_t_13 =>
              Except.ok (py_s.fst + py_t_10 + py_t_12, py_s.fst + py_t_10 + py_t_12, py_s.snd.snd ++ [(py_t_11, py_t_13)]))
    = obind (ackRanges p n L) (fun r => .ok (r.2, r.2, acc ++ r.1)) := by
  induction n generalizing s L acc with
  | zero => simp [forE, ackRanges]
  | succ n ih =>
    rw [List.range'_succ, forE_cons]
    simp only [tryE_obind, tryE_ok, ih, ackRanges, Option.bind_eq_bind, Option.pure_def, obind_bind, obind_readVarint,
      obind_some, List.append_assoc, List.cons_append, List.nil_append]

/-- `AckFrame` (types 0x02 and 0x03): the four header varints, the range loop, the three ECN counts of type 0x03 (the
    attributes `ect_*_count` do not exist otherwise: `none`) -/
theorem AckFrame_init_eq_model (p : Bytes) :
    (Gen.Py.AckFrame_init p none none none).map
      (fun s => Parsed.ack s.frame_type s.length s.largest_acknowledged s.ack_delay s.range_count s.first_ack_range s.ack_ranges
        ((s.ect_0_count.bind fun a => s.ect_1_count.bind fun b => s.ect_ce_count.map fun c => (a, b, c)))) =
      ofOpt (parseAck p) := by
  simp only [Gen.Py.AckFrame_init, parseAck]
  frame_norm
  simp only [ack_loop, Nat.sub_zero, tryE_obind, tryE_ok]
  frame_norm
  simp only [ofOpt, Except.map, List.nil_append, Option.bind_some, Option.map_some, Option.bind_none]

/-- the table `frame_type` as translated from the dict display is the table `harness/extract.py` dumps from the live
    module (`TLX.Gen.frameTable`, which the model's `lookup` reads) -/
theorem frame_type_eq_model : Gen.Py.frame_type = TLX.Gen.frameTable := by decide +kernel

/-- a frame object as the model's `Parsed` value, class by class (the maps of the `_init_eq_model` theorems) -/
def toParsed : Gen.Py.FrameObj → Parsed
  | .PaddingFrame s => .padding s.length
  | .GenericFrame s => .generic s.length s.frame_length s.data
  | .AckFrame s => .ack s.frame_type s.length s.largest_acknowledged s.ack_delay s.range_count s.first_ack_range s.ack_ranges
      ((s.ect_0_count.bind fun a => s.ect_1_count.bind fun b => s.ect_ce_count.map fun c => (a, b, c)))
  | .ResetStreamFrame s => .resetStream s.length s.stream_id s.application_protocol_error_code s.final_size
  | .StopSendingFrame s => .stopSending s.length s.stream_id s.application_protocol_error_code
  | .CryptoFrame s => .crypto s.length s.offset s.crypto_length s.crypto
  | .NewTokenFrame s => .newToken s.length s.token_length s.token
  | .StreamFrame s => .stream s.frame_type s.length s.fin s.len s.off s.stream_id s.offset s.data_length.toNat (s.stream_data.getD [])
  | .MaxDataFrame s => .maxData s.length s.maximum_data
  | .MaxStreamDataFrame s => .maxStreamData s.length s.stream_id s.maximum_stream_data
  | .MaxStreamsFrame s => .maxStreams s.frame_type s.length s.maximum_streams
  | .DataBlockedFrame s => .dataBlocked s.length s.maximum_data
  | .StreamDataBlockedFrame s => .streamDataBlocked s.length s.stream_id s.maximum_stream_data
  | .StreamsBlockedFrame s => .streamsBlocked s.frame_type s.length s.maximum_streams
  | .NewConnectionIdFrame s => .newConnectionId s.length s.sequence_number s.retire_prior_to s.connection_id_length s.connection_id
      s.stateless_reset_token
  | .RetireConnectionIdFrame s => .retireConnectionId s.length s.sequence_number
  | .PathChallengeFrame s => .pathChallenge s.data
  | .PathResponseFrame s => .pathResponse s.data
  | .ConnectionCloseFrame s => .connectionClose s.frame_type s.length s.error_code s.close_frame_type s.reason_phrase_length s.reason_phrase
  | .DatagramFrame s => .datagram s.frame_type s.length s.len_bit s.payload_
  | .PingFrame => .ping
  | .HandshakeDoneFrame => .handshakeDone

/-- `frame.length` (instance attribute, else the class attribute) is the model's `Parsed.length` -/
theorem toParsed_length (f : Gen.Py.FrameObj) : (toParsed f).length = f.length := by
  cases f <;> rfl

/-- `<class>(payload, src_packet)` for every class of the table, and `GenericFrame` -/
theorem construct_eq_model (c : Quic.Cls) (p : Bytes) :
    (Gen.Py.construct c p).map toParsed = ofOpt (Quic.Frame.construct c p) := by
  cases c
  case PaddingFrame => exact (exc_map_map _ _ _).trans (PaddingFrame_init_eq_model p)
  case PingFrame => rfl
  case AckFrame => exact (exc_map_map _ _ _).trans (AckFrame_init_eq_model p)
  case ResetStreamFrame => exact (exc_map_map _ _ _).trans (ResetStreamFrame_init_eq_model p)
  case StopSendingFrame => exact (exc_map_map _ _ _).trans (StopSendingFrame_init_eq_model p)
  case CryptoFrame => exact (exc_map_map _ _ _).trans (CryptoFrame_init_eq_model p)
  case NewTokenFrame => exact (exc_map_map _ _ _).trans (NewTokenFrame_init_eq_model p)
  case StreamFrame => exact (exc_map_map _ _ _).trans (StreamFrame_init_eq_model p)
  case MaxDataFrame => exact (exc_map_map _ _ _).trans (MaxDataFrame_init_eq_model p)
  case MaxStreamDataFrame => exact (exc_map_map _ _ _).trans (MaxStreamDataFrame_init_eq_model p)
  case MaxStreamsFrame => exact (exc_map_map _ _ _).trans (MaxStreamsFrame_init_eq_model p)
  case DataBlockedFrame => exact (exc_map_map _ _ _).trans (DataBlockedFrame_init_eq_model p)
  case StreamDataBlockedFrame => exact (exc_map_map _ _ _).trans (StreamDataBlockedFrame_init_eq_model p)
  case StreamsBlockedFrame => exact (exc_map_map _ _ _).trans (StreamsBlockedFrame_init_eq_model p)
  case NewConnectionIdFrame => exact (exc_map_map _ _ _).trans (NewConnectionIdFrame_init_eq_model p)
  case RetireConnectionIdFrame => exact (exc_map_map _ _ _).trans (RetireConnectionIdFrame_init_eq_model p)
  case PathChallengeFrame => rfl
  case PathResponseFrame => rfl
  case ConnectionCloseFrame => exact (exc_map_map _ _ _).trans (ConnectionCloseFrame_init_eq_model p)
  case HandshakeDoneFrame => rfl
  case DatagramFrame => exact (exc_map_map _ _ _).trans (DatagramFrame_init_eq_model p)
  case GenericFrame => exact (exc_map_map _ _ _).trans (GenericFrame_init_eq_model p)

/-- what the key loop of `parse_frames` leaves in `key` for the first payload byte `n`: the sentinel `0xff` or the
    LAST key tuple of `frame_type.keys()` that contains `n` -/
def keyOf (n : Nat) : Sum Int (List Nat) :=
  (tableKeys Gen.Py.frame_type).foldl (fun s k => if decide (n ∈ k) then Sum.inr k else s) (Sum.inl 255)

/-- the key tuples of `frame_type` are pairwise distinct: `frame_type.keys()` has one key per entry, in entry order -/
theorem frame_type_keys : tableKeys Gen.Py.frame_type = Gen.Py.frame_type.map (·.1) := by decide +kernel

/-- … and what the dispatch then does with it is the model's `lookup`: the sentinel stays exactly where the model has no
    class (→ `GenericFrame`), otherwise `frame_type.get(key)` finds the class the model finds (never `None`). -/
theorem key_dispatch (n : Nat) :
    (keyOf n = Sum.inl 255 ∧ lookup n = none) ∨
    ∃ k, keyOf n = Sum.inr k ∧ n ∈ k ∧ tableGet Gen.Py.frame_type k = lookup n ∧ (lookup n).isSome :=
  keyLoop_tableGet n Gen.Py.frame_type _ _ (by rw [keyOf, frame_type_keys]) (by rw [lookup, frame_type_eq_model])

/-- one round of the loop on a non-empty payload: the frame object the dispatch constructs -/
def oneFrame (p : Bytes) : Except Err Gen.Py.FrameObj :=
  match p with
  | [] => .error .index
  | t :: _ =>
    match lookup t.toNat with
    | some c => Gen.Py.construct c p
    | none => Gen.Py.construct .GenericFrame p

theorem oneFrame_eq_model (p : Bytes) : (oneFrame p).map toParsed = ofOpt (parseOne p) := by
  unfold oneFrame parseOne
  cases p with
  | nil => rfl
  | cons t r =>
    cases h : lookup t.toNat with
    | none => simpa [h, Quic.Frame.construct] using construct_eq_model .GenericFrame (t :: r)
    | some c => simpa [h] using construct_eq_model c (t :: r)

/-- the `while len(payload) != 0` loop with any fuel ≥ `len(payload)` is the model's `parseFrames` (the fuel suffices
    because every frame object has `length ≥ 1`: `parseOne_length_pos`) -/
theorem while_eq_model (C : List Gen.Py.FrameObj × Bytes → Bool)
    (B : List Gen.Py.FrameObj × Bytes → Except Err (Step (List Gen.Py.FrameObj × Bytes) (Except Err (List Gen.Py.FrameObj))))
    (hC : ∀ acc p, C (acc, p) = decide (p.length ≠ 0))
    (hB : ∀ acc p, p ≠ [] → B (acc, p) =
      tryE (oneFrame p) (fun e => .error e) (fun f => .ok (.next (acc ++ [f], p.drop f.length)))) :
    ∀ (fuel : Nat) (acc : List Gen.Py.FrameObj) (p : Bytes), p.length ≤ fuel →
      (loopS (whileS fuel (acc, p) C B) (fun e => .error e) (fun r => r) (fun s => .ok s.1)).map (List.map toParsed) =
        (ofOpt (parseFrames p)).map (fun ps => acc.map toParsed ++ ps) := by
  intro fuel
  induction fuel with
  | zero =>
    intro acc p hp
    have : p = [] := List.eq_nil_of_length_eq_zero (by omega)
    subst this
    simp [whileS, hC, loopS, parseFrames_nil, ofOpt, Except.map]
  | succ n ih =>
    intro acc p hp
    cases p with
    | nil => simp [whileS, hC, loopS, parseFrames_nil, ofOpt, Except.map]
    | cons t r =>
      have hne : (t :: r) ≠ [] := by simp
      rw [whileS, hC, hB acc _ hne, parseFrames_step _ hne]
      simp only [List.length_cons, ne_eq, Nat.add_eq_zero_iff, Nat.succ_ne_self, and_false, not_false_eq_true, decide_true, if_true]
      rcases map_eq_ofOpt (oneFrame_eq_model (t :: r)) with ⟨f, hf, ho⟩ | ⟨hf, ho⟩ <;> rw [hf, ho]
      · have hpos := parseOne_length_pos _ _ ho
        have hle : ((t :: r).drop f.length).length ≤ n := by
          simp only [List.length_drop, List.length_cons, toParsed_length] at hp hpos ⊢
          omega
        simp only [tryE_ok, Option.bind_some, toParsed_length]
        rw [ih (acc ++ [f]) _ hle]
        cases parseFrames ((t :: r).drop f.length) <;> simp [ofOpt, Except.map]
      · rfl

/-- `parse_frames`, the whole function: the key loop over `frame_type.keys()` (last matching key wins), the dispatch
    (`frame_type.get(key)(…)` or `GenericFrame`), the constructors, `frames.append`, `payload = payload[frame.length:]` —
    with the fuel `len(payload)` the translation gives the `while` loop, which always suffices (the result is never
    `.fuel`): the frames are, attribute for attribute, the model's `parseFrames`, and an exception is raised (IndexError)
    exactly where the model has `none`. -/
theorem parse_frames_eq_model (p : Bytes) :
    (Gen.Py.parse_frames p).map (List.map toParsed) = ofOpt (parseFrames p) := by
  unfold Gen.Py.parse_frames
  simp only []
  refine (while_eq_model _ _ ?_ ?_ _ _ _ (Nat.le_refl _)).trans ?_
  · intro acc q; cases q <;> simp
  · intro acc q hq
    cases q with
    | nil => exact absurd rfl hq
    | cons t r =>
      have hfold : List.foldl (fun (py_s : Sum Int (List Nat)) k => if decide (t.toNat ∈ k) = true then Sum.inr k else py_s)
          (Sum.inl 255) (tableKeys Gen.Py.frame_type) = keyOf t.toNat := rfl
      simp only [getItem_cons_zero, tryE_ok, forE_pure, hfold]
      unfold oneFrame
      rcases key_dispatch t.toNat with ⟨hs, hl⟩ | ⟨k, hs, _, hg, hsome⟩
      · simp [hs, hl]
      · cases hl : lookup t.toNat with
        | none => rw [hl] at hsome; cases hsome
        | some c => simp [hs, tableGetU, hg, hl, callClass]
  · cases parseFrames p <;> simp [ofOpt, Except.map]

/-- the two attributes of a `StreamFrame` that `Parsed.stream` does not carry are the model's functions of `stream_id`,
    and `stream_data` is assigned on every path (never left `None`) -/
theorem StreamFrame_init_attrs (p : Bytes) :
    (Gen.Py.StreamFrame_init p).map (fun s => (s.stream_id, s.server_initiated, s.stream_unidirectional, s.stream_data.isSome)) =
      (ofOpt (parseStream p)).map (fun f => (sidOf f, streamServerInitiated (sidOf f), streamUnidirectional (sidOf f), true)) := by
  have h := congrArg (Except.map fun x => (sidOf x.1, x.2)) (StreamFrame_init_all p)
  rw [exc_map_map, exc_map_map] at h
  exact h

-- Non-vacuity: concrete payloads through the translated code (CRYPTO + PADDING; ACK with ECN counts; STREAM with all flags)
theorem parse_frames_crypto_padding :
    (Gen.Py.parse_frames [0x06, 0x00, 0x02, 0xaa, 0xbb, 0x00, 0x00]).map (List.map toParsed) =
      .ok [.crypto 5 0 2 [0xaa, 0xbb], .padding 2] := by decide +kernel
theorem parse_frames_truncated : Gen.Py.parse_frames [0x18, 0x01] = .error .index := by decide +kernel

example : (Gen.Py.parse_frames [0x06, 0x00, 0x02, 0xaa, 0xbb, 0x00, 0x00]).map (List.map toParsed) =
    .ok [.crypto 5 0 2 [0xaa, 0xbb], .padding 2] := parse_frames_crypto_padding
example : (Gen.Py.parse_frames [0x03, 0x05, 0x01, 0x01, 0x02, 0x00, 0x01, 0x07, 0x08, 0x09, 0x01]).map (List.map toParsed) =
    .ok [.ack 3 10 5 1 1 2 [(0, 1)] (some (7, 8, 9)), .ping] := by decide +kernel
example : (Gen.Py.parse_frames [0x0f, 0x04, 0x40, 0x10, 0x02, 0x61, 0x62, 0x1e]).map (List.map toParsed) =
    .ok [.stream 15 7 true true true 4 16 2 [0x61, 0x62], .handshakeDone] := by decide +kernel
example : Gen.Py.parse_frames [0x18, 0x01] = .error .index ∧ parseFrames [0x18, 0x01] = none :=
  ⟨parse_frames_truncated, by decide +kernel⟩

end TLX.Props.Translated
