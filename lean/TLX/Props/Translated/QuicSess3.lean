/-
`QuicSession.set_tls_decryptors` (tlexport/quic/quic_session.py) as translated from the Python source
(`TLX/Gen/Translated/QuicSess3.lean`) equals the model's `setTlsDecryptors` / `installGroups` (`TLX/Quic/Session.lean`).

The translation runs over a state record of its own (`QS3.St`: `hash_fun`, `cipher`, `key_length`, the two flags, the three
decryptor entries, `self.keys`); `enc` relates it to the model state: the three suite attributes are the components of `suite`.
The dict `dev_quic_keys` returns is `dictOf kg` for the model's `KeyGroups` (a group's entries are there iff the group is);
which groups `self.keys` holds (`keysHs` …) is not part of `QS3.St` — `self.keys` itself is (`tableUpdate`).
The method is translated as two definitions (the `match ciphersuite:`; everything after it); `set_tls_decryptors_eq_model`
states their composition.
-/
import TLX.Gen.Translated.QuicSess3
import TLX.Props.Translated.Enc
namespace TLX.Props.Translated.QSess3
open TLX TLX.Quic TLX.Quic.Session TLX.Cipher TLX.Gen.Py PyRt

variable {σ : Type}

def errOf : PyErr → Err
  | .index => .index | .key => .key | .attr => .attr | .unbound => .unbound | .overflow => .overflow | .value => .value
  | .type => .type | .invalidTag => .value | .unsupported => .value | .other => .value

def enc (s : St σ) (keys : List (List Nat × Option Bytes)) : QS3.St :=
  { hash_fun := s.suite.map (·.hash), cipher := s.suite.map (·.alg), key_length := s.suite.map (·.keyLen),
    can_decrypt := s.canDecrypt, early_traffic_keys := s.earlyTrafficKeys,
    dec_handshake := s.decHandshake, dec_app := s.decApp, dec_early := s.decEarly, keys := keys }

/-- the `match ciphersuite:`: the three attributes of the suite, or `can_decrypt = False` and `return` -/
theorem select_suite_eq_model (s : St σ) (x : List (List Nat × Option Bytes)) (cs : Bytes) :
    QS3.select_suite cs (enc s x)
      = match selectSuite cs with
        | some sel => .ok .fall (enc { s with suite := some sel } x)
        | none => .ok .ret (enc { s with canDecrypt := false } x) := by
  unfold QS3.select_suite selectSuite
  by_cases h1 : cs = [0x13, 0x01]
  · subst h1; rfl
  by_cases h2 : cs = [0x13, 0x02]
  · subst h2; rfl
  by_cases h3 : cs = [0x13, 0x03]
  · subst h3; rfl
  by_cases h4 : cs = [0x13, 0x04]
  · subst h4; rfl
  simp only [h1, h2, h3, h4, decide_false, if_false, Bool.false_eq_true]
  rfl

def k_shk : List Nat := [115, 101, 114, 118, 101, 114, 95, 104, 97, 110, 100, 115, 104, 97, 107, 101, 95, 107, 101, 121]
def k_shi : List Nat := [115, 101, 114, 118, 101, 114, 95, 104, 97, 110, 100, 115, 104, 97, 107, 101, 95, 105, 118]
def k_chk : List Nat := [99, 108, 105, 101, 110, 116, 95, 104, 97, 110, 100, 115, 104, 97, 107, 101, 95, 107, 101, 121]
def k_chi : List Nat := [99, 108, 105, 101, 110, 116, 95, 104, 97, 110, 100, 115, 104, 97, 107, 101, 95, 105, 118]
def k_sak : List Nat := [115, 101, 114, 118, 101, 114, 95, 97, 112, 112, 108, 105, 99, 97, 116, 105, 111, 110, 95, 107, 101, 121]
def k_sai : List Nat := [115, 101, 114, 118, 101, 114, 95, 97, 112, 112, 108, 105, 99, 97, 116, 105, 111, 110, 95, 105, 118]
def k_cak : List Nat := [99, 108, 105, 101, 110, 116, 95, 97, 112, 112, 108, 105, 99, 97, 116, 105, 111, 110, 95, 107, 101, 121]
def k_cai : List Nat := [99, 108, 105, 101, 110, 116, 95, 97, 112, 112, 108, 105, 99, 97, 116, 105, 111, 110, 95, 105, 118]
def k_sas : List Nat := [115, 101, 114, 118, 101, 114, 95, 97, 112, 112, 108, 105, 99, 97, 116, 105, 111, 110, 95, 115, 101, 99]
def k_cas : List Nat := [99, 108, 105, 101, 110, 116, 95, 97, 112, 112, 108, 105, 99, 97, 116, 105, 111, 110, 95, 115, 101, 99]
def k_cek : List Nat := [99, 108, 105, 101, 110, 116, 95, 101, 97, 114, 108, 121, 95, 107, 101, 121]
def k_cei : List Nat := [99, 108, 105, 101, 110, 116, 95, 101, 97, 114, 108, 121, 95, 105, 118]

def hsDict : Option (DirKeys × DirKeys) → List (List Nat × Option Bytes)
  | none => []
  | some (s, c) => [(k_shk, some s.key), (k_shi, some s.iv), (k_chk, some c.key), (k_chi, some c.iv)]

def appDict : Option AppKeys → List (List Nat × Option Bytes)
  | none => []
  | some a => [(k_sak, some a.server.key), (k_sai, some a.server.iv), (k_cak, some a.client.key), (k_cai, some a.client.iv),
               (k_sas, some a.serverSec), (k_cas, some a.clientSec)]

def earlyDict : Option DirKeys → List (List Nat × Option Bytes)
  | none => []
  | some e => [(k_cek, some e.key), (k_cei, some e.iv)]

/-- the dict `dev_quic_keys` returns, as far as `set_tls_decryptors` reads it: a group's entries are there iff the group is -/
def dictOf (kg : KeyGroups) : List (List Nat × Option Bytes) := hsDict kg.hs ++ appDict kg.app ++ earlyDict kg.early


theorem hsDict_none : hsDict none = [] := rfl
theorem appDict_none : appDict none = [] := rfl
theorem earlyDict_none : earlyDict none = [] := rfl

theorem tget_nil (k : List Nat) : tableGet ([] : List (List Nat × Option Bytes)) k = none := rfl

/-- `QuicDecryptor(keys, cipher, early)`: four keys (handshake), six (application: with the two secrets), two with `early=True`;
    a `None` key or cipher makes the constructor raise -/
def mkDecOf (ks : List (Option Bytes)) (alg : Option Alg) (early : Bool) : Except Err Dec :=
  match alg, ks, early with
  | some a, [some sk, some si, some ck, some ci], false => .ok { alg := a, server := some ⟨sk, si⟩, client := ⟨ck, ci⟩ }
  | some a, [some sk, some si, some ck, some ci, some ss, some cs], false =>
    .ok { alg := a, server := some ⟨sk, si⟩, client := ⟨ck, ci⟩, serverSec := ss, clientSec := cs }
  | some a, [some ck, some ci], true => .ok { alg := a, server := none, client := ⟨ck, ci⟩ }
  | _, _, _ => .error .type

/-- how the definition was left: `return` inside the first two handlers -/
def exitOf (kg : KeyGroups) : Exit := if kg.hs.isSome && kg.app.isSome then .fall else .ret

/-- everything after the `match`: the key-log entries of this client random, `dev_quic_keys`, `self.keys.update`, the three
    decryptors with their try/excepts -/
theorem install_eq_model {κ : Type} (P : Params σ) (s : St σ) (sel : SuiteSel) (hs : s.suite = some sel)
    (x : List (List Nat × Option Bytes)) (keylog : List κ) (kr : κ → Bytes) (cr : Bytes)
    (dq : Option Nat → List κ → Option HashSel → Version → Except Err (List (List Nat × Option Bytes)))
    (H : dq (some sel.keyLen) (keylog.filter fun k => decide (kr k = cr)) (some sel.hash) s.version
          = match P.devQuicKeys sel s.version cr with | .ok kg => .ok (dictOf kg) | .error e => .error (errOf e)) :
    QS3.install kr dq mkDecOf cr keylog s.version (enc s x)
      = match P.devQuicKeys sel s.version cr with
        | .error e => .raised (errOf e) (enc s x)
        | .ok kg => .ok (exitOf kg) (enc (installGroups s sel kg) (tableUpdate x (dictOf kg))) := by
  unfold QS3.install
  have hf : List.foldl (fun acc k => if decide (kr k = cr) then acc ++ [k] else acc) [] keylog
      = keylog.filter fun k => decide (kr k = cr) := foldl_filter _ id _ (fun _ _ => rfl) keylog []
  simp only [hf, enc, hs, Option.map_some, H]
  cases P.devQuicKeys sel s.version cr with
  | error e => rfl
  | ok kg =>
    obtain ⟨h, a, e⟩ := kg
    simp only [tryE_ok]
    -- with the three groups known, the twelve lookups (every key name is in exactly one group), `mkDecOf` and the handlers compute
    rcases h with _ | ⟨hS, hC⟩ <;> rcases a with _ | a <;> rcases e with _ | e <;>
      simp only [installGroups, hs, Option.map_some] <;> rfl

/-- `set_tls_decryptors(client_random, ciphersuite)`: the `match` and, unless it returned, what follows it — the state the
    model's `setTlsDecryptors` gives (`self.keys` extended by the dict), an exception of dev_quic_keys propagating -/
theorem set_tls_decryptors_eq_model {κ : Type} (P : Params σ) (s : St σ) (x : List (List Nat × Option Bytes)) (keylog : List κ)
    (kr : κ → Bytes) (cr cs : Bytes)
    (dq : Option Nat → List κ → Option HashSel → Version → Except Err (List (List Nat × Option Bytes)))
    (H : ∀ sel, selectSuite cs = some sel →
          dq (some sel.keyLen) (keylog.filter fun k => decide (kr k = cr)) (some sel.hash) s.version
            = match P.devQuicKeys sel s.version cr with | .ok kg => .ok (dictOf kg) | .error e => .error (errOf e)) :
    (match QS3.select_suite cs (enc s x) with
      | .ok .fall st1 => QS3.install kr dq mkDecOf cr keylog s.version st1
      | r => r)
      = match selectSuite cs with
        | none => .ok .ret (enc (setTlsDecryptors P s cr cs).1 x)
        | some sel =>
          match P.devQuicKeys sel s.version cr with
          | .error e => .raised (errOf e) (enc (setTlsDecryptors P s cr cs).1 x)
          | .ok kg => .ok (exitOf kg) (enc (setTlsDecryptors P s cr cs).1 (tableUpdate x (dictOf kg))) := by
  rw [select_suite_eq_model]
  unfold setTlsDecryptors
  cases hsel : selectSuite cs with
  | none => rfl
  | some sel =>
    have := install_eq_model P { s with suite := some sel } sel rfl x keylog kr cr dq (H sel hsel)
    simp only []
    rw [this]
    cases P.devQuicKeys sel s.version cr <;> rfl

end TLX.Props.Translated.QSess3
