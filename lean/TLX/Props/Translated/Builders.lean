/-
Translated Python functions, group Builders: the output builders (tlexport/quic/quic_output_builder.py `QUICOutputbuilder.build`,
tlexport/output_builder.py `OutputBuilder.build` and the three methods it calls) against `TLX/Quic/UdpOut.lean` and `TLX/TcpOut.lean`.
A scapy packet is the list of its layers as constructed (`Gen.Py.Layer`: the keyword arguments the code gives; `/` stacks) — scapy
itself is outside the model (what it serialises is compared byte for byte by the harness). The theorems say that the emitted packets,
in order, are the model's frames / datagrams, each as the layers the code stacks for its direction.
-/
import TLX.Gen.Translated.Builders
import TLX.Props.Translated.Enc
import TLX.Lemmas.PyRt
import TLX.Props.C06
import TLX.Quic.UdpOut
import TLX.TcpOut
namespace TLX.Props.Translated.Bld
open TLX TLX.PyRt TLX.Quic.UdpOut TLX.Gen.Py

/-- the addresses of a builder object -/
structure Cfg where
  server_mac : Bytes
  client_mac : Bytes
  server_ip : List Nat
  client_ip : List Nat
  server_port : Nat
  client_port : Nat
  ipv6 : Bool

/-- the scapy layers of an output datagram. `enc`: the client-to-server IPv6 packet built INSIDE the loop passes the
    addresses through `.encode()` (bytes), the one built after the loop does not -/
def udpPkt (c : Cfg) (cb sb : Bytes) (enc : Bool) (d : Dgram) : Layers × Option Nat :=
  (if d.isServer then
      mkEther c.server_mac c.client_mac ++ mkIP c.ipv6 (.inl c.server_ip) (.inl c.client_ip) ++ mkUDP c.client_port c.server_port ++ mkRaw d.payload
    else if c.ipv6 && enc then
      mkEther c.client_mac c.server_mac ++ mkIP true (.inr cb) (.inr sb) ++ mkUDP c.server_port c.client_port ++ mkRaw d.payload
    else
      mkEther c.client_mac c.server_mac ++ mkIP c.ipv6 (.inl c.client_ip) (.inl c.server_ip) ++ mkUDP c.server_port c.client_port ++ mkRaw d.payload,
   some d.ts)

abbrev LSt := Option Nat × Option Bool × Bytes × List (Layers × Option Nat)

/-- the loop state of the translation that stands for the model's -/
def encSt (c : Cfg) (cb sb : Bytes) (out0 : List (Layers × Option Nat)) (s : St) : LSt :=
  (s.1.map (·.1), s.1.map (·.2.1), (s.1.map (·.2.2)).getD [], out0 ++ s.2.map (udpPkt c cb sb true))

theorem quic_round (c : Cfg) (cb sb : Bytes) (hc : utf8E c.client_ip = .ok cb) (hs : utf8E c.server_ip = .ok sb) (md : Bool)
    (o out0 : List (Layers × Option Nat)) (s : St) (f : Frame) :
    quic_build.loop1 md o c.server_mac c.client_mac c.server_ip c.client_ip c.server_port c.client_port c.ipv6 (encSt c cb sb out0 s) f
      = .ok (.next (encSt c cb sb out0 (step md s f))) := by
  unfold quic_build.loop1 step exported isStream encSt
  obtain ⟨cur, outD⟩ := s
  -- `data` where the grouping code starts: `stream_data`, or what the metadata branch read (`None`: `continue`)
  simp only [decide_eq_true_eq]
  by_cases hst : f.ftype ∈ ([8, 9, 10, 11, 12, 13, 14, 15] : List Nat)
  case' neg =>
    rw [if_neg hst, if_neg hst]
    generalize (if md = true then _ else _ : Option Bytes) = data
    cases data
    · rfl
  case' pos => rw [if_pos hst, if_pos hst]
  -- the grouping code (the translation has it once per branch): no open datagram, the same key, or a flush per direction and IP version
  all_goals
    rcases cur with _ | ⟨ts, srv, pk⟩
    · simp
    · by_cases hk : f.ts = ts ∧ f.isServer = srv
      · simp [hk]
      · cases srv <;> cases h6 : c.ipv6 <;> simp [hk, h6, hc, hs, udpPkt]

theorem quic_loop (c : Cfg) (cb sb : Bytes) (hc : utf8E c.client_ip = .ok cb) (hs : utf8E c.server_ip = .ok sb) (md : Bool)
    (o out0 : List (Layers × Option Nat)) : ∀ (fs : List Frame) (s : St),
    forS fs (encSt c cb sb out0 s) (quic_build.loop1 md o c.server_mac c.client_mac c.server_ip c.client_ip c.server_port c.client_port c.ipv6)
      = (.ok (.next (encSt c cb sb out0 (fs.foldl (step md) s))) : Except Err (Step LSt (Res quic_build.St (List (Layers × Option Nat))))) := by
  intro fs
  induction fs with
  | nil => intro s; rfl
  | cons f rest ih =>
    intro s
    simp only [forS, quic_round c cb sb hc hs, List.foldl_cons]
    exact ih _

/-- what `self.out` is after `build`: the datagrams closed inside the loop, then the open one -/
def quicOut (c : Cfg) (cb sb : Bytes) (out0 : List (Layers × Option Nat)) (s : St) : List (Layers × Option Nat) :=
  out0 ++ s.2.map (udpPkt c cb sb true) ++ (match s.1 with | none => [] | some (ts, srv, pk) => [udpPkt c cb sb false ⟨srv, ts, pk⟩])

/-- `QUICOutputbuilder.build(metadata)`: the datagrams of the model's `build` (`finish` of the folded `step`), each as the scapy
    layers the code stacks for its direction, appended to `self.out`; returned and stored -/
theorem quic_build_eq_model (c : Cfg) (cb sb : Bytes) (hc : utf8E c.client_ip = .ok cb) (hs : utf8E c.server_ip = .ok sb) (md : Bool)
    (out0 : List (Layers × Option Nat)) (fs : List Frame) :
    quic_build md fs out0 c.server_mac c.client_mac c.server_ip c.client_ip c.server_port c.client_port c.ipv6
      = .ok (quicOut c cb sb out0 (fs.foldl (step md) init)) { out := quicOut c cb sb out0 (fs.foldl (step md) init) } := by
  unfold quic_build init
  have h := quic_loop c cb sb hc hs md out0 out0 fs init
  simp only [encSt, init, Option.map_none, Option.getD_none, List.map_nil, List.append_nil] at h
  simp only [h, loopS_next]
  generalize fs.foldl (step md) (none, []) = s
  obtain ⟨cur, outD⟩ := s
  rcases cur with _ | ⟨ts, srv, pk⟩
  · simp [quicOut]
  · cases srv <;> cases hv6 : c.ipv6 <;> simp [quicOut, udpPkt, hv6]

/-- the datagrams are the model's -/
theorem quicOut_build (c : Cfg) (cb sb : Bytes) (md : Bool) (fs : List Frame) (h6 : c.ipv6 = false) :
    quicOut c cb sb [] (fs.foldl (step md) init) = (build md fs).map (udpPkt c cb sb false) := by
  unfold build finish quicOut
  generalize fs.foldl (step md) init = s
  obtain ⟨cur, outD⟩ := s
  have e : udpPkt c cb sb true = udpPkt c cb sb false := by funext d; simp [udpPkt, h6]
  rcases cur with _ | ⟨ts, srv, pk⟩ <;> simp [e]

end TLX.Props.Translated.Bld

namespace TLX.Props.Translated.Bld
open TLX TLX.PyRt TLX.Gen.Py TLX.TcpOut

/-- the first loop of `build_*_packet` (`loop1`: either's round, the two are the same text): the `k - 1` equal parts and `last_len` -/
theorem parts_fold (d : Bytes) (pl : Nat) (loop1 : List Bytes × Int → Int → List Bytes × Int)
    (h1 : ∀ s i, loop1 s i = (s.1 ++ [pySlice d (some (i * (pl : Int))) (some (i * (pl : Int) + (pl : Int)))], i * (pl : Int) + (pl : Int))) :
    ∀ m : Nat, List.foldl loop1 ([], ((0 : Nat) : Int)) (rangeL 0 (m : Int)) = (equalParts d pl m, ((m * pl : Nat) : Int)) := by
  intro m
  rw [rangeL_zero]
  induction m with
  | zero => simp [equalParts]
  | succ n ih =>
    rw [List.range_succ, List.map_append, List.foldl_append, ih]
    simp only [List.map_cons, List.map_nil, List.foldl_cons, List.foldl_nil, equalParts, h1]
    have e1 : (n : Int) * (pl : Int) = ((n * pl : Nat) : Int) := by simp
    have e2 : (n : Int) * (pl : Int) + (pl : Int) = ((n * pl + pl : Nat) : Int) := by simp
    rw [e2, e1, pySlice_nat, Nat.succ_mul]

/-- the model's split as the code writes it down once `last_len` is known: the remainder is appended under an `if` -/
theorem split_eq (d : Bytes) (k : Nat) (hk : k ≠ 0) :
    parts d k = some (if decide ((((k - 1) * (d.length / k) : Nat) : Int) < (d.length : Int)) = true
      then equalParts d (d.length / k) (k - 1) ++ [pySlice d (some (((k - 1) * (d.length / k) : Nat) : Int)) none]
      else equalParts d (d.length / k) (k - 1)) := by
  unfold parts
  simp only [hk, if_false, pySlice_from_nat, Int.ofNat_lt, decide_eq_true_eq]
  split <;> simp

/-- `flags=` of a frame of the model -/
def flagStr (f : Nat) : List Nat :=
  if f = 0x02 then [83] else if f = 0x12 then [83, 65] else if f = 0x10 then [65] else if f = 0x18 then [80, 65] else []

/-- the scapy layers the TCP builder stacks for a frame of the model (a PSH|ACK segment carries `Raw(data)`) -/
def tcpPkt (c : Cfg) (f : TcpOut.Frame) : Layers × Nat :=
  ((if f.fromServer then
      mkEther c.server_mac c.client_mac ++ mkIP c.ipv6 (.inl c.server_ip) (.inl c.client_ip) ++ mkTCP c.client_port c.server_port (flagStr f.flags) f.seq f.ack
    else
      mkEther c.client_mac c.server_mac ++ mkIP c.ipv6 (.inl c.client_ip) (.inl c.server_ip) ++ mkTCP c.server_port c.client_port (flagStr f.flags) f.seq f.ack)
    ++ (if f.flags = 0x18 then mkRaw f.payload else []), f.ts)

/-- the builder state after the frames `fs` were emitted and the sequence numbers became `q` -/
def tcpSt (c : Cfg) (st : Tcp.St) (q : Seqs) (fs : List TcpOut.Frame) : Tcp.St :=
  { st with client_seq := q.1, server_seq := q.2, out := st.out ++ fs.map (tcpPkt c) }

theorem tcpSt_tcpSt (c : Cfg) (st : Tcp.St) (q q' : Seqs) (fs fs' : List TcpOut.Frame) :
    tcpSt c (tcpSt c st q fs) q' fs' = tcpSt c st q' (fs ++ fs') := by
  simp [tcpSt, List.append_assoc]


theorem tcpSt_seqs (c : Cfg) (st : Tcp.St) (q : Seqs) (fs : List TcpOut.Frame) :
    ((tcpSt c st q fs).client_seq, (tcpSt c st q fs).server_seq) = q := rfl

theorem server_round (c : Cfg) (parts : List Bytes) (ts : List Nat) (st : Tcp.St) (i : Nat) (p : Bytes) (t : Nat)
    (hp : parts[i]? = some p) (ht : ts[i]? = some t) :
    Tcp.build_server_packet.loop2 ts c.server_mac c.client_mac c.server_ip c.client_ip c.server_port c.client_port c.ipv6 parts st i
      = .ok (.next (tcpSt c st (partFrames (st.client_seq, st.server_seq) true p t).1 (partFrames (st.client_seq, st.server_seq) true p t).2)) := by
  unfold Tcp.build_server_packet.loop2
  simp only [listItemE_nat, hp, ht, tryE_ok]
  cases h6 : c.ipv6 <;> simp [tcpSt, partFrames, tcpPkt, flagStr, h6, List.append_assoc]

theorem client_round (c : Cfg) (parts : List Bytes) (ts : List Nat) (st : Tcp.St) (i : Nat) (p : Bytes) (t : Nat)
    (hp : parts[i]? = some p) (ht : ts[i]? = some t) :
    Tcp.build_client_packet.loop2 ts c.server_mac c.client_mac c.server_ip c.client_ip c.server_port c.client_port c.ipv6 parts st i
      = .ok (.next (tcpSt c st (partFrames (st.client_seq, st.server_seq) false p t).1 (partFrames (st.client_seq, st.server_seq) false p t).2)) := by
  unfold Tcp.build_client_packet.loop2
  simp only [listItemE_nat, hp, ht, tryE_ok]
  cases h6 : c.ipv6 <;> simp [tcpSt, partFrames, tcpPkt, flagStr, h6, List.append_assoc]

/-- the second loop of `build_*_packet` in either direction: `body` is its round, which emits the frames of part `i` at time `ts[i]`
    wherever both exist; from index `j` on it emits the model's frames of the parts and times that are left -/
theorem parts_loop (c : Cfg) (srv : Bool) (parts : List Bytes) (ts : List Nat) (hlen : parts.length ≤ ts.length)
    (body : Tcp.St → Nat → Except Err (Step Tcp.St (Res Tcp.St Unit)))
    (hbody : ∀ st i p t, parts[i]? = some p → ts[i]? = some t →
      body st i = .ok (.next (tcpSt c st (partFrames (st.client_seq, st.server_seq) srv p t).1 (partFrames (st.client_seq, st.server_seq) srv p t).2))) :
    ∀ (n j : Nat) (st : Tcp.St), j + n = parts.length →
      forS (List.range' j n) st body
        = .ok (.next (tcpSt c st (partsFrames (st.client_seq, st.server_seq) srv (parts.drop j) (ts.drop j)).1
                                 (partsFrames (st.client_seq, st.server_seq) srv (parts.drop j) (ts.drop j)).2)) := by
  intro n
  induction n with
  | zero =>
    intro j st hj
    rw [List.drop_of_length_le (show parts.length ≤ j by omega)]
    simp [forS, partsFrames, tcpSt]
  | succ n ih =>
    intro j st hj
    have hp : j < parts.length := by omega
    have ht : j < ts.length := by omega
    rw [List.drop_eq_getElem_cons hp, List.drop_eq_getElem_cons ht, List.range'_succ]
    simp only [forS, hbody st j _ _ (List.getElem?_eq_getElem hp) (List.getElem?_eq_getElem ht)]
    rw [ih (j + 1) _ (by omega)]
    simp only [tcpSt_tcpSt, partsFrames]
    rfl

/-- `floor(a / b)` on natural operands: ZeroDivisionError for `b = 0`, else the floor of the quotient -/
def fdivOf (a b : Int) : Except Err Int := if b = 0 then .error .zeroDiv else .ok ((a.toNat / b.toNat : Nat) : Int)

theorem tcp_build_server_packet_eq_model (c : Cfg) (d : Bytes) (ts : List Nat) (st : Tcp.St) :
    Tcp.build_server_packet fdivOf d ts c.server_mac c.client_mac c.server_ip c.client_ip c.server_port c.client_port c.ipv6 st
      = match parts d ts.length with
        | none => .raised .zeroDiv st
        | some ps => .ok () (tcpSt c st (partsFrames (st.client_seq, st.server_seq) true ps ts).1 (partsFrames (st.client_seq, st.server_seq) true ps ts).2) := by
  unfold Tcp.build_server_packet
  by_cases hk : ts.length = 0
  · simp [fdivOf, parts, hk]
  · have hk' : ¬ ((ts.length : Int) = 0) := by omega
    have e1 : (ts.length : Int) - 1 = ((ts.length - 1 : Nat) : Int) := by omega
    obtain ⟨ps, hp⟩ : ∃ ps, parts d ts.length = some ps := ⟨_, split_eq d _ hk⟩
    have hps := Option.some.inj ((split_eq d _ hk).symm.trans hp)
    simp only [hp, fdivOf, Int.ofNat_eq_natCast, hk', if_false, tryE_ok, Int.toNat_natCast, Nat.sub_zero, e1,
      parts_fold d (d.length / ts.length) (Tcp.build_server_packet.loop1 d _) (fun _ _ => rfl), hps]
    rw [parts_loop c true ps ts (Props.C06.parts_length_le _ _ _ hp) _ (server_round c ps ts) ps.length 0 st (Nat.zero_add _)]
    rfl

theorem tcp_build_client_packet_eq_model (c : Cfg) (d : Bytes) (ts : List Nat) (st : Tcp.St) :
    Tcp.build_client_packet fdivOf d ts c.server_mac c.client_mac c.server_ip c.client_ip c.server_port c.client_port c.ipv6 st
      = match parts d ts.length with
        | none => .raised .zeroDiv st
        | some ps => .ok () (tcpSt c st (partsFrames (st.client_seq, st.server_seq) false ps ts).1 (partsFrames (st.client_seq, st.server_seq) false ps ts).2) := by
  unfold Tcp.build_client_packet
  by_cases hk : ts.length = 0
  · simp [fdivOf, parts, hk]
  · have hk' : ¬ ((ts.length : Int) = 0) := by omega
    have e1 : (ts.length : Int) - 1 = ((ts.length - 1 : Nat) : Int) := by omega
    obtain ⟨ps, hp⟩ : ∃ ps, parts d ts.length = some ps := ⟨_, split_eq d _ hk⟩
    have hps := Option.some.inj ((split_eq d _ hk).symm.trans hp)
    simp only [hp, fdivOf, Int.ofNat_eq_natCast, hk', if_false, tryE_ok, Int.toNat_natCast, Nat.sub_zero, e1,
      parts_fold d (d.length / ts.length) (Tcp.build_client_packet.loop1 d _) (fun _ _ => rfl), hps]
    rw [parts_loop c false ps ts (Props.C06.parts_length_le _ _ _ hp) _ (client_round c ps ts) ps.length 0 st (Nat.zero_add _)]
    rfl

theorem tcp_build_ack_handshake_eq_model (c : Cfg) (st : Tcp.St) :
    Tcp.build_ack_handshake c.server_mac c.client_mac c.server_ip c.client_ip c.server_port c.client_port c.ipv6 st
      = match st.ts_zero with
        | none => .raised .attr st
        | some t0 => .ok () { st with out := st.out ++ (handshake t0).map (tcpPkt c) } := by
  unfold Tcp.build_ack_handshake
  cases st.ts_zero <;> cases h6 : c.ipv6 <;> simp [handshake, tcpPkt, flagStr, h6]

/-- a record of `decrypted_records` as the model's -/
def recOf (r : Option Bytes × TRec × Bool) : TcpOut.Rec := ⟨r.1, r.2.1, r.2.2⟩

theorem ts_fold (g : List Nat → Nat → List Nat) (hg : ∀ a p, g a p = a ++ [p]) (l : List Nat) : ∀ acc, List.foldl g acc l = acc ++ l := by
  induction l with
  | nil => intro acc; simp
  | cons x r ih => intro acc; simp [hg, ih, List.append_assoc]

theorem record_round (c : Cfg) (st : Tcp.St) (r : Option Bytes × TRec × Bool) (h : st.conn_reset = false) :
    Tcp.build.loop6 fdivOf c.server_mac c.client_mac c.server_ip c.client_ip c.server_port c.client_port c.ipv6 st r
      = match recFrames (st.client_seq, st.server_seq) (recOf r) with
        | none => .ok (.ret (.raised .zeroDiv st))
        | some qf => .ok (.next (tcpSt c st qf.1 qf.2)) := by
  unfold Tcp.build.loop6 recFrames
  simp only [Bool.false_eq_true, if_false, h, id, ts_fold Tcp.build.loop5 (fun _ _ => rfl), List.nil_append]
  obtain ⟨pl, ts, srv⟩ := r
  cases srv
  · simp only [Bool.false_eq_true, if_false, tcp_build_client_packet_eq_model, recOf, Rec.bytes, placeholder]
    cases parts (pl.getD _) ts.length <;> rfl
  · simp only [if_true, tcp_build_server_packet_eq_model, recOf, Rec.bytes, placeholder]
    cases parts (pl.getD _) ts.length <;> rfl

/-- the record loop once the handshake is out: the model's `bodyFrames`, or ZeroDivisionError where that is `none` -/
theorem record_loop (c : Cfg) : ∀ (recs : List (Option Bytes × TRec × Bool)) (st : Tcp.St), st.conn_reset = false →
    ∃ st', forS recs st (Tcp.build.loop6 fdivOf c.server_mac c.client_mac c.server_ip c.client_ip c.server_port c.client_port c.ipv6)
      = match bodyFrames (st.client_seq, st.server_seq) (recs.map recOf) with
        | some qf => .ok (.next (tcpSt c st qf.1 qf.2))
        | none => .ok (.ret (.raised .zeroDiv st')) := by
  intro recs
  induction recs with
  | nil => intro st _; exact ⟨st, by simp [forS, bodyFrames, tcpSt]⟩
  | cons r rest ih =>
    intro st hcr
    simp only [List.map_cons, bodyFrames, forS, record_round c st r hcr]
    cases recFrames (st.client_seq, st.server_seq) (recOf r) with
    | none => exact ⟨st, rfl⟩
    | some qf1 =>
      obtain ⟨st', h⟩ := ih (tcpSt c st qf1.1 qf1.2) hcr
      rw [tcpSt_seqs] at h
      refine ⟨st', ?_⟩
      simp only [Option.bind_some, h]
      cases bodyFrames qf1.1 (rest.map recOf) <;> simp only [Option.map_none, Option.map_some, tcpSt_tcpSt]

/-- the first round emits the handshake at the first carrier time of its record and goes on as any other round -/
theorem first_round (c : Cfg) (st : Tcp.St) (r : Option Bytes × TRec × Bool) (rest : List (Option Bytes × TRec × Bool)) (t0 : Nat) (tl : List Nat)
    (h : st.conn_reset = true) (hr : r.2.1 = t0 :: tl) :
    forS (r :: rest) st (Tcp.build.loop6 fdivOf c.server_mac c.client_mac c.server_ip c.client_ip c.server_port c.client_port c.ipv6)
      = forS (r :: rest) { st with ts_zero := some t0, out := st.out ++ (handshake t0).map (tcpPkt c), conn_reset := false }
          (Tcp.build.loop6 fdivOf c.server_mac c.client_mac c.server_ip c.client_ip c.server_port c.client_port c.ipv6) := by
  have e0 : listItemE (t0 :: tl) (0 : Int) = .ok t0 := rfl
  simp only [forS, Tcp.build.loop6, Bool.false_eq_true, if_false, h, if_true, id, hr, e0, tryE_ok, tcp_build_ack_handshake_eq_model, tryR_ok,
    ts_fold Tcp.build.loop4 (fun _ _ => rfl), ts_fold Tcp.build.loop5 (fun _ _ => rfl)]

theorem first_round_nil (c : Cfg) (st : Tcp.St) (r : Option Bytes × TRec × Bool) (h : st.conn_reset = true) (hr : r.2.1 = []) :
    Tcp.build.loop6 fdivOf c.server_mac c.client_mac c.server_ip c.client_ip c.server_port c.client_port c.ipv6 st r
      = .ok (.ret (.raised .index st)) := by
  unfold Tcp.build.loop6
  have e0 : listItemE ([] : List Nat) (0 : Int) = .error .index := rfl
  simp only [Bool.false_eq_true, if_false, h, if_true, id, hr, e0, tryE_error]

theorem flags_fold : ∀ (recs : List (Option Bytes × TRec × Bool)) (st : Tcp.St),
    List.foldl Tcp.build.loop1 st recs = if recs.isEmpty then st else { st with no_application_records := false } := by
  intro recs
  induction recs with
  | nil => intro st; rfl
  | cons r rest ih =>
    intro st
    simp only [List.foldl_cons, ih, List.isEmpty_cons, Bool.false_eq_true, if_false, Tcp.build.loop1, if_true]
    cases rest <;> rfl

/-- `OutputBuilder.build()` on a fresh builder (`out = []`, both sequence numbers 1): the frames of the model's `build`, each as the
    scapy layers of its direction, returned and left in `self.out`; an exception exactly where the model has `none` -/
theorem tcp_build_eq_model (c : Cfg) (recs : List (Option Bytes × TRec × Bool)) (st : Tcp.St)
    (h0 : st.out = []) (h1 : st.server_seq = 1) (h2 : st.client_seq = 1) :
    match TcpOut.build (recs.map recOf) with
    | some fs => ∃ st', Tcp.build fdivOf c.server_mac c.client_mac c.server_ip c.client_ip c.server_port c.client_port c.ipv6 recs st
                          = .ok (fs.map (tcpPkt c)) st' ∧ st'.out = fs.map (tcpPkt c)
    | none => ∃ e st', Tcp.build fdivOf c.server_mac c.client_mac c.server_ip c.client_ip c.server_port c.client_port c.ipv6 recs st
                          = .raised e st' := by
  obtain ⟨o, ss, cs, tz, cr, na⟩ := st
  simp only at h0 h1 h2
  subst h0 h1 h2
  unfold Tcp.build TcpOut.build
  simp only [flags_fold]
  cases recs with
  | nil => exact ⟨_, rfl, rfl⟩
  | cons r rest =>
    simp only [List.isEmpty_cons, Bool.false_eq_true, if_false, List.map_cons]
    cases hts : r.2.1 with
    | nil =>
      have : (recOf r).ts = [] := hts
      simp only [this, forS, first_round_nil c ⟨[], 1, 1, tz, true, false⟩ r rfl hts, loopS_ret]
      exact ⟨_, _, rfl⟩
    | cons t0 tl =>
      have : (recOf r).ts = t0 :: tl := hts
      simp only [this]
      rw [first_round c ⟨[], 1, 1, tz, true, false⟩ r rest t0 tl rfl hts]
      obtain ⟨st', hloop⟩ := record_loop c (r :: rest) ⟨[] ++ (handshake t0).map (tcpPkt c), 1, 1, some t0, false, false⟩ rfl
      simp only [hloop, List.map_cons]
      cases bodyFrames (1, 1) (recOf r :: rest.map recOf) with
      | none => exact ⟨_, _, rfl⟩
      | some qf =>
        refine ⟨tcpSt c ⟨[] ++ (handshake t0).map (tcpPkt c), 1, 1, some t0, false, false⟩ qf.1 qf.2, ?_, ?_⟩ <;> simp [tcpSt]

/-- evaluation: one 5-byte server record carried by two packets: handshake, two data segments, two ACKs -/
example : (match Tcp.build fdivOf [1] [2] [49] [50] 443 5000 false [(some [1, 2, 3, 4, 5], [10, 20], true)] ⟨[], 1, 1, none, false, false⟩ with
           | .ok out _ => out.map (fun p => (p.1.length, p.2))
           | .raised _ _ => []) = [(3, 10), (3, 10), (3, 10), (4, 10), (3, 10), (4, 20), (3, 20)] := by decide +kernel

end TLX.Props.Translated.Bld
