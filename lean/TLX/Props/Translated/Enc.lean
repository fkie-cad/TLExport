/-
The encodings of model values as Python-level results that the groups of `Props/Translated/` share (no generated file is imported
here): `ofOpt` / `obind` are to a model in `Option` what `tryE` with the propagating handler is to the translation. A group's module
imports the generated file of its own group and of the groups whose functions its own call (`translate.GROUP_DEPS`), so that a source
change outside them cannot break it.
Namespaces. Thirteen groups declare in `TLX.Props.Translated` itself; below it TlsSess2 in `Sess`, KeySched `KS`, Decrypt `Decr`,
Decrypt2 `Decr2`, QuicSess2 `QSess`, QuicSess3 `QSess3`, QuicTls `QTlsP`, Builders `Bld`, Keylog `KLog`, and `Dsb`, `Main2`, `Opts`,
`TlsKeys` under the group's name. `Props/OnCode/Cxx.lean` declares in `TLX.OnCode.Cxx`, `Lemmas/Translated/*` in `TLX.Lemmas.Translated`.
-/
import TLX.Lemmas.PyRt
import TLX.MainLoop
namespace TLX.Props.Translated
open TLX TLX.PyRt

/-- a model's `none` for IndexError (the dissector model's `Quic.Dissect.ofOpt` is the same with the model's own error kinds) -/
def ofOpt {α : Type} : Option α → Except Err α
  | none => .error .index
  | some a => .ok a

/-- continue with the value of a model `Option`, IndexError on `none` -/
def obind {α β : Type} (o : Option α) (K : α → Except Err β) : Except Err β :=
  match o with
  | none => .error .index
  | some a => K a

@[simp] theorem obind_none {α β : Type} (K : α → Except Err β) : obind none K = .error .index := rfl
@[simp] theorem obind_some {α β : Type} (a : α) (K : α → Except Err β) : obind (some a) K = K a := rfl

theorem ofOpt_bind {α β : Type} (o : Option α) (f : α → Option β) : ofOpt (o.bind f) = obind o (fun a => ofOpt (f a)) := by
  cases o <;> rfl

theorem map_obind {α β γ : Type} (g : β → γ) (o : Option α) (K : α → Except Err β) :
    Except.map g (obind o K) = obind o (fun a => Except.map g (K a)) := by
  cases o <;> rfl

theorem obind_map {α β γ : Type} (g : α → β) (o : Option α) (K : β → Except Err γ) :
    obind (o.map g) K = obind o (fun a => K (g a)) := by
  cases o <;> rfl

theorem tryE_obind {α β γ : Type} (o : Option α) (K' : α → Except Err β) (K : β → Except Err γ) :
    tryE (obind o K') (fun e => .error e) K = obind o (fun a => tryE (K' a) (fun e => .error e) K) := by
  cases o <;> rfl

theorem exc_map_map {α β γ : Type} (x : Except Err α) (f : α → β) (g : β → γ) :
    (x.map f).map g = x.map (fun a => g (f a)) := by
  cases x <;> rfl

theorem tryE_ofOpt {α β : Type} (o : Option α) (K : α → Except Err β) :
    tryE (ofOpt o) (fun e => .error e) K = obind o K := by
  cases o <;> rfl

theorem obind_bind {α β γ : Type} (o : Option α) (f : α → Option β) (K : β → Except Err γ) :
    obind (o.bind f) K = obind o (fun a => obind (f a) K) := by
  cases o <;> rfl

theorem try_item {β : Type} (p : Bytes) (i : Nat) (K : Nat → Except Err β) :
    tryE (getItem p (Int.ofNat i)) (fun e => .error e) K = obind p[i]? (fun x => K x.toNat) := by
  rw [getItem_nat]
  cases p[i]? <;> rfl

theorem try_item0 {β : Type} (p : Bytes) (K : Nat → Except Err β) :
    tryE (getItem p (0 : Int)) (fun e => .error e) K = obind p[0]? (fun x => K x.toNat) := try_item p 0 K


theorem map_ite {α β : Type} (g : α → β) (c : Prop) [Decidable c] (a b : Except Err α) :
    Except.map g (if c then a else b) = if c then Except.map g a else Except.map g b := apply_ite _ c a b

theorem ofOpt_ite {α : Type} (c : Prop) [Decidable c] (a b : Option α) :
    ofOpt (if c then a else b) = if c then ofOpt a else ofOpt b := apply_ite _ c a b

theorem obind_ite {α β : Type} (c : Prop) [Decidable c] (a b : Option α) (K : α → Except Err β) :
    obind (if c then a else b) K = if c then obind a K else obind b K := apply_ite (obind · K) c a b

theorem map_eq_ofOpt {α β : Type} {x : Except Err α} {f : α → β} {o : Option β} (h : x.map f = ofOpt o) :
    (∃ a, x = .ok a ∧ o = some (f a)) ∨ (x = .error .index ∧ o = none) := by
  cases x <;> cases o <;> cases h
  · exact Or.inr ⟨rfl, rfl⟩
  · exact Or.inl ⟨_, rfl, rfl⟩

/-- functions of `datagram_data[0]`: IndexError on `b""`, else the model's function of the first byte -/
def onFirst {α : Type} (d : Bytes) (f : UInt8 → α) : Except Err α :=
  match d with
  | [] => .error .index
  | fb :: _ => .ok (f fb)

/-- `Endpoint` equality is equality of address and port (the translated code compares them one by one) -/
theorem endpoint_beq (a b : MainLoop.Endpoint) : (a == b) = (decide (a.ip = b.ip) && decide (a.port = b.port)) := by
  cases a; cases b
  simp only [BEq.beq, MainLoop.Endpoint.mk.injEq]
  simp [Bool.decide_and]

/-- `for k in l: if p(k): acc.append(k)`, the list being one component (`π`) of the loop state -/
theorem foldl_filter {σ α : Type} (f : σ → α → σ) (π : σ → List α) (p : α → Bool)
    (hf : ∀ s k, π (f s k) = if p k then π s ++ [k] else π s) : ∀ (l : List α) (s : σ), π (l.foldl f s) = π s ++ l.filter p := by
  intro l
  induction l with
  | nil => intro s; simp
  | cons k r ih =>
    intro s
    rw [List.foldl_cons, ih, hf, List.filter_cons]
    cases p k <;> simp

theorem foldl_enc {α β γ δ : Type} (enc : α → β) (f : α → γ → α) (g : β → δ → β) (d : δ → γ)
    (hg : ∀ a s, g (enc a) s = enc (f a (d s))) : ∀ (ss : List δ) (a : α), ss.foldl g (enc a) = enc ((ss.map d).foldl f a) := by
  intro ss
  induction ss with
  | nil => intro a; rfl
  | cons s rest ih => intro a; simp only [List.foldl_cons, List.map_cons, hg, ih]

/-- `a ^ b` on two bytes, computed on ints as Python does -/
theorem xor_u8 (a b : UInt8) : UInt8.ofNat (a.toNat ^^^ b.toNat) = a ^^^ b := by
  rw [← UInt8.toNat_inj]
  simp [UInt8.toNat_xor]

end TLX.Props.Translated
