/-
Translated Python functions, group Ports: tlexport/session.py `set_client_and_server_ports`; both output builders' `__init__`.
-/
import TLX.Gen.Translated.Ports
import TLX.Props.Translated.Enc
import TLX.MainLoop
import TLX.TcpOut
namespace TLX.Props.Translated
open TLX TLX.PyRt

/-- `set_client_and_server_ports`: server and client endpoint are the model's `rolesOf`; the MAC addresses and the
    IPv6 flag (outside `rolesOf`) follow the same choice -/
theorem set_client_and_server_ports_eq_model (ports : List Int) (p : MainLoop.Pkt) (v6 : Bool) (macSrc macDst : Bytes) :
    Gen.Py.set_client_and_server_ports ports v6 p.src.ip p.dst.ip p.src.port p.dst.port macSrc macDst =
      { ipv6 := v6,
        server_ip := (MainLoop.rolesOf ports p).1.ip, server_port := (MainLoop.rolesOf ports p).1.port,
        server_mac_addr := if ports.contains (p.src.port : Int) then macSrc else macDst,
        client_ip := (MainLoop.rolesOf ports p).2.ip, client_port := (MainLoop.rolesOf ports p).2.port,
        client_mac_addr := if ports.contains (p.src.port : Int) then macDst else macSrc } := by
  unfold Gen.Py.set_client_and_server_ports MainLoop.rolesOf
  by_cases h : (p.src.port : Int) ∈ ports <;> simp [h]

example : (Gen.Py.set_client_and_server_ports [443, 44330] false [10, 0, 0, 2] [10, 0, 0, 1] 5000 443 [2] [1]).server_port = 443 ∧
    (Gen.Py.set_client_and_server_ports [443, 44330] false [10, 0, 0, 1] [10, 0, 0, 2] 443 5000 [1] [2]).server_ip = [10, 0, 0, 1] := by
  decide +kernel

/-- `OutputBuilder.__init__`: never raises (the `portmap[…]` read is guarded), exports the model's `exportedServerPort`,
    keeps the client port, falls back to 8080, starts both sequence numbers at 1 -/
theorem output_builder_init_eq_model (sp cp : Nat) (portmap : Nat → Option Nat) (keep : Bool) :
    Gen.Py.output_builder_init sp cp portmap keep =
      .ok () { server_port_ := TcpOut.exportedServerPort keep portmap sp, client_port_ := cp, default_port := 8080,
               server_seq := 1, client_seq := 1 } := by
  unfold Gen.Py.output_builder_init TcpOut.exportedServerPort
  cases keep <;> cases h : portmap sp <;> simp [h, dictGetE]

example : Gen.Py.output_builder_init 443 5000 (fun k => if k = 443 then some 8443 else none) false =
    .ok () { server_port_ := 8443, client_port_ := 5000, default_port := 8080, server_seq := 1, client_seq := 1 } ∧
    Gen.Py.output_builder_init 444 5000 (fun k => if k = 443 then some 8443 else none) false =
    .ok () { server_port_ := 8080, client_port_ := 5000, default_port := 8080, server_seq := 1, client_seq := 1 } := by decide +kernel

/-- `QUICOutputbuilder.__init__`: the same port choice -/
theorem quic_output_builder_init_eq_model (sp cp : Nat) (portmap : Nat → Option Nat) (keep : Bool) :
    Gen.Py.quic_output_builder_init sp cp portmap keep =
      .ok () { server_port_ := TcpOut.exportedServerPort keep portmap sp, client_port_ := cp, default_port := 8080 } := by
  unfold Gen.Py.quic_output_builder_init TcpOut.exportedServerPort
  cases keep <;> cases h : portmap sp <;> simp [h, dictGetE]

example : Gen.Py.quic_output_builder_init 443 5000 (fun _ => none) true =
    .ok () { server_port_ := 443, client_port_ := 5000, default_port := 8080 } := by decide +kernel

end TLX.Props.Translated
