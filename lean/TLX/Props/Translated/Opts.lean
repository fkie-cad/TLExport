/-
main.py's port options as translated from the Python source (`TLX/Gen/Translated/Opts.lean`) equal the hand-written model
`TLX/Options.lean` (C10): `MapPortsAction.__call__` (`mapPortsAction` with the literal `["443:8080"]` of the source as `bare`,
`keepOriginalPorts`), `get_port_map` (`getPortMap`; `int(str)` is the external `py_int`, instantiated with the model's `pyInt`;
the stored `mapports` is what the action stored), the built-in port list and `server_ports.extend([int(x) …])` (`serverPorts`).
-/
import TLX.Gen.Translated.Opts
import TLX.Props.Translated.Enc
import TLX.Lemmas.PyRt
import TLX.Keylog
namespace TLX.Props.Translated.Opts
open TLX TLX.Options TLX.Gen.Py PyRt
open TLX.Keylog (Str splitOn)

/-- the value the source stores for a bare `-m` (`["443:8080"]`) -/
def bareLit : List Str := [[52, 52, 51, 58, 56, 48, 56, 48]]

/-- the model's two exceptions as Python's -/
def errOf : Options.Err → PyRt.Err
  | .value => .value
  | .index => .index

def liftE {α : Type} : Except Options.Err α → Except PyRt.Err α
  | .ok a => .ok a
  | .error e => .error (errOf e)

/-- `MapPortsAction.__call__(parser, namespace, values)`: what it stores in the namespace -/
theorem MapPortsAction_call_eq_model (values : List Str) :
    Opts.MapPortsAction_call values = ⟨mapPortsAction bareLit values, keepOriginalPorts (some values)⟩ := by
  unfold Opts.MapPortsAction_call mapPortsAction keepOriginalPorts bareLit
  cases values <;> simp

theorem tableSet_eq (m : List (Int × Int)) (k v : Int) : PyRt.tableSet m k v = dictSet m k v := by
  unfold PyRt.tableSet dictSet
  have h1 : (m.any fun e => decide (e.1 = k)) = m.any (·.1 == k) := by
    congr 1
  have h2 : (m.map fun e => if e.1 = k then (k, v) else e) = m.map fun e => if e.1 == k then (k, v) else e := by
    congr 1; funext e; simp
  rw [h1, h2]

/-- one round of the loop of `get_port_map` -/
def round (m : List (Int × Int)) (i : Str) : Except PyRt.Err (List (Int × Int)) :=
  let i : List Nat := (PyRt.strRemove 44 i)
  let split : List (List Nat) := (PyRt.strSplit 58 i)
  PyRt.tryE (PyRt.listItemE split (0 : Int)) (fun py_e => .error py_e) (fun py_t_2 =>
    PyRt.tryE (PyRt.someE PyRt.Err.value (pyInt py_t_2)) (fun py_e => .error py_e) (fun py_t_3 =>
      PyRt.tryE (PyRt.listItemE split (1 : Int)) (fun py_e => .error py_e) (fun py_t_4 =>
        PyRt.tryE (PyRt.someE PyRt.Err.value (pyInt py_t_4)) (fun py_e => .error py_e) (fun py_t_5 =>
          .ok (PyRt.tableSet m py_t_3 py_t_5)))))

theorem round_eq (m : List (Int × Int)) (tok : Str) :
    round m tok = liftE ((mapEntry tok).map fun e => dictSet m e.1 e.2) := by
  unfold round mapEntry
  simp only [PyRt.strSplit_eq, PyRt.strRemove]
  have h0 : ((0 : Int)) = Int.ofNat 0 := rfl
  have h1 : ((1 : Int)) = Int.ofNat 1 := rfl
  rw [h0, h1]
  simp only [listItemE_nat, tableSet_eq]
  rcases splitOn 58 (List.filter (fun x => decide (x ≠ 44)) tok) with _ | ⟨a, _ | ⟨b, r⟩⟩
  · rfl
  · cases h : pyInt a <;> simp [h, tryE, someE, liftE, errOf, Except.map]
  · cases h : pyInt a <;> cases h' : pyInt b <;> simp [h, h', tryE, someE, liftE, errOf, Except.map]

theorem rounds_eq : ∀ (l : List Str) (m : List (Int × Int)),
    forE l m round = liftE (l.foldlM (fun m tok => (mapEntry tok).map fun e => dictSet m e.1 e.2) m) := by
  intro l
  induction l with
  | nil => intro m; rfl
  | cons t r ih =>
    intro m
    simp only [forE, List.foldlM_cons, round_eq]
    cases mapEntry t with
    | error e => rfl
    | ok e => exact ih _

/-- `get_port_map(args)` on what `MapPortsAction` stored for the values of `-m` (`none`: no `-m`, the attribute is absent) -/
theorem get_port_map_eq_model (mArg : Option (List Str)) :
    Opts.get_port_map pyInt (mArg.map fun vs => (Opts.MapPortsAction_call vs).mapports) = liftE (getPortMap bareLit mArg) := by
  unfold Opts.get_port_map getPortMap
  cases mArg with
  | none => rfl
  | some vs =>
    simp only [Option.map_some, MapPortsAction_call_eq_model]
    have := rounds_eq (mapPortsAction bareLit vs) []
    unfold round at this
    erw [this]
    cases (List.foldlM (fun m tok => (mapEntry tok).map fun e => dictSet m e.1 e.2) [] (mapPortsAction bareLit vs)) <;> rfl

/-- `server_ports = [443, 44330]` and `server_ports.extend([int(x) for x in args.serverports])`: with `-p` (strings) and without
    (`pDefault`, the ints argparse supplies) -/
theorem extend_server_ports_eq_model (pDefault : List Int) (vs : List Str) :
    Opts.extend_server_ports pyInt Opts.builtin_server_ports vs
        = (match serverPorts [443, 44330] pDefault (some vs) with
           | .ok ps => .ok () ⟨ps⟩
           | .error e => .raised (errOf e) ⟨Opts.builtin_server_ports⟩)
    ∧ (Opts.extend_server_ports_default Opts.builtin_server_ports pDefault).server_ports = [443, 44330] ++ pDefault
    ∧ serverPorts [443, 44330] pDefault none = .ok ([443, 44330] ++ pDefault) := by
  refine ⟨?_, ?_, rfl⟩
  · unfold Opts.extend_server_ports serverPorts
    simp only []
    cases List.mapM pyInt vs <;> rfl
  · simp [Opts.extend_server_ports_default, Opts.builtin_server_ports]

end TLX.Props.Translated.Opts
