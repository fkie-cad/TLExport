/-
`Decryptor.__init__` with `get_cipher_type` and `parse_keys` (tlexport/decryptor.py) as translated from the Python source
(`TLX/Gen/Translated/Decrypt2.lean`) equals the model's `Dec.init` (`TLX/RecordLayer.lean`).

The translation runs over a record of every attribute the constructor assigns (`Dec2.St`); an attribute that is not assigned
on some path keeps the value of the record the constructor starts from (`st0`: for a new object these attributes do not exist).
`keys` is a dict with `bytes | None` values: `dict13 k` (TLS 1.3) or `dictLegacy k cm sm` for the model's `Keys`.
`encInit` is the record that stands for the model's `Dec`. Stated for `compression = 0` (the model's scope).
-/
import TLX.Gen.Translated.Decrypt2
import TLX.Lemmas.PyRt
namespace TLX.Props.Translated.Decr2
open TLX TLX.RecordLayer TLX.Cipher TLX.Gen.Py PyRt

def errOf : Cipher.PyErr → Err
  | .index => .index | .key => .key | .attr => .attr | .unbound => .unbound | .overflow => .overflow | .value => .value
  | .type => .type | .invalidTag => .value | .unsupported => .value | .other => .value

def ofPy {α : Type} : Cipher.Py α → Except Err α
  | .ok a => .ok a
  | .error e => .error (errOf e)

def kk0 : List Nat := [99, 108, 105, 101, 110, 116, 95, 104, 97, 110, 100, 115, 104, 97, 107, 101, 95, 105, 118]   -- client_handshake_iv
def kk1 : List Nat := [115, 101, 114, 118, 101, 114, 95, 104, 97, 110, 100, 115, 104, 97, 107, 101, 95, 105, 118]   -- server_handshake_iv
def kk2 : List Nat := [99, 108, 105, 101, 110, 116, 95, 97, 112, 112, 108, 105, 99, 97, 116, 105, 111, 110, 95, 105, 118]   -- client_application_iv
def kk3 : List Nat := [115, 101, 114, 118, 101, 114, 95, 97, 112, 112, 108, 105, 99, 97, 116, 105, 111, 110, 95, 105, 118]   -- server_application_iv
def kk4 : List Nat := [99, 108, 105, 101, 110, 116, 95, 104, 97, 110, 100, 115, 104, 97, 107, 101, 95, 116, 114, 97, 102, 102, 105, 99, 95, 115, 101, 99, 114, 101, 116]   -- client_handshake_traffic_secret
def kk5 : List Nat := [115, 101, 114, 118, 101, 114, 95, 104, 97, 110, 100, 115, 104, 97, 107, 101, 95, 116, 114, 97, 102, 102, 105, 99, 95, 115, 101, 99, 114, 101, 116]   -- server_handshake_traffic_secret
def kk6 : List Nat := [99, 108, 105, 101, 110, 116, 95, 97, 112, 112, 108, 105, 99, 97, 116, 105, 111, 110, 95, 116, 114, 97, 102, 102, 105, 99, 95, 115, 101, 99, 114, 101, 116, 95, 48]   -- client_application_traffic_secret_0
def kk7 : List Nat := [115, 101, 114, 118, 101, 114, 95, 97, 112, 112, 108, 105, 99, 97, 116, 105, 111, 110, 95, 116, 114, 97, 102, 102, 105, 99, 95, 115, 101, 99, 114, 101, 116, 95, 48]   -- server_application_traffic_secret_0
def kk8 : List Nat := [99, 108, 105, 101, 110, 116, 95, 119, 114, 105, 116, 101, 95, 73, 86]   -- client_write_IV
def kk9 : List Nat := [115, 101, 114, 118, 101, 114, 95, 119, 114, 105, 116, 101, 95, 73, 86]   -- server_write_IV
def kk10 : List Nat := [99, 108, 105, 101, 110, 116, 95, 119, 114, 105, 116, 101, 95, 107, 101, 121]   -- client_write_key
def kk11 : List Nat := [115, 101, 114, 118, 101, 114, 95, 119, 114, 105, 116, 101, 95, 107, 101, 121]   -- server_write_key
def kk12 : List Nat := [99, 108, 105, 101, 110, 116, 95, 119, 114, 105, 116, 101, 95, 77, 65, 67, 95, 115, 101, 99, 114, 101, 116]   -- client_write_MAC_secret
def kk13 : List Nat := [115, 101, 114, 118, 101, 114, 95, 119, 114, 105, 116, 101, 95, 77, 65, 67, 95, 115, 101, 99, 114, 101, 116]   -- server_write_MAC_secret

/-- the dict `dev_tls_13_keys` returns, as far as `parse_keys` reads it (`None` for a missing secret) -/
def dict13 (k : Keys) : List (List Nat × Option Bytes) :=
  [(kk0, k.cHsIv), (kk1, k.sHsIv), (kk2, k.cAppIv), (kk3, k.sAppIv), (kk4, k.cHsKey), (kk5, k.sHsKey), (kk6, k.cAppKey), (kk7, k.sAppKey)]
/-- the dict of the key-block slicing (TLS ≤ 1.2), with the two MAC secrets -/
def dictLegacy (k : Keys) (cm sm : Option Bytes) : List (List Nat × Option Bytes) :=
  [(kk8, k.cIv), (kk9, k.sIv), (kk10, k.cKey), (kk11, k.sKey), (kk12, cm), (kk13, sm)]

theorem get_cipher_type_eq_model (st : Dec2.St) :
    Dec2.get_cipher_type st = .ok () { st with cipher_type := some (cipherType st.bulk_alg) } := by
  unfold Dec2.get_cipher_type
  rcases hb : st.bulk_alg <;> simp [cipherType]

def cFall (k : Keys) : Bool := k.cHsKey.isNone || k.cHsIv.isNone
def sFall (k : Keys) : Bool := k.sHsKey.isNone || k.sHsIv.isNone

/-- what `parse_keys` assigns for TLS 1.3: the eight attributes, the fallback to the application secrets where a handshake
    secret or IV is missing (per direction), the four working attributes -/
def parsed13 (k : Keys) (st : Dec2.St) : Dec2.St :=
  { st with
    client_handshake_iv := if cFall k then k.cAppIv else k.cHsIv, server_handshake_iv := if sFall k then k.sAppIv else k.sHsIv,
    client_application_iv := k.cAppIv, server_application_iv := k.sAppIv,
    client_handshake_key := if cFall k then k.cAppKey else k.cHsKey, server_handshake_key := if sFall k then k.sAppKey else k.sHsKey,
    client_application_key := k.cAppKey, server_application_key := k.sAppKey,
    server_key := if sFall k then k.sAppKey else k.sHsKey, client_key := if cFall k then k.cAppKey else k.cHsKey,
    server_iv := if sFall k then k.sAppIv else k.sHsIv, client_iv := if cFall k then k.cAppIv else k.cHsIv }

def parsedLegacy (k : Keys) (cm sm : Option Bytes) (st : Dec2.St) : Dec2.St :=
  { st with client_iv := k.cIv, server_iv := k.sIv, client_key := k.cKey, server_key := k.sKey, client_mac := cm, server_mac := sm }

/-- `parse_keys` for TLS 1.3 reads eight entries of its dict; any dict that has them will do (`dict13 k` is one) -/
theorem parse_keys_13_of (keys : List (List Nat × Option Bytes)) (k : Keys) (st : Dec2.St) (hv : st.tls_version = .tls13)
    (h0 : tableGetE keys kk0 = .ok k.cHsIv) (h1 : tableGetE keys kk1 = .ok k.sHsIv)
    (h2 : tableGetE keys kk2 = .ok k.cAppIv) (h3 : tableGetE keys kk3 = .ok k.sAppIv)
    (h4 : tableGetE keys kk4 = .ok k.cHsKey) (h5 : tableGetE keys kk5 = .ok k.sHsKey)
    (h6 : tableGetE keys kk6 = .ok k.cAppKey) (h7 : tableGetE keys kk7 = .ok k.sAppKey) :
    Dec2.parse_keys keys st = .ok () (parsed13 k st) := by
  unfold Dec2.parse_keys
  -- the generated code spells the key names out
  simp only [kk0, kk1, kk2, kk3, kk4, kk5, kk6, kk7] at h0 h1 h2 h3 h4 h5 h6 h7
  simp only [decide_eq_true hv, if_true, h0, h1, h2, h3, h4, h5, h6, h7, tryE_ok]
  obtain ⟨cKey, sKey, cIv, sIv, cHsKey, sHsKey, cAppKey, sAppKey, cHsIv, sHsIv, cAppIv, sAppIv⟩ := k
  cases cHsKey <;> cases cHsIv <;> cases sHsKey <;> cases sHsIv <;> rfl

/-- … and six for the earlier versions -/
theorem parse_keys_legacy_of (keys : List (List Nat × Option Bytes)) (k : Keys) (cm sm : Option Bytes) (st : Dec2.St)
    (hv : st.tls_version ≠ .tls13)
    (h8 : tableGetE keys kk8 = .ok k.cIv) (h9 : tableGetE keys kk9 = .ok k.sIv)
    (h10 : tableGetE keys kk10 = .ok k.cKey) (h11 : tableGetE keys kk11 = .ok k.sKey)
    (h12 : tableGetE keys kk12 = .ok cm) (h13 : tableGetE keys kk13 = .ok sm) :
    Dec2.parse_keys keys st = .ok () (parsedLegacy k cm sm st) := by
  unfold Dec2.parse_keys
  simp only [kk8, kk9, kk10, kk11, kk12, kk13] at h8 h9 h10 h11 h12 h13
  simp only [decide_eq_false hv, Bool.false_eq_true, if_false, h8, h9, h10, h11, h12, h13, tryE_ok]
  rfl

/-- the dict handed to the constructor for the model's `Keys` -/
def dictOf (v : Version) (k : Keys) (cm sm : Option Bytes) : List (List Nat × Option Bytes) :=
  if v = .tls13 then dict13 k else dictLegacy k cm sm

theorem parse_keys_eq_model (k : Keys) (cm sm : Option Bytes) (st : Dec2.St) :
    Dec2.parse_keys (dictOf st.tls_version k cm sm) st
      = .ok () (if st.tls_version = .tls13 then parsed13 k st else parsedLegacy k cm sm st) := by
  unfold dictOf
  by_cases hv : st.tls_version = .tls13
  · simp only [hv, if_true]; exact parse_keys_13_of _ k st hv rfl rfl rfl rfl rfl rfl rfl rfl
  · simp only [hv, if_false]; exact parse_keys_legacy_of _ k cm sm st hv rfl rfl rfl rfl rfl rfl

theorem parse_keys_eq_model' (v : Version) (k : Keys) (cm sm : Option Bytes) (st : Dec2.St) (hv : st.tls_version = v) :
    Dec2.parse_keys (dictOf v k cm sm) st
      = .ok () (if v = .tls13 then parsed13 k st else parsedLegacy k cm sm st) := by
  subst hv; exact parse_keys_eq_model k cm sm st

/-- the record that stands for the model's `Dec` after `__init__` (`st0`: what the attributes the constructor did not assign
    keep — for a new object they do not exist) -/
def encInit (d : Dec) (cm sm : Option Bytes) (st0 : Dec2.St) : Dec2.St :=
  let lastSet := d.cfg.version = .tls10 ∨ d.cfg.version = .ssl30
  let needCtx := d.cfg.ctype = .stream ∧ d.cfg.bulk ≠ .chachaPoly
  { bulk_alg := d.cfg.bulk, tls_version := d.cfg.version, mac_length := d.cfg.macLen, tag_length := some d.cfg.tagLen,
    block_length := d.cfg.blockLen, compression_method := 0, encrypt_then_mac := d.cfg.etm, cipher_type := some d.cfg.ctype,
    server_key := d.s.key, server_iv := d.s.iv, server_mac := if d.cfg.has13 then st0.server_mac else sm,
    client_key := d.c.key, client_iv := d.c.iv, client_mac := if d.cfg.has13 then st0.client_mac else cm,
    server_handshake_key := if d.cfg.has13 then d.s.hsKey else st0.server_handshake_key,
    server_handshake_iv := if d.cfg.has13 then d.s.hsIv else st0.server_handshake_iv,
    server_application_key := if d.cfg.has13 then d.s.appKey else st0.server_application_key,
    server_application_iv := if d.cfg.has13 then d.s.appIv else st0.server_application_iv,
    client_handshake_key := if d.cfg.has13 then d.c.hsKey else st0.client_handshake_key,
    client_handshake_iv := if d.cfg.has13 then d.c.hsIv else st0.client_handshake_iv,
    client_application_key := if d.cfg.has13 then d.c.appKey else st0.client_application_key,
    client_application_iv := if d.cfg.has13 then d.c.appIv else st0.client_application_iv,
    server_seq := 0, client_seq := 0,
    last_block_server := if lastSet then d.s.iv else st0.last_block_server,
    last_block_client := if lastSet then d.c.iv else st0.last_block_client,
    server_cipher := if needCtx then d.s.rc4 else st0.server_cipher,
    client_cipher := if needCtx then d.c.rc4 else st0.client_cipher,
    s_decompressor := st0.s_decompressor, c_decompressor := st0.c_decompressor }

/-- `__init__` (compression 0) around its call of `parse_keys`: whatever state `st2` that call leaves (it changes none of the four
    attributes named), the rest sets the sequence numbers, the last blocks for TLS 1.0 / SSL 3.0 and the two stream-cipher contexts
    (`sc`), server first -/
theorem init_of_parse (sc : Alg → Option Bytes → Except Err (Bytes × Nat)) (bulk : Alg) (version : Version) (keyLen macLen : Nat)
    (tagLen : Option Nat) (blockLen : Nat) (exts : List (Bytes × Bytes)) (keys : List (List Nat × Option Bytes)) (st0 st2 : Dec2.St)
    (hp : Dec2.parse_keys keys
        { st0 with
          bulk_alg := bulk, tls_version := version, mac_length := macLen, tag_length := some (tagLen.getD 16),
          block_length := blockLen, compression_method := 0, encrypt_then_mac := decide (([0, 22] : Bytes) ∈ tableKeys exts),
          cipher_type := some (cipherType bulk) }
          = .ok () st2)
    (hb : st2.bulk_alg = bulk) (hv : st2.tls_version = version) (hc : st2.cipher_type = some (cipherType bulk))
    (h0 : st2.compression_method = 0) :
    Dec2.init sc bulk () () keys version keyLen macLen tagLen blockLen exts 0 st0 =
      let st3 : Dec2.St :=
        { st2 with
          client_seq := 0, server_seq := 0,
          last_block_server := if version = .tls10 ∨ version = .ssl30 then st2.server_iv else st2.last_block_server,
          last_block_client := if version = .tls10 ∨ version = .ssl30 then st2.client_iv else st2.last_block_client }
      if cipherType bulk = .stream ∧ bulk ≠ .chachaPoly then
        tryE (sc bulk st2.server_key) (fun e => .raised e st3) fun a =>
          tryE (sc bulk st2.client_key) (fun e => .raised e { st3 with server_cipher := some a }) fun b =>
            .ok () { st3 with server_cipher := some a, client_cipher := some b }
      else .ok () st3 := by
  unfold Dec2.init
  generalize decide (([0, 22] : Bytes) ∈ tableKeys exts) = etm at hp
  have hm : (st2.tls_version ∈ [Version.tls10, Version.ssl30]) ↔ (version = .tls10 ∨ version = .ssl30) := by simp [hv]
  -- the two `if`s before `get_cipher_type` and the one on the version are decided first: `simp` then never sees a state
  -- that is an `if`
  by_cases hl : version = .tls10 ∨ version = .ssl30 <;> cases tagLen <;> cases etm <;>
    simp only [Option.getD_none, Option.getD_some] at hp <;>
    simp only [get_cipher_type_eq_model, tryR_ok, Option.isNone_none, Option.isNone_some, if_true, if_false, Bool.false_eq_true,
      hp, hm, hl, hc, hb, h0, attrE_some, tryE_ok, Bool.and_eq_true, Bool.not_eq_eq_eq_not, Bool.not_true, decide_eq_true_eq,
      decide_eq_false_iff_not, ne_eq, show ¬ (0 : Nat) = 1 from by decide]

/-- `Decryptor(bulk_alg, …, keys, tls_version, …, extensions, compression=0)`: the model's `Dec.init`; an exception of the
    stream-cipher context set-up propagates (the object is never seen) -/
theorem init_eq_model (P : Prims) (bulk : Alg) (version : Version) (keyLen macLen : Nat) (tagLen : Option Nat) (blockLen : Nat)
    (exts : List (Bytes × Bytes)) (k : Keys) (cm sm : Option Bytes) (st0 : Dec2.St) :
    match Dec.init P bulk version macLen tagLen blockLen (decide (([0, 22] : Bytes) ∈ tableKeys exts)) k with
    | .ok d => Dec2.init (fun a key => ofPy (streamCtx P a key)) bulk () () (dictOf version k cm sm) version keyLen macLen tagLen
                 blockLen exts 0 st0 = .ok () (encInit d cm sm st0)
    | .error e => ∃ st', Dec2.init (fun a key => ofPy (streamCtx P a key)) bulk () () (dictOf version k cm sm) version keyLen macLen
                 tagLen blockLen exts 0 st0 = .raised (errOf e) st' := by
  rw [init_of_parse _ bulk version keyLen macLen tagLen blockLen exts _ st0 _ (parse_keys_eq_model' version k cm sm _ rfl)
    (by split <;> rfl) (by split <;> rfl) (by split <;> rfl) (by split <;> rfl)]
  unfold Dec.init
  by_cases hv : version = .tls13
  · subst hv
    simp only [parsed13, cFall, sFall, Bool.or_eq_true, if_true, true_and]
    generalize (if k.sHsKey.isNone = true ∨ k.sHsIv.isNone = true then k.sAppKey else k.sHsKey) = sk
    generalize (if k.cHsKey.isNone = true ∨ k.cHsIv.isNone = true then k.cAppKey else k.cHsKey) = ck
    by_cases hn : cipherType bulk = .stream ∧ bulk ≠ .chachaPoly
    · simp only [hn, if_true, and_self, ne_eq, not_false_eq_true]
      cases h1 : streamCtx P bulk sk with
      | error e => exact ⟨_, rfl⟩
      | ok a =>
        cases h2 : streamCtx P bulk ck with
        | error e => exact ⟨_, rfl⟩
        | ok b =>
          simp only [Except.map, bind, Except.bind, pure, Except.pure, ofPy, tryE_ok, encInit, hn, if_true, and_self, ne_eq,
            not_false_eq_true, decide_true, reduceCtorEq, or_self, if_false]
    · simp only [hn, if_false, bind, Except.bind, pure, Except.pure, encInit, if_true, decide_true, reduceCtorEq, or_self]
  · simp only [hv, if_false, false_and, parsedLegacy]
    by_cases hn : cipherType bulk = .stream ∧ bulk ≠ .chachaPoly
    · simp only [hn, if_true, and_self, ne_eq, not_false_eq_true]
      cases h1 : streamCtx P bulk k.sKey with
      | error e => exact ⟨_, rfl⟩
      | ok a =>
        cases h2 : streamCtx P bulk k.cKey with
        | error e => exact ⟨_, rfl⟩
        | ok b =>
          simp only [Except.map, bind, Except.bind, pure, Except.pure, ofPy, tryE_ok, encInit, hn, if_true, and_self, ne_eq,
            not_false_eq_true, decide_false, if_false, Bool.false_eq_true]
    · simp only [hn, if_false, bind, Except.bind, pure, Except.pure, encInit, decide_false, Bool.false_eq_true]

end TLX.Props.Translated.Decr2
