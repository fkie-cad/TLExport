/-
session.py's key selection as translated from the Python source (`TLX/Gen/Translated/TlsKeys.lean`) equals the hand-written
model: `Session.find_session_secrets` = `TLX.Keylog.findSessionSecrets` (`str.lower` is the external `str_lower`, instantiated
with the model's `lower`), the secret-line choice of `generate_keys` = the `found` part of `TLX.Pipeline.genKeys`
(the (pre-)master-secret filter for TLS ≤ 1.2, "no line" = `can_decrypt = False; return`), its block-size table = `blockBits`.
-/
import TLX.Gen.Translated.TlsKeys
import TLX.Props.Translated.Enc
namespace TLX.Props.Translated.TlsKeys
open TLX TLX.Keylog TLX.Gen.Py PyRt

theorem hexStr_eq (b : Bytes) : PyRt.hexStr b = hexOf (Pipeline.natsOfBytes b) := by
  induction b with
  | nil => rfl
  | cons x r ih =>
    have : PyRt.hexStr (x :: r) = PyRt.hexDigit (x.toNat / 16) :: PyRt.hexDigit (x.toNat % 16) :: PyRt.hexStr r := by
      simp [PyRt.hexStr]
    rw [this, ih]
    rfl

/-- `find_session_secrets()`: the key-log lines whose client random is this session's, in key-log order -/
theorem find_session_secrets_eq_model (kl : List Key) (cr : Bytes) (v : Option Session.Ver) :
    TK.find_session_secrets lower kl cr v = findSessionSecrets kl (Pipeline.natsOfBytes cr) := by
  unfold TK.find_session_secrets findSessionSecrets
  rw [hexStr_eq]
  refine (foldl_filter _ Prod.snd (fun k => lower k.clientRandom == lower (hexOf (Pipeline.natsOfBytes cr))) ?_ kl (0, [])).trans (by simp)
  intro s k
  by_cases h : lower k.clientRandom = lower (hexOf (Pipeline.natsOfBytes cr))
  · simp [h]
  · have h2 : ¬ lower (hexOf (Pipeline.natsOfBytes cr)) = lower k.clientRandom := fun e => h e.symm
    simp [h]

/-- the model's choice of the lines `generate_keys` goes on with (`Pipeline.genKeys`: `found`) -/
def found (kl : List Key) (cr : Bytes) (v : Option Session.Ver) : List Key :=
  let found := findSessionSecrets kl (Pipeline.natsOfBytes cr)
  if v = some .tls13 then found else found.filter fun k => k.label == s_CLIENT_RANDOM || k.label == s_RSA

/-- `generate_keys`, from `secret_list = self.find_session_secrets()` to `secret = secret_list[0]`: no line left is
    `can_decrypt = False; return` (the model's `.noSecrets`), otherwise the fragment is left at its end with the list -/
theorem select_secret_eq_model (kl : List Key) (cr : Bytes) (v : Option Session.Ver) (cd : Bool) :
    TK.select_secret lower v kl cr v cd
      = match found kl cr v with
        | [] => .ok .ret ⟨false, []⟩
        | k :: r => .ok .fall ⟨cd, k :: r⟩ := by
  unfold TK.select_secret found
  rw [find_session_secrets_eq_model]
  have hl : ∀ k : Key, decide (k.label ∈ [([67, 76, 73, 69, 78, 84, 95, 82, 65, 78, 68, 79, 77] : List Nat), ([82, 83, 65] : List Nat)])
      = (k.label == s_CLIENT_RANDOM || k.label == s_RSA) := by
    intro k
    have e1 : ∀ a b : List Nat, decide (a = b) = (a == b) := by
      intro a b; by_cases h : a = b <;> simp [h]
    simp only [s_CLIENT_RANDOM, s_RSA, List.mem_cons, List.not_mem_nil, or_false, Bool.decide_or, e1]
  simp only [hl]
  by_cases h13 : v = some .tls13
  · simp only [h13, ne_eq, not_true_eq_false, decide_false, if_true, Bool.false_eq_true, if_false]
    cases findSessionSecrets kl (Pipeline.natsOfBytes cr) <;> rfl
  · simp only [h13, ne_eq, not_false_eq_true, decide_true, if_true, if_false]
    cases List.filter (fun k : Key => k.label == s_CLIENT_RANDOM || k.label == s_RSA) (findSessionSecrets kl (Pipeline.natsOfBytes cr)) <;> rfl

/-- the block-size table of `generate_keys` (bits) -/
theorem block_size_eq_model (a : Cipher.Alg) : (TK.block_size a).block_size = Pipeline.blockBits a := by
  cases a <;> rfl

/-- the end of `generate_keys`: `Decryptor(CryptoAlgo[0], Mode[0], MAC, keys, self.tls_version, KeyLength, MAC.digest_size, TagLength,
    block_size, self.extensions, self.compression_method)` — the constructor (external `mk`; its parameters in the order of
    `Decryptor.__init__`, group Decrypt2) gets the model's `blockBits` of the bulk algorithm as block length, the session's version,
    key length before MAC length before tag length (`Pipeline.genKeys`: `Dec.init P a.bulk (rlVersion v) macLen a.tagLen (blockBits a.bulk) …`) -/
theorem install_eq_model {μ η κ ε δ : Type}
    (mk : Cipher.Alg → μ → η → κ → Option Session.Ver → Nat → Nat → Option Nat → Nat → ε → Nat → δ)
    (a : Cipher.Alg) (m : μ) (mac : η) (keys : κ) (kl ds : Nat) (tl : Option Nat) (v : Option Session.Ver) (ex : ε) (comp : Nat) :
    (TK.install mk a m mac keys kl ds tl v ex comp).decryptor = mk a m mac keys v kl ds tl (Pipeline.blockBits a) ex comp := by
  cases a <;> rfl

end TLX.Props.Translated.TlsKeys
