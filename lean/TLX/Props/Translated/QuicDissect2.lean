/-
Translated Python functions, group QuicDissect2: tlexport/quic/quic_dissector.py — `byte_xor`, `byte_and`,
`remove_header_protection` and `extract_quic_packet` (long and short headers, header-protection removal, the coalesced
remainder, the `except Exception` that turns every failure into "drop the rest of the datagram").
The definitions are regenerated from the tree under test (`TLX/Gen/Translated/QuicDissect2.lean`); the model is
`TLX/Quic/Dissect.lean`. The two mask primitives of `cryptography` are one external function, a parameter on both sides.
This group rests on the groups Varint and QuicDissect (the functions it calls). Defined here: how model values show on the Python side
(`maskE`, `dErr`/`ofD`, `keyName`, `ofPkt`) and the reading of `struct` formats (`fOk`, `fNat`).

`extract_quic_packet` is translated in continuation-passing style (`tryE y handler K`, the same handler everywhere), the model is
monadic: the proof walks down the generated term one operation at a time (namespace `Dissect2`), looking only at its head.
-/
import TLX.Gen.Translated.QuicDissect2
import TLX.Props.Translated.Varint
import TLX.Props.Translated.QuicDissect
import TLX.Quic.Dissect
namespace TLX.Props.Translated
open TLX TLX.PyRt TLX.Quic TLX.Quic.Dissect TLX.Quic.Varint

/-- the header-protection primitive of the model (`none` = it raises) as the external function of the translation -/
def maskE (mask : MaskFn) : Bool → Bytes → Bytes → Except PyRt.Err Bytes :=
  fun c k s => match mask c k s with
    | none => .error .value
    | some m => .ok m

theorem bytesOf_one (x : Nat) (h : x < 256) : bytesOfE [Int.ofNat x] = .ok [UInt8.ofNat x] := by
  have : (0 : Int) ≤ Int.ofNat x ∧ Int.ofNat x < 256 := by simp only [Int.ofNat_eq_natCast]; omega
  simp only [bytesOfE, List.all_cons, List.all_nil, this, and_self, decide_true, Bool.and_self, if_true]
  simp

/-- the loop of `byte_xor` / `byte_and`, for any operation on ints that is an operation on bytes -/
theorem zip_loop (f : Nat → Nat → Nat) (g : UInt8 → UInt8 → UInt8) (hf : ∀ x y : UInt8, f x.toNat y.toNat = (g x y).toNat)
    (a b acc : Bytes) :
    forE (zipBytes a b) acc (fun (py_s : Bytes) (py_i : Nat × Nat) =>
      tryE (bytesOfE [(Int.ofNat (f py_i.1 py_i.2))]) (fun py_e => .error py_e) (fun py_t_1 => .ok (py_s ++ py_t_1)))
    = .ok (acc ++ List.zipWith g a b) := by
  induction a generalizing b acc with
  | nil => simp [zipBytes, forE]
  | cons x a ih =>
    cases b with
    | nil => simp [zipBytes, forE]
    | cons y b =>
      simp only [zipBytes, List.zipWith_cons_cons, forE, hf, bytesOf_one _ (g x y).toNat_lt, tryE_ok, UInt8.ofNat_toNat]
      have := ih b (acc ++ [g x y])
      simp only [zipBytes] at this
      rw [this]; simp

theorem byte_xor_eq_model (a b : Bytes) : Gen.Py.byte_xor a b = .ok (byteXor a b) := by
  unfold Gen.Py.byte_xor byteXor
  simp only []
  rw [zip_loop _ (· ^^^ ·) fun x y => (UInt8.toNat_xor x y).symm]
  simp

theorem byte_and_eq_model (a b : Bytes) : Gen.Py.byte_and a b = .ok (byteAnd a b) := by
  unfold Gen.Py.byte_and byteAnd
  simp only []
  rw [zip_loop _ (· &&& ·) fun x y => (UInt8.toNat_and x y).symm]
  simp

example : Gen.Py.byte_xor [0xff, 0x0f, 1] [0x0f, 0x0f] = .ok [0xf0, 0] ∧ Gen.Py.byte_and [0xc3] [0x0f, 9] = .ok [3] := by decide

/-- the model's exception kinds as the runtime's (`mask`: the primitive raised, a ValueError) -/
def dErr : DErr → PyRt.Err
  | .index => .index
  | .struct => .struct
  | .key => .key
  | .mask => .value
  | .unbound => .unbound

def ofD {α : Type} : Except DErr α → Except PyRt.Err α
  | .ok a => .ok a
  | .error e => .error (dErr e)

/-- `remove_header_protection` with the mask primitive as a parameter is the model's `removeHP`, exception kinds
    included; the first byte comes back as a one-byte string -/
theorem remove_header_protection_eq_model (mask : MaskFn) (ht : HType) (sample : Bytes) (fb : UInt8) (key d : Bytes)
    (pnOff : Nat) (cs : Option Bytes) :
    Gen.Py.remove_header_protection (maskE mask) ht sample fb.toNat key d pnOff cs =
      ofD ((removeHP mask (decide (ht = .long)) sample fb key d pnOff (decide (cs = some [0x13, 0x03]))).map
        fun r => ([r.1], r.2.1, r.2.2)) := by
  have hfb := fb.toNat_lt
  unfold Gen.Py.remove_header_protection removeHP
  -- the cipher suite only chooses the flag the primitive is given: the two copies of what follows are one
  rw [tryE_ite]
  have hflag : (if decide (cs = some [19, 3]) = true then maskE mask true key sample else maskE mask false key sample) =
      maskE mask (decide (cs = some [0x13, 0x03])) key sample := by
    cases decide (cs = some [0x13, 0x03]) <;> rfl
  rw [hflag]
  generalize decide (cs = some [0x13, 0x03]) = chacha
  cases hm : mask chacha key sample with
  | none => simp [maskE, hm, ofD, dErr, Except.map, bind, Except.bind, Dissect.ofOpt]
  | some m =>
    cases m with
    | nil =>
      -- `mask[0]` raises
      have hb : bytesOfE [(fb.toNat : Int)] = .ok [UInt8.ofNat fb.toNat] := bytesOf_one _ hfb
      by_cases hl : ht = .long <;> simp [maskE, hm, hl, ofD, dErr, Except.map, hb, bind, Except.bind, Dissect.ofOpt]
    | cons m0 mr =>
      have hm0 := m0.toNat_lt
      have hx : ∀ c : UInt8, (fb ^^^ (m0 &&& c)).toNat < 256 := fun c => UInt8.toNat_lt _
      -- the header type only chooses the mask constant `c` (0x0f / 0x1f): one script for both
      by_cases hl : ht = .long
      all_goals
        simp only [hl, maskE, hm, decide_true, decide_false, Bool.false_eq_true, if_true, if_false, bind, Except.bind, Dissect.ofOpt,
          tryE_ok, bytesOf_one _ hfb, getItem_cons_zero, bytesOf_one _ hm0, UInt8.ofNat_toNat, byte_and_eq_model, byte_xor_eq_model,
          byteAnd, byteXor, List.zipWith_cons_cons, List.zipWith_nil_right, Bytes.beNat_one, List.getElem?_cons_zero,
          decode_variable_length_int_eq_model, bytesOf_one _ (hx _)]
        generalize decodeVarint _ = v
        cases v <;> simp [ofOpt, ofD, dErr, Except.map, Nat.add_comm]

/-- the names `keys[...]` is asked for, as the code points the translator writes for a str literal -/
def keyName : KeyName → List Nat
  | .serverInitial => [115, 101, 114, 118, 101, 114, 95, 105, 110, 105, 116, 105, 97, 108, 95, 104, 112]   -- "server_initial_hp"
  | .clientInitial => [99, 108, 105, 101, 110, 116, 95, 105, 110, 105, 116, 105, 97, 108, 95, 104, 112]   -- "client_initial_hp"
  | .serverHandshake => [115, 101, 114, 118, 101, 114, 95, 104, 97, 110, 100, 115, 104, 97, 107, 101, 95, 104, 112]   -- "server_handshake_hp"
  | .clientHandshake => [99, 108, 105, 101, 110, 116, 95, 104, 97, 110, 100, 115, 104, 97, 107, 101, 95, 104, 112]   -- "client_handshake_hp"
  | .clientEarly => [99, 108, 105, 101, 110, 116, 95, 101, 97, 114, 108, 121, 95, 104, 112]   -- "client_early_hp"
  | .serverApplication => [115, 101, 114, 118, 101, 114, 95, 97, 112, 112, 108, 105, 99, 97, 116, 105, 111, 110, 95, 104, 112]   -- "server_application_hp"
  | .clientApplication => [99, 108, 105, 101, 110, 116, 95, 97, 112, 112, 108, 105, 99, 97, 116, 105, 111, 110, 95, 104, 112]   -- "client_application_hp"

/-- a packet of the model as the keyword arguments the constructor call is given (`token_len`, `packet_len` are the
    model's derived attributes; `first_byte` of Retry / Version Negotiation is an int) -/
def ofPkt (p : Pkt) : Gen.Py.QuicPacketObj :=
  { header := p.htype, packet_type := p.ptype, isserver := p.isServer, ts := p.ts,
    first_byte := if p.ptype = .retry ∨ p.ptype = .versionNeg then .inl (p.firstByte.headD 0).toNat else .inr p.firstByte,
    dcid := p.dcid, version := p.version, dcid_len := p.dcidLen, scid_len := p.scidLen, scid := p.scid,
    token_len := p.tokenLen, token_len_bytes := p.tokenLenBytes, token := p.token, packet_len := p.packetLen,
    packet_len_bytes := p.lenBytes, packet_num := p.pn, payload := p.payload, key_phase := p.keyPhase,
    retry_token := p.retryToken, retry_integ_tag := p.retryTag }

def fOk : Fld → Bool
  | .B => true
  | .S z => decide (0 ≤ z)
def fNat : Fld → Nat
  | .B => 1
  | .S z => z.toNat

@[simp] theorem fOk_B : fOk .B = true := rfl
@[simp] theorem fOk_S (z : Int) : fOk (.S z) = decide (0 ≤ z) := rfl
@[simp] theorem fNat_B : fNat .B = 1 := rfl
@[simp] theorem fNat_S (z : Int) : fNat (.S z) = z.toNat := rfl
theorem toNat_4 : Int.toNat 4 = 4 := rfl
theorem toNat_1 : Int.toNat 1 = 1 := rfl

namespace Dissect2

theorem fmtSize_eq (fmt : List Fld) : fmtSize fmt = if fmt.all fOk then .ok ((fmt.map fNat).sum) else .error .struct := by
  induction fmt with
  | nil => rfl
  | cons f r ih =>
    cases f with
    | B => rw [fmtSize, ih]; by_cases h : r.all fOk <;> simp [Fld.size, h, fOk, fNat]
    | S z =>
      rw [fmtSize, ih]
      by_cases hz : z < 0
      · have : ¬ 0 ≤ z := by omega
        simp [Fld.size, hz, fOk, this]
      · have : 0 ≤ z := by omega
        by_cases h : r.all fOk <;> simp [Fld.size, hz, h, fOk, fNat, this]

theorem unpackFrom_eq (fmt : List Fld) (d : Bytes) :
    unpackFrom fmt d = if fmt.all fOk ∧ ¬ d.length < (fmt.map fNat).sum then .ok (cutFields fmt d) else .error .struct := by
  unfold unpackFrom
  rw [fmtSize_eq]
  by_cases h : fmt.all fOk <;> by_cases h2 : d.length < (fmt.map fNat).sum <;> simp [h, h2]

/-- `str(a - b) + "s"` with `a < b` prints as "-…s": a bad format (the translator writes every format as `… ++ []`) -/
theorem unpackFrom_neg (fmt : List Fld) (a b : Nat) (d : Bytes) (hab : a < b) :
    unpackFrom (fmt ++ [.S (Int.ofNat a - Int.ofNat b)] ++ []) d = .error .struct := by
  rw [unpackFrom_eq, if_neg]
  simp only [List.append_nil, List.all_append, List.all_cons, fOk_S, Int.ofNat_eq_natCast, Bool.and_eq_true, decide_eq_true_eq]
  omega

/-- field `i` of an unpacked buffer lies behind the fields before it -/
theorem fldS_cutFields (fmt : List Fld) (d : Bytes) (i : Nat) (hi : i < fmt.length) :
    fldS (cutFields fmt d) i = Bytes.slice d ((fmt.take i).map fNat).sum (((fmt.take i).map fNat).sum + fNat fmt[i]) := by
  unfold fldS
  induction fmt generalizing d i with
  | nil => simp at hi
  | cons f fmt ih =>
    cases i with
    | zero => cases f <;> simp [cutFields, Bytes.slice]
    | succ i =>
      have hi' : i < fmt.length := by simpa using hi
      cases f <;>
        simp only [cutFields, List.getD_cons_succ, ih _ _ hi', Bytes.slice_drop, List.take_succ_cons, List.map_cons, List.sum_cons,
          fNat_B, fNat_S, List.getElem_cons_succ, Nat.add_assoc]

theorem fldB_cutFields (fmt : List Fld) (d : Bytes) (i : Nat) (hi : i < fmt.length) (hB : fmt[i] = .B) :
    fldB (cutFields fmt d) i = (d[((fmt.take i).map fNat).sum]?.getD 0).toNat := by
  have := fldS_cutFields fmt d i hi
  unfold fldS at this
  unfold fldB
  rw [this, hB]
  simp [Bytes.slice, List.headD_eq_head?_getD, List.head?_take, List.head?_drop]

theorem fldB_lt (parts : List Bytes) (i : Nat) : fldB parts i < 256 := UInt8.toNat_lt _

/-- `fmt` is a well-formed format of `i` fields that takes the first `n` bytes of a buffer: what the walk down
    `extract_quic_packet` knows of `fmt_string` at each `unpack_from` -/
def Fmt (fmt : List Fld) (i n : Nat) : Prop := fmt.all fOk = true ∧ fmt.length = i ∧ (fmt.map fNat).sum = n

theorem Fmt.append {a b : List Fld} {i j n m : Nat} (ha : Fmt a i n) (hb : Fmt b j m) : Fmt (a ++ b) (i + j) (n + m) := by
  obtain ⟨a1, a2, a3⟩ := ha
  obtain ⟨b1, b2, b3⟩ := hb
  exact ⟨by simp [a1, b1], by simp [a2, b2], by simp [a3, b3]⟩

theorem Fmt.snoc {fmt : List Fld} {i n : Nat} (h : Fmt fmt i n) (k : Nat) : Fmt (fmt ++ [.S (Int.ofNat k)]) (i + 1) (n + k) :=
  h.append ⟨by simp, rfl, by simp⟩

theorem Fmt.nil {fmt : List Fld} {i n : Nat} (h : Fmt fmt i n) : Fmt (fmt ++ []) i n := by rwa [List.append_nil]

theorem Fmt.last {fmt : List Fld} {i n : Nat} (h : Fmt fmt i n) (f : Fld) (d : Bytes) :
    fldS (cutFields (fmt ++ [f]) d) i = Bytes.slice d n (n + fNat f) := by
  obtain ⟨_, h2, h3⟩ := h
  subst h2 h3
  rw [fldS_cutFields _ _ _ (by simp)]
  simp

theorem dErr_ne_fuel (e : DErr) : dErr e ≠ .fuel := by cases e <;> simp [dErr]

theorem packetType_cases (fb : UInt8) :
    packetType fb = .initial ∨ packetType fb = .retry ∨ packetType fb = .handshake ∨ packetType fb = .rtt0 := by
  unfold packetType
  split <;> simp

/-- a one-byte varint is below 64 (the SCID length the source decodes from one byte) -/
theorem decodeVarint_byte (b : Bytes) (v : Nat) (hb : b.length ≤ 1) (h : decodeVarint b = some v) : v < 64 := by
  cases b with
  | nil => cases h
  | cons x t =>
    have ht : t = [] := by simpa using hb
    subst ht
    simp only [decodeVarint, List.length_nil] at h
    split at h
    · cases h
    · simp only [List.take_nil, accBE, List.foldl_nil, Option.some.injEq] at h
      subst h
      have : x.toNat &&& 63 ≤ 63 := Nat.and_le_right
      omega

/-- a varint of `n` bytes fits `n` bytes: `decode_variable_length_int(b).to_bytes(len, "big")` cannot overflow -/
theorem varint_fits (d : Bytes) (a pll plen : Nat) (h1 : getVarintLength (Bytes.slice d a (a + 1)) = some pll)
    (h2 : decodeVarint (Bytes.slice d a (a + pll)) = some plen) : plen < 256 ^ pll := by
  simp only [Bytes.slice, Nat.add_sub_cancel_left] at h1 h2
  cases hX : d.drop a with
  | nil => simp [hX, getVarintLength] at h1
  | cons x t =>
    rw [hX] at h1 h2
    simp only [List.take_succ_cons, List.take_zero, getVarintLength, Option.some.injEq] at h1
    subst h1
    have hpos := varintLen_pos x
    obtain ⟨m, hm⟩ : ∃ m, varintLen x = m + 1 := ⟨varintLen x - 1, by omega⟩
    rw [hm] at h2 ⊢
    simp only [List.take_succ_cons, decodeVarint, hm, Nat.add_sub_cancel] at h2
    split at h2
    · cases h2
    · simp only [Option.some.injEq] at h2
      subst h2
      have hl : (List.take m (List.take m t)).length ≤ m := List.length_take_le _ _
      generalize List.take m (List.take m t) = L' at hl ⊢
      have hb := Bytes.beNat_fold_lt L' (x.toNat &&& 63)
      have ha : x.toNat &&& 63 ≤ 63 := Nat.and_le_right
      have hp : 256 ^ L'.length ≤ 256 ^ m := Nat.pow_le_pow_right (by omega) hl
      have hmul : ((x.toNat &&& 63) + 1) * 256 ^ L'.length ≤ 64 * 256 ^ m := Nat.mul_le_mul (by omega) hp
      have e : 256 ^ (m + 1) = 256 * 256 ^ m := by rw [Nat.pow_succ, Nat.mul_comm]
      unfold accBE
      rw [e]
      exact Nat.lt_of_lt_of_le hb (Nat.le_trans hmul (by omega))

/-! `after d x f`: what `extract_quic_packet` returns when the model's arm still has `x >>= f` to run (`done d m = after d m pure`).
Every `step_*` has the shape `tryE y (handler d) K = after d (x >>= g) f`: the Python operation `y` raises where the model's `x`
fails and hands `K` the value that stands for `x`'s; `step_ok` / `model_ok` / `step_fail` are the one-sided cases. The
`unpack_from` steps go by how the source builds the format (`Fmt fmt i n`: what is known of `fmt_string`), and hand on the slice
that the last field is:
  `step_unpack`       `unpack_from(fmt_string, d)`, the format known as a whole
  `step_unpack_snoc`  `fmt_string += str(k) + "s"; unpack_from(fmt_string, d)` (the translator writes `fmt_string ++ []`)
  `step_peek`         `unpack_from(fmt_string + "s", d)`, `fmt_string` unchanged
  `step_unpack_rest`  the last of an arm, `… + str(a - b) + "s"`: a bad format when `a < b`, which the model tests first
  `step_unpack_all`   the same with `a = len(d)`, where the model has no second length test -/

abbrev PyOut := Res Gen.Py.extract_quic_packet.St (List Gen.Py.QuicPacketObj)

def done (d : Bytes) (m : Except DErr (Pkt × Option Nat)) : PyOut :=
  .ok ((finish d m).pkts.map ofPkt) { tls_data := (finish d m).rest }

def after {α : Type} (d : Bytes) (m : Except DErr α) (f : α → Except DErr (Pkt × Option Nat)) : PyOut := done d (m >>= f)

/-- the `except Exception` of `extract_quic_packet` as long as no packet has been appended -/
@[reducible] def handler (d : Bytes) : PyRt.Err → PyOut := fun py_e =>
  if decide (py_e ≠ PyRt.Err.fuel) then .ok [] { tls_data := [] } else .raised py_e { tls_data := d }

theorem after_pure (d : Bytes) (m : Except DErr (Pkt × Option Nat)) : after d m pure = done d m := by
  cases m <;> rfl

section
variable {α β γ : Type} {d : Bytes} {f : β → Except DErr (Pkt × Option Nat)}

theorem after_error (d : Bytes) (e : DErr) (f : α → Except DErr (Pkt × Option Nat)) :
    after d (.error e) f = .ok [] { tls_data := [] } := rfl

theorem after_bind (d : Bytes) (m : Except DErr α) (g : α → Except DErr β) (f : β → Except DErr (Pkt × Option Nat)) :
    after d (m >>= g) f = after d m (fun a => g a >>= f) := by
  cases m <;> rfl

theorem step_fail {y : Except PyRt.Err γ} {e' : PyRt.Err} {e : DErr} {K : γ → PyOut} (hy : y = .error e') (he : e' ≠ .fuel) :
    tryE y (handler d) K = after d (.error e) f := by
  subst hy; simp [handler, he, after_error]

theorem step_ok {δ : Type} {y : Except PyRt.Err γ} {v : γ} {H : PyRt.Err → δ} {K : γ → δ} {R : δ}
    (hy : y = .ok v) (hK : K v = R) : tryE y H K = R := by subst hy; exact hK

theorem model_ok {x : Except DErr α} {a : α} {g : α → Except DErr β} {L : PyOut}
    (hx : x = .ok a) (hL : L = after d (g a) f) : L = after d (x >>= g) f := by subst hx; exact hL

theorem step {x : Except DErr α} {h : α → γ} {y : Except PyRt.Err γ} {g : α → Except DErr β} {K : γ → PyOut}
    (hy : y = ofD (x.map h)) (hK : ∀ a, x = .ok a → K (h a) = after d (g a) f) :
    tryE y (handler d) K = after d (x >>= g) f := by
  subst hy
  cases x with
  | error e => exact step_fail rfl (dErr_ne_fuel e)
  | ok a => exact hK a rfl

variable {fmt : List Fld} {i n : Nat} {g : Unit → Except DErr β} {K : List Bytes → PyOut}

theorem step_unpack (hF : Fmt fmt i n) (hK : ¬ d.length < n → K (cutFields fmt d) = after d (g ()) f) :
    tryE (unpackFrom fmt d) (handler d) K = after d (need d n >>= g) f := by
  refine step (x := need d n) (h := fun _ => cutFields fmt d) ?_ ?_
  · rw [unpackFrom_eq, hF.1, hF.2.2, need]
    by_cases h : d.length < n <;> simp [h, ofD, Except.map, dErr]
  · intro a ha
    apply hK
    intro h; simp [need, h] at ha

theorem step_unpack_snoc {k n' : Nat} (hF : Fmt fmt i n) (hn : n + k = n')
    (hK : ¬ d.length < n' → Fmt (fmt ++ [.S (Int.ofNat k)]) (i + 1) n' →
      fldS (cutFields (fmt ++ [.S (Int.ofNat k)] ++ []) d) i = Bytes.slice d n n' →
      K (cutFields (fmt ++ [.S (Int.ofNat k)] ++ []) d) = after d (g ()) f) :
    tryE (unpackFrom (fmt ++ [.S (Int.ofNat k)] ++ []) d) (handler d) K = after d (need d n' >>= g) f := by
  subst hn
  refine step_unpack (hF.snoc k).nil fun h => hK h (hF.snoc k) ?_
  rw [List.append_nil, hF.last]; simp

theorem step_peek (hF : Fmt fmt i n)
    (hK : ¬ d.length < n + 1 → fldS (cutFields (fmt ++ [.S 1]) d) i = Bytes.slice d n (n + 1) →
      K (cutFields (fmt ++ [.S 1]) d) = after d (g ()) f) :
    tryE (unpackFrom (fmt ++ [.S 1]) d) (handler d) K = after d (need d (n + 1) >>= g) f :=
  step_unpack (hF.snoc 1) fun h => hK h (hF.last _ d)

theorem step_unpack_rest {a a' b : Nat} (hF : Fmt fmt i n) (ha : a' = a)
    (hK : ¬ a < b → ¬ d.length < n + (a - b) →
      fldS (cutFields (fmt ++ [.S (Int.ofNat a' - Int.ofNat b)] ++ []) d) i = Bytes.slice d n (n + (a - b)) →
      K (cutFields (fmt ++ [.S (Int.ofNat a' - Int.ofNat b)] ++ []) d) = after d (g ()) f) :
    tryE (unpackFrom (fmt ++ [.S (Int.ofNat a' - Int.ofNat b)] ++ []) d) (handler d) K =
      after d (if a < b then .error .struct else need d (n + (a - b)) >>= g) f := by
  subst ha
  by_cases hab : a' < b
  · rw [if_pos hab]
    exact step_fail (unpackFrom_neg _ _ _ _ hab) (by decide)
  · rw [if_neg hab]
    have e : Int.ofNat a' - Int.ofNat b = Int.ofNat (a' - b) := by simp only [Int.ofNat_eq_natCast]; omega
    rw [e] at hK ⊢
    exact step_unpack_snoc hF rfl fun h _ hl => hK hab h hl

theorem step_unpack_all {b b' : Nat} {m : Except DErr (Pkt × Option Nat)} (hF : Fmt fmt i n) (hb : b = n) (hb' : b' = n)
    (hK : ¬ d.length < n →
      fldS (cutFields (fmt ++ [.S (Int.ofNat d.length - Int.ofNat b')] ++ []) d) i = Bytes.slice d n (n + (d.length - n)) →
      K (cutFields (fmt ++ [.S (Int.ofNat d.length - Int.ofNat b')] ++ []) d) = after d m pure) :
    tryE (unpackFrom (fmt ++ [.S (Int.ofNat d.length - Int.ofNat b')] ++ []) d) (handler d) K =
      after d (if d.length < b then .error .struct else m) pure := by
  rw [hb'] at hK ⊢
  rw [hb, step_unpack_rest (g := fun _ => m) hF rfl fun h1 _ h3 => hK h1 h3]
  by_cases h : d.length < n
  · simp only [h, if_true]
  · have h' : ¬ d.length < n + (d.length - n) := by omega
    simp only [h, if_false, after, need, h', bind, Except.bind]

end

section
variable {α β : Type} {d : Bytes} {g : α → Except DErr β} {f : β → Except DErr (Pkt × Option Nat)} {K : α → PyOut}

theorem step_opt {o : Option α} {e : DErr} {y : Except PyRt.Err α}
    (hy : y = ofD (Dissect.ofOpt e o)) (hK : ∀ a, o = some a → K a = after d (g a) f) :
    tryE y (handler d) K = after d (Dissect.ofOpt e o >>= g) f := by
  refine step (h := id) ?_ ?_
  · subst hy; cases o <;> rfl
  · intro a ha; cases o with
    | none => cases ha
    | some b => cases ha; exact hK _ rfl

theorem step_read {py : Bytes → Except PyRt.Err α} {o : Bytes → Option α} {x b : Bytes}
    (hpy : ∀ x, py x = ofOpt (o x)) (hx : x = b) (hK : ∀ v, o b = some v → K v = after d (g v) f) :
    tryE (py x) (handler d) K = after d (Dissect.ofOpt .index (o b) >>= g) f := by
  subst hx
  refine step_opt ?_ hK
  rw [hpy]; cases o x <;> rfl

end

section
variable {β : Type} {d : Bytes} {keys : Dict (List Nat) Bytes} {g : Bytes → Except DErr β} {f : β → Except DErr (Pkt × Option Nat)}
  {K : Bytes → PyOut}

theorem step_key {nm : List Nat} {o : Option Bytes} (h : o = keys nm) (hK : ∀ key, K key = after d (g key) f) :
    tryE (dictGetE keys nm) (handler d) K = after d (Dissect.ofOpt .key o >>= g) f := by
  refine step_opt ?_ (fun key _ => hK key)
  subst h; unfold dictGetE; cases keys nm <;> rfl

theorem step_key_role {κ : Type} {b : Bool} {nmS nmC : List Nat} {φ : κ → Option Bytes} {nS nC : κ}
    (hS : φ nS = keys nmS) (hC : φ nC = keys nmC) (hK : ∀ key, K key = after d (g key) f) :
    (if b = true then tryE (dictGetE keys nmS) (handler d) K else tryE (dictGetE keys nmC) (handler d) K) =
      after d (Dissect.ofOpt .key (φ (if b = true then nS else nC)) >>= g) f := by
  cases b
  · exact step_key hC hK
  · exact step_key hS hK

end

theorem step_hp {β : Type} {d : Bytes} {mask : MaskFn} {ht : HType} (fb : UInt8) {n : Nat} {key dd : Bytes}
    {pnOff pnOff' : Nat} {cs : Option Bytes} {long chacha : Bool} {g : UInt8 × Bytes × Nat → Except DErr β}
    {f : β → Except DErr (Pkt × Option Nat)} {K : Bytes × Bytes × Nat → PyOut}
    (hn : n = fb.toNat) (ho : pnOff' = pnOff) (hl : long = decide (ht = .long))
    (hch : chacha = decide (cs = some [0x13, 0x03]))
    (hK : ∀ r, K ([r.1], r.2.1, r.2.2) = after d (g r) f) :
    tryE (Gen.Py.remove_header_protection (maskE mask) ht (Bytes.slice dd (pnOff' + 4) (pnOff' + 4 + 16)) n key dd pnOff' cs)
        (handler d) K =
      after d (removeHP mask long (Bytes.slice dd (pnOff + 4) (pnOff + 4 + 16)) fb key dd pnOff chacha >>= g) f := by
  subst hn ho hl hch
  exact step (remove_header_protection_eq_model mask ht _ fb key dd pnOff' cs) (fun r _ => hK r)

/-- the `case QuicHeaderType.LONG` arm -/
theorem extract_long (mask : MaskFn) (env : Env) (isServer : Bool) (guessed : Bytes) (ts : Nat) (fb : UInt8) (r d : Bytes)
    (keys : Dict (List Nat) Bytes) (cs : Option Bytes)
    (hk : ∀ n, keys (keyName n) = env.keys n) (hc : env.chacha = decide (cs = some [0x13, 0x03]))
    (hr : d = fb :: r) (hz : Bytes.beNat d ≠ 0) (hs : isLong fb = true) :
    Gen.Py.extract_quic_packet (maskE mask) isServer guessed keys cs d ts =
      after d (extractLong mask env isServer ts d fb) pure := by
  unfold Gen.Py.extract_quic_packet
  -- the model's `let`s are resolved once, so that `rw` sees its offsets
  conv =>
    rhs
    unfold extractLong
    dsimp only
  have hk' := fun n => (hk n).symm
  have h1 : Gen.Py.get_header_type d = .ok .long := by
    rw [get_header_type_eq_model, hr, onFirst, hs]; rfl
  have h2 : Gen.Py.get_packet_type d = .ok (some (packetType fb)) := by
    rw [get_packet_type_eq_model, hr, onFirst]
  refine step_ok h1 ?_
  rw [if_neg (by simpa using hz), if_pos (by decide)]
  -- "B4sB"; the model reads the DCID length as `d[5]`
  have F3 : Fmt [Fld.B, Fld.S 4, Fld.B] 3 6 := ⟨rfl, rfl, rfl⟩
  refine step_unpack F3.nil ?_
  intro h6
  refine step_ok h2 ?_
  refine step_ok (toBytesE_one _ (fldB_lt _ _)) ?_
  obtain ⟨dlb, hdlb⟩ : ∃ x, d[5]? = some x := ⟨d[5]'(by omega), List.getElem?_eq_getElem _⟩
  have hdl : fldB (cutFields ([Fld.B, Fld.S 4, Fld.B] ++ []) d) 2 = dlb.toNat := by
    rw [fldB_cutFields _ _ _ (by decide) (by decide)]
    simp [hdlb]
  have hV : fldS (cutFields ([Fld.B, Fld.S 4, Fld.B] ++ []) d) 1 = Bytes.slice d 1 5 := by
    rw [fldS_cutFields _ _ _ (by decide)]; rfl
  have hV' : fldS (cutFields [Fld.B, Fld.S 4, Fld.B] d) 1 = Bytes.slice d 1 5 := hV
  have hdl' : fldB (cutFields [Fld.B, Fld.S 4, Fld.B] d) 2 = dlb.toNat := hdl
  refine model_ok (a := dlb) (by rw [hdlb]; rfl) ?_
  refine step_unpack_snoc F3 (by rw [hdl]) ?_
  intro h7 F4 hdcid
  refine step_unpack_snoc (k := 1) F4 (by omega) ?_
  intro h8 F5 hslb
  refine step_read decode_variable_length_int_eq_model hslb ?_
  intro sl hsl
  have hsl64 : sl < 64 := decodeVarint_byte _ _ (Nat.le_trans (Bytes.slice_length_le _ _ _) (by omega)) hsl
  refine step_ok (toBytesE_one _ (by omega)) ?_
  refine step_unpack_snoc F5 rfl ?_
  intro h9 F6 hscid
  -- `pn_offset = 7 + len(dcid) + len(scid)`, on both sides
  have hdcl := (congrArg List.length hdcid).trans (Bytes.slice_length_eq d 6 dlb.toNat h7)
  have hscl := (congrArg List.length hscid).trans (Bytes.slice_length_eq d (7 + dlb.toNat) sl h9)
  rw [Bytes.slice_length_eq d 6 dlb.toNat h7, Bytes.slice_length_eq d (7 + dlb.toNat) sl h9]
  have hbs : Bytes.beNat [UInt8.ofNat sl] = sl := by
    simp [Bytes.beNat, Nat.mod_eq_of_lt (show sl < 256 by omega)]
  have hfb : ∀ fmt : List Fld, fldB (cutFields (.B :: fmt) d) 0 = fb.toNat := by
    intro fmt; rw [hr]; rfl
  by_cases hver : Bytes.slice d 1 5 = [0, 0, 0, 0]
  · -- Version Negotiation: the packet is appended, then `total_packet_len` is unbound
    rw [if_pos hver]
    refine (if_pos (by simp [hV', hver])).trans ?_
    refine step_unpack (F6.append (j := 4) (m := 4) ⟨rfl, rfl, rfl⟩) ?_
    intro h10
    -- the located fields first, while the goal has the generated shape (`hdl` would rewrite inside them)
    simp only [hdcid, hscid, hV]
    simp [after, done, finish, ofPkt, Pkt.tokenLen, Pkt.packetLen, hfb, hdl']
  rw [if_neg hver]
  rcases packetType_cases fb with hpt | hpt | hpt | hpt <;> rw [hpt] <;> refine (if_neg (by simp [hV', hver])).trans ?_
  · -- Initial: the token, then the Length field behind it
    refine (if_pos (by simp [hV', hver])).trans ?_
    refine step_peek F6 ?_
    intro ht1 htl1
    refine step_read get_variable_length_int_length_eq_model htl1 ?_
    intro tll htll
    refine step_unpack_snoc F6 rfl ?_
    intro ht2 F7 htlb
    refine step_read decode_variable_length_int_eq_model htlb ?_
    intro tl htl
    refine step_unpack_snoc F7 rfl ?_
    intro ht3 F8 htok
    rw [after_bind, protectedTail]
    refine step_peek F8 ?_
    intro h10 hpl1
    refine step_read get_variable_length_int_length_eq_model hpl1 ?_
    intro pll hpll
    refine step_unpack_snoc F8 rfl ?_
    intro h11 F9 hplb
    refine step_read decode_variable_length_int_eq_model hplb ?_
    intro plen hplen
    have hfit := varint_fits _ _ _ _ hpll hplen
    refine step_ok (toBytesE_nat _ _ hfit) ?_
    refine step_key_role (hk' _) (hk' _) fun key => ?_
    refine step_hp fb (hfb _) ?_ rfl rfl ?_
    · rw [hdcl, hscl]; omega
    intro r
    obtain ⟨fb', pn, l⟩ := r
    refine step_unpack_rest (F9.snoc l) (beNat_ofNatBE _ _ hfit) ?_
    intro hF hG hpay
    simp only [hdcid, hscid, hV, htlb, htok, hplb, hpay]
    simp [after, done, finish, ofPkt, Pkt.tokenLen, Pkt.packetLen, hdl', Bytes.beNat_one, hbs, bind, Except.bind, pure, Except.pure, hplen,
      Bytes.slice_length_eq _ _ _ h11, htl]
  · -- Retry: the rest of the datagram is token and tag
    refine (if_neg (by simp [hV', hver])).trans ?_
    refine (if_neg (by simp [hV', hver])).trans ?_
    refine (if_pos (by simp [hV', hver])).trans ?_
    refine step_unpack_all F6 (by omega) (by simp only [hdl, UInt8.ofNat_toNat, hbs, Bytes.beNat_one]; omega) ?_
    intro _ hrest
    refine step_ok (by rw [hr]; exact getItem_cons_zero _ _) ?_
    simp only [hdcid, hscid, hV, hrest]
    simp [after, done, finish, ofPkt, Pkt.tokenLen, Pkt.packetLen, hdl', Bytes.beNat_one, hbs, pySlice_to_neg, pySlice_from_neg, bind,
      Except.bind, pure, Except.pure]
    simp +arith
  -- Handshake (`inr.inr.inl`) and 0-RTT (`inr.inr.inr`) are left: one branch of the source as far as the Length field goes
  all_goals
    refine (if_neg (by simp [hV', hver])).trans ?_
    refine (if_pos (by simp [hV', hver])).trans ?_
    rw [after_bind, protectedTail]
    refine step_peek F6 ?_
    intro h10 hpl1
    refine step_read get_variable_length_int_length_eq_model hpl1 ?_
    intro pll hpll
    refine step_unpack_snoc F6 rfl ?_
    intro h11 F7 hplb
    refine step_read decode_variable_length_int_eq_model hplb ?_
    intro plen hplen
    have hfit := varint_fits _ _ _ _ hpll hplen
    refine step_ok (toBytesE_nat _ _ hfit) ?_
  -- Handshake: the key by role (`hp_key` is not replaced by the early key)
  case' inr.inr.inl =>
    refine (if_pos (by simp [hV', hver])).trans ?_
    refine step_key_role (hk' _) (hk' _) fun key => (if_neg (by simp [hV', hver])).trans ?_
  -- 0-RTT: the early key whatever the role
  case' inr.inr.inr =>
    refine (if_neg (by simp [hV', hver])).trans ?_
    refine (if_pos (by simp [hV', hver])).trans ?_
    refine step_key (hk' .clientEarly) fun key => ?_
  -- both, with the key read: the protection comes off, the payload is what the Length field leaves
  all_goals
    refine step_hp fb (hfb _) (by rw [hdcl, hscl]) rfl hc ?_
    intro r
    obtain ⟨fb', pn, l⟩ := r
    refine step_unpack_rest (F7.snoc l) (beNat_ofNatBE _ _ hfit) ?_
    intro hF hG hpay
    simp only [hdcid, hscid, hV, hplb, hpay]
    simp [after, done, finish, ofPkt, Pkt.tokenLen, Pkt.packetLen, hdl', Bytes.beNat_one, hbs, hver, bind, Except.bind, pure, Except.pure, hplen,
      Bytes.slice_length_eq _ _ _ h11]

/-- the `case QuicHeaderType.SHORT` arm -/
theorem extract_short (mask : MaskFn) (env : Env) (isServer : Bool) (guessed : Bytes) (ts : Nat) (fb : UInt8) (r d : Bytes)
    (keys : Dict (List Nat) Bytes) (cs : Option Bytes)
    (hk : ∀ n, keys (keyName n) = env.keys n) (hc : env.chacha = decide (cs = some [0x13, 0x03]))
    (hr : d = fb :: r) (hz : Bytes.beNat d ≠ 0) (hs : isLong fb = false) :
    Gen.Py.extract_quic_packet (maskE mask) isServer guessed keys cs d ts =
      after d (extractShort mask env isServer guessed ts d fb) pure := by
  unfold Gen.Py.extract_quic_packet
  conv =>
    rhs
    unfold extractShort
    dsimp only
  have hk' := fun n => (hk n).symm
  have h1 : Gen.Py.get_header_type d = .ok .short := by
    rw [get_header_type_eq_model, hr, onFirst, hs]; rfl
  refine step_ok h1 ?_
  rw [if_neg (by simpa using hz), if_neg (by decide), if_pos (by decide)]
  have F2 : Fmt [Fld.B, Fld.S (Int.ofNat guessed.length)] 2 (1 + guessed.length) := (Fmt.snoc (fmt := [Fld.B]) ⟨rfl, rfl, rfl⟩ _)
  refine step_unpack F2.nil ?_
  intro h2
  refine step_key_role (hk' _) (hk' _) fun key => ?_
  refine step_hp fb (by rw [hr]; rfl) rfl rfl hc ?_
  intro r
  obtain ⟨fb', pn, l⟩ := r
  refine step_unpack_all (F2.snoc l) rfl rfl ?_
  intro _ hpay
  refine step_ok (getItem_cons_zero _ _) ?_
  simp only [hpay]
  simp [after, done, finish, ofPkt, Pkt.tokenLen, Pkt.packetLen, bind, Except.bind, pure, Except.pure]

end Dissect2

/-- named by the macro `long_start` below -/
theorem beNat_one (x : UInt8) : Bytes.beNat [x] = x.toNat := Bytes.beNat_one x

macro "unpack_norm" : tactic => `(tactic| simp only [unpackFrom_eq, fldS_cutFields, fldB_cutFields])

/-- the shared start of the long-header arms: goal after unfolding, for a version that is not zero and a known packet type -/
macro "long_start" hz:ident hs:ident hver:ident hpt:ident : tactic =>
  `(tactic| (
    unfold Gen.Py.extract_quic_packet extract
    simp only [get_header_type_eq_model, get_packet_type_eq_model, onFirst, $hs:ident, $hz:ident, tryE_ok, Bool.false_eq_true, if_false,
      decide_false, reduceCtorEq, decide_true, if_true]
    unpack_norm
    simp only [$hver:ident, $hpt:ident, decide_false, decide_true, Bool.false_eq_true, if_false, if_true, Option.some.injEq, reduceCtorEq,
      Bool.or_self, Bool.or_false, Bool.or_true, Bool.false_or, Bool.true_or, beNat_one, UInt8.ofNat_toNat]))

/-- `extract_quic_packet(in_packet, isserver, guessed_dcid, keys, ciphersuite)` on `in_packet.tls_data = d`, the whole
    function: with the two mask primitives as the model's `mask` parameter and `keys` holding what the model's `env.keys`
    holds, the packets constructed are — keyword argument by keyword argument — the model's `extract … d`, the datagram
    remainder left in `in_packet.tls_data` is the model's `rest`, and no exception leaves the function. -/
theorem extract_quic_packet_eq_model (mask : MaskFn) (env : Env) (isServer : Bool) (guessed : Bytes) (ts : Nat) (d : Bytes)
    (keys : Dict (List Nat) Bytes) (cs : Option Bytes)
    (hk : ∀ n, keys (keyName n) = env.keys n) (hc : env.chacha = decide (cs = some [0x13, 0x03])) :
    Gen.Py.extract_quic_packet (maskE mask) isServer guessed keys cs d ts =
      .ok ((extract mask env isServer guessed ts d).pkts.map ofPkt) { tls_data := (extract mask env isServer guessed ts d).rest } := by
  cases d with
  | nil =>
    have h : Gen.Py.get_header_type [] = .error .index := by rw [get_header_type_eq_model]; rfl
    unfold Gen.Py.extract_quic_packet
    exact (Dissect2.step_fail (d := []) (e := .index) (f := pure) h (by decide)).trans rfl
  | cons fb r =>
    rw [extract_cons_eq]
    by_cases hz : Bytes.beNat (fb :: r) = 0
    · have h : Gen.Py.get_header_type (fb :: r) = .ok (if isLong fb then .long else .short) := by
        rw [get_header_type_eq_model]; rfl
      unfold Gen.Py.extract_quic_packet
      refine Dissect2.step_ok h ?_
      rw [if_pos (by simpa using hz), if_pos hz]
      rfl
    rw [if_neg hz]
    cases hs : isLong fb
    · exact (Dissect2.extract_short mask env isServer guessed ts fb r _ keys cs hk hc rfl hz hs).trans (Dissect2.after_pure _ _)
    · exact (Dissect2.extract_long mask env isServer guessed ts fb r _ keys cs hk hc rfl hz hs).trans (Dissect2.after_pure _ _)

-- Non-vacuity: a short-header packet and a Retry through the translated code, with a toy mask (first five sample bytes)
example : Gen.Py.extract_quic_packet (maskE fun _ _ s => some (s.take 5)) false [0xaa] (fun _ => some [1]) none
      ([0x41, 0xaa] ++ List.replicate 24 7) 9 =
    .ok ((extract (fun _ _ s => some (s.take 5)) ⟨fun _ => some [1], false⟩ false [0xaa] 9 ([0x41, 0xaa] ++ List.replicate 24 7)).pkts.map ofPkt)
      { tls_data := [] } ∧
    (extract (fun _ _ s => some (s.take 5)) ⟨fun _ => some [1], false⟩ false [0xaa] 9 ([0x41, 0xaa] ++ List.replicate 24 7)).pkts.length = 1 := by
  decide +kernel

end TLX.Props.Translated
