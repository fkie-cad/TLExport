/-
Translated Python functions, group Demux: tlexport/session.py `matches_session`; main.py `handle_quic_packet` (CID tests, candidates), `run()` frame dispatch.
Statement ranges of the session loop (`translate.SPECS` with `select`); group Main2 has the loops whole (`handle_packet_eq_model`,
`quic_loop_eq_model`) and does not rest on these. Both are required names of `translate.THEOREMS`.
-/
import TLX.Gen.Translated.Demux
import TLX.Props.Translated.Enc
import TLX.MainLoop
namespace TLX.Props.Translated
open TLX TLX.PyRt

/-- `matches_session(packet)` is the model's `Sess.matches` -/
theorem matches_session_eq_model {α : Type} (s : MainLoop.Sess α) (p : MainLoop.Pkt) :
    Gen.Py.matches_session p.src.ip p.dst.ip p.src.port p.dst.port s.server.ip s.server.port s.client.ip s.client.port =
      s.matches p := by
  unfold Gen.Py.matches_session MainLoop.Sess.matches
  simp only [endpoint_beq, Bool.and_assoc, Bool.if_true_left, Bool.if_false_right, Bool.and_true, Bool.decide_eq_true]

example : Gen.Py.matches_session [10, 0, 0, 1] [10, 0, 0, 2] 443 5000 [10, 0, 0, 1] 443 [10, 0, 0, 2] 5000 = true ∧
    Gen.Py.matches_session [10, 0, 0, 1] [10, 0, 0, 2] 443 5001 [10, 0, 0, 1] 443 [10, 0, 0, 2] 5000 = false := by decide +kernel

/-- the long-header CID test of the session loop is the condition of the model's `cidMatch` -/
theorem quic_long_cid_test_eq_model (cc sc : List Bytes) (side : MainLoop.Side) (dcid payload : Bytes) (v : MainLoop.Version) :
    MainLoop.cidMatch cc sc side (.long dcid v) payload =
      if Gen.Py.quic_long_cid_test dcid cc sc then some dcid else none := by
  simp [MainLoop.cidMatch, Gen.Py.quic_long_cid_test]

example : Gen.Py.quic_long_cid_test [1] [[1]] [] = true ∧ Gen.Py.quic_long_cid_test [] [[]] [] = false := by decide +kernel

/-- the candidate set of a short-header datagram is the model's `shortCandidates` at the model's `Sess.side` -/
theorem quic_short_candidates_eq_model {α : Type} (s : MainLoop.Sess α) (p : MainLoop.Pkt) (cc sc : List Bytes) :
    (Gen.Py.quic_short_candidates cc sc (s.matches p) p.src.ip p.src.port s.client.ip s.client.port).candidates =
      MainLoop.shortCandidates cc sc (s.side p) := by
  unfold Gen.Py.quic_short_candidates MainLoop.Sess.side
  cases s.matches p <;> cases h : (p.src == s.client) <;> simp only [endpoint_beq] at h <;> simp [h, MainLoop.shortCandidates]

example : (Gen.Py.quic_short_candidates [[1]] [[2]] true [10, 0, 0, 2] 5000 [10, 0, 0, 2] 5000).candidates = [[2]] ∧
    (Gen.Py.quic_short_candidates [[1]] [[2]] false [10, 0, 0, 2] 5000 [10, 0, 0, 2] 5000).candidates = [[1], [2]] := by decide +kernel

/-- the per-candidate test is the model's `cidPrefixOf` -/
theorem quic_short_cid_test_eq_model (cid payload : Bytes) :
    Gen.Py.quic_short_cid_test cid payload = MainLoop.cidPrefixOf payload cid := by
  simp only [Gen.Py.quic_short_cid_test, MainLoop.cidPrefixOf, gt_iff_lt]
  congr 1
  rw [Bool.eq_iff_iff]
  simp

example : Gen.Py.quic_short_cid_test [7, 8] [0x43, 7, 8, 9] = true ∧ Gen.Py.quic_short_cid_test [] [0x43] = false := by decide +kernel

/-- how the loop body of `run()` is left for a frame the model ignores -/
def whyExit : MainLoop.Why → Exit
  | .emptyTcp => .cont
  | .emptyUdp => .cont
  | .badCsumUdp => .cont
  | .badCsumTcp => .fall
  | .noFixedBit => .fall
  | .notTcpUdp => .fall

/-- the handler called and the exit taken, per model class of a frame -/
def classRes {κ : Type} : MainLoop.Class κ → Res Gen.Py.run_classify.St Exit
  | .tls _ => .ok .fall { acts := [.tls] }
  | .quic _ _ _ => .ok .fall { acts := [.quic] }
  | .ignore w => .ok (whyExit w) { acts := [] }
  | .keys _ => .ok .cont { acts := [] }

/-- the frame dispatch of `run()` is the model's `classify` (`packet.tcp_packet` / `udp_packet` are the model's `l4`;
    both checksum functions are the model's `csumOk`); `packet.tls_data[0]` never raises -/
theorem run_classify_eq_model {κ : Type} (o : MainLoop.Opts) (p : MainLoop.Pkt) :
    Gen.Py.run_classify (p.l4 == .tcp) (p.l4 == .udp) p.payload o.checksumTest o.greasy p.csumOk p.csumOk =
      classRes (MainLoop.classify (κ := κ) o (.frame p)) := by
  unfold Gen.Py.run_classify MainLoop.classify
  obtain ⟨l4, src, dst, payload, csumOk, tag⟩ := p
  cases l4
  · cases payload <;> cases o.checksumTest <;> cases csumOk <;> rfl
  · cases payload with
    | nil => rfl
    | cons b0 rest =>
      cases o.checksumTest <;> cases csumOk
      case true.false => rfl
      all_goals
        simp only [getItem_cons_zero, tryE_ok]
        cases (decide ((b0.toNat &&& 64) >>> 6 = 1) || o.greasy) <;> rfl
  · rfl

example : Gen.Py.run_classify false true [0x43, 1] true false true true = .ok .fall { acts := [.quic] } ∧
    Gen.Py.run_classify true false [0x16] true false false false = .ok .fall { acts := [] } ∧
    Gen.Py.run_classify false true [0x03] false false true true = .ok .fall { acts := [] } := by decide +kernel

end TLX.Props.Translated
