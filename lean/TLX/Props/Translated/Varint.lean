/-
Translated Python functions, group Varint: tlexport/quic/quic_decode.py.
-/
import TLX.Gen.Translated.Varint
import TLX.Props.Translated.Enc
import TLX.Quic.Varint
namespace TLX.Props.Translated
open TLX TLX.PyRt

theorem get_variable_length_int_length_eq_model (b : Bytes) :
    Gen.Py.get_variable_length_int_length b = ofOpt (Quic.Varint.getVarintLength b) := by
  cases b with
  | nil => simp [Gen.Py.get_variable_length_int_length, Quic.Varint.getVarintLength, ofOpt]
  | cons x r =>
    simp [Gen.Py.get_variable_length_int_length, Quic.Varint.getVarintLength, ofOpt, Quic.Varint.varintLen]

example : Gen.Py.get_variable_length_int_length [0x9d, 0x7f] = .ok 4 := by decide

theorem decode_variable_length_int_eq_model (b : Bytes) :
    Gen.Py.decode_variable_length_int b = ofOpt (Quic.Varint.decodeVarint b) := by
  cases b with
  | nil => simp [Gen.Py.decode_variable_length_int, Quic.Varint.decodeVarint, ofOpt]
  | cons x r =>
    simp only [Gen.Py.decode_variable_length_int, getItem_cons_zero, forE_be, Quic.Varint.decodeVarint,
      Quic.Varint.varintLen, List.drop_succ_cons, List.drop_zero, tryE_ok, List.length_cons, Nat.add_sub_cancel]
    by_cases h : r.length < 1 <<< (x.toNat >>> 6) - 1 <;> simp [h, ofOpt]

example : Gen.Py.decode_variable_length_int [0x7b, 0xbd] = .ok 15293 ∧
    Gen.Py.decode_variable_length_int [0x7b] = .error .index := by decide

end TLX.Props.Translated
