/-
The packet path of `QuicSession` (tlexport/quic/quic_session.py) as translated from the Python source
(`TLX/Gen/Translated/QuicSess2.lean`) equals the hand-written model `TLX/Quic/Session.lean`.

The translated definitions run over the MODEL's state record `Session.St σ` itself (the spec maps `self.server_cids` to
`serverCids`, `self.decryptors["Initial"]` to `decInitial` …), a frame object is the model's `Out` (`mkOut p f`), a packet
object the model's `Pkt`. Externals are instantiated with the model's functions (`checkKeyEpoch`, `setLargestPn`,
`decDecrypt`, `Frame.parseFrames`); `handle_crypto_frame` is any function that agrees with `handleCrypto` on CRYPTO frames.

`decrypt_packet` is translated in three fragments of its `try:` body (selection of the decryptor / associated data / from
`decryptor.decrypt` on); `decrypt_rest_eq_model'` ties the last one to the tail of `decryptRest`, with the position of
`set_largest_packet_number` after the AEAD check and before `parse_frames`.
-/
import TLX.Gen.Translated.QuicSess2
import TLX.Lemmas.PyRt
namespace TLX.Props.Translated.QSess
open TLX TLX.Quic TLX.Quic.Session TLX.Cipher TLX.Gen.Py PyRt

variable {σ : Type}

def errOf : PyErr → Err
  | .index => .index | .key => .key | .attr => .attr | .unbound => .unbound | .overflow => .overflow | .value => .value
  | .type => .type | .invalidTag => .value | .unsupported => .value | .other => .value

/-- a model result (state, exception) as the translated definitions give it -/
def resOf : St σ × Option PyErr → Res (St σ) Unit
  | (s, none) => .ok () s
  | (s, some e) => .raised (errOf e) s

def ofE {α : Type} : Except PyErr α → Except Err α
  | .ok a => .ok a
  | .error e => .error (errOf e)

/-- the external `handle_crypto_frame` agrees with the model's `handleCrypto` on the CRYPTO frames of packet `p` -/
def CryptoAgrees (P : Params σ) (hcf : St σ → Out → Res (St σ) Unit) : Prop :=
  ∀ (s : St σ) (p : Pkt) (l off len : Nat) (data : Bytes),
    hcf s (mkOut p (.crypto l off len data)) = resOf (handleCrypto P s p (.crypto l off len data) (cryptoIn p off len data))

theorem setAdd_eq (s : List Bytes) (x : Bytes) : PyRt.setAdd s x = Session.setAdd s x := by
  unfold PyRt.setAdd Session.setAdd; by_cases h : x ∈ s <;> simp [h]

/-- `handle_frame(frame)` for a frame `parse_frames` returned -/
theorem handle_frame_eq_model (P : Params σ) (hcf : St σ → Out → Res (St σ) Unit) (h : CryptoAgrees P hcf)
    (s : St σ) (p : Pkt) (f : Frame.Parsed) :
    QS.handle_frame hcf (mkOut p f) s = resOf (handleFrame P s p f) := by
  cases f <;>
    simp [QS.handle_frame, handleFrame, QS.isCrypto, QS.isStream, QS.isNewCid, QS.isClose, QS.isVersionNeg, QS.connectionId, mkOut,
      resOf, setAdd_eq]
  case crypto l off len data =>
    have := h s p l off len data
    simp only [mkOut] at this
    rw [this]
    cases handleCrypto P s p (.crypto l off len data) (cryptoIn p off len data) with
    | mk s' e => cases e <;> rfl
  case newConnectionId => cases p.isServer <;> simp

/-- the pseudo frame of a Version Negotiation packet goes to the output buffer -/
theorem handle_frame_version_neg (hcf : St σ → Out → Res (St σ) Unit) (s : St σ) (ts : Nat) (srv : Bool) (pt : PType) :
    QS.handle_frame hcf ⟨.versionNeg, ts, srv, pt⟩ s
      = .ok () { s with out := s.out ++ [⟨.versionNeg, ts, srv, pt⟩] } := by
  simp [QS.handle_frame, QS.isCrypto, QS.isStream, QS.isNewCid, QS.isClose, QS.isVersionNeg]

/-- how the fragment reports the model's `Except PyErr (Option Dec)` -/
def selRes : St σ × Except PyErr (Option Dec) → Res (St σ) (Option Dec)
  | (s, .ok d) => .ok d s
  | (s, .error e) => .raised (errOf e) s

theorem app_decryptor (s : St σ) (srv : Bool) :
    tryE (someE Err.key s.decApp) (fun e => (.raised e s : Res (St σ) (Option Dec))) (fun gens =>
        tryE (listItemE gens (Int.ofNat (if srv then s.epochServer else s.epochClient))) (fun e => .raised e s) (fun d => .ok (some d) s))
      = selRes (s, appDecryptor s srv) := by
  unfold appDecryptor
  cases h : s.decApp with
  | none => simp [someE, selRes, errOf]
  | some gens =>
    simp only [someE, tryE_ok, listItemE_nat]
    cases gens[if srv then s.epochServer else s.epochClient]? <;> simp [selRes, errOf]

/-- the first statement of the `try:` of decrypt_packet: the key-epoch check and the decryptor for this packet -/
theorem decrypt_select_eq_model (P : Params σ) (s : St σ) (p : Pkt) :
    QS.decrypt_select (fun st ph srv => resOf (checkKeyEpoch P st ph srv)) p s = selRes (selectDecryptor P s p) := by
  unfold QS.decrypt_select selectDecryptor
  cases hh : p.htype with
  | short =>
    simp only [QS.isShort, hh, decide_true, if_true]
    by_cases hr : p.ptype = .rtt1
    · simp only [hr, decide_true, if_true]
      cases hc : checkKeyEpoch P s p.keyPhase p.isServer with
      | mk s' e =>
        cases e with
        | some e => simp [resOf, selRes]
        | none =>
          simp only [resOf, tryR_ok]
          have := app_decryptor s' p.isServer
          cases hs : p.isServer <;> simp only [hs, if_true, if_false, Bool.false_eq_true] at this ⊢ <;> exact this
    · simp only [hr, decide_false, if_false, Bool.false_eq_true]
      have := app_decryptor s p.isServer
      cases hs : p.isServer <;> simp only [hs, if_true, if_false, Bool.false_eq_true] at this ⊢ <;> exact this
  | long =>
    simp only [QS.isShort, hh, reduceCtorEq, decide_false, if_false, Bool.false_eq_true]
    cases hp : p.ptype
    case initial => cases hd : s.decInitial <;> simp [longDecryptor, selRes, someE, errOf, hd]
    case handshake => cases hd : s.decHandshake <;> simp [longDecryptor, selRes, someE, errOf, hd]
    case rtt0 => cases hd : s.decEarly <;> simp [longDecryptor, selRes, someE, errOf, hd]
    all_goals simp [longDecryptor, selRes]

/-- how the fragment reports `assocData`: no case matched = the name stays unbound (UnboundLocalError at its first read) -/
def aadRes (s : St σ) : Except PyErr Bytes → Res (St σ) (Option Bytes)
  | .ok a => .ok (some a) s
  | .error .unbound => .ok none s
  | .error e => .raised (errOf e) s

theorem cat_some (a : Bytes) (l : List (Option Bytes)) : cat (some a :: l) = (cat l).map (a ++ ·) := by
  simp only [cat, List.foldr_cons]
  cases List.foldr _ _ l <;> rfl

theorem cat_nil : cat [] = some [] := rfl

/-- the shape of an `associated_data = a + b + …` statement: the parts in order, `bytes + None` raising TypeError -/
def aadChain (s : St σ) (acc : Bytes) : List (Option Bytes) → Res (St σ) (Option Bytes)
  | [] => .ok (some acc) s
  | o :: r => tryE (someE .type o) (fun e => .raised e s) fun a => aadChain s (acc ++ a) r

theorem aadChain_eq (s : St σ) : ∀ (l : List (Option Bytes)) (acc : Bytes),
    aadChain s acc l = aadRes s (match cat l with | some a => .ok (acc ++ a) | none => .error .type) := by
  intro l
  induction l with
  | nil => intro acc; simp only [aadChain, cat_nil, aadRes, List.append_nil]
  | cons o r ih =>
    intro acc
    cases o with
    | none => rfl
    | some a =>
      simp only [aadChain, someE, tryE_ok, ih, cat_some]
      cases cat r <;> simp only [Option.map, aadRes, List.append_assoc]

theorem decrypt_aad_eq_model (s : St σ) (p : Pkt) : QS.decrypt_aad p s = aadRes s (assocData p) := by
  unfold QS.decrypt_aad assocData QS.isLong
  -- every branch that assigns `associated_data` is an `aadChain` starting from `b""` (a part that cannot be `None` is `some _`)
  cases p.htype
  · refine .trans ?_ (aadChain_eq s _ []); rfl
  · cases p.ptype
    case initial | rtt0 | handshake => all_goals (refine .trans ?_ (aadChain_eq s _ []); rfl)
    all_goals rfl

/-- `parse_frames(payload, quic_packet)` as the model has it: the frames, each with its source packet; IndexError otherwise -/
def parseOf (pt : Bytes) (p : Pkt) : Except Err (List Out) :=
  match Frame.parseFrames pt with
  | none => .error .index
  | some fs => .ok (fs.map (mkOut p))

/-- `for frame in frames: self.handle_frame(frame)`, whatever is done with an exception of `handle_frame` (`H`: it propagates,
    or the try/except of decrypt_packet swallows it) -/
theorem frames_loop (P : Params σ) (hcf : St σ → Out → Res (St σ) Unit) (h : CryptoAgrees P hcf) (p : Pkt)
    (H : Err → St σ → Res (St σ) Unit) (s0 : St σ) :
    ∀ (fs : List Frame.Parsed) (s : St σ),
      loopS (forS (fs.map (mkOut p)) s (fun py_s frame =>
                tryR (QS.handle_frame hcf frame py_s)
                  (fun e st' => (.ok (.ret (H e st')) : Except Err (Step (St σ) (Res (St σ) Unit)))) (fun _ st' => .ok (.next st'))))
              (fun e => H e s0) (fun r => r) (fun py_s => .ok () py_s)
        = match handleFrames P s p fs with | (s', none) => .ok () s' | (s', some e) => H (errOf e) s' := by
  intro fs
  induction fs with
  | nil => intro s; rfl
  | cons f rest ih =>
    intro s
    simp only [List.map_cons, forS, handleFrames, handle_frame_eq_model P hcf h]
    cases handleFrame P s p f with
    | mk s1 e =>
      cases e with
      | none => simp only [resOf, tryR_ok]; exact ih s1
      | some e => simp only [resOf, tryR_raised, loopS_ret]

/-- what follows the associated data in the `try:` of decrypt_packet: AEAD check, THEN the largest packet number of the
    space, then parse_frames and the frames in order -/
def restModel (P : Params σ) (s : St σ) (p : Pkt) (d : Dec) (pn aad : Bytes) : St σ × Option PyErr :=
  match decDecrypt P d p.payload pn aad p.isServer with
  | .error e => (s, some e)
  | .ok pt =>
    match Frame.parseFrames pt with
    | none => (setLargestPn s p pn, some .index)
    | some fs => handleFrames P (setLargestPn s p pn) p fs

theorem decrypt_rest_eq_model (P : Params σ) (hcf : St σ → Out → Res (St σ) Unit) (h : CryptoAgrees P hcf)
    (s : St σ) (p : Pkt) (d : Dec) (pn aad : Bytes) :
    QS.decrypt_rest hcf (fun st q b => .ok () (setLargestPn st q b)) (fun d pl pn aad srv => ofE (decDecrypt P d pl pn aad srv))
        parseOf p d pn aad s
      = resOf (restModel P s p d pn aad) := by
  unfold QS.decrypt_rest restModel
  dsimp only
  cases decDecrypt P d p.payload pn aad p.isServer with
  | error e => simp [ofE, resOf]
  | ok pt =>
    simp only [ofE, tryE_ok, tryR_ok, parseOf]
    cases Frame.parseFrames pt with
    | none => simp [resOf, errOf]
    | some fs =>
      simp only [tryE_ok]
      exact frames_loop P hcf h p _ _ fs _

/-- the same against `decryptRest`, once the packet number and the associated data are there -/
theorem decrypt_rest_eq_model' (P : Params σ) (hcf : St σ → Out → Res (St σ) Unit) (h : CryptoAgrees P hcf)
    (s : St σ) (p : Pkt) (d : Dec) (pn aad : Bytes) (hpn : getFullPn s p = .ok pn) (haad : assocData p = .ok aad) :
    QS.decrypt_rest hcf (fun st q b => .ok () (setLargestPn st q b)) (fun d pl pn aad srv => ofE (decDecrypt P d pl pn aad srv))
        parseOf p d pn aad s
      = resOf (decryptRest P s p (some d)) := by
  rw [decrypt_rest_eq_model P hcf h]
  simp only [decryptRest, hpn, haad, restModel]
  cases decDecrypt P d p.payload pn aad p.isServer with
  | error e => rfl
  | ok pt => cases Frame.parseFrames pt <;> rfl

theorem errOf_ne_fuel (e : PyErr) : decide (errOf e ≠ Err.fuel) = true := by cases e <;> rfl

/-- `get_full_packet_number` as an external over the state record (it reads the table and leaves the state alone) -/
def gfpnOf (s : St σ) (p : Pkt) : Res (St σ) Bytes :=
  match getFullPn s p with
  | .ok b => .ok b s
  | .error e => .raised (errOf e) s

def selRes2 (p : Pkt) : St σ × Except PyErr (Option Dec) → Res (St σ) (Pkt × Option Dec)
  | (s, .ok d) => .ok (p, d) s
  | (s, .error e) => .raised (errOf e) s

/-- `decrypt_packet` up to the decryptor is `decrypt_select` with the packet handed on -/
theorem join3_eq (cke : St σ → Option Nat → Bool → Res (St σ) Unit) (p : Pkt) (s : St σ) :
    QS.decrypt_packet.join3 cke p s = mapRes (fun d => (p, d)) (QS.decrypt_select cke p s) := by
  unfold QS.decrypt_packet.join3 QS.decrypt_packet.join2 QS.decrypt_select
  by_cases hs : QS.isShort p = true <;> by_cases hr : p.ptype = .rtt1 <;>
    simp only [hs, hr, decide_true, decide_false, if_true, if_false, Bool.false_eq_true, tryR_ok, apply_ite (mapRes _), apply_tryE (mapRes _),
      mapRes.eq_1, mapRes.eq_2]
  cases cke s p.keyPhase p.isServer <;>
    simp only [tryR_ok, tryR_raised, apply_ite (mapRes _), apply_tryE (mapRes _), mapRes.eq_1, mapRes.eq_2]
theorem join_select (P : Params σ) (s : St σ) (p : Pkt) :
    QS.decrypt_packet.join3 (fun st ph srv => resOf (checkKeyEpoch P st ph srv)) p s = selRes2 p (selectDecryptor P s p) := by
  rw [join3_eq, decrypt_select_eq_model]
  cases selectDecryptor P s p with
  | mk s' r => cases r <;> rfl

theorem join_aad (s : St σ) (p : Pkt) : QS.decrypt_packet.join4 p s = aadRes s (assocData p) :=
  (rfl : QS.decrypt_packet.join4 p s = QS.decrypt_aad p s).trans (decrypt_aad_eq_model s p)

/-- `decrypt_packet(quic_packet)`: the state afterwards is the model's (every exception is swallowed by the try/except) -/
theorem decrypt_packet_eq_model (P : Params σ) (hcf : St σ → Out → Res (St σ) Unit) (h : CryptoAgrees P hcf) (s : St σ) (p : Pkt) :
    QS.decrypt_packet hcf (fun st ph srv => resOf (checkKeyEpoch P st ph srv)) gfpnOf (fun st q b => .ok () (setLargestPn st q b))
        (fun d pl pn aad srv => ofE (decDecrypt P d pl pn aad srv)) parseOf p s
      = .ok () (decryptPacket P s p).1 := by
  unfold QS.decrypt_packet decryptPacket
  rw [join_select]
  cases hsel : selectDecryptor P s p with
  | mk s1 r =>
    cases r with
    | error e => simp only [selRes2, tryR_raised, errOf_ne_fuel, if_true]
    | ok d? =>
      simp only [selRes2, tryR_ok, gfpnOf, decryptRest]
      cases hpn : getFullPn s1 p with
      | error e => simp only [tryR_raised, errOf_ne_fuel, if_true]
      | ok pn =>
        simp only [tryR_ok, join_aad]
        cases haad : assocData p with
        | error e =>
          cases e <;> simp only [aadRes, tryR_raised, tryR_ok, errOf_ne_fuel, if_true] <;>
            cases d? <;> simp [unboundE]
        | ok aad =>
          simp only [aadRes, tryR_ok]
          cases d? with
          | none => simp [unboundE]
          | some d =>
            simp only [unboundE, tryE_ok]
            cases decDecrypt P d p.payload pn aad p.isServer with
            | error e => simp only [ofE, tryE_error, errOf_ne_fuel, if_true]
            | ok pt =>
              simp only [ofE, tryE_ok, parseOf]
              cases Frame.parseFrames pt with
              | none => simp
              | some fs =>
                simp only [tryE_ok]
                refine (frames_loop P hcf h p _ _ fs _).trans ?_
                cases handleFrames P (setLargestPn s1 p pn) p fs with
                | mk s2 e => cases e <;> simp only [errOf_ne_fuel, if_true]

/-- one round of the loop as the translated body reports it: an escaping exception ends the method with the state as it is -/
def stepRes (r : StepRes σ) : Except Err (Step (St σ) (Res (St σ) Unit)) :=
  match r.escaped with
  | some e => .ok (.ret (.raised (errOf e) r.st))
  | none => .ok (.next r.st)

/-- the model's run over the dissected packets: final state, and the exception that left the method, if any -/
def runRes (P : Params σ) (s : St σ) (pkts : List Pkt) : Res (St σ) Unit :=
  match escapes P s pkts with
  | none => .ok () (runPkts P s pkts)
  | some e => .raised (errOf e) (runPkts P s pkts)

theorem pkts_loop (P : Params σ) (body : St σ → Pkt → Except Err (Step (St σ) (Res (St σ) Unit)))
    (hb : ∀ s p, body s p = stepRes (stepPkt P s p)) (s0 : St σ) :
    ∀ (pkts : List Pkt) (s : St σ),
      loopS (forS pkts s body) (fun e => .raised e s0) (fun r => r) (fun s => .ok () s) = runRes P s pkts := by
  intro pkts
  induction pkts with
  | nil => intro s; rfl
  | cons p rest ih =>
    intro s
    simp only [forS, hb, stepRes, runRes, escapes, runPkts]
    cases h : (stepPkt P s p).escaped with
    | some e => simp only [loopS_ret]
    | none =>
      simp only []
      have := ih (stepPkt P s p).st
      simp only [runRes] at this
      exact this

theorem setAddO_eq (s : List Bytes) (x : Option Bytes) : PyRt.setAddO s x = Session.optAdd s x := by
  cases x <;> simp [PyRt.setAddO, Session.optAdd, setAdd_eq]

/-- `handle_quic_packet()`: decrypt_packet for everything but Retry / Version Negotiation, the pseudo frame, the reset after a
    Retry, both CIDs of an Initial — packet by packet as the model's `stepPkt`; the run ends at an escaping exception -/
theorem handle_quic_packet_eq_model (P : Params σ) (hcf : St σ → Out → Res (St σ) Unit) (h : CryptoAgrees P hcf)
    (s : St σ) (pkts : List Pkt) :
    QS.handle_quic_packet hcf (fun st ph srv => resOf (checkKeyEpoch P st ph srv)) gfpnOf (fun st q b => .ok () (setLargestPn st q b))
        (fun d pl pn aad srv => ofE (decDecrypt P d pl pn aad srv)) parseOf P.tlsInit pkts s
      = runRes P s pkts := by
  unfold QS.handle_quic_packet
  refine pkts_loop P _ ?_ s pkts s
  intro s p
  simp only [decrypt_packet_eq_model P hcf h, tryR_ok, stepPkt, afterDecrypt, stepRes, QS.vnFrame,
    QS.supportedVersion, QS.isLong, guardE, setAddO_eq, setAdd_eq, retryReset, learnCids]
  generalize (decryptPacket P s p).1 = s1
  -- by packet type; Version Negotiation and Initial packets are the ones whose header form and direction are looked at
  cases hp : p.ptype <;> simp [handle_frame_version_neg, errOf]
  all_goals cases p.htype <;> cases p.isServer <;> simp

/-- `QuicTlsSession.update_session(frame)` as the model's parameter `tlsUpdate` -/
def tlsUpdOf (P : Params σ) (t : σ) (o : Out) : Res σ Unit :=
  match o.frame with
  | .parsed (.crypto _ off len data) =>
    match P.tlsUpdate t ⟨o.isServer, o.ptype, off, len, data⟩ with
    | (t', none) => .ok () t'
    | (t', some e) => .raised (errOf e) t'
  | _ => .ok () t

/-- `set_tls_decryptors(client_random, ciphersuite)`; called with both present only -/
def stdOf (P : Params σ) (s : St σ) : Option Bytes → Option Bytes → Res (St σ) Unit
  | some cr, some cs => resOf (setTlsDecryptors P s cr cs)
  | _, _ => .ok () s

theorem handle_crypto_frame_eq_model (P : Params σ) (s : St σ) (p : Pkt) (l off len : Nat) (data : Bytes) :
    QS.handle_crypto_frame (tlsUpdOf P) P.tlsNewData P.tlsClientRandom P.tlsCiphersuite P.tlsClearNewData (stdOf P)
        (mkOut p (.crypto l off len data)) s
      = resOf (handleCrypto P s p (.crypto l off len data) (cryptoIn p off len data)) := by
  unfold QS.handle_crypto_frame handleCrypto
  simp only [tlsUpdOf, mkOut, cryptoIn]
  cases P.tlsUpdate s.tls ⟨p.isServer, p.ptype, off, len, data⟩ with
  | mk t e =>
    cases e with
    | some e => simp [resOf]
    | none =>
      simp only [tryR_ok, afterTls]
      by_cases hn : P.tlsNewData t
      · simp only [hn, if_true]
        cases hcr : P.tlsClientRandom t with
        | none => simp [resOf]
        | some cr =>
          cases hcs : P.tlsCiphersuite t with
          | none => simp [resOf]
          | some cs =>
            simp only [Option.isNone_some, Bool.not_false, Bool.and_self, if_true, stdOf]
            cases setTlsDecryptors P { s with tls := t } cr cs with
            | mk s2 e2 => cases e2 <;> simp [resOf]
      · simp [hn, resOf]

/-- the translated `handle_crypto_frame` is a `handle_crypto_frame` the theorems above can be used with -/
theorem crypto_agrees (P : Params σ) :
    CryptoAgrees P (fun s o => QS.handle_crypto_frame (tlsUpdOf P) P.tlsNewData P.tlsClientRandom P.tlsCiphersuite P.tlsClearNewData
      (stdOf P) o s) :=
  fun s p l off len data => handle_crypto_frame_eq_model P s p l off len data

/-- `handle_packet` before its loop: the version latch, the Initial decryptor when there is none yet, the direction
    (`packet` is read by `packet_isserver` only: "does it come from the client's address"; the model's
    `setInitialDecryptor` is `set_initial_decryptor(dcid, False)`) -/
theorem handle_packet_pre_eq_model (P : Params σ) (s : St σ) (fromClient : Bool) (dcid : Bytes) (v : Version) :
    QS.handle_packet_pre (fun st d chacha => .ok () (if chacha then st else setInitialDecryptor P st d)) (fun st (fc : Bool) d => .ok (packetIsServer st fc d) st)
        fromClient dcid v s
      = .ok (packetIsServer (handlePacketPre P s dcid v) fromClient dcid) (handlePacketPre P s dcid v) := by
  unfold QS.handle_packet_pre handlePacketPre latchVersion
  by_cases hv : s.version = .unknown
  · simp only [hv, decide_true, if_true]
    cases hd : s.decInitial <;> simp
  · simp only [hv, decide_false, if_false, Bool.false_eq_true]
    cases hd : s.decInitial <;> simp

def k_sik : List Nat := [115, 101, 114, 118, 101, 114, 95, 105, 110, 105, 116, 105, 97, 108, 95, 107, 101, 121]   -- server_initial_key
def k_siv : List Nat := [115, 101, 114, 118, 101, 114, 95, 105, 110, 105, 116, 105, 97, 108, 95, 105, 118]        -- server_initial_iv
def k_cik : List Nat := [99, 108, 105, 101, 110, 116, 95, 105, 110, 105, 116, 105, 97, 108, 95, 107, 101, 121]    -- client_initial_key
def k_civ : List Nat := [99, 108, 105, 101, 110, 116, 95, 105, 110, 105, 116, 105, 97, 108, 95, 105, 118]         -- client_initial_iv

/-- the dict `dev_initial_keys` returns, as far as `set_initial_decryptor` reads it -/
def initDict (k : DirKeys × DirKeys) : List (List Nat × Bytes) :=
  [(k_sik, k.1.key), (k_siv, k.1.iv), (k_cik, k.2.key), (k_civ, k.2.iv)]

/-- `QuicDecryptor([server key, server iv, client key, client iv], cipher, early=False)` -/
def mkDec (ks : List Bytes) (alg : Alg) (early : Bool) : Except Err Dec :=
  match ks, early with
  | [a, b, c, d], false => .ok { alg := alg, server := some ⟨a, b⟩, client := ⟨c, d⟩ }
  | _, _ => .error .index

/-- `set_initial_decryptor(dcid, False)`: no keys → `can_decrypt = False`; else the Initial decryptor (AES-GCM) from the four
    entries, `self.keys` extended -/
theorem set_initial_decryptor_eq_model (P : Params σ) (s : St σ) (dcid : Bytes) :
    QS.set_initial_decryptor (fun d v _ => (P.devInitialKeys v d).map initDict) mkDec dcid false s
      = .ok () (setInitialDecryptor P s dcid) := by
  unfold QS.set_initial_decryptor setInitialDecryptor
  dsimp only
  cases P.devInitialKeys s.version dcid with
  | none => rfl
  | some k =>
    obtain ⟨srv, cli⟩ := k
    simp only [Option.map_some]
    -- the four lookups in `initDict`, the constructor and `self.keys.update` compute
    rfl

end TLX.Props.Translated.QSess
