/-
Translated Python functions, group QuicTls: tlexport/quic/quic_tls_parser.py — `handle_record`, `handle_client_hello`,
`handle_server_hello`, `handle_encrypted_extensions`, `get_extensions`, `get_quic_transport_parameters` — against
`TLX/Quic/TlsMsgs.lean`. The seven attributes the parsers write are one state record (`Gen.Py.QTls.St`, field for field the model's
`State`); an IndexError leaves the attribute writes made before it in place, as in the model. The two `while True` loops get
`len + 1` rounds of fuel; the theorems show they never run out.
NOT translated: `update_session` / `handle_buffer` (`Quic/CryptoStream.lean`): a list of frame objects sorted with a key function,
`list.remove` by identity, dicts of lists keyed by packet type.
This module rests on the Varint group's definitions and theorems (`get_variable_length_int_length`, `decode_variable_length_int`).
-/
import TLX.Gen.Translated.QuicTls
import TLX.Lemmas.Translated.Varint
import TLX.Lemmas.PyRt
import TLX.Quic.TlsMsgs
namespace TLX.Props.Translated.QTlsP
open TLX TLX.PyRt TLX.Quic.TlsMsgs TLX.Quic.Varint TLX.Gen.Py

/-- the translated state: field for field the model's -/
def enc (s : State) : QTls.St :=
  { client_random := s.clientRandom, ciphersuite := s.ciphersuite, alpn := s.alpn, tls_vers := s.tlsVers, greasy_bit := s.greasyBit,
    new_data := s.newData, session_id := s.sessionId }

/-- a model result (state, IndexError or not) as the translation's -/
def resT : State × Option TLX.Quic.TlsMsgs.Err → Res QTls.St Unit
  | (s, none) => .ok () (enc s)
  | (s, some .index) => .raised .index (enc s)

/-- one round of the parameter loop as the translation spells it -/
def tpBody {ρ : Type} (p : List (Nat × Nat × Bytes) × Bytes) : Except PyRt.Err (Step (List (Nat × Nat × Bytes) × Bytes) ρ) :=
  if decide (p.2.length < 1) then .ok (.brk p)
  else
    tryE (get_variable_length_int_length (Bytes.slice p.2 0 1)) (fun e => .error e) fun l1 =>
      tryE (decode_variable_length_int (Bytes.slice p.2 0 l1)) (fun e => .error e) fun v1 =>
        tryE (get_variable_length_int_length (Bytes.slice p.2 l1 (l1 + 1))) (fun e => .error e) fun l2 =>
          tryE (decode_variable_length_int (Bytes.slice p.2 l1 (l1 + l2))) (fun e => .error e) fun v2 =>
            .ok (.next (p.1 ++ [(v1, v2, Bytes.slice p.2 (l1 + l2) (l1 + l2 + v2))], p.2.drop (l1 + l2 + v2)))

theorem readVarint_gen (eb : Bytes) (i : Nat) {β : Type} (K : Nat → Nat → Except PyRt.Err β) :
    tryE (get_variable_length_int_length (Bytes.slice eb i (i + 1))) (fun e => .error e) (fun l =>
      tryE (decode_variable_length_int (Bytes.slice eb i (i + l))) (fun e => .error e) (fun v => K l v))
      = match readVarint eb i with
        | none => .error .index
        | some (v, j) => K (j - i) v := by
  have h := Lemmas.Translated.obind_readVarint eb i (fun r => K (r.2 - i) r.1)
  simp only [Nat.add_sub_cancel_left] at h
  simp only [Lemmas.Translated.try_len, Lemmas.Translated.try_dec, ← h]
  cases readVarint eb i <;> rfl

theorem parseTP_eq (eb : Bytes) : parseTP eb =
    if eb.length < 1 then some []
    else match readVarint eb 0 with
      | none => none
      | some (pty, index) =>
        match readVarint eb index with
        | none => none
        | some (plen, index2) => (parseTP (eb.drop (index2 + plen))).map fun ps => (pty, plen, Bytes.slice eb index2 (index2 + plen)) :: ps := by
  rw [parseTP]
  by_cases h0 : eb.length < 1
  · simp [h0]
  · simp only [h0, if_false]
    split
    · rename_i h1; simp [h1]
    · rename_i pty index h1
      simp only [h1]
      split
      · rename_i h2; simp [h2]
      · rename_i plen index2 h2
        simp only [h2]
        cases parseTP (eb.drop (index2 + plen)) <;> rfl

theorem tp_loop {ρ : Type} : ∀ (fuel : Nat) (eb : Bytes) (acc : List (Nat × Nat × Bytes)), eb.length < fuel →
    whileS fuel (acc, eb) (fun _ => true) (tpBody (ρ := ρ))
      = match parseTP eb with
        | none => .error .index
        | some ps => .ok (.next (acc ++ ps, [])) := by
  intro fuel
  induction fuel with
  | zero => intro eb acc h; omega
  | succ n ih =>
    intro eb acc h
    rw [parseTP_eq]
    by_cases h0 : eb.length < 1
    · have : eb = [] := List.eq_nil_of_length_eq_zero (by omega)
      subst this
      simp [whileS, tpBody]
    · simp only [whileS, if_true, tpBody, h0, decide_false, Bool.false_eq_true, if_false]
      have r1 := readVarint_gen eb 0 (β := Step (List (Nat × Nat × Bytes) × Bytes) ρ)
      simp only [Nat.zero_add, Nat.sub_zero] at r1
      rw [r1]
      cases h1 : readVarint eb 0 with
      | none => rfl
      | some vi =>
        obtain ⟨pty, index⟩ := vi
        simp only []
        have hi : 0 < index := readVarint_idx _ _ _ _ h1
        rw [readVarint_gen eb index]
        cases h2 : readVarint eb index with
        | none => rfl
        | some vj =>
          obtain ⟨plen, index2⟩ := vj
          simp only []
          have hi2 : index < index2 := readVarint_idx _ _ _ _ h2
          have e1 : index + (index2 - index) = index2 := by omega
          simp only [e1]
          have hlen : (eb.drop (index2 + plen)).length < n := by simp only [List.length_drop]; omega
          rw [ih _ _ hlen]
          cases parseTP (eb.drop (index2 + plen)) with
          | none => rfl
          | some ps => simp [List.append_assoc]

theorem greasy_fold (g : QTls.St → Nat × Nat × Bytes → QTls.St)
    (hg : ∀ st p, g st p = if decide (p.1 = 10930) then { st with greasy_bit := true } else st) :
    ∀ (ps : List (Nat × Nat × Bytes)) (s : State),
      List.foldl g (enc s) ps = enc (if ps.any (fun p => p.1 == 0x2ab2) then { s with greasyBit := true } else s) := by
  intro ps
  induction ps with
  | nil => intro s; rfl
  | cons p rest ih =>
    intro s
    simp only [List.foldl_cons, hg, List.any_cons]
    by_cases hp : p.1 = 10930
    · simp only [hp, decide_true, if_true, beq_self_eq_true, Bool.true_or]
      exact (ih { s with greasyBit := true }).trans (by cases rest.any (fun p => p.1 == 0x2ab2) <;> rfl)
    · simp only [hp, decide_false, Bool.false_eq_true, if_false, beq_eq_false_iff_ne.mpr hp, Bool.false_or]
      exact ih s
/-- `get_quic_transport_parameters`: IndexError (state untouched) where the model's `parseTP` is `none`, else the `greasy_bit` -/
theorem get_quic_transport_parameters_eq_model (s : State) (eb : Bytes) :
    QTls.get_quic_transport_parameters eb (enc s)
      = match parseTP eb with
        | none => .raised .index (enc s)
        | some ps => .ok () (enc (if ps.any (fun p => p.1 == 0x2ab2) then { s with greasyBit := true } else s)) := by
  unfold QTls.get_quic_transport_parameters
  have h := tp_loop (ρ := Res QTls.St Unit) (eb.length + 1) eb [] (by omega)
  dsimp only
  erw [h]
  cases parseTP eb with
  | none => rfl
  | some ps =>
    simp only [List.nil_append, loopS_next]
    rw [greasy_fold QTls.get_quic_transport_parameters.loop1 (fun _ _ => rfl)]

/-- … under `try: … except: pass` -/
theorem tp_caught (s : State) (eb : Bytes) {β : Type} (K : QTls.St → β) (E : PyRt.Err → QTls.St → β) :
    tryR (QTls.get_quic_transport_parameters eb (enc s)) (fun e st' => if decide (e ≠ PyRt.Err.fuel) then K st' else E e st') (fun _ st' => K st')
      = K (enc (quicTransportParameters s eb)) := by
  rw [get_quic_transport_parameters_eq_model]
  unfold quicTransportParameters
  cases parseTP eb <;> simp

def extTup (e : PExt) : Bytes × Nat × Bytes := (e.ty, e.len, e.body)

/-- one round of the collecting loop as the translation spells it -/
def extBody {ρ : Type} (p : List (Bytes × Nat × Bytes) × Bytes) : Except PyRt.Err (Step (List (Bytes × Nat × Bytes) × Bytes) ρ) :=
  let len := Bytes.beNat (Bytes.slice p.2 2 4)
  if decide (p.2.length < 4) then .ok (.brk p)
  else if decide (p.2.length < 4 + len) then .ok (.brk p)
  else .ok (.next (p.1 ++ [(Bytes.slice p.2 0 2, len, Bytes.slice p.2 4 (4 + len))], p.2.drop (4 + len)))

theorem exts_loop {ρ : Type} : ∀ (fuel : Nat) (r : Bytes) (acc : List (Bytes × Nat × Bytes)), r.length < fuel →
    ∃ rest, whileS fuel (acc, r) (fun _ => true) (extBody (ρ := ρ)) = .ok (.next (acc ++ (parseExts r).map extTup, rest)) := by
  intro fuel
  induction fuel with
  | zero => intro r acc h; omega
  | succ n ih =>
    intro r acc h
    rw [parseExts]
    by_cases h4 : r.length < 4
    · exact ⟨r, by simp [whileS, extBody, h4]⟩
    · by_cases hl : r.length < 4 + Bytes.beNat (Bytes.slice r 2 4)
      · exact ⟨r, by simp [whileS, extBody, h4, hl]⟩
      · have hlen : (r.drop (4 + Bytes.beNat (Bytes.slice r 2 4))).length < n := by simp only [List.length_drop]; omega
        obtain ⟨rest, hr⟩ := ih (r.drop (4 + Bytes.beNat (Bytes.slice r 2 4)))
          (acc ++ [(Bytes.slice r 0 2, Bytes.beNat (Bytes.slice r 2 4), Bytes.slice r 4 (4 + Bytes.beNat (Bytes.slice r 2 4)))]) hlen
        refine ⟨rest, ?_⟩
        simp only [whileS, if_true, extBody, h4, hl, decide_false, Bool.false_eq_true, if_false, hr, List.map_cons, extTup, List.append_assoc,
          List.singleton_append]

/-- one round of the `for e_type, e_length, e_body in extensions` loop -/
theorem ext_round (s : State) (e : PExt) :
    QTls.get_extensions.loop1 (enc s) (extTup e)
      = match applyExt s e with
        | none => .ok (.ret (.raised .index (enc s)))
        | some s' => .ok (.next (enc s')) := by
  unfold QTls.get_extensions.loop1 applyExt extTup
  simp only
  by_cases h43 : Bytes.beNat e.ty = 43
  · simp only [h43, decide_true, if_true]
    by_cases h2 : e.len = 2 <;> simp [h2, enc]
  · by_cases h16 : Bytes.beNat e.ty = 16
    · simp only [h16, decide_false, decide_true, Bool.false_eq_true, if_false, if_true, show ¬ ((16 : Nat) = 43) from by decide]
      by_cases h3 : e.len < 3
      · simp [h3]
      · simp only [h3, decide_false, Bool.false_eq_true, if_false, show (2 : Int) = Int.ofNat 2 from rfl, getItem_nat]
        cases hb : e.body[2]? with
        | none => simp
        | some al =>
          simp only [tryE_ok]
          by_cases hl : e.body.length = 3 + al.toNat <;> simp [hl, enc]
    · by_cases h57 : Bytes.beNat e.ty = 57
      · simp only [h57, decide_false, decide_true, Bool.false_eq_true, if_false, if_true, show ¬ ((57 : Nat) = 43) from by decide,
          show ¬ ((57 : Nat) = 16) from by decide]
        rw [tp_caught s e.body (fun st' => (.ok (.next st') : Except PyRt.Err (Step QTls.St (Res QTls.St Unit)))) (fun e st' => .ok (.ret (.raised e st')))]
      · simp only [h43, h16, h57, decide_false, Bool.false_eq_true, if_false]

theorem exts_apply : ∀ (es : List PExt) (s : State),
    forS (es.map extTup) (enc s) QTls.get_extensions.loop1
      = match applyExts s es with
        | (s', none) => .ok (.next (enc s'))
        | (s', some .index) => .ok (.ret (.raised .index (enc s'))) := by
  intro es
  induction es with
  | nil => intro s; rfl
  | cons e rest ih =>
    intro s
    simp only [List.map_cons, forS, ext_round, applyExts]
    cases applyExt s e with
    | none => rfl
    | some s' => exact ih s'

theorem get_extensions_eq_model (s : State) (r : Bytes) :
    QTls.get_extensions r (enc s) = resT (getExtensions s r) := by
  unfold QTls.get_extensions getExtensions
  by_cases hl : (r.drop 2).length ≠ Bytes.beNat (Bytes.slice r 0 2)
  · rw [decide_eq_true hl, if_pos rfl, if_pos hl]
    rfl
  · rw [decide_eq_false hl, if_neg hl]
    simp only [Bool.false_eq_true, if_false]
    obtain ⟨rest, hw⟩ := exts_loop (ρ := Res QTls.St Unit) ((r.drop 2).length + 1) (r.drop 2) [] (by omega)
    erw [hw]
    simp only [List.nil_append, loopS_next, exts_apply]
    rcases applyExts s (parseExts (r.drop 2)) with ⟨s', _ | e⟩
    · rfl
    · cases e; rfl

theorem then_new_data (s : State) (r : Bytes) :
    tryR (QTls.get_extensions r (enc s)) (fun e st' => Res.raised e st') (fun _ st' => Res.ok () { st' with new_data := true })
      = resT (extsThenNewData s r) := by
  rw [get_extensions_eq_model]
  unfold extsThenNewData
  rcases getExtensions s r with ⟨s', _ | e⟩
  · rfl
  · cases e; rfl

theorem handle_encrypted_extensions_eq_model (s : State) (record : Bytes) :
    QTls.handle_encrypted_extensions record (enc s) = resT (handleEncryptedExtensions s record) := by
  unfold QTls.handle_encrypted_extensions handleEncryptedExtensions
  by_cases h : record.length < 6
  · simp [h, resT]
  · simp only [h, decide_false, Bool.false_eq_true, if_false]
    exact then_new_data s _

theorem handle_server_hello_eq_model (s : State) (record : Bytes) :
    QTls.handle_server_hello record (enc s) = resT (handleServerHello s record) := by
  unfold QTls.handle_server_hello handleServerHello
  by_cases h : record.length < 44
  · simp [h, resT]
  · simp only [h, decide_false, Bool.false_eq_true, if_false, show (38 : Int) = Int.ofNat 38 from rfl, getItem_nat]
    cases record[38]? with
    | none => rfl
    | some sil =>
      simp only [tryE_ok]
      exact then_new_data ⟨_, _, _, _, _, _, _⟩ _

theorem handle_client_hello_eq_model (s : State) (record : Bytes) :
    QTls.handle_client_hello record (enc s) = resT (handleClientHello s record) := by
  unfold QTls.handle_client_hello handleClientHello
  by_cases h : record.length < 38
  · simp [h, resT]
  · simp only [h, decide_false, Bool.false_eq_true, if_false]
    by_cases h2 : record.length < 4 + Bytes.beNat (Bytes.slice record 1 4)
    · simp [h2, resT]
    · simp only [h2, decide_false, Bool.false_eq_true, if_false, chBody, show (34 : Int) = Int.ofNat 34 from rfl, getItem_nat]
      cases (record.drop 4)[34]? with
      | none => rfl
      | some sil =>
        simp only [tryE_ok]
        cases (record.drop 4)[35 + sil.toNat + 2 + Bytes.beNat (Bytes.slice (record.drop 4) (35 + sil.toNat) (35 + sil.toNat + 2))]? with
        | none => rfl
        | some cml =>
          simp only [tryE_ok]
          exact then_new_data ⟨_, _, _, _, _, _, _⟩ _

theorem handle_record_eq_model (s : State) (t : Nat) (record : Bytes) :
    QTls.handle_record t record (enc s) = resT (handleRecord s t record) := by
  unfold QTls.handle_record handleRecord
  simp only [tryR_id, handle_client_hello_eq_model, handle_server_hello_eq_model, handle_encrypted_extensions_eq_model, decide_eq_true_eq]
  symm
  split
  · rfl
  · rfl
  · rfl
  · rename_i h1 h2 h8
    rw [if_neg h1, if_neg h2, if_neg h8]
    rfl

end TLX.Props.Translated.QTlsP
