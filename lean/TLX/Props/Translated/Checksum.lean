/-
Translated Python functions, group Checksum: tlexport/checksums.py (`ones_complement_checksum`, `calculate_checksum_udp`,
`calculate_checksum_tcp`) against `TLX/Checksum.lean`.
-/
import TLX.Gen.Translated.Checksum
import TLX.Props.Translated.Enc
import TLX.Lemmas.PyRt
import TLX.Lemmas.OnesComplement
import TLX.Checksum
namespace TLX.Props.Translated
open TLX TLX.PyRt TLX.Checksum

/-- the model's exception (`OverflowError`, the only one `checksums.py` can raise) as the runtime's -/
def ofCk {α : Type} : Except Checksum.Err α → Except PyRt.Err α
  | .ok a => .ok a
  | .error .overflow => .error .overflow

theorem slice_cons2 (a b : UInt8) (rest : Bytes) (j : Nat) :
    Bytes.slice (a :: b :: rest) (j + 2) (j + 2 + 2) = Bytes.slice rest j (j + 2) := by
  simp [Bytes.slice]

/-- `for i in range(0, len(arr), 2): checksum += int.from_bytes(arr[i:i + 2], "big")` is the model's `wordSum` -/
theorem wordSum_fold (arr : Bytes) (c0 : Nat) :
    List.foldl (fun (py_s : Nat) (i : Nat) => py_s + Bytes.beNat (Bytes.slice arr i (i + 2))) c0 (rangeStep 0 arr.length 2)
      = c0 + wordSum arr := by
  fun_induction wordSum arr generalizing c0 with
  | case1 => rfl
  | case2 a => simp [rangeStep, Bytes.slice, Bytes.beNat]
  | case3 a b rest ih =>
    rw [show (a :: b :: rest).length = rest.length + 2 from rfl, rangeStep_add_step _ 2 (by decide), List.foldl_cons, List.foldl_map]
    simp only [slice_cons2, ih]
    simp [Bytes.slice, Bytes.beNat]
    omega

theorem fold_round (s : Nat) : (s >>> 16) + (s &&& 65535) = s / 65536 + s % 65536 := by
  rw [Nat.shiftRight_eq_div_pow, show s &&& 65535 = s % 65536 from Nat.and_two_pow_sub_one_eq_mod s 16]

/-- the carry fold `while checksum > 0xFFFF: checksum = (checksum >> 16) + (checksum & 0xFFFF)` with any fuel ≥ the
    checksum (every round makes it smaller) is the model's `implFold`: the fuel the translation gives it always suffices -/
theorem fold_while (fuel s : Nat) (h : s ≤ fuel) :
    whileS fuel s (fun (py_s : Nat) => decide (py_s > 65535))
      (fun (py_s : Nat) => (Except.ok (Step.next ((py_s >>> 16) + (py_s &&& 65535))) : Except PyRt.Err (Step Nat (Except PyRt.Err Bytes))))
      = .ok (.next (implFold s)) := by
  induction fuel generalizing s with
  | zero =>
    have : s = 0 := by omega
    subst this
    rw [implFold]; simp [whileS]
  | succ n ih =>
    rw [whileS, implFold]
    by_cases hs : s > 65535
    · simp only [hs, decide_true, if_true]
      rw [fold_round s]
      exact ih (s / 65536 + s % 65536) (by omega)
    · simp [hs]

theorem complement_step (l : Bytes) (i : Nat) (x : UInt8) (h : l[i]? = some x) :
    tryE (getItem l (Int.ofNat i)) (fun py_e => (.error py_e : Except PyRt.Err Bytes)) (fun py_t_2 =>
      tryE (setItemE l (Int.ofNat i) ((~~~(Int.ofNat py_t_2)) + (256 : Int))) (fun py_e => .error py_e) (fun py_t_3 => .ok py_t_3))
    = .ok (l.set i (UInt8.ofNat (255 - x.toNat))) := by
  rw [getItem_nat, h]
  simp only [tryE_ok, not_byte]
  rw [setItemE_nat l i _ (List.getElem?_eq_some_iff.mp h).1 (by have := x.toNat_lt; omega)]
  rfl

/-- `for i in range(2): out_arr[i] = ~out_arr[i] + 256` on the two bytes `to_bytes(2)` made is the model's `complement` -/
theorem complement_loop (a b : UInt8) :
    forE (List.range' 0 (2 - 0)) ([a, b] : Bytes) (fun (py_s : Bytes) (i : Nat) =>
      tryE (getItem py_s (Int.ofNat i)) (fun py_e => .error py_e) (fun py_t_2 =>
        tryE (setItemE py_s (Int.ofNat i) ((~~~(Int.ofNat py_t_2)) + (256 : Int))) (fun py_e => .error py_e) (fun py_t_3 =>
          .ok py_t_3))) = .ok (complement [a, b]) := by
  simp only [show (2 : Nat) - 0 = 2 from rfl, List.range', forE]
  rw [complement_step [a, b] 0 a rfl]
  simp only []
  rw [complement_step _ (0 + 1) b rfl]
  rfl

/-- `ones_complement_checksum`, the whole function (pad, 16-bit sum, carry fold, complement, `to_bytes`): the model's
    `onesComplementChecksum`; the `while` loop never needs more rounds than the fuel the translation gives it -/
theorem ones_complement_checksum_eq_model (b : Bytes) :
    Gen.Py.ones_complement_checksum b = ofCk (onesComplementChecksum b) := by
  unfold Gen.Py.ones_complement_checksum onesComplementChecksum
  simp only [wordSum_fold, Nat.zero_add]
  have hp : (if decide (b.length % 2 ≠ 0) = true then b ++ ([0] : Bytes) else b) = pad b := by
    unfold pad; by_cases h : b.length % 2 ≠ 0 <;> simp [h]
  simp only [hp]
  rw [fold_while _ _ (Nat.le_refl _)]
  simp only [loopS_next]
  have hle : implFold (wordSum (pad b)) < 65536 := by
    rw [Lemmas.OnesComplement.implFold_eq_norm]
    exact Nat.lt_succ_of_le (Lemmas.OnesComplement.norm_le _)
  have h2 : (2 : Int) = Int.ofNat 2 := rfl
  rw [h2, toBytesE_nat _ 2 (by simpa using hle), tryE_ok]
  simp only [toBytes2, hle, if_true]
  have : ∃ x y, Bytes.ofNatBE 2 (implFold (wordSum (pad b))) = [x, y] := ⟨_, _, rfl⟩
  obtain ⟨x, y, hxy⟩ := this
  simp only [hxy, complement_loop, tryE_ok]
  rfl

example : Gen.Py.ones_complement_checksum [0x45, 0x00, 0x00, 0x1c, 0xff] = .ok [0xbb, 0xe2] := by decide +kernel

/-- continue with the value of a model result, its `OverflowError` as the runtime's -/
def ckBind {α β : Type} (x : Except Checksum.Err α) (K : α → Except PyRt.Err β) : Except PyRt.Err β :=
  match x with
  | .ok a => K a
  | .error .overflow => .error .overflow

theorem tryE_ofCk {α β : Type} (x : Except Checksum.Err α) (K : α → Except PyRt.Err β) :
    tryE (ofCk x) (fun e => .error e) K = ckBind x K := by
  match x with
  | .ok a => rfl
  | .error .overflow => rfl

theorem ofCk_bind {α β : Type} (x : Except Checksum.Err α) (f : α → Except Checksum.Err β) :
    ofCk (x >>= f) = ckBind x (fun a => ofCk (f a)) := by
  match x with
  | .ok a => rfl
  | .error .overflow => rfl

theorem ckBind_ok {α β : Type} (a : α) (K : α → Except PyRt.Err β) : ckBind (.ok a) K = K a := rfl
theorem ofCk_pure {α : Type} (a : α) : ofCk (pure a) = .ok a := rfl

/-- `n.to_bytes(k, "big")` for the three widths `checksums.py` uses is the model's `toBytes1/2/4`, exception included -/
theorem toBytesE_1 (n : Nat) : toBytesE (Int.ofNat n) (1 : Int) = ofCk (toBytes1 n) := by
  rw [show (1 : Int) = Int.ofNat 1 from rfl, toBytesE_nat', toBytes1]; split <;> rfl
theorem toBytesE_2 (n : Nat) : toBytesE (Int.ofNat n) (2 : Int) = ofCk (toBytes2 n) := by
  rw [show (2 : Int) = Int.ofNat 2 from rfl, toBytesE_nat', toBytes2]; split <;> rfl
theorem toBytesE_4 (n : Nat) : toBytesE (Int.ofNat n) (4 : Int) = ofCk (toBytes4 n) := by
  rw [show (4 : Int) = Int.ofNat 4 from rfl, toBytesE_nat', toBytes4]; split <;> rfl

/-- `calculate_checksum_udp(packet)` on what it reads from the packet — `bytes(packet.udp)` is `seg`, `len(packet.udp)` its
    length, `packet.udp.sum` the number in the two checksum bytes of `seg` (dpkt parsed it from them) — is the model's
    `check .udp`, the RFC 768 zero rule included -/
theorem calculate_checksum_udp_eq_model (v6 : Bool) (src dst seg : Bytes) (p sum : Nat)
    (hs : sum < 65536) (hsum : Bytes.ofNatBE 2 sum = storedField .udp seg) :
    Gen.Py.calculate_checksum_udp v6 src dst p seg.length seg sum = ofCk (check .udp v6 src dst p seg) := by
  have hst : toBytes2 sum = .ok (storedField .udp seg) := by rw [toBytes2, if_pos hs, hsum]
  -- every step that can raise is a model step under `ofCk`: both sides become the same chain of `ckBind`s
  cases v6 <;>
    simp only [Gen.Py.calculate_checksum_udp, check, pseudoHeader, Bool.not_false, Bool.not_true, Bool.false_eq_true, if_true, if_false,
      toBytesE_1, toBytesE_2, toBytesE_4, ones_complement_checksum_eq_model, tryE_ofCk, setSlice_eq _ _ 6 8 (by omega), hst,
      zeroField, L4.off, List.nil_append, bind_assoc, pure_bind, ofCk_bind, ckBind_ok, ofCk_pure, decide_eq_true_eq, Bool.beq_eq_decide_eq,
      Nat.reduceAdd]

/-- `calculate_checksum_tcp(packet)`: the model's `check .tcp`, the two one's-complement zeros included -/
theorem calculate_checksum_tcp_eq_model (v6 : Bool) (src dst seg : Bytes) (p sum : Nat)
    (hs : sum < 65536) (hsum : Bytes.ofNatBE 2 sum = storedField .tcp seg) :
    Gen.Py.calculate_checksum_tcp v6 src dst p seg.length seg sum = ofCk (check .tcp v6 src dst p seg) := by
  have hst : toBytes2 sum = .ok (storedField .tcp seg) := by rw [toBytes2, if_pos hs, hsum]
  cases v6 <;>
    simp only [Gen.Py.calculate_checksum_tcp, check, pseudoHeader, Bool.not_false, Bool.not_true, Bool.false_eq_true, if_true, if_false,
      toBytesE_1, toBytesE_2, toBytesE_4, ones_complement_checksum_eq_model, tryE_ofCk, setSlice_eq _ _ 16 18 (by omega), hst,
      zeroField, L4.off, List.nil_append, bind_assoc, pure_bind, ofCk_bind, ckBind_ok, ofCk_pure, Bool.beq_eq_decide_eq,
      Nat.reduceAdd, apply_ite ofCk]

-- Non-vacuity: a UDP datagram over IPv4 whose checksum field is right, and the same with a wrong one
example : Gen.Py.calculate_checksum_udp false [10, 0, 0, 1] [10, 0, 0, 2] 17 9 [0x30, 0x39, 0x01, 0xbb, 0x00, 0x09, 0x58, 0xe5, 0x61] 0x58e5 = .ok true ∧
    Gen.Py.calculate_checksum_udp false [10, 0, 0, 1] [10, 0, 0, 2] 17 9 [0x30, 0x39, 0x01, 0xbb, 0x00, 0x09, 0x58, 0xe6, 0x61] 0x58e6 = .ok false := by
  decide +kernel

end TLX.Props.Translated
