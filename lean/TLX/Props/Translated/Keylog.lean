/-
keylog_reader.py as translated from the Python source (`TLX/Gen/Translated/Keylog.lean`) equals the hand-written model
`TLX/Keylog.lean`: `Key.__init__` (`keyOfLine`; `none` = IndexError), `get_key_from_line` (`getKeyFromLine`, the regular
expression being the external `re_match`, instantiated with the model's `accepts`), `get_keys_from_string`
(`getKeysFromString`; no line that matches makes `Key(line)` raise: `Lemmas.Keylog.keyOfLine_of_accepts`).
-/
import TLX.Gen.Translated.Keylog
import TLX.Lemmas.Keylog
import TLX.Lemmas.PyRt
namespace TLX.Props.Translated.KLog
open TLX TLX.Keylog TLX.Gen.Py PyRt

theorem strRemove_eq (s : List Nat) : PyRt.strRemove 13 s = removeCR s := by
  simp [PyRt.strRemove, removeCR]

/-- `Key(line)`: the first three fields of the line split at spaces; IndexError with fewer -/
theorem Key_init_eq_model (line : List Nat) :
    (KL.Key_init line).map (fun k => (⟨k.label, k.clientRandom, k.value⟩ : Key))
      = match keyOfLine line with | some k => .ok k | none => .error .index := by
  unfold KL.Key_init keyOfLine
  rw [strSplit_eq]
  have h0 : ((0 : Int)) = Int.ofNat 0 := rfl
  have h1 : ((1 : Int)) = Int.ofNat 1 := rfl
  have h2 : ((2 : Int)) = Int.ofNat 2 := rfl
  rw [h0, h1, h2]
  simp only [listItemE_nat]
  rcases splitOn 32 line with _ | ⟨a, _ | ⟨b, _ | ⟨c, r⟩⟩⟩ <;> rfl

/-- `reg.match(line)` as the model's `accepts` -/
def reOf (hc : HexClass) (line : List Nat) : Option Unit := if accepts hc line then some () else none

theorem get_key_from_line_eq_model (hc : HexClass) (line : List Nat) :
    KL.get_key_from_line (reOf hc) line = .ok (getKeyFromLine hc line) := by
  unfold KL.get_key_from_line getKeyFromLine reOf
  by_cases h : accepts hc line = true
  · obtain ⟨k, hk⟩ := TLX.Lemmas.Keylog.keyOfLine_of_accepts h
    have := Key_init_eq_model line
    rw [hk] at this
    simp only [h, if_true, Option.isNone_some, Bool.not_false]
    simp only [this, tryE_ok, hk]
  · simp [h]

theorem keys_loop (hc : HexClass) : ∀ (lines : List (List Nat)) (acc : List Key),
    forE lines acc (fun py_s line =>
          match getKeyFromLine hc line with
          | some k => (.ok (py_s ++ [k]) : Except Err (List Key))
          | none => .ok py_s)
      = .ok (acc ++ lines.filterMap (getKeyFromLine hc)) := by
  intro lines
  induction lines with
  | nil => intro acc; simp [forE]
  | cons l rest ih =>
    intro acc
    simp only [forE, List.filterMap_cons]
    cases getKeyFromLine hc l with
    | none => simpa using ih acc
    | some k => simpa [List.append_assoc] using ih (acc ++ [k])

/-- `get_keys_from_string(key_str)` -/
theorem get_keys_from_string_eq_model (hc : HexClass) (s : List Nat) :
    KL.get_keys_from_string (reOf hc) s = .ok (getKeysFromString hc s) := by
  unfold KL.get_keys_from_string getKeysFromString
  simp only [strSplit_eq, strRemove_eq, get_key_from_line_eq_model, tryE_ok]
  have := keys_loop hc (splitOn 10 (removeCR s)) []
  rw [List.nil_append] at this
  erw [this]
  rfl

end TLX.Props.Translated.KLog
