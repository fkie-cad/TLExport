/-
Translated Python functions, group TlsSess: tlexport/session.py `handle_alert`, `handle_tls_client_hello`, `handle_tls_server_hello` (latch, version choice).
The functions with the attributes they touch as their only state (`places` of `translate.SPECS`; of `handle_tls_server_hello` two
statement ranges); group TlsSess2 has the same functions on the whole session object. Both are required names of `translate.THEOREMS`.
-/
import TLX.Gen.Translated.TlsSess
import TLX.Props.Translated.Enc
import TLX.Lemmas.PyRt
import TLX.Session
namespace TLX.Props.Translated
open TLX TLX.PyRt

/-- `handle_alert` writes what the model's `alert` writes -/
theorem handle_alert_eq_model {δ : Type} (s : Session.St δ) (level : UInt8) :
    Gen.Py.handle_alert level.toNat s.ver s.canDecrypt s.chSeen =
      { can_decrypt := (Session.alert s level).canDecrypt, client_hello_seen := (Session.alert s level).chSeen } := by
  unfold Gen.Py.handle_alert Session.alert
  have h1 : (level.toNat = 1) = (level = 1) := toNat_eq_iff level 1 (by decide)
  by_cases h : level = 1 <;> by_cases h2 : s.ver = some .tls13 <;> simp [h1, h, h2]

example : Gen.Py.handle_alert 1 (some .tls12) true true = { can_decrypt := true, client_hello_seen := true } ∧
    Gen.Py.handle_alert 1 (some .tls13) true true = { can_decrypt := false, client_hello_seen := false } ∧
    Gen.Py.handle_alert 2 (some .tls12) true true = { can_decrypt := false, client_hello_seen := false } := by decide +kernel

/-- `handle_tls_client_hello` writes what the model's `clientHello` writes (`record.binary` is the model's `Rec.body`;
    the emptied `handshake_13_buffer` is the pair of the model's two per-direction buffers) -/
theorem handle_tls_client_hello_eq_model {δ : Type} (s : Session.St δ) (r : Session.Rec) :
    Gen.Py.handle_tls_client_hello r.body =
      { can_decrypt := (Session.clientHello s r).canDecrypt, server_cipher_change := (Session.clientHello s r).srvCC,
        client_cipher_change := (Session.clientHello s r).cliCC,
        handshake_13_buffer := ((Session.clientHello s r).hsBufC, (Session.clientHello s r).hsBufS),
        client_random := (Session.clientHello s r).cr, client_hello_seen := (Session.clientHello s r).chSeen } := rfl

example : (Gen.Py.handle_tls_client_hello ((List.range 40).map UInt8.ofNat)).client_random =
    some ((List.range' 6 32).map UInt8.ofNat) := by decide +kernel

/-- the version choice at the end of `handle_tls_server_hello` is the model's `chooseVersion` on the two version
    numbers the code reads -/
theorem server_hello_version_eq_model {δ : Type} (s : Session.St δ) (is13 : Bool) (recVer binary : Bytes) :
    Gen.Py.server_hello_version is13 recVer binary s.ver s.canDecrypt =
      { tls_version := (Session.chooseVersion s (Bytes.beNat recVer) (Bytes.beNat (Bytes.slice binary 4 6)) is13).ver,
        can_decrypt := (Session.chooseVersion s (Bytes.beNat recVer) (Bytes.beNat (Bytes.slice binary 4 6)) is13).canDecrypt } := by
  unfold Gen.Py.server_hello_version Session.chooseVersion
  -- the same chain of tests on both sides: read the two attributes off each branch
  simp only [decide_eq_true_eq, apply_ite Prod.fst, apply_ite Prod.snd, apply_ite Session.St.ver, apply_ite Session.St.canDecrypt, ite_self]

example : Gen.Py.server_hello_version true [3, 3] [2, 0, 0, 40, 3, 3] none true = { tls_version := some .tls13, can_decrypt := true } ∧
    Gen.Py.server_hello_version false [3, 1] [2, 0, 0, 40, 3, 9] (some .tls12) true = { tls_version := some .tls12, can_decrypt := false } := by
  decide +kernel

/-- the first statement of `handle_tls_server_hello` is the model's `latch` -/
theorem server_hello_latch_eq_model {δ : Type} (s : Session.St δ) :
    Gen.Py.server_hello_latch s.chSeen s.canDecrypt = { can_decrypt := (Session.latch s).canDecrypt } := by
  unfold Gen.Py.server_hello_latch Session.latch
  cases s.chSeen <;> simp

example : Gen.Py.server_hello_latch true false = { can_decrypt := true } ∧
    Gen.Py.server_hello_latch false false = { can_decrypt := false } := by decide +kernel

end TLX.Props.Translated
