/-
Translated Python functions, group Reasm2: tlexport/session.py `extract_server_buf` / `extract_client_buf`, the framing part
(everything after the contiguity test: `packet_ranges` / `packet_data`, the scan that computes `need_data`, the records
with their carrier packets, `*_next_seq`, `*_packet_buffer.clear()`), against `Reassembly.flush` (`needData`, `records`,
`ranges`, `carriers`, `bufData`) and the last branches of `Reassembly.deliver`.
A packet object is the model's `Seg`; a `TlsRecord` is what its constructor gets (`Gen.Py.TlsRecordObj`), the model's `Rec`
names the carrier packets by their ids (`ofObj`). The two `while` loops get `total_packet_len + 1` / `total_packet_len`
rounds of fuel; the theorems show they never run out (every round advances by at least 5 bytes).
-/
import TLX.Gen.Translated.Reasm2
import TLX.Props.Translated.Enc
import TLX.Reassembly
namespace TLX.Props.Translated
open TLX TLX.PyRt TLX.Reassembly

abbrev SRange := Nat × Nat × Seg
/-- a packet range with the packet named by its id, as the model keeps it -/
def idr (r : SRange) : Nat × Nat × Nat := (r.1, r.2.1, r.2.2.id)
/-- a `TlsRecord` as the model's `Rec`: the framed bytes and the ids of the carrier packets -/
def ofObj (o : Gen.Py.TlsRecordObj) : Rec := (o.binary, o.metadata.map (·.id))

/-- `packet_ranges` with the packet objects -/
def rangesS : List Seg → Nat → List SRange
  | [], _ => []
  | a :: r, start => (start, start + a.data.length, a) :: rangesS r (start + a.data.length)

theorem rangesS_ids (buf : List Seg) : ∀ s, (rangesS buf s).map idr = ranges buf s := by
  induction buf with
  | nil => intro s; rfl
  | cons a r ih => intro s; simp [rangesS, ranges, idr, ih]

/-- the first loop: `packet_ranges`, `total_packet_len`, `packet_data` -/
theorem frame_fold (buf : List Seg) : ∀ (acc : List SRange) (d : Bytes),
    List.foldl (fun (s : List SRange × Nat × Bytes) (i : Seg) =>
        (s.1 ++ [(s.2.1, s.2.1 + i.data.length, i)], s.2.1 + i.data.length, s.2.2 ++ i.data)) (acc, d.length, d) buf
      = (acc ++ rangesS buf d.length, (d ++ bufData buf).length, d ++ bufData buf) := by
  induction buf with
  | nil => intro acc d; simp [bufData, rangesS]
  | cons a r ih =>
    intro acc d
    simp only [List.foldl_cons]
    have e : d.length + a.data.length = (d ++ a.data).length := by simp
    rw [e, ih]
    simp [bufData, rangesS, List.append_assoc]

/-- the `metadata` loop of one record -/
theorem meta_fold (i n : Nat) (rs : List SRange) : ∀ (acc : List Seg),
    (List.foldl (fun (md : List Seg) (pr : SRange) => if (decide (i < pr.2.1) && decide (i + n > pr.1)) = true then md ++ [pr.2.2] else md) acc rs).map (·.id)
      = acc.map (·.id) ++ carriers (rs.map idr) i n := by
  induction rs with
  | nil => intro acc; simp [carriers]
  | cons r rest ih =>
    intro acc
    simp only [List.foldl_cons, List.map_cons]
    rw [ih]
    by_cases h : (decide (i < r.2.1) && decide (i + n > r.1)) = true
    · simp [h, carriers, idr]
    · simp [h, carriers, idr]

/-- the scan for `need_data`, one round as the translation spells it -/
def scanBody {ρ : Type} (d : Bytes) (p : Nat × Bool) : Except Err (Step (Nat × Bool) ρ) :=
  if decide ((Int.ofNat d.length) - (Int.ofNat p.1) = (0 : Int)) then .ok (.brk (p.1, false))
  else if decide ((Int.ofNat d.length) - (Int.ofNat p.1) < (5 : Int)) then .ok (.brk (p.1, true))
  else .ok (.next (p.1 + recLenAt d p.1, p.2))

theorem scan_loop {ρ : Type} (d : Bytes) : ∀ (fuel i : Nat) (b : Bool), d.length - i < 5 * fuel →
    ∃ i', whileS fuel (i, b) (fun _ => true) (scanBody (ρ := ρ) d) = .ok (.next (i', needData d i)) := by
  have h1 (i : Nat) : ((Int.ofNat d.length) - (Int.ofNat i) = (0 : Int)) = (i = d.length) := by
    simp only [Int.ofNat_eq_natCast, eq_iff_iff]; omega
  have h2 (i : Nat) : ((Int.ofNat d.length) - (Int.ofNat i) < (5 : Int)) = (d.length < i + 5) := by
    simp only [Int.ofNat_eq_natCast, eq_iff_iff]; omega
  intro fuel
  induction fuel with
  | zero => intro i b h; omega
  | succ n ih =>
    intro i b h
    rw [needData]
    simp only [whileS, if_true, scanBody, h1, h2]
    by_cases h0 : i = d.length
    · simp only [h0, decide_true, if_true]
      exact ⟨_, rfl⟩
    · by_cases h5 : d.length < i + 5
      · simp only [h0, h5, decide_true, decide_false, if_true, if_false, Bool.false_eq_true]
        exact ⟨_, rfl⟩
      · simp only [h0, h5, decide_false, if_false, Bool.false_eq_true]
        exact ih _ _ (by have := recLenAt_ge d i; omega)

theorem needData_false (d : Bytes) (i : Nat) (h : needData d i = false) :
    i = d.length ∨ (¬ d.length < i + 5 ∧ i ≠ d.length ∧ needData d (i + recLenAt d i) = false) := by
  rw [needData] at h
  by_cases h0 : i = d.length
  · exact .inl h0
  · simp only [h0, if_false] at h
    by_cases h5 : d.length < i + 5
    · simp [h5] at h
    · simp only [h5, if_false] at h
      exact .inr ⟨h5, h0, h⟩

/-- the second scan, one round as the translation spells it -/
def recBody {ρ : Type} (d : Bytes) (rs : List SRange) (p : List Gen.Py.TlsRecordObj × Nat) :
    Except Err (Step (List Gen.Py.TlsRecordObj × Nat) ρ) :=
  .ok (.next (p.1 ++ [{ binary := Bytes.slice d p.2 (p.2 + recLenAt d p.2),
                        metadata := List.foldl (fun (md : List Seg) (pr : SRange) =>
                          if (decide (p.2 < pr.2.1) && decide (p.2 + recLenAt d p.2 > pr.1)) = true then md ++ [pr.2.2] else md) [] rs }],
              p.2 + recLenAt d p.2))

theorem rec_loop {ρ : Type} (d : Bytes) (rs : List SRange) : ∀ (fuel i : Nat) (acc : List Gen.Py.TlsRecordObj),
    needData d i = false → d.length - i ≤ 5 * fuel →
    ∃ recs', whileS fuel (acc, i) (fun p => decide (p.2 ≠ d.length)) (recBody (ρ := ρ) d rs) = .ok (.next (acc ++ recs', d.length))
      ∧ recs'.map ofObj = records d (rs.map idr) i := by
  intro fuel
  induction fuel with
  | zero =>
    intro i acc hn hf
    rcases needData_false d i hn with h0 | ⟨h5, _, _⟩
    · subst h0
      refine ⟨[], ?_, ?_⟩
      · simp [whileS]
      · rw [records]; simp
    · omega
  | succ n ih =>
    intro i acc hn hf
    rcases needData_false d i hn with h0 | ⟨h5, h0, hn'⟩
    · subst h0
      refine ⟨[], ?_, ?_⟩
      · simp [whileS]
      · rw [records]; simp
    · let obj : Gen.Py.TlsRecordObj := ⟨Bytes.slice d i (i + recLenAt d i),
          List.foldl (fun (md : List Seg) (pr : SRange) =>
            if (decide (i < pr.2.1) && decide (i + recLenAt d i > pr.1)) = true then md ++ [pr.2.2] else md) [] rs⟩
      obtain ⟨recs', hw, hm⟩ := ih (i + recLenAt d i) (acc ++ [obj]) hn' (by have := recLenAt_ge d i; omega)
      refine ⟨obj :: recs', ?_, ?_⟩
      · simp only [whileS, ne_eq, h0, not_false_eq_true, decide_true, if_true, recBody]
        rw [List.append_assoc] at hw
        exact hw
      · rw [records]
        have : ¬ d.length ≤ i := by omega
        simp only [this, if_false, List.map_cons, hm, ofObj]
        rw [meta_fold]
        rfl

/-- the framing part of `extract_server_buf` (from `index = 0` to the end) is the last step of the model's `deliver`: nothing changes
    while the buffer ends inside a record (`flush = none`); else the records (bytes and carrier packets) are appended, the buffer is
    emptied and the next expected sequence number is `(base + len) % 2^32` -/
theorem extract_server_frame_eq_model (base : Nat) (buf : List Seg) (recs : List Gen.Py.TlsRecordObj) (next : Option Nat) :
    ∃ st, Gen.Py.extract_server_frame base buf recs next = .ok () st ∧
      st.packet_buffer = (match flush buf with | none => buf | some _ => []) ∧
      st.tls_records.map ofObj = recs.map ofObj ++ (flush buf).getD [] ∧
      st.next_seq = (match flush buf with | none => next | some _ => some ((base + (bufData buf).length) % 2 ^ 32)) := by
  unfold Gen.Py.extract_server_frame
  have hf := frame_fold buf [] []
  simp only [List.length_nil, List.nil_append] at hf
  simp only [hf]
  obtain ⟨i', hs⟩ := scan_loop (ρ := Res Gen.Py.extract_server_frame.St Unit) (bufData buf) ((bufData buf).length + 1) 0 default (by omega)
  erw [hs]
  simp only [loopS_next, flush]
  cases hnd : needData (bufData buf) 0 with
  | true => exact ⟨_, rfl, rfl, by simp, rfl⟩
  | false =>
    obtain ⟨recs', hw, hm⟩ := rec_loop (ρ := Res Gen.Py.extract_server_frame.St Unit) (bufData buf) (rangesS buf 0) (bufData buf).length 0 recs hnd (by omega)
    simp only [Bool.not_false, if_true]
    erw [hw]
    simp only [loopS_next, Bool.false_eq_true, if_false]
    refine ⟨_, rfl, rfl, ?_, rfl⟩
    simp only [List.map_append, hm, rangesS_ids, Option.getD_some]

/-- the framing part of `extract_client_buf` (from `index = 0` to the end) is the last step of the model's `deliver`: nothing changes
    while the buffer ends inside a record (`flush = none`); else the records (bytes and carrier packets) are appended, the buffer is
    emptied and the next expected sequence number is `(base + len) % 2^32` -/
theorem extract_client_frame_eq_model (base : Nat) (buf : List Seg) (recs : List Gen.Py.TlsRecordObj) (next : Option Nat) :
    ∃ st, Gen.Py.extract_client_frame base buf recs next = .ok () st ∧
      st.packet_buffer = (match flush buf with | none => buf | some _ => []) ∧
      st.tls_records.map ofObj = recs.map ofObj ++ (flush buf).getD [] ∧
      st.next_seq = (match flush buf with | none => next | some _ => some ((base + (bufData buf).length) % 2 ^ 32)) := by
  unfold Gen.Py.extract_client_frame
  have hf := frame_fold buf [] []
  simp only [List.length_nil, List.nil_append] at hf
  simp only [hf]
  obtain ⟨i', hs⟩ := scan_loop (ρ := Res Gen.Py.extract_client_frame.St Unit) (bufData buf) ((bufData buf).length + 1) 0 default (by omega)
  erw [hs]
  simp only [loopS_next, flush]
  cases hnd : needData (bufData buf) 0 with
  | true => exact ⟨_, rfl, rfl, by simp, rfl⟩
  | false =>
    obtain ⟨recs', hw, hm⟩ := rec_loop (ρ := Res Gen.Py.extract_client_frame.St Unit) (bufData buf) (rangesS buf 0) (bufData buf).length 0 recs hnd (by omega)
    simp only [Bool.not_false, if_true]
    erw [hw]
    simp only [loopS_next, Bool.false_eq_true, if_false]
    refine ⟨_, rfl, rfl, ?_, rfl⟩
    simp only [List.map_append, hm, rangesS_ids, Option.getD_some]

/-- evaluation: two segments across the wrap of the sequence space, the first record spans both -/
example : (match Gen.Py.extract_server_frame 4294967290 [⟨1, 4294967290, [0x17, 3, 3, 0, 2, 9]⟩, ⟨2, 0, [8, 0x15, 3, 3, 0, 0]⟩] [] none with
           | .ok _ st => (st.tls_records.map ofObj, st.next_seq, st.packet_buffer)
           | .raised _ st => ([], none, st.packet_buffer))
    = ([([0x17, 3, 3, 0, 2, 9, 8], [1, 2]), ([0x15, 3, 3, 0, 0], [2])], some 6, []) := by decide +kernel

end TLX.Props.Translated
