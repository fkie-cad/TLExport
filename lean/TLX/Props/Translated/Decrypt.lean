/-
Translated Python functions, group Decrypt: tlexport/decryptor.py — `byte_xor`, `get_cipher_type`, `update_keys`, the four AEAD
routines (`decrypt_tls13_aead`, `decrypt_tls13_stream_cipher`, `decrypt_tls12_chacha20`, `decrypt_tls12_aead`) and the dispatch
`decrypt` — against `TLX/RecordLayer.lean`.

Outside the model and therefore parameters: `cipher.decrypt(nonce, data, aad)` of an AEAD object (`aeadOpen`; the object is what its
constructor got, `Gen.Py.AeadObj`), `self.inflate` (compression is not modelled: the theorems take `compression_method = 0`), and, in
the dispatch, the seven routines themselves. The theorems build `aeadOpen` from the model's `Prims.aeadOpen` (`aeadOf`).
Logging calls are translated with their effects: `{key.hex()}` inside an f-string raises AttributeError for a `None` key — the
model's `hexOf`. The flat attribute state of the translation stands for the model's `(cfg, client DirSt, server DirSt)` (`encD`).
NOT translated (and therefore parameters of the dispatch only): `decrypt_generic_stream_cipher` (the RC4 context is an object two
attributes alias), `decrypt_tls12_block_cipher` and `decrypt_last_block_iv_cbc` (`Cipher(…).decryptor()` objects,
`int(self.block_length / 8)`); `__init__` / `parse_keys` are group Decrypt2.
Names: `Dec` alone is the model's `RecordLayer.Dec` (and `Dec.updateKeys` … its functions), `Dec.update_keys`, `Dec.St` … with Python
spelling are the generated `Gen.Py.Dec.*`; this module's own namespace is `Decr`.
-/
import TLX.Gen.Translated.Decrypt
import TLX.Props.Translated.Enc
import TLX.RecordLayer
namespace TLX.Props.Translated.Decr
open TLX TLX.PyRt TLX.RecordLayer TLX.Cipher TLX.Gen.Py

/-- the model's exception kinds as the translator's (the three kinds of `cryptography` the translator has no name for are
    ValueError here: the externals are built with this map, nothing in the translated code tells the kinds apart) -/
def errOf : Cipher.PyErr → Err
  | .index => .index | .key => .key | .attr => .attr | .unbound => .unbound | .overflow => .overflow | .value => .value
  | .type => .type | .invalidTag => .value | .unsupported => .value | .other => .value

def ofPy {α : Type} : Cipher.Py α → Except Err α
  | .ok a => .ok a
  | .error e => .error (errOf e)

/-- the loop of `byte_xor` over two strings of the same length -/
theorem xor_loop (x y : Bytes) (h : x.length = y.length) : ∀ (m k : Nat) (acc : Bytes), k + m = x.length →
    forE (List.range' k m) acc (fun (py_s : Bytes) (i : Nat) =>
        tryE (getItem x (Int.ofNat i)) (fun e => .error e) (fun p =>
          tryE (getItem y (Int.ofNat i)) (fun e => .error e) (fun q =>
            tryE (appendByteE py_s (Int.ofNat (p ^^^ q))) (fun e => .error e) (fun r => .ok r))))
      = .ok (acc ++ RecordLayer.xorZip (x.drop k) (y.drop k)) := by
  intro m
  induction m with
  | zero =>
    intro k acc hk
    simp only [Nat.add_zero] at hk
    have hx : x.drop k = [] := List.drop_eq_nil_of_le (by omega)
    have hy : y.drop k = [] := List.drop_eq_nil_of_le (by omega)
    simp [forE, RecordLayer.xorZip, hx, hy]
  | succ n ih =>
    intro k acc hk
    have hkx : k < x.length := by omega
    have hky : k < y.length := by omega
    have happ : appendByteE acc (Int.ofNat (x[k].toNat ^^^ y[k].toNat)) = .ok (acc ++ [x[k] ^^^ y[k]]) := by
      have hlt : x[k].toNat ^^^ y[k].toNat < 256 := Nat.xor_lt_two_pow (n := 8) x[k].toNat_lt y[k].toNat_lt
      unfold appendByteE
      simp only [Int.ofNat_eq_natCast]
      rw [if_neg (by omega)]
      simp only [Int.toNat_natCast, xor_u8]
    simp only [List.range'_succ, forE, getItem_lt x k hkx, getItem_lt y k hky, tryE_ok, happ]
    rw [ih (k + 1) _ (by omega), List.drop_eq_getElem_cons hkx, List.drop_eq_getElem_cons hky]
    simp only [RecordLayer.xorZip, List.zipWith_cons_cons, List.append_assoc, List.singleton_append]

theorem byte_xor_eq_model (a b : Bytes) : Dec.byte_xor a b = ofPy (byteXor a b) := by
  unfold Dec.byte_xor byteXor zerosE
  simp only [Int.ofNat_eq_natCast]
  by_cases h : a.length < b.length
  · have : ((a.length : Int) - (b.length : Int) < 0) := by omega
    simp [this, h, ofPy, errOf]
  · have h1 : ¬ ((a.length : Int) - (b.length : Int) < 0) := by omega
    have h2 : ((a.length : Int) - (b.length : Int)).toNat = a.length - b.length := by omega
    simp only [h1, h, if_false, tryE_ok, h2, Nat.sub_zero]
    have hl : a.length = (List.replicate (a.length - b.length) (0 : UInt8) ++ b).length := by simp; omega
    have := xor_loop a (List.replicate (a.length - b.length) 0 ++ b) hl a.length 0 [] (by omega)
    simp only [List.drop_zero, List.nil_append, Int.ofNat_eq_natCast] at this
    simp only [this, tryE_ok, ofPy]

/-- the attributes the model does not carry: `last_block_server` / `last_block_client`. Outer `none`: the attribute does not exist
    (`__init__` sets it for TLS 1.0 / SSL 3.0 only), `some none`: it holds `None` -/
structure DX where
  lbs : Option (Option Bytes)
  lbc : Option (Option Bytes)

/-- the translated state that stands for the model's `Dec` (the TLS 1.3 key attributes exist iff `has13`) -/
def encD (d : Dec) (x : DX) : Dec.St :=
  { server_key := d.s.key, server_iv := d.s.iv, client_key := d.c.key, client_iv := d.c.iv,
    server_seq := d.s.seq, client_seq := d.c.seq, last_block_server := x.lbs, last_block_client := x.lbc,
    server_handshake_key := if d.cfg.has13 then some d.s.hsKey else none,
    server_handshake_iv := if d.cfg.has13 then some d.s.hsIv else none,
    server_application_key := if d.cfg.has13 then some d.s.appKey else none,
    server_application_iv := if d.cfg.has13 then some d.s.appIv else none,
    client_handshake_key := if d.cfg.has13 then some d.c.hsKey else none,
    client_handshake_iv := if d.cfg.has13 then some d.c.hsIv else none,
    client_application_key := if d.cfg.has13 then some d.c.appKey else none,
    client_application_iv := if d.cfg.has13 then some d.c.appIv else none,
    cipher_type := some d.cfg.ctype }

/-- a model result as the translation's -/
def resOf {α : Type} (x : DX) : RecordLayer.Res α → PyRt.Res Dec.St α
  | .ok a d => .ok a (encD d x)
  | .err e d => .raised (errOf e) (encD d x)

theorem get_cipher_type_eq_model (v : Version) (bulk : Alg) (ml tl bl : Nat) (etm : Bool) (cm : Nat) (st : Dec.St) :
    Dec.get_cipher_type v bulk ml tl bl etm cm st = .ok () { st with cipher_type := some (cipherType bulk) } := by
  unfold Dec.get_cipher_type
  cases bulk <;> rfl

theorem update_keys_eq_model (d : Dec) (x : DX) (srv : Bool) (cm : Nat) :
    Dec.update_keys srv d.cfg.version d.cfg.bulk d.cfg.macLen d.cfg.tagLen d.cfg.blockLen d.cfg.etm cm (encD d x)
      = resOf x (d.updateKeys srv) := by
  obtain ⟨⟨ver, bulk, ctype, macLen, tagLen, blockLen, etm, has13⟩, ⟨ck, ci, cseq, cl, crc, chk, chi, cak, cai⟩,
    ⟨sk, si, sseq, sl, src, shk, shi, sak, sai⟩⟩ := d
  unfold Dec.update_keys Dec.updateKeys
  cases srv <;> cases has13 <;>
    simp only [encD, Dec.get, Bool.false_eq_true, if_false, if_true, attrE_none, attrE_some, tryE_error, tryE_ok, Bool.not_false,
      Bool.not_true, resOf, errOf]
  -- the four `.hex()` calls of the logging lines, in their order; then the switch
  · cases chk; · rfl
    cases cak; · rfl
    cases chi; · rfl
    cases cai <;> rfl
  · cases shk; · rfl
    cases sak; · rfl
    cases shi; · rfl
    cases sai <;> rfl

/-- `cipher.decrypt(nonce, data, associated_data)` of an AEAD object as the model's primitive gives it -/
def aeadOf (P : Prims) (o : AeadObj) (nonce ct aad : Bytes) : Except Err Bytes :=
  ofPy (P.aeadOpen o.alg o.key nonce aad (o.tag.getD 16) ct)

/-- the result of one routine -/
def resB (d : Dec) (x : DX) : Py (Bytes × Dec) → PyRt.Res Dec.St Bytes
  | .ok (pt, d') => .ok pt (encD d' x)
  | .error e => .raised (errOf e) (encD d x)

theorem toBytesE_toBE (z : Int) (k : Nat) : toBytesE z (k : Int) = ofPy (toBE k z) := by
  cases z with
  | ofNat n =>
    rw [toBE, if_neg (by simp), ← Int.ofNat_eq_natCast k, toBytesE_nat']
    show _ = ofPy (if n < 256 ^ k then _ else _)
    split <;> rfl
  | negSucc n =>
    have hz : Int.negSucc n < 0 := Int.negSucc_lt_zero n
    have hk : ¬ ((k : Int) < 0) := by omega
    simp only [toBytesE, toBE, hz, hk, true_or, if_true, if_false]
    rfl

theorem toBE8 (n : Nat) : toBytesE (n : Int) (8 : Int) = ofPy (toBE 8 (n : Int)) := toBytesE_toBE n 8
theorem toBE2 (z : Int) : toBytesE z (2 : Int) = ofPy (toBE 2 z) := toBytesE_toBE z 2
theorem typ1 (r : Rec) : toBytesE ((Dec.recType r : Nat) : Int) (1 : Int) = .ok [r.typ] := by
  have := toBytesE_nat r.typ.toNat 1 (by have := r.typ.toNat_lt; omega)
  simp only [Dec.recType]
  rw [show (1 : Int) = Int.ofNat 1 from rfl, ← Int.ofNat_eq_natCast, this]
  simp [Bytes.ofNatBE, Nat.mod_eq_of_lt r.typ.toNat_lt]

/-- one step of a routine: the model's bind is the translation's `tryE` that raises with the state untouched -/
theorem resB_bind {α : Type} (d : Dec) (x : DX) (y : Py α) (f : α → Py (Bytes × Dec)) :
    resB d x (y >>= f) = tryE (ofPy y) (fun e => .raised e (encD d x)) (fun a => resB d x (f a)) := by
  cases y <;> rfl

theorem attrE_hexOf (o : Option Bytes) : attrE o = ofPy (hexOf o) := by cases o <;> rfl

theorem aead_by_bulk {β : Type} (P : Prims) (cfg : Cfg) (key nonce ct aad : Bytes) (E : Err → β) (K : Bytes → β) :
    (if decide (cfg.bulk = .aesgcm) then tryE (aeadOf P ⟨.aesgcm, key, none⟩ nonce ct aad) E K
     else if decide (cfg.bulk = .aesccm) then tryE (aeadOf P ⟨.aesccm, key, some cfg.tagLen⟩ nonce ct aad) E K
     else tryE (Except.error .unbound : Except Err AeadObj) E fun o => tryE (aeadOf P o nonce ct aad) E K)
      = tryE (ofPy (aeadByBulk P cfg key nonce aad ct)) E K := by
  unfold aeadByBulk aeadOf
  cases cfg.bulk <;> rfl

theorem decrypt_tls13_stream_cipher_eq_model (P : Prims) (infl : Bytes → Bool → Except Err Bytes) (d : Dec) (x : DX) (r : Rec) (srv : Bool) :
    Dec.decrypt_tls13_stream_cipher (aeadOf P) infl r srv d.cfg.version d.cfg.bulk d.cfg.macLen d.cfg.tagLen d.cfg.blockLen d.cfg.etm 0 (encD d x)
      = resB d x (tls13Stream P r srv d) := by
  unfold Dec.decrypt_tls13_stream_cipher tls13Stream
  cases srv <;>
    simp only [resB_bind, Int.ofNat_eq_natCast, typ1, toBE8, byte_xor_eq_model, attrE_hexOf, aeadOf, encD, Dec.get, tryE_ok, if_true, if_false,
      Bool.false_eq_true, Option.getD_none] <;> rfl

theorem decrypt_tls13_aead_eq_model (P : Prims) (infl : Bytes → Bool → Except Err Bytes) (d : Dec) (x : DX) (r : Rec) (srv : Bool) :
    Dec.decrypt_tls13_aead (aeadOf P) infl r srv d.cfg.version d.cfg.bulk d.cfg.macLen d.cfg.tagLen d.cfg.blockLen d.cfg.etm 0 (encD d x)
      = resB d x (tls13Aead P r srv d) := by
  unfold Dec.decrypt_tls13_aead tls13Aead
  cases srv <;>
    simp only [resB_bind, Int.ofNat_eq_natCast, typ1, toBE8, byte_xor_eq_model, attrE_hexOf, aead_by_bulk, encD, Dec.get, tryE_ok, if_true, if_false,
      Bool.false_eq_true] <;> rfl

theorem decrypt_tls12_chacha20_eq_model (P : Prims) (infl : Bytes → Bool → Except Err Bytes) (d : Dec) (x : DX) (r : Rec) (srv : Bool) :
    Dec.decrypt_tls12_chacha20 (aeadOf P) infl r srv d.cfg.version d.cfg.bulk d.cfg.macLen d.cfg.tagLen d.cfg.blockLen d.cfg.etm 0 (encD d x)
      = resB d x (tls12Chacha P r srv d) := by
  unfold Dec.decrypt_tls12_chacha20 tls12Chacha
  cases srv <;>
    simp only [resB_bind, Int.ofNat_eq_natCast, typ1, toBE8, toBE2, byte_xor_eq_model, attrE_hexOf, aeadOf, encD, Dec.get, tryE_ok, if_true,
      if_false, Bool.false_eq_true, Option.getD_none, show decide ((0 : Nat) = 1) = false from rfl] <;>
    -- `seq.to_bytes(8)` is computed twice (for the associated data and for the nonce)
    cases toBE 8 _ <;> rfl

theorem decrypt_tls12_aead_eq_model (P : Prims) (infl : Bytes → Bool → Except Err Bytes) (d : Dec) (x : DX) (r : Rec) (srv : Bool) :
    Dec.decrypt_tls12_aead (aeadOf P) infl r srv d.cfg.version d.cfg.bulk d.cfg.macLen d.cfg.tagLen d.cfg.blockLen d.cfg.etm 0 (encD d x)
      = resB d x (tls12Aead P r srv d) := by
  unfold Dec.decrypt_tls12_aead tls12Aead
  cases srv <;>
    simp only [resB_bind, Int.ofNat_eq_natCast, toBE8, toBE2, attrE_hexOf, aead_by_bulk, encD, Dec.get, if_true, if_false,
      Bool.false_eq_true, Bytes.slice_zero, show decide ((0 : Nat) = 1) = false from rfl] <;> rfl

theorem lift_resB (d : Dec) (x : DX) (y : Py (Bytes × Dec)) :
    tryR (resB d x y) (fun e st' => Res.raised e st') (fun v st' => Res.ok (some v) st') = resOf x (lift d y) := by
  rcases y with e | ⟨pt, d'⟩ <;> rfl

/-- `Decryptor.decrypt`: the dispatch over TLS version, cipher type and algorithm is the model's; the seven routines are parameters
    (four of them are the translated routines above, see `decrypt_eq_model'`) -/
theorem decrypt_eq_model (P : Prims) (R1 R2 R3 R4 R5 R6 R7 : Dec.St → Rec → Bool → PyRt.Res Dec.St Bytes) (d : Dec) (x : DX) (r : Rec) (srv : Bool)
    (h1 : R1 (encD d x) r srv = resB d x (tls13Aead P r srv d)) (h2 : R2 (encD d x) r srv = resB d x (tls13Stream P r srv d))
    (h3 : R3 (encD d x) r srv = resB d x (tls12Chacha P r srv d)) (h4 : R4 (encD d x) r srv = resB d x (genericStream P r srv d))
    (h5 : R5 (encD d x) r srv = resB d x (tls12Aead P r srv d)) (h6 : R6 (encD d x) r srv = resB d x (tls12Block P r srv d))
    (h7 : R7 (encD d x) r srv = resB d x (lastBlockCbc P r srv d)) (cm : Nat) :
    Gen.Py.Dec.decrypt R1 R2 R3 R4 R5 R6 R7 r srv d.cfg.version d.cfg.bulk d.cfg.macLen d.cfg.tagLen d.cfg.blockLen d.cfg.etm cm (encD d x)
      = resOf x (d.decrypt P r srv) := by
  unfold Gen.Py.Dec.decrypt RecordLayer.Dec.decrypt
  simp only [h1, h2, h3, h4, h5, h6, h7, lift_resB]
  have hct : (encD d x).cipher_type = some d.cfg.ctype := rfl
  simp only [hct, attrE_some, tryE_ok]
  cases d.cfg.version <;> cases d.cfg.ctype <;> simp [apply_ite (resOf x)] <;> rfl

/-- the dispatch with the four translated routines in place -/
theorem decrypt_eq_model' (P : Prims) (infl : Bytes → Bool → Except Err Bytes) (R4 R6 R7 : Dec.St → Rec → Bool → PyRt.Res Dec.St Bytes)
    (d : Dec) (x : DX) (r : Rec) (srv : Bool)
    (h4 : R4 (encD d x) r srv = resB d x (genericStream P r srv d)) (h6 : R6 (encD d x) r srv = resB d x (tls12Block P r srv d))
    (h7 : R7 (encD d x) r srv = resB d x (lastBlockCbc P r srv d)) :
    Gen.Py.Dec.decrypt
        (fun st r srv => Dec.decrypt_tls13_aead (aeadOf P) infl r srv d.cfg.version d.cfg.bulk d.cfg.macLen d.cfg.tagLen d.cfg.blockLen d.cfg.etm 0 st)
        (fun st r srv => Dec.decrypt_tls13_stream_cipher (aeadOf P) infl r srv d.cfg.version d.cfg.bulk d.cfg.macLen d.cfg.tagLen d.cfg.blockLen d.cfg.etm 0 st)
        (fun st r srv => Dec.decrypt_tls12_chacha20 (aeadOf P) infl r srv d.cfg.version d.cfg.bulk d.cfg.macLen d.cfg.tagLen d.cfg.blockLen d.cfg.etm 0 st)
        R4
        (fun st r srv => Dec.decrypt_tls12_aead (aeadOf P) infl r srv d.cfg.version d.cfg.bulk d.cfg.macLen d.cfg.tagLen d.cfg.blockLen d.cfg.etm 0 st)
        R6 R7 r srv d.cfg.version d.cfg.bulk d.cfg.macLen d.cfg.tagLen d.cfg.blockLen d.cfg.etm 0 (encD d x)
      = resOf x (d.decrypt P r srv) :=
  decrypt_eq_model P _ _ _ R4 _ R6 R7 d x r srv (decrypt_tls13_aead_eq_model P infl d x r srv) (decrypt_tls13_stream_cipher_eq_model P infl d x r srv)
    (decrypt_tls12_chacha20_eq_model P infl d x r srv) h4 (decrypt_tls12_aead_eq_model P infl d x r srv) h6 h7 0

example : Dec.byte_xor [1, 2, 3, 4] [5, 6] = .ok [1, 2, 6, 2] ∧ Dec.byte_xor [1] [5, 6] = .error .value := by decide

end TLX.Props.Translated.Decr
