/-
Translated Python functions, group Reasm: tlexport/session.py `Session.handle_packet` (duplicate suppression) and, of
`extract_server_buf` / `extract_client_buf`, the pieces inside the subset: the two sort keys (sequence distance mod 2^32),
the test that the stream continues at `base`, the contiguity test between neighbours, the next expected sequence number.
Each `<name>_eq_model` says the definition regenerated from the tree under test (`TLX/Gen/Translated/Reasm.lean`, written
by `harness/translate.py`) EQUALS the corresponding piece of `TLX/Reassembly.lean` at `W = 2^32`.
-/
import TLX.Gen.Translated.Reasm
import TLX.Props.Translated.Enc
import TLX.Reassembly
import TLX.Lemmas.ModSeq
namespace TLX.Props.Translated
open TLX TLX.PyRt TLX.Reassembly

/-- `Session.handle_packet`: in the packet's direction (`packet.ip_src == self.server_ip and packet.sport == self.server_port`)
    a sequence number seen before changes nothing, a new one is recorded and the packet appended to `packet_buffer` —
    per direction the duplicate test of the model's `stepW` / `accept` (`seen.contains p.seq`, `seen ++ [p.seq]`, `buf ++ [p]`) -/
theorem session_handle_packet_eq_model (p : Seg) (ipSrc serverIp : Bytes) (sport serverPort : Nat) (seenS seenC : List Nat)
    (buf : List Seg) :
    Gen.Py.session_handle_packet p p.seq ipSrc sport serverIp serverPort seenS seenC buf =
      if ipSrc = serverIp ∧ sport = serverPort then
        { seen_packets_server := if seenS.contains p.seq then seenS else seenS ++ [p.seq], seen_packets_client := seenC,
          packet_buffer := if seenS.contains p.seq then buf else buf ++ [p] }
      else
        { seen_packets_server := seenS, seen_packets_client := if seenC.contains p.seq then seenC else seenC ++ [p.seq],
          packet_buffer := if seenC.contains p.seq then buf else buf ++ [p] } := by
  unfold Gen.Py.session_handle_packet
  by_cases h1 : ipSrc = serverIp ∧ sport = serverPort
  · by_cases h2 : p.seq ∈ seenS <;> simp [h1, h2]
  · by_cases h2 : p.seq ∈ seenC <;> simp [h1, h2]

/-- … which is the model's `accept` for one packet of the direction -/
theorem accept_one (p : Seg) (seen : List Nat) (buf : List Seg) (ip : Bytes) (port : Nat) (other : List Nat) :
    let r := Gen.Py.session_handle_packet p p.seq ip port ip port seen other buf
    (r.packet_buffer, r.seen_packets_server) = (buf ++ (accept seen [p]).1, (accept seen [p]).2) := by
  rw [session_handle_packet_eq_model]
  by_cases h : p.seq ∈ seen <;> simp [accept, h]

example : Gen.Py.session_handle_packet ⟨1, 100, [1]⟩ 100 [10, 0, 0, 1] 443 [10, 0, 0, 1] 443 [7] [100] [] =
      { seen_packets_server := [7, 100], seen_packets_client := [100], packet_buffer := [⟨1, 100, [1]⟩] } ∧
    Gen.Py.session_handle_packet ⟨1, 100, [1]⟩ 100 [10, 0, 0, 2] 5000 [10, 0, 0, 1] 443 [7] [100] [] =
      { seen_packets_server := [7], seen_packets_client := [100], packet_buffer := [] } := by decide +kernel

theorem two32 : (4294967296 : Nat) = 2 ^ 32 := by decide

/-- the sort key of `extract_*_buf` once the direction is in sync is the model's `syncKey` -/
theorem extract_server_sort_key_eq_model (base : Nat) (x : Seg) :
    Gen.Py.extract_server_sort_key base x.seq = Int.ofNat (syncKey (2 ^ 32) base x) := by
  unfold Gen.Py.extract_server_sort_key syncKey
  simp only [Int.ofNat_eq_natCast]
  rw [Lemmas.ModSeq.pyModSub_eq_emod _ _ _ (by decide)]
  rfl

/-- the client-side functions of this group are the same text as the server-side ones -/
theorem extract_client_sort_key_eq_model (base : Nat) (x : Seg) :
    Gen.Py.extract_client_sort_key base x.seq = Int.ofNat (syncKey (2 ^ 32) base x) :=
  extract_server_sort_key_eq_model base x

/-- the key by which the earliest segment is found before anything was delivered is the model's `presyncKey` -/
theorem extract_server_presync_key_eq_model (first : Nat) (x : Seg) :
    Gen.Py.extract_server_presync_key first x.seq = Int.ofNat (presyncKey (2 ^ 32) first x) := by
  unfold Gen.Py.extract_server_presync_key presyncKey
  simp only [Int.ofNat_eq_natCast]
  rw [Lemmas.ModSeq.pyModSub_eq_emod _ _ _ (by decide)]
  congr 1
  have : ((2 ^ 32 / 2 : Nat) : Int) = 2147483648 := by decide
  rw [Int.natCast_add, this]
  omega

theorem extract_client_presync_key_eq_model (first : Nat) (x : Seg) :
    Gen.Py.extract_client_presync_key first x.seq = Int.ofNat (presyncKey (2 ^ 32) first x) :=
  extract_server_presync_key_eq_model first x

example : Gen.Py.extract_server_sort_key 4294967290 4 = 10 ∧ Gen.Py.extract_client_presync_key 5 3 = 2147483646 := by
  decide +kernel

/-- the head test (`buffer[0].seq != base`: the continuing segment is missing) is the first test of the model's `deliver` -/
theorem extract_server_head_test_eq_model (st : St) (base : Nat) (h : Seg) (r : List Seg)
    (ht : Gen.Py.extract_server_head_test base h.seq = true) : deliver (2 ^ 32) st base (h :: r) = { st with buf := h :: r } := by
  simp only [Gen.Py.extract_server_head_test, decide_eq_true_eq] at ht
  simp [deliver, ht]

theorem extract_client_head_test_eq_model (st : St) (base : Nat) (h : Seg) (r : List Seg)
    (ht : Gen.Py.extract_client_head_test base h.seq = true) : deliver (2 ^ 32) st base (h :: r) = { st with buf := h :: r } :=
  extract_server_head_test_eq_model st base h r ht

/-- the model's `contiguous` is "no neighbour pair fails the translated gap test" -/
theorem extract_server_gap_test_eq_model (a b : Seg) (r : List Seg) :
    contiguous (2 ^ 32) (a :: b :: r) = (!Gen.Py.extract_server_gap_test a.seq a.data b.seq && contiguous (2 ^ 32) (b :: r)) := by
  simp only [contiguous, Gen.Py.extract_server_gap_test, two32, decide_not, Bool.not_not]
  congr 1

theorem extract_client_gap_test_eq_model (a b : Seg) (r : List Seg) :
    contiguous (2 ^ 32) (a :: b :: r) = (!Gen.Py.extract_client_gap_test a.seq a.data b.seq && contiguous (2 ^ 32) (b :: r)) :=
  extract_server_gap_test_eq_model a b r

example : Gen.Py.extract_server_gap_test 4294967295 [1, 2] 1 = false ∧ Gen.Py.extract_client_gap_test 10 [1, 2] 13 = true := by decide +kernel

/-- the next expected sequence number after a delivery is the `next` the model's `deliver` stores -/
theorem extract_server_next_seq_eq_model (base total : Nat) :
    (Gen.Py.extract_server_next_seq base total).next_seq = some ((base + total) % 2 ^ 32) := by
  simp [Gen.Py.extract_server_next_seq, two32]

theorem extract_client_next_seq_eq_model (base total : Nat) :
    (Gen.Py.extract_client_next_seq base total).next_seq = some ((base + total) % 2 ^ 32) :=
  extract_server_next_seq_eq_model base total

/-- … literally: when `deliver` hands records on, its `next` is the translated assignment at `total = len(packet_data)` -/
theorem deliver_next (st : St) (base : Nat) (buf : List Seg) (recs : List Rec) (h0 : ∃ h r, buf = h :: r ∧ h.seq = base)
    (hc : contiguous (2 ^ 32) buf = true) (hf : flush buf = some recs) :
    (deliver (2 ^ 32) st base buf).next = (Gen.Py.extract_server_next_seq base (bufData buf).length).next_seq := by
  obtain ⟨h, r, rfl, hb⟩ := h0
  rw [extract_server_next_seq_eq_model]
  simp [deliver, hb, hc, hf]

example : (Gen.Py.extract_server_next_seq 4294967290 10).next_seq = some 4 := by decide +kernel

end TLX.Props.Translated
