/-
Translated Python functions, group QuicDissect: tlexport/quic/quic_dissector.py `get_header_type`, `get_packet_type`; the head of main.py `handle_quic_packet`.
-/
import TLX.Gen.Translated.QuicDissect
import TLX.Props.Translated.Enc
import TLX.Quic.Dissect
import TLX.MainLoop
namespace TLX.Props.Translated
open TLX TLX.PyRt

theorem isLong_eq (b0 : UInt8) : Quic.Dissect.isLong b0 = decide ((b0.toNat >>> 7) &&& 1 = 1) := by
  unfold Quic.Dissect.isLong
  rw [Bool.eq_iff_iff]
  simp [← UInt8.toNat_inj, Nat.testBit]

/-- `get_header_type` is the model's `isLong` of the first byte -/
theorem get_header_type_eq_model (d : Bytes) :
    Gen.Py.get_header_type d = onFirst d fun fb => if Quic.Dissect.isLong fb then .long else .short := by
  cases d with
  | nil => simp [Gen.Py.get_header_type, onFirst]
  | cons fb r =>
    simp only [Gen.Py.get_header_type, getItem_cons_zero, onFirst, tryE_ok, isLong_eq]
    split <;> simp [*]

example : Gen.Py.get_header_type [0xc3, 0, 0, 0, 1] = .ok .long ∧ Gen.Py.get_header_type [0x43] = .ok .short := by decide

/-- `get_packet_type` is the model's `packetType` of the first byte (never `None`: two bits have four values) -/
theorem get_packet_type_eq_model (d : Bytes) :
    Gen.Py.get_packet_type d = onFirst d fun fb => some (Quic.Dissect.packetType fb) := by
  cases d with
  | nil => simp [Gen.Py.get_packet_type, onFirst]
  | cons fb r =>
    have e : ((fb &&& 0x30) >>> 4).toNat = (fb.toNat &&& 48) >>> 4 := by simp
    have hle : (fb.toNat &&& 48) >>> 4 ≤ 3 := by
      have := Nat.and_le_right (n := fb.toNat) (m := 48)
      rw [Nat.shiftRight_eq_div_pow]; omega
    simp only [Gen.Py.get_packet_type, getItem_cons_zero, tryE_ok, onFirst, Quic.Dissect.packetType, e]
    generalize (fb.toNat &&& 48) >>> 4 = x at hle
    rcases x with _ | _ | _ | _ | x <;> simp
    omega

example : Gen.Py.get_packet_type [0xe3] = .ok (some .handshake) ∧ Gen.Py.get_packet_type [] = .error .index := by decide

/-- how the head of `handle_quic_packet` is left, and with which `dcid` / `quic_version`, per model header -/
def hdrRes : MainLoop.Hdr → Res Gen.Py.quic_header.St Exit
  | .tooShort => .ok .ret { dcid := [], quic_version := .unknown }
  | .long d v => .ok .fall { dcid := d, quic_version := v }
  | .short => .ok .fall { dcid := [], quic_version := .unknown }

/-- the head of `handle_quic_packet` (with the translated `get_header_type` for its `header_type`) is the model's
    `parseHeader1`; the `packet_payload[5]` it reads never raises -/
theorem quic_header_eq_model (b0 : UInt8) (rest : Bytes) (ht : Quic.HType)
    (h : Gen.Py.get_header_type (b0 :: rest) = .ok ht) :
    Gen.Py.quic_header ht (b0 :: rest) = hdrRes (MainLoop.parseHeader1 b0 rest) := by
  rw [get_header_type_eq_model] at h
  simp only [onFirst, Except.ok.injEq, isLong_eq] at h
  subst h
  unfold Gen.Py.quic_header MainLoop.parseHeader1
  by_cases hl : (b0.toNat >>> 7) &&& 1 = 1
  · by_cases h6 : (b0 :: rest).length < 6
    · simp only [hl, h6, decide_true, if_true, hdrRes]
    · have h5 : 5 < (b0 :: rest).length := by omega
      have hn : (5 : Int) = Int.ofNat 5 := rfl
      simp only [hl, h6, decide_true, decide_false, Bool.false_eq_true, if_true, if_false, hn, getItem_nat,
        List.getElem?_eq_getElem h5, tryE_ok, hdrRes, MainLoop.versionOf, decide_eq_true_eq]
      repeat' split
      all_goals simp_all
  · simp only [hl, decide_false, Bool.false_eq_true, if_false, reduceCtorEq, hdrRes]

example : Gen.Py.quic_header .long [0xc3, 0, 0, 0, 1, 2, 0xaa, 0xbb, 0] = .ok .fall { dcid := [0xaa, 0xbb], quic_version := .v1 } ∧
    Gen.Py.quic_header .long [0xc3, 0, 0] = .ok .ret { dcid := [], quic_version := .unknown } := by decide +kernel

end TLX.Props.Translated
