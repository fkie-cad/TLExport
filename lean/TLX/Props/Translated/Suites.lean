/-
Translated Python, group Suites: tlexport/cipher_suite_parser.py — the two tables `cipher_suites` and `cipher_suite_parts`
re-derived from the dict displays of the source text, and `split_cipher_suite` (the KeyError handler, the loop over the
parts with its inner `for … break`, the defaults, the two fix-ups).
The definitions are regenerated from the tree under test (`TLX/Gen/Translated/Suites.lean`, written by
`harness/translate.py`); the model is `TLX/CipherSuite.lean` over the tables `harness/extract.py` dumps from the live module.
This module imports only its own group's generated file: a source change outside the group cannot break it.
-/
import TLX.Gen.Translated.Suites
import TLX.Props.Translated.Enc
import TLX.CipherSuite
import TLX.Lemmas.Distinct
import TLX.Lemmas.Translated.Suites
namespace TLX.Props.Translated
open TLX TLX.PyRt TLX.CipherSuite TLX.Tok TLX.Lemmas.Translated

/-- the number `harness/extract.py` files a key of `cipher_suites` under: the code point of a two-byte key -/
def suiteCode (k : Bytes) : Nat := if k.length = 2 then Bytes.beNat k else 65536 + Bytes.beNat k

/-- The tables read from the source TEXT (dict displays; a class named by the last identifier of the expression that
    denotes it) are the tables dumped from the LIVE module (`TLX.Gen.cipherSuites`, `TLX.Gen.cipherSuiteParts`: dict
    iteration order, classes by `__name__`): two independent derivations agree. Every key of `cipher_suites` has two
    bytes and no key occurs twice, in either table. -/
theorem cipher_tables_eq_model :
    Gen.Py.cipher_suites.map (fun e => (suiteCode e.1, e.2)) = Gen.cipherSuites ∧
    Gen.Py.cipher_suite_parts = Gen.cipherSuiteParts ∧
    (∀ e ∈ Gen.Py.cipher_suites, e.1.length = 2) ∧ (Gen.Py.cipher_suites.map (·.1)).Nodup := by
  have htab : Gen.Py.cipher_suites.map (fun e => (suiteCode e.1, e.2)) = Gen.cipherSuites := by decide +kernel
  have hcodes : (Gen.cipherSuites.map (·.1)).Nodup := Lemmas.Distinct.nodup_of_distinct (by decide +kernel)
  refine ⟨htab, by decide +kernel, by decide +kernel, ?_⟩
  -- the keys are distinct because their code points are
  rw [← htab, List.Nodup, List.pairwise_map, List.pairwise_map] at hcodes
  rw [List.Nodup, List.pairwise_map]
  exact hcodes.imp fun hne heq => hne (congrArg suiteCode heq)

theorem mem_cipher_suites_iff (id : Bytes) (h : id.length = 2) (n : List Nat) :
    (Bytes.beNat id, n) ∈ Gen.cipherSuites ↔ (id, n) ∈ Gen.Py.cipher_suites := by
  obtain ⟨htab, _, hlen, _⟩ := cipher_tables_eq_model
  rw [← htab, List.mem_map]
  constructor
  · rintro ⟨e, he, heq⟩
    have h2 := hlen e he
    simp only [suiteCode, h2, if_true, Prod.mk.injEq] at heq
    rw [← Bytes.beNat_inj2 _ _ h2 h heq.1, ← heq.2]
    exact he
  · intro he
    exact ⟨(id, n), he, by simp only [suiteCode, h, if_true]⟩

/-- `cipher_suite_parts` and each of its rows list every key once (`.keys()` and `[·]` give the entries as written), and
    the rows the fix-ups read exist: all that `split_cipher_suite_of_name` uses of the table -/
theorem cipher_suite_parts_keys :
    (Gen.Py.cipher_suite_parts.map (·.1)).Nodup ∧
    tableKeys Gen.Py.cipher_suite_parts = Gen.Py.cipher_suite_parts.map (·.1) ∧
    t_CryptoAlgo ∈ Gen.Py.cipher_suite_parts.map (·.1) ∧ t_MAC ∈ Gen.Py.cipher_suite_parts.map (·.1) ∧
    ∀ part ∈ Gen.Py.cipher_suite_parts, tableGetE Gen.Py.cipher_suite_parts part.1 = .ok part.2 ∧
      tableKeys part.2 = part.2.map (·.1) ∧ ∀ e ∈ part.2, tableGetE part.2 e.1 = .ok e.2 := by
  decide +kernel

/-- What `split_cipher_suite` does once `cipher_suites[suite_id]` has returned a name, ANY name, is the model's
    `splitName`: the loop adds one entry per row of `cipher_suite_parts` (`forE_rows`), the value of the first key of the
    row that occurs in the name, or the default (`forS_first_key`); the fix-ups are the model's on a dict with both keys. -/
theorem split_cipher_suite_of_name (id : Bytes) (name : List Nat) (h : tableGetE Gen.Py.cipher_suites id = .ok name) :
    Gen.Py.split_cipher_suite id = .ok (some (splitName Gen.cipherSuiteParts name)) := by
  obtain ⟨hnd, hkeys, hCA, hMAC, hparts⟩ := cipher_suite_parts_keys
  unfold Gen.Py.split_cipher_suite
  rw [h, ← cipher_tables_eq_model.2.1]
  simp only [tryE_ok]
  rw [hkeys, forE_rows Gen.Py.cipher_suite_parts (pickPart name) _ [] hnd (fun _ _ => List.not_mem_nil), List.nil_append]
  · -- the fix-ups: the keys of the dict `ps` the loop has built are those of `cipher_suite_parts`
    have hkeys' : (Gen.Py.cipher_suite_parts.map fun r => (r.1, pickPart name r)).map (·.1) =
        Gen.Py.cipher_suite_parts.map (·.1) := by rw [List.map_map]; rfl
    rw [← hkeys'] at hnd hCA hMAC
    unfold splitName
    generalize (Gen.Py.cipher_suite_parts.map fun r => (r.1, pickPart name r)) = ps at hnd hCA hMAC ⊢
    obtain ⟨a, ha⟩ := getPart_of_key hCA
    obtain ⟨m, hm⟩ := getPart_of_key hMAC
    have hne : t_MAC ≠ t_CryptoAlgo := by decide
    -- the first fix-up may set `CryptoAlgo`: `MAC` still reads `m` afterwards
    have hget_ite (c : Prop) [Decidable c] (x y : Params) (k : List Nat) :
        tableGetE (if c then x else y) k = if c then tableGetE x k else tableGetE y k := apply_ite (tableGetE · k) c x y
    have hget_set (v : Val) : tableGetE (tableSet ps t_CryptoAlgo v) t_MAC = tableGetE ps t_MAC := by
      unfold tableGetE
      rw [tableGet_tableSet, if_neg hne]
    have hpart_ite (c : Prop) [Decidable c] (x y : Params) (k : List Nat) :
        getPart (if c then x else y) k = if c then getPart x k else getPart y k := apply_ite (getPart · k) c x y
    have hpart_set (v : Val) : getPart (setPart ps t_CryptoAlgo v) t_MAC = some m :=
      (getPart_setPart_ne ps hne v).trans hm
    -- the generated code has the key strings as literals
    unfold t_CryptoAlgo at ha hget_set hpart_set
    unfold t_MAC at hm hget_set hpart_set
    simp only [tryE_ok, tableGetE_eq_getPart hnd, ha]
    simp only [hget_ite, hget_set, ite_self, tableGetE_eq_getPart hnd, hm, tryE_ok]
    simp only [fixups, ha, Option.some.injEq, strIn_eq_isInfix, decide_eq_true_eq, tableSet_eq_setPart ha,
      t_CryptoAlgo, t_AES, t_GCM, t_CCM, t_AESGCM, t_AESCCM, t_MAC, t_None, t_SHA256]
    rw [tableSet_if_eq_setPart]
    · rfl
    · simp only [hpart_ite, hpart_set, hm, ite_self]
  · intro part hpart cs
    obtain ⟨hget, hk, hgets⟩ := hparts part hpart
    simp only [hget, tryE_ok]
    rw [hk, forS_first_key part.2 part.2 hgets (fun p => strIn p name) (fun s v => (tableSet s.1 part.1 v, 1))]
    simp only [loopS_next, pickPart, strIn_eq_isInfix]
    cases part.2.find? (fun e => isInfix e.1 name) with
    | some e => rfl
    | none =>
      simp only [ne_eq, not_true_eq_false, decide_false, Bool.not_false, ↓reduceIte, decide_eq_true_eq, t_TagLength,
        t_None, Except.ok.injEq, Prod.mk.injEq, and_true]
      exact (apply_ite _ _ _ _).symm

/-- for ANY `suite_id`: `None` if it is not a key of `cipher_suites`, else `splitName` of the name written next to it -/
theorem split_cipher_suite_eq (id : Bytes) :
    Gen.Py.split_cipher_suite id = .ok ((tableGet Gen.Py.cipher_suites id).map (splitName Gen.cipherSuiteParts)) := by
  cases hg : tableGet Gen.Py.cipher_suites id with
  | none =>
    unfold Gen.Py.split_cipher_suite tableGetE
    rw [hg]
    rfl
  | some name => exact split_cipher_suite_of_name id name (by rw [tableGetE, hg])

/-- `split_cipher_suite(suite_id)` for a two-byte `suite_id` (a TLS code point): the model's `resolve` — a key of
    `cipher_suites` stands next to the name the model finds for its code point, and any other id is a code point for
    which the model finds no name -/
theorem split_cipher_suite_eq_model (id : Bytes) (h : id.length = 2) :
    Gen.Py.split_cipher_suite id = .ok (resolve (Bytes.beNat id)) := by
  obtain ⟨_, _, _, hkeys⟩ := cipher_tables_eq_model
  rw [split_cipher_suite_eq, resolve, resolveWith]
  congr 2
  cases hl : lookupName Gen.cipherSuites (Bytes.beNat id) with
  | none =>
    exact tableGet_of_not_mem fun e he hid =>
      Lemmas.Distinct.lookupName_none.mp hl e.2 ((mem_cipher_suites_iff id h e.2).mpr (hid ▸ he))
  | some name => exact tableGet_of_mem hkeys ((mem_cipher_suites_iff id h name).mp (Lemmas.Distinct.mem_of_lookupName hl))

-- Non-vacuity: a TLS 1.3 suite, an AES-CBC suite with the MAC default, an unknown code point
example : Gen.Py.split_cipher_suite [0x13, 0x01] = .ok (resolve 0x1301) ∧ (resolve 0x1301).isSome ∧
    Gen.Py.split_cipher_suite [0x00, 0x2f] = .ok (resolve 0x002f) ∧ Gen.Py.split_cipher_suite [0xfa, 0xfa] = .ok none := by
  decide +kernel

end TLX.Props.Translated
