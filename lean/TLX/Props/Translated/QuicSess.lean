/-
Translated Python functions, group QuicSess: tlexport/quic/quic_session.py `check_key_epoch`, `packet_isserver`, `matches_session_dgram`.
-/
import TLX.Gen.Translated.QuicSess
import TLX.Props.Translated.Enc
import TLX.Quic.Session
import TLX.MainLoop
namespace TLX.Props.Translated
open TLX TLX.PyRt

/-- the model state seen as the record of the four attributes `check_key_epoch` writes -/
def epochsOf {σ : Type} (s : Quic.Session.St σ) : Gen.Py.check_key_epoch_flip.St :=
  { epoch_server := s.epochServer, last_key_phase_server := s.lastPhaseServer,
    epoch_client := s.epochClient, last_key_phase_client := s.lastPhaseClient }

/-- `check_key_epoch`, first statement (`if isserver: … else: …`): the model's `flipEpoch` -/
theorem check_key_epoch_flip_eq_model {σ : Type} (s : Quic.Session.St σ) (phase : Option Nat) (srv : Bool) :
    Gen.Py.check_key_epoch_flip phase srv s.epochServer s.lastPhaseServer s.epochClient s.lastPhaseClient =
      epochsOf (Quic.Session.flipEpoch s phase srv) := by
  unfold Gen.Py.check_key_epoch_flip Quic.Session.flipEpoch epochsOf
  cases srv <;> simp only [Bool.false_eq_true, if_false, if_true, decide_eq_true_eq] <;> split <;> simp_all

example : Gen.Py.check_key_epoch_flip (some 1) true 0 (some 0) 0 (some 0) =
    { epoch_server := 1, last_key_phase_server := some 1, epoch_client := 0, last_key_phase_client := some 0 } := by decide

/-- `check_key_epoch`, the test of the second `if`: the condition under which the model's `extendGens` appends a
    key generation -/
theorem check_key_epoch_extend_test_eq_model (ec es : Nat) (gens : List Quic.Session.Dec) :
    Gen.Py.check_key_epoch_extend_test ec es gens = decide (ec = gens.length ∨ es = gens.length) := by
  simp [Gen.Py.check_key_epoch_extend_test]

/-- … which is literally the `if` of `extendGens` -/
theorem extendGens_cond {σ : Type} (P : Quic.Session.Params σ) (s : Quic.Session.St σ) (gens : List Quic.Session.Dec)
    (h : s.decApp = some gens) (hc : Gen.Py.check_key_epoch_extend_test s.epochClient s.epochServer gens = false) :
    Quic.Session.extendGens P s = (s, none) := by
  rw [check_key_epoch_extend_test_eq_model] at hc
  simp only [decide_eq_false_iff_not] at hc
  simp [Quic.Session.extendGens, h, hc]

example : Gen.Py.check_key_epoch_extend_test 1 1 [] = false ∧ Gen.Py.check_key_epoch_extend_test 0 0 [] = true := by decide

/-- `packet_isserver` is the model's `packetIsServer`, its `fromClientAddr` being the address test of the third arm -/
theorem packet_isserver_eq_model {σ : Type} (s : Quic.Session.St σ) (dcid ipSrc clientIp : Bytes) (sport clientPort : Nat) :
    Gen.Py.packet_isserver dcid s.serverCids s.clientCids ipSrc sport clientIp clientPort =
      Quic.Session.packetIsServer s (decide (ipSrc = clientIp ∧ sport = clientPort)) dcid := by
  unfold Gen.Py.packet_isserver Quic.Session.packetIsServer
  simp only [Bool.and_eq_true, decide_eq_true_eq, Bool.not_eq_true', decide_eq_false_iff_not, and_assoc]

example : Gen.Py.packet_isserver [1, 2] [[1, 2]] [[9]] [10, 0, 0, 1] 443 [10, 0, 0, 2] 5000 = false ∧
    Gen.Py.packet_isserver [] [[1, 2]] [[9]] [10, 0, 0, 1] 443 [10, 0, 0, 2] 5000 = true := by decide

/-- `matches_session_dgram(ip_src, ip_dst, sport, dport)` is the model's `Sess.matches` -/
theorem matches_session_dgram_eq_model {α : Type} (s : MainLoop.Sess α) (p : MainLoop.Pkt) :
    Gen.Py.matches_session_dgram p.src.ip p.dst.ip p.src.port p.dst.port s.server.ip s.server.port s.client.ip s.client.port =
      s.matches p := by
  unfold Gen.Py.matches_session_dgram MainLoop.Sess.matches
  simp only [endpoint_beq, Bool.if_true_left, Bool.if_false_right, Bool.decide_eq_true, Bool.and_true, Bool.and_assoc]

example : Gen.Py.matches_session_dgram [10, 0, 0, 2] [10, 0, 0, 1] 5000 443 [10, 0, 0, 1] 443 [10, 0, 0, 2] 5000 = true := by decide

end TLX.Props.Translated
