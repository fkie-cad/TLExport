/-
`DecryptionSecretBlock.unpack` (tlexport/dpkt_dsb.py) as translated from the Python source (`TLX/Gen/Translated/Dsb.lean`) equals the
hand-written model `TLX.Container.parseDsb` (C12). dpkt's own code is outside the subset and enters as externals, instantiated with the
model's functions: the header unpack (`hdrLen`: fewer than 20 bytes = `struct.error`/NeedData, else the `len` field; `secrets_length`
= the field at offset 12), `_do_unpack_options` (`blockTail`), `_align32b` (`align4`). What the theorem ties to the source is the glue
of `unpack` itself: the `len > len(buf)` test, the data offset `__hdr_len__ - 4`, the slice of `secrets_length` bytes, the options
offset after the padded data.
-/
import TLX.Gen.Translated.Dsb
import TLX.Lemmas.PyRt
namespace TLX.Props.Translated.Dsb
open TLX TLX.Container TLX.Gen.Py PyRt

/-- the model's exceptions as the translated definition reports them (NeedData and `struct.error` are one: `.struct`) -/
def encErr : Container.Err → PyRt.Err
  | .needData => .struct
  | .lenMismatch => .value
  | .unicode => .type
  | _ => .fuel

/-- `dpkt.Packet.unpack(self, buf)`: `self.len` -/
def hdrLen (e : Endian) (buf : Bytes) : Except PyRt.Err Nat :=
  if buf.length < 20 then .error .struct else .ok (fld e buf 4 4)

/-- `self._do_unpack_options(buf, oo)` -/
def tail (e : Endian) (buf : Bytes) (len : Nat) (oo : Int) : Except PyRt.Err (List Opt) :=
  match blockTail e buf len oo.toNat with
  | .ok o => .ok o
  | .error er => .error (encErr er)

/-- `DecryptionSecretBlock(buf)`: the secrets data, or the exception -/
theorem unpack_eq_model (e : Endian) (buf : Bytes) :
    (Dsb.unpack (hdrLen e) (fun b => fld e b 12 4) (tail e) buf).map (·.pkt_data)
      = match parseDsb e buf with
        | .ok d => .ok d
        | .error er => .error (encErr er) := by
  unfold Dsb.unpack parseDsb blockHead hdrLen tail
  by_cases h20 : buf.length < 20
  · simp only [h20, if_true, tryE_error]
    rfl
  · simp only [h20, if_false, tryE_ok]
    by_cases hl : fld e buf 4 4 > buf.length
    · simp only [hl, decide_true, if_true]
      rfl
    · have hpo : (((20 : Nat) : Int) - (4 : Int)) = ((16 : Nat) : Int) := rfl
      simp only [hl, decide_false, Bool.false_eq_true, if_false, hpo, Int.ofNat_eq_natCast, ← Int.natCast_add, pySlice_nat, Int.toNat_natCast]
      cases blockTail e buf (fld e buf 4 4) (16 + align4 (fld e buf 12 4)) <;> rfl

end TLX.Props.Translated.Dsb
