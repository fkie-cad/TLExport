/-
Translated Python functions, group TlsSess2: the record handlers of tlexport/session.py translated WHOLE, as a family over one
state record (`Gen.Py.Sess.St δ`, δ = the `Decryptor` object): `handle_tls_record` and everything it calls —
`handle_tls_handshake_record`, `handle_handshake_finished`, `handle_tls_client_hello`, `handle_tls_server_hello`,
`handle_alert`, `handle_tls_13_application_record`, `handle_decrypted_tls_13_handshake_record`,
`handle_tls_application_record` — and `TlsRecord.__init__`.

Outside the model and therefore parameters of the translated definitions (externals): `Decryptor.decrypt`,
`Decryptor.update_keys`, `Session.generate_keys`. The theorems instantiate them from the model's `Ops` (`decE`, `updE`,
`gkE`); WHICH exception class an external raises is a parameter too (`Kinds`; it only must not be the translator's
out-of-fuel marker).

`Sess.<python name>_eq_model`: the definition regenerated from the tree under test, run on the state `enc s x`, ends the way the
model function ends on `s` (returned / raised) in the state `enc s' x'` — EQUAL to the model's state on every attribute the
model carries. Not compared: the four attributes the model treats as locals of `handle_tls_server_hello` (`server_random`,
`ciphersuite`, `compression_method`, `extensions`: `Extra`), the exception class, and the ghost tag `Entry.isApp`.
`Sess.handle_tls_record_view` is the same statement for `handle_tls_record` as an equation between views.
-/
import TLX.Gen.Translated.TlsSess2
import TLX.Props.Translated.Enc
import TLX.Lemmas.PyRt
import TLX.Session
namespace TLX.Props.Translated.Sess
open TLX TLX.PyRt TLX.Session

variable {δ : Type}

/-- the attributes of the translated state the model does not carry -/
structure Extra where
  server_random : Option Bytes
  ciphersuite : Option Bytes
  compression_method : Option Nat
  extensions : Option (List (Bytes × Bytes))

/-- one element of `application_traffic` without the ghost tag -/
def ofEntry (e : Entry) : Option Bytes × Rec × Bool := (e.data, e.record, e.fromServer)

/-- the translated state that stands for the model state `s` -/
def enc (s : St δ) (x : Extra) : Gen.Py.Sess.St δ :=
  { can_decrypt := s.canDecrypt, client_hello_seen := s.chSeen, tls_version := s.ver, server_cipher_change := s.srvCC,
    client_cipher_change := s.cliCC, decryptor := s.dec, client_random := s.cr, server_random := x.server_random,
    ciphersuite := x.ciphersuite, compression_method := x.compression_method, extensions := x.extensions,
    application_traffic := s.traffic.map ofEntry, handshake_13_buffer := (s.hsBufC, s.hsBufS) }

/-- the translated definition ended the way the model function did, in the state that stands for the model's -/
def Matches (g : Res (Gen.Py.Sess.St δ) Unit) (m : Out (St δ)) : Prop :=
  match m with
  | .ok s => ∃ x, g = .ok () (enc s x)
  | .raised s => ∃ x e, e ≠ Err.fuel ∧ g = .raised e (enc s x)

theorem Matches.ok {s : St δ} (x : Extra) : Matches (.ok () (enc s x)) (.ok s) := ⟨x, rfl⟩
theorem Matches.raised {s : St δ} (x : Extra) (e : Err) (h : e ≠ .fuel) : Matches (.raised e (enc s x)) (.raised s) := ⟨x, e, h, rfl⟩

/-- the exception classes of the externals (any, except the out-of-fuel marker) -/
structure Kinds (δ : Type) where
  dec : δ → Rec → Bool → Err
  upd : δ → Bool → Err
  gk : Option Ver → Bytes → Bytes → Bytes → Err
  dec_ne : ∀ d r b, dec d r b ≠ .fuel
  upd_ne : ∀ d b, upd d b ≠ .fuel
  gk_ne : ∀ v a b c, gk v a b c ≠ .fuel

/-- `Decryptor.decrypt` as the model's `Ops.decrypt` describes it -/
def decE (O : Ops δ) (K : Kinds δ) (d : δ) (r : Rec) (srv : Bool) : Res δ (Option Bytes) :=
  match O.decrypt d r srv with
  | (d', none) => .raised (K.dec d r srv) d'
  | (d', some v) => .ok v d'

/-- `Decryptor.update_keys` as the model's `Ops.updateKeys` describes it -/
def updE (O : Ops δ) (K : Kinds δ) (d : δ) (srv : Bool) : Res δ Unit :=
  match O.updateKeys d srv with
  | (d', false) => .raised (K.upd d srv) d'
  | (d', true) => .ok () d'

/-- `Session.generate_keys` as the model's `Ops.genKeys` describes it: its four outcomes write `can_decrypt` / `decryptor` -/
def gkE (O : Ops δ) (K : Kinds δ) (v : Option Ver) (suite cr sr : Bytes) (exts : Option (List (Bytes × Bytes))) (comp : Option Nat)
    (cd : Bool) (dec : Option δ) : Res (Bool × Option δ) Unit :=
  match exts, comp with
  | some t, some c =>
    match O.genKeys v suite cr sr t (UInt8.ofNat c) with
    | .noSuite => .ok () (false, dec)
    | .noSecrets => .ok () (false, dec)
    | .raised => .raised (K.gk v suite cr sr) (cd, dec)
    | .installed d => .ok () (cd, some d)
  | _, _ => .raised .attr (cd, dec)

/-- `generate_keys` reads `self.extensions` as a dict: what it does depends only on what `.get` finds -/
def ReadsExtsAsDict (O : Ops δ) : Prop :=
  ∀ v suite cr sr c (e e' : Exts), (∀ k, extGet e k = extGet e' k) → O.genKeys v suite cr sr e c = O.genKeys v suite cr sr e' c

@[simp] theorem enc_can_decrypt (s : St δ) (x : Extra) : (enc s x).can_decrypt = s.canDecrypt := rfl
@[simp] theorem enc_chseen (s : St δ) (x : Extra) : (enc s x).client_hello_seen = s.chSeen := rfl
@[simp] theorem enc_ver (s : St δ) (x : Extra) : (enc s x).tls_version = s.ver := rfl
@[simp] theorem enc_srvcc (s : St δ) (x : Extra) : (enc s x).server_cipher_change = s.srvCC := rfl
@[simp] theorem enc_clicc (s : St δ) (x : Extra) : (enc s x).client_cipher_change = s.cliCC := rfl
@[simp] theorem enc_dec (s : St δ) (x : Extra) : (enc s x).decryptor = s.dec := rfl
@[simp] theorem enc_cr (s : St δ) (x : Extra) : (enc s x).client_random = s.cr := rfl
@[simp] theorem enc_sr (s : St δ) (x : Extra) : (enc s x).server_random = x.server_random := rfl
@[simp] theorem enc_suite (s : St δ) (x : Extra) : (enc s x).ciphersuite = x.ciphersuite := rfl
@[simp] theorem enc_comp (s : St δ) (x : Extra) : (enc s x).compression_method = x.compression_method := rfl
@[simp] theorem enc_exts (s : St δ) (x : Extra) : (enc s x).extensions = x.extensions := rfl
@[simp] theorem enc_traffic (s : St δ) (x : Extra) : (enc s x).application_traffic = s.traffic.map ofEntry := rfl
@[simp] theorem enc_hsbuf (s : St δ) (x : Extra) : (enc s x).handshake_13_buffer = (s.hsBufC, s.hsBufS) := rfl

@[simp] theorem enc_set_dec (s : St δ) (x : Extra) (d : Option δ) :
    { enc s x with decryptor := d } = enc { s with dec := d } x := rfl
@[simp] theorem enc_set_cd (s : St δ) (x : Extra) (b : Bool) :
    { enc s x with can_decrypt := b } = enc { s with canDecrypt := b } x := rfl
@[simp] theorem enc_set_ver (s : St δ) (x : Extra) (v : Option Ver) :
    { enc s x with tls_version := v } = enc { s with ver := v } x := rfl
@[simp] theorem enc_set_srvcc (s : St δ) (x : Extra) (b : Bool) :
    { enc s x with server_cipher_change := b } = enc { s with srvCC := b } x := rfl
@[simp] theorem enc_set_clicc (s : St δ) (x : Extra) (b : Bool) :
    { enc s x with client_cipher_change := b } = enc { s with cliCC := b } x := rfl
@[simp] theorem enc_set_sr (s : St δ) (x : Extra) (v : Option Bytes) :
    { enc s x with server_random := v } = enc s { x with server_random := v } := rfl
@[simp] theorem enc_set_suite (s : St δ) (x : Extra) (v : Option Bytes) :
    { enc s x with ciphersuite := v } = enc s { x with ciphersuite := v } := rfl
@[simp] theorem enc_set_comp (s : St δ) (x : Extra) (v : Option Nat) :
    { enc s x with compression_method := v } = enc s { x with compression_method := v } := rfl
@[simp] theorem enc_set_exts (s : St δ) (x : Extra) (v : Option (List (Bytes × Bytes))) :
    { enc s x with extensions := v } = enc s { x with extensions := v } := rfl
/-- appending to `application_traffic` is the model's `push` (whatever the ghost tag) -/
theorem enc_push (s : St δ) (x : Extra) (e : Entry) :
    { enc s x with application_traffic := List.map ofEntry s.traffic ++ [(e.data, e.record, e.fromServer)] } = enc (s.push e) x := by
  simp [enc, St.push, ofEntry]
theorem enc_set_hsbuf (s : St δ) (x : Extra) (a b : Bytes) :
    { enc s x with handshake_13_buffer := (a, b) } = enc { s with hsBufC := a, hsBufS := b } x := rfl

theorem handle_alert_eq_model (s : St δ) (x : Extra) (level : UInt8) (m : Bool) :
    Gen.Py.Sess.handle_alert level.toNat m (enc s x) = .ok () (enc (alert s level) x) := by
  unfold Gen.Py.Sess.handle_alert alert
  have h1 : (level.toNat = 1) = (level = 1) := toNat_eq_iff level 1 (by decide)
  by_cases h : level = 1 <;> by_cases h2 : s.ver = some .tls13 <;> simp [h1, h, h2, enc]

theorem handle_tls_client_hello_eq_model (s : St δ) (x : Extra) (r : Rec) (m : Bool) :
    Gen.Py.Sess.handle_tls_client_hello r m (enc s x) = .ok () (enc (clientHello s r) x) := rfl

theorem decE_none (O : Ops δ) (K : Kinds δ) (d d' : δ) (r : Rec) (srv : Bool) (h : O.decrypt d r srv = (d', none)) :
    decE O K d r srv = .raised (K.dec d r srv) d' := by simp [decE, h]
theorem decE_some (O : Ops δ) (K : Kinds δ) (d d' : δ) (r : Rec) (srv : Bool) (v : Option Bytes) (h : O.decrypt d r srv = (d', some v)) :
    decE O K d r srv = .ok v d' := by simp [decE, h]

theorem handle_handshake_finished_eq_model (O : Ops δ) (K : Kinds δ) (s : St δ) (x : Extra) (r : Rec) (srv m : Bool) :
    Matches (Gen.Py.Sess.handle_handshake_finished (decE O K) r srv m (enc s x)) (handshakeFinished O m s r srv) := by
  obtain ⟨cd, chs, ver, scc, ccc, dec, cr, tr, hc, hs⟩ := s
  unfold Gen.Py.Sess.handle_handshake_finished handshakeFinished
  cases dec with
  | none => exact ⟨x, rfl⟩
  | some d =>
    -- the two tests are exclusive (`isserver` / `not isserver`): one test is left per direction, and at most one decryption
    cases srv <;> simp only [enc, Option.isNone_some, attrE_some, tryE_ok, Bool.and_false, Bool.and_true, Bool.not_false, Bool.not_true,
      Bool.false_and, Bool.false_or, Bool.or_false, Bool.false_eq_true, if_false]
    case' false => generalize (ccc && cd) = fires
    case' true => generalize (scc && cd) = fires
    all_goals
      cases fires
      · cases m
        · exact ⟨x, rfl⟩
        · exact ⟨x, _, by decide, rfl⟩
      · cases h : O.decrypt d r _ with
        | mk d' o =>
          cases o with
          | none =>
            simp only [if_true, decE_none O K d d' r _ h, tryR_raised]
            exact ⟨x, _, K.dec_ne _ _ _, rfl⟩
          | some pt =>
            simp only [if_true, decE_some O K d d' r _ pt h, tryR_ok]
            cases m && decide (pt ≠ some [])
            · exact ⟨x, rfl⟩
            · exact ⟨x, by simp [enc, St.push, ofEntry]⟩

theorem handle_tls_application_record_eq_model (O : Ops δ) (K : Kinds δ) (s : St δ) (x : Extra) (r : Rec) (srv m : Bool) :
    Matches (Gen.Py.Sess.handle_tls_application_record (decE O K) r srv m (enc s x)) (appLegacy O s r srv) := by
  obtain ⟨cd, chs, ver, scc, ccc, dec, cr, tr, hc, hs⟩ := s
  unfold Gen.Py.Sess.handle_tls_application_record appLegacy
  cases dec with
  | none => exact ⟨x, rfl⟩
  | some d =>
    cases h : O.decrypt d r srv with
    | mk d' o =>
      cases o with
      | none =>
        have h1 := decE_none O K d d' r srv h
        simp only [enc, attrE_some, tryE_ok, h1, h, tryR_raised, decide_ne_fuel (K.dec_ne d r srv), if_true]
        exact ⟨x, rfl⟩
      | some pt =>
        have h2 := decE_some O K d d' r srv pt h
        simp only [enc, attrE_some, tryE_ok, h2, h, tryR_ok]
        exact ⟨x, by simp [enc, St.push, ofEntry]⟩

abbrev G (δ : Type) := Gen.Py.Sess.St δ

/-- `self.handshake_13_buffer[isserver] = b` -/
def setBuf (srv : Bool) (g : G δ) (b : Bytes) : G δ :=
  { g with handshake_13_buffer := if srv then (g.handshake_13_buffer.1, b) else (b, g.handshake_13_buffer.2) }

/-- one round of the `while len(buffer) >= 4` loop as the translation spells it -/
def hsBody (upd : δ → Bool → Res δ Unit) (srv : Bool) (buffer : Bytes) (g : G δ) :
    Except Err (Step (Bytes × G δ) (Res (G δ) Unit)) :=
  tryE (getItem buffer 0) (fun e => .ok (.ret (.raised e g))) fun ht =>
    if decide (buffer.length < Bytes.beNat (Bytes.slice buffer 1 4) + 4) then .ok (.brk (buffer, g))
    else
      let rest := buffer.drop (Bytes.beNat (Bytes.slice buffer 1 4) + 4)
      let g' := setBuf srv g rest
      if decide (ht = 20) then
        tryE (attrE g'.decryptor) (fun e => .ok (.ret (.raised e g'))) fun d =>
          tryR (upd d srv) (fun e d' => .ok (.ret (.raised e { g' with decryptor := some d' })))
            (fun _ d' => .ok (.next (rest, { g' with decryptor := some d' })))
      else .ok (.next (rest, g'))

/-- how `hs13Loop` ended, as the session state -/
def hsOut (s : St δ) (srv : Bool) (r : δ × Bytes × Bool) : Out (St δ) :=
  if r.2.2 then .ok ({ s with dec := some r.1 }.setHsBuf srv r.2.1) else .raised ({ s with dec := some r.1 }.setHsBuf srv r.2.1)

theorem setBuf_enc (srv : Bool) (s : St δ) (x : Extra) (b : Bytes) : setBuf srv (enc s x) b = enc (s.setHsBuf srv b) x := by
  cases srv <;> rfl

theorem setHsBuf_twice (srv : Bool) (s : St δ) (d : Option δ) (a b : Bytes) :
    ({ (s.setHsBuf srv a) with dec := d }).setHsBuf srv b = ({ s with dec := d }).setHsBuf srv b := by
  cases srv <;> rfl

theorem with_dec_self (s : St δ) (d : δ) (h : s.dec = some d) : { s with dec := some d } = s := by
  cases s; simp only at h; subst h; rfl

@[simp] theorem setHsBuf_dec (srv : Bool) (s : St δ) (b : Bytes) : (s.setHsBuf srv b).dec = s.dec := by
  cases srv <;> rfl

theorem updE_true (O : Ops δ) (K : Kinds δ) (d d' : δ) (srv : Bool) (h : O.updateKeys d srv = (d', true)) :
    updE O K d srv = .ok () d' := by simp [updE, h]
theorem updE_false (O : Ops δ) (K : Kinds δ) (d d' : δ) (srv : Bool) (h : O.updateKeys d srv = (d', false)) :
    updE O K d srv = .raised (K.upd d srv) d' := by simp [updE, h]

theorem hs13_loop (O : Ops δ) (K : Kinds δ) (srv : Bool) (x : Extra) (g0 : G δ) :
    ∀ (n : Nat) (buf : Bytes) (s : St δ) (d : δ), s.dec = some d → buf.length ≤ n →
      Matches (loopS (whileS n (buf, enc s x) (fun p => decide (p.1.length ≥ 4)) (fun p => hsBody (updE O K) srv p.1 p.2))
                (fun e => .raised e g0) (fun r => r) (fun p => .ok () (setBuf srv p.2 p.1)))
              (hsOut s srv (hs13Loop O srv n buf d)) := by
  intro n
  induction n with
  | zero =>
    intro buf s d hd hn
    have : buf = [] := List.eq_nil_of_length_eq_zero (by omega)
    subst this
    simp only [whileS, hs13Loop, hsOut, List.length_nil, ge_iff_le, show decide (4 ≤ 0) = false from by decide, Bool.false_eq_true,
      if_false, loopS_next, setBuf_enc, if_true, with_dec_self s d hd]
    exact ⟨x, rfl⟩
  | succ n ih =>
    intro buf s d hd hn
    by_cases h4 : buf.length < 4
    · have hc4 : decide (buf.length ≥ 4) = false := by simp; omega
      simp only [whileS, hs13Loop, hsOut, hc4, h4, Bool.false_eq_true, if_false, loopS_next, setBuf_enc, if_true, with_dec_self s d hd]
      exact ⟨x, rfl⟩
    · have hc4 : decide (buf.length ≥ 4) = true := by simp; omega
      cases buf with
      | nil => simp at h4
      | cons t rest0 =>
        have ht : (t.toNat = 20) = (t = 20) := toNat_eq_iff t 20 (by decide)
        simp only [whileS, hs13Loop, hc4, h4, if_true, if_false, List.head?_cons, hsBody, getItem_cons_zero, tryE_ok, ht]
        -- the message at the front: `len` bytes with its header, `rest` what follows it
        generalize hlen : Bytes.beNat (Bytes.slice (t :: rest0) 1 4) + 4 = len
        by_cases hL : (t :: rest0).length < len
        · simp only [hL, decide_true, if_true, loopS_next, setBuf_enc, hsOut, with_dec_self s d hd]
          exact ⟨x, rfl⟩
        · have hr : ((t :: rest0).drop len).length ≤ n := by
            simp only [List.length_drop]; simp only [List.length_cons] at hn ⊢; omega
          generalize (t :: rest0).drop len = rest at hr ⊢
          simp only [hL, decide_false, Bool.false_eq_true, if_false, setBuf_enc]
          by_cases h20 : t = 20
          · simp only [h20, decide_true, if_true, enc_dec, setHsBuf_dec, hd, attrE_some, tryE_ok]
            cases hu : O.updateKeys d srv with
            | mk d' b =>
              cases b with
              | true =>
                simp only [updE_true O K d d' srv hu, tryR_ok, enc_set_dec]
                have := ih rest { s.setHsBuf srv rest with dec := some d' } d' rfl hr
                simp only [hsOut, setHsBuf_twice] at this ⊢
                exact this
              | false =>
                simp only [updE_false O K d d' srv hu, tryR_raised, loopS_ret, enc_set_dec, hsOut, Bool.false_eq_true, if_false]
                exact ⟨x, K.upd d srv, K.upd_ne d srv, by cases srv <;> rfl⟩
          · simp only [h20, decide_false, Bool.false_eq_true, if_false]
            have := ih rest (s.setHsBuf srv rest) d (by rw [setHsBuf_dec]; exact hd) hr
            simp only [hsOut, setHsBuf_twice] at this ⊢
            exact this
/-- `handle_decrypted_tls_13_handshake_record` on a session that has a decryptor (the only caller, `handle_tls_13_application_record`,
    has just used it) is the model's `hs13Loop` over the direction's buffer + the new bytes, and what `app13` does with its result -/
theorem handle_decrypted_tls_13_handshake_record_eq_model (O : Ops δ) (K : Kinds δ) (s : St δ) (x : Extra) (d : δ)
    (hd : s.dec = some d) (pt : Bytes) (srv m : Bool) :
    Matches (Gen.Py.Sess.handle_decrypted_tls_13_handshake_record (updE O K) pt srv m (enc s x))
      (hsOut s srv (hs13Loop O srv (s.hsBuf srv ++ pt).length (s.hsBuf srv ++ pt) d)) := by
  unfold Gen.Py.Sess.handle_decrypted_tls_13_handshake_record
  cases srv <;> exact hs13_loop O K _ x _ _ _ s d hd (Nat.le_refl _)

/-- a `Matches` result under `try: … except Exception: <handler>` with nothing after it (`F`: the handler on the translated state,
    `f`: the same on the model's; `pass` is `id`) -/
theorem matches_caught (F : G δ → G δ) (f : St δ → St δ) (hF : ∀ s x, F (enc s x) = enc (f s) x)
    (g : Res (G δ) Unit) (mo : Out (St δ)) (h : Matches g mo) :
    Matches (tryR g (fun e st' => if decide (e ≠ Err.fuel) then Res.ok () (F st') else Res.raised e st') (fun _ st' => Res.ok () st'))
      (tryExcept mo f) := by
  cases mo with
  | ok s1 =>
    obtain ⟨x1, rfl⟩ := h
    exact ⟨x1, rfl⟩
  | raised s1 =>
    obtain ⟨x1, e, he, rfl⟩ := h
    simp only [tryR_raised, decide_ne_fuel he, if_true, hF]
    exact ⟨x1, rfl⟩

theorem hs_match (r : δ × Bytes × Bool) (A B : δ → Bytes → Out (St δ)) :
    (match r with | (d2, b, true) => A d2 b | (d2, b, false) => B d2 b) = if r.2.2 then A r.1 r.2.1 else B r.1 r.2.1 := by
  rcases r with ⟨d2, b, ok⟩
  cases ok <;> rfl

theorem rstrip_zero' (b : Bytes) : rstrip b [0] = rstrip0 b := rstrip_zero b

theorem last_concat (l : Bytes) (a : UInt8) : (l ++ [a]).drop ((l ++ [a]).length - 1) = [a] := by
  simp

theorem handle_tls_13_application_record_eq_model (O : Ops δ) (K : Kinds δ) (s : St δ) (x : Extra) (r : Rec) (srv m : Bool) :
    Matches (Gen.Py.Sess.handle_tls_13_application_record (decE O K) (updE O K) r srv m (enc s x)) (tryExcept (app13 O s r srv) id) := by
  unfold Gen.Py.Sess.handle_tls_13_application_record app13
  simp only [enc_dec]
  cases hd : s.dec with
  | none => exact ⟨x, rfl⟩
  | some d =>
    simp only [attrE_some, tryE_ok]
    cases h : O.decrypt d r srv with
    | mk d1 o =>
      rcases o with _ | _ | pt
      · simp only [decE_none O K d d1 r srv h, tryR_raised, decide_ne_fuel (K.dec_ne d r srv), if_true, enc_set_dec]
        exact ⟨x, rfl⟩
      · simp only [decE_some O K d d1 r srv _ h, tryR_ok, attrE_none, tryE_error, enc_set_dec]
        exact ⟨x, rfl⟩
      · simp only [decE_some O K d d1 r srv _ h, tryR_ok, attrE_some, tryE_ok, enc_set_dec, rstrip_zero', pySlice_last, pySlice_init]
        generalize rstrip0 pt = p
        rcases List.eq_nil_or_concat p with rfl | ⟨l, a, rfl⟩
        · exact ⟨x, rfl⟩
        · simp only [List.concat_eq_append, last_concat, List.dropLast_concat, List.getLast?_append, List.getLast?_singleton, Option.some_or,
            List.cons.injEq, and_true, Bool.false_eq_true, if_false]
          by_cases h16 : a = 22
          · simp only [h16, decide_true, if_true]
            have := handle_decrypted_tls_13_handshake_record_eq_model O K { s with dec := some d1 } x d1 rfl l srv m
            have e : ({ s with dec := some d1 } : St δ).hsBuf srv = s.hsBuf srv := by cases srv <;> rfl
            simp only [e] at this
            generalize hs13Loop O srv _ _ d1 = res at this ⊢
            rcases res with ⟨d2, b, ok⟩
            cases ok <;> exact matches_caught id id (fun _ _ => rfl) _ _ this
          · simp only [h16, decide_false, Bool.false_eq_true, if_false]
            by_cases h17 : a = 23
            · simp only [h17, decide_true, if_true]
              exact ⟨x, by simp [enc, St.push, ofEntry]⟩
            · simp only [h17, decide_false, Bool.false_eq_true, if_false]
              exact ⟨x, rfl⟩

/-- `extGet` is `dict.get` on the list of entries -/
theorem extGet_snoc (acc : Exts) (k k' v : Bytes) : extGet (acc ++ [(k, v)]) k' = if k' = k then some v else extGet acc k' := by
  have e : ∀ a : Exts, extGet a k' = tableGet a k' := fun _ => rfl
  rw [e, e, tableGet_concat]
  by_cases hk : k' = k
  · rw [if_pos hk.symm, if_pos hk]
  · rw [if_neg (Ne.symm hk), if_neg hk]

/-- one round of the `while extensions_index < extensions_length` loop as the translation spells it -/
def extBody (ebin : Bytes) (p : G δ × Nat) : Except Err (Step (G δ × Nat) (Res (G δ) Unit)) :=
  tryE (attrE p.1.extensions) (fun e => .ok (.ret (.raised e p.1))) fun t =>
    .ok (.next ({ p.1 with extensions := some (tableSet t (Bytes.slice ebin p.2 (p.2 + 2))
                    (Bytes.slice ebin (p.2 + 4) (p.2 + 4 + Bytes.beNat (Bytes.slice ebin (p.2 + 2) (p.2 + 4))))) },
                 p.2 + (Bytes.beNat (Bytes.slice ebin (p.2 + 2) (p.2 + 4)) + 4)))

theorem ext_loop (ebin : Bytes) (elen : Nat) (s : St δ) (a b : Option Bytes) (c : Option Nat) :
    ∀ (fuel i : Nat) (t : List (Bytes × Bytes)) (acc : Exts), (∀ k, tableGet t k = extGet acc k) → elen ≤ i + fuel →
      ∃ t' i', whileS fuel (enc s ⟨a, b, c, some t⟩, i) (fun p => decide (p.2 < elen)) (extBody ebin)
                 = (.ok (.next (enc s ⟨a, b, c, some t'⟩, i')) : Except Err (Step (G δ × Nat) (Res (G δ) Unit)))
               ∧ ∀ k, tableGet t' k = extGet (extLoop ebin elen fuel i acc) k := by
  intro fuel
  induction fuel with
  | zero =>
    intro i t acc ht hf
    have : decide (i < elen) = false := by simp; omega
    exact ⟨t, i, by simp only [whileS, this, Bool.false_eq_true, if_false], by simpa only [extLoop] using ht⟩
  | succ n ih =>
    intro i t acc ht hf
    by_cases hi : i < elen
    · simp only [whileS, extLoop, hi, decide_true, if_true, extBody, enc_exts, attrE_some, tryE_ok, enc_set_exts]
      apply ih
      · intro k
        rw [tableGet_tableSet, extGet_snoc, ht]
      · omega
    · have : decide (i < elen) = false := by simp; omega
      exact ⟨t, i, by simp only [whileS, this, Bool.false_eq_true, if_false], by simpa only [extLoop, hi, if_false] using ht⟩

theorem latch_enc (s : St δ) (x : Extra) :
    (if (enc s x).client_hello_seen = true then { enc s x with can_decrypt := true } else enc s x) = enc (latch s) x := by
  obtain ⟨cd, chs, ver, scc, ccc, dec, cr, tr, hc, hs⟩ := s
  cases chs <;> rfl

theorem enc_set_sr_suite (s : St δ) (x : Extra) (a b : Option Bytes) :
    { enc s x with server_random := a, ciphersuite := b } = enc s { x with server_random := a, ciphersuite := b } := rfl
theorem enc_set_sr_suite_comp (s : St δ) (x : Extra) (a b : Option Bytes) (c : Option Nat) :
    { enc s x with server_random := a, ciphersuite := b, compression_method := c } = enc s { x with server_random := a, ciphersuite := b, compression_method := c } := rfl
theorem enc_set_all (s : St δ) (x : Extra) (a b : Option Bytes) (c : Option Nat) (e : Option (List (Bytes × Bytes))) :
    { enc s x with server_random := a, ciphersuite := b, compression_method := c, extensions := e } = enc s ⟨a, b, c, e⟩ := rfl

theorem choose_enc (s1 : St δ) (x1 : Extra) (rv hv : Nat) (is13 : Bool) :
    (if decide (rv = 768) = true then { enc s1 x1 with tls_version := some Ver.ssl30 }
     else if decide (rv = 770) = true then { enc s1 x1 with tls_version := some Ver.tls11 }
     else if decide (hv = 769) = true then { enc s1 x1 with tls_version := some Ver.tls10 }
     else if decide (hv = 771) = true then
       (if is13 = true then { enc s1 x1 with tls_version := some Ver.tls13 } else { enc s1 x1 with tls_version := some Ver.tls12 })
     else { enc s1 x1 with can_decrypt := false }) = enc (chooseVersion s1 rv hv is13) x1 := by
  unfold chooseVersion
  simp only [decide_eq_true_eq, apply_ite (enc · x1), enc_set_ver, enc_set_cd]

theorem handle_tls_server_hello_eq_model (O : Ops δ) (hO : ReadsExtsAsDict O) (K : Kinds δ) (s : St δ) (x : Extra) (r : Rec) (m : Bool) :
    Matches (Gen.Py.Sess.handle_tls_server_hello (gkE O K) r m (enc s x)) (serverHello O s r) := by
  unfold Gen.Py.Sess.handle_tls_server_hello serverHello
  simp only [latch_enc, enc_set_sr, getItem_nat]
  cases h38 : r.body[38]? with
  | none => exact ⟨_, _, by decide, rfl⟩
  | some sid =>
    have e1 : 38 + (sid.toNat + 1) = 38 + sid.toNat + 1 := by omega
    simp only [tryE_ok, enc_set_all, e1]
    cases hc : r.body[38 + sid.toNat + 1 + 2]? with
    | none => exact ⟨_, _, by decide, rfl⟩
    | some comp =>
      simp only [tryE_ok]
      generalize (r.body.slice (38 + sid.toNat + 1 + 3) (38 + sid.toNat + 1 + 5)).beNat = elen
      generalize r.body.slice (38 + sid.toNat + 1 + 5) (38 + sid.toNat + 1 + 5 + elen) = ebin
      obtain ⟨t', i', hw, hget⟩ := ext_loop (δ := δ) ebin elen (latch s) (some (r.body.slice 6 38))
        (some (r.body.slice (38 + sid.toNat + 1) (38 + sid.toNat + 1 + 2))) (some comp.toNat) elen 0 [] [] (fun k => rfl) (by omega)
      erw [hw]
      simp only [loopS_next, choose_enc]
      simp only [enc_exts, attrE_some, tryE_ok, enc_suite, enc_cr, enc_sr, enc_comp]
      have his : (if decide (tableGet t' [0, 43] = some [3, 4]) = true then true else false)
          = decide (extGet (parseExts ebin elen) [0, 0x2b] = some [3, 4]) := by
        have ite_id : ∀ b : Bool, (if b = true then true else false) = b := by intro b; cases b <;> rfl
        rw [ite_id, hget]; rfl
      simp only [his]
      generalize chooseVersion (latch s) _ _ _ = s2
      unfold serverHelloKeys
      obtain ⟨cd2, chs2, ver2, scc2, ccc2, dec2, cr2, tr2, hc2, hs2⟩ := s2
      cases cr2 with
      | none => exact ⟨_, _, by decide, rfl⟩
      | some cr =>
        simp only [attrE_some, tryE_ok, gkE, enc_ver, enc_can_decrypt, enc_dec, UInt8.ofNat_toNat]
        rw [hO ver2 _ cr _ comp t' (parseExts _ _) (fun k => hget k)]
        cases O.genKeys ver2 _ cr _ (parseExts _ _) comp with
        | noSuite => exact ⟨⟨_, _, _, _⟩, rfl⟩
        | noSecrets => exact ⟨⟨_, _, _, _⟩, rfl⟩
        | raised =>
          exact ⟨⟨_, _, _, _⟩, _, K.gk_ne _ _ _ _, rfl⟩
        | installed d => exact ⟨⟨_, _, _, _⟩, rfl⟩

theorem handle_tls_handshake_record_eq_model (O : Ops δ) (hO : ReadsExtsAsDict O) (K : Kinds δ) (s : St δ) (x : Extra) (r : Rec) (srv m : Bool) :
    Matches (Gen.Py.Sess.handle_tls_handshake_record (decE O K) (gkE O K) r srv m (enc s x)) (handshakeRecord O m s r srv) := by
  unfold Gen.Py.Sess.handle_tls_handshake_record handshakeRecord
  simp only [enc_srvcc, enc_clicc]
  by_cases hcc : (s.srvCC || s.cliCC) = true
  · simp only [hcc, if_true]
    exact matches_caught id id (fun _ _ => rfl) _ _ (handle_handshake_finished_eq_model O K s x r srv m)
  · simp only [hcc]
    cases hb : r.body with
    | nil => exact ⟨x, rfl⟩
    | cons t tail =>
      have h1 : (t.toNat = 1) = (t = 1) := toNat_eq_iff t 1 (by decide)
      have h2 : (t.toNat = 2) = (t = 2) := toNat_eq_iff t 2 (by decide)
      simp only [List.length_cons, Nat.add_one_ne_zero, decide_false, Bool.false_eq_true, if_false, getItem_cons_zero, tryE_ok, h1, h2]
      by_cases t1 : t = 1
      · simp only [t1, decide_true, if_true, handle_tls_client_hello_eq_model, tryR_ok]
        exact ⟨x, rfl⟩
      · simp only [t1, decide_false, Bool.false_eq_true, if_false]
        by_cases t2 : t = 2
        · simp only [t2, decide_true, if_true]
          exact matches_caught (fun g => { g with can_decrypt := false }) _ (fun _ _ => rfl) _ _ (handle_tls_server_hello_eq_model O hO K s x r m)
        · simp only [t2, decide_false, Bool.false_eq_true, if_false]
          exact matches_caught id id (fun _ _ => rfl) _ _ (handle_handshake_finished_eq_model O K s x r srv m)

theorem pushMeta_enc (m : Bool) (s1 : St δ) (x : Extra) (r : Rec) (srv : Bool) :
    (if m = true then { enc s1 x with application_traffic := (enc s1 x).application_traffic ++ [(some r.raw, r, srv)] } else enc s1 x)
      = enc (pushMeta m s1 r srv) x := by
  cases m <;> simp [enc, pushMeta, St.push, ofEntry]

/-- a `Matches` result followed by the meta-data export of `handle_tls_record` -/
theorem matches_then_meta (g : Res (G δ) Unit) (mo : Out (St δ)) (m : Bool) (r : Rec) (srv : Bool) :
    Matches g mo → Matches (tryR g (fun e st' => Res.raised e st')
               (fun _ st' => Res.ok () (if m = true then { st' with application_traffic := st'.application_traffic ++ [(some r.raw, r, srv)] } else st')))
      (match mo with | .ok s1 => .ok (pushMeta m s1 r srv) | .raised s1 => .raised s1) := by
  intro h
  cases mo with
  | ok s1 =>
    obtain ⟨x1, rfl⟩ := h
    simp only [tryR_ok, pushMeta_enc]
    exact ⟨x1, rfl⟩
  | raised s1 =>
    obtain ⟨x1, e, he, rfl⟩ := h
    exact ⟨x1, e, he, rfl⟩

theorem handle_tls_record_eq_model (O : Ops δ) (hO : ReadsExtsAsDict O) (K : Kinds δ) (s : St δ) (x : Extra) (r : Rec) (srv m : Bool) :
    Matches (Gen.Py.Sess.handle_tls_record (decE O K) (updE O K) (gkE O K) r srv m (enc s x)) (handleRecordRaw O m s r srv) := by
  unfold Gen.Py.Sess.handle_tls_record handleRecordRaw Gen.Py.Sess.recType Rec.typ
  rcases hraw : r.raw with _ | ⟨t, rest⟩
  · exact ⟨x, rfl⟩
  · simp only [List.headD_cons, List.head?_cons, toNat_eq_iff t 22 (by decide), toNat_eq_iff t 23 (by decide), toNat_eq_iff t 21 (by decide),
      toNat_eq_iff t 20 (by decide), UInt8.reduceOfNat, decide_eq_true_eq]
    rw [← hraw]
    by_cases t22 : t = 22
    · rw [if_pos t22, if_pos t22]
      exact matches_then_meta _ _ m r srv (handle_tls_handshake_record_eq_model O hO K s x r srv m)
    · rw [if_neg t22, if_neg t22]
      by_cases t23 : t = 23
      · rw [if_pos t23, if_pos t23]
        simp only [enc_can_decrypt, enc_dec, enc_ver, tryR_id]
        obtain ⟨cd, chs, ver, scc, ccc, dec, cr, tr, hc, hs⟩ := s
        rcases dec with _ | d
        · cases cd <;> exact ⟨x, rfl⟩
        · cases cd
          · exact ⟨x, rfl⟩
          · rcases ver with _ | v
            · exact ⟨x, rfl⟩
            · cases v
              all_goals simp only [Option.isNone_some, Bool.not_false, Bool.and_true, if_true, Option.some.injEq, reduceCtorEq, if_false]
              case tls13 => exact handle_tls_13_application_record_eq_model O K _ x r srv m
              all_goals exact handle_tls_application_record_eq_model O K _ x r srv m
      · rw [if_neg t23, if_neg t23]
        by_cases t21 : t = 21
        · rw [if_pos t21, if_pos t21]
          cases hb : r.body with
          | nil =>
            simp only [List.length_nil, gt_iff_lt, Nat.lt_irrefl, if_false, pushMeta_enc]
            exact ⟨x, rfl⟩
          | cons lvl tail =>
            simp only [List.length_cons, gt_iff_lt, Nat.zero_lt_succ, if_true, getItem_cons_zero, tryE_ok,
              handle_alert_eq_model, tryR_ok, pushMeta_enc]
            exact ⟨x, rfl⟩
        · rw [if_neg t21, if_neg t21]
          by_cases t20 : t = 20
          · rw [if_pos t20, if_pos t20]
            cases srv <;> cases m <;> exact ⟨x, by simp [enc, pushMeta, St.push, ofEntry]⟩
          · rw [if_neg t20, if_neg t20]
            exact ⟨x, rfl⟩
/-- the attributes the model carries, as the translated state shows them -/
def view (g : G δ) : Bool × Bool × Option Ver × Bool × Bool × Option δ × Option Bytes × List (Option Bytes × Rec × Bool) × Bytes × Bytes :=
  (g.can_decrypt, g.client_hello_seen, g.tls_version, g.server_cipher_change, g.client_cipher_change, g.decryptor, g.client_random,
   g.application_traffic, g.handshake_13_buffer.1, g.handshake_13_buffer.2)

/-- … and as the model state shows them -/
def viewM (s : St δ) : Bool × Bool × Option Ver × Bool × Bool × Option δ × Option Bytes × List (Option Bytes × Rec × Bool) × Bytes × Bytes :=
  (s.canDecrypt, s.chSeen, s.ver, s.srvCC, s.cliCC, s.dec, s.cr, s.traffic.map ofEntry, s.hsBufC, s.hsBufS)

/-- how a translated call ended and the view of the state it left -/
def outView (g : Res (G δ) Unit) : Bool × (Bool × Bool × Option Ver × Bool × Bool × Option δ × Option Bytes × List (Option Bytes × Rec × Bool) × Bytes × Bytes) :=
  match g with
  | .ok _ st => (true, view st)
  | .raised _ st => (false, view st)

theorem view_enc (s : St δ) (x : Extra) : view (enc s x) = viewM s := rfl

/-- `handle_tls_record` as an equation: the translated definition on any state that shows the model state `s` returns / raises as
    `handleRecordRaw` does and leaves a state that shows the model's -/
theorem handle_tls_record_view (O : Ops δ) (hO : ReadsExtsAsDict O) (K : Kinds δ) (s : St δ) (x : Extra) (r : Rec) (srv m : Bool) :
    outView (Gen.Py.Sess.handle_tls_record (decE O K) (updE O K) (gkE O K) r srv m (enc s x)) =
      ((handleRecordRaw O m s r srv).isOk, viewM (handleRecordRaw O m s r srv).st) := by
  have h := handle_tls_record_eq_model O hO K s x r srv m
  cases hm : handleRecordRaw O m s r srv with
  | ok s1 =>
    rw [hm] at h
    obtain ⟨x1, h⟩ := h
    rw [h]; rfl
  | raised s1 =>
    rw [hm] at h
    obtain ⟨x1, e, _, h⟩ := h
    rw [h]; rfl

theorem run_records (O : Ops δ) (hO : ReadsExtsAsDict O) (K : Kinds δ) (srv m : Bool) (g0 : G δ) :
    ∀ (recs : List Rec) (s : St δ) (x : Extra),
      Matches (loopS (forS recs (enc s x) (fun py_s record =>
                  tryR (Gen.Py.Sess.handle_tls_record (decE O K) (updE O K) (gkE O K) record srv m py_s)
                    (fun e st' => (.ok (.ret (.raised e st')) : Except Err (Step (G δ) (Res (G δ) Unit)))) (fun _ st' => .ok (.next st'))))
                (fun e => .raised e g0) (fun r => r) (fun py_s => .ok () py_s))
        (runRaw O m s (recs.map fun r => (r, srv))) := by
  intro recs
  induction recs with
  | nil => intro s x; exact ⟨x, rfl⟩
  | cons r rest ih =>
    intro s x
    have h := handle_tls_record_eq_model O hO K s x r srv m
    simp only [forS, List.map_cons, runRaw]
    cases hm : handleRecordRaw O m s r srv with
    | ok s1 =>
      rw [hm] at h
      obtain ⟨x1, h⟩ := h
      simp only [h, tryR_ok]
      exact ih s1 x1
    | raised s1 =>
      rw [hm] at h
      obtain ⟨x1, e, he, h⟩ := h
      simp only [h, tryR_raised, loopS_ret]
      exact ⟨x1, e, he, rfl⟩

/-- `for record in self.server_tls_records: self.handle_tls_record(record, True)` is the model's `runRaw` over those records -/
theorem run_server_records_eq_model (O : Ops δ) (hO : ReadsExtsAsDict O) (K : Kinds δ) (s : St δ) (x : Extra) (recs : List Rec) (m : Bool) :
    Matches (Gen.Py.Sess.run_server_records (decE O K) (updE O K) (gkE O K) m recs (enc s x)) (runRaw O m s (recs.map fun r => (r, true))) := by
  unfold Gen.Py.Sess.run_server_records
  exact run_records O hO K true m _ recs s x

theorem run_client_records_eq_model (O : Ops δ) (hO : ReadsExtsAsDict O) (K : Kinds δ) (s : St δ) (x : Extra) (recs : List Rec) (m : Bool) :
    Matches (Gen.Py.Sess.run_client_records (decE O K) (updE O K) (gkE O K) m recs (enc s x)) (runRaw O m s (recs.map fun r => (r, false))) := by
  unfold Gen.Py.Sess.run_client_records
  exact run_records O hO K false m _ recs s x

/-- what `TlsRecord(binary, …)` stores is what the record handlers read through `Rec` (`record.binary` = `Rec.body`,
    `record.record_type` = `Sess.recType`, `record.record_version` = `Rec.ver`, `record.raw`); IndexError on `b""` -/
theorem TlsRecord_init_eq_model (raw : Bytes) (c : List Nat) :
    Gen.Py.TlsRecord_init raw =
      if raw = [] then .error .index
      else .ok { binary_ := Rec.body ⟨raw, c⟩, record_type := Gen.Py.Sess.recType ⟨raw, c⟩, record_version := Rec.ver ⟨raw, c⟩,
                 record_length := Bytes.slice raw 3 5, raw := Rec.raw ⟨raw, c⟩ } := by
  unfold Gen.Py.TlsRecord_init
  cases raw with
  | nil => rfl
  | cons t rest => simp [Rec.body, Rec.ver, Gen.Py.Sess.recType]

/-- an `Ops` for evaluation: the decryptor is a counter -/
def toyOps : Ops Nat where
  decrypt d r srv := if (d + r.raw.length) % 3 = 0 then (d + 1, none) else (d + 1, some (some (r.body ++ (if srv then [0x17, 0] else [0x16]))))
  updateKeys d _ := (d + 10, d % 2 = 0)
  genKeys _ suite _ _ exts _ := if suite = [0x13, 0x01] then .installed (if (extGet exts [0, 0x2b]).isSome then 7 else 8) else .noSuite

def toyKinds : Kinds Nat :=
  { dec := fun _ _ _ => .value, upd := fun _ _ => .value, gk := fun _ _ _ _ => .key,
    dec_ne := by intros; decide, upd_ne := by intros; decide, gk_ne := by intros; decide }

theorem toy_reads_exts_as_dict : ReadsExtsAsDict toyOps := by
  intro v suite cr sr c e e' h
  simp only [toyOps, h]

/-- evaluation: a ClientHello and a TLS 1.3 ServerHello handed on by the client-side loop install the toy decryptor -/
example :
    let sh : Rec := ⟨[0x16, 3, 3, 0, 50, 2, 0, 0, 46, 3, 3] ++ List.replicate 32 7 ++ [0, 0x13, 0x01, 0, 0, 6, 0, 0x2b, 0, 2, 3, 4], [1]⟩
    let ch : Rec := ⟨[0x16, 3, 1, 0, 40, 1, 0, 0, 36, 3, 3] ++ List.replicate 34 9, [0]⟩
    let out := outView (Gen.Py.Sess.run_client_records (decE toyOps toyKinds) (updE toyOps toyKinds) (gkE toyOps toyKinds) false [ch, sh]
                 (enc St.init ⟨none, none, none, none⟩))
    out.1 = true ∧ out.2.1 = true ∧ out.2.2.2.1 = some .tls13 ∧ out.2.2.2.2.2.2.1 = some 7 := by decide +kernel

end TLX.Props.Translated.Sess
