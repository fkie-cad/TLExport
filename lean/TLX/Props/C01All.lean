/-
C01 FROM FILE TO FILE, EVERYTHING COMBINED: `tls13_capture_exact_all`, `tls12_capture_exact_all`.

What the capture may look like, beyond `Props/C01Full` (`-a`/`-c`/`-m`/`-p`, IPv6 extension headers, RFC-terms hypotheses):
  * TCP DELIVERY of C05's whole domain (`Lemmas.C01All.WiresDelivered`, on the capture's (sequence number, data) pairs): any
    cut points, exact duplicate segments, segments displaced by any number of positions, any initial sequence number incl.
    the sequence space wrapping inside the connection — under `Props.C05.NoEarlyDelivery`. `WiresInOrder` (what
    `Props/C01Full` admits: cuts, duplicates, any ISN, NO displacement) is the special case `wiresDelivered_of_inOrder`.
  * TLS 1.3: handshake messages FRAGMENTED anywhere across protected records, coalesced, interleaved with the other
    direction (`Spec.TlsFragmented13`: `TranscriptF`, `FragConform`); whole messages per record (`Script13`) is a special
    case. With `-a` too (`Props.C01All.tls13_connection_all`, `Props/C01RfcConn`).
  * CAUSALITY FROM THE PACKET ORDER (`Lemmas.C01All.FlightsFirst`): the ClientHello is complete before the server's first
    data segment is captured, the server's first flight ends on a record boundary before the client's next data segment —
    instead of a hypothesis on the release order `connRecs`. (`…_all_of_release` take `Causal13` / `Causal12` on the release
    order: strictly more general, but not a statement about the capture.)
  * OTHER TRAFFIC: anything (`Foreign`: other TLS connections decryptable or not, QUIC, UDP, ARP, garbage dpkt dissects
    without an exception, pure ACKs and retransmitted empty segments of any flow) interleaved anywhere. The connection's block
    in the output is independent of it (`Props.C01File.session_of_items`; `Props.ExportDemux.tls_frames_by_flow` says the same
    for every flow at once). What other traffic CAN do is make the write loop raise (a frame of ANOTHER session that scapy /
    dpkt refuse: truncated file) — `…_all` excludes that by `OthersFitC`, `…_all_or_abort` states the alternative instead
    and needs no hypothesis about the other traffic at all.

EVERY REMAINING HYPOTHESIS, classified (names as in `tls13_capture_exact_all`; the TLS ≤ 1.2 theorem alike):
  RFC-given (what the RFCs / formats say about a conformant sender, capture and key log)
    `hdesc` segments are well-formed Ethernet / IPv4|IPv6(+extension headers) / TCP frames of the flow (`IsSegX`), with `-c`
            valid TCP checksums (`CsumValid`); `hcwf`/`hitems` a well-formed pcap / pcapng file of them; `hne`, `hsp`, `hcp` the
            two endpoints differ, the server port is a server port (`-p` / built in), the client port is not
    `hch hsh hrc hrs hv hneg` hellos per RFC 8446 §4.1; `hfc hfs` `FragConform`; `hwr` records ≤ 2^16 (length field right);
    `hsuite hcls` the suite is what its IANA name denotes, an AEAD; `hl1..4` the key-log FILE has the four NSS lines;
    `ho1..4` and no other secret under the same label and client random (C09's consistency)
    `hwires` TCP delivery as above; `hflights` first flights alternate in the capture
  C01-quantifier (which instances the property speaks about)
    `haccept` the tool supports the code point; `hpm hports` the options parse; `p0 rest hfp` names the flow's packets
  recorded limit (the theorem stops where a known limit / finding starts)
    `NoEarlyDelivery` inside `hwires`: the FIRST data segment of a direction overtaken by segments that are whole records is
            the open C05 finding (`Props.C05.reassembly_exact_counterexample`, `ExportSeg.Ex.overtaken_first_segment_differs`)
    `hcomp` no record compression (not modelled);   `hlen` fewer than 2^64 records per direction
    IPv6 chains that start with a fragment header and end with another kind: dpkt raises (inside `IsSegX`)
    `Foreign` (in `hdesc`): dpkt dissects every other frame without an exception (else the run aborts in the read loop) and,
            with `-c`, the checksum functions do not raise on it (segments ≥ 2^16 bytes over IPv4)
    TLS ≤ 1.2: `Script12` excludes a clear-text handshake record that CONTINUES a fragmented message and starts with 01 / 02
            (the tool takes it for a hello); `hms` 48-byte master secret; `hvalid`; `Causal13` instead of `Causal12` with `-a`
    not claimed: renegotiation, KeyUpdate, 0-RTT / early data, HelloRetryRequest, session resumption with PSK-only key logs
    write loop: `hcport hsport hpmv hbytes hrec` scapy's field widths; `hothers` the same for the other sessions' frames
  primitive law    `hH : H.Lawful` (digest lengths, HKDF-Expand length), `L : SealLaws P` (AEAD / CBC / RC4 open ∘ seal),
            TLS ≤ 1.2 / SSL 3.0: `hsz` MD5 = 16, SHA-1 = 20 bytes
  IEEE-754 time stamp fact    `hnot1` no time stamp evaluates to −1.0, `hus` every capture time is below 2^64 µs
-/
import TLX.Props.C01Full
set_option autoImplicit false
namespace TLX.Props.C01All
open TLX TLX.MainLoop TLX.OutBytes TLX.Export TLX.Props.C01File TLX.Lemmas.BuildBounds TLX.Props.C01File2
open TLX.Lemmas.Pipeline TLX.Props.C01Pipeline
open TLX.Spec.Demux TLX.Lemmas.MainLoop TLX.Dissect TLX.Spec.FrameBuild TLX.Spec.TlsCapture TLX.Props.C12Dissect
open TLX.Cipher TLX.RecordLayer TLX.Spec.TlsSender TLX.Props.C01 TLX.Spec.TlsConnection TLX.Spec.TlsFragmented13
open TLX.Lemmas.Capstone TLX.Lemmas.Capstone2 TLX.Spec.TlsFraming TLX.Props.C01Capstone
open TLX.Spec.RfcSuite TLX.Spec.KeySchedules TLX.Lemmas.C01Rfc TLX.Lemmas.C01Full TLX.Props.C01Rfc TLX.Props.C01Full
open TLX.Lemmas.C01All

/-- **C01, TLS 1.3, everything combined, from the release order** (`Causal13` on `connRecs`: the ClientHello is released
    first, the ServerHello second). -/
theorem tls13_capture_exact_all_of_release (mask : Quic.Dissect.MaskFn) (H : Crypto.Prims) (P : Prims)
    (L : SealLaws P)
    {fl : Flow} {evs : List CEv} {args : Args} {cv : Spec.Containers.Variant} {cevs : List Spec.Containers.Ev}
    {pm : List (Int × Int)} {ports : List Int} {p0 : Pkt} {rest : List Pkt}
    (S : CaptureFile fl evs args cv cevs pm ports p0 rest)
    {ls : List (C09Found.FLine × Bool)}
    (t : TranscriptF) (hch : t.ch.WellFormed) (hsh : t.sh.WellFormed) (hrc : t.rvC.length = 2) (hrs : t.rvS.length = 2)
    (hv : t.ver.length = 2) (hcomp : t.sh.compressionMethod = 0) (hneg : Negotiated t.rvS t.sh .tls13)
    {sp : SuiteSpec} {cls : CipherClass} {chts shts cats sats : Bytes}
    (R : Rfc13 H ls t.ch t.sh sp cls chts shts cats sats)
    (hfc : FragConform t.cF) (hfs : FragConform t.sF)
    (hwr : ∀ d, ∀ r ∈ t.records P L cls (snd13 H sp chts shts cats sats) d, WholeRecord r)
    (hlen : costF t.cF + costF t.sF ≤ seqLimit)
    (hwires : WiresDelivered evs (t.stream P L cls (snd13 H sp chts shts cats sats)))
    (hcausal : Causal13 (connRecs (capInfo (evs.map CEv.cap)) (sessionOf (evs.map CEv.cap) (optsOf args ports pm) p0 rest)))
    (F : Fits mask H P fl evs args (some (C09Found.fileText ls)) pm ports p0 rest
      (expectF args.metadata P L cls t (snd13 H sp chts shts cats sats))) :
    ∃ f, exportFile mask H P args cv.isLegacy (some (C09Found.fileText ls)) (Spec.Containers.encode cv cevs) = .file f ∧
      Exact f (sessionOf (evs.map CEv.cap) (optsOf args ports pm) p0 rest) (expectF args.metadata P L cls t (snd13 H sp chts shts cats sats)).1 (expectF args.metadata P L cls t (snd13 H sp chts shts cats sats)).2 :=
  S.exact mask H P _ _
    (tls13_connection_all H P L _ _ t hch hsh hrc hrs hv hcomp hneg R hfc hfs hlen (S.released _ hwr hwires) hcausal) F

/-- **C01, TLS 1.3, EVERYTHING COMBINED** (see the header for the classification of every hypothesis): ANY options
    (`-a -c -m -p`), IPv4 / IPv6 with extension headers, handshake messages fragmented anywhere, TCP delivery with any cuts,
    duplicates, displaced segments and any ISN, causality from the packet order, any other traffic in the capture, hypotheses
    in RFC terms ⇒ the run writes a file that `Exact`ly contains the conversation (`expectF args.metadata …`). -/
theorem tls13_capture_exact_all (mask : Quic.Dissect.MaskFn) (H : Crypto.Prims) (hH : H.Lawful) (P : Prims) (L : SealLaws P)
    -- the capture file: bytes written by the independent encoder in ANY container variant, holding the described packets:
    -- the connection's segments (IPv4 / IPv6 with extension headers; with `-c` valid TCP checksums) and ANYTHING else
    (fl : Flow) (hne : clientEp fl ≠ serverEp fl) (evs : List CEv) (args : Args)
    (hdesc : DescribedX fl args.checksumTest evs)
    (hnot1 : ∀ e ∈ evs.map CEv.cap, Ingest.isMinusOne e.t = false)
    (cv : Spec.Containers.Variant) (cevs : List Spec.Containers.Ev) (hcwf : cv.WF cevs)
    (hitems : cevs.filterMap (Spec.Containers.scale cv) = (evs.map CEv.cap).map CapEv.item)
    -- the options: ANY `-a`, `-c`, `-m`, `-p`; the server port is a server port, the client port is not
    (ls : List (C09Found.FLine × Bool)) (hls : ∀ x ∈ ls, x.1.WF)
    (pm : List (Int × Int)) (ports : List Int)
    (hpm : Options.getPortMap Options.Src.bare args.mArg = .ok pm)
    (hports : Options.serverPorts Options.Src.builtin Options.Src.pDefault args.pArg = .ok ports)
    (hsp : ports.contains (fl.serverPort : Int) = true) (hcp : ports.contains (fl.clientPort : Int) = false)
    (p0 : Pkt) (rest : List Pkt) (hfp : flowPkts fl 0 evs = p0 :: rest)
    -- the connection as sent: hellos per RFC 8446 §4.1; handshake messages fragmented anywhere
    (t : TranscriptF) (hch : t.ch.WellFormed) (hsh : t.sh.WellFormed) (hrc : t.rvC.length = 2) (hrs : t.rvS.length = 2)
    (hv : t.ver.length = 2) (hcomp : t.sh.compressionMethod = 0) (hneg : Negotiated t.rvS t.sh .tls13)
    (haccept : CipherSuite.resolve (Bytes.beNat t.sh.cipherSuite) ≠ none)
    (sp : SuiteSpec) (hsuite : suiteOfCode (Bytes.beNat t.sh.cipherSuite) = some sp)
    (cls : CipherClass) (hcls : cls13 sp = some cls)
    (chts shts cats sats : Bytes)
    (hl1 : HasLine ls labelCHTS (Pipeline.natsOfBytes t.ch.random) (Pipeline.natsOfBytes chts))
    (hl2 : HasLine ls labelSHTS (Pipeline.natsOfBytes t.ch.random) (Pipeline.natsOfBytes shts))
    (hl3 : HasLine ls labelCTS0 (Pipeline.natsOfBytes t.ch.random) (Pipeline.natsOfBytes cats))
    (hl4 : HasLine ls labelSTS0 (Pipeline.natsOfBytes t.ch.random) (Pipeline.natsOfBytes sats))
    (ho1 : OnlySecret ls labelCHTS (Pipeline.natsOfBytes t.ch.random) (Pipeline.natsOfBytes chts))
    (ho2 : OnlySecret ls labelSHTS (Pipeline.natsOfBytes t.ch.random) (Pipeline.natsOfBytes shts))
    (ho3 : OnlySecret ls labelCTS0 (Pipeline.natsOfBytes t.ch.random) (Pipeline.natsOfBytes cats))
    (ho4 : OnlySecret ls labelSTS0 (Pipeline.natsOfBytes t.ch.random) (Pipeline.natsOfBytes sats))
    (hfc : FragConform t.cF) (hfs : FragConform t.sF)
    (hwr : ∀ d, ∀ r ∈ t.records P L cls (snd13 H sp chts shts cats sats) d, WholeRecord r)
    (hlen : costF t.cF + costF t.sF ≤ seqLimit)
    -- TCP delivery: any cuts, duplicates, displaced segments, any ISN (C05's domain)
    (hwires : WiresDelivered evs (t.stream P L cls (snd13 H sp chts shts cats sats)))
    -- causality from the PACKET ORDER: the ClientHello complete before the server's first data segment, …
    (recsB : List Bytes) (hflights : FlightsFirst evs t.chRecord recsB)
    -- what the write loop needs (each CAN fail on the real tool: see the header of `Props/C01File2`)
    (hcport : fl.clientPort < 65536) (hsport : fl.serverPort < 65536) (hpmv : ∀ kv ∈ pm, kv.2.toNat < 65536)
    (hbytes : (expectF args.metadata P L cls t (snd13 H sp chts shts cats sats)).1.length + (expectF args.metadata P L cls t (snd13 H sp chts shts cats sats)).2.length + 1 < 2 ^ 32)
    (hrec : RecordsFit H P (capInfo (evs.map CEv.cap)) (sessionOf (evs.map CEv.cap) (optsOf args ports pm) p0 rest)
      ((fileKeysOf (some (C09Found.fileText ls))).getD []))
    (hus : ∀ e ∈ evs.map CEv.cap, e.us < 2 ^ 64)
    (hothers : ∀ blk, Pipeline.connOut H P (capInfo (evs.map CEv.cap))
        (sessionOf (evs.map CEv.cap) (optsOf args ports pm) p0 rest) ((fileKeysOf (some (C09Found.fileText ls))).getD []) = some blk →
      OthersFitC mask H P args (some (C09Found.fileText ls)) (evs.map CEv.cap) blk) :
    ∃ f, exportFile mask H P args cv.isLegacy (some (C09Found.fileText ls)) (Spec.Containers.encode cv cevs) = .file f ∧
      Exact f (sessionOf (evs.map CEv.cap) (optsOf args ports pm) p0 rest) (expectF args.metadata P L cls t (snd13 H sp chts shts cats sats)).1 (expectF args.metadata P L cls t (snd13 H sp chts shts cats sats)).2 := by
  have S : CaptureFile fl evs args cv cevs pm ports p0 rest := ⟨⟨hne, hdesc, hsp, hcp, hfp⟩, hnot1, hcwf, hitems, hpm, hports⟩
  exact tls13_capture_exact_all_of_release mask H P L S t hch hsh hrc hrs hv hcomp hneg
    ⟨hH, hls, haccept, hsuite, hcls, hl1, hl2, hl3, hl4, ho1, ho2, ho3, ho4⟩ hfc hfs hwr hlen hwires
    (causal13_of_packet_order _ _ t.chRecord recsB (S.firstFlights _ _ hflights))
    ⟨hcport, hsport, hpmv, hbytes, hrec, hus, hothers⟩

/-- **`tls13_capture_exact_all` with the abort alternative and NO hypothesis about the write loop or the other traffic**:
    whatever else the capture holds, either the write loop raises or the output file `Exact`ly contains the conversation. -/
theorem tls13_capture_exact_all_or_abort (mask : Quic.Dissect.MaskFn) (H : Crypto.Prims) (hH : H.Lawful) (P : Prims)
    (L : SealLaws P)
    -- the capture file: bytes written by the independent encoder in ANY container variant, holding the described packets:
    -- the connection's segments (IPv4 / IPv6 with extension headers; with `-c` valid TCP checksums) and ANYTHING else
    (fl : Flow) (hne : clientEp fl ≠ serverEp fl) (evs : List CEv) (args : Args)
    (hdesc : DescribedX fl args.checksumTest evs)
    (hnot1 : ∀ e ∈ evs.map CEv.cap, Ingest.isMinusOne e.t = false)
    (cv : Spec.Containers.Variant) (cevs : List Spec.Containers.Ev) (hcwf : cv.WF cevs)
    (hitems : cevs.filterMap (Spec.Containers.scale cv) = (evs.map CEv.cap).map CapEv.item)
    -- the options: ANY `-a`, `-c`, `-m`, `-p`; the server port is a server port, the client port is not
    (ls : List (C09Found.FLine × Bool)) (hls : ∀ x ∈ ls, x.1.WF)
    (pm : List (Int × Int)) (ports : List Int)
    (hpm : Options.getPortMap Options.Src.bare args.mArg = .ok pm)
    (hports : Options.serverPorts Options.Src.builtin Options.Src.pDefault args.pArg = .ok ports)
    (hsp : ports.contains (fl.serverPort : Int) = true) (hcp : ports.contains (fl.clientPort : Int) = false)
    (p0 : Pkt) (rest : List Pkt) (hfp : flowPkts fl 0 evs = p0 :: rest)
    -- the connection as sent: hellos per RFC 8446 §4.1; handshake messages fragmented anywhere
    (t : TranscriptF) (hch : t.ch.WellFormed) (hsh : t.sh.WellFormed) (hrc : t.rvC.length = 2) (hrs : t.rvS.length = 2)
    (hv : t.ver.length = 2) (hcomp : t.sh.compressionMethod = 0) (hneg : Negotiated t.rvS t.sh .tls13)
    (haccept : CipherSuite.resolve (Bytes.beNat t.sh.cipherSuite) ≠ none)
    (sp : SuiteSpec) (hsuite : suiteOfCode (Bytes.beNat t.sh.cipherSuite) = some sp)
    (cls : CipherClass) (hcls : cls13 sp = some cls)
    (chts shts cats sats : Bytes)
    (hl1 : HasLine ls labelCHTS (Pipeline.natsOfBytes t.ch.random) (Pipeline.natsOfBytes chts))
    (hl2 : HasLine ls labelSHTS (Pipeline.natsOfBytes t.ch.random) (Pipeline.natsOfBytes shts))
    (hl3 : HasLine ls labelCTS0 (Pipeline.natsOfBytes t.ch.random) (Pipeline.natsOfBytes cats))
    (hl4 : HasLine ls labelSTS0 (Pipeline.natsOfBytes t.ch.random) (Pipeline.natsOfBytes sats))
    (ho1 : OnlySecret ls labelCHTS (Pipeline.natsOfBytes t.ch.random) (Pipeline.natsOfBytes chts))
    (ho2 : OnlySecret ls labelSHTS (Pipeline.natsOfBytes t.ch.random) (Pipeline.natsOfBytes shts))
    (ho3 : OnlySecret ls labelCTS0 (Pipeline.natsOfBytes t.ch.random) (Pipeline.natsOfBytes cats))
    (ho4 : OnlySecret ls labelSTS0 (Pipeline.natsOfBytes t.ch.random) (Pipeline.natsOfBytes sats))
    (hfc : FragConform t.cF) (hfs : FragConform t.sF)
    (hwr : ∀ d, ∀ r ∈ t.records P L cls (snd13 H sp chts shts cats sats) d, WholeRecord r)
    (hlen : costF t.cF + costF t.sF ≤ seqLimit)
    -- TCP delivery: any cuts, duplicates, displaced segments, any ISN (C05's domain)
    (hwires : WiresDelivered evs (t.stream P L cls (snd13 H sp chts shts cats sats)))
    -- causality from the PACKET ORDER: the ClientHello complete before the server's first data segment, …
    (recsB : List Bytes) (hflights : FlightsFirst evs t.chRecord recsB) :
    (∃ e, exportFile mask H P args cv.isLegacy (some (C09Found.fileText ls)) (Spec.Containers.encode cv cevs) = .abort (.write e)) ∨
    ∃ f, exportFile mask H P args cv.isLegacy (some (C09Found.fileText ls)) (Spec.Containers.encode cv cevs) = .file f ∧
      Exact f (sessionOf (evs.map CEv.cap) (optsOf args ports pm) p0 rest) (expectF args.metadata P L cls t (snd13 H sp chts shts cats sats)).1 (expectF args.metadata P L cls t (snd13 H sp chts shts cats sats)).2 := by
  have S : CaptureFile fl evs args cv cevs pm ports p0 rest := ⟨⟨hne, hdesc, hsp, hcp, hfp⟩, hnot1, hcwf, hitems, hpm, hports⟩
  exact S.exact_or_abort mask H P _ _
    (tls13_connection_all H P L _ _ t hch hsh hrc hrs hv hcomp hneg
      ⟨hH, hls, haccept, hsuite, hcls, hl1, hl2, hl3, hl4, ho1, ho2, ho3, ho4⟩ hfc hfs hlen (S.released _ hwr hwires)
      (causal13_of_packet_order _ _ t.chRecord recsB (S.firstFlights _ _ hflights)))

/-- **C01, SSL 3.0 – TLS 1.2, everything combined, from the release order** -/
theorem tls12_capture_exact_all_of_release (mask : Quic.Dissect.MaskFn) (H : Crypto.Prims) (P : Prims)
    (L : SealLaws P)
    {fl : Flow} {evs : List CEv} {args : Args} {cv : Spec.Containers.Variant} {cevs : List Spec.Containers.Ev}
    {pm : List (Int × Int)} {ports : List Int} {p0 : Pkt} {rest : List Pkt}
    (S : CaptureFile fl evs args cv cevs pm ports p0 rest)
    {ls : List (C09Found.FLine × Bool)}
    (t : Transcript) (hch : t.ch.WellFormed) (hsh : t.sh.WellFormed) (hrc : t.rvC.length = 2) (hrs : t.rvS.length = 2)
    (hv : t.ver.length = 2) (hcomp : t.sh.compressionMethod = 0)
    (pv : ProtocolVersion) (hneg : Negotiated t.rvS t.sh (sessVer pv))
    {sp : SuiteSpec} {cls : CipherClass} {ms : Bytes} (R : Rfc12 H ls t.ch t.sh pv sp cls ms)
    (hsc : Script12 t.cEvs) (hss : Script12 t.sEvs)
    (hokc : ∀ e ∈ t.cEvs, EvOk1 cls (sp.hash.suite H).outLen e)
    (hoks : ∀ e ∈ t.sEvs, EvOk1 cls (sp.hash.suite H).outLen e)
    (hwr : ∀ d, ∀ r ∈ t.records P L cls (snd12 H pv sp ms t.ch.random t.sh.random) d, WholeRecord r)
    (hlen : t.cEvs.length + t.sEvs.length ≤ seqLimit)
    (hwires : WiresDelivered evs (t.stream P L cls (snd12 H pv sp ms t.ch.random t.sh.random)))
    (hc12 : args.metadata = false → Causal12 (connRecs (capInfo (evs.map CEv.cap)) (sessionOf (evs.map CEv.cap) (optsOf args ports pm) p0 rest)))
    (hc13 : args.metadata = true → Causal13 (connRecs (capInfo (evs.map CEv.cap)) (sessionOf (evs.map CEv.cap) (optsOf args ports pm) p0 rest)))
    (F : Fits mask H P fl evs args (some (C09Found.fileText ls)) pm ports p0 rest
      (expect12 args.metadata P L cls t (snd12 H pv sp ms t.ch.random t.sh.random))) :
    ∃ f, exportFile mask H P args cv.isLegacy (some (C09Found.fileText ls)) (Spec.Containers.encode cv cevs) = .file f ∧
      Exact f (sessionOf (evs.map CEv.cap) (optsOf args ports pm) p0 rest) (expect12 args.metadata P L cls t (snd12 H pv sp ms t.ch.random t.sh.random)).1 (expect12 args.metadata P L cls t (snd12 H pv sp ms t.ch.random t.sh.random)).2 :=
  S.exact mask H P _ _
    (tls12_connection_all H P L _ _ t hch hsh hrc hrs hv hcomp pv hneg R hsc hss hokc hoks hlen (S.released _ hwr hwires)
      hc12 hc13) F

/-- **C01, SSL 3.0 – TLS 1.2, EVERYTHING COMBINED**: as `tls13_capture_exact_all` (there is no handshake fragmentation
    clause: clear-text handshake records may group messages in any way, `Script12`). -/
theorem tls12_capture_exact_all (mask : Quic.Dissect.MaskFn) (H : Crypto.Prims) (hH : H.Lawful) (P : Prims) (L : SealLaws P)
    -- the capture file: bytes written by the independent encoder in ANY container variant, holding the described packets:
    -- the connection's segments (IPv4 / IPv6 with extension headers; with `-c` valid TCP checksums) and ANYTHING else
    (fl : Flow) (hne : clientEp fl ≠ serverEp fl) (evs : List CEv) (args : Args)
    (hdesc : DescribedX fl args.checksumTest evs)
    (hnot1 : ∀ e ∈ evs.map CEv.cap, Ingest.isMinusOne e.t = false)
    (cv : Spec.Containers.Variant) (cevs : List Spec.Containers.Ev) (hcwf : cv.WF cevs)
    (hitems : cevs.filterMap (Spec.Containers.scale cv) = (evs.map CEv.cap).map CapEv.item)
    -- the options: ANY `-a`, `-c`, `-m`, `-p`; the server port is a server port, the client port is not
    (ls : List (C09Found.FLine × Bool)) (hls : ∀ x ∈ ls, x.1.WF)
    (pm : List (Int × Int)) (ports : List Int)
    (hpm : Options.getPortMap Options.Src.bare args.mArg = .ok pm)
    (hports : Options.serverPorts Options.Src.builtin Options.Src.pDefault args.pArg = .ok ports)
    (hsp : ports.contains (fl.serverPort : Int) = true) (hcp : ports.contains (fl.clientPort : Int) = false)
    (p0 : Pkt) (rest : List Pkt) (hfp : flowPkts fl 0 evs = p0 :: rest)
    -- the connection as sent: hellos per RFC; the negotiated version
    (t : Transcript) (hch : t.ch.WellFormed) (hsh : t.sh.WellFormed) (hrc : t.rvC.length = 2) (hrs : t.rvS.length = 2)
    (hv : t.ver.length = 2) (hcomp : t.sh.compressionMethod = 0)
    (pv : ProtocolVersion) (hneg : Negotiated t.rvS t.sh (sessVer pv))
    (hsz : pv = .ssl30 → H.md5.outLen = 16 ∧ H.sha1.outLen = 20)
    (haccept : CipherSuite.resolve (Bytes.beNat t.sh.cipherSuite) ≠ none)
    (sp : SuiteSpec) (hsuite : suiteOfCode (Bytes.beNat t.sh.cipherSuite) = some sp) (hvalid : ValidFor sp pv)
    (cls : CipherClass) (hcls : cls12 pv (etmNegotiated t.sh) sp = some cls)
    (ms : Bytes) (hms : ms.length = 48)
    (hl1 : HasLine ls labelClientRandom (Pipeline.natsOfBytes t.ch.random) (Pipeline.natsOfBytes ms))
    (ho1 : OnlySecret ls labelClientRandom (Pipeline.natsOfBytes t.ch.random) (Pipeline.natsOfBytes ms))
    (hsc : Script12 t.cEvs) (hss : Script12 t.sEvs)
    (hokc : ∀ e ∈ t.cEvs, EvOk1 cls (sp.hash.suite H).outLen e)
    (hoks : ∀ e ∈ t.sEvs, EvOk1 cls (sp.hash.suite H).outLen e)
    (hwr : ∀ d, ∀ r ∈ t.records P L cls (snd12 H pv sp ms t.ch.random t.sh.random) d, WholeRecord r)
    (hlen : t.cEvs.length + t.sEvs.length ≤ seqLimit)
    -- TCP delivery: any cuts, duplicates, displaced segments, any ISN (C05's domain)
    (hwires : WiresDelivered evs (t.stream P L cls (snd12 H pv sp ms t.ch.random t.sh.random)))
    -- causality from the PACKET ORDER: the ClientHello complete before the server's first data segment, …
    (recsB : List Bytes) (hflights : FlightsFirst evs t.chRecord recsB)
    -- what the write loop needs (each CAN fail on the real tool: see the header of `Props/C01File2`)
    (hcport : fl.clientPort < 65536) (hsport : fl.serverPort < 65536) (hpmv : ∀ kv ∈ pm, kv.2.toNat < 65536)
    (hbytes : (expect12 args.metadata P L cls t (snd12 H pv sp ms t.ch.random t.sh.random)).1.length + (expect12 args.metadata P L cls t (snd12 H pv sp ms t.ch.random t.sh.random)).2.length + 1 < 2 ^ 32)
    (hrec : RecordsFit H P (capInfo (evs.map CEv.cap)) (sessionOf (evs.map CEv.cap) (optsOf args ports pm) p0 rest)
      ((fileKeysOf (some (C09Found.fileText ls))).getD []))
    (hus : ∀ e ∈ evs.map CEv.cap, e.us < 2 ^ 64)
    (hothers : ∀ blk, Pipeline.connOut H P (capInfo (evs.map CEv.cap))
        (sessionOf (evs.map CEv.cap) (optsOf args ports pm) p0 rest) ((fileKeysOf (some (C09Found.fileText ls))).getD []) = some blk →
      OthersFitC mask H P args (some (C09Found.fileText ls)) (evs.map CEv.cap) blk) :
    ∃ f, exportFile mask H P args cv.isLegacy (some (C09Found.fileText ls)) (Spec.Containers.encode cv cevs) = .file f ∧
      Exact f (sessionOf (evs.map CEv.cap) (optsOf args ports pm) p0 rest) (expect12 args.metadata P L cls t (snd12 H pv sp ms t.ch.random t.sh.random)).1 (expect12 args.metadata P L cls t (snd12 H pv sp ms t.ch.random t.sh.random)).2 := by
  have S : CaptureFile fl evs args cv cevs pm ports p0 rest := ⟨⟨hne, hdesc, hsp, hcp, hfp⟩, hnot1, hcwf, hitems, hpm, hports⟩
  have hff := S.firstFlights _ _ hflights
  have hc13 : args.metadata = true → Causal13 _ := fun _ => causal13_of_packet_order _ _ t.chRecord recsB hff
  have hc12 : args.metadata = false → Causal12 _ := fun _ => causal12_of_packet_order _ _ [t.chRecord] recsB hff
    (by simp) (by
      intro r hr
      simp only [List.mem_singleton] at hr
      subst hr
      simp [Transcript.chRecord, record])
  exact tls12_capture_exact_all_of_release mask H P L S t hch hsh hrc hrs hv hcomp pv hneg
    ⟨hH, hls, hsz, haccept, hsuite, hvalid, hcls, hms, hl1, ho1⟩ hsc hss hokc hoks hwr hlen hwires hc12 hc13 ⟨hcport, hsport, hpmv, hbytes, hrec, hus, hothers⟩

/-- **`tls12_capture_exact_all` with the abort alternative and no hypothesis about the write loop or the other traffic**, as
    `tls13_capture_exact_all_or_abort` for TLS 1.3. -/
theorem tls12_capture_exact_all_or_abort (mask : Quic.Dissect.MaskFn) (H : Crypto.Prims) (hH : H.Lawful) (P : Prims)
    (L : SealLaws P)
    -- the capture file: bytes written by the independent encoder in ANY container variant, holding the described packets:
    -- the connection's segments (IPv4 / IPv6 with extension headers; with `-c` valid TCP checksums) and ANYTHING else
    (fl : Flow) (hne : clientEp fl ≠ serverEp fl) (evs : List CEv) (args : Args)
    (hdesc : DescribedX fl args.checksumTest evs)
    (hnot1 : ∀ e ∈ evs.map CEv.cap, Ingest.isMinusOne e.t = false)
    (cv : Spec.Containers.Variant) (cevs : List Spec.Containers.Ev) (hcwf : cv.WF cevs)
    (hitems : cevs.filterMap (Spec.Containers.scale cv) = (evs.map CEv.cap).map CapEv.item)
    -- the options: ANY `-a`, `-c`, `-m`, `-p`; the server port is a server port, the client port is not
    (ls : List (C09Found.FLine × Bool)) (hls : ∀ x ∈ ls, x.1.WF)
    (pm : List (Int × Int)) (ports : List Int)
    (hpm : Options.getPortMap Options.Src.bare args.mArg = .ok pm)
    (hports : Options.serverPorts Options.Src.builtin Options.Src.pDefault args.pArg = .ok ports)
    (hsp : ports.contains (fl.serverPort : Int) = true) (hcp : ports.contains (fl.clientPort : Int) = false)
    (p0 : Pkt) (rest : List Pkt) (hfp : flowPkts fl 0 evs = p0 :: rest)
    -- the connection as sent: hellos per RFC; the negotiated version
    (t : Transcript) (hch : t.ch.WellFormed) (hsh : t.sh.WellFormed) (hrc : t.rvC.length = 2) (hrs : t.rvS.length = 2)
    (hv : t.ver.length = 2) (hcomp : t.sh.compressionMethod = 0)
    (pv : ProtocolVersion) (hneg : Negotiated t.rvS t.sh (sessVer pv))
    (hsz : pv = .ssl30 → H.md5.outLen = 16 ∧ H.sha1.outLen = 20)
    (haccept : CipherSuite.resolve (Bytes.beNat t.sh.cipherSuite) ≠ none)
    (sp : SuiteSpec) (hsuite : suiteOfCode (Bytes.beNat t.sh.cipherSuite) = some sp) (hvalid : ValidFor sp pv)
    (cls : CipherClass) (hcls : cls12 pv (etmNegotiated t.sh) sp = some cls)
    (ms : Bytes) (hms : ms.length = 48)
    (hl1 : HasLine ls labelClientRandom (Pipeline.natsOfBytes t.ch.random) (Pipeline.natsOfBytes ms))
    (ho1 : OnlySecret ls labelClientRandom (Pipeline.natsOfBytes t.ch.random) (Pipeline.natsOfBytes ms))
    (hsc : Script12 t.cEvs) (hss : Script12 t.sEvs)
    (hokc : ∀ e ∈ t.cEvs, EvOk1 cls (sp.hash.suite H).outLen e)
    (hoks : ∀ e ∈ t.sEvs, EvOk1 cls (sp.hash.suite H).outLen e)
    (hwr : ∀ d, ∀ r ∈ t.records P L cls (snd12 H pv sp ms t.ch.random t.sh.random) d, WholeRecord r)
    (hlen : t.cEvs.length + t.sEvs.length ≤ seqLimit)
    -- TCP delivery: any cuts, duplicates, displaced segments, any ISN (C05's domain)
    (hwires : WiresDelivered evs (t.stream P L cls (snd12 H pv sp ms t.ch.random t.sh.random)))
    -- causality from the PACKET ORDER: the ClientHello complete before the server's first data segment, …
    (recsB : List Bytes) (hflights : FlightsFirst evs t.chRecord recsB) :
    (∃ e, exportFile mask H P args cv.isLegacy (some (C09Found.fileText ls)) (Spec.Containers.encode cv cevs) = .abort (.write e)) ∨
    ∃ f, exportFile mask H P args cv.isLegacy (some (C09Found.fileText ls)) (Spec.Containers.encode cv cevs) = .file f ∧
      Exact f (sessionOf (evs.map CEv.cap) (optsOf args ports pm) p0 rest) (expect12 args.metadata P L cls t (snd12 H pv sp ms t.ch.random t.sh.random)).1 (expect12 args.metadata P L cls t (snd12 H pv sp ms t.ch.random t.sh.random)).2 := by
  have S : CaptureFile fl evs args cv cevs pm ports p0 rest := ⟨⟨hne, hdesc, hsp, hcp, hfp⟩, hnot1, hcwf, hitems, hpm, hports⟩
  have hff := S.firstFlights _ _ hflights
  have hc13 : args.metadata = true → Causal13 _ := fun _ => causal13_of_packet_order _ _ t.chRecord recsB hff
  have hc12 : args.metadata = false → Causal12 _ := fun _ => causal12_of_packet_order _ _ [t.chRecord] recsB hff
    (by simp) (by
      intro r hr
      simp only [List.mem_singleton] at hr
      subst hr
      simp [Transcript.chRecord, record])
  exact S.exact_or_abort mask H P _ _
    (tls12_connection_all H P L _ _ t hch hsh hrc hrs hv hcomp pv hneg
      ⟨hH, hls, hsz, haccept, hsuite, hvalid, hcls, hms, hl1, ho1⟩ hsc hss hokc hoks hlen (S.released _ hwr hwires) hc12 hc13)

end TLX.Props.C01All
