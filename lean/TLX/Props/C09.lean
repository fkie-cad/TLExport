/-
C09 — the export depends only on which secrets are supplied, not on how.
Property theorems only; helper lemmas are in `TLX/Lemmas/Keylog.lean` (`parse_split_at_line_boundary` and
`recogniser_is_pattern` are proved there, where the lemmas about lines need them), the model in `TLX/Keylog.lean`,
the independent meaning of a key log in `TLX/Spec/NssKeylog.lean`.

The model has switches where the check found the code as found violating the property
(`Cfg.original`); the full statements are proved for the repaired configuration and refuted, by a
concrete witness each, for the configuration as found. Which configuration the tree under test has
is established on every run by harness/c09.py (pattern string regenerated into `TLX/Gen/Consts.lean`,
correspondence of the lookups, a probe of `run()`).
-/
import TLX.Lemmas.Keylog
namespace TLX.Props.C09
open TLX.Keylog TLX.Spec.NssKeylog TLX.Lemmas.Keylog

/-- … for any number of pieces (file, DSB₁, DSB₂, …) joined with `"\n"`. -/
theorem parse_pieces_eq_parse_joined (hx : HexClass) (ps : List Str) :
    ps.flatMap (getKeysFromString hx) = getKeysFromString hx (joinLF ps) := by
  match ps with
  | [] => simp [joinLF, parse_nil]
  | [a] => simp [joinLF]
  | a :: b :: rest =>
    have := parse_pieces_eq_parse_joined hx (b :: rest)
    simp only [List.flatMap_cons] at this ⊢
    rw [joinLF, parse_split_at_line_boundary, this]

/-- `"\n"` → `"\r\n"` everywhere. -/
def toCRLF (t : Str) : Str := t.flatMap fun c => if c = 10 then [13, 10] else [c]

/-- Two texts that differ only in where CRs stand give the same keys … -/
theorem cr_placement_irrelevant (hx : HexClass) (t₁ t₂ : Str) (h : removeCR t₁ = removeCR t₂) :
    getKeysFromString hx t₁ = getKeysFromString hx t₂ := by
  simp only [getKeysFromString, h]

/-- … in particular LF and CRLF line ends (for every text, mixed line ends included). -/
theorem crlf_irrelevant (hx : HexClass) (t : Str) :
    getKeysFromString hx (toCRLF t) = getKeysFromString hx t := by
  apply cr_placement_irrelevant
  induction t with
  | nil => rfl
  | cons c cs ih =>
    simp only [toCRLF, List.flatMap_cons, removeCR, List.filter_append] at ih ⊢
    rw [ih]
    by_cases h10 : c = 10
    · subst h10; simp
    · by_cases h13 : c = 13
      · subst h13; simp
      · simp [h10, h13]

/-- Reading the key log through a text-mode file (universal newlines) changes nothing for LF/CRLF
    files. -/
theorem file_text_mode_irrelevant (hx : HexClass) (t : Str) (h : CrOk t) :
    getKeysFromString hx (universalNewlines t) = getKeysFromString hx t :=
  cr_placement_irrelevant hx _ _ (removeCR_universalNewlines t h)

/-- A line that does not look like a secret line — comment, blank line, prose, lines of other
    formats — yields no key, whatever the hex class of the pattern. -/
theorem foreign_lines_ignored (hx : HexClass) (line : Str) (h : ¬ LooksLikeKey line) :
    getKeyFromLine hx line = none := by
  unfold getKeyFromLine
  split
  · rename_i hacc; exact absurd (looks_of_accepts hacc) h
  · rfl

/-- Comment lines (`#…`) and blank lines are such lines. -/
theorem comment_and_blank_ignored (hx : HexClass) (rest : Str) :
    getKeyFromLine hx (35 :: rest) = none ∧ getKeyFromLine hx [] = none :=
  ⟨foreign_lines_ignored hx _ (not_looks_of_first 35 rest (by decide)),
   foreign_lines_ignored hx _ not_looks_nil⟩

/-- `Key(line)` cannot raise `IndexError` on a line the pattern accepted. -/
theorem key_init_total (hx : HexClass) (line : Str) (h : accepts hx line = true) :
    ∃ k, getKeyFromLine hx line = some k := by
  obtain ⟨k, hk⟩ := keyOfLine_of_accepts h
  exact ⟨k, by simp [getKeyFromLine, h, hk]⟩

/-- C09 at the level of the lookups, for a configuration of the model and a session with client
    random `cr`: two key logs that are well formed for the session (every line is a secret line, or
    inert, or carries another client random; CR only in CRLF), denote the same set of
    (label, `cr`, secret) triples — whatever the order, repetition, decoration, line-end style and
    hex-digit case — and are consistent (one secret per label) make the session install the same
    secrets, for TLS ≤ 1.2, TLS 1.3 and QUIC alike. -/
def keys_invariant_under_delivery_statement (cfg : Cfg) : Prop :=
  ∀ (cr : List Nat) (t₁ t₂ : Str), WellFormedFor cr t₁ → WellFormedFor cr t₂ →
    EquivalentFor cr t₁ t₂ → ConsistentFor cr t₁ →
    installed cfg.sel12 (getKeysFromString cfg.hex t₁) cr =
      installed cfg.sel12 (getKeysFromString cfg.hex t₂) cr

/-- The client random has no line with another label beside a CLIENT_RANDOM line. -/
def NoMixedLabelsFor (cr : List Nat) (t : Str) : Prop :=
  ∀ v l w, HasTriple t ⟨s_CLIENT_RANDOM, cr, v⟩ → HasTriple t ⟨l, cr, w⟩ → l = s_CLIENT_RANDOM

/-- Every configuration satisfies the statement restricted to key logs whose client randoms are
    written in the pattern's hex class and — for the first-line selection — without mixed labels. -/
theorem keys_invariant_under_delivery_partial (cfg : Cfg) (cr : List Nat) (t₁ t₂ : Str)
    (wf₁ : WellFormedFor cr t₁) (wf₂ : WellFormedFor cr t₂) (heq : EquivalentFor cr t₁ t₂)
    (hcons : ConsistentFor cr t₁) (hcls₁ : CrInClass cfg.hex t₁) (hcls₂ : CrInClass cfg.hex t₂)
    (hmix : cfg.sel12 = .first → NoMixedLabelsFor cr t₁) :
    installed cfg.sel12 (getKeysFromString cfg.hex t₁) cr =
      installed cfg.sel12 (getKeysFromString cfg.hex t₂) cr := by
  have r₁ := repFor_parse cfg.hex cr t₁ wf₁ hcls₁
  have r₂ : RepFor cr (getKeysFromString cfg.hex t₂) (HasTriple t₁) := by
    have r := repFor_parse cfg.hex cr t₂ wf₂ hcls₂
    refine ⟨fun k hk => ?_, fun tr h hc => r.2 tr ((heq tr hc).mp h) hc⟩
    obtain ⟨b, hb, hT⟩ := r.1 k hk
    exact ⟨b, hb, fun e => let ⟨tr, a, c, d⟩ := hT e; ⟨tr, a, (heq tr d).mpr c, d⟩⟩
  exact installed_eq_of_repFor cfg.sel12 r₁ r₂ hcons hmix

/-- **Full strength, repaired code** (pattern accepts `[a-fA-F0-9]`, TLS ≤ 1.2 takes the first
    CLIENT_RANDOM/RSA line of the session): no further hypothesis. -/
theorem keys_invariant_under_delivery : keys_invariant_under_delivery_statement Cfg.repaired := by
  intro cr t₁ t₂ wf₁ wf₂ heq hcons
  exact keys_invariant_under_delivery_partial Cfg.repaired cr t₁ t₂ wf₁ wf₂ heq hcons
    (crInClass_any t₁) (crInClass_any t₂) (fun h => by cases h)

/-- Corollary for whole logs: well formed, same set of triples, consistent ⇒ every session installs
    the same secrets. -/
theorem keys_invariant_under_delivery_global (t₁ t₂ : Str) (wf₁ : WellFormed t₁) (wf₂ : WellFormed t₂)
    (heq : Equivalent t₁ t₂) (hcons : Consistent t₁) (cr : List Nat) :
    installed .firstMaster (getKeysFromString .any t₁) cr = installed .firstMaster (getKeysFromString .any t₂) cr :=
  keys_invariant_under_delivery cr t₁ t₂ (wellFormedFor_of_wellFormed wf₁ cr) (wellFormedFor_of_wellFormed wf₂ cr)
    (fun tr _ => heq tr) (fun tr tr' a b c d e => hcons tr tr' a b e (c.trans d.symm))

/-- the client random `0123456789abcdef` × 4, as bytes -/
def wCr : List Nat := [1, 35, 69, 103, 137, 171, 205, 239, 1, 35, 69, 103, 137, 171, 205, 239, 1, 35, 69, 103, 137, 171, 205, 239, 1, 35, 69, 103, 137, 171, 205, 239]
def trA : Triple := ⟨s_CLIENT_RANDOM, wCr, [171]⟩
/-- label `EXPORTER_SECRET` -/
def trB : Triple := ⟨[69, 88, 80, 79, 82, 84, 69, 82, 95, 83, 69, 67, 82, 69, 84], wCr, [205]⟩
/-- `CLIENT_RANDOM 0123456789abcdef0123456789abcdef0123456789abcdef0123456789abcdef ab` -/
def wL1 : Str := [67, 76, 73, 69, 78, 84, 95, 82, 65, 78, 68, 79, 77, 32, 48, 49, 50, 51, 52, 53, 54, 55, 56, 57, 97, 98, 99, 100, 101, 102, 48, 49, 50, 51, 52, 53, 54, 55, 56, 57, 97, 98, 99, 100, 101, 102, 48, 49, 50, 51, 52, 53, 54, 55, 56, 57, 97, 98, 99, 100, 101, 102, 48, 49, 50, 51, 52, 53, 54, 55, 56, 57, 97, 98, 99, 100, 101, 102, 32, 97, 98]
/-- `CLIENT_RANDOM 0123456789ABCDEF0123456789ABCDEF0123456789ABCDEF0123456789ABCDEF AB` -/
def wL1U : Str := [67, 76, 73, 69, 78, 84, 95, 82, 65, 78, 68, 79, 77, 32, 48, 49, 50, 51, 52, 53, 54, 55, 56, 57, 65, 66, 67, 68, 69, 70, 48, 49, 50, 51, 52, 53, 54, 55, 56, 57, 65, 66, 67, 68, 69, 70, 48, 49, 50, 51, 52, 53, 54, 55, 56, 57, 65, 66, 67, 68, 69, 70, 48, 49, 50, 51, 52, 53, 54, 55, 56, 57, 65, 66, 67, 68, 69, 70, 32, 65, 66]
/-- `EXPORTER_SECRET 0123456789abcdef0123456789abcdef0123456789abcdef0123456789abcdef cd` -/
def wL2 : Str := [69, 88, 80, 79, 82, 84, 69, 82, 95, 83, 69, 67, 82, 69, 84, 32, 48, 49, 50, 51, 52, 53, 54, 55, 56, 57, 97, 98, 99, 100, 101, 102, 48, 49, 50, 51, 52, 53, 54, 55, 56, 57, 97, 98, 99, 100, 101, 102, 48, 49, 50, 51, 52, 53, 54, 55, 56, 57, 97, 98, 99, 100, 101, 102, 48, 49, 50, 51, 52, 53, 54, 55, 56, 57, 97, 98, 99, 100, 101, 102, 32, 99, 100]
/-- `SOME_OTHER_TOOL fedcba9876543210fedcba9876543210fedcba9876543210fedcba9876543210 not-hex at all` — another tool's label, another client random, no hex secret -/
def wAlien : Str := [83, 79, 77, 69, 95, 79, 84, 72, 69, 82, 95, 84, 79, 79, 76, 32, 102, 101, 100, 99, 98, 97, 57, 56, 55, 54, 53, 52, 51, 50, 49, 48, 102, 101, 100, 99, 98, 97, 57, 56, 55, 54, 53, 52, 51, 50, 49, 48, 102, 101, 100, 99, 98, 97, 57, 56, 55, 54, 53, 52, 51, 50, 49, 48, 102, 101, 100, 99, 98, 97, 57, 56, 55, 54, 53, 52, 51, 50, 49, 48, 32, 110, 111, 116, 45, 104, 101, 120, 32, 97, 116, 32, 97, 108, 108]
def wPlain : Str := wL1 ++ 10 :: wL2
def wSwapped : Str := wL2 ++ 10 :: wL1

theorem wL1_denotes : Denotes wL1 trA := ⟨(wL1.drop 14).take 64, wL1.drop 79, by decide +kernel⟩
theorem wL1U_denotes : Denotes wL1U trA := ⟨(wL1U.drop 14).take 64, wL1U.drop 79, by decide +kernel⟩
theorem wL2_denotes : Denotes wL2 trB := ⟨(wL2.drop 16).take 64, wL2.drop 81, by decide +kernel⟩
theorem wAlien_alien : AlienFor wCr wAlien :=
  ⟨wAlien.take 15, (wAlien.drop 16).take 64, wAlien.drop 81,
    (List.replicate 4 [254, 220, 186, 152, 118, 84, 50, 16]).flatten, by decide +kernel⟩

theorem cls_L1 : ClassifiedFor wCr (lines wL1) [.secret trA] := by
  rw [show lines wL1 = [wL1] by decide +kernel]
  exact ⟨⟨by decide, wL1_denotes⟩, trivial⟩
theorem cls_L1U : ClassifiedFor wCr (lines wL1U) [.secret trA] := by
  rw [show lines wL1U = [wL1U] by decide +kernel]
  exact ⟨⟨by decide, wL1U_denotes⟩, trivial⟩
theorem cls_L1L2 : ClassifiedFor wCr (lines wPlain) [.secret trA, .secret trB] := by
  rw [show lines wPlain = [wL1, wL2] by decide +kernel]
  exact ⟨⟨by decide, wL1_denotes⟩, ⟨by decide, wL2_denotes⟩, trivial⟩
theorem cls_L2L1 : ClassifiedFor wCr (lines wSwapped) [.secret trB, .secret trA] := by
  rw [show lines wSwapped = [wL2, wL1] by decide +kernel]
  exact ⟨⟨by decide, wL2_denotes⟩, ⟨by decide, wL1_denotes⟩, trivial⟩

theorem consistent_AB : ∀ tr tr', LineKind.secret tr ∈ [LineKind.secret trA, .secret trB] →
    LineKind.secret tr' ∈ [LineKind.secret trA, .secret trB] → tr.label = tr'.label → tr.secret = tr'.secret := by
  intro tr tr' a b hl
  simp only [List.mem_cons, LineKind.secret.injEq, List.mem_nil_iff, or_false] at a b
  rcases a with rfl | rfl <;> rcases b with rfl | rfl <;> first | rfl | (revert hl; decide)

/-- Non-vacuity of `keys_invariant_under_delivery`: a decorated, permuted, CRLF, duplicated,
    partly upper-case key log with a line of another tool for another client random, equivalent (for
    the session `wCr`) to the plain two-line log; both are well formed and consistent, the key lists
    differ, and the installed master secret is the one the lines carry. -/
def wDecorated : Str :=   -- "# comment\r\n" ++ L2 ++ "\r\n\r\n" ++ L1 (upper case) ++ "\r\n" ++ alien ++ "\n" ++ L1 ++ "\n"
  [35, 32, 99, 111, 109, 109, 101, 110, 116, 13, 10] ++ wL2 ++ [13, 10, 13, 10] ++ wL1U ++ [13, 10] ++ wAlien ++ [10] ++ wL1 ++ [10]

theorem cls_decorated : ClassifiedFor wCr (lines wDecorated)
    [.inert, .secret trB, .inert, .secret trA, .alien, .secret trA, .inert] := by
  rw [show lines wDecorated = [[35, 32, 99, 111, 109, 109, 101, 110, 116], wL2, [], wL1U, wAlien, wL1, []] by decide +kernel]
  exact ⟨⟨by decide, not_looks_of_first _ _ (by decide)⟩, ⟨by decide, wL2_denotes⟩, ⟨by decide, not_looks_nil⟩,
    ⟨by decide, wL1U_denotes⟩, ⟨by decide, wAlien_alien⟩, ⟨by decide, wL1_denotes⟩, ⟨by decide, not_looks_nil⟩, trivial⟩

section
-- `ClassifiedFor` recurses on the line list: while it is reducible, elaborating a mention of `cls_…`
-- (whose type is `ClassifiedFor wCr (lines …) …`) makes `whnf` split the whole witness text into lines.
attribute [local irreducible] ClassifiedFor

/-- **Code as found, hex class** (`[a-f]|[0-9]`): the same secret with the client random in
    upper-case hex is not installed. Witness: `CLIENT_RANDOM 0123456789abcdef0123456789abcdef0123456789abcdef0123456789abcdef ab` vs. the same line in upper case; the TLS ≤ 1.2
    lookup yields the master secret for the first and "Missing Secrets" for the second. -/
theorem uppercase_counterexample (s : Sel12) : ¬ keys_invariant_under_delivery_statement ⟨.lower, s⟩ := by
  intro H
  have h := H wCr wL1 wL1U (wellFormedFor_of_classified cls_L1) (wellFormedFor_of_classified cls_L1U)
    (equivalentFor_of_classified cls_L1 cls_L1U (fun _ => Iff.rfl))
    (consistentFor_of_classified cls_L1 (by
      intro tr tr' a b _
      simp only [List.mem_singleton, LineKind.secret.injEq] at a b
      rw [a, b]))
  revert h
  cases s <;> decide +kernel

/-- **Code as found, TLS ≤ 1.2 selection** (`secret_list[0]` whatever its label): with a second
    label on the same client random the line order decides. Witness: the CLIENT_RANDOM line followed
    by an EXPORTER_SECRET line (master secret installed) vs. the two lines swapped (`keys` unbound). -/
theorem label_order_counterexample (hx : HexClass) : ¬ keys_invariant_under_delivery_statement ⟨hx, .first⟩ := by
  intro H
  have h := H wCr wPlain wSwapped (wellFormedFor_of_classified cls_L1L2) (wellFormedFor_of_classified cls_L2L1)
    (equivalentFor_of_classified cls_L1L2 cls_L2L1 (fun tr => by
      simp only [List.mem_cons, List.mem_nil_iff, or_false]; exact or_comm))
    (consistentFor_of_classified cls_L1L2 consistent_AB)
  revert h
  cases hx <;> decide +kernel

set_option maxRecDepth 8000 in
example : WellFormedFor wCr wPlain ∧ WellFormedFor wCr wDecorated ∧ EquivalentFor wCr wPlain wDecorated ∧
    ConsistentFor wCr wPlain ∧
    (getKeysFromString .any wPlain).length = 2 ∧ (getKeysFromString .any wDecorated).length = 4 ∧
    (installed .firstMaster (getKeysFromString .any wDecorated) wCr).tls12 = .ok (false, [171]) :=
  ⟨wellFormedFor_of_classified cls_L1L2, wellFormedFor_of_classified cls_decorated,
   equivalentFor_of_classified cls_L1L2 cls_decorated (fun tr => by
      simp only [List.mem_cons, List.mem_nil_iff, or_false, reduceCtorEq, false_or, or_self]
      constructor <;> (intro h; rcases h with h | h <;> simp [h])),
   consistentFor_of_classified cls_L1L2 consistent_AB,
   by decide +kernel, by decide +kernel, by decide +kernel⟩

end

/-- The text the key list is parsed from: the `-s` file as text mode delivers it, then the DSBs. -/
def sourceText (file : Option Str) (dsbs : List Str) : Str :=
  joinLF ((file.map universalNewlines).toList ++ dsbs)

/-- What `run()` is asked to do about keys, for a configuration (`packetFirst`, `-s` default). -/
def delivery_irrelevant_statement (packetFirst : Bool) : Prop :=
  ∀ (hx : HexClass) (sArg : Option Str) (fs : Str → Option Str) (dsbs : List Str),
    (∀ p, sArg = some p → (fs p).isSome) →
    loadKeylog hx packetFirst none sArg fs dsbs =
      .keys (getKeysFromString hx (sourceText (sArg.bind fs) dsbs))

/-- **Repaired code** (DSBs are recognised before a `Packet` is built): with an existing `-s` file
    or none, the key list is the parse of *one* text — file content followed by the DSB contents —
    so together with `keys_invariant_under_delivery` only the set of secrets matters, not whether
    it arrives as file, one DSB, several DSBs or a mixture. -/
theorem delivery_irrelevant : delivery_irrelevant_statement false := by
  intro hx sArg fs dsbs hex
  cases sArg with
  | none =>
    simp [loadKeylog, loadKeylog.fromDsbs, sourceText, parse_pieces_eq_parse_joined]
  | some p =>
    obtain ⟨t, ht⟩ := Option.isSome_iff_exists.mp (hex p rfl)
    simp only [loadKeylog, Option.orElse, ht, loadKeylog.fromDsbs, Bool.false_and, Bool.false_eq_true,
      if_false, sourceText, Option.bind, Option.map, Option.toList]
    rw [List.singleton_append, ← parse_pieces_eq_parse_joined hx (universalNewlines t :: dsbs)]
    simp

/-- **Code as found** (`Packet(buf, ts)` before `ts == -1`): a DSB shorter than an Ethernet header
    — an empty one, a blank line, a short comment — aborts the run. -/
theorem short_dsb_counterexample : ¬ delivery_irrelevant_statement true := by
  intro H
  have h := H .any none (fun _ => none) [[]] (by intro p hp; cases hp)
  revert h
  decide

/-- Without `-s`, for a given `-s` default: the key list is exactly the DSB keys, whatever the
    file system looks like from the working directory. -/
def dsb_only_without_s_statement (sDefault : Option Str) : Prop :=
  ∀ (hx : HexClass) (fs : Str → Option Str) (dsbs : List Str),
    loadKeylog hx false sDefault none fs dsbs = .keys (dsbs.flatMap (getKeysFromString hx))

/-- **Repaired code** (`-s` default `None`). -/
theorem dsb_only_without_s : dsb_only_without_s_statement none := by
  intro hx fs dsbs
  simp [loadKeylog, loadKeylog.fromDsbs]

/-- **Code as found** (`-s` defaults to a relative sample path): in a working directory where that
    file does not exist the program exits although the DSBs carry the keys. -/
theorem default_s_counterexample (p : Str) : ¬ dsb_only_without_s_statement (some p) := by
  intro H
  have h := H .any (fun _ => none) []
  simp [loadKeylog] at h

-- non-vacuity: one file, the same text cut into two DSBs, and file + DSB give the same key list
example : loadKeylog .any false none (some [107]) (fun p => if p = [107] then some wPlain else none) [] =
    loadKeylog .any false none none (fun _ => none) [wL1, wL2] ∧
    loadKeylog .any false none (some [107]) (fun p => if p = [107] then some wL1 else none) [wL2] =
    loadKeylog .any false none none (fun _ => none) [wPlain] := by decide +kernel

end TLX.Props.C09
