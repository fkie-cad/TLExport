/-
C13 (TLS builder part) — metadata export only adds packets: if the record list without `-a` is the record list with
`-a` minus the metadata entries (`Session` appends handshake / CCS / alert records only under `exp_meta`), then the
payload-carrying packets without `-a` are a subsequence — same direction, time and payload, same order — of those
with `-a`. Sequence numbers differ, payloads do not.
-/
import TLX.Props.C06
import TLX.Props.C07
namespace TLX.Props.C13
open TLX TLX.TcpOut

theorem sublist_flatMap {α β : Type} (f : α → List β) {l₁ l₂ : List α} (h : l₁.Sublist l₂) :
    (l₁.flatMap f).Sublist (l₂.flatMap f) := by
  induction h with
  | slnil => simp
  | cons a _ ih => simp only [List.flatMap_cons]; exact ih.trans (List.sublist_append_right _ _)
  | cons_cons a _ ih => simp only [List.flatMap_cons]; exact List.Sublist.append (List.Sublist.refl _) ih

/-- C13 for the TCP builder: for every record list `on` (with metadata) and every predicate `isApp` marking the
    application-data entries, the data segments built from `on.filter isApp` are a subsequence of those built from `on` -/
theorem meta_only_adds_tls (on : List Rec) (isApp : Rec → Bool) (fsOn fsOff : List Frame)
    (hon : build on = some fsOn) (hoff : build (on.filter isApp) = some fsOff) :
    (dataFrames fsOff).Sublist (dataFrames fsOn) := by
  rw [C07.data_is_records _ _ hon, C07.data_is_records _ _ hoff]
  exact sublist_flatMap recData List.filter_sublist

/-- a metadata record (ClientHello, ServerHello, …) is exported verbatim: its parts concatenate to its bytes and no
    other record's bytes are mixed into its segments -/
theorem meta_record_verbatim (r : Rec) : ((recData r).map (·.2.2)).flatten = r.bytes ∨ r.ts = [] := by
  by_cases h : r.ts = []
  · exact .inr h
  · have := (Props.C06.recData_spec r h).2 r.fromServer
    rw [if_pos rfl, sentBytes, List.filter_eq_self.mpr fun s hs => by simpa using ((Props.C06.recData_spec r h).1 s hs).1,
      List.flatMap_def] at this
    exact .inl this

-- Non-vacuity: with a metadata record interleaved the application segments are unchanged
example :
    (build [⟨some [1, 2, 3], [10], false⟩, ⟨some [7, 7], [20, 21], true⟩]).map dataFrames =
      some [(false, 10, [1, 2, 3]), (true, 20, [7]), (true, 21, [7])] := by decide
example :
    (build [⟨some [22, 3, 3, 0, 1, 1], [5, 6], false⟩, ⟨some [1, 2, 3], [10], false⟩,
            ⟨some [7, 7], [20, 21], true⟩]).map dataFrames =
      some [(false, 5, [22, 3, 3]), (false, 6, [0, 1, 1]), (false, 10, [1, 2, 3]), (true, 20, [7]), (true, 21, [7])] := by
  decide

end TLX.Props.C13
