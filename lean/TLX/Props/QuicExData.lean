import TLX.Props.C01File
import TLX.Quic.Session
set_option autoImplicit false
/-! Data of the QUIC instance modules that more than one of them evaluates on — the capture clock `info`, the views of a run, the
client's 0-RTT suite and early secret — apart from the modules that evaluate, so that none of those waits for another's evaluation. -/

namespace TLX.Props.ExportPropsQuic.Ex
open TLX
open TLX.Props.C01File.Ex (cMac sMac)

def info : Nat → Pipeline.Info := fun tag => ⟨0, 100 + tag, cMac, sMac, false⟩

def view (l : List (List Pipeline.OutPkt)) : List (List (Nat × Bytes)) := l.map fun fs => fs.map fun p => (p.ts, p.payload)

/-- what the connection exports when its datagrams carry the tags `t + 1 … t + 7`: (capture time, data) of the four with
    STREAM data `HI`, `GET`, `OK`, `MORE` -/
def data (t : Nat) : List (Nat × Bytes) :=
  [(t + 102, [0x48, 0x49]), (t + 104, [0x47, 0x45, 0x54]), (t + 105, [0x4f, 0x4b]), (t + 107, [0x4d, 0x4f, 0x52, 0x45])]

end TLX.Props.ExportPropsQuic.Ex

namespace TLX.Props.C02Capstone4.ExZ
open TLX TLX.Quic.Session

/-- the client resumed a session of suite 0x1303 — the FIRST suite of its ClientHello (`chx` offers 0x1303, 0x1301, 0x1302; the
    server selects 0x1301) — and sends 0-RTT data behind its Initial packet -/
def selR : SuiteSel := ⟨.sha256, .chachaPoly, 32⟩
def eS : Bytes := List.replicate 32 0x55

end TLX.Props.C02Capstone4.ExZ
