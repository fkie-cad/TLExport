/-
The 1-RTT phase of a QUIC connection in the composed model `QuicPipeline.quicMachine`: from an established session (`Est`)
every conformant 1-RTT history is exported exactly; and the `set_tls_decryptors` call that establishes `Est`, in RFC terms.
Declares into `TLX.Props.C02Capstone`, the namespace of the connection theorems (`Props/C02Capstone.lean` rests on this file).
-/
import TLX.Props.C02Session
import TLX.Props.C02Pipeline
import TLX.Spec.QuicConnection
import TLX.Props.C02Dissect
import TLX.Props.C02Out
import TLX.Props.C02ConnOut
import TLX.Props.C15
import TLX.Crypto.Toy
import TLX.Props.C02Crypto
import TLX.Props.C02Hello
set_option autoImplicit false
namespace TLX.Props.C02Capstone
open TLX TLX.Quic TLX.Cipher TLX.Quic.Session TLX.Lemmas.QuicSession TLX.Spec.QuicSender TLX.Spec.QuicFrames
open TLX.Lemmas.QuicFrameSeq (normalize_filterMap forall_normalize)
open TLX.Props.C02Capstone3 (expo)
open TLX.Props.C02Session TLX.Spec.QuicConnection TLX.Spec.QuicPackets TLX.QuicPipeline
open TLX.Spec.KeySchedules TLX.Lemmas.KeySchedule

variable {σ : Type} (P : Params σ)

def isCryptoQ (f : QFrame) : Bool := match f with | .crypto .. => true | _ => false

def cryptoIns (x : SPkt) : List CryptoIn :=
  x.frames.filterMap fun f => match f with
    | .crypto off _ data => some ⟨x.srv, x.level.ptype, off.val, data.length, data⟩
    | _ => none

theorem toParsed_isCrypto (f : QFrame) : isCryptoP f.toParsed = isCryptoQ f := by
  cases f <;> rfl

theorem normalize_noCrypto (fs : List QFrame) (h : ∀ f ∈ fs, isCryptoQ f = false) :
    ∀ f ∈ normalize fs, isCryptoQ f = false :=
  forall_normalize (fun f => isCryptoQ f = false) (fun _ => rfl) fs h

theorem noCryptoP_of_noCrypto (fs : List QFrame) (h : ∀ f ∈ fs, isCryptoQ f = false) :
    ∀ g ∈ (normalize fs).map QFrame.toParsed, isCryptoP g = false := by
  intro g hg
  obtain ⟨f, hf, rfl⟩ := List.mem_map.mp hg
  rw [toParsed_isCrypto]; exact normalize_noCrypto _ h f hf

theorem noCrypto_of_hasCrypto (fs : List QFrame) (h : hasCrypto fs = false) : ∀ f ∈ fs, isCryptoQ f = false := by
  intro f hf
  have := List.any_eq_false.mp h f hf
  cases f <;> first | rfl | (simp at this)

theorem issue_eq (l cids : List Bytes) : issue l cids = cids.foldl setAdd l := rfl

theorem newCids_eq (fs : List QFrame) : ncidsP ((normalize fs).map QFrame.toParsed) = newCids fs := by
  unfold ncidsP newCids
  rw [List.filterMap_map, normalize_filterMap _ (fun _ => rfl)]
  congr 1
  funext f
  cases f <;> rfl

/-- as `C02Session.step_one_rtt` for a packet without CRYPTO frames: ANY TLS-parser parameters (the parser is not consulted) -/
theorem step_one_rtt_nc (L : SealLaws P.prims) (sel : SuiteSel) (v : Version) (k0 : AppKeys)
    (hk : KeysWf P sel v k0)
    (x : SPkt) (s : St σ) (gc gs lc ls : Nat) (hrel : Rel1 P sel v k0 s gc gs lc ls)
    (hlv : x.level = .oneRtt) (hlo : (if x.srv then gs else gc) ≤ x.gen) (hhi : x.gen ≤ (if x.srv then gs else gc) + 1)
    (hpn : PnLenOk (if x.srv then ls else lc) x.pn x.pnLen) (hwf : WellFormedSeq x.frames)
    (hnc : ∀ f ∈ x.frames, isCryptoQ f = false) :
    (stepPkt P s (emit1 P L sel v k0 x)).caught = none ∧ (stepPkt P s (emit1 P L sel v k0 x)).escaped = none ∧
    (stepPkt P s (emit1 P L sel v k0 x)).st.out = s.out ++ expectedOf .rtt1 x ∧
    Rel1 P sel v k0 (stepPkt P s (emit1 P L sel v k0 x)).st (if x.srv then gc else x.gen) (if x.srv then x.gen else gs)
      (if x.srv then lc else max lc x.pn) (if x.srv then max ls x.pn else ls) ∧
    (stepPkt P s (emit1 P L sel v k0 x)).st.tls = s.tls ∧
    (stepPkt P s (emit1 P L sel v k0 x)).st.decInitial = s.decInitial ∧
    (stepPkt P s (emit1 P L sel v k0 x)).st.clientCids =
      (if x.srv then s.clientCids else issue s.clientCids (newCids x.frames)) ∧
    (stepPkt P s (emit1 P L sel v k0 x)).st.serverCids =
      (if x.srv then issue s.serverCids (newCids x.frames) else s.serverCids) := by
  obtain ⟨s', h3, h2, hstep⟩ := step_short_eq P L sel v k0 hk x s gc gs lc ls hrel hlv hlo hhi hpn hwf
  obtain ⟨hinv, hflag, hpc, hps⟩ := hrel
  rw [hstep, handleFrames_nc P _ _ _ (noCryptoP_of_noCrypto _ hnc)]
  have hsrv := emit1_isServer P L sel v k0 x
  have hts := emit1_ts P L sel v k0 x
  have ht := emit1_ptype P L sel v k0 hlv
  generalize emit1 P L sel v k0 x = p at hsrv hts ht ⊢
  generalize hs2 : pnStore s' x.srv Space.app (max (if x.srv then ls else lc) x.pn) = s2
  have f2 : FramePn s' s2 := by subst hs2; exact ⟨_, _, pnStore_eq ..⟩
  have hs2' : s2.tls = s.tls ∧ s2.out = s.out ∧ s2.decInitial = s.decInitial ∧ s2.clientCids = s.clientCids ∧
      s2.serverCids = s.serverCids := by
    obtain ⟨_, _, rfl⟩ := f2; obtain ⟨_, _, _, _, _, rfl⟩ := h3; exact ⟨rfl, rfl, rfl, rfl, rfl⟩
  obtain ⟨u1, u2, u3, u4, u5⟩ := hs2'
  refine ⟨rfl, rfl, ?_, ⟨((h2.of_framePn P f2).transfer P rfl rfl rfl rfl rfl rfl rfl), ?_, ?_, ?_⟩, u1, u3, ?_, ?_⟩
  · simp only [afterFrames, u2, filterMap_export]
    simp [expectedOf, exported_eq, mkOut, hts, hsrv, ht]
  · simp only [afterFrames, u1]; exact hflag
  · subst hs2; obtain ⟨_, _, _, _, _, rfl⟩ := h3
    cases x.srv <;> simp [afterFrames, pnStore_eq, PnTab.set, hpc]
  · subst hs2; obtain ⟨_, _, _, _, _, rfl⟩ := h3
    cases x.srv <;> simp [afterFrames, pnStore_eq, PnTab.set, hps]
  · simp only [afterFrames, hsrv, u4, newCids_eq, issue_eq]
  · simp only [afterFrames, hsrv, u5, newCids_eq, issue_eq]

/-! ### the sender's 1-RTT packet on the wire is the packet the session theorems speak about -/

theorem shortOf_wf (x : SPkt) (pl : Bytes) (h1 : 1 ≤ x.pnLen) (h4 : x.pnLen ≤ 4) : (shortOf x pl).wf := by
  refine ⟨?_, ?_, ?_⟩
  · show x.lowBits % 4 < 4; omega
  · show 1 ≤ (pnBytes x.pnLen x.pn).length; rw [pnBytes_length]; exact h1
  · show (pnBytes x.pnLen x.pn).length ≤ 4; rw [pnBytes_length]; exact h4

/-- the first byte of a short header, bit fields against sums; the two bit-field identities are finite (`r < 8`, `b < 2`): decided -/
theorem firstShort_arith (l g n : Nat) (h1 : 1 ≤ n) (h4 : n ≤ 4) :
    0x40 + (if 4 ≤ l % 8 then 0x20 else 0) + l % 4 * 8 + (if g % 2 = 1 then 4 else 0) + (n - 1) =
      0x40 + (l % 8) * 8 + (g % 2) * 4 + (n - 1) % 4 := by
  have e1 : ∀ r < 8, (if 4 ≤ r then 0x20 else 0) + r % 4 * 8 = r * 8 := by decide
  have e2 : ∀ b < 2, (if b = 1 then 4 else 0) = b * 4 := by decide
  rw [← Nat.mod_mod_of_dvd l (by decide : 4 ∣ 8), Nat.add_assoc 0x40, e1 _ (Nat.mod_lt _ (by decide)),
    e2 _ (Nat.mod_lt _ (by decide)), Nat.mod_eq_of_lt (by omega : n - 1 < 4)]

theorem shortOf_first (x : SPkt) (pl : Bytes) (h1 : 1 ≤ x.pnLen) (h4 : x.pnLen ≤ 4) :
    (shortOf x pl).first = firstByteShort x := by
  unfold Short.first firstByteShort shortOf
  simp only [pnBytes_length, decide_eq_true_eq]
  rw [firstShort_arith _ _ _ h1 h4]

theorem shortOf_toPkt (sealFn : Seal) (alg : Alg) (k : DirKeys) (x : SPkt) (hlv : x.level = .oneRtt)
    (h1 : 1 ≤ x.pnLen) (h4 : x.pnLen ≤ 4) :
    (shortOf x (protectedPayload sealFn alg k x)).toPkt x.srv x.ts = emit sealFn alg k x := by
  unfold Short.toPkt emit
  rw [shortOf_first x _ h1 h4]
  simp only [hlv, if_true, shortOf]
  congr 2
  by_cases b : x.gen % 2 = 1 <;> simp [b]; omega

/-! ### one 1-RTT datagram through `handle_packet` (dissector ∘ session), composed model -/

section Composed
variable (maskFn : Dissect.MaskFn) (H : Crypto.Prims) (Pc : Cipher.Prims)

/-- The state of a `QuicSession` in which the handshake is over, as the composition needs it:
    `rel`     `C02Session.Rel1`: the Application decryptors are the generations `0 … max gc gs` of the sender's key chain,
              epochs and key phases follow the two directions, largest captured packet numbers `lc` / `ls`, no pending
              handshake data;
    `init`    the Initial decryptor exists (`handle_packet` does not derive it again);
    `hpc/hps` `self.keys` holds the two application header-protection keys (`Props.C02Pipeline.after_tls_hp_exact`);
    `suite`   `tls_session.ciphersuite == b"\x13\x03"` is `chacha` (selects the mask primitive);
    `ver`     the adapter's version stamp;
    `cc/sc`   `client_cids` / `server_cids`. -/
structure Est (kl : List Keylog.Key) (sel : SuiteSel) (v : Version) (k0 : AppKeys) (hpC hpS : Bytes) (chacha : Bool)
    (s : St Tls) (gc gs lc ls : Nat) (cc sc : List Bytes) : Prop where
  rel : Rel1 (params H Pc kl) sel v k0 s gc gs lc ls
  init : s.decInitial.isSome = true
  hpc : s.tls.hp.clientApplication = some hpC
  hps : s.tls.hp.serverApplication = some hpS
  suite : (s.tls.msgs.ciphersuite == some [0x13, 0x03]) = chacha
  ver : s.tls.ver = s.version
  cc : s.clientCids = cc
  sc : s.serverCids = sc

theorem stampVer_id (s : St Tls) (h : s.tls.ver = s.version) : stampVer s = s := by
  unfold stampVer
  obtain ⟨_⟩ := s
  rename_i tls
  obtain ⟨_⟩ := tls
  simp_all

theorem handleTurn_one (P : Params Tls) (s : St Tls) (p : Pkt) (hesc : (stepPkt P s p).escaped = none)
    (hver : (stepPkt P s p).st.tls.ver = (stepPkt P s p).st.version) :
    handleTurn P (s, none) [p] = ((stepPkt P s p).st, none) := by
  simp only [handleTurn, handleQuicPackets, hesc, stampVer_id _ hver]

theorem loop_one (P : Params Tls) (srv : Bool) (guessed : Bytes) (ts : Nat) (s : St Tls) (d more : Bytes) (p : Pkt)
    (hne : d ≠ []) (hex : Dissect.extract maskFn (envOf s) srv guessed ts d = { pkts := [p], rest := more })
    (hesc : (stepPkt P s p).escaped = none) (hver : (stepPkt P s p).st.tls.ver = (stepPkt P s p).st.version) :
    (Dissect.dissectLoop maskFn (fun x : LoopSt => envOf x.1) (handleTurn P) srv guessed ts (s, none) d).1 =
      (Dissect.dissectLoop maskFn (fun x : LoopSt => envOf x.1) (handleTurn P) srv guessed ts
        ((stepPkt P s p).st, none) more).1 := by
  rw [Lemmas.QuicDissect.dissectLoop_cons _ _ _ _ _ _ _ _ hne]
  simp only [hex, handleTurn_one P s p hesc hver]

theorem protectedPayload_length (L : SealLaws Pc) (alg : Alg) (k : DirKeys) (x : SPkt)
    (h : AeadOk alg k.key.length k.iv.length 16) :
    (protectedPayload L.aeadSeal alg k x).length = (encodeAll x.frames).length + 16 := by
  unfold protectedPayload
  have hnl : (nonce k.iv x.pn).length = k.iv.length := by simp [nonce, Lemmas.QuicVarint.ofNatBE_length]
  exact L.seal_len _ _ _ _ _ _ (by rw [hnl]; exact h)

theorem feedPre_est (P : Params Tls) (s : St Tls) (dcid : Bytes) (hi : s.decInitial.isSome = true)
    (hv : s.tls.ver = s.version) (v : Version) (hl : v = .unknown ∨ s.version ≠ .unknown) :
    feedPre H P s dcid v = s := by
  have hn : s.decInitial.isNone = false := by cases h : s.decInitial <;> simp_all
  unfold feedPre handlePacketPre
  simp only [latchVersion_id s v hl, hn, Bool.false_eq_true, if_false]
  exact stampVer_id s hv

/-- what the sender of a 1-RTT datagram does beyond `SendOk1`: no CRYPTO frame in the packet (see
    `tls_quiet_rtt1_counterexample` for why this cannot simply be dropped), the packet padded so that the 16-byte
    header-protection sample exists (RFC 9001 §5.4.2), the mask computed from ITS header-protection key -/
structure DgOk (L : SealLaws Pc) (alg : Alg) (k : DirKeys) (hp : Bytes) (chacha : Bool) (d : Dg1) : Prop where
  noCrypto : hasCrypto d.x.frames = false
  padded : 4 ≤ d.x.pnLen + (encodeAll d.x.frames).length
  mask : maskFn chacha hp (shortOf d.x (protectedPayload L.aeadSeal alg k d.x)).sample = some d.mask
  mask5 : 5 ≤ d.mask.length

theorem packetIsServer_of_dcidOk (s : St Tls) (cc sc : List Bytes) (hcc : s.clientCids = cc) (hsc : s.serverCids = sc)
    (srv : Bool) (dcid : Bytes) (hcid : DcidOk cc sc srv dcid) : packetIsServer s (!srv) dcid = srv := by
  unfold packetIsServer
  unfold DcidOk at hcid
  rw [hcc, hsc]
  have hl : dcid.length > 0 ↔ dcid ≠ [] := List.length_pos_iff
  cases hs : srv <;> simp only [hs, Bool.false_eq_true, if_false, if_true] at hcid ⊢
  · by_cases h1 : dcid.length > 0 ∧ dcid ∈ sc ∧ dcid ∉ cc
    · simp [h1]
    · have h2 : ¬ (dcid.length > 0 ∧ dcid ∈ cc ∧ dcid ∉ sc) := by rw [hl]; exact hcid
      simp [h1, h2]
  · have h1 : ¬ (dcid.length > 0 ∧ dcid ∈ sc ∧ dcid ∉ cc) := by rw [hl]; exact hcid
    by_cases h2 : dcid.length > 0 ∧ dcid ∈ cc ∧ dcid ∉ sc <;> simp [h1, h2]

theorem one_turn (kl : List Keylog.Key) (L : SealLaws Pc) (sel : SuiteSel) (v : Version) (k0 : AppKeys)
    (hpC hpS : Bytes) (chacha : Bool) (hk : KeysWf (params H Pc kl) sel v k0)
    (s : St Tls) (gc gs lc ls : Nat) (cc sc : List Bytes)
    (hest : Est H Pc kl sel v k0 hpC hpS chacha s gc gs lc ls cc sc) (d : Dg1)
    (hlv : d.x.level = .oneRtt) (hlo : (if d.x.srv then gs else gc) ≤ d.x.gen)
    (hhi : d.x.gen ≤ (if d.x.srv then gs else gc) + 1)
    (hpn : PnLenOk (if d.x.srv then ls else lc) d.x.pn d.x.pnLen) (hwf : WellFormedSeq d.x.frames)
    (hdg : DgOk maskFn Pc L sel.alg (genDir (keyUpdate H sel v) k0 d.x.srv d.x.gen) (if d.x.srv then hpS else hpC)
      chacha d) :
    (Dissect.dissectLoop maskFn (fun x : LoopSt => envOf x.1) (handleTurn (params H Pc kl)) d.x.srv d.x.dcid d.x.ts
      (s, none) (d.wire L.aeadSeal sel.alg (genDir (keyUpdate H sel v) k0 d.x.srv d.x.gen))).1 =
    ((stepPkt (params H Pc kl) s (emit1 (params H Pc kl) L sel v k0 d.x)).st, none) := by
  generalize hkd : genDir (keyUpdate H sel v) k0 d.x.srv d.x.gen = kd at hdg ⊢
  obtain ⟨hrel, hinit, hhpc, hhps, hsuite, hver, hcc, hsc⟩ := hest
  have hP : (params H Pc kl).keyUpdate = keyUpdate H := rfl
  obtain ⟨⟨hn1, hn4⟩, hpn'⟩ := hpn
  have hkwf := hk d.x.srv d.x.gen
  rw [hP, hkd] at hkwf
  have hlen := protectedPayload_length Pc L sel.alg kd d.x hkwf.1
  have hextract : Dissect.extract maskFn (envOf s) d.x.srv d.x.dcid d.x.ts (d.wire L.aeadSeal sel.alg kd) =
      { pkts := [emit1 (params H Pc kl) L sel v k0 d.x], rest := [] } := by
    have := C02Dissect.dissect_encode_short maskFn (envOf s) d.x.srv d.x.ts
      (shortOf d.x (protectedPayload L.aeadSeal sel.alg kd d.x)) (shortOf_wf _ _ hn1 hn4)
      (by show 20 ≤ (pnBytes d.x.pnLen d.x.pn).length + (protectedPayload L.aeadSeal sel.alg kd d.x).length
          rw [pnBytes_length, hlen]; have := hdg.padded; omega)
      (if d.x.srv then hpS else hpC) d.mask
      (by cases hs : d.x.srv <;> simp [envOf, HpKeys.get, hhpc, hhps])
      (by show maskFn (s.tls.msgs.ciphersuite == some [0x13, 0x03]) _ _ = _; rw [hsuite]; exact hdg.mask)
      hdg.mask5
    rw [shortOf_toPkt _ _ _ _ hlv hn1 hn4] at this
    unfold emit1
    rw [hP, hkd]
    exact this
  have hne : d.wire L.aeadSeal sel.alg kd ≠ [] := Lemmas.QuicDissect.protect_short_ne_nil _ _
  obtain ⟨_, c2, _, c4, c5, _⟩ := step_one_rtt_nc (params H Pc kl) L sel v k0 hk d.x s gc gs lc ls hrel hlv
    hlo hhi ⟨⟨hn1, hn4⟩, hpn'⟩ hwf (noCrypto_of_hasCrypto _ hdg.noCrypto)
  rw [loop_one maskFn _ _ _ _ s _ [] _ hne hextract c2 (by rw [c5, hver, c4.inv.version, hrel.inv.version]),
    Lemmas.QuicDissect.dissectLoop_nil]

theorem datagram_step (kl : List Keylog.Key) (L : SealLaws Pc) (sel : SuiteSel) (v : Version) (k0 : AppKeys)
    (hpC hpS : Bytes) (chacha : Bool) (hk : KeysWf (params H Pc kl) sel v k0)
    (s : St Tls) (gc gs lc ls : Nat) (cc sc : List Bytes)
    (hest : Est H Pc kl sel v k0 hpC hpS chacha s gc gs lc ls cc sc) (d : Dg1)
    (hlv : d.x.level = .oneRtt) (hlo : (if d.x.srv then gs else gc) ≤ d.x.gen)
    (hhi : d.x.gen ≤ (if d.x.srv then gs else gc) + 1)
    (hpn : PnLenOk (if d.x.srv then ls else lc) d.x.pn d.x.pnLen) (hwf : WellFormedSeq d.x.frames)
    (hdg : DgOk maskFn Pc L sel.alg (genDir (keyUpdate H sel v) k0 d.x.srv d.x.gen) (if d.x.srv then hpS else hpC)
      chacha d)
    (hcid : DcidOk cc sc d.x.srv d.x.dcid) :
    let r := handleDatagram maskFn H (params H Pc kl) s (!d.x.srv) d.x.dcid .unknown d.x.ts
      (d.wire L.aeadSeal sel.alg (genDir (keyUpdate H sel v) k0 d.x.srv d.x.gen))
    r.2 = none ∧ r.1.out = s.out ++ expectedOf .rtt1 d.x ∧
    Est H Pc kl sel v k0 hpC hpS chacha r.1 (if d.x.srv then gc else d.x.gen) (if d.x.srv then d.x.gen else gs)
      (if d.x.srv then lc else max lc d.x.pn) (if d.x.srv then max ls d.x.pn else ls)
      (if d.x.srv then cc else issue cc (newCids d.x.frames))
      (if d.x.srv then issue sc (newCids d.x.frames) else sc) := by
  intro r
  have hest' := hest
  obtain ⟨hrel, hinit, hhpc, hhps, hsuite, hver, hcc, hsc⟩ := hest
  obtain ⟨_, c2, c3, c4, c5, c6, c7, c8⟩ := step_one_rtt_nc (params H Pc kl) L sel v k0 hk d.x s gc gs lc ls hrel hlv
    hlo hhi hpn hwf (noCrypto_of_hasCrypto _ hdg.noCrypto)
  have hr : r = ((stepPkt (params H Pc kl) s (emit1 (params H Pc kl) L sel v k0 d.x)).st, none) := by
    show handleDatagram _ _ _ _ _ _ _ _ _ = _
    unfold handleDatagram
    simp only [feedPre_est H _ s _ hinit hver .unknown (Or.inl rfl), packetIsServer_of_dcidOk s cc sc hcc hsc d.x.srv d.x.dcid hcid]
    exact one_turn maskFn H Pc kl L sel v k0 hpC hpS chacha hk s gc gs lc ls cc sc hest' d hlv hlo hhi hpn hwf hdg
  rw [hr]
  refine ⟨rfl, c3, ⟨c4, by rw [c6]; exact hinit, by rw [c5]; exact hhpc, by rw [c5]; exact hhps,
    by rw [c5]; exact hsuite, by rw [c5, hver, c4.inv.version, hrel.inv.version], ?_, ?_⟩⟩
  · simp only [c7, hcc]
  · simp only [c8, hsc]

end Composed

theorem est_keylog_irrelevant (H : Crypto.Prims) (Pc : Cipher.Prims) (kl kl' : List Keylog.Key) (sel : SuiteSel) (v : Version)
    (k0 : AppKeys) (hpC hpS : Bytes) (chacha : Bool) (s : St Tls) (gc gs lc ls : Nat) (cc sc : List Bytes)
    (h : Est H Pc kl sel v k0 hpC hpS chacha s gc gs lc ls cc sc) :
    Est H Pc kl' sel v k0 hpC hpS chacha s gc gs lc ls cc sc :=
  ⟨⟨⟨h.rel.inv.suite, h.rel.inv.version, h.rel.inv.gens, h.rel.inv.ec, h.rel.inv.es, h.rel.inv.lc, h.rel.inv.ls⟩,
    h.rel.flag, h.rel.pc, h.rel.ps⟩, h.init, h.hpc, h.hps, h.suite, h.ver, h.cc, h.sc⟩

theorem keysWf_keylog_irrelevant (H : Crypto.Prims) (Pc : Cipher.Prims) (kl kl' : List Keylog.Key) (sel : SuiteSel)
    (v : Version) (k0 : AppKeys) (h : KeysWf (params H Pc kl) sel v k0) : KeysWf (params H Pc kl') sel v k0 := h

section History
variable (maskFn : Dissect.MaskFn) (H : Crypto.Prims) (Pc : Cipher.Prims) (info : Nat → Pipeline.Info)

/-- the UDP payload of a 1-RTT datagram of this connection: protected under the key of its direction and generation -/
def wireOf (L : SealLaws Pc) (sel : SuiteSel) (v : Version) (k0 : AppKeys) (d : Dg1) : Bytes :=
  d.wire L.aeadSeal sel.alg (genDir (keyUpdate H sel v) k0 d.x.srv d.x.gen)

/-- the captured frame `p` carries the datagram `d`: its UDP payload, its capture time, and its source is the client
    endpoint iff the client sent it (no address migration) -/
structure Carries (c : QConn) (w : Dg1 → Bytes) (p : MainLoop.Pkt) (d : Dg1) : Prop where
  payload : p.payload = w d
  ts : (info p.tag).ts = d.x.ts
  dir : (p.src == c.client) = !d.x.srv

/-- what both endpoints do in the 1-RTT phase, datagram by datagram (`gc gs`: generations shown, `lc ls`: largest packet
    numbers captured, `cc sc`: connection IDs issued so far) -/
def Send1 (L : SealLaws Pc) (sel : SuiteSel) (v : Version) (k0 : AppKeys) (hpC hpS : Bytes) (chacha : Bool) :
    (gc gs lc ls : Nat) → (cc sc : List Bytes) → List Dg1 → Prop
  | _, _, _, _, _, _, [] => True
  | gc, gs, lc, ls, cc, sc, d :: rest =>
    d.x.level = .oneRtt ∧ (if d.x.srv then gs else gc) ≤ d.x.gen ∧ d.x.gen ≤ (if d.x.srv then gs else gc) + 1 ∧
    PnLenOk (if d.x.srv then ls else lc) d.x.pn d.x.pnLen ∧ WellFormedSeq d.x.frames ∧
    DgOk maskFn Pc L sel.alg (genDir (keyUpdate H sel v) k0 d.x.srv d.x.gen) (if d.x.srv then hpS else hpC) chacha d ∧
    DcidOk cc sc d.x.srv d.x.dcid ∧
    Send1 L sel v k0 hpC hpS chacha (if d.x.srv then gc else d.x.gen) (if d.x.srv then d.x.gen else gs)
      (if d.x.srv then lc else max lc d.x.pn) (if d.x.srv then max ls d.x.pn else ls)
      (if d.x.srv then cc else issue cc (newCids d.x.frames))
      (if d.x.srv then issue sc (newCids d.x.frames) else sc) rest

/-- the main loop hands the datagrams to the session one by one (`handle_packet(packet, dcid, UNKNOWN)` with the key log as
    it is at that moment — it may grow through decryption-secrets blocks; the routing DCID is the packet's: `Props/C04`) -/
def feedAll (QM : MainLoop.QuicMachine Keylog.Key QConn Pipeline.OutPkt) (c : QConn) :
    List (List Keylog.Key × MainLoop.Pkt × Dg1) → QConn
  | [] => c
  | (kl, p, d) :: rest => feedAll QM (QM.feed c kl p d.x.dcid .unknown) rest

theorem feedAll_exact (kl : List Keylog.Key) (L : SealLaws Pc) (sel : SuiteSel) (v : Version) (k0 : AppKeys)
    (hpC hpS : Bytes) (chacha : Bool) (hk : KeysWf (params H Pc kl) sel v k0)
    (items : List (List Keylog.Key × MainLoop.Pkt × Dg1)) (c : QConn) (gc gs lc ls : Nat) (cc sc : List Bytes)
    (hr : c.raised = none)
    (hest : Est H Pc kl sel v k0 hpC hpS chacha c.st gc gs lc ls cc sc)
    (hcar : ∀ x ∈ items, Carries info c (wireOf H Pc L sel v k0) x.2.1 x.2.2)
    (hsend : Send1 maskFn H Pc L sel v k0 hpC hpS chacha gc gs lc ls cc sc (items.map (·.2.2))) :
    let c' := feedAll (quicMachine maskFn H Pc info) c items
    c'.raised = none ∧ c'.st.out = c.st.out ++ (items.map (·.2.2)).flatMap (fun d => expectedOf .rtt1 d.x) ∧
    SameEnds c c' ∧
    ∃ gc' gs' lc' ls', Est H Pc kl sel v k0 hpC hpS chacha c'.st gc' gs' lc' ls'
      (finalCids cc sc (items.map (·.2.2))).1 (finalCids cc sc (items.map (·.2.2))).2 := by
  induction items generalizing c gc gs lc ls cc sc with
  | nil => exact ⟨hr, by simp [feedAll], SameEnds.refl c, gc, gs, lc, ls, hest⟩
  | cons it rest ih =>
    obtain ⟨kl1, p, d⟩ := it
    obtain ⟨h1, h2, h3, h4, h5, h6, h7, h8⟩ := hsend
    obtain ⟨w1, w2, w3⟩ := hcar (kl1, p, d) (List.mem_cons_self ..)
    obtain ⟨s1, s2, s3⟩ := datagram_step maskFn H Pc kl1 L sel v k0 hpC hpS chacha hk c.st gc gs lc ls cc sc
      (est_keylog_irrelevant H Pc kl kl1 _ _ _ _ _ _ _ _ _ _ _ _ _ hest) d h1 h2 h3 h4 h5 h6 h7
    have s3 := est_keylog_irrelevant H Pc kl1 kl _ _ _ _ _ _ _ _ _ _ _ _ _ s3
    have hfeed : (quicMachine maskFn H Pc info).feed c kl1 p d.x.dcid .unknown =
        { c with st := (handleDatagram maskFn H (params H Pc kl1) c.st (!d.x.srv) d.x.dcid .unknown d.x.ts
                          (wireOf H Pc L sel v k0 d)).1, raised := none } := by
      simp only [quicMachine_feed maskFn H Pc info c kl1 p d.x.dcid .unknown hr, sver]
      rw [w1, w2, w3]
      unfold wireOf
      rw [s1]
    simp only [feedAll, List.map_cons, List.flatMap_cons, finalCids]
    rw [hfeed]
    obtain ⟨i1, i2, i3, i9⟩ := ih
      { c with st := (handleDatagram maskFn H (params H Pc kl1) c.st (!d.x.srv) d.x.dcid .unknown d.x.ts
                          (wireOf H Pc L sel v k0 d)).1, raised := none } _ _ _ _ _ _ rfl s3
      (fun x hx => by
        -- `Carries` speaks of the connection; the fed one differs in `st` / `raised`, not in `client`
        obtain ⟨a, b, cdir⟩ := hcar x (List.mem_cons_of_mem _ hx)
        exact ⟨a, b, cdir⟩) h8
    refine ⟨i1, ?_, ⟨i3.opts, i3.server, i3.client, i3.serverMac, i3.clientMac, i3.ipv6⟩, i9⟩
    rw [i2]
    show (handleDatagram _ _ _ _ _ _ _ _ _).1.out ++ _ = _
    rw [show (handleDatagram maskFn H (params H Pc kl1) c.st (!d.x.srv) d.x.dcid .unknown d.x.ts
                  (wireOf H Pc L sel v k0 d)).1.out = c.st.out ++ expectedOf .rtt1 d.x from s2, List.append_assoc]

end History

/-! ### the output builder on the frames of a 1-RTT history -/

section Output
open TLX.Quic.UdpOut TLX.Props.C02Out

theorem frameOf_ts (o : Out) : (frameOf o).ts = o.ts ∧ (frameOf o).isServer = o.isServer := by
  unfold frameOf; repeat' split
  all_goals exact ⟨rfl, rfl⟩

/-- the input datagram of `Props/C02Out` that a 1-RTT packet becomes in `output_buffer` -/
def inDg (x : SPkt) : InDgram :=
  ⟨x.ts, x.srv, ((expectedOf .rtt1 x).map frameOf).map fun f => (f.ftype, f.data)⟩

theorem inDg_frames (x : SPkt) : (inDg x).frames = (expectedOf .rtt1 x).map frameOf := by
  unfold inDg InDgram.frames expectedOf
  simp only [List.map_map]
  apply List.map_congr_left
  intro f _
  obtain ⟨h1, h2⟩ := frameOf_ts ⟨.parsed f.toParsed, x.ts, x.srv, .rtt1⟩
  simp only [Function.comp]
  generalize frameOf ⟨.parsed f.toParsed, x.ts, x.srv, .rtt1⟩ = fr at h1 h2
  obtain ⟨a, b, c, d⟩ := fr
  simp only at h1 h2
  rw [h1, h2]

theorem framesOf_rtt1 (ds : List Dg1) :
    (ds.flatMap fun d => expectedOf .rtt1 d.x).map frameOf = framesOf (ds.map fun d => inDg d.x) := by
  induction ds with
  | nil => rfl
  | cons d ds ih =>
    simp only [List.flatMap_cons, List.map_append, List.map_cons, framesOf] at ih ⊢
    rw [ih, inDg_frames]

theorem streamType_isStream (a b c : Bool) : isStream (streamType a b c) = true := by
  cases a <;> cases b <;> cases c <;> decide

theorem normalize_streamData (fs : List QFrame) : streamData (normalize fs) = streamData fs :=
  normalize_filterMap _ (fun _ => rfl) fs

theorem filterMap_map_filter {α β γ : Type} (p : α → Bool) (g : α → β) (e : β → Option γ) (h : α → Option γ)
    (hh : ∀ a, (if p a then e (g a) else none) = h a) (l : List α) :
    ((l.filter p).map g).filterMap e = l.filterMap h := by
  induction l with
  | nil => rfl
  | cons a l ih =>
    have := hh a
    by_cases hp : p a = true
    · simp only [hp, if_true] at this
      simp [hp, List.filterMap_cons, this, ih]
    · simp only [hp, Bool.false_eq_true, if_false] at this
      simp [hp, ← this, ih]

theorem exported_one (f : QFrame) (ts : Nat) (srv : Bool) :
    (if Lemmas.QuicSession.isExpQ f then UdpOut.exported false (frameOf ⟨.parsed f.toParsed, ts, srv, .rtt1⟩) else none) =
      (match f with | .stream _ _ _ _ data => some data | _ => none) := by
  cases f with
  | stream fin sid off lenW data =>
    have := streamType_isStream fin lenW.isSome off.isSome
    simp [Lemmas.QuicSession.isExpQ, frameOf, QFrame.toParsed, UdpOut.exported, this]
  | _ => simp [Lemmas.QuicSession.isExpQ, frameOf, QFrame.toParsed, UdpOut.exported, isStream]

theorem exported_stream_data (x : SPkt) :
    ((expectedOf .rtt1 x).map frameOf).filterMap (UdpOut.exported false) = streamData x.frames := by
  rw [← normalize_streamData]
  unfold expectedOf
  rw [Lemmas.QuicSession.exported_eq, List.map_map]
  exact filterMap_map_filter _ _ _ _ (fun f => exported_one f x.ts x.srv) _

theorem any_isSome_filterMap {α β : Type} (e : α → Option β) (l : List α) :
    l.any (fun a => (e a).isSome) = !(l.filterMap e).isEmpty := by
  induction l with
  | nil => rfl
  | cons a l ih => cases h : e a <;> simp [h, ih]

theorem hasStream_iff (fs : List QFrame) : hasStream fs = !(streamData fs).isEmpty := by
  unfold hasStream streamData
  rw [← any_isSome_filterMap]
  congr 1
  funext f
  cases f <;> rfl

theorem hasExported_inDg (x : SPkt) : hasExported false (inDg x) = hasStream x.frames := by
  unfold hasExported
  rw [any_isSome_filterMap, inDg_frames, exported_stream_data, hasStream_iff]

theorem outDgram_inDg (x : SPkt) : outDgram false (inDg x) = ⟨x.srv, x.ts, (streamData x.frames).flatten⟩ := by
  unfold outDgram
  rw [inDg_frames, exported_stream_data]
  rfl

end Output

section Capstone
variable (maskFn : Dissect.MaskFn) (H : Crypto.Prims) (Pc : Cipher.Prims) (info : Nat → Pipeline.Info)
open TLX.Quic.UdpOut TLX.Props.C02Out

/-- what C02 demands: one UDP frame per datagram that carried a STREAM frame, in capture order, its payload the
    concatenation of that datagram's STREAM data, with the datagram's capture time, addressed by its direction
    (`C02Pipeline.quic_out_addressed` says what `addressed` puts around it) -/
def expectedOut (c : QConn) (ds : List Dg1) : List Pipeline.OutPkt :=
  (ds.filter fun d => hasStream d.x.frames).map fun d =>
    addressed c ⟨d.x.srv, d.x.ts, (streamData d.x.frames).flatten⟩

theorem out_tail (c : QConn) (ds : List Dg1) :
    (((ds.map fun d => inDg d.x).filter (hasExported false)).map (outDgram false)).map (addressed c) =
      expectedOut c ds := by
  unfold expectedOut
  induction ds with
  | nil => rfl
  | cons d ds ih =>
    simp only [List.map_cons, List.filter_cons, hasExported_inDg]
    split
    · simp only [List.map_cons, outDgram_inDg, ih]
    · exact ih

/-- the 1-RTT phase behind ANY earlier phase. `c1` (fed from `c`, same endpoints) is established, and what its
    `output_buffer` holds that is exported is `oA` (`hexpo`), the frames of the datagrams `gsA` as the output builder sees them
    (`hfr`): the output is that of `gsA`, then one frame per 1-RTT datagram with STREAM data. `C02Sim.conn_from` supplies the
    handshake phase for `gsA`, `quic_one_rtt_connection_exact` nothing. -/
theorem rtt1_tail (kl : List Keylog.Key) (L : SealLaws Pc) (sel : SuiteSel) (v : Version) (k0 : AppKeys) (hpC hpS : Bytes)
    (chacha : Bool) (hk : KeysWf (params H Pc kl) sel v k0) {c c1 : QConn} (gc gs lc ls : Nat) (cc sc : List Bytes)
    (hends : SameEnds c c1) (hr : c1.raised = none) (hest : Est H Pc kl sel v k0 hpC hpS chacha c1.st gc gs lc ls cc sc)
    (oA : List Out) (gsA : List InDgram) (hexpo : expo c1.st.out = expo oA) (hfr : oA.map frameOf = framesOf gsA)
    (items : List (List Keylog.Key × MainLoop.Pkt × Dg1))
    (hcar : ∀ x ∈ items, Carries info c (wireOf H Pc L sel v k0) x.2.1 x.2.2)
    (hsend : Send1 maskFn H Pc L sel v k0 hpC hpS chacha gc gs lc ls cc sc (items.map (·.2.2)))
    (hadj : DistinctAdjacent false (gsA ++ (items.map (·.2.2)).map fun d => inDg d.x)) :
    (feedAll (quicMachine maskFn H Pc info) c1 items).raised = none ∧
    (quicMachine maskFn H Pc info).out false (feedAll (quicMachine maskFn H Pc info) c1 items) =
      ((gsA.filter (hasExported false)).map (outDgram false)).map (addressed c) ++ expectedOut c (items.map (·.2.2)) := by
  obtain ⟨f1, f2, f3, _⟩ := feedAll_exact maskFn H Pc info kl L sel v k0 hpC hpS chacha hk items c1 gc gs lc ls cc sc hr hest
    (fun x hx => ⟨(hcar x hx).payload, (hcar x hx).ts, by rw [hends.client]; exact (hcar x hx).dir⟩) hsend
  refine ⟨f1, ?_⟩
  have hexpo' : expo (feedAll (quicMachine maskFn H Pc info) c1 items).st.out =
      expo (oA ++ (items.map (·.2.2)).flatMap fun d => expectedOf .rtt1 d.x) := by
    rw [f2, expo_append, hexpo, ← expo_append]
  have hframes : (oA ++ (items.map (·.2.2)).flatMap fun d => expectedOf .rtt1 d.x).map frameOf =
      framesOf (gsA ++ (items.map (·.2.2)).map fun d => inDg d.x) := by
    rw [List.map_append, hfr, framesOf_rtt1]
    exact (List.flatMap_append ..).symm
  show connOut false (feedAll (quicMachine maskFn H Pc info) c1 items) = _
  rw [connOut_eq, f3.addressed, hends.addressed, build_congr _ _ hexpo', hframes, build_groups false _ hadj,
    List.filter_append, List.map_append, List.map_append, out_tail]

/-- **C02 for the 1-RTT phase of a connection.**
    ASSUMES  the session state after the handshake satisfies `Est` (= `C02Session.Rel1` + Initial decryptor present + the two
             application header-protection keys in `self.keys` + mask algorithm flag + version stamp + the CID sets), `KeysWf`
             (every generation's key fits the AEAD), AEAD `SealLaws`, ANY mask primitive, nothing exported yet (`hprev`: the
             handshake left only CRYPTO frames in `output_buffer`);
    FOR EVERY 1-RTT datagram history `Send1`: both directions interleaved in any way; packet numbers with any gaps, truncated
             to any of 1–4 bytes within the RFC 9000 §17.1 window (`PnLenOk`); any number of key updates by either side
             (generation +0/+1 per packet of a direction); any well-formed frame mix WITHOUT CRYPTO frames around any number
             of STREAM frames; spin / reserved bits arbitrary; NEW_CONNECTION_ID issuance and switches (`DcidOk`: a packet
             is never addressed to a CID only its own sender issued; the same bytes chosen by both sides are allowed); the
             sender padded for the header-protection sample; datagrams pairwise different in (capture time, direction)
             (`htimes`); the key log handed to each `handle_packet` call arbitrary (it is read no more);
    PROVES   no exception; `quicMachine.out false` = exactly one UDP frame per datagram that carried a STREAM frame, in capture
             order, payload = that datagram's STREAM data concatenated, time = the datagram's, addressed by its direction.
    CRYPTO in 1-RTT is excluded (`DgOk.noCrypto`). Without the restriction the statement is FALSE for the code as it is: a
    1-RTT CRYPTO frame carrying an EncryptedExtensions- or ServerHello-typed message makes `set_tls_decryptors` run again and
    resets the Application generations (replayed on the real tool: data after a key update is lost). NewSessionTicket (what
    RFC 9001 allows there) is harmless (`C02Pipeline.one_rtt_crypto_keeps_keys`) but needs a hypothesis on the parser's
    reassembly state; not composed here. -/
theorem quic_one_rtt_connection_exact (kl : List Keylog.Key) (L : SealLaws Pc) (sel : SuiteSel) (v : Version)
    (k0 : AppKeys) (hpC hpS : Bytes) (chacha : Bool) (hk : KeysWf (params H Pc kl) sel v k0)
    (items : List (List Keylog.Key × MainLoop.Pkt × Dg1)) (c : QConn) (gc gs lc ls : Nat) (cc sc : List Bytes)
    (hr : c.raised = none)
    (hest : Est H Pc kl sel v k0 hpC hpS chacha c.st gc gs lc ls cc sc)
    (hprev : ∀ o ∈ c.st.out, UdpOut.exported false (frameOf o) = none)
    (hcar : ∀ x ∈ items, Carries info c (wireOf H Pc L sel v k0) x.2.1 x.2.2)
    (hsend : Send1 maskFn H Pc L sel v k0 hpC hpS chacha gc gs lc ls cc sc (items.map (·.2.2)))
    (htimes : ((items.map (·.2.2)).map fun d => (d.x.ts, d.x.srv)).Pairwise (· ≠ ·)) :
    let QM := quicMachine maskFn H Pc info
    (feedAll QM c items).raised = none ∧
    QM.out false (feedAll QM c items) = expectedOut c (items.map (·.2.2)) := by
  have hdist : DistinctKeys ((items.map (·.2.2)).map fun d => inDg d.x) := by
    unfold DistinctKeys
    rw [List.map_map]
    exact htimes
  simpa using rtt1_tail maskFn H Pc info kl L sel v k0 hpC hpS chacha hk gc gs lc ls cc sc (SameEnds.refl c) hr hest [] []
    (expo_none _ hprev) rfl items hcar hsend (hdist.adjacent false)

end Capstone

section RfcKeys
variable (H : Crypto.Prims)

/-- RFC 9001 §5.1 / §6.1: the 1-RTT packet protection keys of key-update generation `g`, from the two TLS traffic
    secrets `sa` (SERVER_TRAFFIC_SECRET_0) and `ca` (CLIENT_TRAFFIC_SECRET_0) -/
def rfcGen (h : Crypto.HashSuite) (keyLen : Nat) (sa ca : Bytes) (g : Nat) : AppKeys :=
  ⟨⟨quicKey h (quicGeneration h sa g) keyLen, quicIv h (quicGeneration h sa g)⟩,
   ⟨quicKey h (quicGeneration h ca g) keyLen, quicIv h (quicGeneration h ca g)⟩,
   quicGeneration h sa g, quicGeneration h ca g⟩

theorem hashOf_lawful {H : Crypto.Prims} (hl : H.Lawful) (h : HashSel) : (hashOf H h).Lawful := by
  cases h
  · exact hl.sha256
  · exact hl.sha384

/-- The key chain the composed model's `key_update` produces from the RFC's generation 0 is the RFC's (C15's
    `quic_key_update_eq_rfc` through the adapter `QuicPipeline.keyUpdate`). -/
theorem genKeys_eq_rfc (hl : H.Lawful) (sel : SuiteSel) (v : Version) (hk : sel.keyLen < 65536)
    (ho : (hashOf H sel.hash).outLen < 65536) (sa ca : Bytes)
    (hs : sa.length = (hashOf H sel.hash).outLen) (hc : ca.length = (hashOf H sel.hash).outLen) (g : Nat) :
    genKeys (keyUpdate H sel v) (rfcGen (hashOf H sel.hash) sel.keyLen sa ca 0) g =
      rfcGen (hashOf H sel.hash) sel.keyLen sa ca g := by
  have hlaw := hashOf_lawful hl sel.hash
  induction g with
  | zero => rfl
  | succ g ih =>
    simp only [genKeys, ih]
    unfold QuicPipeline.keyUpdate rfcGen
    simp only
    rw [keyUpdate_eq (hashOf H sel.hash) sel.keyLen hk ho _ (quicGeneration _ sa g) (quicGeneration _ ca g) rfl rfl
      (quicGeneration_length _ hlaw sa hs g) (quicGeneration_length _ hlaw ca hc g)]
    rfl

theorem quicKey_length (h : Crypto.HashSuite) (hl : h.Lawful) (s : Bytes) (n : Nat) (hn : n ≤ 255) :
    (quicKey h s n).length = n := by
  unfold quicKey hkdfExpandLabel
  exact hl.expand_len _ _ _ (by have := hl.outLen_pos; omega)

theorem quicIv_length (h : Crypto.HashSuite) (hl : h.Lawful) (s : Bytes) : (quicIv h s).length = 12 := by
  unfold quicIv hkdfExpandLabel
  exact hl.expand_len _ _ _ (by have := hl.outLen_pos; omega)

theorem suite_aeadOk (hl : H.Lawful) (cs : Bytes) (sel : SuiteSel) (h : selectSuite cs = some sel) (secret : Bytes) :
    AeadOk sel.alg (quicKey (hashOf H sel.hash) secret sel.keyLen).length (quicIv (hashOf H sel.hash) secret).length 16 ∧
      8 ≤ (quicIv (hashOf H sel.hash) secret).length := by
  obtain ⟨haead, hk32⟩ := selectSuite_aeadOk h
  have hlaw := hashOf_lawful hl sel.hash
  rw [quicKey_length _ hlaw _ _ (by omega), quicIv_length _ hlaw]
  exact ⟨haead, by decide⟩

/-- `KeysWf` — every generation's key is one the AEAD of the suite takes, with a 12-byte IV — holds for the RFC key
    chain of each of the four QUIC v1 suites, for all lawful hash functions and both traffic secrets of hash length. -/
theorem keysWf_rfc (hl : H.Lawful) (Pc : Cipher.Prims) (kl : List Keylog.Key) (cs : Bytes) (sel : SuiteSel)
    (hsel : selectSuite cs = some sel) (v : Version) (ho : (hashOf H sel.hash).outLen < 65536) (sa ca : Bytes)
    (hs : sa.length = (hashOf H sel.hash).outLen) (hc : ca.length = (hashOf H sel.hash).outLen) :
    KeysWf (params H Pc kl) sel v (rfcGen (hashOf H sel.hash) sel.keyLen sa ca 0) := by
  have hlaw := hashOf_lawful hl sel.hash
  obtain ⟨haead, hk32⟩ := selectSuite_aeadOk hsel
  intro srv g
  have hP : (params H Pc kl).keyUpdate = keyUpdate H := rfl
  rw [hP]
  unfold genDir
  rw [genKeys_eq_rfc H hl sel v (by omega) ho sa ca hs hc g]
  cases srv <;> simp only [rfcGen, Bool.false_eq_true, if_false, if_true, quicKey_length _ hlaw _ _ (by omega : sel.keyLen ≤ 255),
    quicIv_length _ hlaw]
  all_goals exact ⟨haead, by decide⟩

end RfcKeys

namespace Ex
open TLX.Crypto TLX.Props.C02Session.Ex

def H : Crypto.Prims := Crypto.toyPrims
def Pc : Cipher.Prims := Cipher.Toy.prims
def L : SealLaws Pc := Cipher.Toy.laws
def sel : SuiteSel := ⟨.sha256, .aesgcm, 16⟩
def sa : Bytes := [1, 2, 3, 4]
def ca : Bytes := [5, 6, 7, 8]
def k0 : AppKeys := rfcGen (hashOf H sel.hash) sel.keyLen sa ca 0
def hpC : Bytes := quicHp (hashOf H sel.hash) ca 16
def hpS : Bytes := quicHp (hashOf H sel.hash) sa 16
/-- any primitive: here a constant mask -/
def maskFn : Dissect.MaskFn := fun _ _ _ => some [0xa5, 0x5a, 0xff, 0x00, 0x11]
def info : Nat → Pipeline.Info := fun tag => ⟨0, 100 + tag, [2, 0, 0, 0, 0, 1], [2, 0, 0, 0, 0, 2], false⟩

def s0 : St Tls :=
  { tls := { hp := { clientApplication := some hpC, serverApplication := some hpS }, ver := .v1,
             msgs := { ciphersuite := some [0x13, 0x01] } },
    version := .v1, suite := some sel, decApp := some [k0.toDec sel.alg],
    decInitial := some { alg := .aesgcm, server := none, client := ⟨[], []⟩ },
    clientCids := [[0xc1]], serverCids := [[0x51], [0x52]] }

def c0 : QConn :=
  { opts := ⟨[443], false, false, false, false, []⟩, server := ⟨[10, 0, 0, 2], 443⟩, client := ⟨[10, 0, 0, 1], 50000⟩,
    serverMac := [2, 0, 0, 0, 0, 2], clientMac := [2, 0, 0, 0, 0, 1], ipv6 := false, st := s0 }

def framesB : List QFrame :=
  [.newConnectionId ⟨1, w1⟩ ⟨0, w1⟩ [0xaa, 0xbb] (List.replicate 16 7),
   .stream false ⟨0, w1⟩ (some ⟨70000, ⟨2, by omega⟩⟩) none [1, 2, 3]]

def m5 : Bytes := [0xa5, 0x5a, 0xff, 0x00, 0x11]

/-- client generation 0; the client initiates a key update and jumps to packet number 300 on two bytes; the server (which
    has issued a connection ID) follows the update, then initiates the next one; one datagram carries no STREAM frame -/
def d0 : Dg1 := ⟨{ level := .oneRtt, srv := false, ts := 100, pn := 0, pnLen := 1, frames := frames1, dcid := [0x51], gen := 0 }, m5⟩
def d1 : Dg1 := ⟨{ level := .oneRtt, srv := false, ts := 101, pn := 300, pnLen := 2, frames := framesB, dcid := [0x51], gen := 1,
                   lowBits := 5 }, m5⟩
def d2 : Dg1 := ⟨{ level := .oneRtt, srv := true, ts := 102, pn := 7, pnLen := 4, frames := [.ping, .padding 20], dcid := [0xc1],
                   gen := 1 }, m5⟩
def d3 : Dg1 := ⟨{ level := .oneRtt, srv := true, ts := 103, pn := 8, pnLen := 1, frames := framesB, dcid := [0xaa, 0xbb],
                   gen := 2 }, m5⟩
def ds : List Dg1 := [d0, d1, d2, d3]

def pktOf (i : Nat) (d : Dg1) : MainLoop.Pkt :=
  ⟨.udp, if d.x.srv then c0.server else c0.client, if d.x.srv then c0.client else c0.server,
    wireOf H Pc L sel .v1 k0 d, true, i⟩

/-- the key log grows while the connection runs (a decryption-secrets block of another connection) -/
def items : List (List Keylog.Key × MainLoop.Pkt × Dg1) :=
  [([], pktOf 0 d0, d0), ([], pktOf 1 d1, d1), ([⟨Keylog.s_CTS0, [48, 49], [50, 51]⟩], pktOf 2 d2, d2),
   ([⟨Keylog.s_CTS0, [48, 49], [50, 51]⟩], pktOf 3 d3, d3)]

theorem keysWf : KeysWf (params H Pc []) sel .v1 k0 :=
  keysWf_rfc H Crypto.toyPrims_lawful Pc [] [0x13, 0x01] sel rfl .v1 (by decide) sa ca rfl rfl

theorem est0 : Est H Pc [] sel .v1 k0 hpC hpS false s0 0 0 0 0 [[0xc1]] [[0x51], [0x52]] :=
  ⟨⟨⟨rfl, rfl, rfl, rfl, rfl, rfl, rfl⟩, rfl, rfl, rfl⟩, rfl, rfl, rfl, by decide, rfl, rfl, rfl⟩

theorem wfB : WellFormedSeq framesB := by
  simp [framesB, WellFormedSeq, QFrame.wf, QFrame.greedy, optOk, optFits]; decide

theorem send1 : Send1 maskFn H Pc L sel .v1 k0 hpC hpS false 0 0 0 0 [[0xc1]] [[0x51], [0x52]] ds :=
  ⟨rfl, by decide, by decide, by unfold PnLenOk; decide, wf1, ⟨by decide, by decide, rfl, by decide⟩, by decide,
    rfl, by decide, by decide, by unfold PnLenOk; decide, wfB, ⟨by decide, by decide, rfl, by decide⟩, by decide,
    rfl, by decide, by decide, by unfold PnLenOk; decide, by simp [d2, WellFormedSeq, QFrame.wf, QFrame.greedy], ⟨by decide, by decide, rfl, by decide⟩, by decide,
    rfl, by decide, by decide, by unfold PnLenOk; decide, wfB, ⟨by decide, by decide, rfl, by decide⟩, by decide, trivial⟩

/-- the theorem applies: three output frames (the third datagram has no STREAM frame), payloads `hi`, `\x01\x02\x03`,
    `\x01\x02\x03`, times 100, 101, 103, the last one from the server -/
example :
    let QM := quicMachine maskFn H Pc info
    QM.out false (feedAll QM c0 items) = expectedOut c0 ds ∧
    (expectedOut c0 ds).map (fun p => (p.ts, p.src.port, p.payload)) =
      [(100, 50000, [0x68, 0x69]), (101, 50000, [1, 2, 3]), (103, 8080, [1, 2, 3])] := by
  refine ⟨(quic_one_rtt_connection_exact maskFn H Pc info [] L sel .v1 k0 hpC hpS false keysWf items c0 0 0 0 0
    [[0xc1]] [[0x51], [0x52]] rfl est0 (by intro o ho; cases ho) ?_ send1 (by decide)).2, by decide +kernel⟩
  intro x hx
  simp only [items, List.mem_cons, List.not_mem_nil, or_false] at hx
  rcases hx with rfl | rfl | rfl | rfl <;> exact ⟨rfl, rfl, by decide⟩

end Ex

/-! ### the handshake side: where the state `Est` comes from -/

section Handshake
variable (H : Crypto.Prims) (Pc : Cipher.Prims)

/-- the key-log lines of this client random, as `dev_quic_keys` reads them: the last line of each label -/
structure KeylogHas (kl : List Keylog.Key) (cr ch sh ca sa : Bytes) (early : Option Bytes) : Prop where
  lines : ∃ sks ss, Keylog.quicSessionKeys kl (Pipeline.natsOfBytes cr) = some sks ∧ quicSecrets sks = some ss ∧
    lastOf .clientHandshake ss = some ch ∧ lastOf .serverHandshake ss = some sh ∧
    lastOf .clientTraffic0 ss = some ca ∧ lastOf .serverTraffic0 ss = some sa ∧ lastOf .clientEarly ss = early

/-- `dev_quic_keys` on the key log of the run, QUIC v1: the RFC 9001 §5.1 packet keys of the four (five) secrets -/
theorem devQuic_rfc (kl : List Keylog.Key) (sel : SuiteSel) (hk : sel.keyLen < 65536) (cr ch sh ca sa : Bytes)
    (early : Option Bytes) (hkl : KeylogHas kl cr ch sh ca sa early) :
    ∃ k, devQuic H kl sel .v1 cr = .ok k ∧
      k.serverApp = tripleSpec (quicPacketKeys (hashOf H sel.hash) sa sel.keyLen) ∧
      k.clientApp = tripleSpec (quicPacketKeys (hashOf H sel.hash) ca sel.keyLen) ∧
      k.serverHs = tripleSpec (quicPacketKeys (hashOf H sel.hash) sh sel.keyLen) ∧
      k.clientHs = tripleSpec (quicPacketKeys (hashOf H sel.hash) ch sel.keyLen) ∧
      k.serverAppSec = sa ∧ k.clientAppSec = ca ∧
      k.clientEarly = early.map fun s => tripleSpec (quicPacketKeys (hashOf H sel.hash) s sel.keyLen) := by
  obtain ⟨sks, ss, h1, h2, h3, h4, h5, h6, h7⟩ := hkl.lines
  unfold devQuic
  simp only [h1, h2, qver]
  rw [C15.quic_keys_eq_rfc _ _ _ hk]
  simp only [h3, h4, h5, h6, h7]
  exact ⟨_, rfl, rfl, rfl, rfl, rfl, rfl, rfl, rfl⟩

/-- the generation-0 application keys `set_tls_decryptors` installs from a `dev_quic_keys` result -/
def appKeysOf (k : KeySchedule.QuicKeys) : AppKeys := ⟨dirOf k.serverApp, dirOf k.clientApp, k.serverAppSec, k.clientAppSec⟩

/-- THE step that establishes the 1-RTT state: the `set_tls_decryptors` call after a completed ServerHello / EncryptedExtensions,
    provided no 1-RTT packet moved the epochs before (none can be decrypted before this point) -/
theorem hello_establishes (kl : List Keylog.Key) (s : St Tls) (hv : s.tls.ver = s.version) (cr cs : Bytes)
    (sel : SuiteSel) (k : KeySchedule.QuicKeys)
    (hn : s.tls.msgs.newData = true) (hcr : s.tls.msgs.clientRandom = some cr) (hcs : s.tls.msgs.ciphersuite = some cs)
    (hsel : selectSuite cs = some sel) (hk : devQuic H kl sel s.version cr = .ok k)
    (hinit : s.decInitial.isSome = true)
    (he : s.epochClient = 0 ∧ s.epochServer = 0 ∧ s.lastPhaseClient = some 0 ∧ s.lastPhaseServer = some 0) :
    (afterTls (params H Pc kl) s).2 = none ∧
    Est H Pc kl sel s.version (appKeysOf k) k.clientApp.hp k.serverApp.hp (cs == [0x13, 0x03])
      (afterTls (params H Pc kl) s).1 0 0 s.pnClient.app s.pnServer.app s.clientCids s.serverCids ∧
    (afterTls (params H Pc kl) s).1.out = s.out := by
  obtain ⟨he1, he2, he3, he4⟩ := he
  rw [C02Pipeline.afterTls_keyed H Pc kl s hv cr cs sel k hn hcr hcs hsel hk]
  exact ⟨rfl, ⟨⟨⟨rfl, rfl, rfl, he1, he2, he3, he4⟩, rfl, rfl, rfl⟩, hinit, rfl, rfl,
    by show (s.tls.msgs.ciphersuite == _) = _; rw [hcs]; rfl, hv, rfl, rfl⟩, rfl⟩

/-- `dev_initial_keys` for QUIC v1 is RFC 9001 §5.2 (C15) -/
theorem devInitial_rfc (h32 : H.sha256.outLen = 32) (dcid : Bytes) :
    devInitial H .v1 dcid = some
      { clientKey := (quicInitialClientKeys H.sha256 dcid).key, clientIv := (quicInitialClientKeys H.sha256 dcid).iv,
        clientHp := (quicInitialClientKeys H.sha256 dcid).hp, serverKey := (quicInitialServerKeys H.sha256 dcid).key,
        serverIv := (quicInitialServerKeys H.sha256 dcid).iv, serverHp := (quicInitialServerKeys H.sha256 dcid).hp } := by
  unfold devInitial
  simp only [qver]
  rw [C15.quic_initial_eq_rfc _ h32]

/-- the prologue of `handle_packet` on a session without Initial decryptor (fresh, or after a Retry), QUIC v1 -/
theorem feedPre_derives (kl : List Keylog.Key) (h32 : H.sha256.outLen = 32) (s : St Tls) (dcid : Bytes)
    (hi : s.decInitial = none) (hv : s.version = .unknown ∨ s.version = .v1) :
    feedPre H (params H Pc kl) s dcid .v1 =
      { s with
        version := .v1, keysInitial := true,
        decInitial := some
          { alg := .aesgcm,
            server := some ⟨(quicInitialServerKeys H.sha256 dcid).key, (quicInitialServerKeys H.sha256 dcid).iv⟩,
            client := ⟨(quicInitialClientKeys H.sha256 dcid).key, (quicInitialClientKeys H.sha256 dcid).iv⟩ },
        tls :=
          { s.tls with
            ver := .v1,
            hp := { s.tls.hp with
                    serverInitial := some (quicInitialServerKeys H.sha256 dcid).hp,
                    clientInitial := some (quicInitialClientKeys H.sha256 dcid).hp } } } := by
  have hl : latchVersion s .v1 = { s with version := .v1 } := by
    unfold latchVersion
    rcases hv with hv | hv
    · rw [if_pos hv]
    · rw [if_neg (by rw [hv]; decide)]; cases s; cases hv; rfl
  have hp : (params H Pc kl).devInitialKeys .v1 dcid = (devInitial H .v1 dcid).map
      fun k => (⟨k.serverKey, k.serverIv⟩, ⟨k.clientKey, k.clientIv⟩) := rfl
  unfold feedPre handlePacketPre
  simp only [hl, hi, Option.isNone_none, if_true, setInitialDecryptor, hp, devInitial_rfc H h32, Option.map_some, stampVer,
    HpKeys.withInitial]

/-- The first datagram of a connection (`QuicSession.__init__`, then `handle_packet` with the DCID of the client's first
    Initial and version 1): the Initial decryptor and the two Initial header-protection keys are RFC 9001 §5.2's for that
    DCID, the version is latched, the adapter's stamp set — before the first packet is dissected. -/
theorem first_initial_rfc (kl : List Keylog.Key) (h32 : H.sha256.outLen = 32) (dcid : Bytes) :
    let s := feedPre H (params H Pc kl) (St.init (params H Pc [])) dcid .v1
    s.version = .v1 ∧ s.tls.ver = s.version ∧
    s.decInitial = some { alg := .aesgcm,
                          server := some ⟨(quicInitialServerKeys H.sha256 dcid).key, (quicInitialServerKeys H.sha256 dcid).iv⟩,
                          client := ⟨(quicInitialClientKeys H.sha256 dcid).key, (quicInitialClientKeys H.sha256 dcid).iv⟩ } ∧
    s.tls.hp.serverInitial = some (quicInitialServerKeys H.sha256 dcid).hp ∧
    s.tls.hp.clientInitial = some (quicInitialClientKeys H.sha256 dcid).hp ∧
    s.epochClient = 0 ∧ s.epochServer = 0 ∧ s.lastPhaseClient = some 0 ∧ s.lastPhaseServer = some 0 ∧
    s.clientCids = [] ∧ s.serverCids = [] ∧ s.out = [] := by
  intro s
  have hs : s = _ := feedPre_derives H Pc kl h32 (St.init (params H Pc [])) dcid rfl (Or.inl rfl)
  rw [hs]
  exact ⟨rfl, rfl, rfl, rfl, rfl, rfl, rfl, rfl, rfl, rfl, rfl, rfl⟩

/-- … in RFC terms: with the connection's four key-log lines present (QUIC v1), the established keys are RFC 9001's —
    generation 0 of the §6 chain from CLIENT_/SERVER_TRAFFIC_SECRET_0, header protection keys "quic hp" of the same secrets —
    and they satisfy `KeysWf` (`keysWf_rfc`): exactly what `quic_one_rtt_connection_exact` assumes. -/
theorem hello_establishes_rfc (kl : List Keylog.Key) (s : St Tls) (hv : s.tls.ver = s.version) (hv1 : s.version = .v1)
    (cr cs ch sh ca sa : Bytes) (early : Option Bytes) (sel : SuiteSel)
    (hn : s.tls.msgs.newData = true) (hcr : s.tls.msgs.clientRandom = some cr) (hcs : s.tls.msgs.ciphersuite = some cs)
    (hsel : selectSuite cs = some sel) (hk : sel.keyLen < 65536) (hkl : KeylogHas kl cr ch sh ca sa early)
    (hinit : s.decInitial.isSome = true)
    (he : s.epochClient = 0 ∧ s.epochServer = 0 ∧ s.lastPhaseClient = some 0 ∧ s.lastPhaseServer = some 0) :
    (afterTls (params H Pc kl) s).2 = none ∧
    Est H Pc kl sel .v1 (rfcGen (hashOf H sel.hash) sel.keyLen sa ca 0)
      (quicHp (hashOf H sel.hash) ca sel.keyLen) (quicHp (hashOf H sel.hash) sa sel.keyLen) (cs == [0x13, 0x03])
      (afterTls (params H Pc kl) s).1 0 0 s.pnClient.app s.pnServer.app s.clientCids s.serverCids ∧
    (afterTls (params H Pc kl) s).1.out = s.out := by
  obtain ⟨k, hdq, k1, k2, _, _, k5, k6, _⟩ := devQuic_rfc H kl sel hk cr ch sh ca sa early hkl
  rw [← hv1] at hdq
  obtain ⟨r1, r2, r3⟩ := hello_establishes H Pc kl s hv cr cs sel k hn hcr hcs hsel hdq hinit he
  refine ⟨r1, ?_, r3⟩
  have hk0 : appKeysOf k = rfcGen (hashOf H sel.hash) sel.keyLen sa ca 0 := by
    simp [appKeysOf, rfcGen, k1, k2, k5, k6, dirOf, tripleSpec, quicPacketKeys, quicGeneration]
  have hc : k.clientApp.hp = quicHp (hashOf H sel.hash) ca sel.keyLen := by rw [k2]; rfl
  have hs : k.serverApp.hp = quicHp (hashOf H sel.hash) sa sel.keyLen := by rw [k1]; rfl
  rw [hk0, hc, hs, hv1] at r2
  exact r2

/-- C02 for a whole connection, PARTIAL: everything in RFC terms — the four QUIC v1 suites, lawful hash functions, the
    RFC 9001 §5.1/§6 keys of the connection's traffic secrets, any AEAD satisfying `SealLaws`, any header-protection
    primitive — except that the state `c` the handshake datagrams left is ASSUMED to satisfy `Est` for those keys
    (`hello_establishes_rfc` proves it for the state right after the last `set_tls_decryptors`). The form without that
    assumption is `quic_connection_exact` (Props/C02Capstone). Then for EVERY conformant
    1-RTT datagram history the export without `-a` is exactly one UDP frame per datagram with a STREAM frame, in capture
    order, carrying that datagram's STREAM data, capture time and direction. -/
theorem quic_connection_exact_partial (maskFn : Dissect.MaskFn) (info : Nat → Pipeline.Info) (hl : H.Lawful)
    (kl : List Keylog.Key) (L : SealLaws Pc) (cs : Bytes) (sel : SuiteSel) (hsel : selectSuite cs = some sel)
    (ho : (hashOf H sel.hash).outLen < 65536) (sa ca : Bytes)
    (hs : sa.length = (hashOf H sel.hash).outLen) (hc : ca.length = (hashOf H sel.hash).outLen)
    (items : List (List Keylog.Key × MainLoop.Pkt × Dg1)) (c : QConn) (lc ls : Nat) (cc sc : List Bytes) (hr : c.raised = none)
    (hest : Est H Pc kl sel .v1 (rfcGen (hashOf H sel.hash) sel.keyLen sa ca 0)
      (quicHp (hashOf H sel.hash) ca sel.keyLen) (quicHp (hashOf H sel.hash) sa sel.keyLen) (cs == [0x13, 0x03])
      c.st 0 0 lc ls cc sc)
    (hprev : ∀ o ∈ c.st.out, UdpOut.exported false (frameOf o) = none)
    (hcar : ∀ x ∈ items, Carries info c
      (wireOf H Pc L sel .v1 (rfcGen (hashOf H sel.hash) sel.keyLen sa ca 0)) x.2.1 x.2.2)
    (hsend : Send1 maskFn H Pc L sel .v1 (rfcGen (hashOf H sel.hash) sel.keyLen sa ca 0)
      (quicHp (hashOf H sel.hash) ca sel.keyLen) (quicHp (hashOf H sel.hash) sa sel.keyLen) (cs == [0x13, 0x03])
      0 0 lc ls cc sc (items.map (·.2.2)))
    (htimes : ((items.map (·.2.2)).map fun d => (d.x.ts, d.x.srv)).Pairwise (· ≠ ·)) :
    let QM := quicMachine maskFn H Pc info
    (feedAll QM c items).raised = none ∧
    QM.out false (feedAll QM c items) = expectedOut c (items.map (·.2.2)) :=
  quic_one_rtt_connection_exact maskFn H Pc info kl L sel .v1 _ _ _ _
    (keysWf_rfc H hl Pc kl cs sel hsel .v1 ho sa ca hs hc) items c 0 0 lc ls cc sc hr hest hprev hcar hsend htimes

end Handshake

/-- `hprev` of the main theorem is what a handshake without 0-RTT leaves: CRYPTO frames (and the Version Negotiation
    pseudo frame) are not exported without `-a` -/
theorem crypto_not_exported (o : Out) (h : ∀ ft l fin lb ob sid off dl d, o.frame ≠ .parsed (.stream ft l fin lb ob sid off dl d)) :
    UdpOut.exported false (frameOf o) = none := by
  unfold frameOf
  split
  · simp [UdpOut.exported, UdpOut.isStream]
  · rename_i ft l fin lb ob sid off dl d heq; exact absurd heq (h ft l fin lb ob sid off dl d)
  · simp [UdpOut.exported, UdpOut.isStream]
  · simp [UdpOut.exported, UdpOut.isStream]

namespace Ex
open TLX.Crypto

/-- lawful toy hashes with SHA-256's / SHA-384's output lengths -/
def H32 : Crypto.Prims := ⟨Crypto.toy 16, Crypto.toy 20, Crypto.toy 32, Crypto.toy 48⟩

-- `first_initial_rfc`: its hypothesis is satisfiable
example := first_initial_rfc H32 Pc [] rfl [0x83, 0x94, 0xc8, 0xf0, 0x3e, 0x51, 0x57, 0x08]

def crx : Bytes := [0xab, 0xcd]
/-- the connection's key-log lines (client random `abcd`), one line of another connection, in file order -/
def klx : List Keylog.Key :=
  [⟨Keylog.s_CTS0, Keylog.hexOf [0xab, 0xcd], Keylog.hexOf [5, 6, 7, 8]⟩,
   ⟨Keylog.s_CHTS, Keylog.hexOf [0xab, 0xcd], Keylog.hexOf [1, 1, 1, 1]⟩,
   ⟨Keylog.s_STS0, Keylog.hexOf [0x11, 0x22], Keylog.hexOf [9, 9, 9, 9]⟩,
   ⟨Keylog.s_SHTS, Keylog.hexOf [0xab, 0xcd], Keylog.hexOf [2, 2, 2, 2]⟩,
   ⟨Keylog.s_STS0, Keylog.hexOf [0xab, 0xcd], Keylog.hexOf [1, 2, 3, 4]⟩]

def sksx : List Keylog.Key :=
  [⟨Keylog.s_CTS0, Keylog.hexOf [0xab, 0xcd], Keylog.hexOf [5, 6, 7, 8]⟩,
   ⟨Keylog.s_CHTS, Keylog.hexOf [0xab, 0xcd], Keylog.hexOf [1, 1, 1, 1]⟩,
   ⟨Keylog.s_SHTS, Keylog.hexOf [0xab, 0xcd], Keylog.hexOf [2, 2, 2, 2]⟩,
   ⟨Keylog.s_STS0, Keylog.hexOf [0xab, 0xcd], Keylog.hexOf [1, 2, 3, 4]⟩]

def ssx : List KeySchedule.Secret :=
  [(.clientTraffic0, [5, 6, 7, 8]), (.clientHandshake, [1, 1, 1, 1]), (.serverHandshake, [2, 2, 2, 2]),
   (.serverTraffic0, [1, 2, 3, 4])]

theorem keylogHas : KeylogHas klx crx [1, 1, 1, 1] [2, 2, 2, 2] ca sa none :=
  ⟨⟨sksx, ssx, by decide +kernel, by decide +kernel, by decide +kernel⟩⟩

/-- the session right after the ServerHello was parsed: client random and suite known, `new_data` set, Initial decryptor
    there, nothing decrypted at 1-RTT level yet -/
def sHello : St Tls :=
  { tls := { ver := .v1, msgs := { clientRandom := some crx, ciphersuite := some [0x13, 0x01], newData := true } },
    version := .v1, decInitial := some { alg := .aesgcm, server := none, client := ⟨[], []⟩ },
    clientCids := [[0xc1]], serverCids := [[0x51]] }

-- `hello_establishes_rfc` applies, and what it establishes is the state `quic_one_rtt_connection_exact` starts from
example : Est H Pc klx sel .v1 k0 hpC hpS false (afterTls (params H Pc klx) sHello).1 0 0 0 0 [[0xc1]] [[0x51]] :=
  (hello_establishes_rfc H Pc klx sHello rfl rfl crx [0x13, 0x01] [1, 1, 1, 1] [2, 2, 2, 2] ca sa none sel rfl rfl rfl rfl
    (by decide) keylogHas rfl ⟨rfl, rfl, rfl, rfl⟩).2.1

end Ex

end TLX.Props.C02Capstone
