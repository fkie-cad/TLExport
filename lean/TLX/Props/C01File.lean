/-
C01 FROM FILE TO FILE — the capstone of the capstones: `TLX.Export.exportFile` on the BYTES of a capture file that contains
a TLS connection (and anything else) and the TEXT of a key-log file writes an output file in which the tool's own reader and
the independent frame parser find the connection's plaintext, exactly.

The notions (`CapEv` … `WiresInOrder`) and the capture layer (any `-c`, IPv6 extension headers) are in `Lemmas/C01Full`,
`Capture` in `Lemmas/C01Segs`, the writer end in `Lemmas/ExportWrite`. The two theorems of this file are the case without `-c` and `-a`.

Layers (each a theorem of its own, for arbitrary inputs of its kind):
  `ingest_of_capture`   capture file → items   the read loop on a file the reader model reads as packets `cap` that dpkt
                        dissects without exception: exactly the packets of `cap`, tagged by position, with their `Info`
                        (C12 `reader_roundtrip` gives the premise for every container variant of `Spec.Containers.encode`;
                        `capture_read` is its case of a capture that holds packets only; `Props.C12Dissect.dissect_build_v4/_v6`
                        give `d` for frames built by `Spec.FrameBuild`)
  `session_of_items`    items → session        `Props.C04.tls_session_for`: the frames `run()` hands to the writer are
                        `pre ++ (export of THE session object fed exactly the flow's packets) ++ post`
  (session → frames     `Props.C01Capstone.tls12_connection_exact` / `tls13_connection_exact`)
  `file_of_frames`      frames → file          `Props.C06Bytes.fileOf_roundtrip`: the block of a session is read back
                        contiguous, every frame a `GoodFrame`
  `export_of_items`     the three glued around ANY statement about one session's `connOut`, for any items the read loop
                        delivers
  `CaptureFile.exact_or_abort`   … for the capture file of one connection (`CaptureFile`) and a conclusion of the connection
                        level (`SessExact`)
  `tls12_capture_exact`, `tls13_capture_exact`  … around the two connection capstones.
-/
import TLX.Lemmas.C01Segs
import TLX.Lemmas.ExportWrite
set_option autoImplicit false
namespace TLX.Props.C01File
open TLX TLX.MainLoop TLX.Spec.Demux TLX.Lemmas.MainLoop TLX.Dissect TLX.OutBytes
open TLX.Container (Item)

/-- **capture file → items.** Whatever the container (pcapng in any variant, libpcap): if the reader model reads the file as
    the packets `cap` and the capture is `CapOk`, the read loop (without `-c`) hands the main loop exactly the packets of
    `cap`, tagged by position, and `Pipeline` finds behind tag `i` the sequence number, time, MACs and IP version of packet `i`. -/
theorem ingest_of_capture (hc : Keylog.HexClass) (legacy : Bool) (file : Bytes) (cap : List CapEv)
    (hread : Container.read legacy file = .ok (cap.map CapEv.item)) (hok : CapOk cap) :
    Ingest.itemsWith hc false legacy file = .ok (itemsFrom 0 cap, infosFrom 0 cap) := by
  have h := Lemmas.C01Full.ingest_of_capture_c hc false legacy file cap hread (Lemmas.C01Full.capOkC_false cap hok)
  rwa [Lemmas.C01Full.itemsFromC_false] at h

theorem feedAll_tls (H : Crypto.Prims) (P : Cipher.Prims) (info : Nat → Pipeline.Info) (o : Opts) (p0 : Pkt)
    (rest : List Pkt) :
    (feedAll (Pipeline.tlsMachine H P info) (tlsNew (Pipeline.tlsMachine H P info) o p0) rest).st =
      { (Pipeline.tlsMachine H P info).new o p0 with pkts := p0 :: rest } := by
  rw [Lemmas.MainLoop.feedAll_eq, Lemmas.Export.foldl_feed]
  simp [tlsNew, Lemmas.Export.tlsMachine_new]

/-- **items → one session's block.** For ANY item list (any interleaving of any traffic), any reference packet `q`: if the
    TLS-relevant TCP packets of `q`'s flow are `p0 :: rest` (capture order) and `p0` has a server port at one end, then what
    `run()` hands to the writer is `pre ++ (the export of THE session object created from p0 and fed rest) ++ post`, with the
    key log as it is at the end of the capture — whatever the other flows, UDP datagrams and junk are. -/
theorem session_of_items (mask : Quic.Dissect.MaskFn) (H : Crypto.Prims) (P : Cipher.Prims) (info : Nat → Pipeline.Info)
    (o : Opts) (keys : List Keylog.Key) (xs : List (MainLoop.Item Keylog.Key)) (q p0 : Pkt) (rest : List Pkt)
    (hF : (tcpView o xs).filter (sameFlow q) = p0 :: rest) (hc : candidate o p0 = true) :
    let TM := Pipeline.tlsMachine H P info
    let QM := QuicPipeline.quicMachine mask H P info
    ∃ pre post, exportAll TM QM o (runItems TM QM o ⟨keys, [], []⟩ xs) =
      pre ++ TM.out { TM.new o p0 with pkts := p0 :: rest } (keys ++ dsbKeys o xs) ++ post := by
  intro TM QM
  rw [C18.fresh_run_is]
  have hfind := C04.tls_session_for TM o (tcpView o xs) q
  rw [hF] at hfind
  simp only [alone, hc, if_true] at hfind
  obtain ⟨l1, l2, hsplit⟩ := List.append_of_mem (List.mem_of_find?_eq_some hfind)
  rw [hsplit]
  simp only [List.flatMap_append, List.flatMap_cons, List.append_assoc]
  exact ⟨l1.flatMap (fun s => TM.out s.st (keys ++ dsbKeys o xs)), _, by rw [feedAll_tls]⟩

section
open TLX.Export

/-- the option vector `run()` works with once `-p` / `-m` are parsed -/
def optsOf (args : Args) (ports : List Int) (pm : List (Int × Int)) : Opts :=
  ⟨ports, args.checksumTest, args.greasy, args.metadata, Options.keepOriginalPorts args.mArg, pm⟩

theorem optsE_ok (args : Args) (pm : List (Int × Int)) (ports : List Int)
    (hpm : Options.getPortMap Options.Src.bare args.mArg = .ok pm)
    (hports : Options.serverPorts Options.Src.builtin Options.Src.pDefault args.pArg = .ok ports) :
    Props.Export.optsE args = .ok (optsOf args ports pm) := by
  simp only [Props.Export.optsE, hpm, hports]
  rfl

/-- `Props.Export.framesFrom_eq` for `-m` / `-p` values that parse: the option vector is `optsOf` (`optsE_ok`) -/
theorem framesFrom_eq (mask : Quic.Dissect.MaskFn) (H : Crypto.Prims) (P : Cipher.Prims) (args : Args)
    (fk : Option (List Keylog.Key)) (xs : List (MainLoop.Item Keylog.Key)) (info : Nat → Pipeline.Info)
    (pm : List (Int × Int)) (ports : List Int)
    (hpm : Options.getPortMap Options.Src.bare args.mArg = .ok pm)
    (hports : Options.serverPorts Options.Src.builtin Options.Src.pDefault args.pArg = .ok ports) :
    framesFrom mask H P freshState args fk xs info =
      .ok (exportAll (Pipeline.tlsMachine H P info) (QuicPipeline.quicMachine mask H P info) (optsOf args ports pm)
        (runItems (Pipeline.tlsMachine H P info) (QuicPipeline.quicMachine mask H P info) (optsOf args ports pm)
          ⟨fk.getD [], [], []⟩ xs)) := by
  rw [Props.Export.framesFrom_eq, optsE_ok args pm ports hpm hports]
  rfl

theorem optionsBad_false (args : Args) (pm : List (Int × Int)) (ports : List Int)
    (hpm : Options.getPortMap Options.Src.bare args.mArg = .ok pm)
    (hports : Options.serverPorts Options.Src.builtin Options.Src.pDefault args.pArg = .ok ports) :
    optionsBad (freshState : Prior) args = false := by
  rw [Props.Export.optionsBad_eq, optsE_ok args pm ports hpm hports]
  rfl

theorem dsbKeys_frame (o : Opts) (p : Pkt) : dsbKeys o [(.frame p : MainLoop.Item Keylog.Key)] = [] := by
  simp only [dsbKeys, List.flatMap_cons, List.flatMap_nil, List.append_nil]
  split
  · rename_i ks hk; exact absurd hk (classify_frame_not_keys o p ks)
  · rfl

theorem dsbKeys_cons (o : Opts) (x : MainLoop.Item Keylog.Key) (l : List (MainLoop.Item Keylog.Key)) :
    dsbKeys o (x :: l) = dsbKeys o [x] ++ dsbKeys o l :=
  Lemmas.ExportProps.dsbKeys_append o [x] l

theorem dsbKeys_itemsFromC (o : Opts) (c : Bool) (cap : List CapEv) (tag : Nat) :
    dsbKeys o (Lemmas.C01Full.itemsFromC c tag cap) = [] := by
  induction cap generalizing tag with
  | nil => rfl
  | cons e rest ih => rw [Lemmas.C01Full.itemsFromC, dsbKeys_cons, dsbKeys_frame, ih]; rfl

theorem dsbKeys_itemsFrom (o : Opts) (cap : List CapEv) (tag : Nat) : dsbKeys o (itemsFrom tag cap) = [] := by
  rw [← Lemmas.C01Full.itemsFromC_false]
  exact dsbKeys_itemsFromC o false cap tag

/-- **The three layers glued around one session, for any items the read loop delivers** (any `-c`, DSBs allowed): `q` any
    packet of the flow of interest, whose TLS-relevant packets among the items `xs` are `p0 :: rest`, `p0` with a server
    port at one end. If `connOut` of THE session object the loop builds for that flow, with the key log as it is at the end
    of the capture, is `some blk`, then the run gets past option parsing and the read loop, hands the writer well-formed
    frames `pre ++ blk ++ post`, and either dies in the write loop or writes a file that `ReadsBack` exactly `blk`. -/
theorem export_of_items (mask : Quic.Dissect.MaskFn) (H : Crypto.Prims) (P : Cipher.Prims) (args : Args)
    (legacy : Bool) (keyFile : Option Keylog.Str) (file : Bytes)
    (xs : List (MainLoop.Item Keylog.Key)) (is : List (Nat × Pipeline.Info))
    (hing : Ingest.itemsWith Keylog.srcHexClass args.checksumTest legacy file = .ok (xs, is))
    (pm : List (Int × Int)) (ports : List Int)
    (hpm : Options.getPortMap Options.Src.bare args.mArg = .ok pm)
    (hports : Options.serverPorts Options.Src.builtin Options.Src.pDefault args.pArg = .ok ports)
    (q p0 : Pkt) (rest : List Pkt)
    (hF : (tcpView (optsOf args ports pm) xs).filter (sameFlow q) = p0 :: rest)
    (hcand : candidate (optsOf args ports pm) p0 = true)
    (blk : List Pipeline.OutPkt)
    (hsess : Pipeline.connOut H P (Ingest.lookup is)
      { (Pipeline.tlsMachine H P (Ingest.lookup is)).new (optsOf args ports pm) p0 with pkts := p0 :: rest }
      ((fileKeysOf keyFile).getD [] ++ dsbKeys (optsOf args ports pm) xs) = some blk) :
    ∃ pre post,
      framesFrom mask H P freshState args (fileKeysOf keyFile) xs (Ingest.lookup is) = .ok (pre ++ blk ++ post) ∧
      (∀ p ∈ pre ++ blk ++ post, (Frame.ofOutPkt p).WF) ∧
      ((∃ e, fileOf (pre ++ blk ++ post) = .error e ∧ exportFile mask H P args legacy keyFile file = .abort (.write e)) ∨
        ∃ f, exportFile mask H P args legacy keyFile file = .file f ∧ ReadsBack f blk) := by
  obtain ⟨pre, post, hout⟩ := session_of_items mask H P (Ingest.lookup is) (optsOf args ports pm)
    ((fileKeysOf keyFile).getD []) xs q p0 rest hF hcand
  have hfr := framesFrom_eq mask H P args (fileKeysOf keyFile) xs (Ingest.lookup is) pm ports hpm hports
  rw [hout, show (Pipeline.tlsMachine H P (Ingest.lookup is)).out _ _ = (Pipeline.connOut H P _ _ _).getD [] from rfl,
    hsess] at hfr
  exact ⟨pre, post, hfr, Lemmas.ExportWrite.wrote_or_abort mask H P args legacy keyFile file xs is hing
    (optionsBad_false args pm ports hpm hports) pre blk post hfr⟩

end

section
open TLX.Export TLX.Cipher TLX.RecordLayer TLX.Spec.TlsSender TLX.Props.C01 TLX.Lemmas.Pipeline TLX.Spec.TlsConnection
open TLX.Lemmas.Capstone TLX.Props.C01Pipeline TLX.Spec.TlsFraming TLX.Props.C01Capstone

theorem sessionOf_eq (H : Crypto.Prims) (P : Prims) (cap : List CapEv) (o : Opts) (p0 : Pkt) (rest : List Pkt) :
    { (Pipeline.tlsMachine H P (capInfo cap)).new o p0 with pkts := p0 :: rest } = sessionOf cap o p0 rest := rfl

/-- the conversation found in the output file: the frames of the session's block, read back, ARE `frames` addressed for the
    session — and `frames` is a well-formed TCP conversation whose two byte streams are the two plaintexts -/
def Exact (f : Bytes) (c : Pipeline.Conn) (pc psv : Bytes) : Prop :=
  ∃ frames : List TcpOut.Frame,
    ReadsBack f (frames.map (Pipeline.addressed c.opts c)) ∧ Spec.reassemble frames = some (pc, psv)

/-- what every connection-level theorem concludes about the session object `c`, and all the file level needs of it: under
    the key log `kl` it exports a well-formed TCP conversation whose two byte streams are `out` -/
def SessExact (H : Crypto.Prims) (P : Prims) (info : Nat → Pipeline.Info) (c : Pipeline.Conn) (kl : List Keylog.Key)
    (out : Bytes × Bytes) : Prop :=
  ∃ frames, Pipeline.connOut H P info c kl = some (frames.map (Pipeline.addressed c.opts c)) ∧
    Spec.reassemble frames = some out

end

section
open TLX.Spec.FrameBuild TLX.Spec.TlsCapture TLX.Props.C12Dissect

theorem tcpView_frame (o : Opts) (hc : o.checksumTest = false) (p : Pkt) :
    tcpView o [(.frame p : MainLoop.Item Keylog.Key)] = if p.l4 = .tcp ∧ p.payload ≠ [] then [p] else [] := by
  rw [Lemmas.C01Full.tcpView_frame_c, hc]
  simp

/-- the capture file in any container variant of the independent encoder: the reader model yields its packets -/
theorem capture_read (v : Spec.Containers.Variant) (pkts : List (Nat × Bytes))
    (hwf : v.WF (pkts.map fun p => .pkt p.1 p.2)) :
    Container.read v.isLegacy (Spec.Containers.encode v (pkts.map fun p => .pkt p.1 p.2)) =
      .ok ((pkts.map fun p => Spec.Containers.Ev.pkt p.1 p.2).filterMap (Spec.Containers.scale v)) :=
  Props.C12.reader_roundtrip v _ hwf

end

section
open TLX.Export TLX.Spec.FrameBuild TLX.Spec.TlsCapture TLX.Props.C12Dissect
open TLX.Cipher TLX.RecordLayer TLX.Spec.TlsSender TLX.Props.C01 TLX.Lemmas.Pipeline TLX.Spec.TlsConnection
open TLX.Lemmas.Capstone TLX.Props.C01Pipeline TLX.Spec.TlsFraming TLX.Props.C01Capstone

/-- **A run of the tool on the capture file of one connection**: the capture as the main loop sees it under the run's options
    (`Capture`), written by the independent encoder in any container variant (pcapng in any variant, libpcap µs / ns), no time
    stamp evaluating to −1.0 (the tool would take the packet for a secrets block), and `-m` / `-p` values that parse. -/
structure CaptureFile (fl : Flow) (evs : List CEv) (args : Args) (cv : Spec.Containers.Variant)
    (cevs : List Spec.Containers.Ev) (pm : List (Int × Int)) (ports : List Int) (p0 : Pkt) (rest : List Pkt) : Prop
    extends Capture fl evs (optsOf args ports pm) p0 rest where
  hnot1 : ∀ e ∈ evs.map CEv.cap, Ingest.isMinusOne e.t = false
  hcwf : cv.WF cevs
  hitems : cevs.filterMap (Spec.Containers.scale cv) = (evs.map CEv.cap).map CapEv.item
  hpm : Options.getPortMap Options.Src.bare args.mArg = .ok pm
  hports : Options.serverPorts Options.Src.builtin Options.Src.pDefault args.pArg = .ok ports

section
variable {fl : Flow} {evs : List CEv} {args : Args} {cv : Spec.Containers.Variant} {cevs : List Spec.Containers.Ev}
  {pm : List (Int × Int)} {ports : List Int} {p0 : Pkt} {rest : List Pkt}
  (S : CaptureFile fl evs args cv cevs pm ports p0 rest)
include S
open TLX.Lemmas.C01Full

theorem CaptureFile.run (mask : Quic.Dissect.MaskFn) (H : Crypto.Prims) (P : Prims) (keyFile : Option Keylog.Str)
    (blk : List Pipeline.OutPkt)
    (hsess : Pipeline.connOut H P (capInfo (evs.map CEv.cap)) (sessionOf (evs.map CEv.cap) (optsOf args ports pm) p0 rest)
      ((fileKeysOf keyFile).getD []) = some blk) :
    ∃ pre post,
      framesFrom mask H P freshState args (fileKeysOf keyFile) (itemsFromC args.checksumTest 0 (evs.map CEv.cap))
        (capInfo (evs.map CEv.cap)) = .ok (pre ++ blk ++ post) ∧
      (∀ p ∈ pre ++ blk ++ post, (Frame.ofOutPkt p).WF) ∧
      ((∃ e, fileOf (pre ++ blk ++ post) = .error e ∧
          exportFile mask H P args cv.isLegacy keyFile (Spec.Containers.encode cv cevs) = .abort (.write e)) ∨
        ∃ f, exportFile mask H P args cv.isLegacy keyFile (Spec.Containers.encode cv cevs) = .file f ∧ ReadsBack f blk) := by
  have hread : Container.read cv.isLegacy (Spec.Containers.encode cv cevs) = .ok ((evs.map CEv.cap).map CapEv.item) := by
    rw [Props.C12.reader_roundtrip cv cevs S.hcwf, S.hitems]
  have hing := ingest_of_capture_c Keylog.srcHexClass args.checksumTest cv.isLegacy _ (evs.map CEv.cap) hread
    (capOkC_of_describedX fl args.checksumTest evs S.hdesc S.hnot1)
  exact export_of_items mask H P args cv.isLegacy keyFile _ _ _ hing pm ports S.hpm S.hports (refPkt fl) p0 rest S.flow
    S.roles.2 blk (by
      show Pipeline.connOut H P (capInfo (evs.map CEv.cap)) (sessionOf (evs.map CEv.cap) (optsOf args ports pm) p0 rest) _ = _
      rw [dsbKeys_itemsFromC, List.append_nil]; exact hsess)

theorem CaptureFile.exact_or_abort (mask : Quic.Dissect.MaskFn) (H : Crypto.Prims) (P : Prims)
    (keyFile : Option Keylog.Str) (out : Bytes × Bytes)
    (h : SessExact H P (capInfo (evs.map CEv.cap)) (sessionOf (evs.map CEv.cap) (optsOf args ports pm) p0 rest)
      ((fileKeysOf keyFile).getD []) out) :
    (∃ e, exportFile mask H P args cv.isLegacy keyFile (Spec.Containers.encode cv cevs) = .abort (.write e)) ∨
    ∃ f, exportFile mask H P args cv.isLegacy keyFile (Spec.Containers.encode cv cevs) = .file f ∧
      Exact f (sessionOf (evs.map CEv.cap) (optsOf args ports pm) p0 rest) out.1 out.2 := by
  obtain ⟨frames, hc, hre⟩ := h
  obtain ⟨pre, post, _, _, ⟨e, _, he⟩ | ⟨f, he, hrb⟩⟩ := S.run mask H P keyFile _ hc
  · exact .inl ⟨e, he⟩
  · exact .inr ⟨f, he, frames, hrb, hre⟩

end

theorem described_session (fl : Flow) (hne : clientEp fl ≠ serverEp fl) (evs : List CEv) (hd : Described fl evs)
    (o : Opts) (hc : o.checksumTest = false) (hsp : o.ports.contains (fl.serverPort : Int) = true)
    (hcp : o.ports.contains (fl.clientPort : Int) = false) (p0 : Pkt) (rest : List Pkt)
    (hfp : flowPkts fl 0 evs = p0 :: rest) :
    (tcpView o (itemsFrom 0 (evs.map CEv.cap))).filter (sameFlow (refPkt fl)) = p0 :: rest ∧
    candidate o p0 = true ∧
    (sessionOf (evs.map CEv.cap) o p0 rest).server = serverEp fl ∧
    (sessionOf (evs.map CEv.cap) o p0 rest).client = clientEp fl ∧
    ∀ streams, WiresInOrder evs streams →
      DeliveredInOrder (capInfo (evs.map CEv.cap)) (sessionOf (evs.map CEv.cap) o p0 rest) streams := by
  have S : Capture fl evs o p0 rest := .of_described hne hd hc hsp hcp hfp
  have hF := S.flow
  rw [hc, Lemmas.C01Full.itemsFromC_false] at hF
  exact ⟨hF, S.roles.2, S.server, S.client, S.inOrder⟩

/-- **C01 from file to file for a capture DESCRIBED FROM THE SENDER'S SIDE, SSL 3.0 – TLS 1.2.** The capture file is the
    independent encoder's bytes (any pcapng variant, libpcap µs / ns) of: the connection's segments — any well-formed
    Ethernet / IPv4-or-IPv6 / TCP frames between the flow's endpoints (`Spec.TlsCapture.IsSeg`), delivering each
    direction's record stream in order (`WiresInOrder`: any cut, duplicates, any ISN) — interleaved with ARBITRARY
    foreign packets (`Foreign`). Then the run does not stop at the options or in the read loop, and unless scapy / dpkt
    refuse a frame in the write loop, the output file `Exact`ly contains the conversation: the tool's own reader and the
    independent frame parser read back a contiguous block of frames that are `frames` addressed for the session, and
    `Spec.reassemble frames = (client plaintext, server plaintext)`. -/
theorem tls12_capture_exact (mask : Quic.Dissect.MaskFn) (H : Crypto.Prims) (P : Prims) (L : SealLaws P)
    -- the capture file: bytes written by the independent encoder in ANY container variant, holding the described packets
    (fl : Flow) (hne : clientEp fl ≠ serverEp fl) (evs : List CEv) (hdesc : Described fl evs)
    (hnot1 : ∀ e ∈ evs.map CEv.cap, Ingest.isMinusOne e.t = false)
    (cv : Spec.Containers.Variant) (cevs : List Spec.Containers.Ev) (hcwf : cv.WF cevs)
    (hitems : cevs.filterMap (Spec.Containers.scale cv) = (evs.map CEv.cap).map CapEv.item)
    -- the options: no `-c`, no `-a`; the server port is a server port, the client port is not
    (args : Args) (keyFile : Option Keylog.Str)
    (hnoc : args.checksumTest = false) (hmeta : args.metadata = false)
    (pm : List (Int × Int)) (ports : List Int)
    (hpm : Options.getPortMap Options.Src.bare args.mArg = .ok pm)
    (hports : Options.serverPorts Options.Src.builtin Options.Src.pDefault args.pArg = .ok ports)
    (hsp : ports.contains (fl.serverPort : Int) = true) (hcp : ports.contains (fl.clientPort : Int) = false)
    (p0 : Pkt) (rest : List Pkt) (hfp : flowPkts fl 0 evs = p0 :: rest)
    -- the connection as sent (hypotheses of `tls12_connection_exact`, for the session object and the key-log file)
    (t : Transcript) (hch : t.ch.WellFormed) (hsh : t.sh.WellFormed) (hrc : t.rvC.length = 2) (hrs : t.rvS.length = 2)
    (hv : t.ver.length = 2) (hcomp : t.sh.compressionMethod = 0)
    (v : Session.Ver) (hvne : v ≠ .tls13) (hneg : Negotiated t.rvS t.sh v)
    (ps : CipherSuite.Params) (hres : CipherSuite.resolve (Bytes.beNat t.sh.cipherSuite) = some ps)
    (a : Pipeline.SuiteArgs) (hargs : Pipeline.suiteArgs ps = some a)
    (fk : Keylog.Key) (fks : List Keylog.Key)
    (hfound : (Keylog.findSessionSecrets ((fileKeysOf keyFile).getD []) (Pipeline.natsOfBytes t.ch.random)).filter
        (fun k => k.label == Keylog.s_CLIENT_RANDOM || k.label == Keylog.s_RSA) = fk :: fks)
    (secrets : List KeySchedule.Secret) (hsec : Pipeline.secretsOf false (fk :: fks) = some secrets)
    (k : KeySchedule.Keys6)
    (hgen : KeySchedule.generateKeys H (Pipeline.ksVersion v) a.ks secrets t.ch.random t.sh.random
      = .ok (some (.legacy k)))
    (cls : CipherClass)
    (hcls : classOf a.bulk (Pipeline.rlVersion v)
      (Session.extGet ((t.sh.extensions.getD []).map extPair) [0x00, 0x16]).isSome a.tagLen = some cls)
    (hmac : 0 < (KeySchedule.macSuite H a.ks.mac).outLen)
    (hck : KeyMatOk cls k.clientKey k.clientIv) (hsk : KeyMatOk cls k.serverKey k.serverIv)
    (hsc : Script12 t.cEvs) (hss : Script12 t.sEvs)
    (hokc : ∀ e ∈ t.cEvs, EvOk1 cls (KeySchedule.macSuite H a.ks.mac).outLen e)
    (hoks : ∀ e ∈ t.sEvs, EvOk1 cls (KeySchedule.macSuite H a.ks.mac).outLen e)
    (hwr : ∀ d, ∀ r ∈ t.records P L cls (legacySnd k) d, WholeRecord r)
    (hlen : t.cEvs.length + t.sEvs.length ≤ seqLimit)
    -- the capture of the connection, sender side; causality on the released records as in the connection capstone
    (hwires : WiresInOrder evs (t.stream P L cls (legacySnd k)))
    (hcausal : Causal12 (connRecs (capInfo (evs.map CEv.cap)) (sessionOf (evs.map CEv.cap) (optsOf args ports pm) p0 rest))) :
    (∃ e, exportFile mask H P args cv.isLegacy keyFile (Spec.Containers.encode cv cevs) = .abort (.write e)) ∨
    ∃ f, exportFile mask H P args cv.isLegacy keyFile (Spec.Containers.encode cv cevs) = .file f ∧
      Exact f (sessionOf (evs.map CEv.cap) (optsOf args ports pm) p0 rest)
        (Spec.TlsConnection.plainOf t.cEvs) (Spec.TlsConnection.plainOf t.sEvs) := by
  have S : CaptureFile fl evs args cv cevs pm ports p0 rest :=
    ⟨.of_described hne hdesc hnoc hsp hcp hfp, hnot1, hcwf, hitems, hpm, hports⟩
  obtain ⟨frames, hconn, hre, _⟩ := tls12_connection_exact H P L ((fileKeysOf keyFile).getD []) _
    (sessionOf (evs.map CEv.cap) (optsOf args ports pm) p0 rest) hmeta t hch hsh hrc hrs hv hcomp v hvne hneg ps hres a
    hargs fk fks hfound secrets hsec k hgen cls hcls hmac hck hsk hsc hss hokc hoks hwr hlen (S.inOrder _ hwires) hcausal
  exact S.exact_or_abort mask H P keyFile (_, _) ⟨frames, hconn, hre⟩

/-- **C01 from file to file for a capture DESCRIBED FROM THE SENDER'S SIDE, TLS 1.3**: as `tls12_capture_exact` — the same
    capture file, foreign packets and conclusion (the write loop raises, or the output file `Exact`ly contains the
    conversation) — with the hypotheses of `tls13_connection_exact` about the connection (the traffic secrets of the key log,
    `Script13`, `Causal13`) in place of those of `tls12_connection_exact`. -/
theorem tls13_capture_exact (mask : Quic.Dissect.MaskFn) (H : Crypto.Prims) (P : Prims) (L : SealLaws P)
    -- the capture file: bytes written by the independent encoder in ANY container variant, holding the described packets
    (fl : Flow) (hne : clientEp fl ≠ serverEp fl) (evs : List CEv) (hdesc : Described fl evs)
    (hnot1 : ∀ e ∈ evs.map CEv.cap, Ingest.isMinusOne e.t = false)
    (cv : Spec.Containers.Variant) (cevs : List Spec.Containers.Ev) (hcwf : cv.WF cevs)
    (hitems : cevs.filterMap (Spec.Containers.scale cv) = (evs.map CEv.cap).map CapEv.item)
    -- the options: no `-c`, no `-a`; the server port is a server port, the client port is not
    (args : Args) (keyFile : Option Keylog.Str)
    (hnoc : args.checksumTest = false) (hmeta : args.metadata = false)
    (pm : List (Int × Int)) (ports : List Int)
    (hpm : Options.getPortMap Options.Src.bare args.mArg = .ok pm)
    (hports : Options.serverPorts Options.Src.builtin Options.Src.pDefault args.pArg = .ok ports)
    (hsp : ports.contains (fl.serverPort : Int) = true) (hcp : ports.contains (fl.clientPort : Int) = false)
    (p0 : Pkt) (rest : List Pkt) (hfp : flowPkts fl 0 evs = p0 :: rest)
    -- the connection as sent (hypotheses of `tls13_connection_exact`, for the session object and the key-log file)
    (t : Transcript) (hch : t.ch.WellFormed) (hsh : t.sh.WellFormed) (hrc : t.rvC.length = 2) (hrs : t.rvS.length = 2)
    (hv : t.ver.length = 2) (hcomp : t.sh.compressionMethod = 0) (hneg : Negotiated t.rvS t.sh .tls13)
    (ps : CipherSuite.Params) (hres : CipherSuite.resolve (Bytes.beNat t.sh.cipherSuite) = some ps)
    (a : Pipeline.SuiteArgs) (hargs : Pipeline.suiteArgs ps = some a)
    (fk : Keylog.Key) (fks : List Keylog.Key)
    (hfound : Keylog.findSessionSecrets ((fileKeysOf keyFile).getD []) (Pipeline.natsOfBytes t.ch.random) = fk :: fks)
    (secrets : List KeySchedule.Secret) (hsec : Pipeline.secretsOf true (fk :: fks) = some secrets)
    (k : KeySchedule.Installed13)
    (hgen : KeySchedule.generateKeys H .tls13 a.ks secrets t.ch.random t.sh.random = .ok (some (.tls13 k)))
    (chk chiv cak caiv shk shiv sak saiv : Bytes)
    (hk : k.clientHsKey = some chk ∧ k.clientHsIv = some chiv ∧ k.clientAppKey = some cak ∧ k.clientAppIv = some caiv ∧
      k.serverHsKey = some shk ∧ k.serverHsIv = some shiv ∧ k.serverAppKey = some sak ∧ k.serverAppIv = some saiv)
    (cls : CipherClass)
    (hcls : classOf a.bulk .tls13
      (Session.extGet ((t.sh.extensions.getD []).map extPair) [0x00, 0x16]).isSome a.tagLen = some cls)
    (h1 : KeyMatOk cls chk chiv) (h2 : KeyMatOk cls cak caiv) (h3 : KeyMatOk cls shk shiv) (h4 : KeyMatOk cls sak saiv)
    (hsc : Script13 t.cEvs) (hss : Script13 t.sEvs)
    (hokc : ∀ e ∈ t.cEvs, EvOk1 cls (KeySchedule.macSuite H a.ks.mac).outLen e)
    (hoks : ∀ e ∈ t.sEvs, EvOk1 cls (KeySchedule.macSuite H a.ks.mac).outLen e)
    (hwr : ∀ d, ∀ r ∈ t.records P L cls ⟨SDir.init chk chiv cak caiv, SDir.init shk shiv sak saiv⟩ d, WholeRecord r)
    (hlen : budget13 t ≤ seqLimit)
    -- the capture of the connection, sender side; causality on the released records as in the connection capstone
    (hwires : WiresInOrder evs (t.stream P L cls ⟨SDir.init chk chiv cak caiv, SDir.init shk shiv sak saiv⟩))
    (hcausal : Causal13 (connRecs (capInfo (evs.map CEv.cap)) (sessionOf (evs.map CEv.cap) (optsOf args ports pm) p0 rest))) :
    (∃ e, exportFile mask H P args cv.isLegacy keyFile (Spec.Containers.encode cv cevs) = .abort (.write e)) ∨
    ∃ f, exportFile mask H P args cv.isLegacy keyFile (Spec.Containers.encode cv cevs) = .file f ∧
      Exact f (sessionOf (evs.map CEv.cap) (optsOf args ports pm) p0 rest)
        (Spec.TlsConnection.plainOf t.cEvs) (Spec.TlsConnection.plainOf t.sEvs) := by
  have S : CaptureFile fl evs args cv cevs pm ports p0 rest :=
    ⟨.of_described hne hdesc hnoc hsp hcp hfp, hnot1, hcwf, hitems, hpm, hports⟩
  obtain ⟨frames, hconn, hre, _⟩ := tls13_connection_exact H P L ((fileKeysOf keyFile).getD []) _
    (sessionOf (evs.map CEv.cap) (optsOf args ports pm) p0 rest) hmeta t hch hsh hrc hrs hv hcomp hneg ps hres a hargs fk fks
    hfound secrets hsec k hgen chk chiv cak caiv shk shiv sak saiv hk cls hcls h1 h2 h3 h4 hsc hss hokc hoks hwr hlen
    (S.inOrder _ hwires) hcausal
  exact S.exact_or_abort mask H P keyFile (_, _) ⟨frames, hconn, hre⟩

end

section
open TLX.Export TLX.Spec.FrameParse

/-- **What `Exact` means for an independent receiver.** In the block of the output file, packet `i` is the serialisation of
    `frames[i]`: the independent parser reads a TCP segment with exactly that frame's sequence number, acknowledgment
    number, flag bits and payload, from the server's (exported) endpoint to the client's or back according to the
    frame's direction — so feeding what the parser reads to the textbook reassembler `Spec.reassemble` gives the two
    plaintexts. `⟨ts, 10 ^ 6, 0, false⟩`: see `Lemmas.ExportWrite.file_of_frames`; data offset 5, window 8192, urgent pointer 0
    and no options are scapy's defaults. -/
theorem exact_frames_parse (f : Bytes) (c : Pipeline.Conn) (pc psv : Bytes) (h : Exact f c pc psv) :
    ∃ (frames : List TcpOut.Frame) (A C : List Item) (B : List Bytes), B.length = frames.length ∧
      Spec.reassemble frames = some (pc, psv) ∧
      Container.read false f = .ok (A ++ (frames.zip B).map (fun pb => Item.pkt ⟨pb.1.ts, 10 ^ 6, 0, false⟩ pb.2) ++ C) ∧
      ∀ pb ∈ frames.zip B, ∃ p, parse pb.2 = some p ∧
        p.l4 = .tcp pb.1.seq pb.1.ack 5 (pb.1.flags % 512 / 256) (pb.1.flags % 256) 8192 0 [] ∧
        p.payload = pb.1.payload ∧
        (p.src, p.sport) = (if pb.1.fromServer then
            (c.server.ip, TcpOut.exportedServerPort c.opts.keep (Pipeline.portmapFn c.opts.portmap) c.server.port)
          else (c.client.ip, c.client.port)) ∧
        (p.dst, p.dport) = (if pb.1.fromServer then (c.client.ip, c.client.port)
          else (c.server.ip, TcpOut.exportedServerPort c.opts.keep (Pipeline.portmapFn c.opts.portmap) c.server.port)) := by
  obtain ⟨frames, hrb, hre⟩ := h
  obtain ⟨A, C, B, hB, hread, hparse⟩ := Lemmas.ExportWrite.readsBack_map (Pipeline.addressed c.opts c) (·.ts)
    (fun d => by unfold Pipeline.addressed; split <;> rfl) frames f hrb
  refine ⟨frames, A, C, B, hB, hre, hread, fun pb hpb => ?_⟩
  obtain ⟨seg, hp⟩ := hparse pb hpb
  refine ⟨_, hp, ?_⟩
  cases hfs : pb.1.fromServer <;> simp [Frame.ofOutPkt, Pipeline.addressed, hfs]

end

end TLX.Props.C01File

namespace TLX.Props.C01File.Ex
open TLX TLX.MainLoop TLX.Spec.Demux TLX.Dissect TLX.Export
open TLX.Spec.FrameBuild TLX.Spec.TlsCapture
open TLX.Cipher TLX.RecordLayer TLX.Spec.TlsSender TLX.Props.C01 TLX.Lemmas.Pipeline TLX.Spec.TlsConnection
open TLX.Lemmas.Capstone TLX.Props.C01Pipeline TLX.Spec.TlsFraming TLX.Props.C01Capstone TLX.Props.C01Capstone.Ex
open TLX.Props.C01Pipeline.Ex2 TLX.Props.C01.Ex

def fl0 : Flow := ⟨false, [10, 0, 0, 1], 5555, [10, 0, 0, 2], 443⟩
def cMac : Bytes := [2, 0, 0, 0, 0, 1]
def sMac : Bytes := [2, 0, 0, 0, 0, 2]

def tcpOf (d : Bool) (seq : Nat) (payload : Bytes) : Tcp :=
  ⟨if d then 443 else 5555, if d then 5555 else 443, seq, 0, 0x18, 0, 8192, 0, 0, [], payload⟩

/-- Ethernet II / IPv4 (DF, TTL 64, no options) / TCP (PSH|ACK, no options), no trailer -/
def segFrame (d : Bool) (seq : Nat) (payload : Bytes) : Spec.FrameBuild.Frame :=
  ⟨if d then cMac else sMac, if d then sMac else cMac,
   .v4 ⟨0, 1, true, false, 64, 0, if d then [10, 0, 0, 2] else [10, 0, 0, 1], if d then [10, 0, 0, 1] else [10, 0, 0, 2], []⟩,
   .tcp (tcpOf d seq payload), []⟩

theorem tcpOf_length (d : Bool) (seq : Nat) (payload : Bytes) : (tcpOf d seq payload).encode.length = 20 + payload.length := by
  rw [Lemmas.Dissect.tcp_encode_length]; rfl

theorem isSeg_mk (d : Bool) (seq : Nat) (payload : Bytes) (hs : seq < 4294967296) (hp : payload.length < 60000) :
    IsSeg fl0 d (segFrame d seq payload) (tcpOf d seq payload) := by
  refine ⟨⟨?_, ?_, ?_, ?_⟩, rfl, ?_, ?_, ?_⟩
  · cases d <;> rfl
  · cases d <;> rfl
  · cases d <;> simp [segFrame, Upper.WF, Tcp.WF, tcpOf, hs]
  · cases d <;> simp [segFrame, V4.WF, Upper.encode, tcpOf_length] <;> omega
  · cases d <;> rfl
  · cases d <;> rfl
  · cases d <;> simp [segFrame, fl0]

/-- capture time of packet `n`: 1 700 000 000 s + (1000 + n) ns, as the nanosecond libpcap reader yields it -/
def timeAt (n : Nat) : Container.Time := ⟨1000 + n, 10 ^ 9, 1700000000, true⟩

/-- the capstone example's capture `cap0` (ClientHello in two segments, coalesced server flight, False Start, a
    retransmission, a split server record, the client's sequence numbers wrapping 2^32) as frames, tagged from `n` -/
def segEvs : Nat → List (Bool × Bytes × Nat) → List CEv
  | _, [] => []
  | n, (d, pl, off) :: rest =>
    .seg (timeAt n) d (segFrame d ((isnOf d + off) % 4294967296) pl) (tcpOf d ((isnOf d + off) % 4294967296) pl) ::
      segEvs (n + 1) rest

/-- a foreign packet: an ARP request (not IP) -/
def arp : CapEv :=
  ⟨timeAt 0, List.replicate 6 0xff ++ cMac ++ [0x08, 0x06] ++ [0, 1, 8, 0, 6, 4, 0, 1] ++ cMac ++ [10, 0, 0, 1] ++
      List.replicate 6 0 ++ [10, 0, 0, 2], .notIp⟩

/-- the described capture: the ARP request first (so every tag is shifted), then the connection -/
def evs0 : List CEv := .foreign arp :: segEvs 1 cap0

theorem segEvs_described (l : List (Bool × Bytes × Nat)) (h : ∀ x ∈ l, x.2.1.length < 60000) (n : Nat) :
    Described fl0 (segEvs n l) := by
  induction l generalizing n with
  | nil => intro ev hev; cases hev
  | cons x rest ih =>
    obtain ⟨d, pl, off⟩ := x
    intro ev hev
    simp only [segEvs, List.mem_cons] at hev
    rcases hev with rfl | hev
    · exact isSeg_mk d _ pl (Nat.mod_lt _ (by decide)) (h (d, pl, off) (by simp))
    · exact ih (fun y hy => h y (by simp [hy])) (n + 1) ev hev

theorem arp_foreign : Foreign fl0 arp := by
  refine ⟨by decide +kernel, ?_⟩
  intro tag h
  simp [arp, pktOf, Ingest.otherPkt] at h

protected theorem foreign_not_mem_segEvs (e : CapEv) (l : List (Bool × Bytes × Nat)) (n : Nat) : CEv.foreign e ∉ segEvs n l := by
  induction l generalizing n with
  | nil => intro h; cases h
  | cons x xs ih =>
    obtain ⟨d, pl, off⟩ := x
    intro h
    simp only [segEvs, List.mem_cons] at h
    rcases h with h | h
    · cases h
    · exact ih (n + 1) h

/-- the only frame outside the connection in a capture `ARP request :: segments` -/
protected theorem foreign_is_arp (l : List (Bool × Bytes × Nat)) (e : CapEv) (he : CEv.foreign e ∈ CEv.foreign arp :: segEvs 1 l) :
    e = arp := by
  rcases List.mem_cons.mp he with he | he
  · cases he; rfl
  · exact absurd he (Ex.foreign_not_mem_segEvs e l 1)

theorem cap0_small : ∀ x ∈ cap0, x.2.1.length < 60000 := by decide +kernel

theorem described0 : Described fl0 evs0 := by
  intro ev hev
  simp only [evs0, List.mem_cons] at hev
  rcases hev with rfl | hev
  · exact arp_foreign
  · exact segEvs_described cap0 cap0_small 1 ev hev

theorem notMinusOne (n : Nat) : Ingest.isMinusOne (timeAt n) = false := by
  simp only [Ingest.isMinusOne, timeAt, if_true]
  simp
  omega

theorem segEvs_times (l : List (Bool × Bytes × Nat)) (n : Nat) :
    ∀ e ∈ (segEvs n l).map CEv.cap, Ingest.isMinusOne e.t = false := by
  induction l generalizing n with
  | nil => intro e he; cases he
  | cons x rest ih =>
    obtain ⟨d, pl, off⟩ := x
    intro e he
    simp only [segEvs, List.map_cons, List.mem_cons] at he
    rcases he with rfl | he
    · exact notMinusOne n
    · exact ih (n + 1) e he

theorem times0 : ∀ e ∈ evs0.map CEv.cap, Ingest.isMinusOne e.t = false := by
  intro e he
  simp only [evs0, List.map_cons, List.mem_cons] at he
  rcases he with rfl | he
  · exact notMinusOne 0
  · exact segEvs_times cap0 1 e he

def cv0 : Spec.Containers.Variant := .legacy { nano := true }

def cevOf (e : CapEv) : Spec.Containers.Ev := .pkt (e.t.offset.toNat * 10 ^ 9 + e.t.ticks) e.buf
def cevs0 : List Spec.Containers.Ev := (evs0.map CEv.cap).map cevOf

theorem legacy_wf (l : List Spec.Containers.Ev) (v : Spec.Containers.LegacyVariant) (hx : v.extraLen = fun _ => 0)
    (h : ∀ ev ∈ l, ∃ t d, ev = .pkt t d ∧ t / v.unitsPerSecond < 2 ^ 32 ∧ d.length < 2 ^ 32) (i : Nat) :
    v.WFfrom i l := by
  induction l generalizing i with
  | nil => trivial
  | cons ev rest ih =>
    obtain ⟨t, d, rfl, h1, h2⟩ := h ev (by simp)
    simp only [Spec.Containers.LegacyVariant.WFfrom, hx, Nat.add_zero]
    exact ⟨h1, h2, ih (fun e he => h e (by simp [he])) (i + 1)⟩

theorem segFrame_length (d : Bool) (seq : Nat) (pl : Bytes) : (segFrame d seq pl).encode.length = 54 + pl.length := by
  simp only [Frame.encode, Frame.etherType, Frame.datagram, segFrame, V4.encode, Upper.encode, List.length_append,
    Lemmas.Dissect.v4_fixed_length, tcpOf_length]
  cases d <;> simp [cMac, sMac] <;> omega

theorem segEvs_bounds (l : List (Bool × Bytes × Nat)) (h : ∀ x ∈ l, x.2.1.length < 60000) (n : Nat) :
    ∀ e ∈ (segEvs n l).map CEv.cap, ∃ k, k < n + l.length ∧ e.t = timeAt k ∧ e.buf.length < 70000 := by
  induction l generalizing n with
  | nil => intro e he; cases he
  | cons x rest ih =>
    obtain ⟨d, pl, off⟩ := x
    intro e he
    simp only [segEvs, List.map_cons, List.mem_cons] at he
    rcases he with rfl | he
    · refine ⟨n, by simp, rfl, ?_⟩
      have := h (d, pl, off) (by simp)
      simp only [CEv.cap, segFrame_length]
      simp only at this
      omega
    · obtain ⟨k, hk, h1, h2⟩ := ih (fun y hy => h y (by simp [hy])) (n + 1) e he
      exact ⟨k, by simp only [List.length_cons]; omega, h1, h2⟩

/-- a capture of packets at the times `timeAt k` (k < 100), each shorter than 70000 bytes, as a nanosecond libpcap file
    (`cv0`): the encoder's well-formedness condition holds, and the reader's items are the packets -/
theorem cwf_of_bounds (cap : List CapEv)
    (hb : ∀ e ∈ cap, ∃ k, k < 100 ∧ e.t = timeAt k ∧ e.buf.length < 70000) : cv0.WF (cap.map cevOf) := by
  refine ⟨by decide, by decide, by decide, by decide, by decide, legacy_wf _ _ rfl ?_ 0⟩
  intro ev hev
  obtain ⟨c, hc, rfl⟩ := List.mem_map.mp hev
  obtain ⟨k, hk, ht, hl⟩ := hb c hc
  refine ⟨_, _, rfl, ?_, by omega⟩
  rw [ht]
  simp only [timeAt, Spec.Containers.LegacyVariant.unitsPerSecond, if_true]
  have : ((1700000000 : Int).toNat * 10 ^ 9 + (1000 + k)) / 10 ^ 9 = 1700000000 := by
    have : (1700000000 : Int).toNat = 1700000000 := rfl
    rw [this]; omega
  rw [this]; decide

theorem scale_cev (e : CapEv) (k : Nat) (hk : k < 100) (ht : e.t = timeAt k) :
    Spec.Containers.scale cv0 (cevOf e) = some e.item := by
  have h1 : (1700000000 : Int).toNat = 1700000000 := rfl
  simp only [cevOf, cv0, Spec.Containers.scale, Spec.Containers.LegacyVariant.unitsPerSecond, if_true, ht, timeAt, h1,
    CapEv.item]
  have e1 : (1700000000 * 10 ^ 9 + (1000 + k)) % 10 ^ 9 = 1000 + k := by omega
  have e2 : (1700000000 * 10 ^ 9 + (1000 + k)) / 10 ^ 9 = 1700000000 := by omega
  rw [e1, e2]
  rfl

theorem filterMap_map_some {α β γ : Type} (l : List α) (f : α → β) (g : β → Option γ) (h : α → γ)
    (hh : ∀ x ∈ l, g (f x) = some (h x)) : (l.map f).filterMap g = l.map h := by
  induction l with
  | nil => rfl
  | cons x xs ih =>
    simp only [List.map_cons, List.filterMap_cons, hh x (by simp), ih (fun y hy => hh y (by simp [hy]))]

theorem citems_of_bounds (cap : List CapEv)
    (hb : ∀ e ∈ cap, ∃ k, k < 100 ∧ e.t = timeAt k ∧ e.buf.length < 70000) :
    (cap.map cevOf).filterMap (Spec.Containers.scale cv0) = cap.map CapEv.item := by
  apply filterMap_map_some
  intro e he
  obtain ⟨k, hk, ht, _⟩ := hb e he
  exact scale_cev _ k hk ht

theorem evs0_bounds : ∀ e ∈ evs0.map CEv.cap, ∃ k, k < 100 ∧ e.t = timeAt k ∧ e.buf.length < 70000 := by
  intro e he
  simp only [evs0, List.map_cons, List.mem_cons] at he
  rcases he with rfl | he
  · exact ⟨0, by decide, rfl, by decide⟩
  · obtain ⟨k, hk, h1, h2⟩ := segEvs_bounds cap0 cap0_small 1 _ he
    exact ⟨k, by have : cap0.length = 10 := rfl; omega, h1, h2⟩

theorem cwf0 : cv0.WF cevs0 := cwf_of_bounds _ evs0_bounds

theorem items0 : cevs0.filterMap (Spec.Containers.scale cv0) = (evs0.map CEv.cap).map CapEv.item :=
  citems_of_bounds _ evs0_bounds

def args0 : Args := ⟨none, none, false, false, false⟩
def ports0 : List Int := Options.Src.builtin ++ Options.Src.pDefault

/-- the key-log FILE: one NSS line, CRLF line ending -/
def keyText : Keylog.Str :=
  Keylog.s_CLIENT_RANDOM ++ [32] ++ Keylog.hexOf (Pipeline.natsOfBytes cr0) ++ [32] ++ Keylog.hexOf (List.replicate 48 5) ++
    [13, 10]

theorem keyText_keys : (fileKeysOf (some keyText)).getD [] = kl0 := by decide +kernel

example : (fileKeysOf (some keyText)).getD [] = kl0 := keyText_keys

def pkts0 : List Pkt := flowPkts fl0 0 evs0
def p00 : Pkt := ⟨.tcp, ⟨[10, 0, 0, 1], 5555⟩, ⟨[10, 0, 0, 2], 443⟩, (rC 0).take 20, true, 1⟩
theorem fp0 : flowPkts fl0 0 evs0 = p00 :: pkts0.tail := by
  obtain ⟨ys, h⟩ := List.head?_eq_some_iff.mp (by decide +kernel : (flowPkts fl0 0 evs0).head? = some p00)
  unfold pkts0
  rw [h]; rfl

/-- the capture file of `evs0` under no options -/
theorem capture0 : CaptureFile fl0 evs0 args0 cv0 cevs0 [] ports0 p00 pkts0.tail :=
  ⟨.of_described (by decide) described0 rfl (by decide +kernel) (by decide +kernel) fp0, times0, cwf0, items0, rfl, rfl⟩

/-- the capture shows the session the segments of `C01Capstone.Ex`'s `connCap`, whose delivery is `delivered0` -/
theorem wires0 : WiresInOrder evs0 (t0.stream Cipher.Toy.prims Cipher.Toy.laws cls0 (legacySnd k0)) := by
  have e : ∀ d, dirWires d evs0 = (dirSegs infoCap connCap.server d connCap.pkts).map Props.C05.wire := by decide +kernel
  intro d
  rw [e d]
  exact delivered0 d

def sess0 : Pipeline.Conn := sessionOf (evs0.map CEv.cap) (optsOf args0 ports0 []) p00 pkts0.tail

theorem causal0' : Causal12 (connRecs (capInfo (evs0.map CEv.cap)) sess0) :=
  causal12_of_causal13 _ (causal13_of_dirs _ (by decide +kernel)) (by decide +kernel)

theorem plain0 : Spec.TlsConnection.plainOf t0.cEvs = hi ∧ Spec.TlsConnection.plainOf t0.sEvs = k16 := by decide

/-- **Non-vacuity of the grand theorem.** EVERY hypothesis of `tls12_capture_exact` holds for a concrete input: the capture
    FILE is the nanosecond-libpcap encoding of an ARP request followed by the ten segments of the capstone's TLS 1.2
    connection (as Ethernet / IPv4 / TCP frames built by `Spec.FrameBuild`), the key-log FILE is one CRLF-terminated NSS
    line, no options; toy primitives, the regenerated suite table. So its conclusion holds: the run gets to the write loop,
    and the file it writes contains exactly the conversation "hi" / sixteen bytes. -/
theorem tls12_file_instance :
    (∃ e, exportFile (fun _ _ _ => none) hashes Cipher.Toy.prims args0 cv0.isLegacy (some keyText)
        (Spec.Containers.encode cv0 cevs0) = .abort (.write e)) ∨
    ∃ f, exportFile (fun _ _ _ => none) hashes Cipher.Toy.prims args0 cv0.isLegacy (some keyText)
        (Spec.Containers.encode cv0 cevs0) = .file f ∧ Exact f sess0 hi k16 := by
  obtain ⟨hres, hfound, hsec, hcls, hmac, hck, hsk⟩ := keys12
  obtain ⟨hsc, hss, hokc, hoks, hwr, hlen⟩ := script0
  have h := tls12_capture_exact (fun _ _ _ => none) hashes Cipher.Toy.prims Cipher.Toy.laws
    fl0 capture0.hne evs0 described0 times0 cv0 cevs0 cwf0 items0
    args0 (some keyText) rfl rfl [] ports0 rfl rfl capture0.hsp capture0.hcp p00 pkts0.tail fp0
    t0 (by decide) (by decide) rfl rfl rfl rfl .tls12 (by decide) (by unfold Negotiated; decide)
    ps0 hres a0 C01Capstone.Ex.args0 f0 [] (by rw [keyText_keys]; exact hfound) secrets0 hsec k0 gen0 cls0 hcls hmac hck hsk
    hsc hss hokc hoks hwr hlen wires0 causal0'
  rw [plain0.1, plain0.2] at h
  exact h
end TLX.Props.C01File.Ex
