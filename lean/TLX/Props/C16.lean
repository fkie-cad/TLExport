/-
C16 — QUIC packet numbers are reconstructed as RFC 9000 Appendix A.3 defines.
Property theorems only (helper lemmas are local and small here).
-/
import TLX.Quic.PktNum
import TLX.Generic
namespace TLX.Props.C16
open TLX.Quic.PktNum

theorem implUpdate_eq_max (a c : Nat) : implUpdate a c = max a c := by
  unfold implUpdate; split <;> omega

/-- The implementation's decode (with its `largest == 0` shortcut) equals RFC 9000 A.3 for every
    window `W ≥ 2`, every `largest` and every truncated value `< W`. -/
theorem impl_eq_rfc (W B largest trunc : Nat) (hW : 2 ≤ W) (ht : trunc < W) :
    implDecode W B largest trunc = rfcDecode W B largest trunc := by
  unfold implDecode
  split
  · rename_i h
    obtain ⟨h1, rfl⟩ := h
    unfold rfcDecode
    have : (0 + 1) % W = 1 := Nat.mod_eq_of_lt (by omega)
    simp only [this]
    split
    · omega
    · split <;> omega
  · rfl

/-- C16, first clause: for every largest-received packet number, every encoded length 1–4 and every
    truncated value, the reconstructed packet number is the one RFC 9000 A.3 defines. -/
theorem pn_decode_eq_rfc (n largest trunc : Nat) (hn : 1 ≤ n ∧ n ≤ 4) (ht : trunc < 2 ^ (8 * n)) :
    implDecode (2 ^ (8 * n)) (2 ^ 62) largest trunc = rfcDecode (2 ^ (8 * n)) (2 ^ 62) largest trunc :=
  impl_eq_rfc _ _ _ _
    (by have : 2 ^ 1 ≤ 2 ^ (8 * n) := Nat.pow_le_pow_right (by omega) (by omega); omega) ht

/-- The RFC's own guarantee, generic in the window: a packet number within half a window of
    `largest + 1` is recovered from its low bits. -/
theorem rfc_window (W B largest pn : Nat) (hW : 2 ≤ W) (hev : W % 2 = 0)
    (hlo : largest + 1 < pn + W / 2) (hhi : pn < largest + 1 + W / 2) (hpn : pn + W < B) :
    rfcDecode W B largest (pn % W) = pn := by
  -- the candidate is `expected` rounded down to a multiple of `W`, plus the low bits of `pn`: it is in the class
  -- of `pn` and less than `W` away from `expected`; adding or subtracting `W` stays in the class, and in each
  -- branch of A.3 the test taken puts the result within `W` of `pn`
  have hc : (largest + 1 - (largest + 1) % W + pn % W) % W = pn % W := by
    rw [Nat.sub_eq_of_eq_add (Nat.div_add_mod (largest + 1) W).symm, Nat.mul_add_mod, Nat.mod_mod]
  have lo : largest + 1 < largest + 1 - (largest + 1) % W + pn % W + W := by
    have := Nat.mod_lt (largest + 1) (show W > 0 by omega); omega
  have hi : largest + 1 - (largest + 1) % W + pn % W < largest + 1 + W := by
    have := Nat.mod_lt pn (show W > 0 by omega); omega
  simp only [rfcDecode]
  generalize largest + 1 - (largest + 1) % W + pn % W = c at hc lo hi ⊢
  split
  · exact eq_of_mod_eq_of_close (by rw [Nat.add_mod_right, hc]) (by omega)
  · split
    · have hm : (c - W) % W = pn % W := by
        rw [← hc, ← Nat.add_mod_right (c - W), Nat.sub_add_cancel (by omega)]
      exact eq_of_mod_eq_of_close hm (by omega)
    · exact eq_of_mod_eq_of_close hc (by omega)

private theorem pow8_even (n : Nat) (hn : 1 ≤ n) : 2 ≤ 2 ^ (8 * n) ∧ 2 ^ (8 * n) % 2 = 0 := by
  obtain ⟨k, hk⟩ : ∃ k, 8 * n = k + 1 := ⟨8 * n - 1, by omega⟩
  rw [hk, Nat.pow_succ]
  exact ⟨Nat.le_mul_of_pos_left 2 (Nat.pow_pos (by decide)), Nat.mul_mod_left _ _⟩

/-- C16, consequence used for the AEAD nonce: the implementation recovers every packet number that
    the sender was allowed to truncate to `n` bytes (RFC 9000 §17.1 window rule). -/
theorem pn_decode_window (n largest pn : Nat) (hn : 1 ≤ n ∧ n ≤ 4)
    (hlo : largest + 1 < pn + 2 ^ (8 * n) / 2) (hhi : pn < largest + 1 + 2 ^ (8 * n) / 2)
    (hpn : pn + 2 ^ (8 * n) < 2 ^ 62) :
    implDecode (2 ^ (8 * n)) (2 ^ 62) largest (pn % 2 ^ (8 * n)) = pn := by
  have hp := pow8_even n hn.1
  rw [pn_decode_eq_rfc n largest _ hn (Nat.mod_lt _ (by omega))]
  exact rfc_window _ _ _ _ hp.1 hp.2 hlo hhi hpn

/-- C16, "separately per packet-number space and direction": reconstruction and store for a packet (`PktNum.step`:
    `get_full_packet_number`, then `set_largest_packet_number`) touch only the table entry of its own (direction, space). -/
theorem pn_space_isolation (t : Table) (srv : Bool) (ty : PType) (n trunc : Nat)
    (srv' : Bool) (sp' : Space) (h : ¬ (srv' = srv ∧ sp' = ty.space)) :
    (step t srv ty n trunc).2.get srv' sp' = t.get srv' sp' := by
  simp [step, Table.set, h]

/-- The decode of a packet depends only on the table entry of its own (direction, space). -/
theorem pn_decode_reads_own_entry (t t' : Table) (srv : Bool) (ty : PType) (n trunc : Nat)
    (h : t.get srv ty.space = t'.get srv ty.space) :
    (step t srv ty n trunc).1 = (step t' srv ty n trunc).1 := by
  simp [step, h]

/-- The own entry becomes the maximum of the old entry and the decoded number (histories with gaps
    and reordering keep `largest` = the largest number decoded so far). -/
theorem pn_entry_is_max (t : Table) (srv : Bool) (ty : PType) (n trunc : Nat) :
    (step t srv ty n trunc).2.get srv ty.space =
      max (t.get srv ty.space) (step t srv ty n trunc).1 := by
  simp only [step, Table.set, implUpdate, and_self, if_true]
  split <;> omega

/-- 0-RTT and 1-RTT share a packet-number space (RFC 9000 §12.3), Initial and Handshake do not. -/
theorem spaces : PType.zeroRtt.space = PType.oneRtt.space ∧
    PType.initial.space ≠ PType.handshake.space ∧ PType.initial.space ≠ PType.oneRtt.space ∧
    PType.handshake.space ≠ PType.oneRtt.space := by decide

-- Non-vacuity: concrete inputs meeting the hypotheses, taking each branch of A.3
-- (RFC 9000 A.3's own example: largest 0xa82f30ea, 2-byte 0x9b32 decodes to 0xa82f9b32).
example : implDecode (2 ^ (8 * 2)) (2 ^ 62) 0xa82f30ea 0x9b32 = 0xa82f9b32 := by decide
example : implDecode (2 ^ (8 * 1)) (2 ^ 62) 255 1 = 257 := by decide          -- candidate + window
example : implDecode (2 ^ (8 * 1)) (2 ^ 62) 256 255 = 255 := by decide        -- candidate - window
example : (1 ≤ 2 ∧ 2 ≤ 4) ∧ 0x9b32 < 2 ^ (8 * 2) := by decide
example : 0xa82f30ea + 1 < 0xa82f9b32 + 2 ^ (8 * 2) / 2 ∧ 0xa82f9b32 < 0xa82f30ea + 1 + 2 ^ (8 * 2) / 2 := by decide

end TLX.Props.C16
