/-
Non-vacuity of `Props/C01All.lean`: ONE capture with everything at once.

  `tls13_all_instance`   TLS 1.3 (0x1301), the connection `Ex2.tFG` of `Props/C01Capstone2` — the server's flight
      EncryptedExtensions ‖ Certificate ‖ Finished cut into THREE protected records (inside the Certificate, at the start of
      the Finished) — captured over IPv6 where every segment carries a hop-by-hop options, a routing and a fragment header,
      with valid TCP checksums; the server's second handshake record is captured BEFORE its first (displaced segment) and the
      first is captured TWICE (retransmission); options `-a -c`;
      next to it in the same capture: an ARP request, a SECOND TLS connection (another client port, no extension headers,
      valid checksums; not in the key log — with `-a` its hello records are exported, in a block BEFORE ours), and a QUIC
      long-header datagram over IPv4 / UDP with a valid checksum (no keys: nothing exported).
      Every hypothesis of `tls13_capture_exact_all` by evaluation — `FlightsFirst` (packet order), `WiresDelivered`
      (`Delivers 1` with a duplicate), `OthersFitC` for the real other sessions (`Lemmas.C01Instance.conv_fits`) — except the
      IEEE-754 fact `hus`.
-/
import TLX.Props.C01All
import TLX.Props.C01FullEx
import TLX.Props.ExportDemux
set_option autoImplicit false
namespace TLX.Props.C01All.Ex
open TLX TLX.MainLoop TLX.Spec.Demux TLX.Dissect TLX.Export TLX.Props.C01File TLX.Props.C01File.Ex
open TLX.Spec.FrameBuild TLX.Spec.TlsCapture TLX.Spec.NssKeylog
open TLX.Cipher TLX.RecordLayer TLX.Spec.TlsSender TLX.Props.C01 TLX.Lemmas.Pipeline TLX.Spec.TlsConnection
open TLX.Lemmas.Capstone TLX.Lemmas.Capstone2 TLX.Props.C01Pipeline TLX.Spec.TlsFraming TLX.Props.C01Capstone
open TLX.Props.C01Capstone.Ex TLX.Props.C01Capstone.Ex2 TLX.Spec.TlsFragmented13
open TLX.Props.C01Pipeline.Ex2 TLX.Props.C01.Ex TLX.Props.C01File2 TLX.Props.C01File2.Ex
open TLX.Spec.KeySchedules TLX.Lemmas.C01Rfc TLX.Props.C09Found TLX.Lemmas.C01Full TLX.Props.C01Rfc.Ex TLX.Props.C01Full.Ex
open TLX.Lemmas.C01All TLX.Lemmas.ExportProps TLX.Props.ExportPropsQuic TLX.Props.C01Full TLX.Lemmas.C01Instance
open TLX.Spec.RfcSuite (SuiteSpec suiteOfCode cls12 snd12 snd13 ValidFor etmNegotiated labelClientRandom labelCHTS labelSHTS
  labelCTS0 labelSTS0)
open TLX.Spec.Rfc1071 (ocSum pseudoWords words)

/-- the second TLS connection: [2001:db8::1]:6666 ↔ [2001:db8::2]:443, no extension headers, valid checksums -/
def fl7 : Flow := ⟨true, ip6c, 6666, ip6s, 443⟩
def tcp7 (d : Bool) (seq : Nat) (pl : Bytes) : Tcp :=
  let t : Tcp := ⟨if d then 443 else 6666, if d then 6666 else 443, seq, 0, 0x18, 0, 8192, 0, 0, [], pl⟩
  { t with csum := csumFor (if d then ip6s else ip6c) (if d then ip6c else ip6s) t }
def frame7 (d : Bool) (seq : Nat) (pl : Bytes) : Spec.FrameBuild.Frame :=
  ⟨if d then cMac else sMac, if d then sMac else cMac,
   .v6 ⟨0, 5, 64, if d then ip6s else ip6c, if d then ip6c else ip6s, []⟩, .tcp (tcp7 d seq pl), []⟩
def ev7 (n : Nat) (d : Bool) (seq : Nat) (pl : Bytes) : CapEv := ⟨timeAt n, (frame7 d seq pl).encode, viewOf (frame7 d seq pl)⟩

theorem isSegX7 (d : Bool) (seq : Nat) (pl : Bytes) (hs : seq < 4294967296) (hp : pl.length < 60000) (hp0 : 0 < pl.length) :
    IsSegX fl7 d (frame7 d seq pl) (tcp7 d seq pl) := by
  cases d <;>
    simp [IsSegX, Frame.WF, Upper.WF, Tcp.WF, V6.WF, frame7, tcp7, encChain, Upper.encode, Upper.proto, Tcp.encode,
      Tcp.header, be2, be4, fl7, fragFirst, fragLast, cMac, sMac, ip6c, ip6s] <;> omega

theorem foreign7 (n : Nat) (d : Bool) (seq : Nat) (pl : Bytes) (hs : seq < 4294967296) (hp : pl.length < 60000)
    (hp0 : 0 < pl.length) : ForeignC fl6 true (ev7 n d seq pl) := by
  have hseg := isSegX7 d seq pl hs hp hp0
  refine ⟨⟨dissect_segX fl7 d _ _ hseg, ?_⟩, fun _ x hx => ⟨_, verdict_segX fl7 d _ _ hseg x hx⟩⟩
  intro tag _ _
  show sameFlow (refPkt fl6) (pktOf tag (viewOf (frame7 d seq pl))) = false
  rw [pktOf_segX fl7 d _ _ hseg tag]
  cases d <;> simp [sameFlow, refPkt, clientEp, serverEp, fl6, fl7]

/-- a QUIC long-header datagram (version 1, an 8-byte DCID) over IPv4 / UDP, 10.0.0.7:50000 → 10.0.0.2:443, with the UDP
    checksum a sender computes -/
def quicPl : Bytes := [0xC3, 0, 0, 0, 1, 8, 1, 2, 3, 4, 5, 6, 7, 8, 0, 0, 0x44, 0x00] ++ List.replicate 40 0x55
def udpCsum (src dst : Bytes) (u : Udp) : Nat :=
  0xFFFF - ocSum (pseudoWords false src dst .udp u.encode.length ++ words u.encode)
def udpQ : Udp := let u : Udp := ⟨50000, 443, 0, quicPl⟩; { u with csum := udpCsum [10, 0, 0, 7] [10, 0, 0, 2] u }
def frameQ : Spec.FrameBuild.Frame :=
  ⟨sMac, cMac, .v4 ⟨0, 1, true, false, 64, 0, [10, 0, 0, 7], [10, 0, 0, 2], []⟩, .udp udpQ, []⟩
def evQ (n : Nat) : CapEv := ⟨timeAt n, frameQ.encode, viewOf frameQ⟩

theorem foreignQ (n : Nat) : ForeignC fl6 true (evQ n) := by
  have hwf : frameQ.WF := by
    simp [Frame.WF, Upper.WF, Udp.WF, V4.WF, frameQ, udpQ, quicPl, Upper.encode, Udp.encode, be2, cMac, sMac]
  refine ⟨⟨?_, ?_⟩, ?_⟩
  · exact Props.C12Dissect.dissect_build_v4 frameQ _ rfl hwf
  · intro tag h
    exact absurd h (by simp [evQ, viewOf, frameQ, pktOf, Props.C12Dissect.transportOf])
  · intro _ x hx
    have hx' : x = ⟨false, frameQ.srcMac, frameQ.dstMac, [10, 0, 0, 7], [10, 0, 0, 2], 17, (Upper.udp udpQ).encode,
        Props.C12Dissect.transportOf (.udp udpQ)⟩ := by
      simp only [evQ, viewOf, frameQ] at hx
      exact (Dissected.ip.inj hx).symm
    subst hx'
    have : (match Ingest.verdict ⟨false, frameQ.srcMac, frameQ.dstMac, [10, 0, 0, 7], [10, 0, 0, 2], 17,
        (Upper.udp udpQ).encode, Props.C12Dissect.transportOf (.udp udpQ)⟩ with | .ok _ => true | .error _ => false) = true := by
      decide +kernel
    revert this
    cases Ingest.verdict _ with
    | ok v => intro _; exact ⟨v, rfl⟩
    | error e => intro h; cases h

/-- the datagram passes the checksum test and reaches the QUIC part of the loop -/
example : (match (classify (C01File.optsOf ⟨none, none, true, false, true⟩ ports0 []) (.frame (pktOfC true 3 (evQ 3).d)) :
    Class Keylog.Key) with | .quic .. => true | _ => false) = true := by decide +kernel

/-- the connection's segments behind the ClientHello: the ServerHello flight (ServerHello and dummy CCS in one segment), the
    client's CCS + Finished, then the server's SECOND handshake record before its FIRST, the first once more, the rest -/
def capAll : List (Bool × Bytes × Nat) :=
  [(true, uSG 0 ++ uSG 1, 0), (false, uCG 1 ++ uCG 2, (uCG 0).length),
   (true, uSG 3, (uSG 0).length + (uSG 1).length + (uSG 2).length),
   (true, uSG 2, (uSG 0).length + (uSG 1).length), (true, uSG 2, (uSG 0).length + (uSG 1).length),
   (true, uSG 4 ++ uSG 5, (uSG 0).length + (uSG 1).length + (uSG 2).length + (uSG 3).length)]

def chSeg : CEv :=
  .seg (timeAt 2) false (frame6 false (isnOf false % 4294967296) (uCG 0)) (tcp6 false (isnOf false % 4294967296) (uCG 0))

/-- ARP; the other connection's ClientHello; OUR ClientHello; the QUIC datagram; the other connection's ServerHello; the rest -/
def evsAll : List CEv :=
  [.foreign arp, .foreign (ev7 1 false 100 (rC 0)), chSeg, .foreign (evQ 3), .foreign (ev7 4 true 700 (rS 0))] ++
    segEvs6 5 capAll

def argsAC : Args := ⟨none, none, true, false, true⟩

def cevsAll : List Spec.Containers.Ev := (evsAll.map CEv.cap).map cevOf

def pktsAll : List Pkt := flowPkts fl6 0 evsAll
def pA0 : Pkt := ⟨.tcp, ⟨ip6c, 5555⟩, ⟨ip6s, 443⟩, uCG 0, true, 2⟩

def sessAll : Pipeline.Conn := sessionOf (evsAll.map CEv.cap) (optsOf argsAC ports0 []) pA0 pktsAll.tail

def chunksC : List Bytes := [uCG 0, uCG 1 ++ uCG 2]
def chunksS : List Bytes := [uSG 0 ++ uSG 1, uSG 2, uSG 3, uSG 4 ++ uSG 5]

/-- Everything the kernel computes about the capture `evsAll`, in ONE evaluation: it shares work inside a declaration only, and all of
    this goes through the same frames, checksums and records. The conjuncts stand in the order and form their users take them; the
    last is the run of the whole program on the capture. -/
theorem evsAll_eval :
    ((((rC 0).length < 60000 ∧ 0 < (rC 0).length) ∧ ((uCG 0).length < 60000 ∧
        CsumValid (frame6 false (isnOf false % 4294967296) (uCG 0)) (tcp6 false (isnOf false % 4294967296) (uCG 0))) ∧
        ((rS 0).length < 60000 ∧ 0 < (rS 0).length) ∧
        (∀ (x : Bool × Bytes × Nat), x ∈ capAll → x.2.1.length < 60000) ∧ csumsOk (segEvs6 5 capAll) = true) ∧
      ((flowPkts fl6 0 evsAll).head? = some pA0 ∧
        (∀ d, (capSegs d 0 evsAll).head?.map (·.seq) = some (isnOf d % 2 ^ 32))) ∧
      (((tFG.stream Cipher.Toy.prims Cipher.Toy.laws C01Capstone.Ex.cls13 x13 false).length ≤ 2 ^ 31 ∧ (∀ c ∈ chunksC, c ≠ [])) ∧
        ((tFG.stream Cipher.Toy.prims Cipher.Toy.laws C01Capstone.Ex.cls13 x13 true).length ≤ 2 ^ 31 ∧ (∀ c ∈ chunksS, c ≠ []))) ∧
      ((dirWires true (evsAll.take 5) = [] ∧ dirWires false ((evsAll.drop 5).take 1) = []) ∧
        ((∀ c ∈ [uCG 0], c ≠ []) ∧ [uCG 0].flatten = tFG.chRecord) ∧ (∀ c ∈ [uSG 0 ++ uSG 1], c ≠ []) ∧
        (WholeRecord tFG.chRecord ∧ (∀ r ∈ [uSG 0, uSG 1], WholeRecord r)) ∧
        (tFG.chRecord.length ≤ 2 ^ 31 ∧ [uSG 0, uSG 1].flatten.length ≤ 2 ^ 31)) ∧
      ((∀ c ∈ evsAll, c.cap.t.ticks - 1000 < 100 ∧ c.cap.t = timeAt (c.cap.t.ticks - 1000) ∧ c.cap.buf.length < 70000) ∧
        (optsOf argsAC ports0 []).ports.contains ((fl6.serverPort : Nat) : Int) = true ∧
        (optsOf argsAC ports0 []).ports.contains ((fl6.clientPort : Nat) : Int) = false)) ∧
    ((quicFrames (fun _ _ _ => none) hashes Cipher.Toy.prims (capInfo (evsAll.map CEv.cap))
        (optsOf argsAC ports0 []) (fileKeysOf (some (C09Found.fileText ls13)))
        (itemsFromC argsAC.checksumTest 0 (evsAll.map CEv.cap))).flatten = [] ∧
      (tlsConvs hashes Cipher.Toy.prims (capInfo (evsAll.map CEv.cap)) (optsOf argsAC ports0 [])
        (itemsFromC argsAC.checksumTest 0 (evsAll.map CEv.cap))).all (fun s =>
          fitsB hashes Cipher.Toy.prims (capInfo (evsAll.map CEv.cap))
            (keysOf (fileKeysOf (some (C09Found.fileText ls13))) (itemsFromC argsAC.checksumTest 0 (evsAll.map CEv.cap)))
            s.st) = true ∧
      ((tlsConvs hashes Cipher.Toy.prims (capInfo (evsAll.map CEv.cap)) (optsOf argsAC ports0 [])
        (itemsFromC argsAC.checksumTest 0 (evsAll.map CEv.cap))).map fun s => (s.st.client.port, s.st.pkts.map (·.tag))) =
          [(6666, [1, 4]), (5555, [2, 5, 6, 7, 8, 9, 10])]) := by
  obtain ⟨n1, n2, n3, n4, _⟩ := rfcLabels
  rw [fileKeys_wf ls13 ls13_wf, ls13, n1, n2, n3, n4]
  decide +kernel

theorem describedAll : DescribedX fl6 true evsAll := by
  obtain ⟨⟨c1, c2⟩, ⟨c3, c4⟩, ⟨c5, c6⟩, c7, c8⟩ := evsAll_eval.1.1
  intro ev hev
  simp only [evsAll, List.mem_append, List.mem_cons, List.mem_nil_iff, or_false] at hev
  rcases hev with (rfl | rfl | rfl | rfl | rfl) | hev
  · exact arp_foreignC fl6 true
  · exact foreign7 1 false 100 (rC 0) (by decide) c1 c2
  · exact ⟨isSegX_mk6 false _ (uCG 0) (Nat.mod_lt _ (by decide)) c3, fun _ _ => c4⟩
  · exact foreignQ 3
  · exact foreign7 4 true 700 (rS 0) (by decide) c5 c6
  · exact segEvs6_describedX capAll c7 5 c8 ev hev

theorem fpAll : flowPkts fl6 0 evsAll = pA0 :: pktsAll.tail := eq_head_cons_tail evsAll_eval.1.2.1.1

theorem first_seq (d : Bool) : ∀ s, (capSegs d 0 evsAll).head? = some s → s.seq = isnOf d % 2 ^ 32 := by
  intro s hs
  have := evsAll_eval.1.2.1.2 d
  rw [hs] at this
  exact Option.some.inj this

/-- the server's segments as captured: the cut `chunksS` with the second and third segment exchanged, and the second once
    more behind itself -/
def wiresS : List Spec.TlsFraming.Wire :=
  let l := segsOf (isnOf true) 0 chunksS
  let l' := l.take 1 ++ l.getD 2 (0, []) :: l.getD 1 (0, []) :: l.drop 3
  l'.take 3 ++ l'.getD 2 (0, []) :: l'.drop 3

/-- the client's direction in order; the server's: one segment displaced by one position (`Delivers 1`) and captured twice -/
theorem wiresAll : WiresDelivered evsAll (tFG.stream Cipher.Toy.prims Cipher.Toy.laws C01Capstone.Ex.cls13 x13) := by
  obtain ⟨⟨lenC, neC⟩, lenS, neS⟩ := evsAll_eval.1.2.2.1
  intro d
  cases d
  · refine ⟨⟨0, isnOf false, ?_, noEarly_of_head _ _ (first_seq false)⟩, lenC⟩
    rw [show dirWires false evsAll = segsOf (isnOf false) 0 chunksC by with_unfolding_all rfl]
    exact Delivers.cut _ ⟨neC, by with_unfolding_all rfl⟩
  · refine ⟨⟨1, isnOf true, ?_, noEarly_of_head _ _ (first_seq true)⟩, lenS⟩
    rw [show dirWires true evsAll = wiresS by with_unfolding_all rfl]
    exact delivers_dupAt (delivers_swapAt (Delivers.cut _ ⟨neS, by with_unfolding_all rfl⟩) (Nat.le_refl 1) 1
      (by decide) _) 2 (by decide) _

/-- packet order: everything up to the other connection's ServerHello holds no data segment of OUR server and delivers the
    ClientHello; the next packet is the server's first flight (ServerHello, dummy CCS), ending on a record boundary -/
theorem flightsAll : FlightsFirst evsAll tFG.chRecord [uSG 0, uSG 1] :=
  have ⟨⟨f1, f2⟩, ⟨f3, f4⟩, f5, ⟨f6, f7⟩, f8, f9⟩ := evsAll_eval.1.2.2.2.1
  { split := ⟨evsAll.take 5, (evsAll.drop 5).take 1, (evsAll.drop 5).drop 1,
      by rw [List.append_assoc, List.take_append_drop, List.take_append_drop],
      f1, f2,
      inOrder_of_cut (isnOf false) [uCG 0] f3 f4 (by with_unfolding_all rfl),
      inOrder_of_cut (isnOf true) [uSG 0 ++ uSG 1] f5 (by with_unfolding_all rfl)
        (by with_unfolding_all rfl)⟩
    wholeA := f6
    wholeB := f7
    lenA := f8
    lenB := f9
    neB := by decide }

theorem othersAll (hus : ∀ e ∈ evsAll.map CEv.cap, e.us < 2 ^ 64) (blk : List Pipeline.OutPkt) :
    OthersFitC (fun _ _ _ => none) hashes Cipher.Toy.prims argsAC (some (C09Found.fileText ls13)) (evsAll.map CEv.cap) blk := by
  intro out pre post hout hsplit x hx
  have hq := framesFrom_ok_quic (fun _ _ _ => none) hashes Cipher.Toy.prims (capInfo (evsAll.map CEv.cap)) freshState argsAC
    (fileKeysOf (some (C09Found.fileText ls13))) (itemsFromC argsAC.checksumTest 0 (evsAll.map CEv.cap))
    (optsOf argsAC ports0 []) rfl
  rw [hq] at hout
  cases hout
  -- the QUIC session exports nothing (no keys for it); every TLS conversation of the run (the other connection and ours)
  -- meets the range conditions
  obtain ⟨hQ, hT, -⟩ := evsAll_eval.2
  have hxo : x ∈ (tlsFrames hashes Cipher.Toy.prims (capInfo (evsAll.map CEv.cap)) (optsOf argsAC ports0 [])
      (fileKeysOf (some (C09Found.fileText ls13))) (itemsFromC argsAC.checksumTest 0 (evsAll.map CEv.cap))).flatten := by
    have : x ∈ pre ++ blk ++ post := by
      simp only [List.mem_append] at hx ⊢
      rcases hx with h | h
      · exact .inl (.inl h)
      · exact .inr h
    rw [← hsplit, hQ, List.append_nil] at this
    exact this
  obtain ⟨l, hl, hxl⟩ := List.mem_flatten.mp hxo
  unfold tlsFrames at hl
  obtain ⟨s, hs, rfl⟩ := List.mem_map.mp hl
  exact conv_fits hashes Cipher.Toy.prims _ _ s.st (List.all_eq_true.mp hT s hs) (capInfo_ts _ hus) x hxl

/-- the `-a` conversation: the client's stream is its hello record and the dummy ChangeCipherSpec record (its Finished is a
    protected record: nothing; it sends no application data); the server's its hello record, the dummy ChangeCipherSpec record
    and the sixteen bytes — the three records of the fragmented flight contribute nothing -/
example : expectF true Cipher.Toy.prims Cipher.Toy.laws C01Capstone.Ex.cls13 tFG x13 =
    (tFG.chRecord ++ [20, 3, 3, 0, 1, 1], tFG.shRecord ++ [20, 3, 3, 0, 1, 1] ++ k16) := by decide +kernel

theorem captureAll : CaptureFile fl6 evsAll argsAC cv0 cevsAll [] ports0 pA0 pktsAll.tail :=
  have hcap := capture_ok evsAll evsAll_eval.1.2.2.2.2.1
  ⟨⟨by decide, describedAll, evsAll_eval.1.2.2.2.2.2.1, evsAll_eval.1.2.2.2.2.2.2, fpAll⟩, hcap.2.2, hcap.1, hcap.2.1, rfl, rfl⟩

/-- **Non-vacuity of `tls13_capture_exact_all`.** -/
theorem tls13_all_instance (hus : ∀ e ∈ evsAll.map CEv.cap, e.us < 2 ^ 64) :
    ∃ f, exportFile (fun _ _ _ => none) hashes Cipher.Toy.prims argsAC cv0.isLegacy (some (C09Found.fileText ls13))
        (Spec.Containers.encode cv0 cevsAll) = .file f ∧
      Exact f sessAll (tFG.chRecord ++ [20, 3, 3, 0, 1, 1]) (tFG.shRecord ++ [20, 3, 3, 0, 1, 1] ++ k16) := by
  have R : Rfc13 hashes ls13 tFG.ch tFG.sh sp13 C01Capstone.Ex.cls13 chts shts cats sats := rfc_t13
  have S := captureAll
  have hwr : ∀ d, ∀ r ∈ tFG.records Cipher.Toy.prims Cipher.Toy.laws C01Capstone.Ex.cls13
      (snd13 hashes sp13 chts shts cats sats) d, WholeRecord r := by
    rw [snd13_0]; decide +kernel
  have hwires : WiresDelivered evsAll (tFG.stream Cipher.Toy.prims Cipher.Toy.laws C01Capstone.Ex.cls13
      (snd13 hashes sp13 chts shts cats sats)) := by rw [snd13_0]; exact wiresAll
  have hexp : expectF argsAC.metadata Cipher.Toy.prims Cipher.Toy.laws C01Capstone.Ex.cls13 tFG
      (snd13 hashes sp13 chts shts cats sats) =
        (tFG.chRecord ++ [20, 3, 3, 0, 1, 1], tFG.shRecord ++ [20, 3, 3, 0, 1, 1] ++ k16) := by
    rw [snd13_0]; decide +kernel
  obtain ⟨frames, hconn, hre⟩ := tls13_connection_all hashes Cipher.Toy.prims Cipher.Toy.laws
    (capInfo (evsAll.map CEv.cap)) sessAll tFG (by decide) (by decide) rfl rfl rfl rfl
    (by unfold Negotiated; decide) R conformFG.1 conformFG.2 (by decide +kernel)
    (S.released _ hwr hwires) (causal13_of_packet_order _ _ tFG.chRecord [uSG 0, uSG 1] (S.firstFlights _ _ flightsAll))
  have h := tls13_capture_exact_all (fun _ _ _ => none) hashes hashes_lawful Cipher.Toy.prims Cipher.Toy.laws
    fl6 S.hne evsAll argsAC S.hdesc S.hnot1 cv0 cevsAll S.hcwf S.hitems ls13 ls13_wf
    [] ports0 S.hpm S.hports S.hsp S.hcp pA0 pktsAll.tail S.hfp
    tFG (by decide) (by decide) rfl rfl rfl rfl (by unfold Negotiated; decide)
    R.haccept sp13 R.hsuite C01Capstone.Ex.cls13 R.hcls
    chts shts cats sats R.hl1 R.hl2 R.hl3 R.hl4 R.ho1 R.ho2 R.ho3 R.ho4 conformFG.1 conformFG.2 hwr (by decide +kernel)
    hwires [uSG 0, uSG 1] flightsAll
    (by decide) (by decide) (by intro kv hkv; cases hkv) (by rw [hexp]; decide +kernel)
    (recordsFit_of_total ⟨frames, hconn, hre.trans (congrArg some hexp)⟩ (by decide +kernel)) hus
    (fun blk _ => othersAll hus blk)
  rw [hexp] at h
  exact h

/-- the other TLS connection's block comes first in the output (its session is created first) and is not empty: with `-a`
    its two hello records are exported -/
example : ((tlsConvs hashes Cipher.Toy.prims (capInfo (evsAll.map CEv.cap)) (optsOf argsAC ports0 [])
    (itemsFromC true 0 (evsAll.map CEv.cap))).map fun s => (s.st.client.port, s.st.pkts.map (·.tag))) =
      [(6666, [1, 4]), (5555, [2, 5, 6, 7, 8, 9, 10])] := evsAll_eval.2.2.2

end TLX.Props.C01All.Ex
