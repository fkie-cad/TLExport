/-
C01 WITH HYPOTHESES IN RFC TERMS ONLY.

`Props/C01File2.tls12_capture_exact_text` / `tls13_capture_exact_text` take tool-side facts as hypotheses: what the
tool's suite table resolves the code point to (`hres`, `hargs`), what its key-log lookup returns and hands to the key
schedule (`hfound`, `hsec`), what its key schedule computes (`hgen`, `hk`), which decrypt routine it dispatches to (`hcls`),
and that the keys fit the primitives (`KeyMatOk`) — and the sender is then DEFINED to use those keys.  Here these facts
are DERIVED, and the sender is the RFCs' sender:

  C14  `resolve_sound_complete` + `Lemmas/C01RfcTable.table_rfc_ok` (kernel evaluation over the REGENERATED table): a code
       point the table accepts resolves to what its IANA name (`Spec.Iana`) denotes (`Spec.denote`), and `generate_keys`
       reads exactly that suite (`Spec.RfcSuite.SuiteSpec`: bulk cipher, key length, hash, tag length) from it
  C15  `tls13_installed_eq_rfc`, `installed_eq_schedule`: what `generate_keys` installs = the RFC schedules of
       `Spec.KeySchedules` (HKDF-Expand-Label "key"/"iv" with the suite's hash; the key block of the version's PRF,
       partitioned per RFC 5246 §6.3)
  C09  `C09Found`: the TEXT of the key-log file ⇒ what `find_session_secrets` returns

  `tls13_capture_exact_rfc`   every code point the table accepts whose IANA name denotes an AEAD suite (RFC 8446 B.4);
      sender keys/IVs = RFC 8446 §7.3 from the four traffic secrets (`Spec.RfcSuite.snd13`); the key-log FILE has the four
      NSS lines for the connection's client random (anywhere, any hex case, LF / CRLF, between any other lines)
  `tls12_capture_exact_rfc`   SSL 3.0, TLS 1.0, 1.1, 1.2 and every code point the table accepts, valid for the version
      (`ValidFor`: AEAD and SHA-2-MAC suites in TLS 1.2 only), every cipher class incl. encrypt-then-MAC (RFC 7366);
      sender keys/IVs = the RFC key block of the 48-byte master secret (`Spec.RfcSuite.snd12`); the key-log FILE has the
      `CLIENT_RANDOM <client random> <master secret>` line

No hypothesis mentions `CipherSuite.resolve`'s RESULT, `Pipeline.suiteArgs`, `secretsOf`, `KeySchedule.generateKeys`,
`classOf` or `KeyMatOk`.  What remains about the suite: `CipherSuite.resolve cs ≠ none` (the tool supports the code point —
C14 shows this is membership in its table), and `suiteOfCode cs = some sp` (naming the suite's parameters; it always has a
solution then: `suite_exists`).  What remains about the hashes: `H.Lawful` (output lengths; HKDF-Expand returns the length
asked for) and, for SSL 3.0 only, MD5 = 16 and SHA-1 = 20 bytes (the tool knows ten salts 'A' … 'JJJJJJJJJJ').
What remains about the key log (`OnlySecret`): the file does not hold a DIFFERENT secret under the same label and client
random — the tool takes the last such line for TLS 1.3 and the first for TLS ≤ 1.2, so with two different secrets one of the
two conventions decrypts and the other does not; NSS writes each secret once.
The `RSA <…> <premaster>` variant: an NSS `RSA` line carries the first 8 bytes of the ENCRYPTED premaster secret, not the
client random, so no such line is a secret line of `C09Found` for the connection (`Lemmas.Keylog.rsa_not_nss`); the tool's
`RSA` branch (C15 `installed_eq_schedule_premaster`) is reachable only through a line `RSA <client random> <premaster>`, which
no TLS library writes.  Not stated here.
-/
import TLX.Props.C01RfcConn
import TLX.Props.C01File2
set_option autoImplicit false
namespace TLX.Props.C01Rfc
open TLX TLX.MainLoop TLX.OutBytes TLX.Export TLX.Props.C01File TLX.Lemmas.BuildBounds TLX.Props.C01File2
open TLX.Lemmas.Pipeline TLX.Props.C01Pipeline
open TLX.Spec.Demux TLX.Lemmas.MainLoop TLX.Dissect TLX.Spec.FrameBuild TLX.Spec.TlsCapture TLX.Props.C12Dissect
open TLX.Cipher TLX.RecordLayer TLX.Spec.TlsSender TLX.Props.C01 TLX.Spec.TlsConnection
open TLX.Lemmas.Capstone TLX.Spec.TlsFraming TLX.Props.C01Capstone
open TLX.Spec.RfcSuite TLX.Spec.KeySchedules TLX.Lemmas.C01Rfc

/-- a code point the tool's table accepts names a suite (C14: the parameters are what the IANA name denotes) -/
theorem suite_exists (cs : Nat) (h : CipherSuite.resolve cs ≠ none) : ∃ sp, suiteOfCode cs = some sp := by
  obtain ⟨_, sp, _, h2, _, _, _⟩ := resolve_rfc cs h
  exact ⟨sp, h2⟩

/-- a TLS 1.3 code point (0x13xx) the table accepts names an AEAD suite: `hcls` of `tls13_capture_exact_rfc` has a solution -/
theorem suite13_class (cs : Nat) (h : CipherSuite.resolve cs ≠ none) (h13 : cs / 256 = 0x13) (sp : SuiteSpec)
    (hs : suiteOfCode cs = some sp) : ∃ cls, cls13 sp = some cls := by
  obtain ⟨_, sp', _, h2, _, _, h3⟩ := resolve_rfc cs h
  rw [hs] at h2; cases h2
  exact h3 h13

/-- a code point the table accepts, valid for the version (below TLS 1.3), has a record protection: `hcls` of
    `tls12_capture_exact_rfc` has a solution, with and without encrypt-then-MAC -/
theorem suite12_class (cs : Nat) (h : CipherSuite.resolve cs ≠ none) (sp : SuiteSpec) (hs : suiteOfCode cs = some sp)
    (pv : ProtocolVersion) (hv : ValidFor sp pv) (etm : Bool) : ∃ cls, cls12 pv etm sp = some cls := by
  obtain ⟨_, sp', _, h2, hwf, _, _⟩ := resolve_rfc cs h
  rw [hs] at h2; cases h2
  exact cls12_exists pv etm sp hwf hv

/-- **C01, TLS 1.3, from file to file, hypotheses in RFC terms.**  For every code point `cs` the tool's table accepts whose
    IANA name denotes an AEAD suite `sp` (C14), for all four traffic secrets, hash primitives (`H.Lawful`) and cipher
    primitives (`SealLaws`): a sender that encodes its hellos per RFC 8446 §4.1, derives its handshake and application
    traffic keys and IVs per §7.3 with the suite's hash (`snd13`) and protects its records per §5 (`t.records` / `t.stream`),
    captured into a pcap/pcapng file, and a key-log file whose text has the four NSS lines for the connection's client random
    ⇒ the run writes a file that `Exact`ly contains the conversation. -/
theorem tls13_capture_exact_rfc (mask : Quic.Dissect.MaskFn) (H : Crypto.Prims) (hH : H.Lawful) (P : Prims) (L : SealLaws P)
    -- the capture file: bytes written by the independent encoder in ANY container variant, holding the described packets
    (fl : Flow) (hne : clientEp fl ≠ serverEp fl) (evs : List CEv) (hdesc : Described fl evs)
    (hnot1 : ∀ e ∈ evs.map CEv.cap, Ingest.isMinusOne e.t = false)
    (cv : Spec.Containers.Variant) (cevs : List Spec.Containers.Ev) (hcwf : cv.WF cevs)
    (hitems : cevs.filterMap (Spec.Containers.scale cv) = (evs.map CEv.cap).map CapEv.item)
    -- the options: no `-c`, no `-a`; the server port is a server port, the client port is not
    (args : Args) (ls : List (C09Found.FLine × Bool)) (hls : ∀ x ∈ ls, x.1.WF)
    (hnoc : args.checksumTest = false) (hmeta : args.metadata = false)
    (pm : List (Int × Int)) (ports : List Int)
    (hpm : Options.getPortMap Options.Src.bare args.mArg = .ok pm)
    (hports : Options.serverPorts Options.Src.builtin Options.Src.pDefault args.pArg = .ok ports)
    (hsp : ports.contains (fl.serverPort : Int) = true) (hcp : ports.contains (fl.clientPort : Int) = false)
    (p0 : Pkt) (rest : List Pkt) (hfp : flowPkts fl 0 evs = p0 :: rest)
    -- the connection as sent: hellos per RFC 8446 §4.1
    (t : Transcript) (hch : t.ch.WellFormed) (hsh : t.sh.WellFormed) (hrc : t.rvC.length = 2) (hrs : t.rvS.length = 2)
    (hv : t.ver.length = 2) (hcomp : t.sh.compressionMethod = 0) (hneg : Negotiated t.rvS t.sh .tls13)
    -- the negotiated suite: a code point the tool supports; `sp` is what its IANA name denotes; an AEAD suite
    (haccept : CipherSuite.resolve (Bytes.beNat t.sh.cipherSuite) ≠ none)
    (sp : SuiteSpec) (hsuite : suiteOfCode (Bytes.beNat t.sh.cipherSuite) = some sp)
    (cls : CipherClass) (hcls : cls13 sp = some cls)
    -- the four traffic secrets of the connection, and their lines in the key-log file
    (chts shts cats sats : Bytes)
    (hl1 : HasLine ls labelCHTS (Pipeline.natsOfBytes t.ch.random) (Pipeline.natsOfBytes chts))
    (hl2 : HasLine ls labelSHTS (Pipeline.natsOfBytes t.ch.random) (Pipeline.natsOfBytes shts))
    (hl3 : HasLine ls labelCTS0 (Pipeline.natsOfBytes t.ch.random) (Pipeline.natsOfBytes cats))
    (hl4 : HasLine ls labelSTS0 (Pipeline.natsOfBytes t.ch.random) (Pipeline.natsOfBytes sats))
    (ho1 : OnlySecret ls labelCHTS (Pipeline.natsOfBytes t.ch.random) (Pipeline.natsOfBytes chts))
    (ho2 : OnlySecret ls labelSHTS (Pipeline.natsOfBytes t.ch.random) (Pipeline.natsOfBytes shts))
    (ho3 : OnlySecret ls labelCTS0 (Pipeline.natsOfBytes t.ch.random) (Pipeline.natsOfBytes cats))
    (ho4 : OnlySecret ls labelSTS0 (Pipeline.natsOfBytes t.ch.random) (Pipeline.natsOfBytes sats))
    -- what follows the hellos: RFC 8446 records, protected with the keys of §7.3
    (hsc : Script13 t.cEvs) (hss : Script13 t.sEvs)
    (hokc : ∀ e ∈ t.cEvs, EvOk1 cls (sp.hash.suite H).outLen e)
    (hoks : ∀ e ∈ t.sEvs, EvOk1 cls (sp.hash.suite H).outLen e)
    (hwr : ∀ d, ∀ r ∈ t.records P L cls (snd13 H sp chts shts cats sats) d, WholeRecord r)
    (hlen : budget13 t ≤ seqLimit)
    -- the capture of the connection, sender side; causality on the released records as in the connection capstone
    (hwires : WiresInOrder evs (t.stream P L cls (snd13 H sp chts shts cats sats)))
    (hcausal : Causal13 (connRecs (capInfo (evs.map CEv.cap)) (sessionOf (evs.map CEv.cap) (optsOf args ports pm) p0 rest)))
    -- what the write loop needs (each CAN fail on the real tool: see the header of `Props/C01File2`)
    (hcport : fl.clientPort < 65536) (hsport : fl.serverPort < 65536) (hpmv : ∀ kv ∈ pm, kv.2.toNat < 65536)
    (hbytes : (Spec.TlsConnection.plainOf t.cEvs).length + (Spec.TlsConnection.plainOf t.sEvs).length + 1 < 2 ^ 32)
    (hrec : RecordsFit H P (capInfo (evs.map CEv.cap)) (sessionOf (evs.map CEv.cap) (optsOf args ports pm) p0 rest)
      ((fileKeysOf (some (C09Found.fileText ls))).getD []))
    (hus : ∀ e ∈ evs.map CEv.cap, e.us < 2 ^ 64)
    (hothers : ∀ blk, Pipeline.connOut H P (capInfo (evs.map CEv.cap))
        (sessionOf (evs.map CEv.cap) (optsOf args ports pm) p0 rest) ((fileKeysOf (some (C09Found.fileText ls))).getD []) = some blk →
      OthersFit mask H P args (some (C09Found.fileText ls)) (evs.map CEv.cap) blk) :
    ∃ f, exportFile mask H P args cv.isLegacy (some (C09Found.fileText ls)) (Spec.Containers.encode cv cevs) = .file f ∧
      Exact f (sessionOf (evs.map CEv.cap) (optsOf args ports pm) p0 rest)
        (Spec.TlsConnection.plainOf t.cEvs) (Spec.TlsConnection.plainOf t.sEvs) := by
  have S : CaptureFile fl evs args cv cevs pm ports p0 rest :=
    ⟨.of_described hne hdesc hnoc hsp hcp hfp, hnot1, hcwf, hitems, hpm, hports⟩
  have hconn := C01Full.tls13_connection_full H P L _ _ t hch hsh hrc hrs hv hcomp hneg
    ⟨hH, hls, haccept, hsuite, hcls, hl1, hl2, hl3, hl4, ho1, ho2, ho3, ho4⟩ hsc hss hokc hoks hlen
    (S.released _ hwr (Lemmas.C01All.wiresDelivered_of_inOrder _ _ hwires)) hcausal
  -- without `-a` the conversation is the application data
  rw [show (sessionOf (evs.map CEv.cap) (optsOf args ports pm) p0 rest).opts.metadata = false from hmeta] at hconn
  exact S.exact mask H P _ (Spec.TlsConnection.plainOf t.cEvs, Spec.TlsConnection.plainOf t.sEvs) hconn
    ⟨hcport, hsport, hpmv, hbytes, hrec, hus, fun blk hb => (othersFitC_iff_noc mask H P args hnoc _ _ blk).mpr (hothers blk hb)⟩

/-- **C01, SSL 3.0 – TLS 1.2, from file to file, hypotheses in RFC terms.**  For every protocol version `pv` below TLS 1.3,
    every code point `cs` the tool's table accepts whose suite `sp` (what its IANA name denotes, C14) is valid for the
    version, with or without encrypt-then-MAC (RFC 7366), for every 48-byte master secret, hash primitives (`H.Lawful`) and
    cipher primitives (`SealLaws`): a sender that encodes its hellos per RFC, takes its write keys and IVs from the version's
    key block — RFC 6101 §6.2.2 / RFC 2246 §6.3 / RFC 5246 §6.3 — partitioned into MAC keys, keys and IVs of the suite's
    lengths (`snd12`), and protects its records per RFC (`t.records` / `t.stream`), captured into a pcap/pcapng file, and a
    key-log file whose text has the line `CLIENT_RANDOM <client random> <master secret>`
    ⇒ the run writes a file that `Exact`ly contains the conversation. -/
theorem tls12_capture_exact_rfc (mask : Quic.Dissect.MaskFn) (H : Crypto.Prims) (hH : H.Lawful) (P : Prims) (L : SealLaws P)
    -- the capture file: bytes written by the independent encoder in ANY container variant, holding the described packets
    (fl : Flow) (hne : clientEp fl ≠ serverEp fl) (evs : List CEv) (hdesc : Described fl evs)
    (hnot1 : ∀ e ∈ evs.map CEv.cap, Ingest.isMinusOne e.t = false)
    (cv : Spec.Containers.Variant) (cevs : List Spec.Containers.Ev) (hcwf : cv.WF cevs)
    (hitems : cevs.filterMap (Spec.Containers.scale cv) = (evs.map CEv.cap).map CapEv.item)
    -- the options: no `-c`, no `-a`; the server port is a server port, the client port is not
    (args : Args) (ls : List (C09Found.FLine × Bool)) (hls : ∀ x ∈ ls, x.1.WF)
    (hnoc : args.checksumTest = false) (hmeta : args.metadata = false)
    (pm : List (Int × Int)) (ports : List Int)
    (hpm : Options.getPortMap Options.Src.bare args.mArg = .ok pm)
    (hports : Options.serverPorts Options.Src.builtin Options.Src.pDefault args.pArg = .ok ports)
    (hsp : ports.contains (fl.serverPort : Int) = true) (hcp : ports.contains (fl.clientPort : Int) = false)
    (p0 : Pkt) (rest : List Pkt) (hfp : flowPkts fl 0 evs = p0 :: rest)
    -- the connection as sent: hellos per RFC; the negotiated version
    (t : Transcript) (hch : t.ch.WellFormed) (hsh : t.sh.WellFormed) (hrc : t.rvC.length = 2) (hrs : t.rvS.length = 2)
    (hv : t.ver.length = 2) (hcomp : t.sh.compressionMethod = 0)
    (pv : ProtocolVersion) (hneg : Negotiated t.rvS t.sh (sessVer pv))
    -- SSL 3.0 only: the real digest sizes of MD5 and SHA-1 (the tool knows ten of RFC 6101's salts)
    (hsz : pv = .ssl30 → H.md5.outLen = 16 ∧ H.sha1.outLen = 20)
    -- the negotiated suite: a code point the tool supports; `sp` is what its IANA name denotes; valid for the version
    (haccept : CipherSuite.resolve (Bytes.beNat t.sh.cipherSuite) ≠ none)
    (sp : SuiteSpec) (hsuite : suiteOfCode (Bytes.beNat t.sh.cipherSuite) = some sp) (hvalid : ValidFor sp pv)
    (cls : CipherClass) (hcls : cls12 pv (etmNegotiated t.sh) sp = some cls)
    -- the master secret of the connection, and its line in the key-log file
    (ms : Bytes) (hms : ms.length = 48)
    (hl1 : HasLine ls labelClientRandom (Pipeline.natsOfBytes t.ch.random) (Pipeline.natsOfBytes ms))
    (ho1 : OnlySecret ls labelClientRandom (Pipeline.natsOfBytes t.ch.random) (Pipeline.natsOfBytes ms))
    -- what follows the hellos: clear handshake records, ChangeCipherSpec, records protected with the keys of the key block
    (hsc : Script12 t.cEvs) (hss : Script12 t.sEvs)
    (hokc : ∀ e ∈ t.cEvs, EvOk1 cls (sp.hash.suite H).outLen e)
    (hoks : ∀ e ∈ t.sEvs, EvOk1 cls (sp.hash.suite H).outLen e)
    (hwr : ∀ d, ∀ r ∈ t.records P L cls (snd12 H pv sp ms t.ch.random t.sh.random) d, WholeRecord r)
    (hlen : t.cEvs.length + t.sEvs.length ≤ seqLimit)
    -- the capture of the connection, sender side; causality on the released records as in the connection capstone
    (hwires : WiresInOrder evs (t.stream P L cls (snd12 H pv sp ms t.ch.random t.sh.random)))
    (hcausal : Causal12 (connRecs (capInfo (evs.map CEv.cap)) (sessionOf (evs.map CEv.cap) (optsOf args ports pm) p0 rest)))
    -- what the write loop needs (each CAN fail on the real tool: see the header of `Props/C01File2`)
    (hcport : fl.clientPort < 65536) (hsport : fl.serverPort < 65536) (hpmv : ∀ kv ∈ pm, kv.2.toNat < 65536)
    (hbytes : (Spec.TlsConnection.plainOf t.cEvs).length + (Spec.TlsConnection.plainOf t.sEvs).length + 1 < 2 ^ 32)
    (hrec : RecordsFit H P (capInfo (evs.map CEv.cap)) (sessionOf (evs.map CEv.cap) (optsOf args ports pm) p0 rest)
      ((fileKeysOf (some (C09Found.fileText ls))).getD []))
    (hus : ∀ e ∈ evs.map CEv.cap, e.us < 2 ^ 64)
    (hothers : ∀ blk, Pipeline.connOut H P (capInfo (evs.map CEv.cap))
        (sessionOf (evs.map CEv.cap) (optsOf args ports pm) p0 rest) ((fileKeysOf (some (C09Found.fileText ls))).getD []) = some blk →
      OthersFit mask H P args (some (C09Found.fileText ls)) (evs.map CEv.cap) blk) :
    ∃ f, exportFile mask H P args cv.isLegacy (some (C09Found.fileText ls)) (Spec.Containers.encode cv cevs) = .file f ∧
      Exact f (sessionOf (evs.map CEv.cap) (optsOf args ports pm) p0 rest)
        (Spec.TlsConnection.plainOf t.cEvs) (Spec.TlsConnection.plainOf t.sEvs) := by
  have S : CaptureFile fl evs args cv cevs pm ports p0 rest :=
    ⟨.of_described hne hdesc hnoc hsp hcp hfp, hnot1, hcwf, hitems, hpm, hports⟩
  have hconn := C01All.tls12_connection_all H P L _ _ t hch hsh hrc hrs hv hcomp pv hneg
    ⟨hH, hls, hsz, haccept, hsuite, hvalid, hcls, hms, hl1, ho1⟩ hsc hss hokc hoks hlen
    (S.released _ hwr (Lemmas.C01All.wiresDelivered_of_inOrder _ _ hwires)) (fun _ => hcausal)
    (fun h => nomatch hmeta.symm.trans h)
  -- without `-a` the conversation is the application data
  rw [show (sessionOf (evs.map CEv.cap) (optsOf args ports pm) p0 rest).opts.metadata = false from hmeta] at hconn
  exact S.exact mask H P _ (Spec.TlsConnection.plainOf t.cEvs, Spec.TlsConnection.plainOf t.sEvs) hconn
    ⟨hcport, hsport, hpmv, hbytes, hrec, hus, fun blk hb => (othersFitC_iff_noc mask H P args hnoc _ _ blk).mpr (hothers blk hb)⟩

end TLX.Props.C01Rfc
