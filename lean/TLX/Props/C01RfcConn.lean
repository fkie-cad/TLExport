/-
C01 FOR A WHOLE CONNECTION WITH HYPOTHESES IN RFC TERMS: the connection level of `Props/C01Rfc`, `Props/C01Full` and
`Props/C01All`. The suite is what the code point's IANA name denotes, the key-log FILE has the connection's lines, the sender
protects with the keys of the RFC key schedules (`Spec.RfcSuite.snd12` / `snd13`); `Lemmas/C01Rfc.installs12_rfc/13_rfc` derive
the tool side (`Installs`) of `Props/C01Capstone.tls12_plain_of_release`, `tls12_of_release`, `tls13_of_release`. Each theorem
starts from what reassembly releases (`hproj`; `Lemmas/C01Segs.Capture.released` gives it for a described capture) and the
causality of the release order, and concludes `Props.C01File.SessExact` written out; nothing here looks at the capture file.
`_full` / `_all` and the namespaces `TLX.Props.C01Full`, `TLX.Props.C01All` are those of the file-level theorems that use them:
`…_capture_exact_full` (`Props/C01Full`), `…_capture_exact_all` (`Props/C01All`).
-/
import TLX.Lemmas.C01Rfc
import TLX.Props.C01Capstone2
set_option autoImplicit false
namespace TLX.Props.C01Full
open TLX TLX.MainLoop TLX.Export
open TLX.Lemmas.Pipeline TLX.Props.C01Pipeline
open TLX.Cipher TLX.RecordLayer TLX.Spec.TlsSender TLX.Props.C01 TLX.Spec.TlsConnection
open TLX.Lemmas.Capstone TLX.Lemmas.Capstone2 TLX.Spec.TlsFraming TLX.Props.C01Capstone
open TLX.Spec.RfcSuite TLX.Spec.KeySchedules TLX.Lemmas.C01Rfc TLX.Lemmas.C01All TLX.Spec.TlsFragmented13

/-- the two payload streams of the exported conversation, TLS 1.3: without `-a` the application data each endpoint sent;
    with `-a` each direction's records as `-a` exports them -/
def expect13 (m : Bool) (P : Prims) (L : SealLaws P) (cls : CipherClass) (t : Transcript) (x : Snd) : Bytes × Bytes :=
  if m then (t.chRecord ++ metaStream13 P L cls t.ver x.c t.cEvs, t.shRecord ++ metaStream13 P L cls t.ver x.s t.sEvs)
  else (Spec.TlsConnection.plainOf t.cEvs, Spec.TlsConnection.plainOf t.sEvs)

/-- … SSL 3.0 – TLS 1.2 -/
def expect12 (m : Bool) (P : Prims) (L : SealLaws P) (cls : CipherClass) (t : Transcript) (x : Snd) : Bytes × Bytes :=
  if m then (t.chRecord ++ metaStream12 P L cls t.ver x.c t.cEvs, t.shRecord ++ metaStream12 P L cls t.ver x.s t.sEvs)
  else (Spec.TlsConnection.plainOf t.cEvs, Spec.TlsConnection.plainOf t.sEvs)

/-- **C01 for a whole TLS 1.3 connection, whole handshake messages per record, `-a` on or off, RFC terms** (the connection
    level of `tls13_capture_exact_rfc` and `tls13_capture_exact_full`) -/
theorem tls13_connection_full (H : Crypto.Prims) (P : Prims) (L : SealLaws P)
    {ls : List (C09Found.FLine × Bool)} (info : Nat → Pipeline.Info) (c : Pipeline.Conn)
    (t : Transcript) (hch : t.ch.WellFormed) (hsh : t.sh.WellFormed) (hrc : t.rvC.length = 2) (hrs : t.rvS.length = 2)
    (hv : t.ver.length = 2) (hcomp : t.sh.compressionMethod = 0) (hneg : Negotiated t.rvS t.sh .tls13)
    {sp : SuiteSpec} {cls : CipherClass} {chts shts cats sats : Bytes}
    (R : Rfc13 H ls t.ch t.sh sp cls chts shts cats sats)
    (hsc : Script13 t.cEvs) (hss : Script13 t.sEvs)
    (hokc : ∀ e ∈ t.cEvs, EvOk1 cls (sp.hash.suite H).outLen e)
    (hoks : ∀ e ∈ t.sEvs, EvOk1 cls (sp.hash.suite H).outLen e)
    (hlen : budget13 t ≤ seqLimit)
    (hproj : ∀ d, ((connRecs info c).filter fun q => q.2 == d).map (·.1.raw) = t.records P L cls (snd13 H sp chts shts cats sats) d)
    (hcausal : Causal13 (connRecs info c)) :
    ∃ frames, Pipeline.connOut H P info c ((fileKeysOf (some (C09Found.fileText ls))).getD [])
        = some (frames.map (Pipeline.addressed c.opts c)) ∧
      Spec.reassemble frames = some (expect13 c.opts.metadata P L cls t (snd13 H sp chts shts cats sats)) := by
  obtain ⟨frames, g1, g2, _⟩ := tls13_whole_of_release H P L _ info c _ rfl t hch hsh hrc hrs hv hcomp hneg cls _
    (snd13 H sp chts shts cats sats) (installs13_rfc R P hsh) hsc hss hokc hoks
    (by simpa [snd13, SDir.init] using hlen) hproj hcausal
  exact ⟨frames, g1, g2⟩

end TLX.Props.C01Full

namespace TLX.Props.C01All
open TLX TLX.MainLoop TLX.Export
open TLX.Lemmas.Pipeline TLX.Props.C01Pipeline
open TLX.Cipher TLX.RecordLayer TLX.Spec.TlsSender TLX.Props.C01 TLX.Spec.TlsConnection TLX.Spec.TlsFragmented13
open TLX.Lemmas.Capstone TLX.Lemmas.Capstone2 TLX.Spec.TlsFraming TLX.Props.C01Capstone
open TLX.Spec.RfcSuite TLX.Spec.KeySchedules TLX.Lemmas.C01Rfc TLX.Lemmas.C01All TLX.Props.C01Full

/-- the two payload streams of the exported conversation, TLS 1.3 with fragmented handshake messages: without `-a` the
    application data each endpoint sent; with `-a` its hello record, then per record: dummy ChangeCipherSpec records verbatim,
    protected handshake records nothing, application data as plaintext -/
def expectF (m : Bool) (P : Prims) (L : SealLaws P) (cls : CipherClass) (t : TranscriptF) (x : Snd) : Bytes × Bytes :=
  if m then (t.chRecord ++ streamF true P L cls t.ver x.c t.cF, t.shRecord ++ streamF true P L cls t.ver x.s t.sF)
  else (plainOfF t.cF, plainOfF t.sF)

/-- **C01 for a whole TLS 1.3 connection**: handshake messages fragmented anywhere, `-a` on or off, RFC terms, any delivery
    after which reassembly releases the sender's records -/
theorem tls13_connection_all (H : Crypto.Prims) (P : Prims) (L : SealLaws P)
    {ls : List (C09Found.FLine × Bool)} (info : Nat → Pipeline.Info) (c : Pipeline.Conn)
    (t : TranscriptF) (hch : t.ch.WellFormed) (hsh : t.sh.WellFormed) (hrc : t.rvC.length = 2) (hrs : t.rvS.length = 2)
    (hv : t.ver.length = 2) (hcomp : t.sh.compressionMethod = 0) (hneg : Negotiated t.rvS t.sh .tls13)
    {sp : SuiteSpec} {cls : CipherClass} {chts shts cats sats : Bytes}
    (R : Rfc13 H ls t.ch t.sh sp cls chts shts cats sats)
    (hfc : FragConform t.cF) (hfs : FragConform t.sF)
    (hlen : costF t.cF + costF t.sF ≤ seqLimit)
    (hproj : ∀ d, ((connRecs info c).filter fun q => q.2 == d).map (·.1.raw) = t.records P L cls (snd13 H sp chts shts cats sats) d)
    (hcausal : Causal13 (connRecs info c)) :
    ∃ frames, Pipeline.connOut H P info c ((fileKeysOf (some (C09Found.fileText ls))).getD [])
        = some (frames.map (Pipeline.addressed c.opts c)) ∧
      Spec.reassemble frames = some (expectF c.opts.metadata P L cls t (snd13 H sp chts shts cats sats)) := by
  have hinst := installs13_rfc R P hsh
  obtain ⟨frames, g1, g2, _⟩ := tls13_of_release H P L _ info c _ rfl t hch hsh hrc hrs hv hcomp hneg cls _
    (snd13 H sp chts shts cats sats) hinst (plan_of_conform _ hfc) (plan_of_conform _ hfs)
    (by simpa [snd13, SDir.init] using hlen) hproj hcausal
  refine ⟨frames, g1, ?_⟩
  rw [g2]
  cases c.opts.metadata
  · simp only [expectF, Bool.false_eq_true, if_false, List.nil_append, streamF_false]
  · rfl

/-- **C01 for a whole SSL 3.0 – TLS 1.2 connection**: `-a` on or off, RFC terms, any delivery after which reassembly releases
    the sender's records (with `-a` under the stronger causality `Causal13`) -/
theorem tls12_connection_all (H : Crypto.Prims) (P : Prims) (L : SealLaws P)
    {ls : List (C09Found.FLine × Bool)} (info : Nat → Pipeline.Info) (c : Pipeline.Conn)
    (t : Transcript) (hch : t.ch.WellFormed) (hsh : t.sh.WellFormed) (hrc : t.rvC.length = 2) (hrs : t.rvS.length = 2)
    (hv : t.ver.length = 2) (hcomp : t.sh.compressionMethod = 0)
    (pv : ProtocolVersion) (hneg : Negotiated t.rvS t.sh (sessVer pv))
    {sp : SuiteSpec} {cls : CipherClass} {ms : Bytes} (R : Rfc12 H ls t.ch t.sh pv sp cls ms)
    (hsc : Script12 t.cEvs) (hss : Script12 t.sEvs)
    (hokc : ∀ e ∈ t.cEvs, EvOk1 cls (sp.hash.suite H).outLen e)
    (hoks : ∀ e ∈ t.sEvs, EvOk1 cls (sp.hash.suite H).outLen e)
    (hlen : t.cEvs.length + t.sEvs.length ≤ seqLimit)
    (hproj : ∀ d, ((connRecs info c).filter fun q => q.2 == d).map (·.1.raw) = t.records P L cls (snd12 H pv sp ms t.ch.random t.sh.random) d)
    (hc12 : c.opts.metadata = false → Causal12 (connRecs info c))
    (hc13 : c.opts.metadata = true → Causal13 (connRecs info c)) :
    ∃ frames, Pipeline.connOut H P info c ((fileKeysOf (some (C09Found.fileText ls))).getD [])
        = some (frames.map (Pipeline.addressed c.opts c)) ∧
      Spec.reassemble frames = some (expect12 c.opts.metadata P L cls t (snd12 H pv sp ms t.ch.random t.sh.random)) := by
  have hinst := installs12_rfc R P L hsh
  have h13 : cls.is13 = false := by
    cases h : cls.is13
    · rfl
    · exact absurd (hinst.1.mpr h) (sessVer_ne13 pv)
  have hlen' : max (snd12 H pv sp ms t.ch.random t.sh.random).c.seq (snd12 H pv sp ms t.ch.random t.sh.random).s.seq +
      (t.cEvs.length + t.sEvs.length) ≤ seqLimit := by simpa [snd12, SDir.init] using hlen
  cases hm : c.opts.metadata with
  | false =>
    obtain ⟨frames, g1, g2, _⟩ := tls12_plain_of_release H P L _ info c hm t hch hsh hrc hrs hv hcomp (sessVer pv) hneg cls
      h13 _ _ hinst hsc hss hokc hoks hlen' hproj (hc12 hm)
    exact ⟨frames, g1, g2⟩
  | true =>
    obtain ⟨frames, g1, g2, _⟩ := tls12_of_release H P L _ info c true hm t hch hsh hrc hrs hv hcomp (sessVer pv) hneg cls
      h13 _ _ hinst hsc hss hokc hoks hlen' hproj (hc13 hm)
    refine ⟨frames, g1, ?_⟩
    rw [g2]
    simp only [expect12, if_true, stream12_true]

end TLX.Props.C01All
