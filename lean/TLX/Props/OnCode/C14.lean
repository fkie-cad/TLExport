/-
C14 ON THE CODE — `resolve_sound_complete` of `Props/C14.lean` restated about the definitions REGENERATED from the Python
source of the tree under test (`TLX/Gen/Translated/Suites.lean`: `split_cipher_suite` and the dict displays
`cipher_suites`, `cipher_suite_parts` of tlexport/cipher_suite_parser.py, read from the source text).

The statement mentions neither the hand-written model (`CipherSuite.resolve`) nor the tables dumped from the live module
(`Gen.cipherSuites`): only `Gen.Py.…`, the copy of the IANA TLS Cipher Suites registry `Spec.Iana.lookup`
(`TLX/Spec/IanaRegistry.lean`), the independent reading of a suite name `Spec.denote` (`TLX/Spec/Denote.lean`) and
`Bytes.beNat`. The proof composes `Props/Translated/Suites.lean` with `Props/C14.lean`.

Hypothesis that remains (side condition of `split_cipher_suite_eq_model`): the id has two bytes — a TLS code point, which
is what every caller passes (the two `cipher_suite` bytes of a ServerHello).
-/
import TLX.Props.Translated.Suites
import TLX.Props.C14
namespace TLX.OnCode.C14
open TLX TLX.PyRt TLX.Props.Translated

/-- C14 on the translated code: for EVERY two-byte code point, Python `split_cipher_suite` does not raise, and either the
    code point is not a key of the `cipher_suites` dict and the result is `None` (unsupported), or it is a key, its name in
    the dict is the name the IANA registry gives that very code point, and the returned parameters are exactly what that
    name denotes. -/
theorem split_cipher_suite_sound_complete (id : Bytes) (h : id.length = 2) :
    ∃ r, Gen.Py.split_cipher_suite id = .ok r ∧
      match r with
      | none => ∀ n, (id, n) ∉ Gen.Py.cipher_suites
      | some p => ∃ n, (id, n) ∈ Gen.Py.cipher_suites ∧
          Spec.Iana.lookup (Bytes.beNat id) = some n ∧ Spec.denote n = some p := by
  refine ⟨_, split_cipher_suite_eq_model id h, ?_⟩
  have := Props.C14.resolve_sound_complete (Bytes.beNat id)
  cases hr : CipherSuite.resolve (Bytes.beNat id) with
  | none =>
    rw [hr] at this
    intro n hn
    exact this n ((mem_cipher_suites_iff id h n).mpr hn)
  | some p =>
    rw [hr] at this
    obtain ⟨n, hn, _, hl, hd⟩ := this
    exact ⟨n, (mem_cipher_suites_iff id h n).mp hn, hl, hd⟩

/-- The `cipher_suites` dict display of the source has only two-byte keys, none twice: "is a key" above is unambiguous. -/
theorem cipher_suites_keys : (∀ e ∈ Gen.Py.cipher_suites, e.1.length = 2) ∧ (Gen.Py.cipher_suites.map (·.1)).Nodup :=
  ⟨cipher_tables_eq_model.2.2.1, cipher_tables_eq_model.2.2.2⟩

-- Non-vacuity: accepted code points (TLS 1.3; AES-CBC with the MAC default) and rejected ones (GREASE, 0x0000) exist
example : ([0x13, 0x01] : Bytes).length = 2 ∧
    (match Gen.Py.split_cipher_suite [0x13, 0x01] with | .ok (some _) => true | _ => false) = true ∧
    (match Gen.Py.split_cipher_suite [0x00, 0x2f] with | .ok (some _) => true | _ => false) = true := by
  decide +kernel
example : Gen.Py.split_cipher_suite [0xfa, 0xfa] = .ok none ∧ Gen.Py.split_cipher_suite [0x00, 0x00] = .ok none := by
  decide +kernel
example : (Gen.Py.split_cipher_suite [0x13, 0x01]).toOption.join = Spec.denote ((Spec.Iana.lookup 0x1301).getD []) ∧
    (Spec.Iana.lookup 0x1301).isSome := by decide +kernel

end TLX.OnCode.C14
