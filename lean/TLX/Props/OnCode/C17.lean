/-
C17 ON THE CODE — the headline theorems of `Props/C17.lean` restated about the definitions REGENERATED from the Python
source of the tree under test: `parse_frames` with all frame classes and the `frame_type` table
(`TLX/Gen/Translated/Frames.lean`, tlexport/quic/quic_frame.py) and `get_variable_length_int_length` /
`decode_variable_length_int` (`TLX/Gen/Translated/Varint.lean`, tlexport/quic/quic_decode.py).

No statement below mentions the hand-written parser (`Quic.Frame.parseFrames`, `parseOne`, `Quic.Varint.decodeVarint`):
only `Gen.Py.…`, the independent RFC 9000 §16/§19 + RFC 9221 encoder of `TLX/Spec/QuicFrames.lean` (`QFrame`, `encodeAll`,
`WellFormedSeq`, `normalize`, `VW.enc`) with the expected attribute values of `TLX/Spec/QuicFramesExpect.lean`
(`QFrame.toParsed`, `startOf`), and the VIEW of a Python frame object as its tuple of attributes,
`Props.Translated.toParsed : Gen.Py.FrameObj → Parsed` (a `match` that copies the attributes of each class into the
record type `Parsed`; it computes nothing). The proofs compose `Props/Translated/Frames.lean`, `…/Varint.lean`
(`…_eq_model`) with `Props/C17.lean`. The hypotheses are those of C17 itself.
-/
import TLX.Props.Translated.Frames
import TLX.Props.Translated.Varint
import TLX.Props.C17
namespace TLX.OnCode.C17
open TLX TLX.PyRt TLX.Quic TLX.Quic.Frame TLX.Spec.QuicFrames TLX.Props.Translated

/-- what `parse_frames_eq_model` says, by outcome: frames on both sides, or IndexError and `none` -/
private theorem outcome (p : Bytes) :
    (∃ fs, Gen.Py.parse_frames p = .ok fs ∧ parseFrames p = some (fs.map toParsed)) ∨
    (Gen.Py.parse_frames p = .error .index ∧ parseFrames p = none) := by
  rcases map_eq_ofOpt (parse_frames_eq_model p) with ⟨fs, hf, hp⟩ | h
  · exact Or.inl ⟨fs, hf, hp⟩
  · exact Or.inr h

private theorem of_some {p : Bytes} {ps : List Parsed} (h : parseFrames p = some ps) :
    ∃ fs, Gen.Py.parse_frames p = .ok fs ∧ fs.map toParsed = ps := by
  rcases outcome p with ⟨fs, h1, h2⟩ | ⟨-, h2⟩
  · exact ⟨fs, h1, Option.some.inj (h2.symm.trans h)⟩
  · rw [h2] at h; cases h

private theorem of_ok {p : Bytes} {fs : List Gen.Py.FrameObj} (h : Gen.Py.parse_frames p = .ok fs) :
    parseFrames p = some (fs.map toParsed) := by
  rcases outcome p with ⟨fs', h1, h2⟩ | ⟨h1, -⟩
  · rw [h1] at h; cases h; exact h2
  · rw [h1] at h; cases h

private theorem sum_lengths (fs : List Gen.Py.FrameObj) :
    ((fs.map toParsed).map Parsed.length) = fs.map Gen.Py.FrameObj.length := by
  rw [List.map_map]
  exact List.map_congr_left (fun f _ => toParsed_length f)

/-- Python `get_variable_length_int_length` and `decode_variable_length_int` (as translated) against RFC 9000 §16: on the
    encoding of any value `v` in any of the four widths (1/2/4/8 bytes, minimal or not) followed by arbitrary bytes, the
    first returns the width and the second the value — also when given exactly the integer's own bytes. -/
theorem varint_roundtrip (x : VW) (v : Nat) (hv : x.fits v) (tail : Bytes) :
    Gen.Py.get_variable_length_int_length (x.enc v ++ tail) = .ok x.w ∧
    Gen.Py.decode_variable_length_int (x.enc v ++ tail) = .ok v ∧
    Gen.Py.decode_variable_length_int ((x.enc v ++ tail).take x.w) = .ok v := by
  obtain ⟨h1, h2, h3⟩ := Props.C17.varint_roundtrip x v hv tail
  rw [get_variable_length_int_length_eq_model, decode_variable_length_int_eq_model, decode_variable_length_int_eq_model,
    h1, h2, h3]
  exact ⟨rfl, rfl, rfl⟩

/-- C17, first half, on the translated code: Python `parse_frames` run on the wire image of ANY well-formed sequence of
    RFC 9000 §19 / RFC 9221 frames (any types, order, varint widths; frames without explicit length only last) does not
    raise and returns exactly those frames — class, type byte, length, every integer and every byte-string attribute —,
    consecutive PADDING frames reported as one run. -/
theorem parse_frames_roundtrip (fs : List QFrame) (h : WellFormedSeq fs) :
    ∃ objs, Gen.Py.parse_frames (encodeAll fs) = .ok objs ∧
      objs.map toParsed = (normalize fs).map QFrame.toParsed :=
  of_some (Props.C17.frames_roundtrip fs h)

/-- C17, "every payload byte accounted for exactly once", on the translated code: for a well-formed sequence the
    `length` attributes of the frame objects `parse_frames` returns sum to the payload length, and every byte-string
    attribute of every object is the contiguous payload slice inside its own frame's extent at the place the integer
    attributes give; several attributes of one frame are ordered and disjoint. -/
theorem bytes_accounted_once (fs : List QFrame) (h : WellFormedSeq fs) :
    ∃ objs, Gen.Py.parse_frames (encodeAll fs) = .ok objs ∧
      (objs.map Gen.Py.FrameObj.length).sum = (encodeAll fs).length ∧
      ∀ i (hi : i < objs.length),
        (∀ ad ∈ (toParsed objs[i]).dataAt,
          ad.1 + ad.2.length ≤ (objs[i]).length ∧
          Bytes.slice (encodeAll fs) (startOf (objs.map toParsed) i + ad.1)
            (startOf (objs.map toParsed) i + ad.1 + ad.2.length) = ad.2) ∧
        (toParsed objs[i]).dataAt.Pairwise (fun x y => x.1 + x.2.length ≤ y.1) := by
  obtain ⟨ps, hp, hsum, hall⟩ := Props.C17.bytes_accounted_once fs h
  obtain ⟨objs, ho, rfl⟩ := of_some hp
  refine ⟨objs, ho, ?_, ?_⟩
  · rw [← sum_lengths]; exact hsum
  · intro i hi
    have := hall i (by simpa using hi)
    simp only [List.getElem_map, toParsed_length] at this
    exact this

/-- C17, second half, on the translated code: on EVERY byte string Python `parse_frames` terminates — the `while` loop
    is translated with fuel `len(payload)` and the result is never the out-of-fuel value — and either returns frame
    objects or raises IndexError; no other outcome exists. -/
theorem parse_frames_total (p : Bytes) :
    (∃ objs, Gen.Py.parse_frames p = .ok objs) ∨ Gen.Py.parse_frames p = .error .index :=
  (outcome p).imp (fun ⟨fs, h, _⟩ => ⟨fs, h⟩) And.left

/-- "never loops", on the translated code: every frame object `parse_frames` returns on ANY payload has `length ≥ 1`,
    there are at most `len(payload)` of them, and their lengths cover the payload. -/
theorem parse_frames_progress (p : Bytes) (objs : List Gen.Py.FrameObj) (h : Gen.Py.parse_frames p = .ok objs) :
    (∀ f ∈ objs, 1 ≤ f.length) ∧ objs.length ≤ p.length ∧ p.length ≤ (objs.map Gen.Py.FrameObj.length).sum := by
  obtain ⟨h1, h2, h3, _⟩ := Props.C17.parse_progress p _ (of_ok h)
  refine ⟨?_, by simpa using h2, by rw [← sum_lengths]; exact h3⟩
  intro f hf
  rw [← toParsed_length]
  exact h1 _ (List.mem_map_of_mem hf)

/-- "accounted for exactly once" for EVERY accepted payload, on the translated code: each payload position lies in the
    extent `[start of frame i, start of frame i+1)` of exactly one returned frame object. -/
theorem every_byte_in_exactly_one_frame (p : Bytes) (objs : List Gen.Py.FrameObj) (h : Gen.Py.parse_frames p = .ok objs)
    (k : Nat) (hk : k < p.length) :
    ∃ i, (i < objs.length ∧ startOf (objs.map toParsed) i ≤ k ∧ k < startOf (objs.map toParsed) (i + 1)) ∧
      ∀ j, (j < objs.length ∧ startOf (objs.map toParsed) j ≤ k ∧ k < startOf (objs.map toParsed) (j + 1)) → j = i := by
  have := Props.C17.every_byte_in_exactly_one_frame p _ (of_ok h) k hk
  rw [List.length_map] at this
  exact this

/-- "never invents data beyond the packet", on the translated code: on arbitrary bytes every byte-string attribute of
    every frame object `parse_frames` returns is a Python slice `payload[a:b]` of the packet payload that begins at or
    after the start of the frame it belongs to. -/
theorem no_invented_data (p : Bytes) (objs : List Gen.Py.FrameObj) (h : Gen.Py.parse_frames p = .ok objs) :
    ∀ i (hi : i < objs.length), ∀ d ∈ (toParsed objs[i]).datas,
      ∃ a b, startOf (objs.map toParsed) i ≤ a ∧ d = Bytes.slice p a b := by
  intro i hi d hd
  have := Props.C17.no_invented_data p _ (of_ok h) i (by simpa using hi) d (by simpa using hd)
  exact this

/-- The translated `frame_type` dict, looked up as the key loop of `parse_frames` does (last matching key tuple wins,
    sentinel 0xff = no class → `GenericFrame`), is the RFC 9000 §19 / RFC 9221 type-byte assignment for every first byte. -/
theorem dispatch_matches_rfc : ∀ t : Fin 256,
    (if keyOf t.val = Sum.inl 255 then none else tableGetU Gen.Py.frame_type (keyOf t.val)) = Props.C17.rfcClass t.val := by
  intro t
  rw [← Props.C17.lookup_eq_rfcClass t.val]
  rcases key_dispatch t.val with ⟨hs, hl⟩ | ⟨k, hs, _, hg, _⟩
  · rw [if_pos hs, hl]
  · rw [hs, if_neg nofun]
    exact hg

/-! ### non-vacuity: concrete inputs meeting the hypotheses, through the translated code -/

example : WellFormedSeq Props.C17.exampleSeq := Props.C17.exampleSeq_wf
example : (normalize Props.C17.exampleSeq).length = 5 := by decide
example : (Gen.Py.parse_frames (encodeAll Props.C17.exampleSeq)).map (List.map toParsed) =
    .ok ((normalize Props.C17.exampleSeq).map QFrame.toParsed) := by decide +kernel
example : Props.C17.w8.fits 37 ∧ Props.C17.w8.enc 37 ++ [0xff] = [0xc0, 0, 0, 0, 0, 0, 0, 37, 0xff] ∧
    Gen.Py.decode_variable_length_int [0xc0, 0, 0, 0, 0, 0, 0, 37, 0xff] = .ok 37 ∧
    Gen.Py.get_variable_length_int_length [0xc0, 0, 0, 0, 0, 0, 0, 37, 0xff] = .ok 8 := by decide
-- accepted and rejected arbitrary payloads (`parse_frames_total`, `parse_frames_progress`, `no_invented_data`)
example : (Gen.Py.parse_frames [0x06, 0x00, 0x02, 0xaa, 0xbb, 0x00, 0x00]).map (List.map toParsed) =
    .ok [.crypto 5 0 2 [0xaa, 0xbb], .padding 2] := parse_frames_crypto_padding
example : Gen.Py.parse_frames [0x18, 0x01] = .error .index := parse_frames_truncated

end TLX.OnCode.C17
