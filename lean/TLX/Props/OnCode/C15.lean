/-
C15 ON THE CODE — the main theorems of `Props/C15.lean` restated about the definitions REGENERATED from the Python source of
the tree under test (`TLX/Gen/Translated/KeySched.lean`: `prf_tls_12`, `gen_master_secret_tls_12`, `dev_tls_12_keys`,
`dev_tls_13_keys`, `dev_initial_keys`, `key_update`, `dev_quic_keys` of tlexport/keyderivation.py and
tlexport/quic/quic_key_generation.py).

The right-hand sides are the RFC key schedules of `TLX/Spec/KeySchedules.lean` (RFC 5246 `prf12`, `connectionKeys`;
RFC 8446 `tls13WriteKey/Iv`; RFC 9001 `quicInitial…Keys`, `quicPacketKeys`, `quicKey/Iv`, `quicNextSecret`). No statement
mentions a model FUNCTION (`prfTls12`, `devTls12Keys`, `keyUpdate`, …). What the statements do use besides `Gen.Py.…`:
 * the abstract hash primitives `P : Crypto.Prims` and the way the translation binds the external `hmac`/`HKDF` calls of
   the `cryptography` package to them (`KS.hmacOf P`, `KS.hkdfExpandOf P`, `KS.hkdfExtractOf P`, `KS.digestOf P`,
   `macSuite P tag` = the hash a `hashes.SHAxxx` class tag selects);
 * the dict displays the Python functions return, as association lists in display order, filled from a record
   (`KS.tls13Table`, `KS.initTable`, `KS.quicTable`: key names as code points; they compute nothing), and `KS.secOf`, which
   reads a key-log label string as the enum `Label` that `lastOf` (last entry with that label) is indexed by;
 * `ivLenTls12`: the code's own fixed-IV-length table; its agreement with the RFCs is `Props.C15.iv_table_eq_rfc`.
The proofs compose `Props/Translated/KeySched.lean` (`…_eq_model`) with `Props/C15.lean`. Hypotheses are those of the
model-level theorems (lawful hash suites, lengths below 2^16 so that `to_bytes(2)` succeeds, …), spelled out.
-/
import TLX.Props.Translated.KeySched
import TLX.Props.C15
namespace TLX.OnCode.C15
open TLX TLX.PyRt TLX.Crypto TLX.KeySchedule TLX.Spec.KeySchedules TLX.Lemmas.KeySchedule TLX.Props.Translated.KS

/-- Python `prf_tls_12` (as translated; the `while len(block) < length` loop included) is RFC 5246 §5 `PRF` = `P_<hash>`
    with SHA-384 for `_SHA384` suites and SHA-256 otherwise, for every secret, label, randoms and length. NOTE the seed
    order `server_random + client_random` is that of the function's parameters as the key-expansion call passes them. -/
theorem prf_tls_12_eq_rfc (P : Prims) (mac : MacTag) (hl : (tls12PrfHash P (mac = .sha384)).Lawful)
    (secret cr sr label : Bytes) (n : Nat) :
    Gen.Py.prf_tls_12 (hmacOf P) secret cr sr label n mac =
      .ok (prf12 (tls12PrfHash P (mac = .sha384)) secret label (sr ++ cr) n) := by
  rw [prf_tls_12_eq_model, Props.C15.tls12_prf_eq_rfc P mac (tls12PrfHash_eq P mac ▸ hl)]
  rfl

/-- Python `gen_master_secret_tls_12` (as translated) is RFC 5246 §8.1 `master_secret = PRF(pre_master_secret,
    "master secret", ClientHello.random + ServerHello.random)[0..47]` (digest of at least 24 bytes: two HMAC rounds give 48). -/
theorem gen_master_secret_tls_12_eq_rfc (P : Prims) (mac : MacTag) (hl : (tls12PrfHash P (mac = .sha384)).Lawful)
    (h24 : 24 ≤ (tls12PrfHash P (mac = .sha384)).outLen) (pms cr sr : Bytes) :
    Gen.Py.gen_master_secret_tls_12 (hmacOf P) pms cr sr mac = masterSecret12 (tls12PrfHash P (mac = .sha384)) pms cr sr := by
  rw [gen_master_secret_tls_12_eq_model]
  exact Props.C15.master_secret_tls12_eq_rfc P mac (tls12PrfHash_eq P mac ▸ hl) (tls12PrfHash_eq P mac ▸ h24) pms cr sr

/-- Python `dev_tls_12_keys` (as translated) returns, in the display order of its `keys` dict (client/server MAC secret,
    client/server key, client/server IV), RFC 5246 §6.3's partition of the key block `PRF(master_secret, "key expansion",
    server_random + client_random)`, for every master secret, randoms, lengths, cipher and AEAD flag — provided the
    requested key block is long enough for the MAC keys and keys (every suite of the table meets it). -/
theorem dev_tls_12_keys_eq_rfc (P : Prims) (mac : MacTag) (hl : (tls12PrfHash P (mac = .sha384)).Lawful)
    (master cr sr : Bytes) (kl ml kbl : Nat) (c : CipherTag) (ua : Nat)
    (hkb : 2 * (if decide (ua ≠ 0) then 0 else ml) + 2 * kl ≤ kbl) :
    (Gen.Py.dev_tls_12_keys (hmacOf P) master cr sr kl ml kbl c ua mac).map (List.map Prod.snd) =
      .ok (let K := connectionKeys P .tls12
              ⟨tls12PrfHash P (mac = .sha384), if decide (ua ≠ 0) then 0 else ml, kl, ivLenTls12 c (decide (ua ≠ 0))⟩
              master cr sr
           [K.clientWriteMacKey, K.serverWriteMacKey, K.clientWriteKey, K.serverWriteKey, K.clientWriteIv, K.serverWriteIv]) := by
  rw [dev_tls_12_keys_eq_model]
  have := Props.C15.tls12_keys_eq_rfc P mac (tls12PrfHash_eq P mac ▸ hl) master cr sr kl ml kbl c (decide (ua ≠ 0)) hkb
  generalize devTls12Keys P master cr sr kl ml kbl c (decide (ua ≠ 0)) mac = y at this ⊢
  rcases y with e | k
  · cases this
  · rw [← Except.ok.inj this]; rfl

/-- Python `dev_tls_13_keys` (as translated), for every key-log secret list, key length below 2^16 and hash: the returned
    dict holds, for each of the four traffic secrets, `HKDF-Expand-Label(secret, "key", "", key_length)` and
    `HKDF-Expand-Label(secret, "iv", "", 12)` (RFC 8446 §7.3) of the LAST entry with that label, `None` without one. -/
theorem dev_tls_13_keys_eq_rfc (P : Prims) (ss : List (List Nat × Bytes)) (kl : Nat) (h : MacTag) (hk : kl < 65536) :
    Gen.Py.dev_tls_13_keys (hkdfExpandOf P) ss kl h = .ok (tls13Table
      { clientHsKey := (lastOf .clientHandshake (ss.map secOf)).map (tls13WriteKey (macSuite P h) · kl)
        serverHsKey := (lastOf .serverHandshake (ss.map secOf)).map (tls13WriteKey (macSuite P h) · kl)
        clientAppKey := (lastOf .clientTraffic0 (ss.map secOf)).map (tls13WriteKey (macSuite P h) · kl)
        serverAppKey := (lastOf .serverTraffic0 (ss.map secOf)).map (tls13WriteKey (macSuite P h) · kl)
        clientHsIv := (lastOf .clientHandshake (ss.map secOf)).map (tls13WriteIv (macSuite P h))
        serverHsIv := (lastOf .serverHandshake (ss.map secOf)).map (tls13WriteIv (macSuite P h))
        clientAppIv := (lastOf .clientTraffic0 (ss.map secOf)).map (tls13WriteIv (macSuite P h))
        serverAppIv := (lastOf .serverTraffic0 (ss.map secOf)).map (tls13WriteIv (macSuite P h)) }) := by
  rw [dev_tls_13_keys_eq_model, Props.C15.tls13_keys_eq_rfc _ _ _ hk]
  rfl

/-- Python `dev_initial_keys` (as translated) for QUIC v1 without the chacha flag: the returned dict holds RFC 9001 §5.2's
    Initial keys — key, IV, header-protection key of the client and of the server Initial secret derived from the
    Destination Connection ID with the v1 salt, AEAD_AES_128_GCM sizes — for every connection id (SHA-256: 32-byte digest). -/
theorem dev_initial_keys_eq_rfc (P : Prims) (h32 : P.sha256.outLen = 32) (dcid : Bytes) :
    Gen.Py.dev_initial_keys (hkdfExpandOf P) (hkdfExtractOf P) dcid .v1 false = .ok (some (initTable
      { clientKey := (quicInitialClientKeys P.sha256 dcid).key, clientIv := (quicInitialClientKeys P.sha256 dcid).iv,
        clientHp := (quicInitialClientKeys P.sha256 dcid).hp, serverKey := (quicInitialServerKeys P.sha256 dcid).key,
        serverIv := (quicInitialServerKeys P.sha256 dcid).iv, serverHp := (quicInitialServerKeys P.sha256 dcid).hp })) := by
  rw [dev_initial_keys_eq_model, Props.C15.quic_initial_eq_rfc P.sha256 h32 dcid]
  rfl

/-- Python `key_update` (as translated) on the decryptor key list of generation `n` (server key, server IV, client key,
    client IV, server secret, client secret, each as RFC 9001 derives them from the `n`-fold "quic ku" update of the
    initial application secrets) returns a decryptor holding exactly generation `n + 1` (RFC 9001 §6.1) — for secrets as
    long as the digest, which is what a key log holds (for other lengths the code differs from the RFC:
    `Props.C15.quic_key_update_any_length_counterexample`). -/
theorem key_update_eq_rfc (P : Prims) (h : MacTag) (hl : (macSuite P h).Lawful) (kl : Nat) (hk : kl < 65536)
    (ho : (macSuite P h).outLen < 65536) (ver : QuicVersion) (s0 c0 : Bytes)
    (hs : s0.length = (macSuite P h).outLen) (hc : c0.length = (macSuite P h).outLen) (n : Nat) :
    Gen.Py.key_update (hkdfExpandOf P) (digestOf P) h kl ver (specGeneration (macSuite P h) kl s0 c0 n) =
      .ok { keys := specGeneration (macSuite P h) kl s0 c0 (n + 1) } := by
  rw [key_update_eq_model, keyUpdate_specGeneration (macSuite P h) hl kl hk ho s0 c0 hs hc n]
  rfl

/-- Python `dev_quic_keys` (as translated) for QUIC v1 with all four traffic secrets in the key log: the returned dict
    holds RFC 9001 §5.1's packet-protection keys (`quic key`, `quic iv`, `quic hp` of HKDF-Expand-Label) of the last
    secret with each label; the statement is the model-level one transported along `dev_quic_keys_eq_model`, with
    the result dict given by `KS.quicTable` of the record of RFC values. -/
theorem dev_quic_keys_eq_rfc (P : Prims) (h : MacTag) (kl : Nat) (hk : kl < 65536) (ss : List (List Nat × Bytes))
    (ch sh ca sa : Bytes)
    (h1 : lastOf .clientHandshake (ss.map secOf) = some ch) (h2 : lastOf .serverHandshake (ss.map secOf) = some sh)
    (h3 : lastOf .clientTraffic0 (ss.map secOf) = some ca) (h4 : lastOf .serverTraffic0 (ss.map secOf) = some sa) :
    ∃ k : QuicKeys, Gen.Py.dev_quic_keys (hkdfExpandOf P) kl ss h .v1 = .ok (quicTable k) ∧
      k.clientHs = tripleSpec (quicPacketKeys (macSuite P h) ch kl) ∧
      k.serverHs = tripleSpec (quicPacketKeys (macSuite P h) sh kl) ∧
      k.clientApp = tripleSpec (quicPacketKeys (macSuite P h) ca kl) ∧
      k.serverApp = tripleSpec (quicPacketKeys (macSuite P h) sa kl) := by
  have := Props.C15.quic_keys_eq_rfc (macSuite P h) kl (ss.map secOf) hk
  rw [h1, h2, h3, h4] at this
  rw [dev_quic_keys_eq_model, this]
  exact ⟨_, rfl, rfl, rfl, rfl, rfl⟩

/-! ### non-vacuity: a lawful instance with the real digest sizes meets every hypothesis; the values are real data -/

example : (tls12PrfHash Props.C15.sizedToy (MacTag.sha384 = .sha384)).Lawful ∧
    (tls12PrfHash Props.C15.sizedToy (MacTag.sha256 = .sha384)).Lawful :=
  ⟨Props.C15.sizedToy_lawful.sha384, Props.C15.sizedToy_lawful.sha256⟩
example : 24 ≤ (tls12PrfHash Props.C15.sizedToy (MacTag.sha256 = .sha384)).outLen := by decide
-- AES-256-GCM-SHA384: no MAC keys, 2*32 key bytes, 4-byte IVs out of a 72-byte key block
example : 2 * (if decide ((1 : Nat) ≠ 0) then 0 else 48) + 2 * 32 ≤ 72 := by decide
example : ((Gen.Py.dev_tls_12_keys (hmacOf Props.C15.sizedToy) (List.replicate 48 7) [1, 2] [3, 4] 32 48 72 .aesgcm 1
    .sha384).map (List.map (fun e => e.2.length))) = .ok [0, 0, 32, 32, 4, 4] := by decide +kernel
example : (Gen.Py.prf_tls_12 (hmacOf Props.C15.sizedToy) [9, 9] [1, 2] [3, 4] [5] 70 .sha256).map List.length = .ok 70 := by
  decide +kernel
example : Props.C15.sizedToy.sha256.outLen = 32 := rfl
example : ((Gen.Py.dev_initial_keys (hkdfExpandOf Props.C15.sizedToy) (hkdfExtractOf Props.C15.sizedToy)
    [0x83, 0x94, 0xc8, 0xf0, 0x3e, 0x51, 0x57, 0x08] .v1 false).map (Option.map (List.map (fun e => e.2.length)))) =
    .ok (some [16, 12, 16, 16, 12, 16]) := by decide +kernel
-- key_update: 32-byte secrets with the 32-byte digest
example : (macSuite Props.C15.sizedToy .sha256).Lawful ∧ (16 : Nat) < 65536 ∧
    (macSuite Props.C15.sizedToy .sha256).outLen < 65536 ∧
    (List.replicate 32 (1 : UInt8)).length = (macSuite Props.C15.sizedToy .sha256).outLen :=
  ⟨Props.C15.sizedToy_lawful.sha256, by decide, by decide, by decide⟩
-- dev_tls_13_keys / dev_quic_keys: a key log with all four secrets, one label twice (the last one counts)
example : lastOf .clientTraffic0 ([([67, 76, 73, 69, 78, 84, 95, 84, 82, 65, 70, 70, 73, 67, 95, 83, 69, 67, 82, 69, 84, 95, 48], [1]),
    ([83, 69, 82, 86, 69, 82, 95, 84, 82, 65, 70, 70, 73, 67, 95, 83, 69, 67, 82, 69, 84, 95, 48], [2]),
    ([67, 76, 73, 69, 78, 84, 95, 84, 82, 65, 70, 70, 73, 67, 95, 83, 69, 67, 82, 69, 84, 95, 48], [3])].map secOf) = some [3] := by
  decide

end TLX.OnCode.C15
