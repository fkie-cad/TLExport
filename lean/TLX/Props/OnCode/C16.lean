/-
C16 ON THE CODE — the headline theorems of `Props/C16.lean` restated about the definitions REGENERATED from the Python
source of the tree under test (`TLX/Gen/Translated/Pn.lean`: `QuicSession.get_full_packet_number`,
`QuicSession.set_largest_packet_number`, `PACKET_TYPE_MAP`, tlexport/quic/quic_session.py).

No statement below mentions the hand-written model (`implDecode`, `implUpdate`, `step`, `Table`): only the generated
definitions `Gen.Py.…`, the RFC 9000 Appendix A.3 algorithm `Quic.PktNum.rfcDecode`, `max`, and the byte encodings of
`TLX/Py.lean` (`Bytes.beNat`, `Bytes.ofNatBE`). The proofs compose `Props/Translated/Pn.lean` (`…_eq_model`) with
`Props/C16.lean`.

Hypotheses that remain (they are those of the `_eq_model` theorems): the packet-number field has 1–4 bytes (the QUIC
header has a 2-bit length field, so every caller meets it) and both table entries are below 2^62 (RFC 9000 §17.1: packet
numbers are below 2^62; the tables start at 0 and only ever receive decoded numbers).
-/
import TLX.Props.Translated.Pn
import TLX.Props.C16
namespace TLX.OnCode.C16
open TLX TLX.PyRt TLX.Lemmas.Translated TLX.Quic.PktNum

/-- Python `QuicSession.get_full_packet_number` (as translated from the source), exact result: for a 1–4 byte field and
    table entries below 2^62 it never raises; it returns the field itself when the entry of the packet's direction is 0 and
    the field is positive, and otherwise the 8-byte big-endian form of RFC 9000 A.3 `DecodePacketNumber`. -/
theorem get_full_packet_number_exact (srv : Bool) (pn : Bytes) (pnS pnC : Nat)
    (hn : 1 ≤ pn.length ∧ pn.length ≤ 4) (hS : pnS < 2 ^ 62) (hC : pnC < 2 ^ 62) :
    Gen.Py.get_full_packet_number srv pn (Int.ofNat pnS) (Int.ofNat pnC) =
      .ok (if Bytes.beNat pn > (if srv then pnS else pnC) ∧ (if srv then pnS else pnC) = 0 then pn
           else Bytes.ofNatBE 8 (rfcDecode (2 ^ (8 * pn.length)) (2 ^ 62) (if srv then pnS else pnC) (Bytes.beNat pn))) := by
  rw [Props.Translated.get_full_packet_number_eq_model srv pn pnS pnC hn hS hC]
  rw [Props.C16.pn_decode_eq_rfc pn.length _ _ hn (beNat_lt_window pn)]

/-- C16, first clause, on the translated code: for every largest-received number below 2^62, every field of 1–4 bytes
    and every truncated value, the bytes `get_full_packet_number` returns encode exactly the packet number that
    RFC 9000 Appendix A.3 defines (also on the `largest == 0` shortcut, where the code skips the A.3 arithmetic). -/
theorem get_full_packet_number_eq_rfc (srv : Bool) (pn : Bytes) (pnS pnC : Nat)
    (hn : 1 ≤ pn.length ∧ pn.length ≤ 4) (hS : pnS < 2 ^ 62) (hC : pnC < 2 ^ 62) :
    ∃ b, Gen.Py.get_full_packet_number srv pn (Int.ofNat pnS) (Int.ofNat pnC) = .ok b ∧
      Bytes.beNat b = rfcDecode (2 ^ (8 * pn.length)) (2 ^ 62) (if srv then pnS else pnC) (Bytes.beNat pn) := by
  refine ⟨_, Props.Translated.get_full_packet_number_eq_model srv pn pnS pnC hn hS hC, ?_⟩
  have ht := beNat_lt_window pn
  have hL : (if srv then pnS else pnC) < 2 ^ 62 := by split <;> assumption
  generalize (if srv then pnS else pnC) = L at hL ⊢
  have hR := implDecode_lt pn.length L (Bytes.beNat pn) hn hL ht
  rw [← Props.C16.pn_decode_eq_rfc pn.length L _ hn ht]
  by_cases hc : Bytes.beNat pn > L ∧ L = 0
  · rw [if_pos hc, implDecode, if_pos hc]
  · rw [if_neg hc, beNat_ofNatBE 8 _ hR]

/-- C16, consequence for the AEAD nonce, on the translated code: every packet number the sender was allowed to truncate
    to `n` bytes (RFC 9000 §17.1: within half a window of largest+1) is recovered by `get_full_packet_number` from its `n`
    low bytes. -/
theorem get_full_packet_number_window (srv : Bool) (n pnum pnS pnC : Nat)
    (hn : 1 ≤ n ∧ n ≤ 4) (hS : pnS < 2 ^ 62) (hC : pnC < 2 ^ 62)
    (hlo : (if srv then pnS else pnC) + 1 < pnum + 2 ^ (8 * n) / 2)
    (hhi : pnum < (if srv then pnS else pnC) + 1 + 2 ^ (8 * n) / 2)
    (hpn : pnum + 2 ^ (8 * n) < 2 ^ 62) :
    ∃ b, Gen.Py.get_full_packet_number srv (Bytes.ofNatBE n (pnum % 2 ^ (8 * n))) (Int.ofNat pnS) (Int.ofNat pnC) = .ok b ∧
      Bytes.beNat b = pnum := by
  have hlen : (Bytes.ofNatBE n (pnum % 2 ^ (8 * n))).length = n := Bytes.ofNatBE_length _ _
  have hp : 0 < 2 ^ (8 * n) := Nat.pow_pos (by omega)
  have hval : Bytes.beNat (Bytes.ofNatBE n (pnum % 2 ^ (8 * n))) = pnum % 2 ^ (8 * n) := by
    apply beNat_ofNatBE
    rw [show (256 : Nat) = 2 ^ 8 by rfl, ← Nat.pow_mul]
    exact Nat.mod_lt _ hp
  obtain ⟨b, h1, h2⟩ := get_full_packet_number_eq_rfc srv (Bytes.ofNatBE n (pnum % 2 ^ (8 * n))) pnS pnC
    (by rw [hlen]; exact hn) hS hC
  refine ⟨b, h1, ?_⟩
  rw [h2, hlen, hval, ← Props.C16.pn_decode_eq_rfc n _ _ hn (Nat.mod_lt _ hp)]
  exact Props.C16.pn_decode_window n _ pnum hn hlo hhi hpn

/-- Python `QuicSession.set_largest_packet_number` (as translated), on ANY bytes and ANY table entries: the entry of the
    packet's direction becomes the MAXIMUM of the old entry and the number the bytes encode; the other direction's entry
    is returned unchanged (and the method writes nothing else: the result record has these two fields only). -/
theorem set_largest_packet_number_is_max (srv : Bool) (b : Bytes) (pnS pnC : Nat) :
    Gen.Py.set_largest_packet_number b srv (Int.ofNat pnS) (Int.ofNat pnC) =
      { pn_server := if srv then Int.ofNat (max pnS (Bytes.beNat b)) else Int.ofNat pnS,
        pn_client := if srv then Int.ofNat pnC else Int.ofNat (max pnC (Bytes.beNat b)) } := by
  rw [Props.Translated.set_largest_packet_number_update]
  simp only [Props.C16.implUpdate_eq_max]

/-- `pn_entry_is_max` / `pn_space_isolation` of C16 on the translated code: decoding a packet with `get_full_packet_number`
    and storing its result with `set_largest_packet_number` (what `decrypt_packet` does after the AEAD check) leaves in the
    entry of the packet's direction the maximum of the old entry and the RFC 9000 A.3 packet number, and does not touch
    the other direction's entry. The packet-number space is the table key, see `spaces_on_code`. -/
theorem decode_then_store_is_max (srv : Bool) (pn b : Bytes) (pnS pnC : Nat)
    (hn : 1 ≤ pn.length ∧ pn.length ≤ 4) (hS : pnS < 2 ^ 62) (hC : pnC < 2 ^ 62)
    (hb : Gen.Py.get_full_packet_number srv pn (Int.ofNat pnS) (Int.ofNat pnC) = .ok b) :
    Gen.Py.set_largest_packet_number b srv (Int.ofNat pnS) (Int.ofNat pnC) =
      { pn_server := if srv then Int.ofNat (max pnS (rfcDecode (2 ^ (8 * pn.length)) (2 ^ 62) pnS (Bytes.beNat pn)))
                     else Int.ofNat pnS,
        pn_client := if srv then Int.ofNat pnC
                     else Int.ofNat (max pnC (rfcDecode (2 ^ (8 * pn.length)) (2 ^ 62) pnC (Bytes.beNat pn))) } := by
  obtain ⟨b', h1, h2⟩ := get_full_packet_number_eq_rfc srv pn pnS pnC hn hS hC
  rw [hb] at h1
  cases Except.ok.inj h1
  rw [set_largest_packet_number_is_max, h2]
  cases srv <;> simp only [Bool.false_eq_true, if_false, if_true]

/-- "Separately per packet-number space", on the translated tables: `PACKET_TYPE_MAP` gives every packet type that carries
    a packet number a key that is present with value 0 in both initial tables (no KeyError, start at 0); 0-RTT and 1-RTT
    share their key (RFC 9000 §12.3: one application-data space), Initial, Handshake and application data have three
    different keys; Retry and Version Negotiation have none. -/
theorem spaces_on_code :
    (∀ t ∈ [Quic.PType.initial, .handshake, .rtt0, .rtt1],
      (tableGet Gen.Py.PACKET_TYPE_MAP t).bind (tableGet Gen.Py.packet_number_server_init) = some 0 ∧
      (tableGet Gen.Py.PACKET_TYPE_MAP t).bind (tableGet Gen.Py.packet_number_client_init) = some 0) ∧
    tableGet Gen.Py.PACKET_TYPE_MAP .rtt0 = tableGet Gen.Py.PACKET_TYPE_MAP .rtt1 ∧
    tableGet Gen.Py.PACKET_TYPE_MAP .initial ≠ tableGet Gen.Py.PACKET_TYPE_MAP .handshake ∧
    tableGet Gen.Py.PACKET_TYPE_MAP .initial ≠ tableGet Gen.Py.PACKET_TYPE_MAP .rtt1 ∧
    tableGet Gen.Py.PACKET_TYPE_MAP .handshake ≠ tableGet Gen.Py.PACKET_TYPE_MAP .rtt1 ∧
    tableGet Gen.Py.PACKET_TYPE_MAP .retry = none ∧ tableGet Gen.Py.PACKET_TYPE_MAP .versionNeg = none := by
  decide +kernel

-- Non-vacuity: concrete inputs meeting the hypotheses (RFC 9000 A.3's own example and both other A.3 branches).
example : (1 ≤ ([0x9b, 0x32] : Bytes).length ∧ ([0x9b, 0x32] : Bytes).length ≤ 4) ∧ 0xa82f30ea < 2 ^ 62 ∧ 0 < 2 ^ 62 := by
  decide +kernel
example : Gen.Py.get_full_packet_number true [0x9b, 0x32] (Int.ofNat 0xa82f30ea) (Int.ofNat 0) =
    .ok [0, 0, 0, 0, 0xa8, 0x2f, 0x9b, 0x32] := by decide +kernel
example : rfcDecode (2 ^ (8 * 2)) (2 ^ 62) 0xa82f30ea (Bytes.beNat [0x9b, 0x32]) = 0xa82f9b32 := by decide +kernel
example : Gen.Py.get_full_packet_number false [0x01] (Int.ofNat 7) (Int.ofNat 255) = .ok [0, 0, 0, 0, 0, 0, 1, 1] := by
  decide +kernel                                                                    -- candidate + window
example : Gen.Py.get_full_packet_number false [0xff] (Int.ofNat 7) (Int.ofNat 256) = .ok [0, 0, 0, 0, 0, 0, 0, 0xff] := by
  decide +kernel                                                                    -- candidate - window
-- `get_full_packet_number_window`: pnum 0xa82f9b32 truncated to 2 bytes against largest 0xa82f30ea
example : (if true then 0xa82f30ea else 0) + 1 < 0xa82f9b32 + 2 ^ (8 * 2) / 2 ∧
    0xa82f9b32 < (if true then 0xa82f30ea else 0) + 1 + 2 ^ (8 * 2) / 2 ∧ 0xa82f9b32 + 2 ^ (8 * 2) < 2 ^ 62 ∧
    Bytes.ofNatBE 2 (0xa82f9b32 % 2 ^ (8 * 2)) = [0x9b, 0x32] := by decide +kernel
-- `decode_then_store_is_max`: a reordered (older) packet leaves the entry, a newer one raises it
example : Gen.Py.set_largest_packet_number [0, 0, 0, 0, 0xa8, 0x2f, 0x9b, 0x32] true (Int.ofNat 0xa82f30ea) (Int.ofNat 3) =
      { pn_server := 0xa82f9b32, pn_client := 3 } ∧
    Gen.Py.set_largest_packet_number [0x07] false (Int.ofNat 5) (Int.ofNat 9) = { pn_server := 5, pn_client := 9 } := by
  decide +kernel

end TLX.OnCode.C16
