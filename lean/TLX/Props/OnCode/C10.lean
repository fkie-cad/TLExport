/-
C10 ON THE CODE — the port theorems of `Props/C10.lean` (`server_role`, `exported_ports`, `exported_ports_quic`) restated about
the definitions REGENERATED from the Python source of the tree under test (`TLX/Gen/Translated/Ports.lean`:
`Session.set_client_and_server_ports` of tlexport/session.py, `OutputBuilder.__init__` of tlexport/output_builder.py,
`QUICOutputbuilder.__init__` of tlexport/quic/quic_output_builder.py).

The statements mention only `Gen.Py.…`, the arguments and plain values (`Option.getD`): the documented behaviour is simple
enough to be written out directly. The proofs go through `Props/Translated/Ports.lean` (`…_eq_model`) and unfold the
model's `rolesOf` / `exportedServerPort`. No hypotheses remained. (How `-p`/`-m` are parsed into `server_ports`,
`portmap`, `keep_original_ports` is the other half of C10: `Props.C10.server_ports_effective`, `keep_iff_m_absent`,
`documented_defaults`.)
-/
import TLX.Props.Translated.Ports
import TLX.Props.C10
namespace TLX.OnCode.C10
open TLX TLX.PyRt

/-- `server_role` on the translated code: Python `set_client_and_server_ports` makes the SENDER of the flow's first packet
    the server exactly when its source port is a server port (so also when both ports are), and the receiver otherwise;
    IP address, port and MAC address of each side are assigned together and never altered. -/
theorem server_role (ports : List Int) (v6 : Bool) (sip dip : Bytes) (sport dport : Nat) (macSrc macDst : Bytes) :
    ((sport : Int) ∈ ports →
      Gen.Py.set_client_and_server_ports ports v6 sip dip sport dport macSrc macDst =
        { ipv6 := v6, server_ip := sip, server_port := sport, server_mac_addr := macSrc,
          client_ip := dip, client_port := dport, client_mac_addr := macDst }) ∧
    ((sport : Int) ∉ ports →
      Gen.Py.set_client_and_server_ports ports v6 sip dip sport dport macSrc macDst =
        { ipv6 := v6, server_ip := dip, server_port := dport, server_mac_addr := macDst,
          client_ip := sip, client_port := sport, client_mac_addr := macSrc }) := by
  have h := Props.Translated.set_client_and_server_ports_eq_model ports
    ⟨.tcp, ⟨sip, sport⟩, ⟨dip, dport⟩, [], true, 0⟩ v6 macSrc macDst
  simp only [MainLoop.rolesOf] at h
  constructor
  · intro hs
    rw [h]; simp [hs]
  · intro hs
    rw [h]; simp [hs]

/-- … hence for a flow that starts a session at all (destination or source port is a server port) the port recorded as
    the server's is a server port. -/
theorem server_port_is_server_port (ports : List Int) (v6 : Bool) (sip dip : Bytes) (sport dport : Nat)
    (macSrc macDst : Bytes) (h : (dport : Int) ∈ ports ∨ (sport : Int) ∈ ports) :
    ((Gen.Py.set_client_and_server_ports ports v6 sip dip sport dport macSrc macDst).server_port : Int) ∈ ports := by
  by_cases hs : (sport : Int) ∈ ports
  · rw [(server_role ports v6 sip dip sport dport macSrc macDst).1 hs]; exact hs
  · rw [(server_role ports v6 sip dip sport dport macSrc macDst).2 hs]
    exact h.resolve_right hs

/-- `exported_ports` on the translated code, TCP builder: Python `OutputBuilder.__init__` never raises; without `-m`
    (`keep_original_ports`) the exported server port is the original one, with `-m` it is the mapped port for ports listed
    in the map and the fallback 8080 for others; the client port is never changed. -/
theorem exported_ports (sp cp : Nat) (portmap : Nat → Option Nat) :
    Gen.Py.output_builder_init sp cp portmap true =
      .ok () { server_port_ := sp, client_port_ := cp, default_port := 8080, server_seq := 1, client_seq := 1 } ∧
    Gen.Py.output_builder_init sp cp portmap false =
      .ok () { server_port_ := (portmap sp).getD 8080, client_port_ := cp, default_port := 8080,
               server_seq := 1, client_seq := 1 } := by
  rw [Props.Translated.output_builder_init_eq_model, Props.Translated.output_builder_init_eq_model]
  exact ⟨rfl, rfl⟩

/-- `exported_ports_quic` on the translated code: Python `QUICOutputbuilder.__init__` makes the same choice (it honours
    `keep_original_ports`; the code as found did not: `Props.C10.quic_always_maps_counterexample`). -/
theorem exported_ports_quic (sp cp : Nat) (portmap : Nat → Option Nat) :
    Gen.Py.quic_output_builder_init sp cp portmap true =
      .ok () { server_port_ := sp, client_port_ := cp, default_port := 8080 } ∧
    Gen.Py.quic_output_builder_init sp cp portmap false =
      .ok () { server_port_ := (portmap sp).getD 8080, client_port_ := cp, default_port := 8080 } := by
  rw [Props.Translated.quic_output_builder_init_eq_model, Props.Translated.quic_output_builder_init_eq_model]
  exact ⟨rfl, rfl⟩

-- Non-vacuity: client→server and server→client first packets; both ports server ports; mapped, unmapped and kept ports
example : (443 : Int) ∈ [443, 44330] ∧ (5000 : Int) ∉ [443, 44330] := by decide +kernel
example : (Gen.Py.set_client_and_server_ports [443, 44330] false [10, 0, 0, 2] [10, 0, 0, 1] 5000 443 [2] [1]).server_port = 443 ∧
    (Gen.Py.set_client_and_server_ports [443, 44330] false [10, 0, 0, 1] [10, 0, 0, 2] 443 5000 [1] [2]).server_ip = [10, 0, 0, 1] ∧
    (Gen.Py.set_client_and_server_ports [443, 44330] false [10, 0, 0, 1] [10, 0, 0, 2] 443 44330 [1] [2]).server_port = 443 := by
  decide +kernel
example : Gen.Py.output_builder_init 443 5000 (fun k => if k = 443 then some 8443 else none) false =
    .ok () { server_port_ := 8443, client_port_ := 5000, default_port := 8080, server_seq := 1, client_seq := 1 } ∧
    Gen.Py.output_builder_init 444 5000 (fun k => if k = 443 then some 8443 else none) false =
    .ok () { server_port_ := 8080, client_port_ := 5000, default_port := 8080, server_seq := 1, client_seq := 1 } ∧
    Gen.Py.quic_output_builder_init 443 5000 (fun _ => none) true =
    .ok () { server_port_ := 443, client_port_ := 5000, default_port := 8080 } := by decide +kernel

end TLX.OnCode.C10
