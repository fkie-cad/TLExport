/-
C11 ON THE CODE — the per-packet theorems of `Props/C11.lean` restated about the definitions REGENERATED from the Python
source of the tree under test (`TLX/Gen/Translated/Checksum.lean`: `ones_complement_checksum`, `calculate_checksum_udp`,
`calculate_checksum_tcp`, tlexport/checksums.py).

No statement below mentions the hand-written model (`Checksum.check`, `onesComplementChecksum`, `implFold`): only
`Gen.Py.…`, the independent RFC 1071 / RFC 768 / RFC 9293 receiver of `TLX/Spec/Rfc1071.lean` (`words`, `ocSum`,
`verdict`) and byte encodings (`Bytes.ofNatBE`, `Bytes.slice`). The proofs compose `Props/Translated/Checksum.lean`
(`…_eq_model`) with `Props/C11.lean`.

Hypotheses that remain, spelled out (they are `Lemmas.OnesComplement.Dissected` and the side conditions of the
`_eq_model` theorems): the arguments are what the call site reads from a dissected packet — addresses of even length
(4 or 16 bytes), a segment containing the checksum field whose length fits the IP length field and is passed as `l4_len`,
`ip_p` the transport's protocol number, and `l4_sum` the number in the segment's two checksum bytes (dpkt parsed it from
them). UDP over IPv4 without a checksum (field zero) is excluded as in C11.
-/
import TLX.Props.Translated.Checksum
import TLX.Props.C11
namespace TLX.OnCode.C11
open TLX TLX.PyRt TLX.Spec.Rfc1071 TLX.Lemmas.OnesComplement

/-- Python `ones_complement_checksum` (as translated: pad, 16-bit sum, `while checksum > 0xFFFF` carry fold, complement,
    `to_bytes(2)`) on EVERY byte string returns, without OverflowError, the two-byte complement of the RFC 1071
    one's-complement sum (end-around carry, word by word) of the octets. -/
theorem ones_complement_checksum_eq_rfc1071 (b : Bytes) :
    Gen.Py.ones_complement_checksum b = .ok (Bytes.ofNatBE 2 (65535 - ocSum (words b))) := by
  rw [Props.Translated.ones_complement_checksum_eq_model, onesComplementChecksum_eq, Props.C11.ocSum_eq_fold,
    implFold_eq_norm]
  rfl

/-- C11 per packet, UDP, on the translated code: for IPv4 and IPv6, every segment length (odd or even), payload and value
    of the checksum field, Python `calculate_checksum_udp` returns without an exception, and returns `True` exactly for the
    datagrams an RFC 1071 / RFC 768 receiver accepts (a zero field over IPv6 is invalid). Excluded by hypothesis: UDP over
    IPv4 sent without a checksum. -/
theorem calculate_checksum_udp_eq_rfc (v6 : Bool) (src dst seg : Bytes) (sum : Nat)
    (hsrc : src.length % 2 = 0) (hdst : dst.length % 2 = 0) (hfield : 8 ≤ seg.length)
    (hlen : seg.length < (if v6 then 4294967296 else 65536))
    (hs : sum < 65536) (hsum : Bytes.ofNatBE 2 sum = Bytes.slice seg 6 8)
    (hnc : verdict .udp v6 src dst seg ≠ .noChecksum) :
    Gen.Py.calculate_checksum_udp v6 src dst 17 seg.length seg sum =
      .ok (decide (verdict .udp v6 src dst seg = .valid)) := by
  rw [Props.Translated.calculate_checksum_udp_eq_model v6 src dst seg 17 sum hs hsum]
  exact congrArg Props.Translated.ofCk (Props.C11.check_eq_rfc_verify .udp v6 src dst seg ⟨hsrc, hdst, hfield, hlen⟩ hnc)

/-- C11 per packet, TCP, on the translated code: for IPv4 and IPv6, every segment length, payload and value of the
    checksum field, Python `calculate_checksum_tcp` returns without an exception, and returns `True` exactly for the
    segments an RFC 1071 receiver accepts. -/
theorem calculate_checksum_tcp_eq_rfc (v6 : Bool) (src dst seg : Bytes) (sum : Nat)
    (hsrc : src.length % 2 = 0) (hdst : dst.length % 2 = 0) (hfield : 18 ≤ seg.length)
    (hlen : seg.length < (if v6 then 4294967296 else 65536))
    (hs : sum < 65536) (hsum : Bytes.ofNatBE 2 sum = Bytes.slice seg 16 18) :
    Gen.Py.calculate_checksum_tcp v6 src dst 6 seg.length seg sum =
      .ok (decide (verdict .tcp v6 src dst seg = .valid)) := by
  rw [Props.Translated.calculate_checksum_tcp_eq_model v6 src dst seg 6 sum hs hsum]
  exact congrArg Props.Translated.ofCk (Lemmas.OnesComplement.check_valid .tcp v6 src dst seg ⟨hsrc, hdst, hfield, hlen⟩)

/-- With `-c` no dissected packet can end the run through the translated checksum functions: both always return a
    Boolean (also for UDP/IPv4 without checksum, which is outside the two theorems above). -/
theorem calculate_checksum_never_raises (v6 : Bool) (src dst seg : Bytes) (sum : Nat)
    (hsrc : src.length % 2 = 0) (hdst : dst.length % 2 = 0) (hlen : seg.length < (if v6 then 4294967296 else 65536))
    (hs : sum < 65536) :
    (8 ≤ seg.length → Bytes.ofNatBE 2 sum = Bytes.slice seg 6 8 →
      ∃ r, Gen.Py.calculate_checksum_udp v6 src dst 17 seg.length seg sum = .ok r) ∧
    (18 ≤ seg.length → Bytes.ofNatBE 2 sum = Bytes.slice seg 16 18 →
      ∃ r, Gen.Py.calculate_checksum_tcp v6 src dst 6 seg.length seg sum = .ok r) := by
  constructor
  · intro hf hsum
    obtain ⟨r, hr⟩ := Props.C11.check_never_raises .udp v6 src dst seg ⟨hsrc, hdst, hf, hlen⟩
    exact ⟨r, (Props.Translated.calculate_checksum_udp_eq_model v6 src dst seg 17 sum hs hsum).trans (congrArg Props.Translated.ofCk hr)⟩
  · exact fun hf hsum => ⟨_, calculate_checksum_tcp_eq_rfc v6 src dst seg sum hsrc hdst hf hlen hs hsum⟩

-- Non-vacuity: a UDP datagram over IPv4 (odd length 9) with the right and with a wrong checksum meets every hypothesis
example : ([10, 0, 0, 1] : Bytes).length % 2 = 0 ∧
    8 ≤ ([0x30, 0x39, 0x01, 0xbb, 0x00, 0x09, 0x58, 0xe5, 0x61] : Bytes).length ∧
    Bytes.ofNatBE 2 0x58e5 = Bytes.slice [0x30, 0x39, 0x01, 0xbb, 0x00, 0x09, 0x58, 0xe5, 0x61] 6 8 ∧
    verdict .udp false [10, 0, 0, 1] [10, 0, 0, 2] [0x30, 0x39, 0x01, 0xbb, 0x00, 0x09, 0x58, 0xe5, 0x61] = .valid ∧
    verdict .udp false [10, 0, 0, 1] [10, 0, 0, 2] [0x30, 0x39, 0x01, 0xbb, 0x00, 0x09, 0x58, 0xe6, 0x61] = .invalid := by
  decide +kernel
example : Gen.Py.calculate_checksum_udp false [10, 0, 0, 1] [10, 0, 0, 2] 17 9 [0x30, 0x39, 0x01, 0xbb, 0x00, 0x09, 0x58, 0xe5, 0x61] 0x58e5 = .ok true ∧
    Gen.Py.calculate_checksum_udp false [10, 0, 0, 1] [10, 0, 0, 2] 17 9 [0x30, 0x39, 0x01, 0xbb, 0x00, 0x09, 0x58, 0xe6, 0x61] 0x58e6 = .ok false := by
  decide +kernel
-- a byte string whose 32-bit sum folds through exactly 0x10000 (the case the pre-repair loop condition lost)
example : Gen.Py.ones_complement_checksum [0xff, 0xff, 0x00, 0x01] = .ok [0xff, 0xfe] ∧
    ocSum (words [0xff, 0xff, 0x00, 0x01]) = 1 := by decide +kernel
-- a minimal TCP segment over IPv4 (20-byte header, no payload), checksum field right, through the translated code
example : verdict .tcp false [10, 0, 0, 1] [10, 0, 0, 2]
      [0x30, 0x39, 0x01, 0xbb, 0, 0, 0, 1, 0, 0, 0, 0, 0x50, 0x02, 0xff, 0xff, 0x69, 0xeb, 0, 0] = .valid ∧
    Bytes.ofNatBE 2 0x69eb =
      Bytes.slice [0x30, 0x39, 0x01, 0xbb, 0, 0, 0, 1, 0, 0, 0, 0, 0x50, 0x02, 0xff, 0xff, 0x69, 0xeb, 0, 0] 16 18 := by decide +kernel
example : Gen.Py.calculate_checksum_tcp false [10, 0, 0, 1] [10, 0, 0, 2] 6 20
    [0x30, 0x39, 0x01, 0xbb, 0, 0, 0, 1, 0, 0, 0, 0, 0x50, 0x02, 0xff, 0xff, 0x69, 0xeb, 0, 0] 0x69eb = .ok true := by
  decide +kernel

end TLX.OnCode.C11
