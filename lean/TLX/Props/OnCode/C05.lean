/-
C05 ON THE CODE (framing part) — what `Props/C05.lean` needs of the last step of `Session.extract_server_buf` /
`extract_client_buf` (tlexport/session.py, everything from `index = 0` on), stated about the definitions REGENERATED from the
Python source (`TLX/Gen/Translated/Reasm2.lean`: `extract_server_frame`, `extract_client_frame`) against the independent
TLS framing specification `TLX/Spec/TlsFraming.lean` (`frame`, `WholeRecords`).

Only this fragment of the reassembly is stated here: the translator regenerates `extract_*_buf` in pieces (sort keys, head
test, gap test, framing: groups Reasm and Reasm2) and the headline `reassembly_exact_*` theorems of C05 are about their
composition over a whole capture, which exists only as the hand-written `Reassembly.run`; they stay at model level.
The statements mention `Gen.Py.…`, `Spec.TlsFraming.frame` / `WholeRecords`, and the packet record `Reassembly.Seg`
(id, sequence number, payload — the translator's own packet type). The one hypothesis: the buffered payloads are whole
records.
-/
import TLX.Props.Translated.Reasm2
import TLX.Props.C05
namespace TLX.OnCode.C05
open TLX TLX.PyRt TLX.Reassembly TLX.Spec.TlsFraming TLX.Props.Translated

private theorem flush_whole (buf : List Seg) (hw : WholeRecords ((buf.map (·.data)).flatten)) :
    ∃ rs, flush buf = some rs ∧ rs.map (·.1) = frame ((buf.map (·.data)).flatten) := by
  have h := Lemmas.Framing.flush_fst buf
  rw [show bufData buf = (buf.map (·.data)).flatten from rfl, Lemmas.Framing.scanD_of_whole _ hw] at h
  cases hf : flush buf with
  | none => rw [hf] at h; simp at h
  | some rs => rw [hf] at h; exact ⟨rs, rfl, by simpa using h⟩

private theorem binary_of (l l' : List Gen.Py.TlsRecordObj) (rs : List Rec) (h : l.map ofObj = l'.map ofObj ++ rs) :
    l.map (·.binary) = l'.map (·.binary) ++ rs.map (·.1) := by
  have := congrArg (List.map (·.1)) h
  rwa [List.map_append, List.map_map, List.map_map] at this

/-- The framing part of Python `extract_server_buf` (as translated; both `while` loops included) on a buffer whose payloads,
    concatenated, are a stream of whole TLS records: it does not raise, appends to `server_tls_records` EXACTLY the records
    of that stream (RFC 5246 §6.2.1 / RFC 8446 §5.1 framing: 5-byte header, length field) in order, empties the packet
    buffer and sets the next expected sequence number to `(base + len) % 2^32`. -/
theorem extract_server_frame_whole_records (base : Nat) (buf : List Seg) (recs : List Gen.Py.TlsRecordObj)
    (next : Option Nat) (hw : WholeRecords ((buf.map (·.data)).flatten)) :
    ∃ st, Gen.Py.extract_server_frame base buf recs next = .ok () st ∧
      st.packet_buffer = [] ∧
      st.tls_records.map (·.binary) = recs.map (·.binary) ++ frame ((buf.map (·.data)).flatten) ∧
      st.next_seq = some ((base + ((buf.map (·.data)).flatten).length) % 2 ^ 32) := by
  obtain ⟨rs, hf, hrs⟩ := flush_whole buf hw
  obtain ⟨st, h1, h2, h3, h4⟩ := extract_server_frame_eq_model base buf recs next
  rw [hf] at h2 h3 h4
  exact ⟨st, h1, h2, hrs ▸ binary_of _ _ _ h3, h4⟩

/-- The same for the client direction (`extract_client_buf`). -/
theorem extract_client_frame_whole_records (base : Nat) (buf : List Seg) (recs : List Gen.Py.TlsRecordObj)
    (next : Option Nat) (hw : WholeRecords ((buf.map (·.data)).flatten)) :
    ∃ st, Gen.Py.extract_client_frame base buf recs next = .ok () st ∧
      st.packet_buffer = [] ∧
      st.tls_records.map (·.binary) = recs.map (·.binary) ++ frame ((buf.map (·.data)).flatten) ∧
      st.next_seq = some ((base + ((buf.map (·.data)).flatten).length) % 2 ^ 32) := by
  obtain ⟨rs, hf, hrs⟩ := flush_whole buf hw
  obtain ⟨st, h1, h2, h3, h4⟩ := extract_client_frame_eq_model base buf recs next
  rw [hf] at h2 h3 h4
  exact ⟨st, h1, h2, hrs ▸ binary_of _ _ _ h3, h4⟩

-- Non-vacuity: two segments across the wrap of the sequence space, the first record spans both
example : WholeRecords (([⟨1, 4294967290, [0x17, 3, 3, 0, 2, 9]⟩, ⟨2, 0, [8, 0x15, 3, 3, 0, 0]⟩] : List Seg).map (·.data)).flatten ∧
    frame (([⟨1, 4294967290, [0x17, 3, 3, 0, 2, 9]⟩, ⟨2, 0, [8, 0x15, 3, 3, 0, 0]⟩] : List Seg).map (·.data)).flatten =
      [[0x17, 3, 3, 0, 2, 9, 8], [0x15, 3, 3, 0, 0]] := by
  simp [WholeRecords, frame, hdrLen]
example : (match Gen.Py.extract_server_frame 4294967290 [⟨1, 4294967290, [0x17, 3, 3, 0, 2, 9]⟩, ⟨2, 0, [8, 0x15, 3, 3, 0, 0]⟩] [] none with
    | .ok () st => (st.tls_records.map (·.binary), st.packet_buffer.length, st.next_seq)
    | _ => ([], 99, none)) = ([[0x17, 3, 3, 0, 2, 9, 8], [0x15, 3, 3, 0, 0]], 0, some 6) := by decide +kernel

end TLX.OnCode.C05
