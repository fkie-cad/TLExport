/-
C09 ON THE CODE — the key-log theorems of `Props/C09.lean` restated about the definitions REGENERATED from the Python source
of the tree under test (`TLX/Gen/Translated/Keylog.lean`: `get_keys_from_string`, `get_key_from_line`, `Key.__init__` of
tlexport/keylog_reader.py).

The statements are about `Gen.Py.KL.get_keys_from_string (reOf hx)` / `get_key_from_line (reOf hx)`: `re.match` of the
compiled pattern is an external call of the translation and `KLog.reOf hx` binds it to the prefix recogniser that is proved
to accept exactly the language of the pattern read literally (`Props.C09.recogniser_is_pattern`; `hx` = the hex class the
pattern uses, `.any` for the repaired source). The other notions are those of the specification `TLX/Spec/NssKeylog.lean`
(`LooksLikeKey`, `WellFormed`, `Equivalent`, `Consistent`) and plain text operations (`toCRLF`, `universalNewlines`,
`joinLF`). The returned objects are `Keylog.Key` records (label, client random, secret — the three attributes of the Python
`Key`). `keys_invariant_under_delivery_on_code` additionally uses `Keylog.installed`, the model of the SESSION-side
lookups that consume the key list (they are outside this translated group): it says the parsed lists are interchangeable
for every lookup. The proofs compose `Props/Translated/Keylog.lean` with `Props/C09.lean`; no extra hypotheses arose.
-/
import TLX.Props.Translated.Keylog
import TLX.Props.C09
namespace TLX.OnCode.C09
open TLX TLX.PyRt TLX.Keylog TLX.Spec.NssKeylog TLX.Lemmas.Keylog TLX.Gen.Py TLX.Props.Translated.KLog

/-- Python `get_keys_from_string` (as translated) never raises, on any text and for either hex class of the pattern: no
    line that the pattern accepts makes `Key(line)` raise IndexError. -/
theorem get_keys_from_string_total (hx : HexClass) (s : Str) :
    ∃ ks, KL.get_keys_from_string (reOf hx) s = .ok ks :=
  ⟨_, get_keys_from_string_eq_model hx s⟩

/-- Line order / delivery in pieces, on the translated code: cutting a key log at a line boundary and parsing the pieces
    separately gives the same key list in the same order as parsing the whole — which lines travel in the `-s` file and
    which in which DSB is irrelevant. -/
theorem parse_split_at_line_boundary (hx : HexClass) (a b : Str) :
    ∃ ka kb, KL.get_keys_from_string (reOf hx) a = .ok ka ∧ KL.get_keys_from_string (reOf hx) b = .ok kb ∧
      KL.get_keys_from_string (reOf hx) (a ++ 10 :: b) = .ok (ka ++ kb) :=
  ⟨_, _, get_keys_from_string_eq_model hx a, get_keys_from_string_eq_model hx b, by
    rw [get_keys_from_string_eq_model, Props.C09.parse_split_at_line_boundary]⟩

/-- … for any number of pieces (file, DSB₁, DSB₂, …) joined with `"\n"`: parsing the joined text yields the concatenation
    of what each piece yields. -/
theorem parse_pieces_eq_parse_joined (hx : HexClass) (ps : List Str) :
    ∃ kss : List (List Key), kss.length = ps.length ∧
      (∀ i (h : i < ps.length) (h' : i < kss.length), KL.get_keys_from_string (reOf hx) ps[i] = .ok kss[i]) ∧
      KL.get_keys_from_string (reOf hx) (joinLF ps) = .ok kss.flatten := by
  refine ⟨ps.map (getKeysFromString hx), by simp, ?_, ?_⟩
  · intro i h h'
    rw [get_keys_from_string_eq_model, List.getElem_map]
  · rw [get_keys_from_string_eq_model, ← Props.C09.parse_pieces_eq_parse_joined, List.flatMap_def]

/-- CRLF invariance on the translated code: rewriting every `"\n"` as `"\r\n"` (any text, mixed line ends included) does
    not change what `get_keys_from_string` returns. -/
theorem crlf_irrelevant (hx : HexClass) (t : Str) :
    KL.get_keys_from_string (reOf hx) (Props.C09.toCRLF t) = KL.get_keys_from_string (reOf hx) t := by
  rw [get_keys_from_string_eq_model, get_keys_from_string_eq_model, Props.C09.crlf_irrelevant]

/-- Reading the key log through a text-mode file (universal newlines) changes nothing for LF/CRLF files, on the translated
    code. -/
theorem file_text_mode_irrelevant (hx : HexClass) (t : Str) (h : CrOk t) :
    KL.get_keys_from_string (reOf hx) (universalNewlines t) = KL.get_keys_from_string (reOf hx) t := by
  rw [get_keys_from_string_eq_model, get_keys_from_string_eq_model, Props.C09.file_text_mode_irrelevant hx t h]

/-- Comments and foreign lines on the translated code: Python `get_key_from_line` returns `None`, without raising, for
    every line that does not look like a secret line — `#` comments, blank lines, prose, other formats. -/
theorem foreign_lines_ignored (hx : HexClass) (line : Str) (h : ¬ LooksLikeKey line) :
    KL.get_key_from_line (reOf hx) line = .ok none := by
  rw [get_key_from_line_eq_model, Props.C09.foreign_lines_ignored hx line h]

/-- … in particular `#…` comment lines and blank lines. -/
theorem comment_and_blank_ignored (hx : HexClass) (rest : Str) :
    KL.get_key_from_line (reOf hx) (35 :: rest) = .ok none ∧ KL.get_key_from_line (reOf hx) [] = .ok none := by
  rw [get_key_from_line_eq_model, get_key_from_line_eq_model, (Props.C09.comment_and_blank_ignored hx rest).1,
    (Props.C09.comment_and_blank_ignored hx rest).2]
  exact ⟨rfl, rfl⟩

/-- C09 headline on the translated parser (pattern with hex class `[a-fA-F0-9]`, the repaired source): for a session with client
    random `cr`, two key logs that are well formed for the session (every line a secret line, or inert, or for another
    client random; CR only in CRLF), denote the same set of (label, client random, secret) triples — whatever the order, repetition
    (duplicates), comments, line-end style and hex-digit case — and are consistent are both parsed without exception, and
    the two key lists make the session install the same secrets (TLS ≤ 1.2, TLS 1.3 and QUIC lookups alike). -/
theorem keys_invariant_under_delivery_on_code (cr : List Nat) (t₁ t₂ : Str) (wf₁ : WellFormedFor cr t₁)
    (wf₂ : WellFormedFor cr t₂) (heq : EquivalentFor cr t₁ t₂) (hcons : ConsistentFor cr t₁) :
    ∃ k₁ k₂, KL.get_keys_from_string (reOf .any) t₁ = .ok k₁ ∧ KL.get_keys_from_string (reOf .any) t₂ = .ok k₂ ∧
      installed .firstMaster k₁ cr = installed .firstMaster k₂ cr :=
  ⟨_, _, get_keys_from_string_eq_model .any t₁, get_keys_from_string_eq_model .any t₂,
    Props.C09.keys_invariant_under_delivery cr t₁ t₂ wf₁ wf₂ heq hcons⟩

/-! ### non-vacuity: the witnesses of `Props/C09.lean` through the translated code -/

-- two lines in either order, and a decorated / CRLF / duplicated / partly upper-case log with a foreign line
example : (KL.get_keys_from_string (reOf .any) Props.C09.wPlain).map List.length = .ok 2 ∧
    (KL.get_keys_from_string (reOf .any) Props.C09.wSwapped).map List.length = .ok 2 ∧
    (KL.get_keys_from_string (reOf .any) Props.C09.wDecorated).map List.length = .ok 4 := by decide +kernel
example : (KL.get_keys_from_string (reOf .any) Props.C09.wPlain).map (List.map (·.value)) = .ok [[97, 98], [99, 100]] := by
  decide +kernel
-- the hypotheses of `keys_invariant_under_delivery_on_code` hold of the plain and the decorated log (session `wCr`)
-- the classifications are used as they stand: were `ClassifiedFor` unfolded, `lines` would be evaluated on the witness texts
section
attribute [local irreducible] ClassifiedFor
set_option maxRecDepth 8000 in
open Props.C09 in
example : WellFormedFor wCr wPlain ∧ WellFormedFor wCr wDecorated ∧ EquivalentFor wCr wPlain wDecorated ∧
    ConsistentFor wCr wPlain :=
  ⟨wellFormedFor_of_classified cls_L1L2, wellFormedFor_of_classified cls_decorated,
   equivalentFor_of_classified cls_L1L2 cls_decorated (fun tr => by
      simp only [List.mem_cons, List.mem_nil_iff, or_false, reduceCtorEq, false_or, or_self]
      constructor <;> (intro h; rcases h with h | h <;> simp [h])),
   consistentFor_of_classified cls_L1L2 consistent_AB⟩
end
-- a comment line is not a secret line; CrOk holds of a CRLF text
example : KL.get_key_from_line (reOf .any) [35, 32, 99] = .ok none ∧
    (KL.get_key_from_line (reOf .any) Props.C09.wL1U).map Option.isSome = .ok true := by decide +kernel
example : Props.C09.toCRLF [97, 10, 98] = [97, 13, 10, 98] := by decide +kernel

end TLX.OnCode.C09
