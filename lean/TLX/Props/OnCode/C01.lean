/-
C01 ON THE CODE — `unprotect_protect` of `Props/C01.lean` for the four AEAD record-decryption routines that are REGENERATED
from the Python source of the tree under test (`TLX/Gen/Translated/Decrypt.lean`: `Decryptor.decrypt_tls13_aead`,
`decrypt_tls13_stream_cipher`, `decrypt_tls12_aead`, `decrypt_tls12_chacha20` of tlexport/decryptor.py).

Each theorem says: the record an RFC-conforming sender (`Spec.TlsSender.protect`, RFC 5246 §6.2.3.3 / RFC 7905 /
RFC 8446 §5.2–5.3) makes of ANY content type, plaintext and fresh material is decrypted by the TRANSLATED routine to exactly
what the record layer has to deliver, only this direction's state changes, and the sender/receiver relation is re-established.
The routines are methods on the Decryptor object; their state is the generated record `Gen.Py.Dec.St`. What the statements use
besides `Gen.Py.Dec.…` and the sender specification:
 * `Decr.encD d x : Gen.Py.Dec.St` — the Decryptor attributes written as a record `d : RecordLayer.Dec` (keys, IVs, sequence
   numbers per direction, configuration) plus the attributes `x` the AEAD paths never read; it is an attribute-by-attribute
   encoding, it computes nothing;
 * `CfgOk`, `RelDir`, `SeqOk` of `Props/C01.lean`: the constructor arguments select this routine; receiver holds the sender's
   current key / IV / sequence number; sequence number below 2^64 — the hypotheses of the model-level theorem, unchanged;
 * `Decr.aeadOf P`: the external `cipher.decrypt(nonce, data, aad)` of the `cryptography` package bound to the abstract
   primitive `P.aeadOpen` (with the laws `L : SealLaws P`: open ∘ seal = id); `infl`: the (unused here) decompressor.
No model FUNCTION (`Dec.decrypt`, `tls13Aead`, …) occurs in a statement. The three non-AEAD routines (RC4, the two CBC
variants) are not in the translated group; for them C01 stands at model level only.
-/
import TLX.Props.Translated.Decrypt
import TLX.Props.C01
namespace TLX.OnCode.C01
open TLX TLX.PyRt TLX.RecordLayer TLX.Cipher TLX.Gen.Py TLX.Spec.TlsSender TLX.Lemmas.RecLayer TLX.Props.C01
open TLX.Props.Translated.Decr

/-- The conclusion shared by the four theorems, for a translated routine `R` (already applied to the configuration):
    the protected record parses and `R` returns exactly what the record layer has to deliver, in a state that encodes a
    Decryptor `d'` with the same configuration, the same other direction and the relation re-established. -/
def RoundtripOnCode (P : Prims) (L : SealLaws P) (cls : CipherClass) (ver : Bytes) (d : RecordLayer.Dec) (x : DX) (srv : Bool)
    (sd : SDir) (typ : UInt8) (pt : Bytes) (f : Fresh) (R : Rec → Bool → Dec.St → PyRt.Res Dec.St Bytes) : Prop :=
  ∃ r d', Rec.ofRaw (protect P L cls ver sd typ pt f).2 = .ok r ∧
    R r srv (encD d x) = .ok (delivered cls typ pt f) (encD d' x) ∧
    d'.cfg = d.cfg ∧ d'.get (!srv) = d.get (!srv) ∧
    RelDir cls (protect P L cls ver sd typ pt f).1 (d'.get srv)

/-- the model-level round trip carried to a translated routine `R`: the dispatch selects the model routine `Y`, and `R` is `Y` -/
private theorem on_code {P : Prims} {L : SealLaws P} {cls : CipherClass} {ver : Bytes} {d : RecordLayer.Dec} {srv : Bool} {sd : SDir}
    {typ : UInt8} {pt : Bytes} {f : Fresh} {R : Rec → Bool → Dec.St → PyRt.Res Dec.St Bytes} (x : DX)
    (Y : Rec → Py (Bytes × RecordLayer.Dec)) (hm : Roundtrip P L cls ver d srv sd typ pt f)
    (hd : ∀ r, d.decrypt P r srv = lift d (Y r)) (hR : ∀ r, R r srv (encD d x) = resB d x (Y r)) :
    RoundtripOnCode P L cls ver d x srv sd typ pt f R := by
  obtain ⟨r, d', h1, h2, h3⟩ := hm
  refine ⟨r, d', h1, ?_, h3⟩
  rw [hd] at h2
  rw [hR]
  generalize Y r = y at h2 ⊢
  rcases y with e | ⟨p, d''⟩
  · cases h2
  · cases h2; rfl

/-- TLS 1.3 AES-GCM / CCM / CCM_8 on the translated `decrypt_tls13_aead` (nonce = IV xor sequence number, AAD = record
    header, RFC 8446 §5.2–5.3): every protected record is decrypted to its TLSInnerPlaintext, the sequence number advances. -/
theorem decrypt_tls13_aead_unprotect_protect (P : Prims) (L : SealLaws P) (infl : Bytes → Bool → Except Err Bytes)
    (a : Alg) (tl macLen : Nat) (ver : Bytes) (d : RecordLayer.Dec) (x : DX) (srv : Bool) (sd : SDir) (typ : UInt8)
    (pt : Bytes) (f : Fresh)
    (hc : CfgOk (.aead13 a tl) macLen d.cfg) (hr : RelDir (.aead13 a tl) sd (d.get srv)) (hq : SeqOk (.aead13 a tl) sd) :
    RoundtripOnCode P L (.aead13 a tl) ver d x srv sd typ pt f (fun r srv st =>
      Dec.decrypt_tls13_aead (aeadOf P) infl r srv d.cfg.version d.cfg.bulk d.cfg.macLen d.cfg.tagLen d.cfg.blockLen
        d.cfg.etm 0 st) := by
  have hm := unprotect_protect_aead13 P L a tl macLen ver d srv sd typ pt f hc hr hq
  obtain ⟨_, _, ht, hver, _, _⟩ := hc
  exact on_code x _ hm (fun r => dispatch_tls13_aead P r srv d ht hver) (fun r => decrypt_tls13_aead_eq_model P infl d x r srv)

/-- TLS 1.3 ChaCha20-Poly1305 on the translated `decrypt_tls13_stream_cipher` (RFC 8446 §5.2–5.3). -/
theorem decrypt_tls13_stream_cipher_unprotect_protect (P : Prims) (L : SealLaws P)
    (infl : Bytes → Bool → Except Err Bytes) (macLen : Nat) (ver : Bytes) (d : RecordLayer.Dec) (x : DX) (srv : Bool)
    (sd : SDir) (typ : UInt8) (pt : Bytes) (f : Fresh)
    (hc : CfgOk .chacha13 macLen d.cfg) (hr : RelDir .chacha13 sd (d.get srv)) (hq : SeqOk .chacha13 sd) :
    RoundtripOnCode P L .chacha13 ver d x srv sd typ pt f (fun r srv st =>
      Dec.decrypt_tls13_stream_cipher (aeadOf P) infl r srv d.cfg.version d.cfg.bulk d.cfg.macLen d.cfg.tagLen
        d.cfg.blockLen d.cfg.etm 0 st) := by
  have hm := unprotect_protect_chacha13 P L macLen ver d srv sd typ pt f hc hr hq
  obtain ⟨hver, ht, _⟩ := hc
  exact on_code x _ hm (fun r => dispatch_tls13_stream P r srv d ht hver) (fun r => decrypt_tls13_stream_cipher_eq_model P infl d x r srv)

/-- TLS ≤ 1.2 AES-GCM / CCM / CCM_8 on the translated `decrypt_tls12_aead` (explicit 8-byte nonce part, AAD = sequence
    number ‖ type ‖ version ‖ plaintext length, RFC 5246 §6.2.3.3, RFC 5288, RFC 6655); plaintext shorter than 2^16. -/
theorem decrypt_tls12_aead_unprotect_protect (P : Prims) (L : SealLaws P) (infl : Bytes → Bool → Except Err Bytes)
    (a : Alg) (tl macLen : Nat) (ver : Bytes) (hv : ver.length = 2) (d : RecordLayer.Dec) (x : DX) (srv : Bool) (sd : SDir)
    (typ : UInt8) (pt : Bytes) (f : Fresh)
    (hc : CfgOk (.aead12 a tl) macLen d.cfg) (hr : RelDir (.aead12 a tl) sd (d.get srv))
    (hs : SendOk (.aead12 a tl) macLen pt f) (hq : SeqOk (.aead12 a tl) sd) :
    RoundtripOnCode P L (.aead12 a tl) ver d x srv sd typ pt f (fun r srv st =>
      Dec.decrypt_tls12_aead (aeadOf P) infl r srv d.cfg.version d.cfg.bulk d.cfg.macLen d.cfg.tagLen d.cfg.blockLen
        d.cfg.etm 0 st) := by
  have hm := unprotect_protect P L (.aead12 a tl) macLen ver hv d srv sd typ pt f hc hr hs hq
  obtain ⟨hb, ha, ht, hver, _⟩ := hc
  have hcp : d.cfg.bulk ≠ .chachaPoly := by rw [hb]; rcases ha with rfl | rfl <;> decide
  exact on_code x _ hm (fun r => dispatch_tls12_aead P r srv d ht hver hcp) (fun r => decrypt_tls12_aead_eq_model P infl d x r srv)

/-- TLS 1.2 ChaCha20-Poly1305 on the translated `decrypt_tls12_chacha20` (RFC 7905); plaintext shorter than 2^16. -/
theorem decrypt_tls12_chacha20_unprotect_protect (P : Prims) (L : SealLaws P) (infl : Bytes → Bool → Except Err Bytes)
    (macLen : Nat) (ver : Bytes) (hv : ver.length = 2) (d : RecordLayer.Dec) (x : DX) (srv : Bool) (sd : SDir)
    (typ : UInt8) (pt : Bytes) (f : Fresh)
    (hc : CfgOk .chacha12 macLen d.cfg) (hr : RelDir .chacha12 sd (d.get srv))
    (hs : SendOk .chacha12 macLen pt f) (hq : SeqOk .chacha12 sd) :
    RoundtripOnCode P L .chacha12 ver d x srv sd typ pt f (fun r srv st =>
      Dec.decrypt_tls12_chacha20 (aeadOf P) infl r srv d.cfg.version d.cfg.bulk d.cfg.macLen d.cfg.tagLen d.cfg.blockLen
        d.cfg.etm 0 st) := by
  have hm := unprotect_protect P L .chacha12 macLen ver hv d srv sd typ pt f hc hr hs hq
  obtain ⟨hb, hver⟩ := hc
  exact on_code x _ hm (fun r => dispatch_tls12_chacha P r srv d hver hb) (fun r => decrypt_tls12_chacha20_eq_model P infl d x r srv)

/-! ### non-vacuity: Decryptors related to a sender exist for the four classes (toy primitives with the seal laws, concrete
    key material: `Props/C01.lean`, namespace `Ex`), and the side conditions hold of concrete records -/
open Props.C01.Ex in
example : (∃ d, Rel (.aead13 .aesgcm 16) 32 ⟨SDir.init k16 iv12 k16' iv12, SDir.init k16' iv12 k16 iv12⟩ d) ∧
    (∃ d, Rel .chacha13 32 ⟨SDir.init k32 iv12 k32 iv12, SDir.init k32 iv12 k32 iv12⟩ d) ∧
    (∃ d, Rel (.aead12 .aesccm 8) 32 ⟨SDir.init k16 iv4 [] [], SDir.init k16' iv4 [] []⟩ d) ∧
    (∃ d, Rel .chacha12 32 ⟨SDir.init k32 iv12 [] [], SDir.init k32 iv12 [] []⟩ d) :=
  ⟨let ⟨d, _, h⟩ := init_rel_13 Toy.prims (.aead13 .aesgcm 16) rfl 32 128 none false rfl k16 iv12 k16' iv12 k16' iv12 k16 iv12
      (by decide) (by decide) (by decide) (by decide); ⟨d, h⟩,
   let ⟨d, _, h⟩ := init_rel_13 Toy.prims .chacha13 rfl 32 0 (some 16) false trivial k32 iv12 k32 iv12 k32 iv12 k32 iv12
      (by decide) (by decide) (by decide) (by decide); ⟨d, h⟩,
   let ⟨d, _, h⟩ := init_rel_pre13 Toy.prims Toy.laws (.aead12 .aesccm 8) rfl .tls12 (by intro h; cases h) 32 (by decide) 128
      trivial (some 8) false rfl k16 k16' iv4 iv4 (by decide) (by decide); ⟨d, h⟩,
   let ⟨d, _, h⟩ := init_rel_pre13 Toy.prims Toy.laws .chacha12 rfl .tls12 rfl 32 (by decide) 0 trivial (some 16) true trivial
      k32 k32 iv12 iv12 (by decide) (by decide); ⟨d, h⟩⟩
open Props.C01.Ex in
example : SendOk (.aead12 .aesccm 8) 32 hi ⟨[1, 2, 3, 4, 5, 6, 7, 8], [], [], 0⟩ ∧ SendOk .chacha12 32 hi ⟨[], [], [], 0⟩ ∧
    SeqOk (.aead13 .aesgcm 16) (SDir.init k16 iv12 k16' iv12) :=
  ⟨by decide, by decide, by unfold SeqOk; decide⟩

end TLX.OnCode.C01
