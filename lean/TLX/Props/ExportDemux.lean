/-
C04 FOR THE WHOLE PROGRAM, TLS and QUIC, any number of connections, with the separation stated on the CAPTURE.
Theorems about what `run()` hands to the writer (`TLX.Export.framesFrom`, which `exportFile` serialises) and, in section 3,
about capture FILES.

"Connection k alone" is the capture with the frames of the other connections removed: `only keep C` — the
decryption-secrets blocks stay in place and the `-s` file is the same, so every session meets the same key log at the same
moment in both runs (the property says "as if it were the only one in the capture"; it does not remove key-log lines).
NOT covered: a solo run given ONLY its own key-log lines. `ExportInputs.connOut_congr` / `quic_feed_congr` need the two key
logs to answer alike for EVERY client random (`SameView`), which removing the lines of another connection breaks; what is
missing is a congruence in the one client random a session looks up (a statement about `Session` / `Quic.Session`, not about
the loop).

1. TLS over TCP (no hypothesis)  `tls_frames_by_flow`: the TLS part of the output is, flow by flow in order of first
   appearance (`flowHeads`), the TLS part of the capture restricted to that flow; `tls_conn_alone`.
   QUIC  `CaptureSeparated` (Lemmas/ExportDemux): between two sets of datagrams — different 4-tuples; no long-header
   datagram of `B` carries as DCID, and no short-header datagram of `B` starts (bytes 1..) with, a non-empty connection ID
   that the sessions of `A` ALONE ever hold (`EverHolds`: a function of `A`'s datagrams and the key log, not of the merged
   run). `quicSeparated_of_capture` derives the session-state condition `C04.QuicSeparated` from it by induction over the run;
   `Lemmas.ExportDemuxCids.everHolds_sources` bounds what a session can hold by what its own datagrams carry: DCID / SCID of
   the long-header Initial packets dissected from them and the CIDs of NEW_CONNECTION_ID frames in packets it could open —
   nothing else (not the routing DCID, not a Retry SCID as such); hence `SeparatedByContent` (`section Content` at the end of this file: a condition on the
   datagrams' content only) implies `CaptureSeparated` (`captureSeparated_of_content`, `export_demux_content`). `quic_sessions_by_conn`, `quic_frames_by_conn`: for ANY number of mutually
   separated connections (`lab` names the connection of a datagram), connection by connection.
   `export_demux`: the output is the TLS blocks in creation order, then the QUIC blocks in creation order, each block the
   block of the solo run.
2. what is NOT separated (each clause of `CaptureSeparated` is needed):
   * `short`: a non-empty CID of connection A that a short-header datagram of B happens to START WITH (bytes 1..) — A's CID
     need not be a CID of B, nor prefix-related to one; a 1-byte CID is hit by 1 foreign datagram in 256, an n-byte CID by
     2^(-8n). Whole-program witness, kernel-evaluated through the full pipeline: `Ex.prefix_cross_routing`
     (`ExportDemuxEx.lean`; the datagram `OK` of the connection is lost), replayed on the REAL tool with real cryptography:
     harness/export_demux_replay.py. Loop-level: `C04.Ex.quic_cross_routing_by_prefix`, `C04.Ex.quic_route_counterexample`.
   * `long`: equal CIDs in two connections (the DCID of B's long header is a CID A holds).
   * `tuples`: the same 4-tuple (a reused client port; two captures merged): `C04.Ex.quic_cross_routing_by_tuple` — and with
     it every ZERO-LENGTH CID: an empty CID identifies nothing (`C04.empty_dcid_falls_to_tuple`,
     `C04.empty_cid_never_chosen`), such datagrams are routed by the 4-tuple alone, so two connections with zero-length CIDs
     are separated iff their 4-tuples differ.
3. files: `export_demux_file` (the capture file holding only the packet blocks of one connection, any container).
-/
import TLX.Lemmas.ExportDemux
import TLX.Lemmas.ExportDemuxCids
import TLX.Props.ExportInputs2
namespace TLX.Props.ExportDemux
open TLX TLX.MainLoop TLX.Export TLX.Spec.Demux TLX.Lemmas.MainLoop TLX.Lemmas.ExportProps TLX.Lemmas.ExportDemux
open TLX.Props.ExportPropsQuic TLX.QuicPipeline

variable (mask : Quic.Dissect.MaskFn) (H : Crypto.Prims) (P : Cipher.Prims) (info : Nat → Pipeline.Info)

theorem keysOf_only (fk : Option (List Keylog.Key)) (keep : Pkt → Bool) (C : List (Item Keylog.Key)) :
    keysOf fk (only keep C) = keysOf fk C := by simp only [keysOf, dsbOnly_only]

/-- **TLS, any number of connections, no hypothesis.** For EVERY capture (TLS, QUIC, DSBs, junk, interleaved in any way)
    the per-conversation frame blocks of the run are, in order of the first packet of each flow that has a server port at
    one end, the blocks of the capture restricted to that flow. -/
theorem tls_frames_by_flow (o : Opts) (fk : Option (List Keylog.Key)) (C : List (Item Keylog.Key)) :
    tlsFrames H P info o fk C =
      (flowHeads o (tcpView o C)).flatMap fun q => tlsFrames H P info o fk (only (sameFlow q) C) := by
  unfold tlsFrames tlsConvs
  rw [C04.tls_demux_exact, groupByFlow_heads, List.map_flatMap]
  apply flatMap_congr'
  intro q _
  rw [tcpView_only, keysOf_only,
    C04.tls_alone_is_run _ o q _ (fun x hx => (List.mem_filter.mp hx).2)]

/-- `tls_frames_by_flow` for one flow: the capture restricted to the flow of `q` yields at most one conversation — the
    conversation `q` belongs to in the full run, the same object — and its frames. -/
theorem tls_conn_alone (o : Opts) (fk : Option (List Keylog.Key)) (C : List (Item Keylog.Key)) (q : Pkt) :
    tlsConvs H P info o (only (sameFlow q) C) = ((tlsConvs H P info o C).find? (·.matches q)).toList ∧
    tlsFrames H P info o fk (only (sameFlow q) C) =
      ((tlsConvs H P info o C).find? (·.matches q)).toList.map (convFrames H P info (keysOf fk C)) := by
  have h1 : tlsConvs H P info o (only (sameFlow q) C) = ((tlsConvs H P info o C).find? (·.matches q)).toList := by
    unfold tlsConvs
    rw [tcpView_only, C04.tls_alone_is_run _ o q _ (fun x hx => (List.mem_filter.mp hx).2), C04.tls_session_for]
  refine ⟨h1, ?_⟩
  unfold tlsFrames
  rw [h1, keysOf_only]

section Quic
variable {κ τ ο : Type}

/-- `lab` names the connection a datagram belongs to; every connection is `CaptureSeparated` from all the others -/
def CaptureSeparatedN (M : QuicMachine κ τ ο) (o : Opts) (lab : Pkt → Nat) (V : List (QIn κ)) : Prop :=
  ∀ j, CaptureSeparated M o (cls (fun x : QIn κ => lab x.p) j V) (rest (fun x : QIn κ => lab x.p) j V)

theorem isoN_of_capture (M : QuicMachine κ τ ο) (o : Opts) (lab : Pkt → Nat) (V : List (QIn κ))
    (h : CaptureSeparatedN M o lab V) : IsoN (quicRouter M o) (fun x : QIn κ => lab x.p) V := by
  intro j n s hs x hx hne
  have := quic_iso_of_separated M o (quicSeparated_of_capture M o (h j)) n s hs x
  exact this (List.mem_filter.mpr ⟨hx, by simpa using hne⟩)

/-- the sessions of the whole run are, for every connection `k`, the sessions of the datagrams of `k` alone and those of
    all the other datagrams, interleaved — same objects -/
theorem quic_run_by_conn (M : QuicMachine κ τ ο) (o : Opts) (lab : Pkt → Nat) (V : List (QIn κ))
    (h : CaptureSeparatedN M o lab V) (k : Nat) :
    Merge (quicRun M o [] (cls (fun x : QIn κ => lab x.p) k V)) (quicRun M o [] (rest (fun x : QIn κ => lab x.p) k V))
      (quicRun M o [] V) := by
  simp only [quicRun_eq_router]
  exact Router.run_labelled (isoN_of_capture M o lab V h) k

end Quic

theorem quicSess_only (o : Opts) (fk : Option (List Keylog.Key)) (keep : Pkt → Bool) (C : List (Item Keylog.Key)) :
    quicSess mask H P info o fk (only keep C) =
      quicRun (quicMachine mask H P info) o [] ((quicView o (fk.getD []) C).filter fun x => keep x.p) := by
  unfold quicSess
  rw [quicView_only]

/-- **QUIC sessions, connection by connection.** `lab` assigns every datagram its connection; if the connections are
    mutually `CaptureSeparated`, then for every connection `k` the QUIC sessions of the full run are the sessions of the
    capture restricted to `k` — same roles, same state — and the sessions of the capture without `k`, interleaved. -/
theorem quic_sessions_by_conn (o : Opts) (fk : Option (List Keylog.Key)) (C : List (Item Keylog.Key)) (lab : Pkt → Nat)
    (hsep : CaptureSeparatedN (quicMachine mask H P info) o lab (quicView o (fk.getD []) C)) (k : Nat) :
    Merge (quicSess mask H P info o fk (only (fun p => lab p == k) C))
      (quicSess mask H P info o fk (only (fun p => !(lab p == k)) C)) (quicSess mask H P info o fk C) := by
  rw [quicSess_only, quicSess_only]
  exact quic_run_by_conn _ o lab _ hsep k

/-- the exported frame blocks of mutually separated QUIC connections: the blocks of connection `k` alone stand, intact and
    in order, among the blocks of the full run; the others are the blocks of the capture without `k`. -/
theorem quic_frames_by_conn (o : Opts) (fk : Option (List Keylog.Key)) (C : List (Item Keylog.Key)) (lab : Pkt → Nat)
    (hsep : CaptureSeparatedN (quicMachine mask H P info) o lab (quicView o (fk.getD []) C)) (k : Nat) :
    Merge (quicFrames mask H P info o fk (only (fun p => lab p == k) C))
      (quicFrames mask H P info o fk (only (fun p => !(lab p == k)) C)) (quicFrames mask H P info o fk C) := by
  unfold quicFrames
  exact Props.ExportInputs.merge_map (quic_sessions_by_conn mask H P info o fk C lab hsep k) _

/-- **C04, whole program.** Any capture: TLS connections (any number, any 4-tuples — a flow IS a connection), QUIC
    connections named by `lab` and mutually separated on the capture, DSBs, other traffic, interleaved in any order. What
    `run()` hands to the writer is: the TLS blocks, one per flow in order of first appearance, each the TLS block of the
    capture restricted to that flow; then the QUIC blocks in session-creation order, among which — for every connection
    `k` — the blocks of the capture restricted to `k` stand intact and in order. -/
theorem export_demux (prior : Prior) (args : Args) (o : Opts) (ho : optsOf args = some o) (fk : Option (List Keylog.Key))
    (C : List (Item Keylog.Key)) (lab : Pkt → Nat)
    (hsep : CaptureSeparatedN (quicMachine mask H P info) o lab (quicView o (fk.getD []) C)) :
    framesFrom mask H P prior args fk C info = .ok (
      ((flowHeads o (tcpView o C)).flatMap fun q => tlsFrames H P info o fk (only (sameFlow q) C)).flatten ++
      (quicFrames mask H P info o fk C).flatten) ∧
    (∀ k, Merge (quicFrames mask H P info o fk (only (fun p => lab p == k) C))
      (quicFrames mask H P info o fk (only (fun p => !(lab p == k)) C)) (quicFrames mask H P info o fk C)) ∧
    (∀ keep : Pkt → Bool, framesFrom mask H P prior args fk (only keep C) info = .ok (
      (tlsFrames H P info o fk (only keep C)).flatten ++ (quicFrames mask H P info o fk (only keep C)).flatten)) := by
  refine ⟨?_, quic_frames_by_conn mask H P info o fk C lab hsep, fun keep => framesFrom_ok_quic mask H P info prior args fk _ o ho⟩
  rw [framesFrom_ok_quic mask H P info prior args fk C o ho, tls_frames_by_flow]

section Check
variable {κ τ ο : Type}

theorem everHolds_bounded (M : QuicMachine κ τ ο) (o : Opts) (A : List (QIn κ)) (c : Bytes) (h : EverHolds M o A c) :
    ∃ n ∈ List.range (A.length + 1), ∃ s ∈ quicRun M o [] (A.take n), c ∈ M.clientCids s.st ++ M.serverCids s.st := by
  obtain ⟨n, s, hs, hc⟩ := h
  obtain ⟨m, hm, e⟩ := take_bounded A n
  rw [e] at hs
  exact ⟨m, hm, s, hs, List.mem_append.mpr hc⟩

theorem captureSeparated_of_check (M : QuicMachine κ τ ο) (o : Opts) (A B : List (QIn κ))
    (ht : ∀ a ∈ A, ∀ b ∈ B, sameFlow a.p b.p = false)
    (hc : ∀ n ∈ List.range (A.length + 1), ∀ s ∈ quicRun M o [] (A.take n),
      ∀ c ∈ M.clientCids s.st ++ M.serverCids s.st, c ≠ [] →
        ∀ b ∈ B, b.h.dcid ≠ c ∧ (b.h = .short → ¬ c <+: b.p.payload.drop 1)) : CaptureSeparated M o A B := by
  refine ⟨ht, ?_, ?_⟩
  · intro b hb d v hd hne hev
    obtain ⟨n, hn, s, hs, hcs⟩ := everHolds_bounded M o A d hev
    have := (hc n hn s hs d hcs hne b hb).1
    rw [hd] at this
    exact this rfl
  · intro b hb hsh c hne hev hp
    obtain ⟨n, hn, s, hs, hcs⟩ := everHolds_bounded M o A c hev
    exact (hc n hn s hs c hcs hne b hb).2 hsh hp

theorem captureSeparatedN_of_check (M : QuicMachine κ τ ο) (o : Opts) (lab : Pkt → Nat) (V : List (QIn κ))
    (h : ∀ x ∈ V, CaptureSeparated M o (cls (fun x : QIn κ => lab x.p) (lab x.p) V) (rest (fun x : QIn κ => lab x.p) (lab x.p) V)) :
    CaptureSeparatedN M o lab V := by
  intro j
  by_cases hj : ∃ x ∈ V, lab x.p = j
  · obtain ⟨x, hx, rfl⟩ := hj
    exact h x hx
  · have : cls (fun x : QIn κ => lab x.p) j V = [] := by
      simp only [cls, List.filter_eq_nil_iff]
      intro x hx hl
      exact hj ⟨x, hx, by simpa using hl⟩
    rw [this]
    refine ⟨fun a ha _ _ => absurd ha (by simp), ?_, ?_⟩
    · intro b _ d v _ _ ⟨n, s, hs, _⟩; rw [List.take_nil, quicRun_nil] at hs; cases hs
    · intro b _ _ c _ ⟨n, s, hs, _⟩; rw [List.take_nil, quicRun_nil] at hs; cases hs
end Check
section Check2
variable {κ τ ο : Type}

/-- the finite check as a Boolean (for `decide`) -/
def sepCheck (M : QuicMachine κ τ ο) (o : Opts) (A B : List (QIn κ)) : Bool :=
  (A.all fun a => B.all fun b => !sameFlow a.p b.p) &&
  (List.range (A.length + 1)).all fun n => (quicRun M o [] (A.take n)).all fun s =>
    (M.clientCids s.st ++ M.serverCids s.st).all fun c => c.isEmpty ||
      B.all fun b => (b.h.dcid != c) && (b.h != .short || !(c.isPrefixOf (b.p.payload.drop 1)))

theorem captureSeparated_of_sepCheck (M : QuicMachine κ τ ο) (o : Opts) (A B : List (QIn κ))
    (h : sepCheck M o A B = true) : CaptureSeparated M o A B := by
  simp only [sepCheck, Bool.and_eq_true, List.all_eq_true, Bool.not_eq_true', Bool.or_eq_true, bne_iff_ne, ne_eq,
    List.isEmpty_iff] at h
  refine captureSeparated_of_check M o A B h.1 ?_
  intro n hn s hs c hc hne b hb
  rcases h.2 n hn s hs c hc with h0 | h0
  · exact absurd h0 hne
  · obtain ⟨h1, h2⟩ := h0 b hb
    refine ⟨h1, fun hsh hp => ?_⟩
    rcases h2 with h2 | h2
    · exact h2 hsh
    · rw [← List.isPrefixOf_iff_prefix] at hp
      rw [hp] at h2; cases h2
end Check2

section Files
open TLX.Props.ExportInputs TLX.Props.ExportInputs2 TLX.Ingest
open TLX.Spec.Containers (Zip)

/-- what `only keep` does to one item -/
def itemKeep (keep : Pkt → Bool) : Item Keylog.Key → Bool
  | .dsb _ => true
  | .frame p => keep p

/-- choosing packet blocks of the file (`keepIt`, on what the reader yields) that are the frames `keep` chooses -/
theorem keptOf_only (keepIt : Container.Item → Bool) (keep : Pkt → Bool) (its : List Container.Item) :
    ∀ X : List (Item Keylog.Key), X.length = its.length → (∀ ix ∈ its.zip X, keepIt ix.1 = itemKeep keep ix.2) →
      keptOf keepIt its X = only keep X := by
  induction its with
  | nil => intro X hl _; cases X with | nil => rfl | cons _ _ => simp at hl
  | cons it its ih =>
    intro X hl h
    cases X with
    | nil => simp at hl
    | cons x X =>
      have h0 := h (it, x) (by simp)
      have ht := ih X (by simpa using hl) (fun ix hix => h ix (by simp [hix]))
      simp only [keptOf, h0, ht]
      cases x with
      | dsb k => simp [itemKeep, only]
      | frame p => simp only [itemKeep, only_cons_frame]; rfl

/-- **C04, file to file.** `capC`: a capture the run reads to the end (`hC`); `capK`: a capture file — either container —
    whose reader yields just the blocks `keepIt` keeps, namely all secrets blocks and the packet blocks of the frames
    `keep` chooses (`hsel`; e.g. one connection). Then `capK` is read to the end too, and the run on `capK` hands the writer
    EXACTLY what the main loop makes of the items of `capC` restricted by `only keep` (with the time stamps, MAC addresses …
    of `capC`'s table): the renumbering of the packets behind the removed blocks changes nothing. -/
theorem export_demux_file (prior : Prior) (args : Args) (legacy legacy' : Bool) (kl : Option Keylog.Str)
    (capC capK : Bytes) (its : List Container.Item) (keepIt : Container.Item → Bool) (keep : Pkt → Bool)
    (hrC : Container.readPrefix legacy capC = .ok (its, none))
    (hrK : Container.readPrefix legacy' capK = .ok (its.filter keepIt, none))
    (X : List (Item Keylog.Key)) (IS : List (Nat × Pipeline.Info))
    (hC : go Keylog.srcHexClass args.checksumTest 0 its = .ok (X, IS))
    (hsel : ∀ ix ∈ its.zip X, keepIt ix.1 = itemKeep keep ix.2) :
    ∃ XK ISK,
      Ingest.itemsWith Keylog.srcHexClass args.checksumTest legacy capC = .ok (X, IS) ∧
      Ingest.itemsWith Keylog.srcHexClass args.checksumTest legacy' capK = .ok (XK, ISK) ∧
      framesFrom mask H P prior args (fileKeysOf kl) XK (Ingest.lookup ISK) =
        framesFrom mask H P prior args (fileKeysOf kl) (only keep X) (Ingest.lookup IS) := by
  obtain ⟨XK, ISK, g1, g2⟩ := go_filter args.checksumTest keepIt its 0 0 X IS hC
  rw [keptOf_only keepIt keep its X (go_length _ its 0 X IS hC) hsel] at g2
  refine ⟨XK, ISK, ?_, ?_, (framesFrom_alike mask H P _ _ prior args _ g2).symm⟩
  · unfold Ingest.itemsWith; rw [hrC]; simp only [hC]
  · unfold Ingest.itemsWith; rw [hrK]; simp only [g1]

/-- `export_demux_file` as a statement about the two PROGRAM RUNS: the output file of the run on the one-connection capture
    file is the serialisation of the frames the loop makes of the restricted items of the full capture. -/
theorem export_demux_file_run (args : Args) (legacy legacy' : Bool) (kl : Option Keylog.Str)
    (capC capK : Bytes) (its : List Container.Item) (keepIt : Container.Item → Bool) (keep : Pkt → Bool)
    (hrC : Container.readPrefix legacy capC = .ok (its, none))
    (hrK : Container.readPrefix legacy' capK = .ok (its.filter keepIt, none))
    (X : List (Item Keylog.Key)) (IS : List (Nat × Pipeline.Info))
    (hC : go Keylog.srcHexClass args.checksumTest 0 its = .ok (X, IS))
    (hsel : ∀ ix ∈ its.zip X, keepIt ix.1 = itemKeep keep ix.2)
    (hopt : optionsBad (freshState : Prior) args = false) :
    exportFile mask H P args legacy kl capC =
      ExportInputs.finish (framesFrom mask H P freshState args (fileKeysOf kl) X (Ingest.lookup IS)) ∧
    exportFile mask H P args legacy' kl capK =
      ExportInputs.finish (framesFrom mask H P freshState args (fileKeysOf kl) (only keep X) (Ingest.lookup IS)) := by
  obtain ⟨XK, ISK, h1, h2, h3⟩ := export_demux_file mask H P freshState args legacy legacy' kl capC capK its keepIt keep
    hrC hrK X IS hC hsel
  rw [exportFile_stages, exportFile_stages, hopt, h1, h2]
  simp only [Bool.false_eq_true, if_false, h3, and_self]

section Encoder
open TLX.Spec.Containers TLX.Props.C12

/-- the events of the capture whose block `keepIt` keeps -/
def evKeep (v : Variant) (keepIt : Container.Item → Bool) (ev : Ev) : Bool :=
  match scale v ev with
  | some it => keepIt it
  | none => true

/-- `export_demux_file_run` for the independent container encoder: the capture re-encoded with only the chosen connection's
    packet blocks (and all secrets blocks), any container variant: both reader hypotheses are discharged. -/
theorem export_demux_encoded (args : Args) (kl : Option Keylog.Str) (v : Variant) (evs : List Ev)
    (keepIt : Container.Item → Bool) (keep : Pkt → Bool)
    (hwf : v.WF evs) (hwf' : v.WF (evs.filter (evKeep v keepIt)))
    (X : List (Item Keylog.Key)) (IS : List (Nat × Pipeline.Info))
    (hC : go Keylog.srcHexClass args.checksumTest 0 (evs.filterMap (scale v)) = .ok (X, IS))
    (hsel : ∀ ix ∈ (evs.filterMap (scale v)).zip X, keepIt ix.1 = itemKeep keep ix.2)
    (hopt : optionsBad (freshState : Prior) args = false) :
    exportFile mask H P args v.isLegacy kl (encode v evs) =
      ExportInputs.finish (framesFrom mask H P freshState args (fileKeysOf kl) X (Ingest.lookup IS)) ∧
    exportFile mask H P args v.isLegacy kl (encode v (evs.filter (evKeep v keepIt))) =
      ExportInputs.finish (framesFrom mask H P freshState args (fileKeysOf kl) (only keep X) (Ingest.lookup IS)) := by
  obtain ⟨r1, r2⟩ := ExportInputs2.readPrefix_encode_filter v evs keepIt (evKeep v keepIt)
    (fun ev => by unfold evKeep; cases scale v ev <;> rfl) hwf hwf'
  exact export_demux_file_run mask H P args _ _ kl _ _ _ keepIt keep r1 r2 X IS hC hsel hopt

end Encoder

end Files

section Content
open TLX.Lemmas.ExportDemuxCids

/-- **separation of two sets of datagrams by their CONTENT**: different 4-tuples, and every non-empty connection ID that a
    datagram of `A` names (DCID / SCID of a long-header Initial packet in it) or issues (NEW_CONNECTION_ID in a packet of it
    that a session can open) — `TaughtBy` — is neither the DCID of a long-header datagram of `B` nor what a short-header
    datagram of `B` starts with (bytes 1..). No session state of the merged run, and none of `A`'s run either, is mentioned. -/
structure SeparatedByContent (A B : List (QIn Keylog.Key)) : Prop where
  tuples : ∀ a ∈ A, ∀ b ∈ B, sameFlow a.p b.p = false
  long : ∀ b ∈ B, ∀ d v, b.h = .long d v → d ≠ [] → ∀ a ∈ A, ¬ TaughtBy mask H P info a d
  short : ∀ b ∈ B, b.h = .short → ∀ c, c ≠ [] → ∀ a ∈ A, TaughtBy mask H P info a c → ¬ c <+: b.p.payload.drop 1

/-- `SeparatedByContent` implies the separation in terms of what `A`'s sessions hold (`everHolds_sources`: they hold nothing
    else) -/
theorem captureSeparated_of_content (o : Opts) {A B : List (QIn Keylog.Key)}
    (h : SeparatedByContent mask H P info A B) : CaptureSeparated (quicMachine mask H P info) o A B := by
  refine ⟨h.tuples, ?_, ?_⟩
  · intro b hb d v hd hne hev
    obtain ⟨a, ha, ht⟩ := everHolds_sources mask H P info o A d hev
    exact h.long b hb d v hd hne a ha ht
  · intro b hb hsh c hne hev
    obtain ⟨a, ha, ht⟩ := everHolds_sources mask H P info o A c hev
    exact h.short b hb hsh c hne a ha ht

/-- `export_demux` with the hypothesis on the content of the datagrams: connections named by `lab`, each separated by
    content from all the others -/
theorem export_demux_content (prior : Prior) (args : Args) (o : Opts) (ho : optsOf args = some o)
    (fk : Option (List Keylog.Key)) (C : List (Item Keylog.Key)) (lab : Pkt → Nat)
    (hsep : ∀ j, SeparatedByContent mask H P info
      (cls (fun x : QIn Keylog.Key => lab x.p) j (quicView o (fk.getD []) C))
      (rest (fun x : QIn Keylog.Key => lab x.p) j (quicView o (fk.getD []) C))) :
    framesFrom mask H P prior args fk C info = .ok (
      ((flowHeads o (tcpView o C)).flatMap fun q => tlsFrames H P info o fk (only (sameFlow q) C)).flatten ++
      (quicFrames mask H P info o fk C).flatten) ∧
    ∀ k, Merge (quicFrames mask H P info o fk (only (fun p => lab p == k) C))
      (quicFrames mask H P info o fk (only (fun p => !(lab p == k)) C)) (quicFrames mask H P info o fk C) := by
  have := export_demux mask H P info prior args o ho fk C lab (fun j => captureSeparated_of_content mask H P info o (hsep j))
  exact ⟨this.1, this.2.1⟩
end Content

end TLX.Props.ExportDemux
