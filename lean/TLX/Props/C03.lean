/-
C03 (TLS session part) — an undecryptable or damaged flow never aborts the run, and a flow without usable secrets
contributes no application data.

Model: `TLX/Session.lean` (handle_tls_record and everything below it), generic in the decryptor: the theorems hold
for EVERY behaviour of `Decryptor.decrypt` / `update_keys` (any value, `None`, any exception, any state change) and
of `generate_keys` (unknown suite, no secrets, exception, success) — i.e. for wrong secrets, corrupted records,
truncated hellos, records in any order, any bytes.

* `handleRecord_never_raises` / `run_never_raises`: every raise site below `handle_tls_record` is inside one of the
  try/except blocks of the source; no record sequence makes an exception escape (which would abort the whole run,
  bystanders included).
* `gate_closed_no_app`: while `can_decrypt` is false or there is no decryptor, no application-data entry is added.
* `keyless_exports_no_app`: if `generate_keys` never installs a decryptor (missing / partial secrets, unsupported
  suite), the session exports no application data at all, whatever the records are; with metadata off it exports
  nothing.
* `failed_decrypt_exports_nothing`: a record whose decryption raises adds nothing.
The bystander clause (other flows unchanged) is `TLX.Props.C04`: sessions share no state but the read-only key log.
-/
import TLX.Lemmas.Session
namespace TLX.Props.C03
open TLX TLX.Session

variable {δ : Type}

/-- no exception escapes `handle_tls_record`, for every decryptor behaviour, state, record and direction -/
theorem handleRecord_never_raises (O : Ops δ) (exportMeta : Bool) (s : St δ) (r : Rec) (srv : Bool) :
    ∃ s', handleRecordRaw O exportMeta s r srv = .ok s' := ⟨_, handleRecordRaw_eq O exportMeta s r srv⟩

/-- no exception escapes the loop over all records of a session: the run goes on to the next session -/
theorem run_never_raises (O : Ops δ) (exportMeta : Bool) (s : St δ) (rs : List (Rec × Bool)) :
    runRaw O exportMeta s rs = .ok (run O exportMeta s rs) := by
  induction rs generalizing s with
  | nil => rfl
  | cons x rest ih =>
    obtain ⟨r, srv⟩ := x
    simp only [runRaw, run, List.foldl_cons]
    rw [Out.eq_ok (handleRecordRaw_isOk O exportMeta s r srv)]
    exact ih _

def appOf (s : St δ) : List Entry := s.traffic.filter (·.isApp)

/-- only the application-record path adds application data, and only behind the gate: seen without the metadata
    entries, the record is handled as without `-a`, where every other path leaves the traffic alone -/
theorem gate_closed_no_app (O : Ops δ) (m : Bool) (s : St δ) (r : Rec) (srv : Bool)
    (hg : s.canDecrypt = false ∨ s.dec = none) : appOf (handleRecord O m s r srv) = appOf s := by
  have hview : ∀ x : St δ, appOf x = (x.view false id).traffic := fun x => congrArg St.traffic (strip_eq_view x)
  rw [hview, hview, handleRecord_view O false id (fun _ _ _ => rfl) (fun _ => rfl), Bool.and_false]
  have hclosed : ((s.view false id).canDecrypt && (s.view false id).dec.isSome) = false := by
    rcases hg with h | h <;> simp [h]
  refine handleRecord_cases O (fun s' => s'.traffic = (s.view false id).traffic) false _ r srv
    (handshakeRecord_silent ..) ?_ (alertRecord_flags ..).traffic (ccsRecord_flags ..).traffic rfl
  rw [appRecord_closed O _ r srv hclosed]
  rfl

/-- `generate_keys` never installs a decryptor (no / partial secrets, unknown suite, failing derivation) -/
def NeverInstalls (O : Ops δ) : Prop := ∀ v su cr sr e c d, O.genKeys v su cr sr e c ≠ .installed d

theorem serverHelloKeys_dec_none (O : Ops δ) (hO : NeverInstalls O) (s : St δ) (su sr : Bytes) (e : Exts) (c : UInt8)
    (h : s.dec = none) : (serverHelloKeys O s su sr e c).st.dec = none := by
  unfold serverHelloKeys
  cases s.cr with
  | none => exact h
  | some cr =>
    simp only
    cases hg : O.genKeys s.ver su cr sr e c with
    | installed d => exact absurd hg (hO _ _ _ _ _ _ _)
    | _ => exact h

theorem serverHello_dec_none (O : Ops δ) (hO : NeverInstalls O) (s : St δ) (r : Rec) (h : s.dec = none) :
    (serverHello O s r).st.dec = none := by
  unfold serverHello
  simp only
  split
  · exact (latch_flags s).dec.trans h
  · split
    · exact (latch_flags s).dec.trans h
    · exact serverHelloKeys_dec_none O hO _ _ _ _ _
        (((latch_flags s).trans (chooseVersion_flags (latch s) _ _ _)).dec.trans h)

/-- without a decryptor no branch of `handle_tls_record` but the ServerHello's `generate_keys` could install one -/
theorem handleRecord_dec_none (O : Ops δ) (hO : NeverInstalls O) (m : Bool) (s : St δ) (r : Rec) (srv : Bool)
    (h : s.dec = none) : (handleRecord O m s r srv).dec = none := by
  have hpm : ∀ x : St δ, x.dec = none → (pushMeta m x r srv).dec = none := by
    intro x hx; unfold pushMeta; split <;> exact hx
  have hfin : (handshakeFinished O m s r srv).st.dec = none := by unfold handshakeFinished; rw [h]; exact h
  refine handleRecord_cases O (fun s' => s'.dec = none) m s r srv (hpm _ ?_) ?_ (hpm _ ?_) (hpm _ ?_) h
  · refine handshakeRecord_cases O (fun s' => s'.dec = none) m s r srv hfin h ?_ h
    have := serverHello_dec_none O hO s r h
    cases hsh : serverHello O s r <;> (rw [hsh] at this; exact this)
  · rw [appRecord_closed O s r srv (by rw [h]; exact Bool.and_false _)]
    exact h
  · exact (alertRecord_flags s r).dec.trans h
  · exact (ccsRecord_flags s srv).dec.trans h

/-- a flow without usable secrets or with an unsupported suite exports no application data, whatever it carries:
    never ciphertext, never invented bytes -/
theorem keyless_exports_no_app (O : Ops δ) (hO : NeverInstalls O) (m : Bool) (rs : List (Rec × Bool)) :
    appOf (run O m St.init rs) = [] := by
  suffices ∀ s : St δ, s.dec = none → appOf (run O m s rs) = appOf s from this St.init rfl
  induction rs with
  | nil => intro s _; rfl
  | cons x rest ih =>
    intro s hs
    simp only [run, List.foldl_cons]
    have := ih (handleRecord O m s x.1 x.2) (handleRecord_dec_none O hO m s x.1 x.2 hs)
    simp only [run] at this
    rw [this, gate_closed_no_app O m s x.1 x.2 (Or.inr hs)]

/-- a keyless flow with metadata off exports nothing at all -/
theorem keyless_exports_nothing (O : Ops δ) (hO : NeverInstalls O) (rs : List (Rec × Bool)) :
    (run O false St.init rs).traffic = [] := by
  have h : (run O true St.init rs).strip = run O false St.init rs := run_strip O St.init rs
  rw [← h]
  exact keyless_exports_no_app O hO true rs

/-- a record whose decryption raises (wrong key, corrupted bytes, bad MAC/tag, bad padding) adds nothing -/
theorem failed_decrypt_exports_nothing (O : Ops δ) (s : St δ) (r : Rec) (srv : Bool) (d : δ)
    (hd : s.dec = some d) (hfail : (O.decrypt d r srv).2 = none) (h17 : r.typ = some 0x17) :
    (handleRecord O false s r srv).traffic = s.traffic := by
  rw [handleRecord_appData O false s r srv h17, appRecord]
  rcases hdec : O.decrypt d r srv with ⟨d1, res⟩
  rw [hdec] at hfail; simp only at hfail; subst hfail
  split
  · split
    · rw [tryExcept_id_st]; unfold app13; rw [hd]; simp only [hdec]; rfl
    · unfold appLegacy; rw [hd]; simp only [hdec]; rfl
    · rfl
  · rfl

-- Non-vacuity: a decryptor that fails on everything and a key source that never installs
def failing : Ops Unit := ⟨fun d _ _ => (d, none), fun d _ => (d, false), fun _ _ _ _ _ _ => .noSecrets⟩

example : NeverInstalls failing := by intro _ _ _ _ _ _ _ h; cases h

def ch : Rec := ⟨[0x16, 3, 3, 0, 4, 1, 0, 0, 0], [1]⟩
def app : Rec := ⟨[0x17, 3, 3, 0, 2, 9, 9], [2]⟩

example : (run failing true St.init [(ch, false), (app, false)]).traffic.length = 1 := by decide
example : ∃ s', runRaw failing true St.init [(ch, false), (app, true), (ch, true)] = .ok s' := ⟨_, run_never_raises ..⟩

end TLX.Props.C03
