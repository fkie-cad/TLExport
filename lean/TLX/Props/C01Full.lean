/-
C01 FROM FILE TO FILE WITHOUT THE RESTRICTIONS of `Props/C01File2.tls12/13_capture_exact_text` and
`Props/C01Rfc.tls12/13_capture_exact_rfc` (`-c` off, `-a` off, IPv6 without extension headers).

  `tls13_capture_exact_full`, `tls12_capture_exact_full`   for ANY combination of `-a`, `-c`, `-m`, `-p`, over IPv4 or IPv6
        with extension headers, hypotheses in RFC terms (the style of `Props/C01Rfc`):

  `-c`   the connection's data segments carry valid TCP checksums (`CsumValid`: the RFC 1071 receiver of `Spec.Rfc1071`
         accepts the segment under the pseudo-header of the frame's addresses — `Spec.FrameBuild` leaves the checksum
         fields FREE, so this is a hypothesis on the frames, decidable for concrete ones); foreign frames may carry right
         or wrong checksums: a rejected foreign frame changes nothing for this session (`Lemmas.C01Full.flow_filter_c`).
         The verdict bit the tool computes is the RFC 1071 receiver's (`Props.C11.check_eq_rfc_verify` through dpkt's
         dissection: `Lemmas.C01Full.verdict_segX`); the bits reach the main loop with the items of the read loop
         (`ingest_of_capture_c`).
  `-a`   the conclusion is the exact `-a` conversation (`expect12` / `expect13`): each direction's stream is its hello
         record verbatim, then per record in the order sent: clear-text handshake and ChangeCipherSpec records verbatim;
         TLS ≤ 1.2 protected handshake records as plaintext followed by the record as captured; TLS 1.3 protected
         handshake records nothing (their outer type is 23); application data as plaintext
         (`Lemmas.Capstone2.metaStream12/13`). With `-a` the TLS ≤ 1.2 theorem needs the stronger causality `Causal13`
         (ClientHello released first, ServerHello second), as `tls12_connection_meta_exact` does.
  IPv6   `Lemmas.C01Full.IsSegX`: ANY chain of well-formed hop-by-hop / destination options / routing / fragment (offset 0) /
         authentication headers between the IPv6 header and TCP (options headers: `Lemmas.Dissect.extOk_opts`) — EXCEPT
         chains that start with a fragment header and end with another kind (e.g. fragment,
         destination options — the RFC 8200 order): dpkt raises AttributeError there and the run aborts
         (`Props.C12Dissect.Ex.attribute_aborts`); that stays outside.
  Hypotheses that remain beyond `Props/C01Rfc`: with `-c`, the checksum functions do not raise on foreign frames
  (`ForeignC`: they raise only for transport segments of 2^16 bytes or more over IPv4).
  `expect12`, `expect13` and the connection level are in `Props/C01RfcConn.lean`.
-/
import TLX.Props.C01RfcConn
import TLX.Props.C01Rfc
set_option autoImplicit false
namespace TLX.Props.C01Full
open TLX TLX.MainLoop TLX.OutBytes TLX.Export TLX.Props.C01File TLX.Lemmas.BuildBounds TLX.Props.C01File2
open TLX.Lemmas.Pipeline TLX.Props.C01Pipeline
open TLX.Spec.Demux TLX.Lemmas.MainLoop TLX.Dissect TLX.Spec.FrameBuild TLX.Spec.TlsCapture TLX.Props.C12Dissect
open TLX.Cipher TLX.RecordLayer TLX.Spec.TlsSender TLX.Props.C01 TLX.Spec.TlsConnection
open TLX.Lemmas.Capstone TLX.Lemmas.Capstone2 TLX.Spec.TlsFraming TLX.Props.C01Capstone
open TLX.Spec.RfcSuite TLX.Spec.KeySchedules TLX.Lemmas.C01Rfc TLX.Lemmas.C01Full TLX.Lemmas.C01All TLX.Props.C01Rfc
open TLX.Props.C01All (tls12_connection_all)

/-- **C01, TLS 1.3, from file to file, ANY options, IPv4 / IPv6 with extension headers, RFC terms.**
    Beyond `Props.C01Rfc.tls13_capture_exact_rfc`: `-c` on or off (with it: valid TCP checksums on the connection's data
    segments, anything on foreign frames), `-a` on or off (the conclusion is `expect13 args.metadata …`), IPv6 extension
    headers in the connection's segments (`IsSegX`). -/
theorem tls13_capture_exact_full (mask : Quic.Dissect.MaskFn) (H : Crypto.Prims) (hH : H.Lawful) (P : Prims) (L : SealLaws P)
    -- the capture file: bytes written by the independent encoder in ANY container variant, holding the described packets;
    -- the connection's segments over IPv4 or IPv6 WITH extension headers, with `-c` carrying valid TCP checksums
    (fl : Flow) (hne : clientEp fl ≠ serverEp fl) (evs : List CEv) (args : Args)
    (hdesc : DescribedX fl args.checksumTest evs)
    (hnot1 : ∀ e ∈ evs.map CEv.cap, Ingest.isMinusOne e.t = false)
    (cv : Spec.Containers.Variant) (cevs : List Spec.Containers.Ev) (hcwf : cv.WF cevs)
    (hitems : cevs.filterMap (Spec.Containers.scale cv) = (evs.map CEv.cap).map CapEv.item)
    -- the options: ANY `-a`, `-c`, `-m`, `-p`; the server port is a server port, the client port is not
    (ls : List (C09Found.FLine × Bool)) (hls : ∀ x ∈ ls, x.1.WF)
    (pm : List (Int × Int)) (ports : List Int)
    (hpm : Options.getPortMap Options.Src.bare args.mArg = .ok pm)
    (hports : Options.serverPorts Options.Src.builtin Options.Src.pDefault args.pArg = .ok ports)
    (hsp : ports.contains (fl.serverPort : Int) = true) (hcp : ports.contains (fl.clientPort : Int) = false)
    (p0 : Pkt) (rest : List Pkt) (hfp : flowPkts fl 0 evs = p0 :: rest)
    -- the connection as sent: hellos per RFC 8446 §4.1
    (t : Transcript) (hch : t.ch.WellFormed) (hsh : t.sh.WellFormed) (hrc : t.rvC.length = 2) (hrs : t.rvS.length = 2)
    (hv : t.ver.length = 2) (hcomp : t.sh.compressionMethod = 0) (hneg : Negotiated t.rvS t.sh .tls13)
    -- the negotiated suite: a code point the tool supports; `sp` is what its IANA name denotes; an AEAD suite
    (haccept : CipherSuite.resolve (Bytes.beNat t.sh.cipherSuite) ≠ none)
    (sp : SuiteSpec) (hsuite : suiteOfCode (Bytes.beNat t.sh.cipherSuite) = some sp)
    (cls : CipherClass) (hcls : cls13 sp = some cls)
    -- the four traffic secrets of the connection, and their lines in the key-log file
    (chts shts cats sats : Bytes)
    (hl1 : HasLine ls labelCHTS (Pipeline.natsOfBytes t.ch.random) (Pipeline.natsOfBytes chts))
    (hl2 : HasLine ls labelSHTS (Pipeline.natsOfBytes t.ch.random) (Pipeline.natsOfBytes shts))
    (hl3 : HasLine ls labelCTS0 (Pipeline.natsOfBytes t.ch.random) (Pipeline.natsOfBytes cats))
    (hl4 : HasLine ls labelSTS0 (Pipeline.natsOfBytes t.ch.random) (Pipeline.natsOfBytes sats))
    (ho1 : OnlySecret ls labelCHTS (Pipeline.natsOfBytes t.ch.random) (Pipeline.natsOfBytes chts))
    (ho2 : OnlySecret ls labelSHTS (Pipeline.natsOfBytes t.ch.random) (Pipeline.natsOfBytes shts))
    (ho3 : OnlySecret ls labelCTS0 (Pipeline.natsOfBytes t.ch.random) (Pipeline.natsOfBytes cats))
    (ho4 : OnlySecret ls labelSTS0 (Pipeline.natsOfBytes t.ch.random) (Pipeline.natsOfBytes sats))
    -- what follows the hellos: RFC 8446 records, protected with the keys of §7.3
    (hsc : Script13 t.cEvs) (hss : Script13 t.sEvs)
    (hokc : ∀ e ∈ t.cEvs, EvOk1 cls (sp.hash.suite H).outLen e)
    (hoks : ∀ e ∈ t.sEvs, EvOk1 cls (sp.hash.suite H).outLen e)
    (hwr : ∀ d, ∀ r ∈ t.records P L cls (snd13 H sp chts shts cats sats) d, WholeRecord r)
    (hlen : budget13 t ≤ seqLimit)
    -- the capture of the connection, sender side; causality on the released records as in the connection capstone
    (hwires : WiresInOrder evs (t.stream P L cls (snd13 H sp chts shts cats sats)))
    (hcausal : Causal13 (connRecs (capInfo (evs.map CEv.cap)) (sessionOf (evs.map CEv.cap) (optsOf args ports pm) p0 rest)))
    -- what the write loop needs (each CAN fail on the real tool: see the header of `Props/C01File2`)
    (hcport : fl.clientPort < 65536) (hsport : fl.serverPort < 65536) (hpmv : ∀ kv ∈ pm, kv.2.toNat < 65536)
    (hbytes : (expect13 args.metadata P L cls t (snd13 H sp chts shts cats sats)).1.length + (expect13 args.metadata P L cls t (snd13 H sp chts shts cats sats)).2.length + 1 < 2 ^ 32)
    (hrec : RecordsFit H P (capInfo (evs.map CEv.cap)) (sessionOf (evs.map CEv.cap) (optsOf args ports pm) p0 rest)
      ((fileKeysOf (some (C09Found.fileText ls))).getD []))
    (hus : ∀ e ∈ evs.map CEv.cap, e.us < 2 ^ 64)
    (hothers : ∀ blk, Pipeline.connOut H P (capInfo (evs.map CEv.cap))
        (sessionOf (evs.map CEv.cap) (optsOf args ports pm) p0 rest) ((fileKeysOf (some (C09Found.fileText ls))).getD []) = some blk →
      OthersFitC mask H P args (some (C09Found.fileText ls)) (evs.map CEv.cap) blk) :
    ∃ f, exportFile mask H P args cv.isLegacy (some (C09Found.fileText ls)) (Spec.Containers.encode cv cevs) = .file f ∧
      Exact f (sessionOf (evs.map CEv.cap) (optsOf args ports pm) p0 rest) (expect13 args.metadata P L cls t (snd13 H sp chts shts cats sats)).1 (expect13 args.metadata P L cls t (snd13 H sp chts shts cats sats)).2 := by
  have S : CaptureFile fl evs args cv cevs pm ports p0 rest := ⟨⟨hne, hdesc, hsp, hcp, hfp⟩, hnot1, hcwf, hitems, hpm, hports⟩
  exact S.exact mask H P _ _
    (tls13_connection_full H P L _ _ t hch hsh hrc hrs hv hcomp hneg
      ⟨hH, hls, haccept, hsuite, hcls, hl1, hl2, hl3, hl4, ho1, ho2, ho3, ho4⟩ hsc hss hokc hoks hlen
      (S.released _ hwr (wiresDelivered_of_inOrder _ _ hwires)) hcausal)
    ⟨hcport, hsport, hpmv, hbytes, hrec, hus, hothers⟩

/-- **C01, SSL 3.0 – TLS 1.2, from file to file, ANY options, IPv4 / IPv6 with extension headers, RFC terms.**
    Beyond `Props.C01Rfc.tls12_capture_exact_rfc`: `-c`, `-a` (conclusion `expect12 args.metadata …`; with `-a` the
    causality hypothesis is `Causal13`: ClientHello released first, ServerHello second), IPv6 extension headers. -/
theorem tls12_capture_exact_full (mask : Quic.Dissect.MaskFn) (H : Crypto.Prims) (hH : H.Lawful) (P : Prims) (L : SealLaws P)
    -- the capture file: bytes written by the independent encoder in ANY container variant, holding the described packets;
    -- the connection's segments over IPv4 or IPv6 WITH extension headers, with `-c` carrying valid TCP checksums
    (fl : Flow) (hne : clientEp fl ≠ serverEp fl) (evs : List CEv) (args : Args)
    (hdesc : DescribedX fl args.checksumTest evs)
    (hnot1 : ∀ e ∈ evs.map CEv.cap, Ingest.isMinusOne e.t = false)
    (cv : Spec.Containers.Variant) (cevs : List Spec.Containers.Ev) (hcwf : cv.WF cevs)
    (hitems : cevs.filterMap (Spec.Containers.scale cv) = (evs.map CEv.cap).map CapEv.item)
    -- the options: ANY `-a`, `-c`, `-m`, `-p`; the server port is a server port, the client port is not
    (ls : List (C09Found.FLine × Bool)) (hls : ∀ x ∈ ls, x.1.WF)
    (pm : List (Int × Int)) (ports : List Int)
    (hpm : Options.getPortMap Options.Src.bare args.mArg = .ok pm)
    (hports : Options.serverPorts Options.Src.builtin Options.Src.pDefault args.pArg = .ok ports)
    (hsp : ports.contains (fl.serverPort : Int) = true) (hcp : ports.contains (fl.clientPort : Int) = false)
    (p0 : Pkt) (rest : List Pkt) (hfp : flowPkts fl 0 evs = p0 :: rest)
    -- the connection as sent: hellos per RFC; the negotiated version
    (t : Transcript) (hch : t.ch.WellFormed) (hsh : t.sh.WellFormed) (hrc : t.rvC.length = 2) (hrs : t.rvS.length = 2)
    (hv : t.ver.length = 2) (hcomp : t.sh.compressionMethod = 0)
    (pv : ProtocolVersion) (hneg : Negotiated t.rvS t.sh (sessVer pv))
    -- SSL 3.0 only: the real digest sizes of MD5 and SHA-1 (the tool knows ten of RFC 6101's salts)
    (hsz : pv = .ssl30 → H.md5.outLen = 16 ∧ H.sha1.outLen = 20)
    -- the negotiated suite: a code point the tool supports; `sp` is what its IANA name denotes; valid for the version
    (haccept : CipherSuite.resolve (Bytes.beNat t.sh.cipherSuite) ≠ none)
    (sp : SuiteSpec) (hsuite : suiteOfCode (Bytes.beNat t.sh.cipherSuite) = some sp) (hvalid : ValidFor sp pv)
    (cls : CipherClass) (hcls : cls12 pv (etmNegotiated t.sh) sp = some cls)
    -- the master secret of the connection, and its line in the key-log file
    (ms : Bytes) (hms : ms.length = 48)
    (hl1 : HasLine ls labelClientRandom (Pipeline.natsOfBytes t.ch.random) (Pipeline.natsOfBytes ms))
    (ho1 : OnlySecret ls labelClientRandom (Pipeline.natsOfBytes t.ch.random) (Pipeline.natsOfBytes ms))
    -- what follows the hellos: clear handshake records, ChangeCipherSpec, records protected with the keys of the key block
    (hsc : Script12 t.cEvs) (hss : Script12 t.sEvs)
    (hokc : ∀ e ∈ t.cEvs, EvOk1 cls (sp.hash.suite H).outLen e)
    (hoks : ∀ e ∈ t.sEvs, EvOk1 cls (sp.hash.suite H).outLen e)
    (hwr : ∀ d, ∀ r ∈ t.records P L cls (snd12 H pv sp ms t.ch.random t.sh.random) d, WholeRecord r)
    (hlen : t.cEvs.length + t.sEvs.length ≤ seqLimit)
    -- the capture of the connection, sender side; causality on the released records as in the connection capstones
    (hwires : WiresInOrder evs (t.stream P L cls (snd12 H pv sp ms t.ch.random t.sh.random)))
    (hc12 : args.metadata = false →
      Causal12 (connRecs (capInfo (evs.map CEv.cap)) (sessionOf (evs.map CEv.cap) (optsOf args ports pm) p0 rest)))
    (hc13 : args.metadata = true →
      Causal13 (connRecs (capInfo (evs.map CEv.cap)) (sessionOf (evs.map CEv.cap) (optsOf args ports pm) p0 rest)))
    -- what the write loop needs (each CAN fail on the real tool: see the header of `Props/C01File2`)
    (hcport : fl.clientPort < 65536) (hsport : fl.serverPort < 65536) (hpmv : ∀ kv ∈ pm, kv.2.toNat < 65536)
    (hbytes : (expect12 args.metadata P L cls t (snd12 H pv sp ms t.ch.random t.sh.random)).1.length + (expect12 args.metadata P L cls t (snd12 H pv sp ms t.ch.random t.sh.random)).2.length + 1 < 2 ^ 32)
    (hrec : RecordsFit H P (capInfo (evs.map CEv.cap)) (sessionOf (evs.map CEv.cap) (optsOf args ports pm) p0 rest)
      ((fileKeysOf (some (C09Found.fileText ls))).getD []))
    (hus : ∀ e ∈ evs.map CEv.cap, e.us < 2 ^ 64)
    (hothers : ∀ blk, Pipeline.connOut H P (capInfo (evs.map CEv.cap))
        (sessionOf (evs.map CEv.cap) (optsOf args ports pm) p0 rest) ((fileKeysOf (some (C09Found.fileText ls))).getD []) = some blk →
      OthersFitC mask H P args (some (C09Found.fileText ls)) (evs.map CEv.cap) blk) :
    ∃ f, exportFile mask H P args cv.isLegacy (some (C09Found.fileText ls)) (Spec.Containers.encode cv cevs) = .file f ∧
      Exact f (sessionOf (evs.map CEv.cap) (optsOf args ports pm) p0 rest) (expect12 args.metadata P L cls t (snd12 H pv sp ms t.ch.random t.sh.random)).1 (expect12 args.metadata P L cls t (snd12 H pv sp ms t.ch.random t.sh.random)).2 := by
  have S : CaptureFile fl evs args cv cevs pm ports p0 rest := ⟨⟨hne, hdesc, hsp, hcp, hfp⟩, hnot1, hcwf, hitems, hpm, hports⟩
  exact S.exact mask H P _ _
    (tls12_connection_all H P L _ _ t hch hsh hrc hrs hv hcomp pv hneg
      ⟨hH, hls, hsz, haccept, hsuite, hvalid, hcls, hms, hl1, ho1⟩ hsc hss hokc hoks hlen
      (S.released _ hwr (wiresDelivered_of_inOrder _ _ hwires)) hc12 hc13)
    ⟨hcport, hsport, hpmv, hbytes, hrec, hus, hothers⟩

end TLX.Props.C01Full
