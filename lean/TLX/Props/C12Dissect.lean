/-
C12 (input side): what `Packet.__init__` gets from dpkt for a frame — `TLX.Dissect.dissect` — against the independent
frame encoder `TLX.Spec.FrameBuild` (RFC 791 / 8200 / 9293 / 768, Ethernet II), which exceptions can leave it, and that
everything that is not TCP or UDP over IPv4 / IPv6 never reaches a session.

* `dissect_build_v4`      every well-formed Ethernet II / IPv4 (any options, DF / MF, offset 0) / TCP (any options) or UDP frame,
                          with any trailer bytes after the datagram: exactly the sender's MACs, addresses, ports, seq / ack and
                          payload come out; the trailer is EXCLUDED (dpkt cuts at `ip.len`); `ip.p` and the transport bytes handed
                          to the checksum functions are the sender's protocol number and segment.  MF is ignored by dpkt: a first
                          fragment is dissected like a whole datagram (that is what the statement says, for either value of `mf`).
* `dissect_build_v6`      the same for IPv6 with any chain of extension headers whose dpkt class reads them back (`ExtOk`; all five
                          kinds the encoder knows: `Lemmas.C01Full.extOk_all`), EXCEPT chains that start with a fragment header and
                          end with another kind: dpkt raises AttributeError there (`Ex.attribute_aborts`).
* `dissect_view`          both in one, for every well-formed frame of the encoder and every extension header it knows
* `dissect_total`         for ALL byte strings: a value or one of six exception kinds; each kind is inhabited
                          (`Ex.*`: the shortest inputs found, replayed on the real library by harness/ib_ingest.py).
* `short_frame_aborts`    fewer than 14 bytes: `dpkt.NeedData`.
* `non_ip_ignored`        a frame whose dissection is not TCP / UDP becomes `L4.other` and `MainLoop.classify` ignores it:
                          the state of the run is unchanged by it.
-/
import TLX.Lemmas.Dissect
import TLX.Lemmas.DissectChain
import TLX.Ingest
namespace TLX.Props.C12Dissect
open TLX TLX.Dissect TLX.Spec.FrameBuild TLX.Lemmas.Dissect

/-- what the sender put on the wire, in the dissector's vocabulary -/
def transportOf : Upper → Transport
  | .tcp t => .tcp t.sport t.dport t.seq t.ack t.payload
  | .udp u => .udp u.sport u.dport u.payload

/-- TCP or UDP: the protocol number selects the class, the class accepts the encoding and reads the sender's fields -/
theorem upper_view (up : Upper) (wu : up.WF) :
    (up.proto = 6 ∧ tcpOk up.encode = .ok () ∧ tcpView up.encode = transportOf up) ∨
      (up.proto = 17 ∧ ¬ up.encode.length < 8 ∧ udpView up.encode = transportOf up) := by
  cases up with
  | tcp t => exact .inl ⟨rfl, tcpOk_encode t wu, tcpView_encode t wu⟩
  | udp u => exact .inr ⟨rfl, by rw [Upper.encode, udp_encode_length]; omega, udpView_encode u wu⟩

theorem dissect_build_v4 (f : Frame) (h : V4) (hn : f.net = .v4 h) (w : f.WF) :
    dissect f.encode =
      .ok (.ip ⟨false, f.srcMac, f.dstMac, h.src, h.dst, f.upper.proto, f.upper.encode, transportOf f.upper⟩) := by
  obtain ⟨hd, hs, wu, wn⟩ := w
  rw [hn] at wn
  have wn : h.WF f.upper.encode.length := wn
  have henc : f.encode = f.dstMac ++ (f.srcMac ++ (0x08 :: 0x00 ::
      (h.encode f.upper.proto f.upper.encode ++ f.trailer))) := by
    simp [Frame.encode, Frame.etherType, Frame.datagram, hn]
  have hlen : f.encode.length + 2 = ((h.encode f.upper.proto f.upper.encode ++ f.trailer).length + 13 + 2) + 1 := by
    rw [henc]; simp [hd, hs]; omega
  have fx := v4_facts h f.upper.proto f.upper.encode f.trailer wn (upper_proto_lt f.upper)
  -- `Ethernet(buf)` starts at `defaultBase + 1 = ⟨5, 5⟩` and calls `IP(...)` four frames and five C units on; of the fuel
  -- `length + 2` it takes one level, which leaves `n + 2` with `n = (length - 14) + 13`
  have hin := ip4_upper ((h.encode f.upper.proto f.upper.encode ++ f.trailer).length + 13) ⟨5 + 4, 5 + 5⟩ h f.upper
    f.trailer wn wu (by simp) (by simp)
  have he := eth_typed _ (⟨5, 5⟩ : Dep) f.dstMac f.srcMac _ 0x08 0x00 0x0800 .ip4 _ hd hs rfl (by decide) (by decide) (by decide)
    rfl (by simp) (by simp) hin nofun
  unfold dissect dissectD
  rw [hlen, henc]
  have : (defaultBase + 1 : Dep) = ⟨5, 5⟩ := rfl
  rw [this, he]
  simp only [Except.map, if_true]
  unfold ip4View
  simp only [fx.off, fx.proto, fx.payload, fx.src, fx.dst, ne_eq, not_true_eq_false, if_false]
  rcases upper_view f.upper wu with ⟨hp, hok, hv⟩ | ⟨hp, hok, hv⟩ <;> simp [hp, hok, hv]

/-- IPv6 with ANY chain of extension headers that dpkt's header classes read back (`ExtOk`: proved below for routing,
    fragment and authentication headers from their RFC well-formedness): the sender's fields come out, the trailer is
    excluded (dpkt cuts at the payload length) — PROVIDED the chain does not start with a fragment header and end with
    another kind (then dpkt raises AttributeError: `Ex.attribute_aborts`). -/
theorem dissect_build_v6 (f : Frame) (h : V6) (hn : f.net = .v6 h) (w : f.WF) (hx : ∀ e ∈ h.exts, ExtOk e)
    (hq : ¬ ((encChain h.exts f.upper.proto f.upper.encode).1 = 44 ∧ lastFrag h.exts false = false)) :
    dissect f.encode =
      .ok (.ip ⟨true, f.srcMac, f.dstMac, h.src, h.dst, f.upper.proto, f.upper.encode, transportOf f.upper⟩) := by
  obtain ⟨hd, hs, wu, wn⟩ := w
  rw [hn] at wn
  obtain ⟨h1, h2, _, _, _, hb0, hb⟩ : h.WF (encChain h.exts f.upper.proto f.upper.encode).2.length := wn
  generalize hnb : encChain h.exts f.upper.proto f.upper.encode = nb at hb0 hb hq
  have hnlt : nb.1 < 256 := by rw [← hnb]; exact encChain_fst_lt _ _ _ (upper_proto_lt f.upper)
  obtain ⟨fxlen, fxnxt, fxbody, fxsrc, fxdst⟩ := v6_facts h nb.1 nb.2 f.trailer h1 h2 hnlt hb0 hb
  generalize hD : h.fixed nb.1 nb.2.length ++ (h.src ++ (h.dst ++ nb.2)) ++ f.trailer = D at fxlen fxnxt fxbody fxsrc fxdst
  have henc : f.encode = f.dstMac ++ (f.srcMac ++ (0x86 :: 0xdd :: D)) := by
    simp [Frame.encode, Frame.etherType, Frame.datagram, hn, V6.encode, hnb, ← hD]
  have hlen : f.encode.length + 2 = (D.length + 13 + 2) + 1 := by rw [henc]; simp [hd, hs]; omega
  have hch : ip6Chain D = .ok ⟨some f.upper.proto, f.upper.encode, 0 + h.exts.length, lastFrag h.exts false, 0⟩ := by
    unfold ip6Chain
    rw [fxbody, fxnxt, ← hnb]
    exact extWalk_chain h.exts f.upper.proto f.upper.encode (upper_proto_lt _) (upper_not_ext _) hx _ 0 false
      (by have := encChain_length_ge h.exts f.upper.proto f.upper.encode; omega)
  have hin := ip6_upper (D.length + 13) ⟨5 + 4, 5 + 5⟩ D f.upper wu _ _ fxlen hch (by rw [fxnxt]; exact hq)
    (by simp) (by simp)
  have he := eth_typed _ (⟨5, 5⟩ : Dep) f.dstMac f.srcMac D 0x86 0xdd 0x86dd .ip6 _ hd hs rfl (by decide) (by decide) (by decide)
    rfl (by simp) (by simp) hin nofun
  unfold dissect dissectD
  rw [hlen, henc]
  have : (defaultBase + 1 : Dep) = ⟨5, 5⟩ := rfl
  rw [this, he]
  simp only [Except.map, reduceCtorEq, if_false, if_true]
  unfold ip6View
  simp only [hch, fxsrc, fxdst, Option.getD_some]
  rcases upper_view f.upper wu with ⟨hp, hok, hv⟩ | ⟨hp, hok, hv⟩ <;> simp [hp, hok, hv]

/-- routing, fragment and authentication headers as the RFCs lay them out are read back by dpkt's classes. `hno` is not
    used: the form for all five kinds is `Lemmas.C01Full.extOk_all`. -/
theorem extOk_of_WF (e : Ext) (w : e.WF) (hno : ∀ os, e ≠ .hopByHop os ∧ e ≠ .destOpts os) : ExtOk e :=
  Lemmas.C01Full.extOk_all e w

/-- IP version and addresses of a frame's network header -/
def netV6 : Net → Bool
  | .v4 _ => false
  | .v6 _ => true
def netSrc : Net → Bytes
  | .v4 h => h.src
  | .v6 h => h.src
def netDst : Net → Bytes
  | .v4 h => h.dst
  | .v6 h => h.dst

open TLX.Lemmas.C01Full (fragFirst fragLast extOk_all) in
/-- **Every frame of the encoder**, the general statement (`dissect_build_v4`, `dissect_build_v6` with `extOk_all` in one): IPv4
    or IPv6, TCP or UDP, options, trailer, any chain of well-formed extension headers — is dissected to the sender's fields,
    except an IPv6 chain that starts with a fragment header and ends with another kind (`Ex.attribute_aborts`). -/
theorem dissect_view (fr : Frame) (hwf : fr.WF)
    (hc : ∀ h, fr.net = .v6 h → ¬ (fragFirst h.exts = true ∧ fragLast h.exts = false)) :
    dissect fr.encode = .ok (.ip ⟨netV6 fr.net, fr.srcMac, fr.dstMac, netSrc fr.net, netDst fr.net, fr.upper.proto,
      fr.upper.encode, transportOf fr.upper⟩) := by
  cases hn : fr.net with
  | v4 h4 => exact dissect_build_v4 fr h4 hn hwf
  | v6 h6 =>
    have hw6 : ∀ e ∈ h6.exts, e.WF := by
      have := hwf.2.2.2
      rw [hn] at this
      exact this.2.2.1
    exact dissect_build_v6 fr h6 hn hwf (fun e he => extOk_all e (hw6 e he))
      (chain_cond _ _ _ (by cases fr.upper <;> simp [Upper.proto]) (hc h6 hn))

example : ∃ (f : Frame) (h : V6), f.net = .v6 h ∧ f.WF ∧ h.exts.length = 2 ∧ (∀ e ∈ h.exts, ExtOk e) ∧
    ¬ ((encChain h.exts f.upper.proto f.upper.encode).1 = 44 ∧ lastFrag h.exts false = false) :=
  ⟨⟨[1, 2, 3, 4, 5, 6], [7, 8, 9, 10, 11, 12],
    .v6 ⟨0, 5, 64, List.replicate 16 1, List.replicate 16 2, [.routing 0 0 [0, 0, 0, 0], .fragment 7 false]⟩,
    .udp ⟨443, 50000, 0, [0x40, 1]⟩, [0, 0]⟩, _, rfl,
   by simp [Frame.WF, Upper.WF, Udp.WF, V6.WF, Ext.WF, Upper.encode, Udp.encode, be2, be4, encChain, Ext.encode, Upper.proto],
   rfl,
   by
    intro e he
    simp only [List.mem_cons, List.mem_nil_iff, or_false] at he
    rcases he with rfl | rfl
    · exact extOk_routing _ _ _ (by simp [Ext.WF])
    · exact extOk_fragment _ _,
   by simp [encChain, Ext.proto]⟩

example : ∃ f : Frame, f.WF ∧ (∃ h, f.net = .v4 h ∧ h.options ≠ [] ∧ h.mf = true) ∧ f.trailer ≠ [] :=
  ⟨⟨[1, 2, 3, 4, 5, 6], [7, 8, 9, 10, 11, 12],
    .v4 ⟨0, 7, true, true, 64, 0, [10, 0, 0, 1], [10, 0, 0, 2], [1, 1, 1, 0]⟩,
    .tcp ⟨443, 50000, 1000, 2000, 0x18, 0, 8192, 0, 0, [1, 1, 1, 1], [0x16, 3, 3]⟩, [0, 0, 0]⟩,
   by simp [Frame.WF, Upper.WF, Tcp.WF, V4.WF, Upper.encode, Tcp.encode, Tcp.header, be2, be4], ⟨_, rfl, by simp, rfl⟩, by simp⟩

/-- For ALL byte strings: attributes, or one of six exception classes (nothing else can leave `Ethernet(buf)`). -/
theorem dissect_total (b : Bytes) :
    (∃ d, dissect b = .ok d) ∨
    (∃ e, e ∈ [DErr.needData, .unpack, .index, .attribute, .pack, .recursion] ∧ dissect b = .error e) := by
  cases h : dissect b with
  | ok d => exact .inl ⟨d, rfl⟩
  | error e => exact .inr ⟨e, by cases e <;> simp, rfl⟩

/-- a frame shorter than an Ethernet header: `dpkt.NeedData` (the run aborts) -/
theorem short_frame_aborts (b : Bytes) (h : b.length < 14) : dissect b = .error .needData := by
  unfold dissect dissectD
  have hb : (defaultBase + 1 : Dep) = ⟨5, 5⟩ := rfl
  rw [hb, parse, show Layer.eth.cUnits = 5 from rfl, enter_ok _ 5 (by simp)]
  simp only [body, ethLayer, ethUnpack]
  rw [need_ok _ (by simp)]
  simp [h, bind, Except.bind]

instance : DecidableEq (Except DErr Dissected) := fun a b =>
  match a, b with
  | .ok x, .ok y => if h : x = y then isTrue (by rw [h]) else isFalse (fun h' => h (by cases h'; rfl))
  | .error x, .error y => if h : x = y then isTrue (by rw [h]) else isFalse (fun h' => h (by cases h'; rfl))
  | .ok _, .error _ => isFalse (fun h => by cases h)
  | .error _, .ok _ => isFalse (fun h => by cases h)

namespace Ex
/-- shortest inputs per exception class (each replayed on the real `Packet` by harness/ib_ingest.py) -/
def needData : Bytes := []
/-- 802.3 length 3, LLC `aa aa 03` with no room for the SNAP header: UnpackError('invalid LLC') -/
def unpack : Bytes := [0, 0, 0, 0, 0, 0, 0, 0, 0, 0, 0, 0, 0, 3, 0xaa, 0xaa, 3]
/-- MPLS, one label with the bottom-of-stack bit, nothing behind it: `buf[0]` → IndexError -/
def index : Bytes := [0, 0, 0, 0, 0, 0, 0, 0, 0, 0, 0, 0, 0x88, 0x47, 0, 0, 1, 0]
/-- IPv6, fragment header (offset 0) followed by an (empty) destination options header — RFC 8200 order — :
    `ext.frag_off` is read from the LAST extension header → AttributeError -/
def attributeErr : Bytes :=
  [0, 0, 0, 0, 0, 0, 0, 0, 0, 0, 0, 0, 0x86, 0xdd] ++ [0x60, 0, 0, 0, 0, 16, 44, 64] ++ List.replicate 32 0 ++
  [60, 0, 0, 0, 0, 0, 0, 1] ++ [59, 0, 1, 4, 0, 0, 0, 0]
/-- 248 Ethernet headers with EtherType 0x6558 (TEB) inside each other: RecursionError (`python -m tlexport.main`) -/
def recursion : Bytes := (List.replicate 248 ([0, 0, 0, 0, 0, 0, 0, 0, 0, 0, 0, 0, 0x65, 0x58] : Bytes)).flatten ++ List.replicate 14 0
/-- CDP TLV with length field 0 in front of 65536 bytes: `bytes(tlv)` → PackError -/
def pack : Bytes := [0, 0, 0, 0, 0, 0, 0, 0, 0, 0, 0, 0, 0x20, 0x00, 2, 180, 0, 0] ++ List.replicate 65536 0

theorem needData_aborts : dissect needData = .error .needData := by decide +kernel
theorem unpack_aborts : dissect unpack = .error .unpack := by decide +kernel
theorem index_aborts : dissect index = .error .index := by decide +kernel
theorem attribute_aborts : dissect attributeErr = .error .attribute := by decide +kernel
/-- `rw`, not `unfold`: checking the result of `unfold dissectD` makes the kernel run the whole parser on the vector -/
theorem aborts_of_parse (buf : Bytes) (n : Nat) (e : DErr) (hn : buf.length + 2 = n)
    (h : parse n (defaultBase + 1) .eth buf = .error e) : dissect buf = .error e := by
  rw [dissect, dissectD, hn, h]

/-- by `teb_chain_aborts`: 248 levels from depth 5 need frame 1001 -/
theorem recursion_aborts : dissect recursion = .error .recursion := by
  have hlen : 248 < recursion.length + 2 := by
    rw [recursion, List.length_append, List.length_flatten, List.map_replicate, List.sum_replicate_nat]
    decide
  exact aborts_of_parse _ _ _ rfl (teb_chain_aborts [0, 0, 0, 0, 0, 0, 0, 0, 0, 0, 0, 0] rfl (List.replicate 14 0) 248 _
    (defaultBase + 1) hlen (by decide) (by decide))
/-- by `eth_typed` (type 0x2000 selects CDP, `PackError` is not caught) and `cdp_pack` -/
theorem pack_aborts : dissect pack = .error .pack := by
  have h2 : u16 (List.replicate 65536 (0 : UInt8)) 2 = 0 := by decide +kernel
  have h3 : 65535 < (List.replicate 65536 (0 : UInt8)).length := by rw [List.length_replicate]; decide
  have hcdp := cdp_pack 65554 ⟨5 + 4, 5 + 5⟩ [2, 180, 0, 0] (List.replicate 65536 0) rfl h2 h3 (by decide) (by decide)
  have hlen : pack.length + 2 = 65554 + 1 + 1 := by
    rw [pack, List.length_append, List.length_replicate]
    rfl
  have he := eth_typed (65554 + 1) ⟨5, 5⟩ [0, 0, 0, 0, 0, 0] [0, 0, 0, 0, 0, 0] ([2, 180, 0, 0] ++ List.replicate 65536 0)
    0x20 0x00 0x2000 .cdp (.error .pack) rfl rfl rfl (by decide) (by decide) (by decide) rfl (by decide) (by decide) hcdp
    (by intro e he; cases he; rfl)
  exact aborts_of_parse pack _ _ hlen (show parse (65554 + 1 + 1) (defaultBase + 1) .eth pack = .error .pack from he)
end Ex

/-- every listed kind occurs -/
theorem kinds_inhabited :
    ∀ e ∈ [DErr.needData, .unpack, .index, .attribute, .recursion, .pack], ∃ b, dissect b = .error e := by
  intro e he
  simp only [List.mem_cons, List.mem_nil_iff, or_false] at he
  rcases he with rfl | rfl | rfl | rfl | rfl | rfl
  · exact ⟨_, Ex.needData_aborts⟩
  · exact ⟨_, Ex.unpack_aborts⟩
  · exact ⟨_, Ex.index_aborts⟩
  · exact ⟨_, Ex.attribute_aborts⟩
  · exact ⟨_, Ex.recursion_aborts⟩
  · exact ⟨_, Ex.pack_aborts⟩

open TLX.MainLoop in
/-- A frame that is not TCP / UDP over IP (any EtherType, ARP, LLC, a later fragment, ICMP, damaged headers that dpkt
    swallows, …) becomes `L4.other`; the main loop ignores it: the run's state is what it was. -/
theorem non_ip_ignored {κ σ τ ο : Type} (c : Bool) (tag us : Nat) (buf : Bytes) (p : Pkt) (i : Pipeline.Info)
    (h : Ingest.framePkt c tag us buf = .ok (p, i))
    (hn : ∀ x, dissect buf = .ok (.ip x) → x.l4 = .other) :
    p.l4 = .other ∧
    ∀ (o : Opts), (classify o (.frame p) : Class κ) = .ignore .notTcpUdp ∧
      ∀ (TM : TlsMachine κ σ ο) (QM : QuicMachine κ τ ο) (st : State κ σ τ), step TM QM o st (.frame p) = st := by
  have hp : p.l4 = .other := by
    unfold Ingest.framePkt at h
    cases hd : dissect buf with
    | error e => simp [hd] at h
    | ok d =>
      cases d with
      | notIp =>
        simp only [hd] at h
        cases h; rfl
      | ip x =>
        have hx := hn x hd
        simp only [hd] at h
        cases hv : (if c then Ingest.verdict x else .ok none) with
        | error e => simp [hv] at h
        | ok v =>
          simp only [hv, hx] at h
          cases h; rfl
  refine ⟨hp, fun o => ?_⟩
  have hc : (classify o (.frame p) : Class κ) = .ignore .notTcpUdp := by simp [classify, hp]
  exact ⟨hc, fun TM QM st => by simp [step, hc]⟩

end TLX.Props.C12Dissect
