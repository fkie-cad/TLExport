/-
Whole-program forms of C08, C13, C10, C07 for QUIC: the twins of `Props/ExportProps.lean` (TLS over TCP). Theorems about what
`run()` hands to the writer (`TLX.Export.framesFrom`) for ANY capture item list — TLS, QUIC, DSBs, ignored items interleaved —,
any key log, options, primitives.

Vocabulary: `quicSess o fk xs` the QUIC session objects of a run in creation order; `qFrames md s` the frames one session
exports; `quicFrames o fk xs` the QUIC part session by session; `framesFrom_ok_quic`:
`framesFrom = (tlsFrames …).flatten ++ (quicFrames …).flatten`.

1. C08  `export_cut_prefix_quic_items`, `export_cut_prefix_quic` (`framesFrom` level): cut the capture after `n` items; session
        by session in creation order the cut export stands in `CutRel` to the full export — all frames but the last unchanged,
        the last one at its place with the same time and addresses and a payload PREFIX (the builder concatenates the data of
        consecutive frames with equal (capture time, direction)); later sessions absent. It is a plain prefix under `SplitOk`
        (`export_cut_prefix_quic_items_split`; `build_append_of_split`): the last exported frame before the cut and the first
        one after it differ in (time, direction). `CutRel` cannot be strengthened: `Ex.cut_not_prefix_witness`, replayed on the
        real tool (`harness/export_props_quic_replay.py`). NO key-material hypothesis (TLS needs `hkeys`): the loop hands
        `handle_quic_packet` the key log as it is when the datagram is read (`quicView_take_prefix`), `build_output` reads none.
        Ingredients: the session list only grows (`quicRun_prefix_ext`), `handle_packet` only appends to `output_buffer` and
        leaves the addressing fields alone (`feed_keeps`, from `handleDatagram_added`), `build_append_ext`.
2. C13  `export_meta_only_adds_quic_items`: with / without `-a` the same sessions (same objects up to the stored flag:
        `quicSess_meta`), both exports `build` of the same frame list, the groups without `-a` = the groups with `-a`
        restricted to STREAM data and regrouped (`C02Out.meta_regroup`), same STREAM bytes in the same order.
3. C10  `export_ports_quic_items`: client endpoint unchanged, server port original / mapped / 8080; roles by `rolesOf` on the
        session's first datagram. The main loop classifies UDP by the QUIC header bits of the payload, NOT by port
        (`mem_quicView`): a flow none of whose ports is a server port still gets a session, the DESTINATION of its first
        datagram is the server (`Ex.ports_view`).
4. C07  `export_time_and_ends_quic_items`: every exported frame carries the IP version and MAC / IP ends of the session's
        first datagram and the capture time of a datagram the loop gave to this session (`Routed`) — `qOk_all`,
        `feed_added` (from `extract_pkts_ts`, `stepPkt_added`, `handleDatagram_added`: whatever is appended to `output_buffer`
        while a datagram is handled is stamped with that datagram's time).
Instances (`Props/ExportPropsQuicEx.lean`): the whole pipeline evaluated by the kernel on a concrete capture.
Core Lean only.
-/
import TLX.Props.ExportProps
import TLX.Props.C02ConnOut
import TLX.Props.C02Pipeline
import TLX.Props.C18
set_option autoImplicit false
namespace TLX.Props.ExportPropsQuic
open TLX TLX.MainLoop TLX.Export TLX.Spec.Demux TLX.Lemmas.ExportProps TLX.Lemmas.MainLoop TLX.QuicPipeline
open TLX.Props.C02Capstone

section Vocab
variable (mask : Quic.Dissect.MaskFn) (H : Crypto.Prims) (P : Cipher.Prims) (info : Nat → Pipeline.Info)

/-- the QUIC session objects of a run, in creation order -/
def quicSess (o : Opts) (fk : Option (List Keylog.Key)) (xs : List (Item Keylog.Key)) : List (QuicSess QConn) :=
  quicRun (quicMachine mask H P info) o [] (quicView o (fk.getD []) xs)

/-- the frames one QUIC session contributes to the output -/
def qFrames (md : Bool) (s : QuicSess QConn) : List Pipeline.OutPkt := (quicMachine mask H P info).out md s.st

/-- the QUIC part of the output, session by session -/
def quicFrames (o : Opts) (fk : Option (List Keylog.Key)) (xs : List (Item Keylog.Key)) : List (List Pipeline.OutPkt) :=
  (quicSess mask H P info o fk xs).map (qFrames mask H P info o.metadata)

/-- what `run()` hands to the writer: the TLS conversations' frames, then the QUIC sessions' frames -/
theorem framesFrom_ok_quic (prior : Export.Prior) (args : Args) (fk : Option (List Keylog.Key))
    (xs : List (Item Keylog.Key)) (o : Opts) (ho : optsOf args = some o) :
    Export.framesFrom mask H P prior args fk xs info
      = .ok ((tlsFrames H P info o fk xs).flatten ++ (quicFrames mask H P info o fk xs).flatten) := by
  rw [framesFrom_views mask H P info prior args fk xs o ho, List.flatMap_def]
  rfl

end Vocab

section Grow
variable {κ τ ο : Type}

/-- one call of `session.handle_packet(packet, dcid, version)` with the key log of that moment -/
structure FeedIn (κ : Type) where
  kl : List κ
  p : Pkt
  dcid : Bytes
  ver : MainLoop.Version

def feeds (M : QuicMachine κ τ ο) (c : τ) (l : List (FeedIn κ)) : τ := l.foldl (fun c x => M.feed c x.kl x.p x.dcid x.ver) c

/-- the session `t` is the session `s` after more datagrams -/
def QSessExt (M : QuicMachine κ τ ο) (s t : QuicSess τ) : Prop :=
  t.server = s.server ∧ t.client = s.client ∧ ∃ more : List (FeedIn κ), t.st = feeds M s.st more

theorem QSessExt.refl (M : QuicMachine κ τ ο) (s : QuicSess τ) : QSessExt M s s := ⟨rfl, rfl, [], rfl⟩

theorem QSessExt.trans (M : QuicMachine κ τ ο) (a b c : QuicSess τ) (h1 : QSessExt M a b) (h2 : QSessExt M b c) :
    QSessExt M a c := by
  obtain ⟨a1, a2, m1, a3⟩ := h1
  obtain ⟨b1, b2, m2, b3⟩ := h2
  exact ⟨b1.trans a1, b2.trans a2, m1 ++ m2, by rw [b3, a3]; simp [feeds, List.foldl_append]⟩

theorem quicLoop_ext (M : QuicMachine κ τ ο) (o : Opts) (kl : List κ) (h : Hdr) (ss : List (QuicSess τ)) (p : Pkt) :
    ListExt (QSessExt M) ss (quicLoop M o kl h ss p) := by
  induction ss with
  | nil => exact .nil _
  | cons s rest ih =>
    simp only [quicLoop]
    split
    · rename_i c _
      exact .cons ⟨rfl, rfl, [⟨kl, p, c, h.ver⟩], rfl⟩ (ListExt.refl (QSessExt.refl M) rest)
    · exact .cons (QSessExt.refl M s) ih

theorem quicHandleH_ext (M : QuicMachine κ τ ο) (o : Opts) (kl : List κ) (h : Hdr) (ss : List (QuicSess τ)) (p : Pkt) :
    ListExt (QSessExt M) ss (quicHandleH M o kl h ss p) := by
  unfold quicHandleH
  split
  · exact ListExt.refl (QSessExt.refl M) ss
  · exact quicLoop_ext M o kl h ss p

theorem quicRun_ext (M : QuicMachine κ τ ο) (o : Opts) (ss : List (QuicSess τ)) (l : List (QIn κ)) :
    ListExt (QSessExt M) ss (quicRun M o ss l) := by
  induction l generalizing ss with
  | nil => exact ListExt.refl (QSessExt.refl M) ss
  | cons x xs ih =>
    rw [quicRun_cons]
    exact ListExt.trans (QSessExt.trans M) (quicHandleH_ext M o x.kl x.h ss x.p) (ih _)

/-- **QUIC demultiplexing is monotone**: the sessions after a prefix of the datagrams are, in the same creation order, the
    first sessions of the full run, each having handled a prefix of what it handles in the full run -/
theorem quicRun_prefix_ext (M : QuicMachine κ τ ο) (o : Opts) (ss : List (QuicSess τ)) {a b : List (QIn κ)}
    (h : a <+: b) : ListExt (QSessExt M) (quicRun M o ss a) (quicRun M o ss b) := by
  obtain ⟨t, rfl⟩ := h
  rw [quicRun_append]
  exact quicRun_ext M o _ t

/-- the QUIC calls of a cut capture are the first calls of the whole capture, each WITH THE SAME KEY LOG: the loop hands
    `handle_quic_packet` the key log as it is when the datagram is read, so key material that comes later in the capture
    (DSBs after the cut) makes no difference for the datagrams before the cut -/
theorem quicView_take_prefix (o : Opts) (kl : List κ) (xs : List (Item κ)) (n : Nat) :
    quicView o kl (xs.take n) <+: quicView o kl xs := by
  conv => rhs; rw [← List.take_append_drop n xs, quicView_append_dsbKeys]
  exact List.prefix_append _ _

end Grow

section Origin
open TLX.Quic TLX.Quic.Dissect

/-- every packet object the dissector returns carries the capture time and the direction it was called with -/
theorem extract_pkts_ts (mask : MaskFn) (env : Env) (isServer : Bool) (guessed : Bytes) (ts : Nat) (d : Bytes) :
    ∀ p ∈ (extract mask env isServer guessed ts d).pkts, p.ts = ts ∧ p.isServer = isServer := fun p hp =>
  have ⟨_, _, _, _, _, h1, h2, _⟩ := extract_returned mask env isServer guessed ts d p hp
  ⟨h1, h2⟩

end Origin

section SessionOrigin
open TLX.Quic.Session TLX.Cipher
variable {σ : Type} (P : Params σ)

/-- `b` is `a` plus entries stamped with capture time `ts` and direction `srv` -/
abbrev AddedK (ts : Nat) (srv : Bool) (a b : List Quic.Session.Out) : Prop :=
  Lemmas.QuicSession.OutGrew (fun e => e.ts = ts ∧ e.isServer = srv) a b

abbrev Added (p : Quic.Pkt) (a b : List Quic.Session.Out) : Prop := AddedK p.ts p.isServer a b

/-- **one packet object through `handle_quic_packet`**: whatever is appended to `output_buffer` carries its time and
    direction -/
theorem stepPkt_added (s : St σ) (p : Quic.Pkt) : Added p s.out (stepPkt P s p).st.out :=
  (Lemmas.QuicSession.stepPkt_outGrew P s p).mono fun o h => by
    rcases h with ⟨_, rfl⟩ | ⟨_, _, _, _, rfl⟩ <;> exact ⟨rfl, rfl⟩

/-- `s` with what `handle_packet` writes before its loop taken from `a`: the version, the Initial decryptor with its two
    flags, and the TLS side of the state -/
def preSet (s a : St σ) : St σ :=
  { s with version := a.version, canDecrypt := a.canDecrypt, keysInitial := a.keysInitial, decInitial := a.decInitial,
           tls := a.tls }

def PreOf (s a : St σ) : Prop := a = preSet s a

theorem PreOf.refl (s : St σ) : PreOf s s := rfl

theorem PreOf.trans {s a b : St σ} (h1 : PreOf s a) (h2 : PreOf a b) : PreOf s b := by
  have h : preSet a b = preSet (preSet s a) b := congrArg (preSet · b) h1
  exact Eq.trans h2 h

theorem latchVersion_pre (s : St σ) (v : Quic.Session.Version) : PreOf s (latchVersion s v) :=
  ite_rec (PreOf s) rfl rfl

theorem handlePacketPre_pre (s : St σ) (dcid : Bytes) (v : Quic.Session.Version) : PreOf s (handlePacketPre P s dcid v) := by
  refine (latchVersion_pre s v).trans (ite_rec (PreOf (latchVersion s v)) ?_ (PreOf.refl _))
  unfold setInitialDecryptor
  cases P.devInitialKeys (latchVersion s v).version dcid <;> rfl

end SessionOrigin

section DatagramOrigin
open TLX.Quic.Session TLX.Cipher
variable (mask : Quic.Dissect.MaskFn) (H : Crypto.Prims)

theorem handleQuicPackets_added (P : Params Tls) (ts : Nat) (srv : Bool) (s : St Tls) (ps : List Quic.Pkt)
    (hp : ∀ p ∈ ps, p.ts = ts ∧ p.isServer = srv) : AddedK ts srv s.out (handleQuicPackets P s ps).1.out := by
  rw [Lemmas.QuicSession.handleQuicPackets_st]
  exact Lemmas.QuicSession.runPkts_inv P (fun a => AddedK ts srv s.out a.out) (fun p => p.ts = ts ∧ p.isServer = srv)
    (fun a p hq h => h.trans (hq.1 ▸ hq.2 ▸ stepPkt_added P a p)) ps hp s (Lemmas.QuicSession.OutGrew.refl _ _)

theorem handleTurn_added (P : Params Tls) (ts : Nat) (srv : Bool) (x : LoopSt) (ps : List Quic.Pkt)
    (hp : ∀ p ∈ ps, p.ts = ts ∧ p.isServer = srv) : AddedK ts srv x.1.out (handleTurn P x ps).1.out := by
  obtain ⟨s, e⟩ := x
  unfold handleTurn
  cases e with
  | some e => exact Lemmas.QuicSession.OutGrew.refl _ _
  | none => exact handleQuicPackets_added P ts srv s ps hp

theorem dissectLoop_added (P : Params Tls) (srv : Bool) (guessed : Bytes) (ts : Nat) (d : Bytes) :
    ∀ x : LoopSt, AddedK ts srv x.1.out
      (Quic.Dissect.dissectLoop mask (fun x : LoopSt => envOf x.1) (handleTurn P) srv guessed ts x d).1.1.out := by
  intro x
  refine Lemmas.QuicDissect.dissectLoop_induct mask _ (handleTurn P) srv guessed ts
    (Q := fun x _ r => AddedK ts srv x.1.out r.1.1.out) (fun _ => Lemmas.QuicSession.OutGrew.refl _ _) ?_ x d
  intro x d hd ih
  rw [Lemmas.QuicDissect.dissectLoop_cons _ _ _ _ _ _ _ _ hd]
  exact (handleTurn_added P ts srv x _ (extract_pkts_ts mask (envOf x.1) srv guessed ts d)).trans ih

theorem feedPre_pre (P : Params Tls) (s : St Tls) (dcid : Bytes) (v : Quic.Session.Version) :
    PreOf s (feedPre H P s dcid v) := by
  refine (handlePacketPre_pre P s dcid v).trans (PreOf.trans (ite_rec (PreOf _) ?_ (PreOf.refl _)) rfl)
  cases devInitial H (latchVersion s v).version dcid <;> rfl

theorem feedPre_out (P : Params Tls) (s : St Tls) (dcid : Bytes) (v : Quic.Session.Version) : (feedPre H P s dcid v).out = s.out :=
  Eq.trans (congrArg St.out (feedPre_pre H P s dcid v)) rfl

/-- **one datagram through `handle_packet`**: what is appended to `output_buffer` carries the datagram's capture time (and
    one direction: the one `packet_isserver` decided for the datagram) -/
theorem handleDatagram_added (P : Params Tls) (s : St Tls) (fromClient : Bool) (dcid : Bytes) (v : Quic.Session.Version) (ts : Nat)
    (payload : Bytes) :
    ∃ srv, AddedK ts srv s.out (handleDatagram mask H P s fromClient dcid v ts payload).1.out := by
  unfold handleDatagram
  refine ⟨packetIsServer (feedPre H P s dcid v) fromClient dcid, ?_⟩
  have := dissectLoop_added mask P (packetIsServer (feedPre H P s dcid v) fromClient dcid) dcid ts payload
    (feedPre H P s dcid v, none)
  simp only [feedPre_out] at this
  exact this

end DatagramOrigin

/-! ### one session: `handle_packet` only appends to `output_buffer` and never touches the addressing fields -/
section Feed
variable (mask : Quic.Dissect.MaskFn) (H : Crypto.Prims) (P : Cipher.Prims) (info : Nat → Pipeline.Info)
open TLX.Quic.Session

theorem feed_keeps (c : QConn) (kl : List Keylog.Key) (p : Pkt) (dcid : Bytes) (v : MainLoop.Version) :
    let c' := (quicMachine mask H P info).feed c kl p dcid v
    c'.opts = c.opts ∧ c'.server = c.server ∧ c'.client = c.client ∧ c'.serverMac = c.serverMac ∧
    c'.clientMac = c.clientMac ∧ c'.ipv6 = c.ipv6 ∧ c.st.out <+: c'.st.out := by
  simp only [quicMachine_feed_eq]
  cases c.raised with
  | some e => exact ⟨rfl, rfl, rfl, rfl, rfl, rfl, List.prefix_refl _⟩
  | none =>
    refine ⟨rfl, rfl, rfl, rfl, rfl, rfl, ?_⟩
    simp only
    obtain ⟨srv, d, hd, _⟩ := handleDatagram_added mask H (params H P kl) c.st (p.src == c.client) dcid (sver v)
      (info p.tag).ts p.payload
    rw [hd]
    exact List.prefix_append _ _

theorem feeds_keeps (c : QConn) (more : List (FeedIn Keylog.Key)) :
    let c' := feeds (quicMachine mask H P info) c more
    c'.opts = c.opts ∧ c'.server = c.server ∧ c'.client = c.client ∧ c'.serverMac = c.serverMac ∧
    c'.clientMac = c.clientMac ∧ c'.ipv6 = c.ipv6 ∧ c.st.out <+: c'.st.out := by
  induction more generalizing c with
  | nil => exact ⟨rfl, rfl, rfl, rfl, rfl, rfl, List.prefix_refl _⟩
  | cons x rest ih =>
    obtain ⟨a1, a2, a3, a4, a5, a6, a7⟩ := feed_keeps mask H P info c x.kl x.p x.dcid x.ver
    obtain ⟨b1, b2, b3, b4, b5, b6, b7⟩ := ih ((quicMachine mask H P info).feed c x.kl x.p x.dcid x.ver)
    exact ⟨b1.trans a1, b2.trans a2, b3.trans a3, b4.trans a4, b5.trans a5, b6.trans a6, a7.trans b7⟩

end Feed

section Builder
open TLX.Quic TLX.Quic.UdpOut

/-- the output datagram `b` is the output datagram `a`, possibly with more data at the end -/
def DgPre (a b : Dgram) : Prop := a.isServer = b.isServer ∧ a.ts = b.ts ∧ a.payload <+: b.payload

theorem DgPre.refl (a : Dgram) : DgPre a a := ⟨rfl, rfl, List.prefix_refl _⟩
theorem DgPre.trans (a b c : Dgram) (h1 : DgPre a b) (h2 : DgPre b c) : DgPre a c :=
  ⟨h1.1.trans h2.1, h1.2.1.trans h2.2.1, h1.2.2.trans h2.2.2⟩

theorem listExt_append_right {α : Type} {R : α → α → Prop} (hR : ∀ a, R a a) (l t : List α) : ListExt R l (l ++ t) := by
  induction l with
  | nil => exact .nil _
  | cons a l ih => exact .cons (hR a) ih

theorem listExt_snoc {α : Type} {R : α → α → Prop} (hR : ∀ a, R a a) (l : List α) (a b : α) (t : List α) (h : R a b) :
    ListExt R (l ++ [a]) (l ++ [b] ++ t) := by
  induction l with
  | nil => exact .cons h (.nil _)
  | cons x l ih => exact .cons (hR x) ih

theorem finish_step_ext (md : Bool) (s : UdpOut.St) (f : Frame) : ListExt DgPre (finish s) (finish (UdpOut.step md s f)) := by
  unfold UdpOut.step
  cases hex : exported md f with
  | none => exact ListExt.refl DgPre.refl _
  | some data =>
    simp only
    obtain ⟨cur, out⟩ := s
    cases cur with
    | none => simp only [finish]; exact listExt_append_right DgPre.refl _ _
    | some g =>
      obtain ⟨ts, srv, packets⟩ := g
      simp only
      split
      · simp only [finish]
        have := listExt_snoc DgPre.refl out ⟨srv, ts, packets⟩ ⟨srv, ts, packets ++ data⟩ []
          ⟨rfl, rfl, List.prefix_append _ _⟩
        simpa using this
      · simp only [finish]
        have := listExt_snoc DgPre.refl out ⟨srv, ts, packets⟩ ⟨srv, ts, packets⟩ [⟨f.isServer, f.ts, data⟩] (DgPre.refl _)
        simpa [List.append_assoc] using this

theorem finish_foldl_ext (md : Bool) (s : UdpOut.St) (fs : List Frame) :
    ListExt DgPre (finish s) (finish (fs.foldl (UdpOut.step md) s)) := by
  induction fs generalizing s with
  | nil => exact ListExt.refl DgPre.refl _
  | cons f fs ih =>
    simp only [List.foldl_cons]
    exact ListExt.trans DgPre.trans (finish_step_ext md s f) (ih _)

/-- **the builder on more frames**: every output datagram of the shorter list is there again at the same place, with the
    same time and direction, its payload possibly longer (only the last one can be: `build_take_dropLast_prefix`) -/
theorem build_append_ext (md : Bool) (a b : List Frame) : ListExt DgPre (build md a) (build md (a ++ b)) := by
  unfold build
  rw [List.foldl_append]
  exact finish_foldl_ext md _ b

theorem push_append {α K : Type} [DecidableEq K] (k : K) (as : List α) (g1 g2 : List (K × List α)) (h : g1 ≠ []) :
    push k as (g1 ++ g2) = push k as g1 ++ g2 := by
  cases g1 with
  | nil => exact absurd rfl h
  | cons x rest =>
    obtain ⟨k', bs⟩ := x
    by_cases hk : k = k' <;> simp [push, hk]

/-- grouping of a concatenation whose seam separates two different keys -/
theorem groupRuns_append_of_ne {α K : Type} [DecidableEq K] (key : α → K) (x y : List α)
    (h : ∀ a ∈ x.getLast?, ∀ b ∈ y.head?, key a ≠ key b) :
    groupRuns key (x ++ y) = groupRuns key x ++ groupRuns key y := by
  induction x with
  | nil => rfl
  | cons a x' ih =>
    simp only [List.cons_append, groupRuns]
    cases hx : x' with
    | nil =>
      simp only [List.nil_append, groupRuns]
      cases hy : y with
      | nil => rfl
      | cons b y' =>
        have hne : key a ≠ key b := h a (by simp [hx]) b (by simp [hy])
        simp only [groupRuns]
        rw [push_of_head_ne (key a) [a] _ (by
          intro z hz
          have := push_head_key (key b) [b] (groupRuns key y')
          cases hp : push (key b) [b] (groupRuns key y') with
          | nil => rw [hp] at hz; cases hz
          | cons w ws =>
            rw [hp] at hz this
            simp only [List.head?_cons, Option.mem_def, Option.some.injEq] at hz
            simp only [List.head?_cons, Option.map_some, Option.some.injEq] at this
            rw [← hz, this]; exact hne)]
        rfl
    | cons c x'' =>
      have ih' := ih (by
        intro a' ha' b hb
        exact h a' (by rw [hx]; simpa [List.getLast?_cons_cons] using (by rw [hx] at ha'; exact ha')) b hb)
      rw [← hx, ih', push_append _ _ _ _ (by rw [hx]; simp only [groupRuns]; exact push_ne_nil _ _ _)]

/-- the last exported frame of `a` and the first exported frame of `b` differ in (time, direction) — or one of the two
    lists has no exported frame -/
def SplitOk (md : Bool) (a b : List Frame) : Prop :=
  ∀ f ∈ (a.filter (fun f => (exported md f).isSome)).getLast?,
    ∀ g ∈ (b.filter (fun f => (exported md f).isSome)).head?, f.key ≠ g.key

/-- **under `SplitOk` the builder works on the two parts separately**: what was exported for `a` stays as it is -/
theorem build_append_of_split (md : Bool) (a b : List Frame) (h : SplitOk md a b) :
    build md (a ++ b) = build md a ++ build md b := by
  rw [Props.C02Out.build_eq_runs, Props.C02Out.build_eq_runs, Props.C02Out.build_eq_runs, List.filter_append,
    groupRuns_append_of_ne Frame.key _ _ h, List.map_append]

end Builder

section C08
variable (mask : Quic.Dissect.MaskFn) (H : Crypto.Prims) (P : Cipher.Prims) (info : Nat → Pipeline.Info)
open TLX.Quic TLX.Quic.UdpOut

/-- the frame `b` is the frame `a` with possibly more payload at the end (everything else equal) -/
def FramePre (a b : Pipeline.OutPkt) : Prop := ∃ more, b = { a with payload := a.payload ++ more }

/-- the exported frames `fa` of a session of the cut run against the frames `fb` of the same session in the full run: all
    but the last frame of `fa` are the first frames of `fb` unchanged, and the last one is there too, at its place, with
    the same time and addresses — its payload may have grown (the builder concatenates the STREAM data of consecutive
    frames with equal (capture time, direction): `C02Out.build_take_prefix_needs_distinct`) -/
structure CutRel (fa fb : List Pipeline.OutPkt) : Prop where
  init : fa.dropLast <+: fb
  ext : ListExt FramePre fa fb

theorem addressed_pre (c : QConn) (a b : Dgram) (h : DgPre a b) : FramePre (addressed c a) (addressed c b) := by
  obtain ⟨h1, h2, more, h3⟩ := h
  refine ⟨more, ?_⟩
  cases a; cases b
  simp only at h1 h2 h3
  subst h1 h2 h3
  unfold addressed
  split <;> rfl

/-- one session, before and after more datagrams -/
theorem qFrames_ext (md : Bool) (s t : QuicSess QConn) (h : QSessExt (quicMachine mask H P info) s t) :
    CutRel (qFrames mask H P info md s) (qFrames mask H P info md t) ∧
    ∃ rest, t.st.st.out = s.st.st.out ++ rest ∧
      (SplitOk md (s.st.st.out.map frameOf) (rest.map frameOf) →
        qFrames mask H P info md s <+: qFrames mask H P info md t) := by
  obtain ⟨_, _, more, hst⟩ := h
  obtain ⟨a1, a2, a3, a4, a5, a6, rest, a7⟩ := feeds_keeps mask H P info s.st more
  rw [← hst] at a1 a2 a3 a4 a5 a6 a7
  have hadr : addressed t.st = addressed s.st := addressed_congr s.st t.st a1 a2 a3 a4 a5 a6
  have hq : ∀ u : QuicSess QConn, qFrames mask H P info md u = (build md (u.st.st.out.map frameOf)).map (addressed u.st) :=
    fun u => connOut_eq md u.st
  rw [hq s, hq t, hadr, ← a7, List.map_append]
  refine ⟨⟨?_, ?_⟩, rest, rfl, ?_⟩
  · have h1 := Props.C02Out.build_take_dropLast_prefix md (s.st.st.out.map frameOf ++ rest.map frameOf)
      (s.st.st.out.map frameOf).length
    rw [List.take_left'] at h1
    · rw [← List.map_dropLast]; exact List.IsPrefix.map _ h1
    · rfl
  · exact ListExt.map _ _ (fun a b hab => addressed_pre s.st a b hab) (build_append_ext md _ _)
  · intro hs
    rw [build_append_of_split md _ _ hs, List.map_append]
    exact List.prefix_append _ _

/-- **C08, whole program, QUIC, items level.** Cut the capture after its first `n` items (packets, DSBs, anything). QUIC
    session by session, in creation order, the frames exported from the cut capture stand in `CutRel` to the frames
    exported from the whole capture; sessions created after the cut are absent. NO hypothesis about key material is
    needed (unlike TLS over TCP, `ExportProps.export_cut_prefix_tls_items`): `handle_quic_packet` is given the key log as
    it is when the datagram is read, and `build_output` reads no keys — what is decrypted before the cut is decrypted the
    same way in both runs (`quicView_take_prefix`). -/
theorem export_cut_prefix_quic_items (o : Opts) (fk : Option (List Keylog.Key)) (xs : List (Item Keylog.Key)) (n : Nat) :
    ListExt CutRel (quicFrames mask H P info o fk (xs.take n)) (quicFrames mask H P info o fk xs) := by
  unfold quicFrames
  refine ListExt.map _ _ ?_ (quicRun_prefix_ext (quicMachine mask H P info) o [] (quicView_take_prefix o (fk.getD []) xs n))
  intro a b hab
  exact (qFrames_ext mask H P info o.metadata a b hab).1

/-- the relation of `export_cut_prefix_quic_items` is a plain PREFIX, frame by frame, for every session whose last exported
    frame before the cut and first exported frame after the cut differ in (capture time, direction) (`SplitOk` — true in
    particular when the datagrams of a connection have pairwise different capture times per direction) -/
theorem export_cut_prefix_quic_items_split (o : Opts) (fk : Option (List Keylog.Key)) (xs : List (Item Keylog.Key)) (n : Nat) :
    ListExt (fun s t : QuicSess QConn => ∃ rest, t.st.st.out = s.st.st.out ++ rest ∧
        (SplitOk o.metadata (s.st.st.out.map frameOf) (rest.map frameOf) →
          qFrames mask H P info o.metadata s <+: qFrames mask H P info o.metadata t))
      (quicSess mask H P info o fk (xs.take n)) (quicSess mask H P info o fk xs) :=
  (quicRun_prefix_ext (quicMachine mask H P info) o [] (quicView_take_prefix o (fk.getD []) xs n)).imp
    fun _ _ r => (qFrames_ext mask H P info o.metadata _ _ r).2

/-- `export_cut_prefix_quic_items` as a statement about what `run()` hands to the writer -/
theorem export_cut_prefix_quic (prior : Prior) (args : Args) (fk : Option (List Keylog.Key))
    (xs : List (Item Keylog.Key)) (n : Nat) (outCut outFull : List Pipeline.OutPkt)
    (hc : framesFrom mask H P prior args fk (xs.take n) info = .ok outCut)
    (hf : framesFrom mask H P prior args fk xs info = .ok outFull) :
    ∃ (tc tf : List Pipeline.OutPkt) (cut full : List (List Pipeline.OutPkt)),
      outCut = tc ++ cut.flatten ∧ outFull = tf ++ full.flatten ∧ ListExt CutRel cut full := by
  obtain ⟨o, ho⟩ := framesFrom_ok_opts mask H P info prior args fk xs outFull hf
  rw [framesFrom_ok_quic mask H P info prior args fk (xs.take n) o ho] at hc
  rw [framesFrom_ok_quic mask H P info prior args fk xs o ho] at hf
  exact ⟨_, _, _, _, (Except.ok.inj hc).symm, (Except.ok.inj hf).symm, export_cut_prefix_quic_items mask H P info o fk xs n⟩

end C08

section SessOk
variable (mask : Quic.Dissect.MaskFn) (H : Crypto.Prims) (P : Cipher.Prims) (info : Nat → Pipeline.Info)

/-- the datagram `x` was given to the session `s` by the loop's rule: it runs between the session's two endpoints, or it
    names a non-empty connection ID (long header: its DCID; short header: a prefix of the bytes after the first) -/
def Routed (s : QuicSess QConn) (x : QIn Keylog.Key) : Prop :=
  s.matches x.p = true ∨ ∃ c : Bytes, c ≠ [] ∧ ((∃ v, x.h = .long c v) ∨ (x.h = .short ∧ c <+: x.p.payload.drop 1))

/-- the facts about a QUIC session object that the export reads: the options as given; the roles decided on the datagram
    `x0` that created it (`rolesOf`: the side whose port is a server port is the server, else the DESTINATION of `x0`); the
    MAC addresses and IP version of `x0`; and every entry of `output_buffer` carries the capture time of a datagram of the
    capture's QUIC view that the loop gave to this session -/
structure QOk (o : Opts) (view : List (QIn Keylog.Key)) (s : QuicSess QConn) : Prop where
  opts : s.st.opts = o
  server : s.st.server = s.server
  client : s.st.client = s.client
  first : ∃ x0 ∈ view, (s.server, s.client) = rolesOf o.ports x0.p ∧ s.st.ipv6 = (info x0.p.tag).ipv6 ∧
    s.st.serverMac = (if o.ports.contains (x0.p.src.port : Int) then (info x0.p.tag).srcMac else (info x0.p.tag).dstMac) ∧
    s.st.clientMac = (if o.ports.contains (x0.p.src.port : Int) then (info x0.p.tag).dstMac else (info x0.p.tag).srcMac)
  outs : ∀ e ∈ s.st.st.out, ∃ x ∈ view, e.ts = (info x.p.tag).ts ∧ Routed s x

theorem feed_added (c : QConn) (kl : List Keylog.Key) (p : Pkt) (dcid : Bytes) (v : MainLoop.Version) :
    ∀ e ∈ ((quicMachine mask H P info).feed c kl p dcid v).st.out, e ∈ c.st.out ∨ e.ts = (info p.tag).ts := by
  intro e he
  simp only [quicMachine_feed_eq] at he
  cases hr : c.raised with
  | some r => rw [hr] at he; exact .inl he
  | none =>
    rw [hr] at he
    simp only at he
    obtain ⟨srv, d, hd, hk⟩ := handleDatagram_added mask H (params H P kl) c.st (p.src == c.client) dcid (sver v)
      (info p.tag).ts p.payload
    rw [hd] at he
    rcases List.mem_append.mp he with h | h
    · exact .inl h
    · exact .inr (hk e h).1

theorem routed_new (o : Opts) (x : QIn Keylog.Key) :
    Routed (quicNew (quicMachine mask H P info) o x.kl x.h x.p) x := by
  left
  simp only [quicNew, Sess.matches, rolesOf]
  split <;> simp

theorem routed_of_take (s : QuicSess QConn) (x : QIn Keylog.Key) (c : Bytes)
    (h : quicTake (quicMachine mask H P info) x.h x.p s = some c) : Routed s x := by
  unfold quicTake at h
  cases hm : cidMatch ((quicMachine mask H P info).clientCids s.st) ((quicMachine mask H P info).serverCids s.st)
      (s.side x.p) x.h x.p.payload with
  | none =>
    rw [hm] at h
    simp only at h
    split at h
    · rename_i hmt; exact .inl hmt
    · cases h
  | some c' =>
    right
    unfold cidMatch at hm
    cases hh : x.h with
    | tooShort => rw [hh] at hm; cases hm
    | long d v =>
      rw [hh] at hm
      simp only at hm
      split at hm
      · rename_i hc
        refine ⟨d, ?_, .inl ⟨v, rfl⟩⟩
        intro hd; rw [hd] at hc; simp at hc
      · cases hm
    | short =>
      rw [hh] at hm
      simp only at hm
      obtain ⟨_, c2, c3⟩ := shortPick_some hm
      exact ⟨c', c2, .inr ⟨rfl, c3⟩⟩

theorem qOk_all (o : Opts) (fk : Option (List Keylog.Key)) (xs : List (Item Keylog.Key)) :
    ∀ s ∈ quicSess mask H P info o fk xs, QOk info o (quicView o (fk.getD []) xs) s := by
  apply quicRun_inv (quicMachine mask H P info) o (QOk info o (quicView o (fk.getD []) xs))
  · intro x hx
    obtain ⟨a1, a2, a3, a4, a5, a6, _⟩ := feed_keeps mask H P info ((quicMachine mask H P info).new o x.p) x.kl x.p
      x.h.dcid x.h.ver
    refine ⟨a1, a2, a3, ⟨x, hx, rfl, a6, a4, a5⟩, ?_⟩
    intro e he
    have he' : e ∈ ((quicMachine mask H P info).feed ((quicMachine mask H P info).new o x.p) x.kl x.p x.h.dcid
        x.h.ver).st.out := he
    rcases feed_added mask H P info _ _ _ _ _ e he' with h | h
    · exact absurd h (by simp [quicMachine_new, Quic.Session.St.init])
    · exact ⟨x, hx, h, routed_new mask H P info o x⟩
  · intro x hx s c hs htake
    obtain ⟨a1, a2, a3, a4, a5, a6, _⟩ := feed_keeps mask H P info s.st x.kl x.p c x.h.ver
    obtain ⟨b1, b2, b3, ⟨x0, hx0, b4, b5, b6, b7⟩, b8⟩ := hs
    refine ⟨a1.trans b1, a2.trans b2, a3.trans b3, ⟨x0, hx0, b4, a6.trans b5, a4.trans b6, a5.trans b7⟩, ?_⟩
    intro e he
    have he' : e ∈ ((quicMachine mask H P info).feed s.st x.kl x.p c x.h.ver).st.out := he
    rcases feed_added mask H P info _ _ _ _ _ e he' with h | h
    · obtain ⟨y, hy, h1, h2⟩ := b8 e h
      exact ⟨y, hy, h1, h2⟩
    · exact ⟨x, hx, h, routed_of_take mask H P info s x c htake⟩
  · intro s hs; cases hs

end SessOk
section C10
variable (mask : Quic.Dissect.MaskFn) (H : Crypto.Prims) (P : Cipher.Prims) (info : Nat → Pipeline.Info)

theorem classify_quic (o : Opts) (it : Item Keylog.Key) (p : Pkt) (b0 : UInt8) (r : Bytes)
    (h : classify o it = .quic p b0 r) :
    it = .frame p ∧ p.l4 = .udp ∧ p.payload = b0 :: r ∧ (((b0.toNat &&& 0x40) >>> 6 = 1) ∨ o.greasy = true) :=
  classify_quic_inv o it p b0 r h

/-- what reaches `handle_quic_packet`: UDP datagrams with a non-empty payload whose first byte has the QUIC fixed bit (or
    any first byte, with `-g`) — the main loop does NOT look at the ports of a UDP datagram (only `rolesOf` does, afterwards) -/
theorem mem_quicView (o : Opts) (kl : List Keylog.Key) (xs : List (Item Keylog.Key)) (x : QIn Keylog.Key)
    (h : x ∈ quicView o kl xs) :
    Item.frame x.p ∈ xs ∧ x.p.l4 = .udp ∧ ∃ b0 r, x.p.payload = b0 :: r ∧ x.h = parseHeader1 b0 r ∧
      (((b0.toNat &&& 0x40) >>> 6 = 1) ∨ o.greasy = true) :=
  quicView_mem o kl xs x h

/-- **C10, whole program, QUIC, items level.** Every frame of every exported QUIC session runs between the client's
    ORIGINAL endpoint and the server's address with the exported server port: the original port when
    `keep_original_ports` (no `-m`), else the port the map lists for it, else 8080; MAC addresses and IP version are those
    of the datagram `x0` that created the session. The roles are decided on `x0` (`rolesOf`): the side whose port is in
    the server-port list is the server; when NEITHER port is in the list the session still exists — QUIC is recognised by
    the header bits of the UDP payload (`mem_quicView`), not by the ports — and the DESTINATION of `x0` is taken for the
    server. -/
theorem export_ports_quic_items (o : Opts) (fk : Option (List Keylog.Key)) (xs : List (Item Keylog.Key)) :
    (∀ s ∈ quicSess mask H P info o fk xs, ∀ pkt ∈ qFrames mask H P info o.metadata s,
      let sp := TcpOut.exportedServerPort o.keep (Pipeline.portmapFn o.portmap) s.server.port
      ((pkt.src = s.client ∧ pkt.dst = ⟨s.server.ip, sp⟩) ∨ (pkt.src = ⟨s.server.ip, sp⟩ ∧ pkt.dst = s.client)) ∧
      (o.keep = true → sp = s.server.port) ∧
      (o.keep = false → sp = ((Pipeline.portmapFn o.portmap) s.server.port).getD 8080)) ∧
    (∀ s ∈ quicSess mask H P info o fk xs, ∃ x0 ∈ quicView o (fk.getD []) xs, Item.frame x0.p ∈ xs ∧ x0.p.l4 = .udp ∧
      (s.server, s.client) = rolesOf o.ports x0.p ∧
      (o.ports.contains (x0.p.src.port : Int) = true → s.server = x0.p.src ∧ s.client = x0.p.dst) ∧
      (o.ports.contains (x0.p.src.port : Int) = false → s.server = x0.p.dst ∧ s.client = x0.p.src)) := by
  refine ⟨?_, ?_⟩
  · intro s hs pkt hpkt sp
    have hok := qOk_all mask H P info o fk xs s hs
    refine ⟨?_, by intro hk; simp [sp, TcpOut.exportedServerPort, hk], by intro hk; simp [sp, TcpOut.exportedServerPort, hk]⟩
    obtain ⟨_, _, _, _, hq, _⟩ := Props.C02Pipeline.quic_out_addressed o.metadata s.st pkt hpkt
    simp only [hok.opts, hok.server, hok.client] at hq
    rcases hq with ⟨a, b, _, _⟩ | ⟨a, b, _, _⟩
    · exact .inr ⟨a, b⟩
    · exact .inl ⟨a, b⟩
  · intro s hs
    obtain ⟨x0, hx0, hr, _⟩ := (qOk_all mask H P info o fk xs s hs).first
    obtain ⟨hm, hu, _⟩ := mem_quicView o _ xs x0 hx0
    refine ⟨x0, hx0, hm, hu, hr, ?_, ?_⟩
    · intro hc; simp only [rolesOf, hc, if_true, Prod.mk.injEq] at hr; exact hr
    · intro hc; simp only [rolesOf, hc, Bool.false_eq_true, if_false, Prod.mk.injEq] at hr; exact hr

end C10

section C07
variable (mask : Quic.Dissect.MaskFn) (H : Crypto.Prims) (P : Cipher.Prims) (info : Nat → Pipeline.Info)

/-- **C07, whole program, QUIC, items level.** For every QUIC session `s` (created by the datagram `x0` of the capture's
    QUIC view) and every exported frame: no TCP fields, the IP version of `x0`, the two ends as `x0` shows them — frames
    from the server carry the server's IP and the MAC `x0` has on the server's side, and so on —, and the CAPTURE TIME of a
    datagram `x` of the capture that the loop gave to this session (`Routed`: its endpoints are the session's, or it names
    a non-empty connection ID) and in which the session found an exported frame. -/
theorem export_time_and_ends_quic_items (o : Opts) (fk : Option (List Keylog.Key)) (xs : List (Item Keylog.Key)) :
    ∀ s ∈ quicSess mask H P info o fk xs, ∃ x0 ∈ quicView o (fk.getD []) xs,
      (s.server, s.client) = rolesOf o.ports x0.p ∧
      ∀ pkt ∈ qFrames mask H P info o.metadata s,
        pkt.flags = 0 ∧ pkt.seq = 0 ∧ pkt.ack = 0 ∧ pkt.udp = true ∧ pkt.ipv6 = (info x0.p.tag).ipv6 ∧
        (let sMac := if o.ports.contains (x0.p.src.port : Int) then (info x0.p.tag).srcMac else (info x0.p.tag).dstMac
         let cMac := if o.ports.contains (x0.p.src.port : Int) then (info x0.p.tag).dstMac else (info x0.p.tag).srcMac
         (pkt.src.ip = s.server.ip ∧ pkt.dst = s.client ∧ pkt.srcMac = sMac ∧ pkt.dstMac = cMac) ∨
         (pkt.src = s.client ∧ pkt.dst.ip = s.server.ip ∧ pkt.srcMac = cMac ∧ pkt.dstMac = sMac)) ∧
        ∃ x ∈ quicView o (fk.getD []) xs, pkt.ts = (info x.p.tag).ts ∧ Routed s x := by
  intro s hs
  have hok := qOk_all mask H P info o fk xs s hs
  obtain ⟨x0, hx0, hr, h6, hsm, hcm⟩ := hok.first
  refine ⟨x0, hx0, hr, ?_⟩
  intro pkt hpkt
  obtain ⟨a1, a2, a3, a4, a5, e, he, _, hts⟩ := Props.C02Pipeline.quic_out_addressed o.metadata s.st pkt hpkt
  have hudp : pkt.udp = true := by
    have hp : pkt ∈ connOut o.metadata s.st := hpkt
    rw [connOut_eq] at hp
    obtain ⟨d, _, rfl⟩ := List.mem_map.mp hp
    unfold addressed; split <;> rfl
  refine ⟨a1, a2, a3, hudp, a4.trans h6, ?_, ?_⟩
  · simp only [hok.server, hok.client, hsm, hcm] at a5
    rcases a5 with ⟨b1, b2, b3, b4⟩ | ⟨b1, b2, b3, b4⟩
    · exact .inl ⟨by rw [b1], b2, b3, b4⟩
    · exact .inr ⟨b1, by rw [b2], b3, b4⟩
  · obtain ⟨x, hx, h1, h2⟩ := hok.outs e he
    exact ⟨x, hx, by rw [← hts]; exact h1, h2⟩

end C07

section C13
variable (mask : Quic.Dissect.MaskFn) (H : Crypto.Prims) (P : Cipher.Prims) (info : Nat → Pipeline.Info)
open TLX.Quic.UdpOut

/-- the session object with the options it stores changed by `F` -/
def qsessOpts (F : Opts → Opts) (s : QuicSess QConn) : QuicSess QConn :=
  { s with st := { s.st with opts := F s.st.opts } }

/-- the session object with `metadata` set to `b` in the options it stores -/
def qsessMeta (b : Bool) (s : QuicSess QConn) : QuicSess QConn :=
  { s with st := { s.st with opts := optMeta s.st.opts b } }

theorem feed_meta (b : Bool) (c : QConn) (kl : List Keylog.Key) (p : Pkt) (d : Bytes) (v : MainLoop.Version) :
    (quicMachine mask H P info).feed { c with opts := optMeta c.opts b } kl p d v =
      { (quicMachine mask H P info).feed c kl p d v with
        opts := optMeta ((quicMachine mask H P info).feed c kl p d v).opts b } :=
  feed_opts H P info mask (optMeta · b) c kl p d v

theorem quicView_optMeta (o : Opts) (b : Bool) (kl : List Keylog.Key) (xs : List (Item Keylog.Key)) :
    quicView (optMeta o b) kl xs = quicView o kl xs :=
  (views_congr o (optMeta o b) xs fun _ _ => rfl).2.2 kl

/-- `-a`, `-m` are only stored by the QUIC sessions: under other values the sessions are the same objects up to the stored
    options -/
theorem quicSess_opts (F : Opts → Opts) (o : Opts) (hports : (F o).ports = o.ports) (fk : Option (List Keylog.Key))
    (xs : List (Item Keylog.Key)) (hcl : ∀ it ∈ xs, classify (F o) it = classify o it) :
    quicSess mask H P info (F o) fk xs = (quicSess mask H P info o fk xs).map (qsessOpts F) := by
  unfold quicSess
  rw [(views_congr o (F o) xs hcl).2.2]
  have h := quicRun_map (quicMachine mask H P info) _ o (F o) (fun c => { c with opts := F c.opts }) id
    (fun _ => rfl) (fun _ => rfl) (fun _ => rfl) hports (fun p => by simp only [quicMachine_new, hports, id])
    (fun c kl p d v => feed_opts H P info mask F c kl p d v) (fun _ => rfl) (fun _ => rfl) (quicView o (fk.getD []) xs) []
  rwa [show (fun x : QIn Keylog.Key => ({ x with p := id x.p } : QIn Keylog.Key)) = id from rfl, List.map_id] at h

theorem quicSess_meta (o : Opts) (b : Bool) (fk : Option (List Keylog.Key)) (xs : List (Item Keylog.Key)) :
    quicSess mask H P info (optMeta o b) fk xs = (quicSess mask H P info o fk xs).map (qsessMeta b) :=
  quicSess_opts mask H P info (optMeta · b) o rfl fk xs fun _ _ => rfl

/-- **C13, whole program, QUIC, items level.** The same capture, key log and options, once without and once with `-a`:
    the QUIC sessions correspond one to one in the same order and are the SAME objects up to the stored flag (the
    demultiplexer, the dissector and the session never read it: same `output_buffer`). For each session, with `F` the frames
    of its `output_buffer` as the builder reads them: both exports are `build` of `F`, addressed the same way; and the
    groups of the export without `-a` are the groups of the export with `-a` RESTRICTED to STREAM data, then regrouped
    (`C02Out.meta_regroup`: groups that become empty vanish, neighbours with equal (time, direction) merge). In particular
    the exported STREAM bytes are the same, in the same order. -/
theorem export_meta_only_adds_quic_items (o : Opts) (fk : Option (List Keylog.Key)) (xs : List (Item Keylog.Key)) :
    quicSess mask H P info (optMeta o true) fk xs = (quicSess mask H P info (optMeta o false) fk xs).map (qsessMeta true) ∧
    (quicFrames mask H P info (optMeta o false) fk xs).length = (quicFrames mask H P info (optMeta o true) fk xs).length ∧
    ∀ s ∈ quicSess mask H P info (optMeta o false) fk xs,
      let F := s.st.st.out.map frameOf
      qFrames mask H P info false s = (build false F).map (addressed s.st) ∧
      qFrames mask H P info true (qsessMeta true s) = (build true F).map (addressed s.st) ∧
      chunks false F = regroup (restrict (·.1) (chunks true F)) ∧
      ((build false F).map (·.payload)).flatten =
        ((chunks true F).flatMap fun g => (g.2.filter (·.1)).map (·.2)).flatten := by
  have hs : quicSess mask H P info (optMeta o true) fk xs =
      (quicSess mask H P info (optMeta o false) fk xs).map (qsessMeta true) :=
    quicSess_meta mask H P info (optMeta o false) true fk xs
  refine ⟨hs, by simp only [quicFrames, List.length_map, hs], ?_⟩
  intro s _ F
  have hreg := Props.C02Out.meta_regroup F
  refine ⟨connOut_eq false s.st, ?_, hreg, ?_⟩
  · show connOut true (qsessMeta true s).st = _
    rw [connOut_eq]
    rfl
  · have hL : ((build false F).map (·.payload)).flatten = ((F.filter (isExp false)).map (·.data)).flatten := by
      rw [← List.flatMap_def, Props.C02Out.out_bytes_from_frames, filterMap_exported]
    have hG : ∀ gs : List Group, (gs.map fun g => (g.1, g.2.map chunkOf)).flatMap
        (fun g => (g.2.filter (·.1)).map (·.2)) = (((gs.flatMap (·.2)).map chunkOf).filter (·.1)).map (·.2) := by
      intro gs
      induction gs with
      | nil => rfl
      | cons g gs ih => simp [ih, List.filter_append]
    have hR : (chunks true F).flatMap (fun g => (g.2.filter (·.1)).map (·.2)) = (F.filter (isExp false)).map (·.data) := by
      unfold chunks
      rw [hG, (Props.C02Out.runs_spec true F).1]
      have := Props.C02Out.stream_chunks F
      show ((List.filter (isExp true) F).map chunkOf |>.filter (·.1)).map (·.2) = _
      rw [this, List.map_map]
      rfl
    rw [hL, hR]

end C13
end TLX.Props.ExportPropsQuic
