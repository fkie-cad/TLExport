/-
Instances of `Props/ExportFaults.lean`, evaluated by the kernel through the whole pipeline (the capture of
`Props/ExportDemuxEx.lean`: four TLS-port TCP flows and two QUIC connections of different clients, interleaved).
-/
import TLX.Props.ExportFaults
import TLX.Props.ExportDemuxEx
import TLX.Props.C12
namespace TLX.Props.ExportFaults.Ex
open TLX TLX.MainLoop TLX.Export TLX.Spec.Demux TLX.QuicPipeline TLX.Lemmas.ExportProps TLX.Lemmas.ExportDemux
open TLX.Props.ExportPropsQuic TLX.Props.ExportDemux TLX.Props.ExportDemux.Ex
open TLX.Props.C02File.Ex (H Pc maskFn keys)
open TLX.Props.ExportPropsQuic.Ex (info view)

/-- the victim: the QUIC connection of the client 10.0.0.3 -/
def victim (p : Pkt) : Bool := lab p == 2

abbrev vl : QIn Keylog.Key → Nat := fun x => vlab victim x.p

theorem hflow : ∀ a ∈ tcpView o (only (fun p => !victim p) merged), ∀ b ∈ tcpView o (victimFrames victim merged),
    sameFlow a b = false := by decide +kernel

/-- among the QUIC datagrams of `merged` the bystanders are the first connection -/
theorem bystander_lab (x : QIn Keylog.Key) (hx : x ∈ quicView o ((some keys : Option (List Keylog.Key)).getD []) merged) :
    (!victim x.p) = (lab x.p == 1) := by
  rcases V_lab12 x hx with h | h <;> simp [victim, h]

/-- victim / bystanders is the division of `ExportDemux.Ex` by connection, so the separation is `sep1`, `sep2` -/
theorem hBV : CaptureSeparated QM o (cls vl 0 V) (rest vl 0 V) := by
  have h : ∀ x ∈ V, (vl x == 0) = (labQ x == 1) := fun x hx => (vlab_zero victim x.p).trans (bystander_lab x hx)
  unfold cls rest
  rw [List.filter_congr h, List.filter_congr fun x hx => congrArg (!·) (h x hx)]
  exact sep1
theorem hVB : CaptureSeparated QM o (cls vl 1 V) (rest vl 1 V) := by
  simp only [cls, rest, vlab_one]
  exact sep2

/-- non-vacuity of `export_bystander_unaffected_quic`: every hypothesis holds on the merged capture -/
theorem bystander_quic_instance :
    Merge (tlsFrames H Pc info o (some keys) (only (fun p => !victim p) merged))
      ((tlsConvs H Pc info o (victimFrames victim merged)).map (convFrames H Pc info (keysOf (some keys) merged)))
      (tlsFrames H Pc info o (some keys) merged) ∧
    Merge (quicFrames maskFn H Pc info o (some keys) (only (fun p => !victim p) merged))
      (quicFrames maskFn H Pc info o (some keys) (only victim merged)) (quicFrames maskFn H Pc info o (some keys) merged) :=
  (export_bystander_unaffected_quic maskFn H Pc info freshState args0 o ho (some keys) merged victim hflow hBV hVB).2.2

/-- what `bystander_quic_instance` says of its capture: without the victim the bystander QUIC connection exports the same
    four datagrams, the TLS conversations are the same four -/
theorem bystander_quic_view :
    view (quicFrames maskFn H Pc info o (some keys) (only (fun p => !victim p) merged)) =
      [[(122, [0x48, 0x49]), (124, [0x47, 0x45, 0x54]), (125, [0x4f, 0x4b]), (127, [0x4d, 0x4f, 0x52, 0x45])]] ∧
    (tlsConvs H Pc info o (only (fun p => !victim p) merged)).length = 4 := by
  refine ⟨?_, by decide +kernel⟩
  -- the QUIC sessions of a restricted capture depend on the choice among its QUIC datagrams only
  unfold quicFrames
  rw [quicSess_only, List.filter_congr bystander_lab, ← quicSess_only maskFn H Pc info o (some keys) (fun p => lab p == 1),
    only1]
  exact solo1

/-- the fault `cut-after` on the victim at position 10 of the capture: its session exports the first two of its four
    datagrams (`export_victim_cut_quic`: `CutRel`, here a plain prefix), the bystanders' capture is the same list -/
theorem victim_cut_view :
    view (quicFrames maskFn H Pc info o (some keys) (only victim (cutVictim victim 10 merged))) =
      [[(132, [0x48, 0x49]), (134, [0x47, 0x45, 0x54])]] ∧
    view (quicFrames maskFn H Pc info o (some keys) (only victim merged)) =
      [[(132, [0x48, 0x49]), (134, [0x47, 0x45, 0x54]), (135, [0x4f, 0x4b]), (137, [0x4d, 0x4f, 0x52, 0x45])]] := by
  -- three of the victim's five datagrams stand before position 10
  have cut : only victim (cutVictim victim 10 merged) = q2.take 3 := rfl
  exact ⟨cut ▸ runs.1.2.1, only2 ▸ solo2⟩

/-- non-vacuity of `payloads_never_abort`: the libpcap capture of `ExportInputs2.Ex` (two segments of a flow to port 443, a
    segment of another flow whose payload is a TLS record header with nothing behind it, a non-IP frame) is read to the
    end, so for EVERY key-log text and every primitive the run writes a file or the writer raises — nothing else -/
theorem never_abort_instance (mask : Quic.Dissect.MaskFn) (H' : Crypto.Prims) (P : Cipher.Prims) (kl : Option Keylog.Str) :
    (∃ f, exportFile mask H' P ExportInputs2.Ex.args0 true kl
        (Spec.Containers.encode ExportInputs2.Ex.nano ExportInputs2.Ex.evs3) = .file f) ∨
    (∃ e, exportFile mask H' P ExportInputs2.Ex.args0 true kl
        (Spec.Containers.encode ExportInputs2.Ex.nano ExportInputs2.Ex.evs3) = .abort (.write e)) := by
  have hr : Ingest.itemsWith Keylog.srcHexClass ExportInputs2.Ex.args0.checksumTest true
      (Spec.Containers.encode ExportInputs2.Ex.nano ExportInputs2.Ex.evs3) =
      .ok (ExportInputs2.Ex.X3, ExportInputs2.Ex.IS3) := by
    have := ExportInputs.itemsWith_of_read Keylog.srcHexClass false true _ _
      (C12.reader_roundtrip ExportInputs2.Ex.nano ExportInputs2.Ex.evs3 ExportInputs2.Ex.evs3_wf.1)
    rw [ExportInputs2.Ex.evs3_read] at this
    exact this
  obtain ⟨out, _, h, _⟩ := payloads_never_abort mask H' P ExportInputs2.Ex.args0 true kl _ (by decide +kernel) _ _ hr
  exact h

end TLX.Props.ExportFaults.Ex
