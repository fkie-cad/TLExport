/-
C13 (TLS session part, composed with the builder) — metadata export only adds packets.

For EVERY decryptor behaviour and EVERY record sequence: running the session with `exp_meta` on and off leads to the
same decryptor / handshake state, and the traffic list without `-a` is exactly the traffic list with `-a` minus the
metadata entries (`session_meta_only_adds`). Composed with the TCP builder (`tls_meta_export_sublist`): the
payload-carrying segments exported without `-a` are a subsequence — same direction, capture time and payload, same
order — of those exported with `-a`. `hello_records_verbatim`: with `-a` every handshake-type record (ClientHello,
ServerHello, …) is appended verbatim as an entry of its own, carried by its own packets.
-/
import TLX.Lemmas.Session
import TLX.Props.C13
namespace TLX.Props.C13
open TLX TLX.Session

variable {δ : Type}

/-- the session's traffic entries as the builder sees them -/
def toRec (e : Entry) : TcpOut.Rec := ⟨e.data, e.record.carriers, e.fromServer⟩

/-- same handshake/decryptor state with and without `-a`; the traffic differs exactly by the metadata entries -/
theorem session_meta_only_adds (O : Ops δ) (rs : List (Rec × Bool)) :
    (run O false St.init rs).traffic = (run O true St.init rs).traffic.filter (·.isApp) ∧
    (run O false St.init rs).core = (run O true St.init rs).core := by
  have h : (run O true St.init rs).strip = run O false St.init rs := run_strip O St.init rs
  rw [← h]
  exact ⟨rfl, rfl⟩

theorem build_sublist (off on : List TcpOut.Rec) (hs : off.Sublist on) (fsOn fsOff : List TcpOut.Frame)
    (hon : TcpOut.build on = some fsOn) (hoff : TcpOut.build off = some fsOff) :
    (TcpOut.dataFrames fsOff).Sublist (TcpOut.dataFrames fsOn) := by
  rw [C07.data_is_records _ _ hon, C07.data_is_records _ _ hoff]
  exact sublist_flatMap TcpOut.recData hs

/-- C13 for TLS, session and builder composed: the data segments without `-a` are a subsequence of those with `-a` -/
theorem tls_meta_export_sublist (O : Ops δ) (rs : List (Rec × Bool)) (fsOn fsOff : List TcpOut.Frame)
    (hon : TcpOut.build ((run O true St.init rs).traffic.map toRec) = some fsOn)
    (hoff : TcpOut.build ((run O false St.init rs).traffic.map toRec) = some fsOff) :
    (TcpOut.dataFrames fsOff).Sublist (TcpOut.dataFrames fsOn) := by
  apply build_sublist _ _ _ fsOn fsOff hon hoff
  rw [(session_meta_only_adds O rs).1]
  exact List.Sublist.map _ List.filter_sublist

/-- with `-a` a handshake-type record is exported verbatim as an entry of its own (after whatever its decryption
    contributed), attributed to the packets that carried it -/
theorem hello_records_verbatim (O : Ops δ) (s : St δ) (r : Rec) (srv : Bool) (h : r.typ = some 0x16) :
    (handleRecord O true s r srv).traffic.getLast? = some ⟨some r.raw, r, srv, false⟩ := by
  rw [handleRecord_handshake O true s r srv h]
  simp [pushMeta, St.push]

/-- without `-a` a handshake-type record contributes nothing to the traffic -/
theorem hello_records_silent (O : Ops δ) (s : St δ) (r : Rec) (srv : Bool) (h : r.typ = some 0x16) :
    (handleRecord O false s r srv).traffic = s.traffic := by
  rw [handleRecord_handshake O false s r srv h]
  exact handshakeRecord_silent O s r srv

-- Non-vacuity: a session whose decryptor returns the record body; ClientHello, CCS, application record
def echo : Ops Unit := ⟨fun d r _ => (d, some (some r.body)), fun d _ => (d, true), fun _ _ _ _ _ _ => .installed ()⟩

example :
    ((run echo true St.init [(⟨[0x16, 3, 3, 0, 1, 1], [7]⟩, false), (⟨[0x17, 3, 3, 0, 1, 5], [8]⟩, false)]).traffic.map
      (·.isApp)) = [false] := by decide

end TLX.Props.C13
