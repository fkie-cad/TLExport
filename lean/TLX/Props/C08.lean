/-
C08 — cutting the capture at any point only removes a suffix of the export.
The pipeline stages are online machines whose steps only append output (`Machine.prefix_monotone`); here the
statement is instantiated for the TCP output builder (`TcpOut.segMachine`): the conversation built from the first `n`
records is a prefix of the conversation built from all records (sequence numbers, acknowledgements, timestamps and payloads
included), so nothing already exported is ever retracted or altered by later records.
(Reassembly: `TLX.Props.C05`; QUIC datagram grouping: `TLX.Props.C02`.)
-/
import TLX.Lemmas.TcpOutData
namespace TLX.Props.C08
open TLX TLX.TcpOut

/-- generic: any pipeline stage of the form "state × input → state × appended output" -/
theorem stage_prefix_monotone {σ ι ο : Type} (m : Machine σ ι ο) (s : σ) (xs : List ι) (n : Nat) :
    (m.run s (xs.take n)).2 <+: (m.run s xs).2 := m.prefix_monotone s xs n

/-- C08 for the TCP builder: for EVERY record list and every cut `n`, what is built from the first `n` records is a
    prefix (frame by frame) of what is built from all records -/
theorem build_take_prefix (recs : List Rec) (n : Nat) (fa fb : List Frame)
    (ha : build (recs.take n) = some fa) (hb : build recs = some fb) : fa <+: fb := by
  rcases build_some ha with ⟨_, rfl⟩ | ⟨t0, h0, _, rfl⟩
  · exact List.nil_prefix
  · have e : (recs.take n).head? = recs.head? := by
      cases n with
      | zero => simp at h0
      | succ n => cases recs <;> rfl
    rcases build_some hb with ⟨rfl, _⟩ | ⟨t0', h0', _, rfl⟩
    · simp at h0
    · rw [e, h0'] at h0
      cases h0
      -- the segments of the first `n` records are a prefix of all segments: the machine's outputs are, too
      have hp : (recs.take n).flatMap recData <+: recs.flatMap recData :=
        ⟨(recs.drop n).flatMap recData, by rw [← List.flatMap_append, List.take_append_drop]⟩
      rw [List.prefix_iff_eq_take.mp hp]
      exact (List.prefix_append_right_inj _).mpr (stage_prefix_monotone segMachine (1, 1) _ _)

-- Non-vacuity: a cut inside a two-record conversation
example : ∃ fa fb, build ([⟨some [1, 2, 3], [10, 11], false⟩, ⟨some [7], [12], true⟩].take 1) = some fa ∧
    build [⟨some [1, 2, 3], [10, 11], false⟩, ⟨some [7], [12], true⟩] = some fb ∧ fa.length = 7 ∧ fb.length = 9 :=
  ⟨_, _, rfl, rfl, by decide, by decide⟩

end TLX.Props.C08
