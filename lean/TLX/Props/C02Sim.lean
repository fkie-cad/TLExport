import TLX.Props.C02HsPacket
set_option autoImplicit false
/-! # The handshake phase of a QUIC connection as a simulation

A datagram of the handshake phase is a list of long-header packets (they have a Length field: each is followed by the rest
of the datagram), optionally closed by ONE 1-RTT packet (`Spec.QuicConnection.PkH` and `Dg1` are the same record: a sender's
packet with its mask). The observer keeps a bookkeeping `Bk`; `Sim b s` says that the session `s` agrees with it. Everything
above one packet is generic in the kinds of long-header packets (`Kinds`, with ONE obligation per kind: `Kinds.Steps`) and in
the datagram type, which is read as packets through a `DgView`.

The invariants along a list are indexed by the bookkeeping AND by the input still to come (`foldl_sim`, `Eats.fold`): the
conditions on the remaining packets, the parser trace on their CRYPTO inputs and the output they will produce travel in it. -/
namespace TLX.Props.C02Sim
open TLX TLX.Quic TLX.Cipher TLX.Quic.Session TLX.Lemmas.QuicSession TLX.Spec.QuicSender TLX.Spec.QuicFrames
open TLX.Props.C02Session TLX.Spec.QuicConnection TLX.Spec.QuicPackets TLX.QuicPipeline
open TLX.Props.C02Capstone TLX.Props.C02Capstone3 TLX.Props.C02Capstone4 TLX.Spec.KeySchedules TLX.Lemmas.KeySchedule

theorem foldl_sim {σ α β : Type} (f : σ → α → σ) (step : β → α → β) (I : List α → β → σ → Prop)
    (h : ∀ a as b s, I (a :: as) b s → I as (step b a) (f s a)) :
    ∀ (as : List α) (b : β) (s : σ), I as b s → I [] (as.foldl step b) (as.foldl f s) := by
  intro as
  induction as with
  | nil => exact fun _ _ h0 => h0
  | cons a as ih => exact fun b s h0 => ih _ _ (h a as b s h0)

section EatsSec
variable (maskFn : Dissect.MaskFn) (P : Params Tls)

/-- from `s`, the loop of `handle_packet` works off the bytes `w` in front of anything, without an exception, and stands
    in `s'` before the rest -/
def Eats (srv : Bool) (guessed : Bytes) (ts : Nat) (s : St Tls) (w : Bytes) (s' : St Tls) : Prop :=
  ∀ more, (Dissect.dissectLoop maskFn (fun x : LoopSt => envOf x.1) (handleTurn P) srv guessed ts (s, none) (w ++ more)).1 =
    (Dissect.dissectLoop maskFn (fun x : LoopSt => envOf x.1) (handleTurn P) srv guessed ts (s', none) more).1

theorem Eats.nil (srv : Bool) (guessed : Bytes) (ts : Nat) (s : St Tls) : Eats maskFn P srv guessed ts s [] s :=
  fun _ => rfl

theorem Eats.append {srv : Bool} {guessed : Bytes} {ts : Nat} {s s1 s2 : St Tls} {w1 w2 : Bytes}
    (h1 : Eats maskFn P srv guessed ts s w1 s1) (h2 : Eats maskFn P srv guessed ts s1 w2 s2) :
    Eats maskFn P srv guessed ts s (w1 ++ w2) s2 := by
  intro more
  rw [List.append_assoc, h1, h2]

theorem Eats.fold {α β : Type} (srv : Bool) (guessed : Bytes) (ts : Nat) (step : β → α → β) (wire : α → Bytes)
    (I : List α → β → St Tls → Prop)
    (h : ∀ a as b s, I (a :: as) b s → ∃ s', I as (step b a) s' ∧ Eats maskFn P srv guessed ts s (wire a) s') :
    ∀ (as : List α) (b : β) (s : St Tls), I as b s →
      ∃ s', I [] (as.foldl step b) s' ∧ Eats maskFn P srv guessed ts s (as.map wire).flatten s' := by
  intro as
  induction as with
  | nil => exact fun b s h0 => ⟨s, h0, Eats.nil maskFn P srv guessed ts s⟩
  | cons a as ih =>
    intro b s h0
    obtain ⟨s1, h1, e1⟩ := h a as b s h0
    obtain ⟨s2, h2, e2⟩ := ih _ _ h1
    exact ⟨s2, h2, by simpa using e1.append maskFn P e2⟩

end EatsSec

/-- the observer's bookkeeping in the handshake phase: the tracker, and the known suite `set_tls_decryptors` was last called
    with (`C02Capstone4.ecsFold`) -/
structure Bk where
  t : Trk
  ecs : Option SuiteSel

/-- the bookkeeping after the 1-RTT packet that closes a datagram, if there is one -/
def Bk.close (b : Bk) (so : Option Dg1) : Bk := so.elim b fun o => ⟨b.t.short o.x, b.ecs⟩

/-- what the closing 1-RTT packet puts into `output_buffer` -/
def shortOutOf (so : Option Dg1) : List Out := so.elim [] fun o => expectedOf .rtt1 o.x

section SimSec
variable (H : Crypto.Prims) (dcid0 ch sh ca sa : Bytes) (early : Option Bytes) (sel : SuiteSel)

/-- the session agrees with the bookkeeping; nothing is said about `output_buffer` (`C02Capstone.HsSt`) -/
structure Sim (b : Bk) (s : St Tls) : Prop where
  st : HsSt H dcid0 sel ch sh ca sa b.t s
  early : EarlyInv H early b.ecs s

variable {H dcid0 ch sh ca sa early sel}

theorem Sim.chacha {b : Bk} {s : St Tls} (h : Sim H dcid0 ch sh ca sa early sel b s) : (envOf s).chacha = chachaOf b.t.core :=
  (chachaOf_core s).trans (congrArg chachaOf h.st.core)

theorem Sim.pc {b : Bk} {s : St Tls} (h : Sim H dcid0 ch sh ca sa early sel b s) : s.pnClient = b.t.tc := h.st.pc
theorem Sim.ps {b : Bk} {s : St Tls} (h : Sim H dcid0 ch sh ca sa early sel b s) : s.pnServer = b.t.ts := h.st.ps
theorem Sim.cc {b : Bk} {s : St Tls} (h : Sim H dcid0 ch sh ca sa early sel b s) : s.clientCids = b.t.cc := h.st.cc
theorem Sim.sc {b : Bk} {s : St Tls} (h : Sim H dcid0 ch sh ca sa early sel b s) : s.serverCids = b.t.sc := h.st.sc
theorem Sim.ver {b : Bk} {s : St Tls} (h : Sim H dcid0 ch sh ca sa early sel b s) : s.tls.ver = s.version := h.st.inv.ver

theorem Sim.est {Pc : Cipher.Prims} (kl : List Keylog.Key) {b : Bk} {s : St Tls} (h : Sim H dcid0 ch sh ca sa early sel b s)
    (hk : b.t.keyed = true) :
    Est H Pc kl sel .v1 (rfcGen (hashOf H sel.hash) sel.keyLen sa ca 0) (quicHp (hashOf H sel.hash) ca sel.keyLen)
      (quicHp (hashOf H sel.hash) sa sel.keyLen) (chachaOf b.t.core) s 0 0 b.t.tc.app b.t.ts.app b.t.cc b.t.sc :=
  est_of_hsSt H Pc kl h.st hk

theorem Sim.of_hsSt {t : Trk} {ecs : Option SuiteSel} {s : St Tls}
    (h : HsSt H dcid0 sel ch sh ca sa t s) (he : EarlyInv H early ecs s) : Sim H dcid0 ch sh ca sa early sel ⟨t, ecs⟩ s :=
  ⟨h, he⟩

/-- in the handshake phase the prologue of `handle_packet` changes nothing (the Initial decryptor exists, the version is
    latched); `v`: what the main loop reads off a short (`unknown`) or a long header -/
theorem feedPre_sim (P : Params Tls) {b : Bk} {s : St Tls} (h : Sim H dcid0 ch sh ca sa early sel b s) (dcid : Bytes)
    (v : MainLoop.Version) : feedPre H P s dcid (sver v) = s := by
  have hi : s.decInitial = some (initDec H dcid0) := h.st.inv.init
  have hv1 : s.version = .v1 := h.st.inv.version
  exact feedPre_est H P s dcid (by rw [hi]; rfl) h.ver (sver v) (Or.inr (by rw [hv1]; decide))

end SimSec

/-- the kinds of long-header packets of a history: `x` the sender's decisions, `ins` the CRYPTO inputs the packet hands to
    the TLS parser, `out` what it puts into `output_buffer` that is exported without `-a`, `wire` its bytes, `step` the
    bookkeeping after it, `Ok` what is asked of its sender relative to the bookkeeping when it is reached -/
structure Kinds (ε : Type) where
  x : ε → SPkt
  ins : ε → List CryptoIn
  out : ε → List Out
  wire : ε → Bytes
  step : Bk → ε → Bk
  Ok : Bk → ε → Prop

section KindsSec
variable {ε : Type} (K : Kinds ε)

def Kinds.run (b : Bk) (evs : List ε) : Bk := evs.foldl K.step b
def Kinds.insOf (evs : List ε) : List CryptoIn := evs.flatMap K.ins
def Kinds.outOf (evs : List ε) : List Out := evs.flatMap K.out
def Kinds.wireOf (evs : List ε) : Bytes := (evs.map K.wire).flatten

def Kinds.Oks : Bk → List ε → Prop
  | _, [] => True
  | b, ev :: evs => K.Ok b ev ∧ Kinds.Oks (K.step b ev) evs

theorem Kinds.Oks.append {b : Bk} {a c : List ε} (h1 : K.Oks b a) (h2 : K.Oks (K.run b a) c) : K.Oks b (a ++ c) := by
  induction a generalizing b with
  | nil => exact h2
  | cons x a ih => exact ⟨h1.1, ih h1.2 h2⟩

theorem Kinds.run_append (b : Bk) (a c : List ε) : K.run b (a ++ c) = K.run (K.run b a) c := List.foldl_append ..
theorem Kinds.insOf_append (a c : List ε) : K.insOf (a ++ c) = K.insOf a ++ K.insOf c := List.flatMap_append ..
theorem Kinds.outOf_append (a c : List ε) : K.outOf (a ++ c) = K.outOf a ++ K.outOf c := List.flatMap_append ..
theorem Kinds.wireOf_append (a c : List ε) : K.wireOf (a ++ c) = K.wireOf a ++ K.wireOf c := by simp [Kinds.wireOf]

end KindsSec

section Machine
variable (maskFn : Dissect.MaskFn) (H : Crypto.Prims) (Pc : Cipher.Prims) (info : Nat → Pipeline.Info)
variable (L : SealLaws Pc) (dcid0 cr csel ch sh ca sa : Bytes) (early : Option Bytes) (sel : SuiteSel)
variable {ε : Type} (K : Kinds ε)

/-- **what a step of the loop can do**, one statement for every kind of long-header packet -/
def Kinds.Steps : Prop :=
  ∀ (kl : List Keylog.Key), KeylogHas kl cr ch sh ca sa early → ∀ (b : Bk) (ev : ε), K.Ok b ev →
    ∀ (rest : List CryptoIn) (s : St Tls), Sim H dcid0 ch sh ca sa early sel b s →
      PTrace cr csel b.t.core (K.ins ev ++ rest) → ∀ guessed : Bytes,
      ∃ s', Sim H dcid0 ch sh ca sa early sel (K.step b ev) s' ∧ PTrace cr csel (K.step b ev).t.core rest ∧
        (∃ J, (∀ o ∈ J, UdpOut.exported false (frameOf o) = none) ∧ s'.out = s.out ++ J ++ K.out ev) ∧
        Eats maskFn (params H Pc kl) (K.x ev).srv guessed (K.x ev).ts s (K.wire ev) s'

variable {maskFn H Pc dcid0 cr csel ch sh ca sa early sel K}

theorem evs_step (hK : K.Steps maskFn H Pc dcid0 cr csel ch sh ca sa early sel) {kl : List Keylog.Key}
    (hkl : KeylogHas kl cr ch sh ca sa early) (srv : Bool) (ts : Nat) (guessed : Bytes) (rest : List CryptoIn)
    (evs : List ε) (hdir : ∀ ev ∈ evs, (K.x ev).srv = srv ∧ (K.x ev).ts = ts) (b : Bk) (hok : K.Oks b evs) (s : St Tls)
    (hsim : Sim H dcid0 ch sh ca sa early sel b s) (htr : PTrace cr csel b.t.core (K.insOf evs ++ rest)) :
    ∃ s', Sim H dcid0 ch sh ca sa early sel (K.run b evs) s' ∧ PTrace cr csel (K.run b evs).t.core rest ∧
      expo s'.out = expo s.out ++ expo (K.outOf evs) ∧
      Eats maskFn (params H Pc kl) srv guessed ts s (K.wireOf evs) s' := by
  obtain ⟨s', ⟨i1, _, i3, _, i5⟩, he⟩ := Eats.fold maskFn (params H Pc kl) srv guessed ts K.step K.wire
    (fun evs' b' s' => Sim H dcid0 ch sh ca sa early sel b' s' ∧ K.Oks b' evs' ∧
      PTrace cr csel b'.t.core (K.insOf evs' ++ rest) ∧ (∀ ev ∈ evs', (K.x ev).srv = srv ∧ (K.x ev).ts = ts) ∧
      expo s'.out ++ expo (K.outOf evs') = expo s.out ++ expo (K.outOf evs))
    (by
      rintro ev evs' b' s' ⟨h1, ⟨h2, h2'⟩, h3, h4, h5⟩
      have h3' : PTrace cr csel b'.t.core (K.ins ev ++ (K.insOf evs' ++ rest)) := by
        simpa [Kinds.insOf, List.flatMap_cons, List.append_assoc] using h3
      obtain ⟨s2, a1, a2, ⟨J, a3, a4⟩, a5⟩ := hK kl hkl b' ev h2 _ s' h1 h3' guessed
      obtain ⟨d1, d2⟩ := h4 ev (List.mem_cons_self ..)
      refine ⟨s2, ⟨a1, h2', a2, fun ev' h' => h4 ev' (List.mem_cons_of_mem _ h'), ?_⟩, d1 ▸ d2 ▸ a5⟩
      rw [← h5, a4, expo_append, expo_append, expo_none J a3]
      simp [Kinds.outOf, List.flatMap_cons, expo_append, List.append_assoc])
    evs b s ⟨hsim, hok, htr, hdir, rfl⟩
  refine ⟨s', i1, i3, ?_, he⟩
  have : expo (K.outOf ([] : List ε)) = [] := rfl
  rwa [this, List.append_nil] at i5

end Machine

section Datagram
variable (maskFn : Dissect.MaskFn) (H : Crypto.Prims) (Pc : Cipher.Prims) (info : Nat → Pipeline.Info)
variable (L : SealLaws Pc) (dcid0 cr csel ch sh ca sa : Bytes) (early : Option Bytes) (sel : SuiteSel)
variable {ε : Type} (K : Kinds ε)

/-- the 1-RTT packet that closes a datagram of direction `srv`, capture time `ts` and routing DCID `dcid`, relative to the
    tracker `t` after the datagram's long-header packets. The first nine conditions are those the fixed statements spell as
    `C02Capstone3.ShortOk` and inside `C02Zr.XDgBad`; `gen0`: no key update while long-header packets still occur
    (`Props/C02Capstone3.lean`, head); `keys` (`C02Capstone.keysWf_rfc`) is a hypothesis of the connection, carried here so
    that the conditions on a datagram need no parameter of their own for it -/
structure ShortAt (t : Trk) (srv : Bool) (ts : Nat) (dcid : Bytes) (o : Dg1) : Prop where
  srv : o.x.srv = srv
  ts : o.x.ts = ts
  dcid : o.x.dcid = dcid
  keyed : t.keyed = true
  level : o.x.level = .oneRtt
  gen0 : o.x.gen = 0
  pn : PnLenOk (if o.x.srv then t.ts.app else t.tc.app) o.x.pn o.x.pnLen
  wf : WellFormedSeq o.x.frames
  dg : DgOk maskFn Pc L sel.alg (genDir (keyUpdate H sel .v1) (rfcGen (hashOf H sel.hash) sel.keyLen sa ca 0) o.x.srv 0)
    (if o.x.srv then quicHp (hashOf H sel.hash) sa sel.keyLen else quicHp (hashOf H sel.hash) ca sel.keyLen)
    (chachaOf t.core) o
  keys : KeysWf (params H Pc []) sel .v1 (rfcGen (hashOf H sel.hash) sel.keyLen sa ca 0)

def shortWire (so : Option Dg1) : Bytes :=
  (so.map (wireOf H Pc L sel .v1 (rfcGen (hashOf H sel.hash) sel.keyLen sa ca 0))).getD []

variable {maskFn H Pc L dcid0 cr csel ch sh ca sa early sel K}

theorem short_step (kl : List Keylog.Key) {b : Bk} {s : St Tls}
    (hsim : Sim H dcid0 ch sh ca sa early sel b s) {srv : Bool} {ts : Nat} {dcid : Bytes} {o : Dg1}
    (hok : ShortAt maskFn H Pc L ca sa sel b.t srv ts dcid o) :
    ∃ s', (Dissect.dissectLoop maskFn (fun x : LoopSt => envOf x.1) (handleTurn (params H Pc kl)) srv dcid ts (s, none)
        (wireOf H Pc L sel .v1 (rfcGen (hashOf H sel.hash) sel.keyLen sa ca 0) o)).1 = (s', none) ∧
      Sim H dcid0 ch sh ca sa early sel ⟨b.t.short o.x, b.ecs⟩ s' ∧ s'.out = s.out ++ expectedOf .rtt1 o.x := by
  obtain ⟨o1, o2, o3, o4, o5, o6, o7, o8, o9, hk⟩ := hok
  replace hk := keysWf_keylog_irrelevant H Pc [] kl _ _ _ hk
  have hest := hsim.est (Pc := Pc) kl o4
  have hlo : (if o.x.srv then 0 else 0) ≤ o.x.gen := by rw [o6]; split <;> exact Nat.le_refl _
  have hhi : o.x.gen ≤ (if o.x.srv then 0 else 0) + 1 := by rw [o6]; split <;> omega
  have hturn := one_turn maskFn H Pc kl L sel .v1 (rfcGen (hashOf H sel.hash) sel.keyLen sa ca 0)
    (quicHp (hashOf H sel.hash) ca sel.keyLen) (quicHp (hashOf H sel.hash) sa sel.keyLen) (chachaOf b.t.core) hk s 0 0 _ _ _ _
    hest o o5 hlo hhi o7 o8 (o6 ▸ o9)
  obtain ⟨b1, b2, b3, b4⟩ := hsSt_after_short H Pc L hk o4 hsim.st o.x o5 o6 o7 o8
    (noCrypto_of_hasCrypto _ o9.noCrypto)
  exact ⟨_, by rw [← o1, ← o2, ← o3]; exact hturn, ⟨b1, hsim.early.congr H b4 (congrArg (·.hp) b3)⟩, b2⟩

variable (hK : K.Steps maskFn H Pc dcid0 cr csel ch sh ca sa early sel)
include hK

/-- **one datagram of the handshake phase, whatever it is made of**: long-header packets of the kinds `K` in any order,
    optionally closed by a 1-RTT packet -/
theorem dg_step {kl : List Keylog.Key} (hkl : KeylogHas kl cr ch sh ca sa early)
    (srv : Bool) (ts : Nat) (dcid : Bytes) (v : Version) (evs : List ε) (so : Option Dg1)
    (hdir : ∀ ev ∈ evs, (K.x ev).srv = srv ∧ (K.x ev).ts = ts) (b : Bk) (hcid : DcidOk b.t.cc b.t.sc srv dcid)
    (hok : K.Oks b evs) (hshort : ∀ o, so = some o → ShortAt maskFn H Pc L ca sa sel (K.run b evs).t srv ts dcid o)
    (rest : List CryptoIn) (s : St Tls) (hsim : Sim H dcid0 ch sh ca sa early sel b (feedPre H (params H Pc kl) s dcid v))
    (htr : PTrace cr csel b.t.core (K.insOf evs ++ rest)) :
    let r := handleDatagram maskFn H (params H Pc kl) s (!srv) dcid v ts (K.wireOf evs ++ shortWire H Pc L ca sa sel so)
    r.2 = none ∧ Sim H dcid0 ch sh ca sa early sel ((K.run b evs).close so) r.1 ∧
    PTrace cr csel ((K.run b evs).close so).t.core rest ∧
    expo r.1.out = expo (feedPre H (params H Pc kl) s dcid v).out ++ expo (K.outOf evs) ++ expo (shortOutOf so) := by
  generalize hs0 : feedPre H (params H Pc kl) s dcid v = s0 at hsim
  have hsrv : packetIsServer s0 (!srv) dcid = srv :=
    packetIsServer_of_dcidOk s0 b.t.cc b.t.sc hsim.cc hsim.sc srv dcid hcid
  obtain ⟨s1, a1, a2, a3, a4⟩ := evs_step hK hkl srv ts dcid rest evs hdir b hok s0 hsim htr
  intro r
  have hr0 : r = (Dissect.dissectLoop maskFn (fun x : LoopSt => envOf x.1) (handleTurn (params H Pc kl)) srv dcid ts
      (s1, none) (shortWire H Pc L ca sa sel so)).1 := by
    show handleDatagram _ _ _ _ _ _ _ _ _ = _
    unfold handleDatagram
    simp only [hs0, hsrv]
    exact a4 _
  cases so with
  | none =>
    have hr : r = (s1, none) := by rw [hr0]; exact congrArg Prod.fst (Lemmas.QuicDissect.dissectLoop_nil ..)
    rw [hr]
    exact ⟨rfl, a1, a2, by rw [a3]; simp [shortOutOf, expo]⟩
  | some o =>
    obtain ⟨s2, e1, e2, e3⟩ := short_step kl a1 (hshort o rfl)
    have hr : r = (s2, none) := by rw [hr0]; exact e1
    rw [hr]
    refine ⟨rfl, e2, a2, ?_⟩
    show expo s2.out = _
    rw [e3, expo_append, a3]; rfl

end Datagram

/-- how a type of datagrams is read: direction, capture time, the routing header as the main loop passes it, its long-header
    packets (of kinds `ε`), the 1-RTT packet that closes it -/
structure DgView (ε D : Type) where
  srv : D → Bool
  ts : D → Nat
  dcid : D → Bytes
  ver : D → MainLoop.Version
  evs : D → List ε
  short : D → Option Dg1

/-- the main loop hands the datagrams over, each with the key log as it is then -/
def feedG {ε D : Type} (V : DgView ε D) (QM : MainLoop.QuicMachine Keylog.Key QConn Pipeline.OutPkt) (c : QConn)
    (items : List (List Keylog.Key × MainLoop.Pkt × D)) : QConn :=
  items.foldl (fun c it => QM.feed c it.1 it.2.1 (V.dcid it.2.2) (V.ver it.2.2)) c

/-- a recursion that feeds the datagrams one by one IS `feedG` (the fixed `hsFeedAll`, `mixFeedAll`, `xFeedAll`, `yFeedAll`) -/
theorem feedG_eq_rec {ε D : Type} (V : DgView ε D) (QM : MainLoop.QuicMachine Keylog.Key QConn Pipeline.OutPkt)
    (F : QConn → List (List Keylog.Key × MainLoop.Pkt × D) → QConn) (h0 : ∀ c, F c [] = c)
    (hc : ∀ c kl p d rest, F c ((kl, p, d) :: rest) = F (QM.feed c kl p (V.dcid d) (V.ver d)) rest) :
    ∀ c items, F c items = feedG V QM c items := by
  intro c items
  induction items generalizing c with
  | nil => exact h0 c
  | cons it rest ih => obtain ⟨kl, p, d⟩ := it; rw [hc]; exact ih _

theorem feedPre_out (H : Crypto.Prims) (P : Params Tls) (s : St Tls) (dcid : Bytes) (v : Version) :
    (feedPre H P s dcid v).out = s.out := by
  unfold feedPre
  simp only []
  split
  · split <;> exact handlePacketPre_out P s dcid v
  · exact handlePacketPre_out P s dcid v

section History
variable (maskFn : Dissect.MaskFn) (H : Crypto.Prims) (Pc : Cipher.Prims) (info : Nat → Pipeline.Info)
variable (L : SealLaws Pc) (dcid0 cr csel ch sh ca sa : Bytes) (early : Option Bytes) (sel : SuiteSel)
variable {ε D : Type} (K : Kinds ε) (V : DgView ε D)

def DgView.wire (d : D) : Bytes := K.wireOf (V.evs d) ++ shortWire H Pc L ca sa sel (V.short d)
def DgView.after (b : Bk) (d : D) : Bk := (K.run b (V.evs d)).close (V.short d)
/-- what the datagram puts into `output_buffer` that is exported without `-a` -/
def DgView.out (d : D) : List Out := K.outOf (V.evs d) ++ shortOutOf (V.short d)
def DgView.ins (d : D) : List CryptoIn := K.insOf (V.evs d)

structure DgView.Ok (b : Bk) (d : D) : Prop where
  ver : V.ver d = .unknown ∨ V.ver d = .v1
  dir : ∀ ev ∈ V.evs d, (K.x ev).srv = V.srv d ∧ (K.x ev).ts = V.ts d
  cid : DcidOk b.t.cc b.t.sc (V.srv d) (V.dcid d)
  evs : K.Oks b (V.evs d)
  short : ∀ o, V.short d = some o → ShortAt maskFn H Pc L ca sa sel (K.run b (V.evs d)).t (V.srv d) (V.ts d) (V.dcid d) o

def DgView.Oks : Bk → List D → Prop
  | _, [] => True
  | b, d :: ds => V.Ok maskFn H Pc L ca sa sel K b d ∧ DgView.Oks (V.after K b d) ds

structure CarriesG (c : QConn) (p : MainLoop.Pkt) (d : D) : Prop where
  payload : p.payload = V.wire H Pc L ca sa sel K d
  ts : (info p.tag).ts = V.ts d
  dir : (p.src == c.client) = !V.srv d

variable {maskFn H Pc info L dcid0 cr csel ch sh ca sa early sel K V}
variable (hK : K.Steps maskFn H Pc dcid0 cr csel ch sh ca sa early sel)
include hK

/-- one datagram through `feed`; `hsim` speaks of the state behind the prologue of `handle_packet` (`feedPre_sim`; for the
    first datagram of a connection `C02Capstone.feedPre_fresh`, after a Retry `C02Capstone.retry_sim`) -/
theorem feed_dg {kl : List Keylog.Key} (hkl : KeylogHas kl cr ch sh ca sa early) {b : Bk} {d : D}
    (hok : V.Ok maskFn H Pc L ca sa sel K b d) (rest : List CryptoIn) {c : QConn} (hr : c.raised = none)
    (hsim : Sim H dcid0 ch sh ca sa early sel b (feedPre H (params H Pc kl) c.st (V.dcid d) (sver (V.ver d))))
    (htr : PTrace cr csel b.t.core (V.ins K d ++ rest)) {p : MainLoop.Pkt}
    (hcar : CarriesG H Pc info L ca sa sel K V c p d) :
    let c' := (quicMachine maskFn H Pc info).feed c kl p (V.dcid d) (V.ver d)
    c'.raised = none ∧ Sim H dcid0 ch sh ca sa early sel (V.after K b d) c'.st ∧ PTrace cr csel (V.after K b d).t.core rest ∧
    expo c'.st.out = expo c.st.out ++ expo (V.out K d) ∧ SameEnds c c' := by
  obtain ⟨r1, r2, r3, r4⟩ := dg_step hK hkl (V.srv d) (V.ts d) (V.dcid d) (sver (V.ver d)) (V.evs d)
    (V.short d) hok.dir b hok.cid hok.evs hok.short rest c.st hsim htr
  intro c'
  have hends : SameEnds c c' := feed_sameEnds maskFn H Pc info c kl p (V.dcid d) (V.ver d)
  have hc' : c' = { c with
      st := (handleDatagram maskFn H (params H Pc kl) c.st (!V.srv d) (V.dcid d) (sver (V.ver d)) (V.ts d)
        (V.wire H Pc L ca sa sel K d)).1,
      raised := (handleDatagram maskFn H (params H Pc kl) c.st (!V.srv d) (V.dcid d) (sver (V.ver d)) (V.ts d)
        (V.wire H Pc L ca sa sel K d)).2 } := by
    show (quicMachine maskFn H Pc info).feed c kl p (V.dcid d) (V.ver d) = _
    rw [quicMachine_feed maskFn H Pc info c kl p (V.dcid d) (V.ver d) hr]
    rw [hcar.payload, hcar.ts, hcar.dir]
  refine ⟨?_, ?_, r3, ?_, hends⟩ <;> rw [hc']
  · exact r1
  · exact r2
  rw [feedPre_out] at r4
  show expo (handleDatagram _ _ _ _ _ _ _ _ _).1.out = _
  unfold DgView.wire
  rw [r4, DgView.out, expo_append, List.append_assoc]

/-- **a history of the handshake phase**, for any datagram type read through `V`, from a state that agrees with the
    bookkeeping `b` -/
theorem feedG_exact (items : List (List Keylog.Key × MainLoop.Pkt × D))
    (hkl : ∀ x ∈ items, KeylogHas x.1 cr ch sh ca sa early)
    (b : Bk) (c : QConn) (hr : c.raised = none) (hsim : Sim H dcid0 ch sh ca sa early sel b c.st)
    (hok : V.Oks maskFn H Pc L ca sa sel K b (items.map (·.2.2)))
    (htr : PTrace cr csel b.t.core ((items.map (·.2.2)).flatMap (V.ins K)))
    (hcar : ∀ x ∈ items, CarriesG H Pc info L ca sa sel K V c x.2.1 x.2.2) :
    let c' := feedG V (quicMachine maskFn H Pc info) c items
    let b' := (items.map (·.2.2)).foldl (V.after K) b
    c'.raised = none ∧ Sim H dcid0 ch sh ca sa early sel b' c'.st ∧
    expo c'.st.out = expo c.st.out ++ expo ((items.map (·.2.2)).flatMap (V.out K)) ∧ SameEnds c c' := by
  have key := foldl_sim (fun c it => (quicMachine maskFn H Pc info).feed c it.1 it.2.1 (V.dcid it.2.2) (V.ver it.2.2))
    (fun (b : Bk) (it : List Keylog.Key × MainLoop.Pkt × D) => V.after K b it.2.2)
    (fun its b' c' => c'.raised = none ∧ Sim H dcid0 ch sh ca sa early sel b' c'.st ∧
      V.Oks maskFn H Pc L ca sa sel K b' (its.map (·.2.2)) ∧
      PTrace cr csel b'.t.core ((its.map (·.2.2)).flatMap (V.ins K)) ∧
      (∀ x ∈ its, KeylogHas x.1 cr ch sh ca sa early ∧ CarriesG H Pc info L ca sa sel K V c x.2.1 x.2.2) ∧
      SameEnds c c' ∧
      expo c'.st.out ++ expo ((its.map (·.2.2)).flatMap (V.out K)) =
        expo c.st.out ++ expo ((items.map (·.2.2)).flatMap (V.out K)))
    (by
      rintro ⟨kl, p, d⟩ its b' c' ⟨h1, h2, ⟨h3, h3'⟩, h4, h5, h6, h7⟩
      obtain ⟨hk, hc⟩ := h5 (kl, p, d) (List.mem_cons_self ..)
      have h4' : PTrace cr csel b'.t.core (V.ins K d ++ (its.map (·.2.2)).flatMap (V.ins K)) := by
        simpa [List.flatMap_cons] using h4
      have hpre := feedPre_sim (params H Pc kl) h2 (V.dcid d) (V.ver d)
      obtain ⟨a1, a2, a3, a4, a5⟩ := feed_dg hK hk h3 _ h1 (by rw [hpre]; exact h2) h4'
        (⟨hc.payload, hc.ts, by rw [h6.client]; exact hc.dir⟩ : CarriesG H Pc info L ca sa sel K V c' p d)
      refine ⟨a1, a2, h3', a3, fun x hx => h5 x (List.mem_cons_of_mem _ hx), h6.trans a5, ?_⟩
      rw [← h7, a4]
      simp only [List.map_cons, List.flatMap_cons, expo_append, List.append_assoc])
    items b c ⟨hr, hsim, hok, htr, fun x hx => ⟨hkl x hx, hcar x hx⟩, SameEnds.refl c, rfl⟩
  obtain ⟨k1, k2, _, _, _, k6, k7⟩ := key
  intro c' b'
  refine ⟨k1, ?_, ?_, k6⟩
  · show Sim H dcid0 ch sh ca sa early sel ((items.map (·.2.2)).foldl (V.after K) b) _
    rw [List.foldl_map]; exact k2
  · have : expo ((([] : List (List Keylog.Key × MainLoop.Pkt × D)).map (·.2.2)).flatMap (V.out K)) = [] := rfl
    rwa [this, List.append_nil] at k7

/-- … with the first datagram taken separately: what the prologue of `handle_packet` leaves for it is given -/
theorem feedG_from (kl0 : List Keylog.Key) (p0 : MainLoop.Pkt) (d0 : D) (items : List (List Keylog.Key × MainLoop.Pkt × D))
    (hkl : ∀ x ∈ (kl0, p0, d0) :: items, KeylogHas x.1 cr ch sh ca sa early)
    (b : Bk) (c : QConn) (hr : c.raised = none)
    (hsim : Sim H dcid0 ch sh ca sa early sel b (feedPre H (params H Pc kl0) c.st (V.dcid d0) (sver (V.ver d0))))
    (hok : V.Oks maskFn H Pc L ca sa sel K b (d0 :: items.map (·.2.2)))
    (htr : PTrace cr csel b.t.core ((d0 :: items.map (·.2.2)).flatMap (V.ins K)))
    (hcar : ∀ x ∈ (kl0, p0, d0) :: items, CarriesG H Pc info L ca sa sel K V c x.2.1 x.2.2) :
    let c' := feedG V (quicMachine maskFn H Pc info) c ((kl0, p0, d0) :: items)
    let b' := (d0 :: items.map (·.2.2)).foldl (V.after K) b
    c'.raised = none ∧ Sim H dcid0 ch sh ca sa early sel b' c'.st ∧
    expo c'.st.out = expo c.st.out ++ expo ((d0 :: items.map (·.2.2)).flatMap (V.out K)) ∧ SameEnds c c' := by
  obtain ⟨a1, a2, a3, a4, a5⟩ := feed_dg hK (hkl _ (List.mem_cons_self ..)) hok.1
    ((items.map (·.2.2)).flatMap (V.ins K)) hr hsim (by simpa [List.flatMap_cons] using htr) (hcar _ (List.mem_cons_self ..))
  obtain ⟨i1, i2, i3, i4⟩ := feedG_exact hK items (fun x hx => hkl x (List.mem_cons_of_mem _ hx)) _ _ a1 a2
    hok.2 a3 (fun x hx => ⟨(hcar x (List.mem_cons_of_mem _ hx)).payload, (hcar x (List.mem_cons_of_mem _ hx)).ts,
      by rw [a5.client]; exact (hcar x (List.mem_cons_of_mem _ hx)).dir⟩)
  refine ⟨i1, i2, ?_, a5.trans i4⟩
  show expo (feedG V _ _ items).st.out = _
  rw [i3, a4]
  simp only [List.flatMap_cons, expo_append, List.append_assoc]

end History

section Conn
variable (maskFn : Dissect.MaskFn) (H : Crypto.Prims) (Pc : Cipher.Prims) (info : Nat → Pipeline.Info)
variable (L : SealLaws Pc) (dcid0 cr csel ch sh ca sa : Bytes) (early : Option Bytes) (sel : SuiteSel)
open TLX.Quic.UdpOut TLX.Props.C02Out

theorem expectedOut_append (c : QConn) (a b : List Dg1) : expectedOut c (a ++ b) = expectedOut c a ++ expectedOut c b := by
  unfold expectedOut
  rw [List.filter_append, List.map_append]

variable {maskFn H Pc info L dcid0 cr csel ch sh ca sa early sel}

variable {ε D : Type} {K : Kinds ε} {V : DgView ε D}

/-- **the connection**, for any datagram type read through `V`: a history of the handshake phase whose first datagram finds
    the session in a state that agrees with `b` behind the prologue of `handle_packet`, then 1-RTT datagrams only.
    `gsA`: the datagrams of the first part as the output builder sees them; `t'`: the tracker at the end of the first part,
    in the caller's terms; `c0`: the connection object when it was created (the capture is described relative to its
    endpoints; a Retry may lie between `c0` and `c`). -/
theorem conn_from (hK : K.Steps maskFn H Pc dcid0 cr csel ch sh ca sa early sel)
    (hk : KeysWf (params H Pc []) sel .v1 (rfcGen (hashOf H sel.hash) sel.keyLen sa ca 0))
    (kl0 : List Keylog.Key) (p0 : MainLoop.Pkt) (d0 : D) (itemsA : List (List Keylog.Key × MainLoop.Pkt × D))
    (hkl : ∀ x ∈ (kl0, p0, d0) :: itemsA, KeylogHas x.1 cr ch sh ca sa early)
    (b : Bk) {c0 : QConn} (c : QConn) (h0 : SameEnds c0 c) (hr : c.raised = none) (hout0 : expo c.st.out = [])
    (hsim : Sim H dcid0 ch sh ca sa early sel b (feedPre H (params H Pc kl0) c.st (V.dcid d0) (sver (V.ver d0))))
    (hok : V.Oks maskFn H Pc L ca sa sel K b (d0 :: itemsA.map (·.2.2)))
    (htr : PTrace cr csel b.t.core ((d0 :: itemsA.map (·.2.2)).flatMap (V.ins K)))
    (hcar : ∀ x ∈ (kl0, p0, d0) :: itemsA, CarriesG H Pc info L ca sa sel K V c0 x.2.1 x.2.2)
    {t' : Trk} (ht : ((d0 :: itemsA.map (·.2.2)).foldl (V.after K) b).t = t') (hkeyed : t'.keyed = true)
    (gsA : List InDgram) (hfr : ((d0 :: itemsA.map (·.2.2)).flatMap (V.out K)).map frameOf = framesOf gsA)
    (itemsB : List (List Keylog.Key × MainLoop.Pkt × Dg1))
    (hcarB : ∀ x ∈ itemsB, Carries info c0
      (wireOf H Pc L sel .v1 (rfcGen (hashOf H sel.hash) sel.keyLen sa ca 0)) x.2.1 x.2.2)
    (hsend : Send1 maskFn H Pc L sel .v1 (rfcGen (hashOf H sel.hash) sel.keyLen sa ca 0)
      (quicHp (hashOf H sel.hash) ca sel.keyLen) (quicHp (hashOf H sel.hash) sa sel.keyLen)
      (chachaOf t'.core) 0 0 t'.tc.app t'.ts.app t'.cc t'.sc (itemsB.map (·.2.2)))
    (hadj : DistinctAdjacent false (gsA ++ (itemsB.map (·.2.2)).map fun d => inDg d.x)) :
    let QM := quicMachine maskFn H Pc info
    let c1 := feedG V QM c ((kl0, p0, d0) :: itemsA)
    (feedAll QM c1 itemsB).raised = none ∧
    QM.out false (feedAll QM c1 itemsB) =
      ((gsA.filter (hasExported false)).map (outDgram false)).map (addressed c0) ++ expectedOut c0 (itemsB.map (·.2.2)) ∧
    c1.raised = none ∧ SameEnds c0 c1 ∧
    Sim H dcid0 ch sh ca sa early sel ((d0 :: itemsA.map (·.2.2)).foldl (V.after K) b) c1.st := by
  intro QM c1
  subst ht
  obtain ⟨a1, a2, a3, a4⟩ := feedG_from hK kl0 p0 d0 itemsA hkl b c hr hsim hok htr
    (fun x hx => ⟨(hcar x hx).payload, (hcar x hx).ts, by rw [h0.client]; exact (hcar x hx).dir⟩)
  obtain ⟨r1, r2⟩ := rtt1_tail maskFn H Pc info [] L sel .v1 _ _ _ _ hk 0 0 _ _ _ _ (h0.trans a4) a1 (a2.est [] hkeyed) _ gsA
    (by rw [a3, hout0, List.nil_append]) hfr itemsB hcarB hsend hadj
  exact ⟨r1, r2, a1, h0.trans a4, a2⟩

end Conn

section Long
variable (maskFn : Dissect.MaskFn) (H : Crypto.Prims) (Pc : Cipher.Prims)
variable (L : SealLaws Pc) (dcid0 cr csel ch sh ca sa : Bytes) (early : Option Bytes) (sel : SuiteSel)

/-- Initial and Handshake packets: `C02Capstone.HsPkOk`, `Trk.step`, and the suite of the last `set_tls_decryptors` call
    along the packet's CRYPTO inputs -/
def longK : Kinds PkH where
  x q := q.x
  ins q := cryptoIns q.x
  out _ := []
  wire := pkWire H Pc L dcid0 sel sh ch
  step b q := ⟨b.t.step q.x, ecsFold b.t.core (cryptoIns q.x) b.ecs⟩
  Ok b q := HsPkOk maskFn H Pc L dcid0 sel sh ch b.t q

/-- one turn of the loop on an Initial or Handshake packet: the dissector returns the sender's packet (`dissect_encode_long`),
    the session handles it (`hs_packet_step`) -/
theorem steps_long (hl : H.Lawful) (L : SealLaws Pc) (dcid0 cr csel ch sh ca sa : Bytes) (early : Option Bytes) (sel : SuiteSel)
    (hsel : selectSuite csel = some sel) :
    (longK maskFn H Pc L dcid0 ch sh sel).Steps maskFn H Pc dcid0 cr csel ch sh ca sa early sel := by
  intro kl hkl b q hok rest s hsim htr guessed
  obtain ⟨hshape, hkeys, hlate, hframes, hwf, hpn, hmask, hm5⟩ := hok
  have hst := hsim.st
  have hlv : q.x.level = .initial ∨ (q.x.level = .handshake ∧ b.t.keyed = true) :=
    hshape.level.imp id fun h => ⟨h, hkeys h⟩
  obtain ⟨p1, _, p3, p5, p6, J, p7, p8⟩ := hs_packet_step H Pc hl L hsel hkl q.x hlv hlate hframes hwf rest hst hpn htr hsim.early
  obtain ⟨⟨hn1, hn4⟩, _⟩ := hpn
  have hlen := protectedPayload_length Pc L _ _ q.x (lvlKey_aeadOk H hl hsel dcid0 sh ch q.x.level q.x.srv).1
  -- the dissector returns the sender's packet
  have hkey : (envOf s).keys (senderKey (ltypeOf q.x.level) q.x.srv) = some (lvlHp H dcid0 sel sh ch q.x.level q.x.srv) := by
    have hSI : s.tls.hp.serverInitial = _ := hst.inv.hpSI
    have hCI : s.tls.hp.clientInitial = _ := hst.inv.hpCI
    unfold lvlHp
    rcases hshape.level with h | h
    · cases hs : q.x.srv <;> simp [h, ltypeOf, senderKey, envOf, HpKeys.get, hSI, hCI]
    · have hk := hst.keyed (hkeys h)
      have hSH : s.tls.hp.serverHandshake = _ := hk.hpSH
      have hCH : s.tls.hp.clientHandshake = _ := hk.hpCH
      cases hs : q.x.srv <;> simp [h, ltypeOf, senderKey, envOf, HpKeys.get, hSH, hCH]
  refine ⟨(stepPkt (params H Pc kl) s (emit L.aeadSeal (lvlDec H dcid0 sel sh ch q.x.level).alg
    (lvlKey H dcid0 sel sh ch q.x.level q.x.srv) q.x)).st, ⟨p3, p6⟩, p5,
    ⟨J, p7, p8.trans (List.append_nil _).symm⟩, fun more => ?_⟩
  have hextract := C02Dissect.dissect_encode_long maskFn (envOf s) q.x.srv guessed q.x.ts
    (longOf q.x (protectedPayload L.aeadSeal (lvlDec H dcid0 sel sh ch q.x.level).alg
      (lvlKey H dcid0 sel sh ch q.x.level q.x.srv) q.x)) (longOf_wf _ _ hshape.version hshape.dcid hshape.scid hshape.tok hshape.len hn1 hn4 hlen)
    (by show q.x.version ≠ _; rw [hshape.version]; decide)
    (by show q.x.scid.length ≤ 63; have := hshape.scid; omega)
    (by show 20 ≤ (pnBytes q.x.pnLen q.x.pn).length + (protectedPayload _ _ _ q.x).length
        rw [pnBytes_length, hlen]; have := hshape.padded; omega)
    _ q.mask hkey (by rw [hsim.chacha]; exact hmask) hm5 more
  rw [longOf_toPkt _ _ _ _ hshape hn1 hn4 hlen] at hextract
  have hne : pkWire H Pc L dcid0 sel sh ch q ++ more ≠ [] := by
    unfold pkWire PkH.wire Long.protect applyMask; simp
  -- stated on a variable so that the defeq check does not unfold the state after the packet
  have hver : ∀ x : St Tls, (noOut x).tls.ver = (noOut x).version → x.tls.ver = x.version := fun _ h => h
  exact loop_one maskFn _ _ _ _ s _ more _ hne hextract p1 (hver _ p3.inv.ver)

variable {maskFn H Pc L dcid0 ch sh sel}

theorem longK_run (t : Trk) (ecs : Option SuiteSel) (qs : List PkH) :
    (longK maskFn H Pc L dcid0 ch sh sel).run ⟨t, ecs⟩ qs = ⟨t.run qs, ecsFold t.core (insOf qs) ecs⟩ := by
  induction qs generalizing t ecs with
  | nil => rfl
  | cons q qs ih =>
    show (longK maskFn H Pc L dcid0 ch sh sel).run ⟨t.step q.x, ecsFold t.core (cryptoIns q.x) ecs⟩ qs = _
    rw [ih]
    have : insOf (q :: qs) = cryptoIns q.x ++ insOf qs := by simp [insOf]
    rw [this, ecsFold_append]
    rfl

theorem longK_oks (ecs : Option SuiteSel) (qs : List PkH) (t : Trk) (h : HsPks maskFn H Pc L dcid0 sel sh ch t qs) :
    (longK maskFn H Pc L dcid0 ch sh sel).Oks ⟨t, ecs⟩ qs := by
  induction qs generalizing t ecs with
  | nil => trivial
  | cons q qs ih => exact ⟨h.1, ih _ _ h.2⟩

theorem longK_outOf (qs : List PkH) : (longK maskFn H Pc L dcid0 ch sh sel).outOf qs = [] := by
  induction qs with
  | nil => rfl
  | cons q qs ih => exact ih

end Long

end TLX.Props.C02Sim
