import TLX.Props.C02AllConn
import TLX.Props.C02Rfc
set_option autoImplicit false
/-! # C02, all together — 2. hypotheses in the senders' terms

`EarlyAt`: for WHICH suite the tool holds Early keys when a 0-RTT packet arrives, as a predicate on the OFFER (before the
ServerHello, once every fragment of the ClientHello has been delivered: the FIRST suite of the client's list; after the
ServerHello: the selected one) — read off the parser walk `C02Capstone.conformant_steps` (`ecs_hello`, `ecs_of_early`).
`YDgR` / `YDgsR`: the datagrams of the interleaved history with 0-RTT packets relative to the senders' own bookkeeping
(`C02Rfc.RTrk`); `ydgs_of_rfc` derives the tool-side `C02Zr.YDgs`. The namespace `TLX.Props.C02All` runs over four files,
in import order `C02AllConn`, this one, `C02AllFile`, `C02All`. Core Lean only. -/
namespace TLX.Props.C02All
open TLX TLX.Quic TLX.Cipher TLX.Quic.Session TLX.Lemmas.QuicSession TLX.Spec.QuicSender TLX.Spec.QuicFrames
open TLX.Props.C02Session TLX.Spec.QuicConnection TLX.Spec.QuicPackets TLX.QuicPipeline
open TLX.Props.C02Capstone TLX.Props.C02Capstone3 TLX.Props.C02Capstone4 TLX.Props.C02Zr TLX.Props.C02Rfc
open TLX.Props.C02Pipeline TLX.Quic.CryptoStream TLX.Lemmas.CryptoStream TLX.Spec.TlsHandshakeFraming
open TLX.Spec.TlsHello TLX.Lemmas.TlsHello TLX.Spec.RfcQuic

section Offer

/-- the CRYPTO inputs `a` deliver every fragment of the ClientHello at least once -/
def ChComplete (h : ConfHs) (a : List CryptoIn) : Prop :=
  ∃ dups : List Wire, (a.map wireIn).Perm (framesOf 0 h.chFrs ++ dups) ∧ ∀ d ∈ dups, d ∈ framesOf 0 h.chFrs

theorem steps_quiet (t : Tls) (ins : List CryptoIn) (news : List (List Bytes)) (hs : Steps t ins news)
    (hq : news.flatten = []) (hnd : t.msgs.newData = false) (e : Option SuiteSel) :
    ecsFold t ins e = e ∧ (pfold t ins).msgs = t.msgs := by
  induction ins generalizing t news with
  | nil => cases news with
    | nil => exact ⟨rfl, rfl⟩
    | cons _ _ => cases hs
  | cons c cs ih =>
    cases news with
    | nil => cases hs
    | cons n ns =>
      obtain ⟨h1, h2, h3⟩ := hs
      have hn : n = [] := by
        have := congrArg List.length hq
        simp only [List.flatten_cons, List.length_append, List.length_nil] at this
        exact List.eq_nil_of_length_eq_zero (by omega)
      have hns : ns.flatten = [] := by rw [hn] at hq; simpa using hq
      subst hn
      have hm : (tlsUpdate t c).1.msgs = t.msgs := by rw [h2]; simp [feedRecords]
      have hcl : (clearND (tlsUpdate t c).1).msgs = t.msgs := by
        show { (tlsUpdate t c).1.msgs with newData := false } = _
        rw [hm]; exact clear_id _ hnd
      obtain ⟨i1, i2⟩ := ih (clearND (tlsUpdate t c).1) ns h3 hns (by rw [hcl]; exact hnd)
      refine ⟨?_, ?_⟩
      · simp only [ecsFold, hm, hnd, Bool.false_eq_true, if_false]; exact i1
      · show (pfold (clearND (tlsUpdate t c).1) cs).msgs = _
        rw [i2, hcl]

/-- along `Steps` that hand over exactly the ClientHello: one `set_tls_decryptors` call, with the FIRST OFFERED suite -/
theorem steps_hello (ch : ClientHello) (hwf : ch.WellFormed) (t : Tls) (ins : List CryptoIn) (news : List (List Bytes))
    (hs : Steps t ins news) (hq : news.flatten = [encodeClientHello ch]) (hnd : t.msgs.newData = false)
    (e : Option SuiteSel) :
    ecsFold t ins e = (match ch.cipherSuites.head?.bind selectSuite with | some x => some x | none => e) ∧
    (pfold t ins).msgs.ciphersuite = ch.cipherSuites.head? ∧ (pfold t ins).msgs.newData = false := by
  induction ins generalizing t news with
  | nil => cases news with
    | nil => simp at hq
    | cons _ _ => cases hs
  | cons c cs ih =>
    cases news with
    | nil => cases hs
    | cons n ns =>
      obtain ⟨h1, h2, h3⟩ := hs
      cases n with
      | nil =>
        have hm : (tlsUpdate t c).1.msgs = t.msgs := by rw [h2]; simp [feedRecords]
        have hcl : (clearND (tlsUpdate t c).1).msgs = t.msgs := by
          show { (tlsUpdate t c).1.msgs with newData := false } = _
          rw [hm]; exact clear_id _ hnd
        obtain ⟨i1, i2, i3⟩ := ih (clearND (tlsUpdate t c).1) ns h3 (by simpa using hq) (by rw [hcl]; exact hnd)
        refine ⟨?_, i2, i3⟩
        simp only [ecsFold, hm, hnd, Bool.false_eq_true, if_false]; exact i1
      | cons m n' =>
        have hmm : m = encodeClientHello ch ∧ n' = [] ∧ ns.flatten = [] := by
          simp only [List.flatten_cons, List.cons_append, List.cons.injEq, List.append_eq_nil_iff] at hq
          exact ⟨hq.1, hq.2.1, hq.2.2⟩
        obtain ⟨rfl, rfl, hns⟩ := hmm
        obtain ⟨s', e1, c1, c2, _, _, c6, _⟩ := C02Hello.client_hello_parsed ch hwf t.msgs
        have hf : feedRecords t.msgs [encodeClientHello ch] = s' := by
          unfold encodeClientHello at e1 ⊢; rw [feed_one 1 (by decide), e1]
        rw [hf] at h2
        obtain ⟨i1, i2⟩ := steps_quiet (clearND (tlsUpdate t c).1) cs ns h3 hns (by rfl)
          (match ch.cipherSuites.head?.bind selectSuite with | some x => some x | none => e)
        refine ⟨?_, ?_, ?_⟩
        · simp only [ecsFold, h2, c6, if_true, c2]; exact i1
        · show (pfold (clearND (tlsUpdate t c).1) cs).msgs.ciphersuite = _
          rw [i2]; show (tlsUpdate t c).1.msgs.ciphersuite = _; rw [h2, c2]
        · show (pfold (clearND (tlsUpdate t c).1) cs).msgs.newData = _
          rw [i2]; rfl

theorem chIns_complete (h : ConfHs) (hok : h.Ok) : ChComplete h (chIns h) :=
  ⟨h.chDups, by unfold chIns; rw [wireIn_inOf]; exact hok.chPerm, hok.chDupsOk⟩

/-- **before the ServerHello**: once the CRYPTO inputs have delivered every fragment of the ClientHello (any order, any
    duplicates), `set_tls_decryptors` has been called exactly once — with the FIRST suite of the client's offer; the parser's
    `ciphersuite` is that suite -/
theorem ecs_hello (h : ConfHs) (hok : h.Ok) (a : List CryptoIn) (ha : a <+: chIns h) (hc : ChComplete h a) :
    ecsFold {} a none = h.ch.cipherSuites.head?.bind selectSuite ∧
    (pfold {} a).msgs.ciphersuite = h.ch.cipherSuites.head? ∧ (pfold {} a).msgs.newData = false := by
  obtain ⟨hM1, hnr⟩ := clientHello_msgs h hok
  obtain ⟨news, D, cum, st, c1, _, _, i1, _, idok, _, w1⟩ :=
    phase_run false .initial .initial rfl h.chFrs hok.chCut.1 hnr a (fun c hc' => chIns_ok h hok c (ha.subset hc'))
      {} [] [] allDrained_init (inv_init _) (by intro g hg; cases hg) (by intro x hx; cases hx)
  obtain ⟨dups, hp, hd⟩ := hc
  have hdel : C02Crypto.Delivery h.chFrs D := ⟨⟨dups, by rw [w1]; simpa using hp, hd⟩, idok⟩
  have hcum := inv_complete _ _ _ _ i1 hdel
  rw [hM1, c1, List.nil_append] at hcum
  obtain ⟨e1, e2, e3⟩ := steps_hello h.ch hok.ch {} a news st hcum rfl none
  refine ⟨?_, e2, e3⟩
  rw [e1]; cases h.ch.cipherSuites.head?.bind selectSuite <;> rfl

theorem ecs_keep (cs : Bytes) (sel : SuiteSel) (hsel : selectSuite cs = some sel) (t : Tls) (ins : List CryptoIn)
    (h : ∀ b, b <+: ins → b ≠ [] → (pfold t b).msgs.ciphersuite = some cs) :
    ecsFold t ins (some sel) = some sel := by
  induction ins generalizing t with
  | nil => rfl
  | cons c cs' ih =>
    have h1 : (tlsUpdate t c).1.msgs.ciphersuite = some cs := by
      have := h [c] (by simp) (by simp)
      simpa [pfold, clearND] using this
    rw [ecsFold, h1]
    simp only [Option.bind_some, hsel, ite_self]
    refine ih _ ?_
    intro b hb hne
    have := h (c :: b) (List.cons_prefix_cons.mpr ⟨rfl, hb⟩) (by simp)
    simpa [pfold] using this

/-- when the tool's Early keys are derived, and for which suite — by the OFFER: after the ServerHello for the selected
    suite; before it, once the ClientHello is complete, for the FIRST suite of the client's list (if the tool knows it) -/
def EarlyAt (h : ConfHs) (sel : SuiteSel) (a : List CryptoIn) (selT : SuiteSel) : Prop :=
  (a.any (·.isServer) = true ∧ selT = sel) ∨
  (a.any (·.isServer) = false ∧ ChComplete h a ∧ h.ch.cipherSuites.head?.bind selectSuite = some selT)

theorem ecs_of_early (h : ConfHs) (hok : h.Ok) (sel : SuiteSel) (hsel : selectSuite h.sh.cipherSuite = some sel)
    (a : List CryptoIn) (ha : a <+: h.ins) (selT : SuiteSel) (hE : EarlyAt h sel a selT) :
    ecsFold {} a none = some selT ∧ chachaOf (pfold {} a) = hpChacha selT := by
  rcases hE with ⟨hany, rfl⟩ | ⟨hany, hc, hf⟩
  · refine ⟨?_, chacha_sync h hok selT hsel a ha hany⟩
    rcases prefix_cases h a ha with ⟨_, hn⟩ | ⟨b, rfl, hb, _⟩
    · rw [hn] at hany; cases hany
    · have hsplit : chIns h ++ shIn h :: b = chIns h ++ ([shIn h] ++ b) := by simp
      rw [hsplit, ecsFold_append, ecsFold_append]
      obtain ⟨p2, p1⟩ := parser_facts h hok
      have hnd : (tlsUpdate (pfold {} (chIns h)) (shIn h)).1.msgs.newData = true := by
        simpa [pfired] using p2
      have hcs : (tlsUpdate (pfold {} (chIns h)) (shIn h)).1.msgs.ciphersuite = some h.sh.cipherSuite := by
        have := p1 [] (List.nil_prefix)
        simpa [pfold, clearND, List.foldl_append] using this
      have hat : ecsFold (pfold {} (chIns h)) [shIn h] (ecsFold {} (chIns h) none) = some selT := by
        simp only [ecsFold, hnd, if_true, hcs, Option.bind_some, hsel]
      rw [hat]
      refine ecs_keep h.sh.cipherSuite selT hsel _ b ?_
      intro b' hb' _
      have := p1 b' (hb'.trans hb)
      rw [show chIns h ++ shIn h :: b' = chIns h ++ ([shIn h] ++ b') by simp, pfold_app, pfold_app] at this
      exact this
  · rcases prefix_cases h a ha with ⟨hpre, _⟩ | ⟨_, _, _, hy⟩
    · obtain ⟨e1, e2, _⟩ := ecs_hello h hok a hpre hc
      refine ⟨by rw [e1, hf], ?_⟩
      unfold chachaOf
      rw [e2]
      cases hh : h.ch.cipherSuites.head? with
      | none => rw [hh] at hf; cases hf
      | some c =>
        rw [hh] at hf
        rw [← chacha_of_sel c selT hf]; simp
    · rw [hy] at hany; cases hany

end Offer
section SenderY
variable (maskFn : Dissect.MaskFn) (H : Crypto.Prims) (Pc : Cipher.Prims)
open TLX.Spec.KeySchedules

def _root_.TLX.Props.C02Rfc.RTrk.zr (r : RTrk) (x : SPkt) : RTrk :=
  { r with tc := { r.tc with app := max r.tc.app x.pn }, cc := issue r.cc (newCids x.frames) }

def _root_.TLX.Props.C02Rfc.RTrk.short (r : RTrk) (x : SPkt) : RTrk :=
  { r with tc := if x.srv then r.tc else { r.tc with app := max r.tc.app x.pn },
           ts := if x.srv then { r.ts with app := max r.ts.app x.pn } else r.ts,
           cc := if x.srv then r.cc else issue r.cc (newCids x.frames),
           sc := if x.srv then issue r.sc (newCids x.frames) else r.sc }

def _root_.TLX.Props.C02Rfc.RTrk.dgx (r : RTrk) (d : DgX) : RTrk :=
  let r1 := (d.zr.foldl (fun r q => r.zr q.x) (r.run (d.base.longs.take d.pos))).run (d.base.longs.drop d.pos)
  match d.base.short with
  | none => r1
  | some o => r1.short o.x

theorem sync_zr (a : List CryptoIn) (t : Trk) (r : RTrk) (h : Sync a t r) (qs : List PkH) :
    Sync a (qs.foldl (fun t q => t.zr q.x) t) (qs.foldl (fun r q => r.zr q.x) r) := by
  induction qs generalizing t r with
  | nil => exact h
  | cons q qs ih =>
    refine ih _ _ ?_
    obtain ⟨s1, s2, s3, s4, s5, s6, s7⟩ := h
    exact ⟨s1, s2, s3, by simp only [Trk.zr, RTrk.zr, s4], s5, by simp only [Trk.zr, RTrk.zr, s6], s7⟩

theorem sync_short (a : List CryptoIn) (t : Trk) (r : RTrk) (h : Sync a t r) (x : SPkt) :
    Sync a (t.short x) (r.short x) := by
  obtain ⟨s1, s2, s3, s4, s5, s6, s7⟩ := h
  exact ⟨s1, s2, s3, by simp only [Trk.short, RTrk.short, s4], by simp only [Trk.short, RTrk.short, s5],
    by simp only [Trk.short, RTrk.short, s6], by simp only [Trk.short, RTrk.short, s7]⟩

/-- the closing 1-RTT packet of a datagram, in the senders' terms -/
def ShortR (L : SealLaws Pc) (sel : SuiteSel) (sa ca : Bytes) (r : RTrk) (srv : Bool) (ts : Nat) (dcid : Bytes) (o : Dg1) :
    Prop :=
  o.x.srv = srv ∧ o.x.ts = ts ∧ o.x.dcid = dcid ∧ r.shSent = true ∧ o.x.level = .oneRtt ∧ o.x.gen = 0 ∧
  PnLenOk (if o.x.srv then r.ts.app else r.tc.app) o.x.pn o.x.pnLen ∧ WellFormedSeq o.x.frames ∧
  DgOk maskFn Pc L sel.alg (genDir (keyUpdate H sel .v1) (rfcGen (hashOf H sel.hash) sel.keyLen sa ca 0) o.x.srv 0)
    (if o.x.srv then quicHp (hashOf H sel.hash) sa sel.keyLen else quicHp (hashOf H sel.hash) ca sel.keyLen)
    (hpChacha sel) o

/-- **one datagram of the connection in the senders' terms** (`a`: the CRYPTO inputs sent before it, `r`: the senders'
    bookkeeping). Long-header packets `HsPksR`; the 0-RTT packets stand behind the first `pos` of them, protected for the
    resumed suite `selR`; `early` says for WHICH suite `selT` the tool holds Early keys at that point — `EarlyAt`, a
    predicate on the offer — and `d.good` must say whether that is the client's: if so the packets are as RFC 9001 has them
    (header protection of `selR`), if not the tool's AEAD check on them fails (`RejectedT`); the closing 1-RTT packet
    `ShortR`. -/
structure YDgR (L : SealLaws Pc) (dcid0 : Bytes) (sel selR : SuiteSel) (sh ch sa ca e : Bytes) (h : ConfHs)
    (a : List CryptoIn) (r : RTrk) (d : DgY) : Prop where
  client : d.x.zr ≠ [] → d.x.base.srv = false
  dirL : ∀ q ∈ d.x.base.longs, q.x.srv = d.x.base.srv ∧ q.x.ts = d.x.base.ts
  dirZ : ∀ q ∈ d.x.zr, q.x.ts = d.x.base.ts
  cid : DcidOk r.cc r.sc d.x.base.srv d.x.dcid
  pre : HsPksR maskFn H Pc L dcid0 sel sh ch r (d.x.base.longs.take d.x.pos)
  early : d.x.zr ≠ [] → ∃ selT, EarlyAt h sel (a ++ insOf (d.x.base.longs.take d.x.pos)) selT ∧
    (if d.good then
      selT = selR ∧ ∀ (i : Nat) (q : PkH), d.x.zr[i]? = some q → ZrShape q.x ∧ (∀ f ∈ q.x.frames, isCryptoQ f = false) ∧
        WellFormedSeq q.x.frames ∧
        PnLenOk ((d.x.zr.take i).foldl (fun r q => r.zr q.x) (r.run (d.x.base.longs.take d.x.pos))).tc.app q.x.pn q.x.pnLen ∧
        maskFn (hpChacha selR) (quicHp (hashOf H selR.hash) e selR.keyLen)
          (longOf q.x (protectedPayload L.aeadSeal selR.alg (earlyDec H selR e).client q.x)).sample = some q.mask ∧
        5 ≤ q.mask.length
     else
      ∀ q ∈ d.x.zr, ZrShape q.x ∧ 1 ≤ q.x.pnLen ∧ q.x.pnLen ≤ 4 ∧ 5 ≤ q.mask.length ∧
        ∃ m', maskFn (hpChacha selT) (quicHp (hashOf H selT.hash) e selT.keyLen)
            (longOf q.x (protectedPayload L.aeadSeal selR.alg (earlyDec H selR e).client q.x)).sample = some m' ∧
          5 ≤ m'.length ∧
          RejectedT H Pc selT e (r.run (d.x.base.longs.take d.x.pos)).tc.app
            ((remask (longOf q.x (protectedPayload L.aeadSeal selR.alg (earlyDec H selR e).client q.x)) q.mask m').toPkt
              false q.x.ts))
  post : HsPksR maskFn H Pc L dcid0 sel sh ch
    (d.eff.zr.foldl (fun r q => r.zr q.x) (r.run (d.x.base.longs.take d.x.pos))) (d.x.base.longs.drop d.x.pos)
  short : ∀ o, d.x.base.short = some o → ShortR maskFn H Pc L sel sa ca
    ((d.eff.zr.foldl (fun r q => r.zr q.x) (r.run (d.x.base.longs.take d.x.pos))).run (d.x.base.longs.drop d.x.pos))
    d.x.base.srv d.x.base.ts d.x.dcid o

def YDgsR (L : SealLaws Pc) (dcid0 : Bytes) (sel selR : SuiteSel) (sh ch sa ca e : Bytes) (h : ConfHs) :
    List CryptoIn → RTrk → List DgY → Prop
  | _, _, [] => True
  | a, r, d :: ds => YDgR maskFn H Pc L dcid0 sel selR sh ch sa ca e h a r d ∧
      YDgsR L dcid0 sel selR sh ch sa ca e h (a ++ insOf d.x.base.longs) (r.dgx d.eff) ds

variable {maskFn H Pc}

theorem eff_base (d : DgY) : d.eff.base = d.x.base ∧ d.eff.pos = d.x.pos := by
  obtain ⟨x, g⟩ := d; cases g <;> exact ⟨rfl, rfl⟩

theorem dgx_eff (t : Trk) (d : DgY) : t.dgx d.eff = match d.x.base.short with
    | none => (d.eff.zr.foldl (fun t q => t.zr q.x) (t.run (d.x.base.longs.take d.x.pos))).run (d.x.base.longs.drop d.x.pos)
    | some o => ((d.eff.zr.foldl (fun t q => t.zr q.x) (t.run (d.x.base.longs.take d.x.pos))).run (d.x.base.longs.drop d.x.pos)).short o.x := by
  obtain ⟨x, g⟩ := d; cases g <;> rfl

theorem rdgx_eff (r : RTrk) (d : DgY) : r.dgx d.eff = match d.x.base.short with
    | none => (d.eff.zr.foldl (fun r q => r.zr q.x) (r.run (d.x.base.longs.take d.x.pos))).run (d.x.base.longs.drop d.x.pos)
    | some o => ((d.eff.zr.foldl (fun r q => r.zr q.x) (r.run (d.x.base.longs.take d.x.pos))).run (d.x.base.longs.drop d.x.pos)).short o.x := by
  obtain ⟨x, g⟩ := d; cases g <;> rfl

/-- every tool-side hypothesis of one datagram (`YDgOk`: the observer's bookkeeping, the last-call suite `ecsFold`, the
    parser's `ciphersuite`) from the senders' (`YDgR`) along a conformant handshake -/
theorem ydg_of_rfc (h : ConfHs) (hok : h.Ok) (L : SealLaws Pc) (dcid0 : Bytes) (sel selR : SuiteSel) (sh ch sa ca e : Bytes)
    (hsel : selectSuite h.sh.cipherSuite = some sel) (d : DgY) (a rest : List CryptoIn)
    (hins : h.ins = a ++ insOf d.x.base.longs ++ rest) (t : Trk) (r : RTrk) (hs : Sync a t r)
    (ecs : Option SuiteSel) (hecs : ecs = ecsFold {} a none)
    (hd : YDgR maskFn H Pc L dcid0 sel selR sh ch sa ca e h a r d) :
    YDgOk maskFn H Pc L dcid0 sel selR sh ch sa ca e t ecs d ∧
    Sync (a ++ insOf d.x.base.longs) (t.dgx d.eff) (r.dgx d.eff) ∧
    ecsDgx t ecs d.eff = ecsFold {} (a ++ insOf d.x.base.longs) none := by
  obtain ⟨hclient, hdirL, hdirZ, hcid, hpre, hearly, hpost, hshort⟩ := hd
  have hsplit : insOf d.x.base.longs = insOf (d.x.base.longs.take d.x.pos) ++ insOf (d.x.base.longs.drop d.x.pos) := by
    unfold insOf; rw [← List.flatMap_append, List.take_append_drop]
  have hins1 : h.ins = a ++ insOf (d.x.base.longs.take d.x.pos) ++ (insOf (d.x.base.longs.drop d.x.pos) ++ rest) := by
    rw [hins, hsplit]; simp [List.append_assoc]
  obtain ⟨p1, s1⟩ := pks_of_rfc h hok L dcid0 sel sh ch hsel _ a _ hins1 t r hs hpre
  have hpre1 : a ++ insOf (d.x.base.longs.take d.x.pos) <+: h.ins := ⟨_, hins1.symm⟩
  -- the 0-RTT packets do not move the parser
  have sz := sync_zr _ _ _ s1 d.eff.zr
  have hins2 : h.ins = (a ++ insOf (d.x.base.longs.take d.x.pos)) ++ insOf (d.x.base.longs.drop d.x.pos) ++ rest := by
    rw [hins1]; simp [List.append_assoc]
  obtain ⟨p2, s2⟩ := pks_of_rfc h hok L dcid0 sel sh ch hsel _ _ _ hins2 _ _ sz hpost
  have hafter : a ++ insOf (d.x.base.longs.take d.x.pos) ++ insOf (d.x.base.longs.drop d.x.pos) =
      a ++ insOf d.x.base.longs := by rw [hsplit, List.append_assoc]
  rw [hafter] at s2
  have hpre2 : a ++ insOf d.x.base.longs <+: h.ins := ⟨rest, hins.symm⟩
  have hshortT : ∀ o, d.x.base.short = some o → o.x.srv = d.x.base.srv ∧ o.x.ts = d.x.base.ts ∧ o.x.dcid = d.x.dcid ∧
      ((d.eff.zr.foldl (fun t q => t.zr q.x) (t.run (d.x.base.longs.take d.x.pos))).run (d.x.base.longs.drop d.x.pos)).keyed = true ∧
      o.x.level = .oneRtt ∧ o.x.gen = 0 ∧
      PnLenOk (if o.x.srv then ((d.eff.zr.foldl (fun t q => t.zr q.x) (t.run (d.x.base.longs.take d.x.pos))).run (d.x.base.longs.drop d.x.pos)).ts.app
        else ((d.eff.zr.foldl (fun t q => t.zr q.x) (t.run (d.x.base.longs.take d.x.pos))).run (d.x.base.longs.drop d.x.pos)).tc.app) o.x.pn o.x.pnLen ∧
      WellFormedSeq o.x.frames ∧
      DgOk maskFn Pc L sel.alg (genDir (keyUpdate H sel .v1) (rfcGen (hashOf H sel.hash) sel.keyLen sa ca 0) o.x.srv 0)
        (if o.x.srv then quicHp (hashOf H sel.hash) sa sel.keyLen else quicHp (hashOf H sel.hash) ca sel.keyLen)
        (chachaOf ((d.eff.zr.foldl (fun t q => t.zr q.x) (t.run (d.x.base.longs.take d.x.pos))).run (d.x.base.longs.drop d.x.pos)).core) o := by
    intro o ho
    obtain ⟨o1, o2, o3, o4, o5, o6, o7, o8, o9⟩ := hshort o ho
    have hk : (a ++ insOf d.x.base.longs).any (·.isServer) = true := by rw [← s2.sent]; exact o4
    refine ⟨o1, o2, o3, by rw [s2.keyed]; exact o4, o5, o6, by rw [s2.ts, s2.tc]; exact o7, o8, ?_⟩
    rw [s2.core, chacha_sync h hok sel hsel _ hpre2 hk]
    exact o9
  have hecs1 : ecsFold t.core (insOf (d.x.base.longs.take d.x.pos)) ecs =
      ecsFold {} (a ++ insOf (d.x.base.longs.take d.x.pos)) none := by
    rw [hecs, hs.core, ← ecsFold_append]
  have hecs2 : ecsDgx t ecs d.eff = ecsFold {} (a ++ insOf d.x.base.longs) none := by
    unfold ecsDgx DgX.tz DgX.t1
    rw [(eff_base d).1, (eff_base d).2, (zr_core _ d.eff.zr).1, hecs1, s1.core, ← ecsFold_append, hafter]
  have hdgx := dgx_eff t d
  have hrdgx := rdgx_eff r d
  have hsync : Sync (a ++ insOf d.x.base.longs) (t.dgx d.eff) (r.dgx d.eff) := by
    rw [hdgx, hrdgx]
    cases d.x.base.short with
    | none => exact s2
    | some o => exact sync_short _ _ _ s2 o.x
  refine ⟨?_, hsync, hecs2⟩
  obtain ⟨x, good⟩ := d
  cases good with
  | true =>
    show XDgOkE maskFn H Pc L dcid0 sel selR sh ch sa ca e t ecs x
    have hz : ∀ hzn : x.zr ≠ [], ecsFold t.core (insOf (x.base.longs.take x.pos)) ecs = some selR ∧
        chachaOf (DgX.t1 t x).core = hpChacha selR := by
      intro hzn
      obtain ⟨selT, hE, hg⟩ := hearly hzn
      simp only [if_true] at hg
      obtain ⟨e1, e2⟩ := ecs_of_early h hok sel hsel _ hpre1 selT hE
      rw [hg.1] at e1 e2
      exact ⟨by rw [hecs1]; exact e1, by unfold DgX.t1; rw [s1.core]; exact e2⟩
    refine ⟨hclient, hdirL, hdirZ, by rw [hs.cc, hs.sc]; exact hcid, p1, fun hzn => (hz hzn).1, ?_, p2, hshortT⟩
    intro i q hi
    have hzn : x.zr ≠ [] := by intro h0; rw [h0] at hi; simp at hi
    obtain ⟨selT, hE, hg⟩ := hearly hzn
    simp only [if_true] at hg
    obtain ⟨z1, z2, z3, z4, z5, z6⟩ := hg.2 i q hi
    refine ⟨z1, z2, z3, ?_, by rw [(hz hzn).2]; exact z5, z6⟩
    have := (sync_zr _ _ _ s1 (x.zr.take i)).tc
    unfold DgX.t1
    rw [this]; exact z4
  | false =>
    show XDgBad maskFn H Pc L dcid0 sel selR sh ch sa ca e t ecs x
    refine ⟨hclient, hdirL, hdirZ, by rw [hs.cc, hs.sc]; exact hcid, p1, ?_, p2, hshortT⟩
    intro hzn
    obtain ⟨selT, hE, hg⟩ := hearly hzn
    simp only [Bool.false_eq_true, if_false] at hg
    obtain ⟨e1, e2⟩ := ecs_of_early h hok sel hsel _ hpre1 selT hE
    refine ⟨selT, by rw [hecs1]; exact e1, ?_⟩
    intro q hq
    obtain ⟨z1, z2, z3, z4, m', z5, z6, z7⟩ := hg q hq
    refine ⟨z1, z2, z3, z4, m', ?_, z6, ?_⟩
    · unfold DgX.t1; rw [s1.core, e2]; exact z5
    · unfold DgX.t1; rw [s1.tc]; exact z7

theorem ydgs_of_rfc (h : ConfHs) (hok : h.Ok) (L : SealLaws Pc) (dcid0 : Bytes) (sel selR : SuiteSel) (sh ch sa ca e : Bytes)
    (hsel : selectSuite h.sh.cipherSuite = some sel) (ds : List DgY) (a rest : List CryptoIn)
    (hins : h.ins = a ++ allInsM (ds.map (·.x.base)) ++ rest) (t : Trk) (r : RTrk) (hs : Sync a t r)
    (ecs : Option SuiteSel) (hecs : ecs = ecsFold {} a none)
    (hd : YDgsR maskFn H Pc L dcid0 sel selR sh ch sa ca e h a r ds) :
    YDgs maskFn H Pc L dcid0 sel selR sh ch sa ca e t ecs ds ∧
    Sync (a ++ allInsM (ds.map (·.x.base))) ((ds.map DgY.eff).foldl Trk.dgx t) ((ds.map DgY.eff).foldl RTrk.dgx r) := by
  induction ds generalizing a t r ecs with
  | nil => exact ⟨trivial, by simpa [allInsM] using hs⟩
  | cons d ds ih =>
    obtain ⟨hd1, hd2⟩ := hd
    have hins' : h.ins = a ++ insOf d.x.base.longs ++ (allInsM (ds.map (·.x.base)) ++ rest) := by
      rw [hins]; simp [allInsM, List.flatMap_cons, List.append_assoc]
    obtain ⟨y1, y2, y3⟩ := ydg_of_rfc h hok L dcid0 sel selR sh ch sa ca e hsel d a _ hins' t r hs ecs hecs hd1
    obtain ⟨i1, i2⟩ := ih (a ++ insOf d.x.base.longs)
      (by rw [hins']; simp [List.append_assoc]) (t.dgx d.eff) (r.dgx d.eff) y2 _ y3 hd2
    refine ⟨⟨y1, i1⟩, ?_⟩
    have : a ++ allInsM ((d :: ds).map (·.x.base)) = a ++ insOf d.x.base.longs ++ allInsM (ds.map (·.x.base)) := by
      simp [allInsM, List.flatMap_cons, List.append_assoc]
    rw [this]
    exact i2

end SenderY

end TLX.Props.C02All
