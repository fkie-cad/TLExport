/-
C02 with 0-RTT: `quic_connection_exact_0rtt` — `C02Capstone3.quic_connection_exact_interleaved` with 0-RTT packets anywhere in
the mixed part of the history (own datagrams or coalesced behind Initial packets; `C02Capstone3.DgX`).

THE CONDITION (`XDgOkE.suite`), in terms of what the tool does: the Early decryptor and the early header-protection key are
(re)derived by every `set_tls_decryptors` call, with the suite of THAT call; `ecsFold` follows the calls along the CRYPTO
inputs of the history (a call happens when an input leaves `new_data` set: ClientHello complete → the FIRST OFFERED suite;
ServerHello / EncryptedExtensions → the selected suite; a call with a suite the tool does not know derives nothing). A 0-RTT
packet is decrypted iff the suite of the last call is the suite `selR` the client protects 0-RTT with and the key log has
CLIENT_EARLY_TRAFFIC_SECRET. (`C02Capstone3.ZrPkOk.suite` states this with the parser's `ciphersuite` field of the moment;
the two agree whenever the parser changes `ciphersuite` only together with `new_data` — true of `Quic/TlsMsgs` on conformant
hellos, not proved in general: `C02Capstone3.quic_connection_exact_0rtt_statement` is a `def`, and the theorem of this file
is the proved form.)

`ecsFold` (of this namespace) stands in `Props/C02HsPacket.lean`: the handshake steps carry it.

Proof: the Early keys are part of what the handshake steps keep (`C02Capstone.EarlyInv` in `C02Sim.Sim`); a 0-RTT packet
advances the client's application packet-number space and may issue connection IDs, nothing else (`hsSt_after_zr`);
`steps_pev` is the one statement about a long-header packet of any of the three kinds (Initial / Handshake, 0-RTT the tool
decrypts, 0-RTT of another suite), `xView` reads a `DgX` as such packets, `C02Sim.conn_from` does the rest (as for
`Props/C02Zr2.lean`, which reads its datagrams through `yView`).
NOT covered here (lost by the tool, open finding `early-data-lost`): 0-RTT packets reached before the ClientHello is complete
or while the last call used another suite (`C02Capstone3.ExZr`, `C02Capstone4.ExZ.zero_rtt_not_first_offered_lost`); that the
latter are simply missing and everything else is exact is `C02Zr.quic_connection_exact_0rtt_any` (`Props/C02Zr.lean`,
`Props/C02Zr2.lean`). Instances: `Props/C02Capstone4Ex.lean`.
-/
import TLX.Props.C02Zr
set_option autoImplicit false
namespace TLX.Props.C02Capstone4
open TLX TLX.Quic TLX.Cipher TLX.Quic.Session TLX.Lemmas.QuicSession TLX.Spec.QuicSender TLX.Spec.QuicFrames
open TLX.Props.C02Session TLX.Spec.QuicConnection TLX.Spec.QuicPackets TLX.QuicPipeline
open TLX.Spec.KeySchedules TLX.Lemmas.KeySchedule TLX.Props.C02Capstone TLX.Props.C02Capstone3 TLX.Props.C02Sim TLX.Props.C02Zr

section Loops
variable (maskFn : Dissect.MaskFn) (H : Crypto.Prims) (Pc : Cipher.Prims)

theorem hsSt_after_zr {dcid0 : Bytes} {sel : SuiteSel} {ch sh ca sa : Bytes} {t : Trk} {s : St Tls}
    (hst : HsSt H dcid0 sel ch sh ca sa t s) (x : SPkt) (p : Pkt) (hsrv : p.isServer = false) :
    HsSt H dcid0 sel ch sh ca sa (t.zr x)
      (afterFrames (pnStore s false .app (max s.pnClient.app x.pn)) p ((normalize x.frames).map QFrame.toParsed)) := by
  have hpc : s.pnClient = t.tc := hst.pc
  have hcc : s.clientCids = t.cc := hst.cc
  have hsc : s.serverCids = t.sc := hst.sc
  -- on a literal record the agreement of the other fields is immediate
  cases s
  dsimp only at hpc hcc hsc
  subst hpc hcc hsc
  refine hst.congr H rfl rfl rfl rfl rfl rfl rfl rfl rfl rfl rfl rfl ?_ hst.ps ?_ ?_
  · simp [afterFrames, pnStore, PnTab.set, Trk.zr]
  · simp only [afterFrames, hsrv, Bool.false_eq_true, if_false, pnStore, Trk.zr]
    rw [newCids_eq, issue_eq]
  · simp only [afterFrames, hsrv, Bool.false_eq_true, if_false, pnStore, Trk.zr]

theorem zr_core (t : Trk) (qs : List PkH) : (qs.foldl (fun t q => t.zr q.x) t).core = t.core ∧
    (qs.foldl (fun t q => t.zr q.x) t).keyed = t.keyed := by
  induction qs generalizing t with
  | nil => exact ⟨rfl, rfl⟩
  | cons q qs ih => simp only [List.foldl_cons]; exact ⟨(ih _).1, (ih _).2⟩

end Loops
section XDg
variable (maskFn : Dissect.MaskFn) (H : Crypto.Prims) (Pc : Cipher.Prims)

/-- the bookkeeping after the first `pos` long-header packets of the datagram, and after its 0-RTT packets -/
def DgX.t1 (t : Trk) (d : DgX) : Trk := t.run (d.base.longs.take d.pos)
def DgX.tz (t : Trk) (d : DgX) : Trk := d.zr.foldl (fun t q => t.zr q.x) (DgX.t1 t d)

/-- the suite of the last `set_tls_decryptors` call after the datagram -/
def ecsDgx (t : Trk) (ecs : Option SuiteSel) (d : DgX) : Option SuiteSel :=
  ecsFold (DgX.tz t d).core (insOf (d.base.longs.drop d.pos)) (ecsFold t.core (insOf (d.base.longs.take d.pos)) ecs)

/-- one datagram with 0-RTT packets, relative to the bookkeeping `t` and the suite `ecs` of the last `set_tls_decryptors`
    call before it. `suite` is THE condition: when the 0-RTT packets are reached, the keys the tool holds were derived for
    the suite `selR` the client protects 0-RTT with (after the ClientHello: the first offered suite; after the ServerHello:
    the selected one). -/
structure XDgOkE (L : SealLaws Pc) (dcid0 : Bytes) (sel selR : SuiteSel) (sh ch sa ca e : Bytes) (t : Trk)
    (ecs : Option SuiteSel) (d : DgX) : Prop where
  client : d.zr ≠ [] → d.base.srv = false
  dirL : ∀ q ∈ d.base.longs, q.x.srv = d.base.srv ∧ q.x.ts = d.base.ts
  dirZ : ∀ q ∈ d.zr, q.x.ts = d.base.ts
  cid : DcidOk t.cc t.sc d.base.srv d.dcid
  pre : HsPks maskFn H Pc L dcid0 sel sh ch t (d.base.longs.take d.pos)
  suite : d.zr ≠ [] → ecsFold t.core (insOf (d.base.longs.take d.pos)) ecs = some selR
  zr : ∀ (i : Nat) (q : PkH), d.zr[i]? = some q → ZrShape q.x ∧ (∀ f ∈ q.x.frames, isCryptoQ f = false) ∧
      WellFormedSeq q.x.frames ∧
      PnLenOk ((d.zr.take i).foldl (fun t q => t.zr q.x) (DgX.t1 t d)).tc.app q.x.pn q.x.pnLen ∧
      maskFn (chachaOf (DgX.t1 t d).core) (quicHp (hashOf H selR.hash) e selR.keyLen)
        (longOf q.x (protectedPayload L.aeadSeal selR.alg (earlyDec H selR e).client q.x)).sample = some q.mask ∧
      5 ≤ q.mask.length
  post : HsPks maskFn H Pc L dcid0 sel sh ch (DgX.tz t d) (d.base.longs.drop d.pos)
  short : ∀ o, d.base.short = some o → o.x.srv = d.base.srv ∧ o.x.ts = d.base.ts ∧ o.x.dcid = d.dcid ∧
      ((DgX.tz t d).run (d.base.longs.drop d.pos)).keyed = true ∧ o.x.level = .oneRtt ∧ o.x.gen = 0 ∧
      PnLenOk (if o.x.srv then ((DgX.tz t d).run (d.base.longs.drop d.pos)).ts.app
        else ((DgX.tz t d).run (d.base.longs.drop d.pos)).tc.app) o.x.pn o.x.pnLen ∧ WellFormedSeq o.x.frames ∧
      DgOk maskFn Pc L sel.alg (genDir (keyUpdate H sel .v1) (rfcGen (hashOf H sel.hash) sel.keyLen sa ca 0) o.x.srv 0)
        (if o.x.srv then quicHp (hashOf H sel.hash) sa sel.keyLen else quicHp (hashOf H sel.hash) ca sel.keyLen)
        (chachaOf ((DgX.tz t d).run (d.base.longs.drop d.pos)).core) o

def _root_.TLX.Props.C02Capstone3.DgX.zrOut (d : DgX) : List Out := d.zr.flatMap fun q => expectedOf .rtt0 q.x

end XDg
section XFeed
variable (maskFn : Dissect.MaskFn) (H : Crypto.Prims) (Pc : Cipher.Prims) (info : Nat → Pipeline.Info)

structure CarriesX (c : QConn) (w : DgX → Bytes) (p : MainLoop.Pkt) (d : DgX) : Prop where
  payload : p.payload = w d
  ts : (info p.tag).ts = d.base.ts
  dir : (p.src == c.client) = !d.base.srv

def XDgsE (L : SealLaws Pc) (dcid0 : Bytes) (sel selR : SuiteSel) (sh ch sa ca e : Bytes) :
    Trk → Option SuiteSel → List DgX → Prop
  | _, _, [] => True
  | t, ecs, d :: ds => XDgOkE maskFn H Pc L dcid0 sel selR sh ch sa ca e t ecs d ∧
      XDgsE L dcid0 sel selR sh ch sa ca e (t.dgx d) (ecsDgx t ecs d) ds

end XFeed
section XOut
open TLX.Quic.UdpOut TLX.Props.C02Out

/-- the datagram as the output builder sees it: time, direction, the frames of its 0-RTT packets and of its 1-RTT packet -/
def inDgX (d : DgX) : InDgram :=
  ⟨d.base.ts, d.base.srv, ((d.zrOut ++ d.base.shortOut).map frameOf).map fun f => (f.ftype, f.data)⟩

/-- the packets of the datagram carry its time and direction -/
def _root_.TLX.Props.C02Capstone3.DgX.Keys (d : DgX) : Prop :=
  (∀ q ∈ d.zr, q.x.ts = d.base.ts ∧ q.x.srv = d.base.srv) ∧ ∀ o, d.base.short = some o → o.x.ts = d.base.ts ∧ o.x.srv = d.base.srv

theorem expectedOf_pt (pt : PType) (x : SPkt) : (expectedOf pt x).map frameOf = (expectedOf .rtt1 x).map frameOf := by
  unfold expectedOf
  simp only [List.map_map]
  apply List.map_congr_left
  intro f _
  simp only [Function.comp, frameOf]

theorem zrOut_frames (d : DgX) : d.zrOut.map frameOf = d.zr.flatMap fun q => (expectedOf .rtt1 q.x).map frameOf := by
  unfold DgX.zrOut
  induction d.zr with
  | nil => rfl
  | cons q qs ih => simp only [List.flatMap_cons, List.map_append, ih, expectedOf_pt]

theorem shortOut_frames (d : DgM) : d.shortOut.map frameOf = (d.short.map fun o => (expectedOf .rtt1 o.x).map frameOf).getD [] := by
  unfold DgM.shortOut
  cases d.short <;> rfl

theorem inDgX_frames (d : DgX) (hk : d.Keys) : (inDgX d).frames = (d.zrOut ++ d.base.shortOut).map frameOf := by
  unfold inDgX InDgram.frames
  simp only [List.map_map]
  have hall : ∀ o ∈ d.zrOut ++ d.base.shortOut, o.ts = d.base.ts ∧ o.isServer = d.base.srv := by
    intro o ho
    rcases List.mem_append.mp ho with h | h
    · simp only [DgX.zrOut, List.mem_flatMap] at h
      obtain ⟨q, hq, hoq⟩ := h
      simp only [expectedOf, List.mem_map] at hoq
      obtain ⟨f, _, rfl⟩ := hoq
      exact hk.1 q hq
    · unfold DgM.shortOut at h
      cases hs : d.base.short with
      | none => rw [hs] at h; cases h
      | some o' =>
        rw [hs] at h
        simp only [expectedOf, List.mem_map] at h
        obtain ⟨f, _, rfl⟩ := h
        exact hk.2 o' hs
  conv => rhs; rw [← List.map_id' ((d.zrOut ++ d.base.shortOut).map frameOf)]
  rw [List.map_map]
  apply List.map_congr_left
  intro o ho
  obtain ⟨h1, h2⟩ := frameOf_ts o
  obtain ⟨h3, h4⟩ := hall o ho
  simp only [Function.comp]
  generalize frameOf o = fr at h1 h2
  obtain ⟨a, b, c, dd⟩ := fr
  simp only at h1 h2
  rw [← h3, ← h4, h1, h2]

theorem inDgX_data (d : DgX) (hk : d.Keys) : (inDgX d).frames.filterMap (exported false) = d.data := by
  rw [inDgX_frames d hk, List.map_append, List.filterMap_append, zrOut_frames, shortOut_frames]
  unfold DgX.data
  congr 1
  · induction d.zr with
    | nil => rfl
    | cons q qs ih => simp only [List.flatMap_cons, List.filterMap_append, ih, exported_stream_data]
  · cases d.base.short with
    | none => rfl
    | some o => simp only [Option.map_some, Option.getD_some, exported_stream_data]

theorem hasExported_inDgX (d : DgX) (hk : d.Keys) : hasExported false (inDgX d) = !d.data.isEmpty := by
  unfold hasExported
  rw [any_isSome_filterMap, inDgX_data d hk]

theorem outDgram_inDgX (d : DgX) (hk : d.Keys) : outDgram false (inDgX d) = ⟨d.base.srv, d.base.ts, d.data.flatten⟩ := by
  unfold outDgram
  rw [inDgX_data d hk]
  rfl

end XOut

/-! ### the three kinds of long-header packets, and `DgX` read as packets -/
section Packets
variable (maskFn : Dissect.MaskFn) (H : Crypto.Prims) (Pc : Cipher.Prims) (info : Nat → Pipeline.Info)
variable (L : SealLaws Pc) (dcid0 cr csel ch sh ca sa : Bytes) (early : Option Bytes) (e : Bytes) (sel selR : SuiteSel)

/-- a long-header packet of the handshake phase -/
inductive PEv where
  /-- Initial / Handshake -/
  | long (q : PkH)
  /-- 0-RTT while the tool holds the client's Early keys -/
  | zr (q : PkH)
  /-- 0-RTT while the tool holds Early keys of another suite -/
  | zrBad (q : PkH)

/-- `long`: `C02Capstone.HsPkOk`; `zr`: the conditions of `XDgOkE.suite` / `.zr` on one packet — the last
    `set_tls_decryptors` call was for the suite `selR` the client protects 0-RTT with, the key log has the early secret `e`;
    `zrBad`: those of `C02Zr.XDgBad.tool` — the last call was for another suite `selT`, and the AEAD check the tool performs
    under ITS keys on what ITS mask leaves of the packet fails (`RejectedT`): the packet is skipped -/
def pevK : Kinds PEv where
  x
    | .long q => q.x
    | .zr q => q.x
    | .zrBad q => q.x
  ins
    | .long q => cryptoIns q.x
    | _ => []
  out
    | .zr q => expectedOf .rtt0 q.x
    | _ => []
  wire
    | .long q => pkWire H Pc L dcid0 sel sh ch q
    | .zr q => zrWire H Pc L selR e q
    | .zrBad q => zrWire H Pc L selR e q
  step b
    | .long q => ⟨b.t.step q.x, ecsFold b.t.core (cryptoIns q.x) b.ecs⟩
    | .zr q => ⟨b.t.zr q.x, b.ecs⟩
    | .zrBad _ => b
  Ok b
    | .long q => HsPkOk maskFn H Pc L dcid0 sel sh ch b.t q
    | .zr q => early = some e ∧ b.ecs = some selR ∧ ZrShape q.x ∧ (∀ f ∈ q.x.frames, isCryptoQ f = false) ∧
        WellFormedSeq q.x.frames ∧ PnLenOk b.t.tc.app q.x.pn q.x.pnLen ∧
        maskFn (chachaOf b.t.core) (quicHp (hashOf H selR.hash) e selR.keyLen)
          (longOf q.x (protectedPayload L.aeadSeal selR.alg (earlyDec H selR e).client q.x)).sample = some q.mask ∧
        5 ≤ q.mask.length
    | .zrBad q => early = some e ∧ ∃ selT, b.ecs = some selT ∧ ZrShape q.x ∧ 1 ≤ q.x.pnLen ∧ q.x.pnLen ≤ 4 ∧
        5 ≤ q.mask.length ∧
        ∃ m', maskFn (chachaOf b.t.core) (quicHp (hashOf H selT.hash) e selT.keyLen)
            (longOf q.x (protectedPayload L.aeadSeal selR.alg (earlyDec H selR e).client q.x)).sample = some m' ∧
          5 ≤ m'.length ∧
          RejectedT H Pc selT e b.t.tc.app
            ((remask (longOf q.x (protectedPayload L.aeadSeal selR.alg (earlyDec H selR e).client q.x)) q.mask m').toPkt
              false q.x.ts)

variable {maskFn H Pc info L dcid0 cr csel ch sh ca sa early e sel selR}

/-- one statement for the three kinds: `steps_long`, `C02Capstone3.zr_turn` with `hsSt_after_zr`, `C02Zr.zr_rejected_turn` -/
theorem steps_pev (hl : H.Lawful) (hsel : selectSuite csel = some sel) {csR : Bytes} (hselR : selectSuite csR = some selR) :
    (pevK maskFn H Pc L dcid0 ch sh early e sel selR).Steps maskFn H Pc dcid0 cr csel ch sh ca sa early sel := by
  intro kl hkl b ev hok rest s hsim htr guessed
  cases ev with
  | long q => exact steps_long maskFn H Pc hl L dcid0 cr csel ch sh ca sa early sel hsel kl hkl b q hok rest s hsim htr guessed
  | zr q =>
    obtain ⟨ze, zs, z1, z2, z3, z4, z5, z6⟩ := hok
    have hek : EarlyKeyed H selR e s := hsim.early e selR ze zs
    have hturn := fun more => zr_turn maskFn H Pc hl kl L selR csR hselR e s q z1 hek hsim.ver z2 z3
      (by rw [hsim.pc]; exact z4) (by rw [hsim.chacha]; exact z5) z6 guessed more
    have hp0 : (emit L.aeadSeal selR.alg (earlyDec H selR e).client q.x).isServer = false :=
      (emit_isServer ..).trans z1.client
    have hst1 := hsSt_after_zr H hsim.st q.x _ hp0
    refine ⟨_, ⟨hst1, hsim.early.congr H ?_ ?_⟩, htr, ⟨[], (fun _ h => nomatch h), by rw [List.append_nil]; exact (hturn []).2⟩,
      fun more => ?_⟩
    · simp only [afterFrames, pnStore]; rfl
    · simp only [afterFrames, pnStore]; rfl
    · show (Dissect.dissectLoop _ _ _ _ _ _ _ _).1 = _
      rw [show ((pevK maskFn H Pc L dcid0 ch sh early e sel selR).x (PEv.zr q)).srv = false from z1.client]
      exact (hturn more).1
  | zrBad q =>
    obtain ⟨ze, selT, zs, z1, z2, z3, z4, m', z5, z6, z7⟩ := hok
    have hek : EarlyKeyed H selT e s := hsim.early e selT ze zs
    have hrej := rejected_of_T H Pc kl selT e s
      ((remask (longOf q.x (protectedPayload L.aeadSeal selR.alg (earlyDec H selR e).client q.x)) q.mask m').toPkt false
        q.x.ts) rfl
      (by show (remask _ q.mask m').ty.ptype = .rtt0
          have : (remask (longOf q.x (protectedPayload L.aeadSeal selR.alg (earlyDec H selR e).client q.x)) q.mask m').ty =
              .zeroRtt := by simp [remask, longOf, z1.level, ltypeOf]
          rw [this]; rfl)
      rfl hek (by rw [hsim.pc]; exact z7)
    refine ⟨s, hsim, htr, ⟨[], (fun _ h => nomatch h), by simp [pevK]⟩, fun more => ?_⟩
    show (Dissect.dissectLoop _ _ _ _ _ _ _ _).1 = _
    rw [show ((pevK maskFn H Pc L dcid0 ch sh early e sel selR).x (PEv.zrBad q)).srv = false from z1.client]
    exact zr_rejected_turn maskFn H Pc hl kl L selR csR hselR e s q z1 z2 z3 z4 hsim.ver _ m' hek.hp
      (by rw [hsim.chacha]; exact z5) z6 hrej guessed more

theorem pev_run_long (b : Bk) (qs : List PkH) :
    (pevK maskFn H Pc L dcid0 ch sh early e sel selR).run b (qs.map PEv.long) =
      ⟨b.t.run qs, ecsFold b.t.core (insOf qs) b.ecs⟩ :=
  (List.foldl_map ..).trans (longK_run (maskFn := maskFn) (H := H) (Pc := Pc) (L := L) (dcid0 := dcid0) (ch := ch) (sh := sh)
    (sel := sel) b.t b.ecs qs)

theorem pev_oks_long (qs : List PkH) (b : Bk) (h : HsPks maskFn H Pc L dcid0 sel sh ch b.t qs) :
    (pevK maskFn H Pc L dcid0 ch sh early e sel selR).Oks b (qs.map PEv.long) := by
  induction qs generalizing b with
  | nil => trivial
  | cons q qs ih => exact ⟨h.1, ih ⟨_, _⟩ h.2⟩

theorem pev_run_zr (b : Bk) (qs : List PkH) :
    (pevK maskFn H Pc L dcid0 ch sh early e sel selR).run b (qs.map PEv.zr) =
      ⟨qs.foldl (fun t q => t.zr q.x) b.t, b.ecs⟩ := by
  induction qs generalizing b with
  | nil => rfl
  | cons q qs ih => exact ih ⟨b.t.zr q.x, b.ecs⟩

theorem pev_run_bad (b : Bk) (qs : List PkH) :
    (pevK maskFn H Pc L dcid0 ch sh early e sel selR).run b (qs.map PEv.zrBad) = b := by
  induction qs with
  | nil => rfl
  | cons q qs ih => exact ih

theorem pev_oks_zr (he : early = some e) (ecs : Option SuiteSel) (hecs : ecs = some selR) (core0 : Tls) (qs : List PkH)
    (t : Trk) (hc : t.core = core0)
    (h : ∀ (i : Nat) (q : PkH), qs[i]? = some q → ZrShape q.x ∧ (∀ f ∈ q.x.frames, isCryptoQ f = false) ∧
      WellFormedSeq q.x.frames ∧ PnLenOk ((qs.take i).foldl (fun t q => t.zr q.x) t).tc.app q.x.pn q.x.pnLen ∧
      maskFn (chachaOf core0) (quicHp (hashOf H selR.hash) e selR.keyLen)
        (longOf q.x (protectedPayload L.aeadSeal selR.alg (earlyDec H selR e).client q.x)).sample = some q.mask ∧
      5 ≤ q.mask.length) :
    (pevK maskFn H Pc L dcid0 ch sh early e sel selR).Oks ⟨t, ecs⟩ (qs.map PEv.zr) := by
  induction qs generalizing t with
  | nil => trivial
  | cons q qs ih =>
    obtain ⟨z1, z2, z3, z4, z5, z6⟩ := h 0 q rfl
    refine ⟨⟨he, hecs, z1, z2, z3, z4, hc ▸ z5, z6⟩, ih (t.zr q.x) hc fun i q' hi => ?_⟩
    obtain ⟨w1, w2, w3, w4, w5, w6⟩ := h (i + 1) q' (by simpa using hi)
    exact ⟨w1, w2, w3, by simpa [List.take_succ_cons, List.foldl_cons] using w4, w5, w6⟩

theorem pev_oks_bad (b : Bk) (qs : List PkH)
    (h : ∀ q ∈ qs, (pevK maskFn H Pc L dcid0 ch sh early e sel selR).Ok b (PEv.zrBad q)) :
    (pevK maskFn H Pc L dcid0 ch sh early e sel selR).Oks b (qs.map PEv.zrBad) := by
  induction qs with
  | nil => trivial
  | cons q qs ih => exact ⟨h q (List.mem_cons_self ..), ih fun q' h' => h q' (List.mem_cons_of_mem _ h')⟩

/-- the packets of a `DgX`, its 0-RTT packets all of the kind `k` (`PEv.zr` / `PEv.zrBad`) -/
def evsOf (k : PkH → PEv) (d : DgX) : List PEv :=
  (d.base.longs.take d.pos).map PEv.long ++ d.zr.map k ++ (d.base.longs.drop d.pos).map PEv.long

theorem evsOf_dir (k : PkH → PEv) (hk : ∀ q, (pevK maskFn H Pc L dcid0 ch sh early e sel selR).x (k q) = q.x) (d : DgX)
    (hclient : d.zr ≠ [] → d.base.srv = false) (hz : ∀ q ∈ d.zr, ZrShape q.x)
    (hdirL : ∀ q ∈ d.base.longs, q.x.srv = d.base.srv ∧ q.x.ts = d.base.ts) (hdirZ : ∀ q ∈ d.zr, q.x.ts = d.base.ts) :
    ∀ ev ∈ evsOf k d, ((pevK maskFn H Pc L dcid0 ch sh early e sel selR).x ev).srv = d.base.srv ∧
      ((pevK maskFn H Pc L dcid0 ch sh early e sel selR).x ev).ts = d.base.ts := by
  intro ev hev
  simp only [evsOf, List.mem_append, List.mem_map] at hev
  rcases hev with (⟨q, hq, rfl⟩ | ⟨q, hq, rfl⟩) | ⟨q, hq, rfl⟩
  · exact hdirL q (List.mem_of_mem_take hq)
  · rw [hk]
    exact ⟨((hz q hq).client).trans (hclient (List.ne_nil_of_mem hq)).symm, hdirZ q hq⟩
  · exact hdirL q (List.mem_of_mem_drop hq)

theorem evsOf_ins (k : PkH → PEv) (hk : ∀ q, (pevK maskFn H Pc L dcid0 ch sh early e sel selR).ins (k q) = []) (d : DgX) :
    (pevK maskFn H Pc L dcid0 ch sh early e sel selR).insOf (evsOf k d) = insOf d.base.longs := by
  have hz : (pevK maskFn H Pc L dcid0 ch sh early e sel selR).insOf (d.zr.map k) = [] := by
    unfold Kinds.insOf
    rw [List.flatMap_map]
    induction d.zr with
    | nil => rfl
    | cons q qs ih => rw [List.flatMap_cons, hk, ih]; rfl
  have hl : ∀ qs : List PkH, (pevK maskFn H Pc L dcid0 ch sh early e sel selR).insOf (qs.map PEv.long) = insOf qs := by
    intro qs; unfold Kinds.insOf insOf; rw [List.flatMap_map]; rfl
  unfold evsOf
  rw [Kinds.insOf_append, Kinds.insOf_append, hl, hz, hl, List.append_nil]
  unfold insOf
  rw [← List.flatMap_append, List.take_append_drop]

theorem evsOf_wire (k : PkH → PEv) (hk : ∀ q, (pevK maskFn H Pc L dcid0 ch sh early e sel selR).wire (k q) = zrWire H Pc L selR e q)
    (d : DgX) :
    (pevK maskFn H Pc L dcid0 ch sh early e sel selR).wireOf (evsOf k d) ++ shortWire H Pc L ca sa sel d.base.short =
      DgX.wire H Pc L dcid0 sel selR sh ch sa ca e d := by
  have hz : (pevK maskFn H Pc L dcid0 ch sh early e sel selR).wireOf (d.zr.map k) = (d.zr.map (zrWire H Pc L selR e)).flatten := by
    unfold Kinds.wireOf
    rw [List.map_map]
    congr 1
    exact List.map_congr_left fun q _ => hk q
  have hl : ∀ qs : List PkH, (pevK maskFn H Pc L dcid0 ch sh early e sel selR).wireOf (qs.map PEv.long) =
      (qs.map (pkWire H Pc L dcid0 sel sh ch)).flatten := by
    intro qs; unfold Kinds.wireOf; rw [List.map_map]; rfl
  unfold evsOf DgX.wire
  rw [Kinds.wireOf_append, Kinds.wireOf_append, hl, hz, hl]
  rfl

/-- `DgX` with all its 0-RTT packets of the kind `zr` -/
def xView : DgView PEv DgX := ⟨(·.base.srv), (·.base.ts), DgX.dcid, DgX.ver, evsOf PEv.zr, (·.base.short)⟩

theorem xView_run (t : Trk) (ecs : Option SuiteSel) (d : DgX) :
    (pevK maskFn H Pc L dcid0 ch sh early e sel selR).run ⟨t, ecs⟩ (evsOf PEv.zr d) =
      ⟨(DgX.tz t d).run (d.base.longs.drop d.pos), ecsDgx t ecs d⟩ := by
  unfold evsOf
  rw [Kinds.run_append, Kinds.run_append, pev_run_long, pev_run_zr, pev_run_long]
  rfl

theorem close_dgx (t : Trk) (ecs : Option SuiteSel) (d : DgX) :
    (⟨(DgX.tz t d).run (d.base.longs.drop d.pos), ecsDgx t ecs d⟩ : Bk).close d.base.short = ⟨t.dgx d, ecsDgx t ecs d⟩ := by
  unfold Trk.dgx DgX.tz DgX.t1 Bk.close
  cases d.base.short <;> rfl

theorem xView_after (t : Trk) (ecs : Option SuiteSel) (d : DgX) :
    xView.after (pevK maskFn H Pc L dcid0 ch sh early e sel selR) ⟨t, ecs⟩ d = ⟨t.dgx d, ecsDgx t ecs d⟩ := by
  show ((pevK maskFn H Pc L dcid0 ch sh early e sel selR).run ⟨t, ecs⟩ (evsOf PEv.zr d)).close d.base.short = _
  rw [xView_run, close_dgx]

theorem xView_dgx (ds : List DgX) (t : Trk) (ecs : Option SuiteSel) :
    (ds.foldl (xView.after (pevK maskFn H Pc L dcid0 ch sh early e sel selR)) ⟨t, ecs⟩).t = ds.foldl Trk.dgx t := by
  induction ds generalizing t ecs with
  | nil => rfl
  | cons d ds ih => simp only [List.foldl_cons]; rw [xView_after]; exact ih _ _

theorem shortOutOf_eq (d : DgM) : shortOutOf d.short = d.shortOut := by
  unfold shortOutOf DgM.shortOut
  cases d.short <;> rfl

theorem evsOf_out (k : PkH → PEv) (o : PkH → List Out) (hk : ∀ q, (pevK maskFn H Pc L dcid0 ch sh early e sel selR).out (k q) = o q)
    (d : DgX) : (pevK maskFn H Pc L dcid0 ch sh early e sel selR).outOf (evsOf k d) = d.zr.flatMap o := by
  have hl : ∀ qs : List PkH, (pevK maskFn H Pc L dcid0 ch sh early e sel selR).outOf (qs.map PEv.long) = [] := fun qs =>
    (List.flatMap_map ..).trans (longK_outOf (maskFn := maskFn) (H := H) (Pc := Pc) (L := L) (dcid0 := dcid0) (ch := ch)
      (sh := sh) (sel := sel) qs)
  unfold evsOf
  rw [Kinds.outOf_append, Kinds.outOf_append, hl, hl, List.append_nil, List.nil_append]
  unfold Kinds.outOf
  rw [List.flatMap_map]
  exact congrArg (fun f => d.zr.flatMap f) (funext hk)

theorem xView_out1 (d : DgX) :
    xView.out (pevK maskFn H Pc L dcid0 ch sh early e sel selR) d = d.zrOut ++ d.base.shortOut := by
  show (pevK maskFn H Pc L dcid0 ch sh early e sel selR).outOf (evsOf PEv.zr d) ++ shortOutOf d.base.short = _
  rw [evsOf_out PEv.zr (fun q => expectedOf .rtt0 q.x) (fun _ => rfl), shortOutOf_eq]
  rfl

theorem xView_out (ds : List DgX) :
    ds.flatMap (xView.out (pevK maskFn H Pc L dcid0 ch sh early e sel selR)) = ds.flatMap fun d => d.zrOut ++ d.base.shortOut := by
  induction ds with
  | nil => rfl
  | cons d ds ih => rw [List.flatMap_cons, List.flatMap_cons, ih, xView_out1]

theorem xView_ins (ds : List DgX) :
    ds.flatMap (xView.ins (pevK maskFn H Pc L dcid0 ch sh early e sel selR)) = allInsM (ds.map (·.base)) := by
  unfold allInsM
  rw [List.flatMap_map]
  induction ds with
  | nil => rfl
  | cons d ds ih =>
    rw [List.flatMap_cons, List.flatMap_cons, ih]
    congr 1
    exact evsOf_ins PEv.zr (fun _ => rfl) d

theorem xView_ok (hk : KeysWf (params H Pc []) sel .v1 (rfcGen (hashOf H sel.hash) sel.keyLen sa ca 0))
    {t : Trk} {ecs : Option SuiteSel} {d : DgX} (he : d.zr ≠ [] → early = some e) (hok : XDgOkE maskFn H Pc L dcid0 sel selR sh ch sa ca e t ecs d) :
    xView.Ok maskFn H Pc L ca sa sel (pevK maskFn H Pc L dcid0 ch sh early e sel selR) ⟨t, ecs⟩ d := by
  obtain ⟨hclient, hdirL, hdirZ, hcid, hpre, hsuite, hzr, hpost, hshort⟩ := hok
  have hz : ∀ q ∈ d.zr, ZrShape q.x := fun q hq => by
    obtain ⟨i, hi⟩ := List.getElem?_of_mem hq
    exact (hzr i q hi).1
  refine ⟨?_, evsOf_dir PEv.zr (fun _ => rfl) d hclient hz hdirL hdirZ, hcid, ?_, fun o ho => ?_⟩
  · show DgX.ver d = .unknown ∨ DgX.ver d = .v1
    unfold DgX.ver; split
    · exact Or.inl rfl
    · exact Or.inr rfl
  · show (pevK maskFn H Pc L dcid0 ch sh early e sel selR).Oks ⟨t, ecs⟩ (evsOf PEv.zr d)
    unfold evsOf
    refine Kinds.Oks.append _ (Kinds.Oks.append _ (pev_oks_long _ ⟨t, ecs⟩ hpre) ?_) ?_
    · rw [pev_run_long]
      by_cases hzn : d.zr = []
      · rw [hzn]; trivial
      · exact pev_oks_zr (he hzn) _ (hsuite hzn) (DgX.t1 t d).core d.zr (DgX.t1 t d) rfl hzr
    · rw [Kinds.run_append, pev_run_long, pev_run_zr]
      exact pev_oks_long _ ⟨_, _⟩ hpost
  · show ShortAt maskFn H Pc L ca sa sel ((pevK maskFn H Pc L dcid0 ch sh early e sel selR).run ⟨t, ecs⟩ (evsOf PEv.zr d)).t
      d.base.srv d.base.ts d.dcid o
    rw [xView_run]
    obtain ⟨o1, o2, o3, o4, o5, o6, o7, o8, o9⟩ := hshort o ho
    exact ⟨o1, o2, o3, o4, o5, o6, o7, o8, o9, hk⟩

theorem xView_oks (hk : KeysWf (params H Pc []) sel .v1 (rfcGen (hashOf H sel.hash) sel.keyLen sa ca 0)) (he : early = some e)
    (ds : List DgX) (t : Trk) (ecs : Option SuiteSel) (h : XDgsE maskFn H Pc L dcid0 sel selR sh ch sa ca e t ecs ds) :
    xView.Oks maskFn H Pc L ca sa sel (pevK maskFn H Pc L dcid0 ch sh early e sel selR) ⟨t, ecs⟩ ds := by
  induction ds generalizing t ecs with
  | nil => trivial
  | cons d ds ih => exact ⟨xView_ok hk (fun _ => he) h.1, by rw [xView_after]; exact ih _ _ h.2⟩

theorem xFeedAll_eq (QM : MainLoop.QuicMachine Keylog.Key QConn Pipeline.OutPkt) (c : QConn)
    (items : List (List Keylog.Key × MainLoop.Pkt × DgX)) : xFeedAll QM c items = feedG xView QM c items :=
  feedG_eq_rec xView QM (xFeedAll QM) (fun _ => rfl) (fun _ _ _ _ _ => rfl) c items

theorem carriesG_of_X {c : QConn} {p : MainLoop.Pkt} {d : DgX}
    (h : CarriesX info c (DgX.wire H Pc L dcid0 sel selR sh ch sa ca e) p d) :
    CarriesG H Pc info L ca sa sel (pevK maskFn H Pc L dcid0 ch sh early e sel selR) xView c p d :=
  ⟨h.payload.trans (evsOf_wire PEv.zr (fun _ => rfl) d).symm, h.ts, h.dir⟩

end Packets

section ZeroRttFinal
variable (maskFn : Dissect.MaskFn) (H : Crypto.Prims) (Pc : Cipher.Prims) (info : Nat → Pipeline.Info)
open TLX.Quic.UdpOut TLX.Props.C02Out

theorem keys_of_ok (L : SealLaws Pc) (dcid0 : Bytes) (sel selR : SuiteSel) (sh ch sa ca e : Bytes) (t : Trk)
    (ecs : Option SuiteSel) (d : DgX) (h : XDgOkE maskFn H Pc L dcid0 sel selR sh ch sa ca e t ecs d) : d.Keys := by
  refine ⟨?_, ?_⟩
  · intro q hq
    have hne : d.zr ≠ [] := List.ne_nil_of_mem hq
    obtain ⟨i, hi⟩ := List.getElem?_of_mem hq
    obtain ⟨z1, _⟩ := h.zr i q hi
    exact ⟨h.dirZ q hq, by rw [z1.client, h.client hne]⟩
  · intro o ho
    obtain ⟨o1, o2, _⟩ := h.short o ho
    exact ⟨o2, o1⟩

theorem keys_of_oks (L : SealLaws Pc) (dcid0 : Bytes) (sel selR : SuiteSel) (sh ch sa ca e : Bytes) (t : Trk)
    (ecs : Option SuiteSel) (ds : List DgX) (h : XDgsE maskFn H Pc L dcid0 sel selR sh ch sa ca e t ecs ds) :
    ∀ d ∈ ds, d.Keys := by
  induction ds generalizing t ecs with
  | nil => intro d hd; cases hd
  | cons a rest ih =>
    intro d hd
    rcases List.mem_cons.mp hd with rfl | hd
    · exact keys_of_ok maskFn H Pc L dcid0 sel selR sh ch sa ca e t ecs _ h.1
    · exact ih _ _ h.2 d hd

theorem framesOf_inDgX (ds : List DgX) (hk : ∀ d ∈ ds, d.Keys) :
    (ds.flatMap fun d => d.zrOut ++ d.base.shortOut).map frameOf = framesOf (ds.map inDgX) := by
  induction ds with
  | nil => rfl
  | cons d ds ih =>
    simp only [List.flatMap_cons, List.map_append, List.map_cons, framesOf] at ih ⊢
    rw [← ih (fun x hx => hk x (List.mem_cons_of_mem _ hx)), inDgX_frames d (hk d (List.mem_cons_self ..)), List.map_append]

theorem out_mixed (c : QConn) (ds : List DgX) (hk : ∀ d ∈ ds, d.Keys) :
    (((ds.map inDgX).filter (hasExported false)).map (outDgram false)).map (addressed c) =
      (ds.filter fun d => !d.data.isEmpty).map fun d => addressed c ⟨d.base.srv, d.base.ts, d.data.flatten⟩ := by
  induction ds with
  | nil => rfl
  | cons d ds ih =>
    have hd := hk d (List.mem_cons_self ..)
    have ih := ih fun x hx => hk x (List.mem_cons_of_mem _ hx)
    simp only [List.map_cons, List.filter_cons, hasExported_inDgX d hd]
    split
    · simp only [List.map_cons, outDgram_inDgX d hd, ih]
    · exact ih

/-- **C02 with 0-RTT** (`quic_connection_exact_interleaved` with 0-RTT packets anywhere in the mixed part). Every datagram of
    the mixed part is a `DgX`: long-header packets, 0-RTT packets of the client after the first `pos` of them, more
    long-header packets, optionally the closing 1-RTT packet. THE condition on a 0-RTT packet (`XDgOkE.suite`): when it is
    reached, the suite `set_tls_decryptors` was LAST CALLED with (`ecsFold`: after the ClientHello the first offered suite —
    if the tool knows it —, after the ServerHello / EncryptedExtensions the selected one) is the suite `selR` the client
    protects 0-RTT with; the key log has CLIENT_EARLY_TRAFFIC_SECRET (`KeylogHas … (some e)`). Then nothing raises and the
    export without `-a` is exactly one UDP frame per datagram that carried STREAM data in a 0-RTT or 1-RTT packet — payload:
    the 0-RTT packets' data, then the 1-RTT packet's —, in capture order, then the 1-RTT-only part (`expectedOutX`).
    NOT covered (and lost by the tool: `ExZr.…_counterexample`, open finding `early-data-lost`): 0-RTT packets before the
    ClientHello is complete, or while the last call used another suite than the client's. -/
theorem quic_connection_exact_0rtt (hl : H.Lawful) (h32 : H.sha256.outLen = 32) (L : SealLaws Pc)
    (cr csel ch sh ca sa e : Bytes) (sel selR : SuiteSel) (csR : Bytes) (hsel : selectSuite csel = some sel)
    (hselR : selectSuite csR = some selR)
    (ho : (hashOf H sel.hash).outLen < 65536)
    (hsa : sa.length = (hashOf H sel.hash).outLen) (hca : ca.length = (hashOf H sel.hash).outLen)
    (kl0 : List Keylog.Key) (p0 : MainLoop.Pkt) (d0 : DgX) (itemsA : List (List Keylog.Key × MainLoop.Pkt × DgX))
    (hkl : ∀ x ∈ (kl0, p0, d0) :: itemsA, KeylogHas x.1 cr ch sh ca sa (some e))
    (c : QConn) (hc : Fresh H Pc c) (hd0 : d0.ver = .v1)
    (hok : XDgsE maskFn H Pc L d0.dcid sel selR sh ch sa ca e trk0 none (d0 :: itemsA.map (·.2.2)))
    (htr : PTrace cr csel {} (allInsM ((d0 :: itemsA.map (·.2.2)).map (·.base))))
    (hcar : ∀ x ∈ (kl0, p0, d0) :: itemsA, CarriesX info c (DgX.wire H Pc L d0.dcid sel selR sh ch sa ca e) x.2.1 x.2.2)
    (hkeyed : ((d0 :: itemsA.map (·.2.2)).foldl Trk.dgx trk0).keyed = true)
    (itemsB : List (List Keylog.Key × MainLoop.Pkt × Dg1))
    (hcarB : ∀ x ∈ itemsB, Carries info c
      (wireOf H Pc L sel .v1 (rfcGen (hashOf H sel.hash) sel.keyLen sa ca 0)) x.2.1 x.2.2)
    (hsend : Send1 maskFn H Pc L sel .v1 (rfcGen (hashOf H sel.hash) sel.keyLen sa ca 0)
      (quicHp (hashOf H sel.hash) ca sel.keyLen) (quicHp (hashOf H sel.hash) sa sel.keyLen)
      (chachaOf ((d0 :: itemsA.map (·.2.2)).foldl Trk.dgx trk0).core) 0 0
      ((d0 :: itemsA.map (·.2.2)).foldl Trk.dgx trk0).tc.app ((d0 :: itemsA.map (·.2.2)).foldl Trk.dgx trk0).ts.app
      ((d0 :: itemsA.map (·.2.2)).foldl Trk.dgx trk0).cc ((d0 :: itemsA.map (·.2.2)).foldl Trk.dgx trk0).sc
      (itemsB.map (·.2.2)))
    (hadj : DistinctAdjacent false ((d0 :: itemsA.map (·.2.2)).map inDgX ++ (itemsB.map (·.2.2)).map fun d => inDg d.x)) :
    let QM := quicMachine maskFn H Pc info
    let c1 := xFeedAll QM c ((kl0, p0, d0) :: itemsA)
    (feedAll QM c1 itemsB).raised = none ∧
    QM.out false (feedAll QM c1 itemsB) = expectedOutX c (d0 :: itemsA.map (·.2.2)) (itemsB.map (·.2.2)) := by
  intro QM c1
  obtain ⟨hr, hout0, hsim0⟩ := hc.sim kl0 h32 d0.dcid sel ch sh ca sa (some e)
  have hkeys := keys_of_oks maskFn H Pc L d0.dcid sel selR sh ch sa ca e trk0 none _ hok
  have hv0 : sver d0.ver = .v1 := by rw [hd0]; rfl
  have hk := keysWf_rfc H hl Pc [] csel sel hsel .v1 ho sa ca hsa hca
  have hrun : ((d0 :: itemsA.map (·.2.2)).foldl (xView.after (pevK maskFn H Pc L d0.dcid ch sh (some e) e sel selR))
      ⟨trk0, none⟩).t = (d0 :: itemsA.map (·.2.2)).foldl Trk.dgx trk0 := xView_dgx ..
  obtain ⟨r1, r2, _⟩ := conn_from (V := xView) (steps_pev hl hsel hselR) hk kl0 p0 d0 itemsA hkl ⟨trk0, none⟩ c (SameEnds.refl c)
    hr hout0 (hv0 ▸ hsim0) (xView_oks hk rfl _ trk0 none hok)
    (by rw [xView_ins]; exact htr) (fun x hx => carriesG_of_X (hcar x hx)) hrun hkeyed
    _ (by rw [xView_out]; exact framesOf_inDgX _ hkeys) itemsB hcarB
    hsend hadj
  rw [show c1 = feedG xView QM c ((kl0, p0, d0) :: itemsA) from xFeedAll_eq ..]
  rw [out_mixed c _ hkeys] at r2
  exact ⟨r1, r2⟩

end ZeroRttFinal
end TLX.Props.C02Capstone4
