/-
C06, the BYTES — "the output is always a well-formed pcapng of well-formed, reassemblable packets".

`Props/C06.lean` proves that the abstract conversation `OutputBuilder.build` emits is reassemblable; this file proves
that what is WRITTEN for each abstract frame is right, byte for byte, for every frame and payload:

  model          `TLX/OutBytes.lean`: `serializeFrame` (scapy 2.7.0 on the four layer stacks the builders make),
                 `pcapng` / `fileOfFrames` (dpkt 1.9.8 `pcapng.Writer(file, snaplen=Gen.writerSnaplen)` + `writepkt`;
                 the snaplen literal is regenerated from the tree under test), tied to the
                 real libraries byte for byte by harness/ob_outbytes.py on every run;
  specifications `Spec/Rfc1071.lean` (receiver side of the Internet checksum, shared with C11), `Spec/FrameParse.lean`
                 (Ethernet II / RFC 791 / RFC 8200 / RFC 9293 / RFC 768 receiver checking every length field),
                 `Spec/Containers.lean` (the pcapng draft's ENCODER, shared with C12), `Spec/PcapngWalk.lean`
                 (the draft's general block structure as a checker), and the project's model of the tool's OWN reader
                 (`Container.read`, C12) and of its OWN `-c` test (`Checksum.check`, C11).

Hypotheses used below, and nothing else: `Frame.WF` — MAC addresses of 6 and IP addresses of 4 / 16 bytes (what dpkt's
dissection of the input hands to the builders) — and `serializeFrame f = .ok b` — scapy did serialise the frame, which
`serialize_ok_iff` characterises exactly: ports below 2^16, sequence/acknowledgement numbers below 2^32, and the IP
length field holds the length (IPv4: 20 + segment < 2^16; IPv6: segment < 2^16). Otherwise scapy raises and the run
dies in the write loop of main.py; the model then answers `.error`, never bytes.
-/
import TLX.Lemmas.OutBytes
import TLX.Props.C12
namespace TLX.Props.C06Bytes
open TLX TLX.OutBytes TLX.Lemmas.OutBytes TLX.Lemmas.OnesComplement
open TLX.Spec.Rfc1071 TLX.Spec.FrameParse

/-- `scapy.utils.checksum` — host-order word sum, TWO folding steps, complement, byte swap — is the RFC 1071 checksum
    (the complement of the one's-complement sum of the big-endian 16-bit words) of every byte string of up to 131070
    bytes; every string the serialiser sums is shorter than 65536 + 40. (RFC 1071 §2(B): byte-order independence.) -/
theorem scapy_checksum_is_rfc1071 (b : Bytes) (h : b.length ≤ 131070) :
    OutBytes.checksum b = 0xFFFF - ocSum (words b) := by
  rw [checksum_eq b h, ocSum_eq_norm _ (words_le b), words_sum]

/-- `bytes(packet)` returns — instead of raising `ValueError` / `struct.error` — exactly when every fixed-width field
    holds its value. -/
theorem serialize_ok_iff (f : Frame) :
    (∃ b, serializeFrame f = .ok b) ↔
      f.src.port < 65536 ∧ f.dst.port < 65536 ∧
      (match f.l4 with
       | .tcp _ seq ack => seq < 4294967296 ∧ ack < 4294967296
       | .udp => True) ∧
      (if f.ipv6 then 0 else 20) +
        (match f.l4 with
         | .tcp .. => 20
         | .udp => 8) + f.payload.length < 65536 := by
  refine Iff.trans ⟨fun ⟨b, hb⟩ => (serialize_ok hb).1, fun hf => ⟨_, serialize_of_fits hf⟩⟩ ?_
  unfold Fits l4Len OutBytes.L4.fieldsFit
  cases f.l4 <;> cases f.ipv6 <;> simp <;> omega

/-- `parse_serialize`: the independent Ethernet/IP/TCP/UDP parser (every length field checked, no trailing bytes
    accepted) reads out of the serialised frame exactly the fields of the abstract frame — MAC addresses, IP version
    and addresses, ports, sequence and acknowledgement number, the flag bits, the payload — nothing lost, nothing
    added; plus the constants scapy fills in: TTL / hop limit 64, data offset 5, reserved bits 0 (bit 8 of an integer
    flags value would land there), window 8192, urgent pointer 0, no options. -/
theorem parse_serialize (f : Frame) (b : Bytes) (hwf : f.WF) (h : serializeFrame f = .ok b) :
    ∃ seg, parse b = some
      { dstMac := f.dstMac, srcMac := f.srcMac, v6 := f.ipv6, src := f.src.ip, dst := f.dst.ip, ttl := 64,
        sport := f.src.port, dport := f.dst.port,
        l4 := (match f.l4 with
          | .tcp flags seq ack => .tcp seq ack 5 (flags % 512 / 256) (flags % 256) 8192 0 []
          | .udp => .udp),
        segment := seg, payload := f.payload } := by
  obtain ⟨hfit, rfl⟩ := serialize_ok h
  exact ⟨segBytes f, parse_frameBytes f hwf hfit⟩

/-- `parse_serialize` for the TLS export: a frame of `Pipeline` comes back as the same `OutPkt` (flags as the low eight bits). -/
theorem parse_serialize_outpkt (p : Pipeline.OutPkt) (b : Bytes) (hwf : (Frame.ofOutPkt p).WF) (hfl : p.flags < 256)
    (htcp : p.udp = false) (h : serialize p = .ok b) :
    ∃ q, parse b = some q ∧
      q.l4 = .tcp p.seq p.ack 5 0 p.flags 8192 0 [] ∧
      (⟨p.ts, q.srcMac, q.dstMac, ⟨q.src, q.sport⟩, ⟨q.dst, q.dport⟩, q.v6, p.flags, p.seq, p.ack, q.payload, false⟩
        : Pipeline.OutPkt) = p := by
  obtain ⟨seg, hp⟩ := parse_serialize _ b hwf h
  refine ⟨_, hp, ?_, ?_⟩
  · simp only [Frame.ofOutPkt, htcp, Bool.false_eq_true, if_false]
    rw [show p.flags % 512 / 256 = 0 by omega, show p.flags % 256 = p.flags by omega]
  · cases p; simp only [Frame.ofOutPkt] at *; subst htcp; rfl

/-- The IPv4 header of every serialised IPv4 frame verifies: the one's-complement sum of the 20 bytes after the
    Ethernet header is all ones (RFC 1071 §1 "to check a checksum"; RFC 791 §3.1). -/
theorem ipv4_header_checksum_valid (f : Frame) (b : Bytes) (hwf : f.WF) (h : serializeFrame f = .ok b)
    (h4 : f.ipv6 = false) :
    ocSum (words ((b.drop 14).take 20)) = 0xFFFF := by
  obtain ⟨hfit, rfl⟩ := serialize_ok h
  have hs := hwf.src; have hd := hwf.dst
  rw [h4] at hs hd
  simp only [Bool.false_eq_true, if_false] at hs hd
  have h3 := (Lemmas.ByteEval.eth_header f.dstMac f.srcMac (ipBytes f) 0x08 0x00 hwf.dstMac hwf.srcMac rfl).2.2.2.2.2
  unfold frameBytes
  rw [h4]
  simp only [Bool.false_eq_true, if_false]
  rw [h3]
  unfold ipBytes
  rw [h4]
  simp only [Bool.false_eq_true, if_false]
  rw [List.take_left' (ipv4Header_length _ _ _ _ _ hs hd)]
  exact ipv4Header_valid _ _ _ _ hs hd

/-- The transport checksum of every serialised frame — TCP or UDP, over the IPv4 or the IPv6 pseudo-header, odd or
    even length, any payload — is accepted by the independent receiver: the segment the parser delimits gets the
    verdict `valid` of `Spec.Rfc1071` (UDP: never the all-zero "no checksum" field, a computed zero is sent as 0xFFFF). -/
theorem l4_checksum_valid (f : Frame) (b : Bytes) (hwf : f.WF) (h : serializeFrame f = .ok b) :
    ∃ p, parse b = some p ∧
      verdict (match f.l4 with
        | .tcp .. => .tcp
        | .udp => .udp) p.v6 p.src p.dst p.segment = .valid := by
  obtain ⟨hfit, rfl⟩ := serialize_ok h
  refine ⟨_, parse_frameBytes f hwf hfit, ?_⟩
  have := (l4_valid f hwf hfit).1
  simp only [expected]
  cases hl : f.l4 <;> rw [hl] at this <;> exact this

theorem tcp_checksum_valid (f : Frame) (b : Bytes) (flags seq ack : Nat) (hwf : f.WF) (h : serializeFrame f = .ok b)
    (ht : f.l4 = .tcp flags seq ack) :
    ∃ p, parse b = some p ∧ verdict .tcp p.v6 p.src p.dst p.segment = .valid := by
  obtain ⟨p, hp, hv⟩ := l4_checksum_valid f b hwf h
  rw [ht] at hv
  exact ⟨p, hp, hv⟩

theorem udp_checksum_valid (f : Frame) (b : Bytes) (hwf : f.WF) (h : serializeFrame f = .ok b) (hu : f.l4 = .udp) :
    ∃ p, parse b = some p ∧ verdict .udp p.v6 p.src p.dst p.segment = .valid := by
  obtain ⟨p, hp, hv⟩ := l4_checksum_valid f b hwf h
  rw [hu] at hv
  exact ⟨p, hp, hv⟩

/-- The tool's own `-c` accepts the tool's own output: `calculate_checksum_tcp` / `calculate_checksum_udp` (the C11
    model `Checksum.check`, given what dpkt would dissect from the frame) return `True` for every serialised frame. -/
theorem l4_check_accepts (f : Frame) (b : Bytes) (hwf : f.WF) (h : serializeFrame f = .ok b) :
    ∃ p, parse b = some p ∧
      Checksum.check (kOf f.l4) p.v6 p.src p.dst (kOf f.l4).num p.segment = .ok true := by
  obtain ⟨hfit, rfl⟩ := serialize_ok h
  exact ⟨_, parse_frameBytes f hwf hfit, (l4_valid f hwf hfit).2⟩

/-- `length_fields_consistent`: in every serialised frame the frame is the 14-byte Ethernet header plus the IP
    datagram; IPv4: IHL 5 and Total Length = 20 + transport segment; IPv6: Payload Length = transport segment;
    TCP: Data Offset 5 and segment = 20 + payload; UDP: Length = 8 + payload = the segment the IP layer delimits.
    Offsets are those of RFC 791 / 8200 / 9293 / 768, read with the specification's field accessors. -/
theorem length_fields_consistent (f : Frame) (b : Bytes) (hwf : f.WF) (h : serializeFrame f = .ok b) :
    let ip := b.drop 14
    let hl := if f.ipv6 then 40 else 20
    let l4 := ip.drop hl
    b.length = 14 + ip.length ∧ ip.length = hl + l4.length ∧
    (f.ipv6 = false → u8 ip 0 % 16 = 5 ∧ u16 ip 2 = 20 + l4.length) ∧
    (f.ipv6 = true → u16 ip 4 = l4.length) ∧
    (match f.l4 with
     | .tcp .. => u8 l4 12 / 16 = 5 ∧ l4.length = 20 + f.payload.length
     | .udp => u16 l4 4 = 8 + f.payload.length ∧ l4.length = 8 + f.payload.length) := by
  obtain ⟨hfit, rfl⟩ := serialize_ok h
  obtain ⟨hsp, hdp, hff, hlen⟩ := hfit
  have hsl := segBytes_length f
  have hfl := frameBytes_length f hwf
  have hs := hwf.src; have hd := hwf.dst
  have hdrop : (frameBytes f).drop 14 = ipBytes f := by
    unfold frameBytes
    cases f.ipv6
    · exact (Lemmas.ByteEval.eth_header f.dstMac f.srcMac (ipBytes f) 0x08 0x00 hwf.dstMac hwf.srcMac rfl).2.2.2.2.2
    · exact (Lemmas.ByteEval.eth_header f.dstMac f.srcMac (ipBytes f) 0x86 0xDD hwf.dstMac hwf.srcMac rfl).2.2.2.2.2
  -- the transport header
  have hl4 : (match f.l4 with
     | .tcp .. => u8 (segBytes f) 12 / 16 = 5 ∧ (segBytes f).length = 20 + f.payload.length
     | .udp => u16 (segBytes f) 4 = 8 + f.payload.length ∧ (segBytes f).length = 8 + f.payload.length) := by
    unfold l4Len at hsl
    rcases segBytes_cases f ⟨hsp, hdp, hff, hlen⟩ with ⟨fl, s, a, hl, hs, ha, hseg⟩ | ⟨hl, hl8, hseg⟩ <;>
      simp only [hl] at hsl ⊢ <;> refine ⟨?_, hsl⟩
    · exact (tcpHeader_fields _ _ fl _ _ _ _ _ hsp hdp hs ha hseg).2.2.2.2.2.1
    · exact (udpHeader_fields _ _ _ _ _ _ hsp hdp hl8 hseg).2.2.1
  dsimp only
  rw [hdrop]
  unfold ipBytes
  cases hv : f.ipv6 with
  | false =>
    rw [hv] at hs hd hfl hlen
    simp only [Bool.false_eq_true, if_false] at hs hd hfl hlen ⊢
    obtain ⟨e0, e2, _, _, _, _, _, edrop, elen⟩ := ipv4Header_fields f.src.ip f.dst.ip f.l4.proto (20 + (segBytes f).length)
      (OutBytes.checksum (ipv4Header f.src.ip f.dst.ip f.l4.proto (20 + (segBytes f).length) 0)) (segBytes f) _ hs hd
      (proto_lt _) (by omega) rfl
    rw [edrop, e0, e2, elen]
    exact ⟨by omega, rfl, fun _ => ⟨rfl, rfl⟩, nofun, hl4⟩
  | true =>
    rw [hv] at hs hd hfl hlen
    simp only [if_true] at hs hd hfl hlen ⊢
    obtain ⟨_, e4, _, _, _, _, edrop, elen⟩ := ipv6Header_fields f.src.ip f.dst.ip f.l4.proto (segBytes f).length
      (segBytes f) _ hs hd (proto_lt _) (by omega) rfl
    rw [edrop, e4, elen]
    exact ⟨by omega, rfl, nofun, fun _ => rfl, hl4⟩

section
open TLX.Spec.Containers TLX.Spec.PcapngWalk
open TLX.Container (Item Time)

/-- a packet `writepkt` can write: the block length (32 + the frame padded to 32 bits) and the high half of the
    microsecond time stamp fit their 32-bit fields; otherwise dpkt raises `struct.error` -/
def Writable (p : Bytes × Nat) : Prop := 32 + p.1.length + (4 - p.1.length % 4) % 4 < 2 ^ 32 ∧ p.2 < 2 ^ 64

theorem writable_iff (p : Bytes × Nat) : Writable p ↔ PktFits p := by
  unfold Writable PktFits OutBytes.align4
  have e1 : (2 : Nat) ^ 32 = 4294967296 := by decide
  have e2 : (2 : Nat) ^ 64 = 4294967296 * 4294967296 := by decide
  rw [e1, e2, Nat.div_lt_iff_lt_mul (by decide)]
  refine and_congr ?_ Iff.rfl
  split <;> omega

/-- `Writer(file, snaplen=Gen.writerSnaplen)` followed by `writepkt` for every packet returns (no `struct.error`) exactly when
    every packet is writable. -/
theorem pcapng_ok_iff (pkts : List (Bytes × Nat)) : (∃ f, pcapng pkts = .ok f) ↔ ∀ p ∈ pkts, Writable p := by
  by_cases h : ∀ p ∈ pkts, PktFits p
  · exact ⟨fun _ p hp => (writable_iff p).mpr (h p hp), fun _ => ⟨_, pcapng_eq pkts h⟩⟩
  · refine ⟨fun hf => ?_, fun hw => absurd (fun p hp => (writable_iff p).mp (hw p hp)) h⟩
    obtain ⟨f, hf⟩ := hf
    rw [pcapng_err pkts h] at hf; cases hf

/-- The file dpkt's writer leaves behind IS the pcapng draft's encoding (the independent encoder of
    `Spec/Containers`, C12) of the packets as events, in the variant `dpktVariant`: little endian, version 1.0, section
    length unspecified, no options anywhere, one Ethernet interface (snaplen `Gen.writerSnaplen`, default microsecond clock), one
    Enhanced Packet Block per packet on interface 0, original length = captured length. -/
theorem pcapng_is_draft_encoding (pkts : List (Bytes × Nat)) (f : Bytes) (h : pcapng pkts = .ok f) :
    f = encode (.pcapng dpktVariant) (pkts.map fun p => .pkt p.2 p.1) := by
  exact (pcapng_ok pkts f h).2

/-- `pcapng_roundtrip`: the tool's OWN reader (`dpkt_dsb.Reader`, model `Container.read false`, C12) reads back from
    the written file exactly the frames, in order, each with its microsecond time stamp as the integer operands
    `(ticks = µs, divisor = 10^6, offset = 0)` of the one scaling expression — for every list of frames. -/
theorem pcapng_roundtrip (pkts : List (Bytes × Nat)) (f : Bytes) (h : pcapng pkts = .ok f) :
    Container.read false f = .ok (pkts.map fun p => Item.pkt ⟨p.2, 10 ^ 6, 0, false⟩ p.1) := by
  obtain ⟨hfit, rfl⟩ := pcapng_ok pkts f h
  rw [TLX.Props.C12.reader_roundtrip_pcapng dpktVariant (pkts.map evOf) (dpktVariant_wf pkts hfit), List.map_map]
  rfl

/-- body of the Enhanced Packet Block the draft (§4.3) prescribes for a packet: interface 0, time stamp high / low,
    captured length, original length (the same), the data padded to 32 bits, no options -/
def epbBody (p : Bytes × Nat) : Bytes :=
  u32 .le 0 ++ (u32 .le (p.2 / 2 ^ 32) ++ (u32 .le (p.2 % 2 ^ 32) ++ (u32 .le p.1.length ++ (u32 .le p.1.length ++
    padded p.1))))

/-- the two length fields of an Enhanced Packet Block body (draft §4.3: Captured Packet Length at offset 12, Original
    Packet Length at offset 16) -/
theorem epbBody_lengths (p : Bytes × Nat) (h : p.1.length < 2 ^ 32) :
    Container.fld .le (epbBody p) 12 4 = p.1.length ∧ Container.fld .le (epbBody p) 16 4 = p.1.length := by
  have h256 : p.1.length < 256 ^ 4 := by rw [Lemmas.Container.pow_256_4]; exact h
  obtain ⟨_, a4⟩ := (Lemmas.Cursor.At.start (rfl : epbBody p = _)).field (u32 .le 0) 4 (by simp)
  obtain ⟨_, a8⟩ := a4.field (u32 .le _) 8 (by simp)
  obtain ⟨_, a12⟩ := a8.field (u32 .le _) 12 (by simp)
  obtain ⟨h12, a16⟩ := a12.enc h256
  exact ⟨h12, (a16.enc h256).1⟩

/-- `pcapng_wellformed`: the written file is a sequence of blocks in the draft's general block structure that tile
    it exactly (`walk`: every Block Total Length ≥ 12, a multiple of 4, within the file, equal to its trailing copy; no
    stray bytes): a Section Header Block (byte-order magic 0x1A2B3C4D, version 1.0, section length −1), ONE
    Interface Description Block (link type 1 = Ethernet, the snaplen of the source, no options: microsecond time stamps), then one
    Enhanced Packet Block per frame, in order, on interface 0 — the interface that was described; and in each of them
    the Captured Packet Length and the Original Packet Length fields (block body offsets 12 and 16) both read the length
    of the frame: the writer neither truncates nor pads what it counts. (That the captured length also respects the
    announced snaplen is `caplen_le_snaplen`.) -/
theorem pcapng_wellformed (pkts : List (Bytes × Nat)) (f : Bytes) (h : pcapng pkts = .ok f) :
    walk f = some (
      (0x0A0D0D0A, u32 .le 0x1A2B3C4D ++ (u16 .le 1 ++ (u16 .le 0 ++ u64 .le (2 ^ 64 - 1)))) ::
      (1, u16 .le 1 ++ (u16 .le 0 ++ u32 .le Gen.writerSnaplen)) ::
      pkts.map fun p => (6, epbBody p)) ∧
    ∀ p ∈ pkts, Container.fld .le (epbBody p) 12 4 = p.1.length ∧ Container.fld .le (epbBody p) 16 4 = p.1.length := by
  obtain ⟨hfit, rfl⟩ := pcapng_ok pkts f h
  refine ⟨?_, fun p hp => epbBody_lengths p (by have := ((writable_iff p).mpr (hfit p hp)).1; omega)⟩
  have hwf := dpktVariant_wf pkts hfit
  have henc : encode (.pcapng dpktVariant) (pkts.map evOf) =
      encBlocks .le (dpktVariant.hdr.shb :: dpktVariant.hdr.idb :: (pkts.map evOf).map (Ev.block {})) := by
    simp only [encode, encodeNg, NgVariant.blocks, encBlocks]
    simp [dpktVariant, encBlocks, weave_default]
  rw [henc, walk_blocks]
  · simp only [List.map_cons, List.map_map]
    refine congrArg some (List.cons_eq_cons.mpr ⟨by decide +kernel, List.cons_eq_cons.mpr ⟨by decide +kernel, ?_⟩⟩)
    apply List.map_congr_left
    intro p hp
    have hmod := (Lemmas.Container.blkLen_layout .le (u32 .le 0 ++ (u32 .le (p.2 / 2 ^ 32) ++ (u32 .le (p.2 % 2 ^ 32) ++
      (u32 .le p.1.length ++ u32 .le (p.1.length + 0))))) p.1 {} (by simp)).1  -- `+ 0`: `Deco.extraLen` of `Ev.block {}`
    simp only [Function.comp, evOf, Ev.block, Bool.false_eq_true, if_false, Lemmas.Container.bTy, Block.typeCode,
      Lemmas.Container.bBody]
    rw [Lemmas.Container.padded_of_mod _ hmod]
    simp [epbBody, encOpts, encOptList, List.append_assoc]
  · intro b hb
    simp only [List.mem_cons, List.mem_map] at hb
    rcases hb with rfl | rfl | ⟨ev, ⟨p, hp, rfl⟩, rfl⟩
    · exact hwf.1.shb
    · exact hwf.1.idb
    · exact epbBlock_wf p (hfit p hp)

/-- The export is written — no exception in `bytes(buf)` or `writepkt` — exactly when every frame is serialisable and
    its time stamp fits 64 bits of microseconds (a serialisable frame always fits an Enhanced Packet Block). -/
theorem fileOf_ok_iff (fs : List Frame) (hwf : ∀ f ∈ fs, f.WF) :
    (∃ file, fileOfFrames fs = .ok file) ↔ ∀ f ∈ fs, (∃ b, serializeFrame f = .ok b) ∧ f.ts < 2 ^ 64 := by
  constructor
  · intro hf
    obtain ⟨file, hf⟩ := hf
    intro f hfm
    obtain ⟨hfit, hp⟩ := fileOfFrames_ok fs file hf f hfm
    exact ⟨⟨_, serialize_of_fits hfit⟩, ((writable_iff _).mpr hp).2⟩
  · intro h
    have hall : ∀ f ∈ fs, Fits f ∧ PktFits (frameBytes f, f.ts) := by
      intro f hfm
      obtain ⟨hb, hts⟩ := h f hfm
      obtain ⟨b, hb⟩ := hb
      have hfit := (serialize_ok hb).1
      exact ⟨hfit, pktFits_of_fits f (hwf f hfm) hfit hts⟩
    rw [fileOfFrames_eq fs hall]
    exact ⟨_, pcapng_eq _ (by
      intro p hp
      simp only [List.mem_map] at hp
      obtain ⟨f, hfm, rfl⟩ := hp
      exact (hall f hfm).2)⟩

theorem zip_map_self {α β : Type} (l : List α) (g : α → β) : l.zip (l.map g) = l.map fun a => (a, g a) := by
  induction l with
  | nil => rfl
  | cons a l ih => simp [ih]

/-- `fileOf_roundtrip` — C06 for the bytes, end to end: whenever the export is written, the tool's own reader reads
    back one packet per exported frame, in order, with the frame's microsecond time stamp, and the bytes of each
    packet are a frame the independent parser decodes to exactly the abstract frame's fields, with a transport
    checksum the independent receiver accepts. -/
theorem fileOf_roundtrip (fs : List Frame) (file : Bytes) (hwf : ∀ f ∈ fs, f.WF) (h : fileOfFrames fs = .ok file) :
    ∃ bs : List Bytes, bs.length = fs.length ∧
      Container.read false file = .ok ((fs.zip bs).map fun fb => Item.pkt ⟨fb.1.ts, 10 ^ 6, 0, false⟩ fb.2) ∧
      ∀ fb ∈ fs.zip bs, serializeFrame fb.1 = .ok fb.2 ∧
        ∃ p, parse fb.2 = some p ∧ p.srcMac = fb.1.srcMac ∧ p.dstMac = fb.1.dstMac ∧ p.v6 = fb.1.ipv6 ∧
          p.src = fb.1.src.ip ∧ p.dst = fb.1.dst.ip ∧ p.sport = fb.1.src.port ∧ p.dport = fb.1.dst.port ∧
          p.payload = fb.1.payload ∧
          verdict (match fb.1.l4 with
            | .tcp .. => .tcp
            | .udp => .udp) p.v6 p.src p.dst p.segment = .valid := by
  have hall := fileOfFrames_ok fs file h
  refine ⟨fs.map frameBytes, by simp, ?_, ?_⟩
  · rw [fileOfFrames_eq fs hall] at h
    rw [pcapng_roundtrip _ file h, List.map_map, zip_map_self, List.map_map]
    rfl
  · intro fb hfb
    rw [zip_map_self, List.mem_map] at hfb
    obtain ⟨f, hm, rfl⟩ := hfb
    have hser := serialize_of_fits (hall f hm).1
    refine ⟨hser, ?_⟩
    obtain ⟨p, hp, hv⟩ := l4_checksum_valid f _ (hwf _ hm) hser
    obtain ⟨seg, hp'⟩ := parse_serialize f _ (hwf _ hm) hser
    rw [hp] at hp'
    have := Option.some.inj hp'
    subst this
    exact ⟨_, hp, rfl, rfl, rfl, rfl, rfl, rfl, rfl, rfl, hv⟩

/-- `fileOf_roundtrip` for the TLS export of `Pipeline` (`fileOf`): the reader gets back one packet per `OutPkt`, in order, at its time. -/
theorem fileOf_roundtrip_outpkts (pkts : List Pipeline.OutPkt) (file : Bytes)
    (hwf : ∀ p ∈ pkts, (Frame.ofOutPkt p).WF) (h : fileOf pkts = .ok file) :
    ∃ bs : List Bytes, bs.length = pkts.length ∧
      Container.read false file = .ok ((pkts.zip bs).map fun pb => Item.pkt ⟨pb.1.ts, 10 ^ 6, 0, false⟩ pb.2) ∧
      ∀ pb ∈ pkts.zip bs, serialize pb.1 = .ok pb.2 := by
  obtain ⟨bs, hlen, hread, hall⟩ := fileOf_roundtrip (pkts.map Frame.ofOutPkt) file
    (by intro f hf; simp only [List.mem_map] at hf; obtain ⟨p, hp, rfl⟩ := hf; exact hwf p hp) h
  refine ⟨bs, by simpa using hlen, ?_, ?_⟩
  · rw [hread, List.zip_map_left, List.map_map]; rfl
  · intro pb hpb
    have : (Frame.ofOutPkt pb.1, pb.2) ∈ (pkts.map Frame.ofOutPkt).zip bs := by
      rw [List.zip_map_left]
      exact List.mem_map.mpr ⟨pb, hpb, rfl⟩
    exact (hall _ this).1

/-- `frame_length_bound`: no frame scapy serialises for the builders is longer than 14 + 40 + 65535 = 65589 bytes (an
    IPv6 frame whose payload length field is full; an IPv4 frame is at most 14 + 65535). -/
theorem frame_length_bound (f : Frame) (b : Bytes) (hwf : f.WF) (h : serializeFrame f = .ok b) : b.length ≤ 65589 := by
  obtain ⟨hfit, rfl⟩ := serialize_ok h
  exact frameBytes_le f hwf hfit

/-- the proof obligation on the tree under test: the snaplen the tool announces (`Gen.writerSnaplen`, REGENERATED from
    `dpkt.pcapng.Writer(file, snaplen=…)` in `run()`) is not below the longest frame it can write. With the literal
    20000 of the unrepaired source this `decide` fails, and with it the check of C06. -/
theorem snaplen_covers_every_frame : 65589 ≤ Gen.writerSnaplen := by decide

/-- `caplen_le_snaplen`: in every file the program writes, the Captured Packet Length of every Enhanced Packet Block
    is at most the SnapLen of the Interface Description Block it refers to (draft §4.3: "the minimum value among the
    Original Packet Length and the snapshot length") — and equals the Original Packet Length: nothing is cut. -/
theorem caplen_le_snaplen (fs : List Frame) (file : Bytes) (hwf : ∀ f ∈ fs, f.WF) (h : fileOfFrames fs = .ok file) :
    ∃ (snaplenField : Bytes) (epbs : List Bytes),
      walk file = some (
        (0x0A0D0D0A, u32 .le 0x1A2B3C4D ++ (u16 .le 1 ++ (u16 .le 0 ++ u64 .le (2 ^ 64 - 1)))) ::
        (1, u16 .le 1 ++ (u16 .le 0 ++ snaplenField)) :: epbs.map fun body => (6, body)) ∧
      epbs.length = fs.length ∧
      Container.rdNat .le snaplenField = Gen.writerSnaplen ∧
      ∀ body ∈ epbs, Container.fld .le body 12 4 ≤ Gen.writerSnaplen ∧
        Container.fld .le body 12 4 = Container.fld .le body 16 4 := by
  have hall := fileOfFrames_ok fs file h
  rw [fileOfFrames_eq fs hall] at h
  obtain ⟨hwalk, hlen⟩ := pcapng_wellformed _ file h
  refine ⟨u32 .le Gen.writerSnaplen, (fs.map fun f => (frameBytes f, f.ts)).map epbBody, ?_, by simp, ?_, ?_⟩
  · rw [hwalk]; simp only [List.map_map]; rfl
  · exact Lemmas.Container.rd_u32 _ _ (by decide)
  · intro body hb
    simp only [List.mem_map] at hb
    obtain ⟨p, ⟨f, hf, rfl⟩, rfl⟩ := hb
    obtain ⟨h12, h16⟩ := hlen _ (List.mem_map.mpr ⟨f, hf, rfl⟩)
    rw [h12, h16]
    refine ⟨?_, rfl⟩
    exact Nat.le_trans (frameBytes_le f (hwf f hf) (hall f hf).1) snaplen_covers_every_frame

/-- The defect this guards against, as it was: the source announced snaplen 20000, and dpkt neither clips nor refuses
    longer packets. A QUIC export of 30000 bytes of stream data in one datagram over IPv4 (`QUICOutputbuilder`) is a
    30042-byte frame, serialisable and writable, whose Enhanced Packet Block has Captured Packet Length 30042 > 20000:
    not a valid pcapng (found by the strict reader of the harness on the real tool's output). -/
theorem legacy_snaplen_exceeded (f : Frame) (hwf : f.WF) (h4 : f.ipv6 = false) (hu : f.l4 = .udp)
    (hsp : f.src.port < 65536) (hdp : f.dst.port < 65536) (hpay : f.payload.length = 30000) (hts : f.ts < 2 ^ 64) :
    ∃ b, serializeFrame f = .ok b ∧ Writable (b, f.ts) ∧
      Container.fld .le (epbBody (b, f.ts)) 12 4 = 30042 ∧ (20000 : Nat) < 30042 := by
  have hfit : Fits f := by
    refine ⟨hsp, hdp, by rw [hu]; rfl, ?_⟩
    unfold l4Len; rw [hu, h4, hpay]; decide
  have hser := serialize_of_fits hfit
  have hlen : (frameBytes f).length = 30042 := by
    rw [frameBytes_length f hwf]; unfold l4Len; rw [hu, h4, hpay]; rfl
  refine ⟨_, hser, (writable_iff _).mpr (pktFits_of_fits f hwf hfit hts), ?_, by decide⟩
  have := (epbBody_lengths (frameBytes f, f.ts) (by simp only [hlen]; decide)).1
  rw [this, hlen]

end

/-! ### non-vacuity: concrete frames and files (the expected bytes are what scapy 2.7.0 / dpkt 1.9.8 produced) -/
section
open TLX.Spec.PcapngWalk
open TLX.Container (Item)

/-- `Ether(02:…:01 → 02:…:02)/IP(10.0.0.1 → 10.0.0.2)/TCP(1234 → 80, "PA", seq 5, ack 7)/Raw(b"abc")`: odd payload -/
def exTcp4 : Frame :=
  ⟨1500000, [2, 0, 0, 0, 0, 1], [2, 0, 0, 0, 0, 2], ⟨[10, 0, 0, 1], 1234⟩, ⟨[10, 0, 0, 2], 80⟩, false, .tcp 0x18 5 7,
    [0x61, 0x62, 0x63]⟩

def exTcp4Bytes : Bytes :=
  [0x02, 0x00, 0x00, 0x00, 0x00, 0x02, 0x02, 0x00, 0x00, 0x00, 0x00, 0x01, 0x08, 0x00, 0x45, 0x00, 0x00, 0x2b, 0x00,
   0x01, 0x00, 0x00, 0x40, 0x06, 0x66, 0xca, 0x0a, 0x00, 0x00, 0x01, 0x0a, 0x00, 0x00, 0x02, 0x04, 0xd2, 0x00, 0x50,
   0x00, 0x00, 0x00, 0x05, 0x00, 0x00, 0x00, 0x07, 0x50, 0x18, 0x20, 0x00, 0xb2, 0x36, 0x00, 0x00, 0x61, 0x62, 0x63]

/-- `Ether/IPv6(fe80::2 → fe80::1)/UDP(8080 → 40000)/Raw(b"hello")` -/
def exUdp6 : Frame :=
  ⟨1700000000000001, [2, 0, 0, 0, 0, 2], [2, 0, 0, 0, 0, 1], ⟨[0xfe, 0x80, 0, 0, 0, 0, 0, 0, 0, 0, 0, 0, 0, 0, 0, 2], 8080⟩,
    ⟨[0xfe, 0x80, 0, 0, 0, 0, 0, 0, 0, 0, 0, 0, 0, 0, 0, 1], 40000⟩, true, .udp, [0x68, 0x65, 0x6c, 0x6c, 0x6f]⟩

def exUdp6Bytes : Bytes :=
  [0x02, 0x00, 0x00, 0x00, 0x00, 0x01, 0x02, 0x00, 0x00, 0x00, 0x00, 0x02, 0x86, 0xdd, 0x60, 0x00, 0x00, 0x00, 0x00,
   0x0d, 0x11, 0x40, 0xfe, 0x80, 0x00, 0x00, 0x00, 0x00, 0x00, 0x00, 0x00, 0x00, 0x00, 0x00, 0x00, 0x00, 0x00, 0x02,
   0xfe, 0x80, 0x00, 0x00, 0x00, 0x00, 0x00, 0x00, 0x00, 0x00, 0x00, 0x00, 0x00, 0x00, 0x00, 0x01, 0x1f, 0x90, 0x9c,
   0x40, 0x00, 0x0d, 0x03, 0x2d, 0x68, 0x65, 0x6c, 0x6c, 0x6f]

/-- what `Writer(file, snaplen=N)`, `writepkt(exTcp4Bytes, 1.5)`, `writepkt(exUdp6Bytes, 1700000000.000001)` wrote (measured
    with N = 20000 and N = 262144: only the four snaplen bytes differ) -/
def exFile : Bytes :=
  [0x0a, 0x0d, 0x0d, 0x0a, 0x1c, 0x00, 0x00, 0x00, 0x4d, 0x3c, 0x2b, 0x1a, 0x01, 0x00, 0x00, 0x00, 0xff, 0xff, 0xff,
   0xff, 0xff, 0xff, 0xff, 0xff, 0x1c, 0x00, 0x00, 0x00, 0x01, 0x00, 0x00, 0x00, 0x14, 0x00, 0x00, 0x00, 0x01, 0x00,
   0x00, 0x00] ++ Spec.Containers.u32 .le Gen.writerSnaplen ++ [0x14, 0x00, 0x00, 0x00, 0x06, 0x00, 0x00, 0x00, 0x5c, 0x00, 0x00, 0x00, 0x00,
   0x00, 0x00, 0x00, 0x00, 0x00, 0x00, 0x00, 0x60, 0xe3, 0x16, 0x00, 0x39, 0x00, 0x00, 0x00, 0x39, 0x00, 0x00, 0x00,
   0x02, 0x00, 0x00, 0x00, 0x00, 0x02, 0x02, 0x00, 0x00, 0x00, 0x00, 0x01, 0x08, 0x00, 0x45, 0x00, 0x00, 0x2b, 0x00,
   0x01, 0x00, 0x00, 0x40, 0x06, 0x66, 0xca, 0x0a, 0x00, 0x00, 0x01, 0x0a, 0x00, 0x00, 0x02, 0x04, 0xd2, 0x00, 0x50,
   0x00, 0x00, 0x00, 0x05, 0x00, 0x00, 0x00, 0x07, 0x50, 0x18, 0x20, 0x00, 0xb2, 0x36, 0x00, 0x00, 0x61, 0x62, 0x63,
   0x00, 0x00, 0x00, 0x5c, 0x00, 0x00, 0x00, 0x06, 0x00, 0x00, 0x00, 0x64, 0x00, 0x00, 0x00, 0x00, 0x00, 0x00, 0x00,
   0x24, 0x0a, 0x06, 0x00, 0x01, 0x40, 0x1e, 0x18, 0x43, 0x00, 0x00, 0x00, 0x43, 0x00, 0x00, 0x00, 0x02, 0x00, 0x00,
   0x00, 0x00, 0x01, 0x02, 0x00, 0x00, 0x00, 0x00, 0x02, 0x86, 0xdd, 0x60, 0x00, 0x00, 0x00, 0x00, 0x0d, 0x11, 0x40,
   0xfe, 0x80, 0x00, 0x00, 0x00, 0x00, 0x00, 0x00, 0x00, 0x00, 0x00, 0x00, 0x00, 0x00, 0x00, 0x02, 0xfe, 0x80, 0x00,
   0x00, 0x00, 0x00, 0x00, 0x00, 0x00, 0x00, 0x00, 0x00, 0x00, 0x00, 0x00, 0x01, 0x1f, 0x90, 0x9c, 0x40, 0x00, 0x0d,
   0x03, 0x2d, 0x68, 0x65, 0x6c, 0x6c, 0x6f, 0x00, 0x64, 0x00, 0x00, 0x00]

example : exTcp4.WF ∧ exUdp6.WF := by decide
example : serializeFrame exTcp4 = .ok exTcp4Bytes := by decide +kernel
example : serializeFrame exUdp6 = .ok exUdp6Bytes := by decide +kernel
example : fileOfFrames [exTcp4, exUdp6] = .ok exFile := by decide +kernel
example : pcapng [(exTcp4Bytes, 1500000), (exUdp6Bytes, 1700000000000001)] = .ok exFile := by decide +kernel
example : Writable (exTcp4Bytes, 1500000) := by unfold Writable; decide
/-- the hypotheses of `parse_serialize`, `l4_checksum_valid`, `ipv4_header_checksum_valid`, `length_fields_consistent`
    hold for these frames, and the conclusions can be watched -/
example : (parse exTcp4Bytes).map (fun p => (p.sport, p.dport, p.l4, p.payload)) =
    some (1234, 80, .tcp 5 7 5 0 0x18 8192 0 [], [0x61, 0x62, 0x63]) := by decide +kernel
example : ocSum (words ((exTcp4Bytes.drop 14).take 20)) = 0xFFFF := by decide +kernel
example : verdict .udp true exUdp6.src.ip exUdp6.dst.ip (exUdp6Bytes.drop 54) = .valid := by decide +kernel
example : Container.read false exFile =
    .ok [.pkt ⟨1500000, 10 ^ 6, 0, false⟩ exTcp4Bytes, .pkt ⟨1700000000000001, 10 ^ 6, 0, false⟩ exUdp6Bytes] := by decide +kernel
example : (walk exFile).map (·.map (·.1)) = some [0x0A0D0D0A, 1, 6, 6] := by decide +kernel
/-- what scapy cannot serialise is an error, not bytes: a port that does not fit (ValueError), an IPv4 total length
    above 65535 (struct.error) — while the same segment still fits IPv6 —, a time stamp of 2^64 µs (struct.error) -/
example : serializeFrame { exTcp4 with src := ⟨[10, 0, 0, 1], 65536⟩ } = .error .value := by decide +kernel
example : serializeFrame { exTcp4 with l4 := .tcp 0x18 4294967296 0 } = .error .value := by decide +kernel
example (pay : Bytes) (h : pay.length = 65496) : ¬ ∃ b, serializeFrame { exTcp4 with payload := pay } = .ok b := by
  rw [serialize_ok_iff]; simp only [exTcp4, h]; simp
example (pay : Bytes) (h : pay.length = 65515) :
    ∃ b, serializeFrame { exUdp6 with l4 := .tcp 0x18 1 1, payload := pay } = .ok b := by
  rw [serialize_ok_iff]; simp only [exUdp6, h]; simp
example : pcapng [(exTcp4Bytes, 2 ^ 64)] = .error .struct := by decide +kernel
end

end TLX.Props.C06Bytes
