/-
C02 beyond `Props/C02Capstone.lean` (there: all handshake datagrams before all 1-RTT datagrams, one level per phase, no 0-RTT).
The file defines the datagram shapes `DgM` / `DgX`, their conditions (`ShortOk`, `MixDgOk`, `MixDgs`, `ZrShape`, `ZrPkOk`,
`XDgOk`) and extends the observer's bookkeeping `C02Capstone.Trk` (`.dgm`, `.runM`, `.zr`, `.dgx`). Of this namespace,
`noOut`, `earlyDec`, `EarlyKeyed`, `afterTls_early` stand in `Props/C02HsPacket.lean` and `expo` in `Props/C02ConnOut.lean`: the
step lemmas there need them.

1. ONE INTERLEAVED HISTORY (`quic_interleaved_exact_adj`, `quic_connection_exact_interleaved`,
   `quic_interleaved_exact_conformant`). A connection is a list of datagrams `DgM`, each a list of coalesced long-header
   packets (Initial / Handshake) optionally closed by ONE 1-RTT packet (RFC 9000 §12.2), the two directions interleaved in
   any way: server 1-RTT data before the client's Finished, 1-RTT packets behind Handshake packets in one datagram,
   Handshake ACKs between 1-RTT datagrams. WHAT MUST PRECEDE WHAT, for the tool:
     * the tool derives EVERY key of the connection — Handshake, 1-RTT generation 0, Early — inside `handle_crypto_frame`,
       at the moment its CRYPTO reassembly completes a ClientHello (with the FIRST OFFERED suite), a ServerHello or the
       EncryptedExtensions (with the selected suite), from the key-log lines present at that moment (`afterTls`,
       `setTlsDecryptors`); packets it cannot decrypt are dropped, never retried. So a Handshake or 1-RTT packet is
       decrypted iff it is captured after the packet that completes the ServerHello (`HsPkOk.keys`, `ShortOk.keyed`) —
       which the protocol gives an observer on the path: the server sends them in the same or a later datagram, the client
       after it has received the ServerHello;
     * while long-header packets still occur, the 1-RTT packets are in key generation 0 (`ShortOk.gen0`; RFC 9001 §6: no
       key update before the handshake is confirmed, §4.9.2: Handshake keys are discarded then) — the history is a mixed
       part (generation 0) followed by a 1-RTT-only part with any key updates (`Send1`). NOT covered: a Handshake packet
       (an ACK) of one side captured after the OTHER side's first key update;
     * coalesced packets carry the datagram's Destination Connection ID (RFC 9000 §12.2 MUST).
   Conclusion: one exported UDP frame per DATAGRAM whose 1-RTT packet carried STREAM data (a datagram with a Handshake packet
   and a 1-RTT packet yields one frame), payload = that data, capture order, the datagram's time and direction.
   Proof: `C02Sim.conn_from` for the datagrams read through `mView`; the handshake invariant says nothing about
   `output_buffer`, so exported frames between handshake packets do not disturb it.

2. 0-RTT (`afterTls_early`, `zr_turn`, `quic_connection_exact_0rtt_partial`; the losses: `zero_rtt_dropped_without_key`,
   `zero_rtt_rejected_leaves_session`, and `legacy_zero_rtt_rejected_poisons_pn` on `Session.Legacy`). What the tool does: the
   Early decryptor and the early header-protection key are derived in the same `set_tls_decryptors` call as all other keys,
   i.e. when the CRYPTO stream completes the ClientHello — with the FIRST OFFERED suite's hash / cipher / key length
   (quic_tls_parser.py l. 90 "For early data") — and again at the ServerHello with the selected suite. A 0-RTT packet is
   exported iff, when it is captured, that suite is the one the client protects 0-RTT with (the resumed session's, RFC 9001
   §4.6.1 / RFC 8446 §4.2.10-11; the four suites differ pairwise in (hash, cipher, key length), so "fits" means "equal"):
     (a) it comes after the packet that completes the ClientHello in CRYPTO (same datagram, later packet, is fine), and
     (b) before the ServerHello: resumed suite = FIRST suite of the ClientHello's list (NOT given by the RFCs: the resumed
         suite may stand anywhere in the list); after the ServerHello: resumed suite = selected suite (given by RFC 8446
         §4.2.10 when the server accepts early data).
   When (a) fails the packet is dropped without a trace (`zero_rtt_dropped_without_key`). When (b) fails the dissector removes
   header protection with the wrong key and the AEAD check rejects the packet; the rejected packet leaves the session as it
   was (`zero_rtt_rejected_leaves_session`): only the 0-RTT packet itself is lost, the following 1-RTT packets are exported
   (`ExZr.late_survives`). On `Session.Legacy` — the code before the repair "only an authenticated QUIC packet moves the
   largest packet number of its space" — `get_full_packet_number` had by then stored the garbage packet number as the
   largest of the client's application space (`legacy_zero_rtt_rejected_poisons_pn`), and every later 1-RTT packet of the
   client was reconstructed next to it and lost (`ExZr.legacy_first_offered_suite_counterexample`).
   `harness/c02_0rtt_replay.py` (real tool, real cryptography) shows both, depending on the tree under test; further
   kernel-checked witness `ExZr.zero_rtt_before_client_hello_counterexample`. The full statement is
   `quic_connection_exact_0rtt_statement` (a `def`, NOT proved in this form: 0-RTT packets anywhere in the interleaved history
   under `ZrPkOk`); proved here is the step `quic_connection_exact_0rtt_partial`; `Props/C02Capstone4.lean` proves the
   statement with the suite condition in terms of the `set_tls_decryptors` calls (`C02Capstone.EarlyInv` is carried by the
   handshake steps of `Props/C02HsPacket.lean`).
-/
import TLX.Props.C02Capstone
import TLX.Props.C02Parser
set_option autoImplicit false
namespace TLX.Props.C02Capstone3
open TLX TLX.Quic TLX.Cipher TLX.Quic.Session TLX.Lemmas.QuicSession TLX.Spec.QuicSender TLX.Spec.QuicFrames
open TLX.Props.C02Session TLX.Spec.QuicConnection TLX.Spec.QuicPackets TLX.QuicPipeline
open TLX.Spec.KeySchedules TLX.Lemmas.KeySchedule TLX.Props.C02Capstone TLX.Props.C02Sim TLX.Props.C02Capstone4

section OutFrame
variable {σ : Type} (P : Params σ)

/-- the state with `o` in front of its `output_buffer`. The tower accounts for the buffer the other way round: `noOut`
    (`Props/C02HsPacket.lean`), the state WITHOUT it, and every step lemma says what it appends -/
def wo (o : List Out) (s : St σ) : St σ := { s with out := o ++ s.out }

theorem appDecryptor_wo (o : List Out) (s : St σ) (srv : Bool) : appDecryptor (wo o s) srv = appDecryptor s srv := rfl

end OutFrame

/-! ### one interleaved history: datagrams of coalesced packets of several levels -/

/-- one datagram of the connection (RFC 9000 §12.2): coalesced long-header packets (Initial / Handshake), optionally
    followed by ONE 1-RTT packet (a short-header packet has no Length field: it is the last packet of its datagram) -/
structure DgM where
  srv : Bool
  ts : Nat
  longs : List PkH
  short : Option Dg1

/-- what the main loop reads off the first packet of the datagram: its Destination Connection ID (for a short header: the
    one the loop's CID search finds) and, for a long header, version 1 -/
def DgM.dcid (d : DgM) : Bytes :=
  match d.longs, d.short with
  | q :: _, _ => q.x.dcid
  | [], some o => o.x.dcid
  | [], none => []

def DgM.ver (d : DgM) : MainLoop.Version := if d.longs = [] then .unknown else .v1

section Mixed
variable (maskFn : Dissect.MaskFn) (H : Crypto.Prims) (Pc : Cipher.Prims)

def DgM.wire (L : SealLaws Pc) (dcid0 : Bytes) (sel : SuiteSel) (sh ch sa ca : Bytes) (d : DgM) : Bytes :=
  (d.longs.map (pkWire H Pc L dcid0 sel sh ch)).flatten ++
    (d.short.map (wireOf H Pc L sel .v1 (rfcGen (hashOf H sel.hash) sel.keyLen sa ca 0))).getD []

def _root_.TLX.Props.C02Capstone.Trk.dgm (t : Trk) (d : DgM) : Trk :=
  match d.short with
  | none => t.run d.longs
  | some o => (t.run d.longs).short o.x

/-- the 1-RTT packet that closes a datagram of the handshake phase, relative to the bookkeeping `t` after the datagram's
    long-header packets:
    `keyed`  the ServerHello was seen before (same or earlier datagram): the tool has derived the 1-RTT keys;
    `gen0`   no key update yet (RFC 9001 §6: not before the handshake is confirmed);
    `dcid`   RFC 9000 §12.2: coalesced packets carry the same Destination Connection ID;
    the rest as in `Send1`. -/
structure ShortOk (L : SealLaws Pc) (sel : SuiteSel) (sa ca : Bytes) (t : Trk) (d : DgM) (o : Dg1) : Prop where
  srv : o.x.srv = d.srv
  ts : o.x.ts = d.ts
  dcid : o.x.dcid = d.dcid
  keyed : t.keyed = true
  level : o.x.level = .oneRtt
  gen0 : o.x.gen = 0
  pn : PnLenOk (if o.x.srv then t.ts.app else t.tc.app) o.x.pn o.x.pnLen
  wf : WellFormedSeq o.x.frames
  dg : DgOk maskFn Pc L sel.alg (genDir (keyUpdate H sel .v1) (rfcGen (hashOf H sel.hash) sel.keyLen sa ca 0) o.x.srv 0)
    (if o.x.srv then quicHp (hashOf H sel.hash) sa sel.keyLen else quicHp (hashOf H sel.hash) ca sel.keyLen)
    (chachaOf t.core) o

structure MixDgOk (L : SealLaws Pc) (dcid0 : Bytes) (sel : SuiteSel) (sh ch sa ca : Bytes) (t : Trk) (d : DgM) : Prop where
  dir : ∀ q ∈ d.longs, q.x.srv = d.srv ∧ q.x.ts = d.ts
  cid : DcidOk t.cc t.sc d.srv d.dcid
  longs : HsPks maskFn H Pc L dcid0 sel sh ch t d.longs
  nonempty : d.longs ≠ [] ∨ d.short.isSome = true
  short : ∀ o, d.short = some o → ShortOk maskFn H Pc L sel sa ca (t.run d.longs) d o

def DgM.shortOut (d : DgM) : List Out :=
  match d.short with
  | none => []
  | some o => expectedOf .rtt1 o.x

end Mixed
section MixedFeed
variable (maskFn : Dissect.MaskFn) (H : Crypto.Prims) (Pc : Cipher.Prims) (info : Nat → Pipeline.Info)

structure CarriesM (c : QConn) (w : DgM → Bytes) (p : MainLoop.Pkt) (d : DgM) : Prop where
  payload : p.payload = w d
  ts : (info p.tag).ts = d.ts
  dir : (p.src == c.client) = !d.srv

def mixFeedAll (QM : MainLoop.QuicMachine Keylog.Key QConn Pipeline.OutPkt) (c : QConn) :
    List (List Keylog.Key × MainLoop.Pkt × DgM) → QConn
  | [] => c
  | (kl, p, d) :: rest => mixFeedAll QM (QM.feed c kl p d.dcid d.ver) rest

def MixDgs (L : SealLaws Pc) (dcid0 : Bytes) (sel : SuiteSel) (sh ch sa ca : Bytes) : Trk → List DgM → Prop
  | _, [] => True
  | t, d :: ds => MixDgOk maskFn H Pc L dcid0 sel sh ch sa ca t d ∧ MixDgs L dcid0 sel sh ch sa ca (t.dgm d) ds

def _root_.TLX.Props.C02Capstone.Trk.runM (t : Trk) (ds : List DgM) : Trk := ds.foldl Trk.dgm t

/-- the CRYPTO inputs of the history, in processing order -/
def allInsM (ds : List DgM) : List CryptoIn := ds.flatMap fun d => insOf d.longs

def shortsOf (ds : List DgM) : List Dg1 := ds.filterMap (·.short)

theorem shortOut_flatMap (ds : List DgM) :
    ds.flatMap DgM.shortOut = (shortsOf ds).flatMap fun d => expectedOf .rtt1 d.x := by
  induction ds with
  | nil => rfl
  | cons d ds ih =>
    simp only [List.flatMap_cons, shortsOf, List.filterMap_cons] at ih ⊢
    cases h : d.short with
    | none => simp [DgM.shortOut, h, ih]
    | some o => simp [DgM.shortOut, h, ih]

end MixedFeed

section MixView
variable (maskFn : Dissect.MaskFn) (H : Crypto.Prims) (Pc : Cipher.Prims) (info : Nat → Pipeline.Info)

/-- Initial / Handshake packets, then the 1-RTT packet if there is one -/
def mView : DgView PkH DgM := ⟨(·.srv), (·.ts), DgM.dcid, DgM.ver, (·.longs), (·.short)⟩

variable {maskFn H Pc info} {L : SealLaws Pc} {dcid0 ch sh ca sa : Bytes} {sel : SuiteSel}

theorem mView_after (t : Trk) (ecs : Option SuiteSel) (d : DgM) :
    mView.after (longK maskFn H Pc L dcid0 ch sh sel) ⟨t, ecs⟩ d = ⟨t.dgm d, ecsFold t.core (insOf d.longs) ecs⟩ := by
  show ((longK maskFn H Pc L dcid0 ch sh sel).run ⟨t, ecs⟩ d.longs).close d.short = _
  rw [longK_run]
  unfold Trk.dgm
  cases d.short <;> rfl

theorem mView_runM (ds : List DgM) (t : Trk) (ecs : Option SuiteSel) :
    (ds.foldl (mView.after (longK maskFn H Pc L dcid0 ch sh sel)) ⟨t, ecs⟩).t = t.runM ds := by
  induction ds generalizing t ecs with
  | nil => rfl
  | cons d ds ih => simp only [List.foldl_cons]; rw [mView_after]; exact ih _ _

theorem mView_ok (hk : KeysWf (params H Pc []) sel .v1 (rfcGen (hashOf H sel.hash) sel.keyLen sa ca 0)) (ecs : Option SuiteSel)
    {t : Trk} {d : DgM} (h : MixDgOk maskFn H Pc L dcid0 sel sh ch sa ca t d) :
    mView.Ok maskFn H Pc L ca sa sel (longK maskFn H Pc L dcid0 ch sh sel) ⟨t, ecs⟩ d := by
  refine ⟨?_, h.dir, h.cid, longK_oks ecs _ t h.longs, fun o ho => ?_⟩
  · show DgM.ver d = .unknown ∨ DgM.ver d = .v1
    unfold DgM.ver; split
    · exact Or.inl rfl
    · exact Or.inr rfl
  · have hs := h.short o ho
    show ShortAt maskFn H Pc L ca sa sel ((longK maskFn H Pc L dcid0 ch sh sel).run ⟨t, ecs⟩ d.longs).t d.srv d.ts d.dcid o
    rw [longK_run]
    exact ⟨hs.srv, hs.ts, hs.dcid, hs.keyed, hs.level, hs.gen0, hs.pn, hs.wf, hs.dg, hk⟩

theorem mView_oks (hk : KeysWf (params H Pc []) sel .v1 (rfcGen (hashOf H sel.hash) sel.keyLen sa ca 0)) (ds : List DgM)
    (t : Trk) (ecs : Option SuiteSel) (h : MixDgs maskFn H Pc L dcid0 sel sh ch sa ca t ds) :
    mView.Oks maskFn H Pc L ca sa sel (longK maskFn H Pc L dcid0 ch sh sel) ⟨t, ecs⟩ ds := by
  induction ds generalizing t ecs with
  | nil => trivial
  | cons d ds ih => exact ⟨mView_ok hk ecs h.1, by rw [mView_after]; exact ih _ _ h.2⟩

theorem mixFeedAll_eq (QM : MainLoop.QuicMachine Keylog.Key QConn Pipeline.OutPkt) (c : QConn)
    (items : List (List Keylog.Key × MainLoop.Pkt × DgM)) : mixFeedAll QM c items = feedG mView QM c items :=
  feedG_eq_rec mView QM (mixFeedAll QM) (fun _ => rfl) (fun _ _ _ _ _ => rfl) c items

theorem carriesG_of_M {c : QConn} {p : MainLoop.Pkt} {d : DgM}
    (h : CarriesM info c (DgM.wire H Pc L dcid0 sel sh ch sa ca) p d) :
    CarriesG H Pc info L ca sa sel (longK maskFn H Pc L dcid0 ch sh sel) mView c p d :=
  ⟨h.payload, h.ts, h.dir⟩

theorem mView_out (ds : List DgM) :
    ds.flatMap (mView.out (longK maskFn H Pc L dcid0 ch sh sel)) = ds.flatMap DgM.shortOut := by
  induction ds with
  | nil => rfl
  | cons d ds ih =>
    rw [List.flatMap_cons, List.flatMap_cons, ih]
    show ((longK maskFn H Pc L dcid0 ch sh sel).outOf d.longs ++ shortOutOf d.short) ++ _ = _
    rw [longK_outOf, List.nil_append]
    unfold shortOutOf DgM.shortOut
    cases d.short <;> rfl

end MixView

section Interleaved
variable (maskFn : Dissect.MaskFn) (H : Crypto.Prims) (Pc : Cipher.Prims) (info : Nat → Pipeline.Info)
open TLX.Quic.UdpOut TLX.Props.C02Out

/-- **C02 for a whole connection as ONE interleaved history.** From a fresh session:
    * `d0 :: itemsA` — datagrams of coalesced packets of several levels (`DgM`: Initial / Handshake packets, optionally
      closed by a 1-RTT packet), both directions interleaved in any way — in particular 1-RTT data of the server before the
      client's Finished, 1-RTT packets coalesced behind Handshake packets — under `MixDgs`: the conditions of
      `quic_handshake_establishes` for the long-header packets (`HsPkOk`), and for a 1-RTT packet: it comes after the
      ServerHello was captured (`keyed`; the tool derives ALL keys, also the 1-RTT keys, when the CRYPTO stream completes
      the ServerHello, provided the key log has the connection's lines), it is still in key generation 0, it carries the
      datagram's Destination Connection ID, packet number in the RFC window, no CRYPTO frames;
    * then `itemsB` — 1-RTT datagrams only (`Send1`: any key updates).
    `hadj`: CONSECUTIVE data-carrying datagrams differ in (capture microsecond, direction) — the builder merges adjacent
    frames of equal time and direction.
    Nothing raises, and the export without `-a` is exactly one UDP frame per DATAGRAM whose 1-RTT packet carried STREAM
    data, in capture order, with that data, the datagram's capture time and direction. -/
theorem quic_interleaved_exact_adj (hl : H.Lawful) (h32 : H.sha256.outLen = 32) (L : SealLaws Pc)
    (cr csel ch sh ca sa : Bytes) (early : Option Bytes) (sel : SuiteSel) (hsel : selectSuite csel = some sel)
    (ho : (hashOf H sel.hash).outLen < 65536)
    (hsa : sa.length = (hashOf H sel.hash).outLen) (hca : ca.length = (hashOf H sel.hash).outLen)
    (kl0 : List Keylog.Key) (p0 : MainLoop.Pkt) (d0 : DgM) (itemsA : List (List Keylog.Key × MainLoop.Pkt × DgM))
    (hkl : ∀ x ∈ (kl0, p0, d0) :: itemsA, KeylogHas x.1 cr ch sh ca sa early)
    (c : QConn) (hc : Fresh H Pc c) (hd0 : d0.longs ≠ [])
    (hok : MixDgs maskFn H Pc L d0.dcid sel sh ch sa ca trk0 (d0 :: itemsA.map (·.2.2)))
    (htr : PTrace cr csel {} (allInsM (d0 :: itemsA.map (·.2.2))))
    (hcar : ∀ x ∈ (kl0, p0, d0) :: itemsA, CarriesM info c (DgM.wire H Pc L d0.dcid sel sh ch sa ca) x.2.1 x.2.2)
    (hkeyed : (trk0.runM (d0 :: itemsA.map (·.2.2))).keyed = true)
    (itemsB : List (List Keylog.Key × MainLoop.Pkt × Dg1))
    (hcarB : ∀ x ∈ itemsB, Carries info c
      (wireOf H Pc L sel .v1 (rfcGen (hashOf H sel.hash) sel.keyLen sa ca 0)) x.2.1 x.2.2)
    (hsend : Send1 maskFn H Pc L sel .v1 (rfcGen (hashOf H sel.hash) sel.keyLen sa ca 0)
      (quicHp (hashOf H sel.hash) ca sel.keyLen) (quicHp (hashOf H sel.hash) sa sel.keyLen)
      (chachaOf (trk0.runM (d0 :: itemsA.map (·.2.2))).core) 0 0
      (trk0.runM (d0 :: itemsA.map (·.2.2))).tc.app (trk0.runM (d0 :: itemsA.map (·.2.2))).ts.app
      (trk0.runM (d0 :: itemsA.map (·.2.2))).cc (trk0.runM (d0 :: itemsA.map (·.2.2))).sc (itemsB.map (·.2.2)))
    (hadj : DistinctAdjacent false ((shortsOf (d0 :: itemsA.map (·.2.2)) ++ itemsB.map (·.2.2)).map fun d => inDg d.x)) :
    let QM := quicMachine maskFn H Pc info
    let c1 := mixFeedAll QM c ((kl0, p0, d0) :: itemsA)
    (feedAll QM c1 itemsB).raised = none ∧
    QM.out false (feedAll QM c1 itemsB) = expectedOut c (shortsOf (d0 :: itemsA.map (·.2.2)) ++ itemsB.map (·.2.2)) := by
  intro QM c1
  obtain ⟨hr, hout0, hsim0⟩ := hc.sim kl0 h32 d0.dcid sel ch sh ca sa early
  have hv0 : sver d0.ver = .v1 := by unfold DgM.ver; rw [if_neg hd0]; rfl
  have hk := keysWf_rfc H hl Pc [] csel sel hsel .v1 ho sa ca hsa hca
  have hrun : ((d0 :: itemsA.map (·.2.2)).foldl (mView.after (longK maskFn H Pc L d0.dcid ch sh sel)) ⟨trk0, none⟩).t =
      trk0.runM (d0 :: itemsA.map (·.2.2)) := mView_runM ..
  rw [List.map_append] at hadj
  obtain ⟨r1, r2, _⟩ := conn_from (V := mView) (steps_long maskFn H Pc hl L d0.dcid cr csel ch sh ca sa early sel hsel) hk kl0 p0 d0
    itemsA hkl ⟨trk0, none⟩ c (SameEnds.refl c) hr hout0 (hv0 ▸ hsim0)
    (mView_oks hk _ trk0 none hok) htr (fun x hx => carriesG_of_M (hcar x hx)) hrun hkeyed
    _ (by rw [mView_out, shortOut_flatMap, framesOf_rtt1]) itemsB hcarB hsend hadj
  rw [show c1 = feedG mView QM c ((kl0, p0, d0) :: itemsA) from mixFeedAll_eq ..]
  rw [out_tail, ← expectedOut_append] at r2
  exact ⟨r1, r2⟩

/-- … under the stronger, simpler hypothesis that ALL datagrams carrying 1-RTT packets differ pairwise in (capture
    microsecond, direction) -/
theorem quic_connection_exact_interleaved (hl : H.Lawful) (h32 : H.sha256.outLen = 32) (L : SealLaws Pc)
    (cr csel ch sh ca sa : Bytes) (early : Option Bytes) (sel : SuiteSel) (hsel : selectSuite csel = some sel)
    (ho : (hashOf H sel.hash).outLen < 65536)
    (hsa : sa.length = (hashOf H sel.hash).outLen) (hca : ca.length = (hashOf H sel.hash).outLen)
    (kl0 : List Keylog.Key) (p0 : MainLoop.Pkt) (d0 : DgM) (itemsA : List (List Keylog.Key × MainLoop.Pkt × DgM))
    (hkl : ∀ x ∈ (kl0, p0, d0) :: itemsA, KeylogHas x.1 cr ch sh ca sa early)
    (c : QConn) (hc : Fresh H Pc c) (hd0 : d0.longs ≠ [])
    (hok : MixDgs maskFn H Pc L d0.dcid sel sh ch sa ca trk0 (d0 :: itemsA.map (·.2.2)))
    (htr : PTrace cr csel {} (allInsM (d0 :: itemsA.map (·.2.2))))
    (hcar : ∀ x ∈ (kl0, p0, d0) :: itemsA, CarriesM info c (DgM.wire H Pc L d0.dcid sel sh ch sa ca) x.2.1 x.2.2)
    (hkeyed : (trk0.runM (d0 :: itemsA.map (·.2.2))).keyed = true)
    (itemsB : List (List Keylog.Key × MainLoop.Pkt × Dg1))
    (hcarB : ∀ x ∈ itemsB, Carries info c
      (wireOf H Pc L sel .v1 (rfcGen (hashOf H sel.hash) sel.keyLen sa ca 0)) x.2.1 x.2.2)
    (hsend : Send1 maskFn H Pc L sel .v1 (rfcGen (hashOf H sel.hash) sel.keyLen sa ca 0)
      (quicHp (hashOf H sel.hash) ca sel.keyLen) (quicHp (hashOf H sel.hash) sa sel.keyLen)
      (chachaOf (trk0.runM (d0 :: itemsA.map (·.2.2))).core) 0 0
      (trk0.runM (d0 :: itemsA.map (·.2.2))).tc.app (trk0.runM (d0 :: itemsA.map (·.2.2))).ts.app
      (trk0.runM (d0 :: itemsA.map (·.2.2))).cc (trk0.runM (d0 :: itemsA.map (·.2.2))).sc (itemsB.map (·.2.2)))
    (htimes : ((shortsOf (d0 :: itemsA.map (·.2.2)) ++ itemsB.map (·.2.2)).map fun d => (d.x.ts, d.x.srv)).Pairwise (· ≠ ·)) :
    let QM := quicMachine maskFn H Pc info
    let c1 := mixFeedAll QM c ((kl0, p0, d0) :: itemsA)
    (feedAll QM c1 itemsB).raised = none ∧
    QM.out false (feedAll QM c1 itemsB) = expectedOut c (shortsOf (d0 :: itemsA.map (·.2.2)) ++ itemsB.map (·.2.2)) := by
  have hdist : DistinctKeys ((shortsOf (d0 :: itemsA.map (·.2.2)) ++ itemsB.map (·.2.2)).map fun d => inDg d.x) := by
    unfold DistinctKeys
    rw [List.map_map]
    exact htimes
  exact quic_interleaved_exact_adj maskFn H Pc info hl h32 L cr csel ch sh ca sa early sel hsel ho hsa hca kl0 p0 d0
    itemsA hkl c hc hd0 hok htr hcar hkeyed itemsB hcarB hsend (hdist.adjacent false)

/-- … with a conformant TLS 1.3 handshake (`ConfHs`): the parser hypothesis `PTrace` replaced by "the CRYPTO frames of the
    long-header packets are, in processing order, those of `hs`" (`ptrace_of_conformant`) -/
theorem quic_interleaved_exact_conformant (hl : H.Lawful) (h32 : H.sha256.outLen = 32) (L : SealLaws Pc)
    (hs : ConfHs) (hsok : hs.Ok) (ch sh ca sa : Bytes) (early : Option Bytes) (sel : SuiteSel)
    (hsel : selectSuite hs.sh.cipherSuite = some sel)
    (ho : (hashOf H sel.hash).outLen < 65536)
    (hsa : sa.length = (hashOf H sel.hash).outLen) (hca : ca.length = (hashOf H sel.hash).outLen)
    (kl0 : List Keylog.Key) (p0 : MainLoop.Pkt) (d0 : DgM) (itemsA : List (List Keylog.Key × MainLoop.Pkt × DgM))
    (hkl : ∀ x ∈ (kl0, p0, d0) :: itemsA, KeylogHas x.1 hs.ch.random ch sh ca sa early)
    (c : QConn) (hc : Fresh H Pc c) (hd0 : d0.longs ≠ [])
    (hok : MixDgs maskFn H Pc L d0.dcid sel sh ch sa ca trk0 (d0 :: itemsA.map (·.2.2)))
    (hins : allInsM (d0 :: itemsA.map (·.2.2)) = hs.ins)
    (hcar : ∀ x ∈ (kl0, p0, d0) :: itemsA, CarriesM info c (DgM.wire H Pc L d0.dcid sel sh ch sa ca) x.2.1 x.2.2)
    (hkeyed : (trk0.runM (d0 :: itemsA.map (·.2.2))).keyed = true)
    (itemsB : List (List Keylog.Key × MainLoop.Pkt × Dg1))
    (hcarB : ∀ x ∈ itemsB, Carries info c
      (wireOf H Pc L sel .v1 (rfcGen (hashOf H sel.hash) sel.keyLen sa ca 0)) x.2.1 x.2.2)
    (hsend : Send1 maskFn H Pc L sel .v1 (rfcGen (hashOf H sel.hash) sel.keyLen sa ca 0)
      (quicHp (hashOf H sel.hash) ca sel.keyLen) (quicHp (hashOf H sel.hash) sa sel.keyLen)
      (chachaOf (trk0.runM (d0 :: itemsA.map (·.2.2))).core) 0 0
      (trk0.runM (d0 :: itemsA.map (·.2.2))).tc.app (trk0.runM (d0 :: itemsA.map (·.2.2))).ts.app
      (trk0.runM (d0 :: itemsA.map (·.2.2))).cc (trk0.runM (d0 :: itemsA.map (·.2.2))).sc (itemsB.map (·.2.2)))
    (hadj : DistinctAdjacent false ((shortsOf (d0 :: itemsA.map (·.2.2)) ++ itemsB.map (·.2.2)).map fun d => inDg d.x)) :
    let QM := quicMachine maskFn H Pc info
    let c1 := mixFeedAll QM c ((kl0, p0, d0) :: itemsA)
    (feedAll QM c1 itemsB).raised = none ∧
    QM.out false (feedAll QM c1 itemsB) = expectedOut c (shortsOf (d0 :: itemsA.map (·.2.2)) ++ itemsB.map (·.2.2)) :=
  quic_interleaved_exact_adj maskFn H Pc info hl h32 L hs.ch.random hs.sh.cipherSuite ch sh ca sa early sel hsel ho hsa
    hca kl0 p0 d0 itemsA hkl c hc hd0 hok (by rw [hins]; exact ptrace_of_conformant hs hsok) hcar hkeyed itemsB hcarB hsend
    hadj

end Interleaved
/-! ### 0-RTT -/
section ZeroRtt
variable (maskFn : Dissect.MaskFn) (H : Crypto.Prims) (Pc : Cipher.Prims)

/-- what makes a sender decision a QUIC v1 0-RTT packet (RFC 9000 §17.2.3) -/
structure ZrShape (x : SPkt) : Prop where
  level : x.level = .zeroRtt
  client : x.srv = false
  typeBits : x.typeBits = (ltypeOf x.level).bits
  version : x.version = [0, 0, 0, 1]
  dcid : x.dcid.length ≤ 20
  scid : x.scid.length ≤ 20
  tok : x.tokW.fits x.token.length
  len : x.lenW.fits (x.pnLen + (encodeAll x.frames).length + 16)
  padded : 4 ≤ x.pnLen + (encodeAll x.frames).length

theorem zrLong (sealFn : Seal) (alg : Alg) (k : DirKeys) (x : SPkt) (hs : ZrShape x) (h1 : 1 ≤ x.pnLen) (h4 : x.pnLen ≤ 4)
    (hpl : (protectedPayload sealFn alg k x).length = (encodeAll x.frames).length + 16) :
    (longOf x (protectedPayload sealFn alg k x)).wf ∧ (longOf x (protectedPayload sealFn alg k x)).version ≠ [0, 0, 0, 0] ∧
    (longOf x (protectedPayload sealFn alg k x)).scid.length ≤ 63 ∧
    20 ≤ (longOf x (protectedPayload sealFn alg k x)).pn.length + (longOf x (protectedPayload sealFn alg k x)).payload.length ∧
    (longOf x (protectedPayload sealFn alg k x)).ty = .zeroRtt ∧
    (longOf x (protectedPayload sealFn alg k x)).toPkt false x.ts = emit sealFn alg k x := by
  have hne : x.level ≠ .oneRtt := by rw [hs.level]; decide
  refine ⟨longOf_wf x _ hs.version hs.dcid hs.scid hs.tok hs.len h1 h4 hpl, ?_, ?_, ?_, ?_, ?_⟩
  · show x.version ≠ _; rw [hs.version]; decide
  · show x.scid.length ≤ 63; have := hs.scid; omega
  · show 20 ≤ (pnBytes x.pnLen x.pn).length + (protectedPayload sealFn alg k x).length
    rw [pnBytes_length, hpl]; have := hs.padded; omega
  · show ltypeOf x.level = _; rw [hs.level]; rfl
  · unfold Long.toPkt emit
    rw [longOf_first x _ hs.typeBits h1 h4]
    simp only [hne, if_false]
    simp [longOf, hs.level, hs.client, ltypeOf, LType.ptype, Level.ptype, Long.lengthField, lengthField,
      pnBytes_length, hpl, Nat.add_assoc]

/-- the 0-RTT packet on the wire, protected with the early keys of the suite `selR` of the resumed session -/
def zrWire (L : SealLaws Pc) (selR : SuiteSel) (e : Bytes) (q : PkH) : Bytes :=
  q.wire L.aeadSeal selR.alg (earlyDec H selR e).client

/-- **One 0-RTT packet, in a session that holds the sender's early keys** (`EarlyKeyed` for the suite `selR` the client
    used): the dissector recovers it, it is decrypted, its STREAM frames go to `output_buffer` with the packet's capture time,
    the client's application packet-number space advances, everything else stays. `hmask`: the header-protection primitive
    the dissector picks is selected by `tls_session.ciphersuite` AT THAT MOMENT (`envOf s`): it must be the sender's. -/
theorem zr_turn (hl : H.Lawful) (kl : List Keylog.Key) (L : SealLaws Pc) (selR : SuiteSel) (csR : Bytes)
    (hselR : selectSuite csR = some selR) (e : Bytes) (s : St Tls) (q : PkH) (hshape : ZrShape q.x)
    (hek : EarlyKeyed H selR e s) (hver : s.tls.ver = s.version)
    (hfr : ∀ f ∈ q.x.frames, isCryptoQ f = false) (hwf : WellFormedSeq q.x.frames)
    (hpn : PnLenOk s.pnClient.app q.x.pn q.x.pnLen)
    (hmask : maskFn (envOf s).chacha (quicHp (hashOf H selR.hash) e selR.keyLen)
      (longOf q.x (protectedPayload L.aeadSeal selR.alg (earlyDec H selR e).client q.x)).sample = some q.mask)
    (hm5 : 5 ≤ q.mask.length) (guessed more : Bytes) :
    let p := emit L.aeadSeal selR.alg (earlyDec H selR e).client q.x
    let s' : St Tls := afterFrames (pnStore s false .app (max s.pnClient.app q.x.pn)) p
      ((normalize q.x.frames).map QFrame.toParsed)
    (Dissect.dissectLoop maskFn (fun x : LoopSt => envOf x.1) (handleTurn (params H Pc kl)) false guessed q.x.ts
        (s, none) (zrWire H Pc L selR e q ++ more)).1 =
      (Dissect.dissectLoop maskFn (fun x : LoopSt => envOf x.1) (handleTurn (params H Pc kl)) false guessed q.x.ts
        (s', none) more).1 ∧
    s'.out = s.out ++ expectedOf .rtt0 q.x := by
  intro p s'
  obtain ⟨haead, hiv⟩ := suite_aeadOk H hl csR selR hselR e
  obtain ⟨⟨hn1, hn4⟩, hwin⟩ := hpn
  have hlen := protectedPayload_length Pc L selR.alg (earlyDec H selR e).client q.x haead
  obtain ⟨hlwf, hv, hsc, h20, hty, htoPkt⟩ := zrLong L.aeadSeal selR.alg (earlyDec H selR e).client q.x hshape hn1 hn4 hlen
  have hne : q.x.level ≠ .oneRtt := by rw [hshape.level]; decide
  -- the dissector recovers the sender's packet
  have hextract : Dissect.extract maskFn (envOf s) false guessed q.x.ts (zrWire H Pc L selR e q ++ more) =
      { pkts := [p], rest := more } := by
    have := C02Dissect.dissect_encode_long maskFn (envOf s) false guessed q.x.ts _ hlwf hv hsc h20
      (quicHp (hashOf H selR.hash) e selR.keyLen) q.mask
      (by rw [hty]; simp [senderKey, envOf, HpKeys.get, hek.hp]) (by rw [hty]; exact hmask) hm5 more
    rw [htoPkt] at this
    exact this
  have hnew : zrWire H Pc L selR e q ++ more ≠ [] := by
    unfold zrWire PkH.wire Long.protect applyMask; simp
  -- the session decrypts it
  have hdecr : longDecryptor s q.x.level.ptype = .ok (some (earlyDec H selR e)) := by
    rw [hshape.level]; exact longDecryptor_early hek.dec
  have hdir : (if q.x.srv then (earlyDec H selR e).server else some (earlyDec H selR e).client) =
      some (earlyDec H selR e).client := by rw [hshape.client]; rfl
  have hpnl : pnLargest s q.x.srv (spaceOf q.x.level) = s.pnClient.app := by
    rw [hshape.client, hshape.level]; rfl
  have hstep := step_long_eq (params H Pc kl) L q.x (earlyDec H selR e) (earlyDec H selR e).client s hne hdecr hdir haead hiv
    (by rw [hpnl]; exact ⟨⟨hn1, hn4⟩, hwin⟩) hwf
  simp only [hshape.client, hshape.level, spaceOf] at hstep
  rw [show (earlyDec H selR e).alg = selR.alg from rfl, handleFrames_nc (params H Pc kl) _ _ _ (noCryptoP_of_noCrypto _ hfr)] at hstep
  have hst : (stepPkt (params H Pc kl) s p).st = s' ∧ (stepPkt (params H Pc kl) s p).escaped = none := by
    rw [hstep]; simp [postLevel, s', p, pnLargest, PnTab.get]
  refine ⟨?_, ?_⟩
  · rw [← hst.1]
    exact loop_one maskFn _ _ _ _ s _ more p hnew hextract hst.2 (by rw [hst.1]; exact hver)
  · have hsrv : p.isServer = false := (emit_isServer ..).trans hshape.client
    have hts : p.ts = q.x.ts := emit_ts ..
    have hpt : p.ptype = .rtt0 := (emit_ptype ..).trans (by rw [hshape.level]; rfl)
    show (afterFrames _ p _).out = _
    simp only [afterFrames, filterMap_export]
    simp [expectedOf, exported_eq, mkOut, hts, hsrv, hpt, pnStore_eq, hshape.client]

/-- **0-RTT, PARTIAL** (the two local facts composed; `C02Capstone4.quic_connection_exact_0rtt` threads `EarlyKeyed`
    through the handshake invariant `HsSt` of `quic_connection_exact_interleaved`, so that 0-RTT packets may stand
    anywhere in the interleaved history). The CRYPTO stream has just completed a hello (`new_data`), the parser's
    `ciphersuite` is `cs` — the FIRST OFFERED suite after a ClientHello, the selected one after a ServerHello — and the key
    log has the connection's lines incl. CLIENT_EARLY_TRAFFIC_SECRET. If `cs` IS the suite `selR` of the resumed session the
    client protects its 0-RTT packets with, the next 0-RTT packet is decrypted and its STREAM frames are in
    `output_buffer` with the packet's capture time (hence exported: `build_congr`, `build_groups`). -/
theorem quic_connection_exact_0rtt_partial (hl : H.Lawful) (kl : List Keylog.Key) (L : SealLaws Pc)
    (s0 : St Tls) (cr cs ch sh ca sa e : Bytes) (selR : SuiteSel)
    (hv1 : s0.version = .v1) (hv : s0.tls.ver = s0.version)
    (hn : s0.tls.msgs.newData = true) (hcr : s0.tls.msgs.clientRandom = some cr)
    (hcs : s0.tls.msgs.ciphersuite = some cs) (hsel : selectSuite cs = some selR)
    (hkl : KeylogHas kl cr ch sh ca sa (some e))
    (q : PkH) (hshape : ZrShape q.x) (hfr : ∀ f ∈ q.x.frames, isCryptoQ f = false) (hwf : WellFormedSeq q.x.frames)
    (hpn : PnLenOk s0.pnClient.app q.x.pn q.x.pnLen)
    (hmask : maskFn (cs == [0x13, 0x03]) (quicHp (hashOf H selR.hash) e selR.keyLen)
      (longOf q.x (protectedPayload L.aeadSeal selR.alg (earlyDec H selR e).client q.x)).sample = some q.mask)
    (hm5 : 5 ≤ q.mask.length) (guessed more : Bytes) :
    let s := (afterTls (params H Pc kl) s0).1
    ∃ s', (Dissect.dissectLoop maskFn (fun x : LoopSt => envOf x.1) (handleTurn (params H Pc kl)) false guessed q.x.ts
        (s, none) (zrWire H Pc L selR e q ++ more)).1 =
      (Dissect.dissectLoop maskFn (fun x : LoopSt => envOf x.1) (handleTurn (params H Pc kl)) false guessed q.x.ts
        (s', none) more).1 ∧
      s'.out = s0.out ++ expectedOf .rtt0 q.x ∧ s'.pnClient.app = max s0.pnClient.app q.x.pn := by
  intro s
  have hs : s = keyedSt H selR ch sh ca sa (some e) s0 :=
    congrArg Prod.fst (afterTls_rfc H Pc kl s0 cr cs ch sh ca sa (some e) selR hv1 hv hn hcr hcs hsel hkl)
  have hch : (envOf s).chacha = (cs == [0x13, 0x03]) := by
    show (s.tls.msgs.ciphersuite == some [0x13, 0x03]) = _
    rw [hs, show (keyedSt H selR ch sh ca sa (some e) s0).tls.msgs.ciphersuite = _ from hcs]; rfl
  have hz := zr_turn maskFn H Pc hl kl L selR cs hsel e s q hshape (hs ▸ ⟨rfl, rfl⟩) (hs ▸ hv) hfr hwf
    (hs ▸ hpn) (by rw [hch]; exact hmask) hm5 guessed more
  refine ⟨_, hz.1, ?_, ?_⟩
  · rw [hz.2, hs]; rfl
  · simp [afterFrames, pnStore_eq, PnTab.set, show s.pnClient = s0.pnClient from hs ▸ rfl]

/-! what happens to a 0-RTT packet the session has no (fitting) key for — the two mechanisms behind the losses
    `harness/c02_0rtt_replay.py` shows on the real tool -/

section Mechanism
variable {σ : Type} (P : Params σ)

/-- (D) no Early decryptor yet — the ClientHello is not complete in the CRYPTO stream, or the key log has no
    CLIENT_EARLY_TRAFFIC_SECRET line: `self.decryptors["Early"]` raises KeyError inside `decrypt_packet`'s try; the packet
    is dropped, the session is exactly as before (also its packet-number tables). It is never looked at again. -/
theorem zero_rtt_dropped_without_key (s : St σ) (p : Pkt) (hh : p.htype = .long) (ht : p.ptype = .rtt0)
    (hd : s.decEarly = none) :
    stepPkt P s p = { st := s, caught := some .key, escaped := none } := by
  rw [stepPkt_rtt0 P s p ht, decryptPacket_long_err P s p hh (e := .key) (by rw [ht]; simp only [longDecryptor, hd])]

/-- (B), THE CODE BEFORE THE PN-STORE REPAIR (`Session.Legacy`): an Early decryptor exists but is not the sender's
    (derived with another suite), so the AEAD check fails — and the dissector has removed header protection with the wrong
    key, so `pnb` is garbage: the old `get_full_packet_number` has ALREADY stored the packet number decoded from `pnb` as
    the largest one of the client's application space (shared by 0-RTT and 1-RTT packets, RFC 9000 §12.3). The packet is
    dropped; the table keeps the garbage. -/
theorem legacy_zero_rtt_rejected_poisons_pn (s : St σ) (p : Pkt) (d : Dec) (pnb pn aad : Bytes) (e : PyErr)
    (hh : p.htype = .long) (ht : p.ptype = .rtt0) (hd : s.decEarly = some d) (hpn : p.pn = some pnb)
    (hres : pnResult (pnLargest s p.isServer .app) pnb = .ok pn) (haad : assocData p = .ok aad)
    (hfail : decDecrypt P d p.payload pn aad p.isServer = .error e) :
    Legacy.stepPkt P s p =
      { st := pnStore s p.isServer .app (PktNum.implUpdate (pnLargest s p.isServer .app)
          (PktNum.implDecode (2 ^ (8 * pnb.length)) (2 ^ 62) (pnLargest s p.isServer .app) (Bytes.beNat pnb))),
        caught := some e, escaped := none } := by
  have hsel : selectDecryptor P s p = (s, .ok (some d)) := by
    rw [selectDecryptor_long P s p hh, ht, longDecryptor_early hd]
  have hsp : p.ptype.space = some .app := by rw [ht]; rfl
  have hattr : hasPnAttr p = true := by unfold hasPnAttr; rw [hh, ht]
  have hrest : Legacy.decryptRest P s p (some d) =
      (pnStore s p.isServer .app (PktNum.implUpdate (pnLargest s p.isServer .app)
          (PktNum.implDecode (2 ^ (8 * pnb.length)) (2 ^ 62) (pnLargest s p.isServer .app) (Bytes.beNat pnb))), some e) := by
    unfold Legacy.decryptRest Legacy.getFullPn
    simp only [hsp, hattr, Bool.not_true, Bool.false_eq_true, if_false, hpn, hres, haad, hfail]
  simp [Legacy.stepPkt, ht, Legacy.decryptPacket, hsel, hrest, afterDecrypt]

/-- (B), the repaired code (the table is stored after `decryptor.decrypt` succeeded): under the very same hypotheses the
    0-RTT packet is still dropped — its early keys are of the wrong suite — but the session, its packet-number tables
    included, is exactly as before. -/
theorem zero_rtt_rejected_leaves_session (s : St σ) (p : Pkt) (d : Dec) (pnb pn aad : Bytes) (e : PyErr)
    (hh : p.htype = .long) (ht : p.ptype = .rtt0) (hd : s.decEarly = some d) (hpn : p.pn = some pnb)
    (hres : pnResult (pnLargest s p.isServer .app) pnb = .ok pn) (haad : assocData p = .ok aad)
    (hfail : decDecrypt P d p.payload pn aad p.isServer = .error e) :
    stepPkt P s p = { st := s, caught := some e, escaped := none } := by
  have hsp : p.ptype.space = some .app := by rw [ht]; rfl
  have hattr : hasPnAttr p = true := by unfold hasPnAttr; rw [hh, ht]
  have hrest : decryptRest P s p (some d) = (s, some e) := by
    unfold decryptRest getFullPn
    simp only [hsp, hattr, Bool.not_true, Bool.false_eq_true, if_false, hpn, hres, haad, hfail]
  rw [stepPkt_rtt0 P s p ht, decryptPacket_long P s p hh (ht ▸ longDecryptor_early hd), hrest]

end Mechanism

/-- the arithmetic of the real-tool trace (`c02_0rtt_replay.py`, case B): the garbage packet number 0x3fa69012 of the
    0-RTT packet becomes the largest one; the client's next 1-RTT packet, number 1 on one byte, is then reconstructed as
    1067880449 — not 1: wrong nonce, the packet is lost, and so is every later one of the client -/
example : PktNum.implUpdate 0 (PktNum.implDecode (2 ^ 32) (2 ^ 62) 0 0x3fa69012) = 1067880466 ∧
    PktNum.implDecode (2 ^ 8) (2 ^ 62) 1067880466 1 = 1067880449 := by decide

end ZeroRtt
/-! ### 0-RTT: the losses, on concrete sessions (toy AEAD, kernel-evaluated) -/
namespace ExZr
open TLX.Props.C02Session.Ex TLX.Quic.SessionToy

/-- the resumed session's suite is `sel` (0x1301); the ClientHello lists 0x1303 first -/
def selFirst : SuiteSel := ⟨.sha256, .chachaPoly, 32⟩

/-- the client's 0-RTT packet: STREAM data `EARLY`, protected with the early key of the RESUMED suite -/
def xz : SPkt :=
  { level := .zeroRtt, srv := false, ts := 5, pn := 0, pnLen := 1, typeBits := 1, scid := [0xc1], dcid := [0x51],
    frames := [.stream false ⟨0, Ex.w1⟩ none (some Ex.w1) [0x45, 0x41, 0x52, 0x4c, 0x59], .padding 3] }
def pz : Pkt := emit Toy.laws.aeadSeal sel.alg (dirKeys sel .v1 [5]) xz

/-- the client's next 1-RTT packet: number 1, STREAM data `LATE` -/
def x1 : SPkt :=
  { level := .oneRtt, srv := false, ts := 9, pn := 1, pnLen := 1, dcid := [0x51], gen := 0,
    frames := [.stream true ⟨0, Ex.w1⟩ (some ⟨5, Ex.w1⟩) (some Ex.w1) [0x4c, 0x41, 0x54, 0x45], .padding 3] }
def p1 : Pkt := emit1 params Toy.laws sel .v1 k0 x1

/-- (D) the session as it is BEFORE the ClientHello is complete in the CRYPTO stream — no Early decryptor yet: the genuine
    0-RTT packet is dropped (KeyError), nothing is exported, nothing else changes. RFC-conformant: a ClientHello may span
    several Initial packets, and 0-RTT packets may be coalesced with the first. -/
theorem zero_rtt_before_client_hello_counterexample :
    (streamData xz.frames).flatten = [0x45, 0x41, 0x52, 0x4c, 0x59] ∧
    stepPkt params s0 pz = { st := s0, caught := some .key, escaped := none } :=
  ⟨by decide, zero_rtt_dropped_without_key params s0 pz (by decide) (by decide) rfl⟩

/-- … whereas the same packet in a session that holds the early key of the resumed suite is exported -/
theorem zero_rtt_with_key_exported :
    ((stepPkt params { s0 with decEarly := some { alg := sel.alg, server := none, client := dirKeys sel .v1 [5] } } pz).st.out.map
      fun o => (o.ts, o.isServer, (frameOf o).data)) = [(5, false, [0x45, 0x41, 0x52, 0x4c, 0x59])] := by decide +kernel

/-- (B) the session after the ClientHello when the FIRST OFFERED suite (0x1303) is not the resumed one (0x1301): the Early
    decryptor and the early header-protection key exist, derived for 0x1303. The dissector unprotects the 0-RTT packet's
    header with that wrong key: the packet-number bytes it reports are garbage (here the four bytes the real tool read in
    `harness/c02_0rtt_replay.py`, case B). -/
def sB : St Bool := { s0 with decEarly := some { alg := selFirst.alg, server := none, client := dirKeys selFirst .v1 [5] } }
def pzGarbled : Pkt := { pz with pn := some [0x3f, 0xa6, 0x90, 0x12] }

/-- THE CODE BEFORE THE PN-STORE REPAIR (`Session.Legacy`). RFC-conformant client (RFC 8446 §4.2.11: the resumed suite may
    stand anywhere in the list), yet:
    1. the 0-RTT packet is rejected by the AEAD, nothing is exported —
    2. but the garbage packet number 0x3fa69012 is now the largest one of the client's application space;
    3. the client's NEXT 1-RTT packet (number 1, `LATE`), which the session exports when it comes first (4.),
       is reconstructed next to the garbage, rejected and lost: `output_buffer` stays empty. -/
theorem legacy_first_offered_suite_counterexample :
    (Legacy.stepPkt params sB pzGarbled).caught.isSome = true ∧ (Legacy.stepPkt params sB pzGarbled).st.out = [] ∧
    (Legacy.stepPkt params sB pzGarbled).st.pnClient.app = 1067880466 ∧
    (Legacy.stepPkt params (Legacy.stepPkt params sB pzGarbled).st p1).caught.isSome = true ∧
    (Legacy.stepPkt params (Legacy.stepPkt params sB pzGarbled).st p1).st.out = [] ∧
    ((Legacy.stepPkt params sB p1).st.out.map fun o => (o.ts, o.isServer, (frameOf o).data)) =
      [(9, false, [0x4c, 0x41, 0x54, 0x45])] := by
  decide +kernel

/-- The same history on the REPAIRED code: the 0-RTT packet is still lost (the Early keys were derived for the first
    offered suite 0x1303, the client used the resumed 0x1301: AEAD failure, nothing exported) — but the packet-number
    table is untouched, and the client's following 1-RTT packet `LATE` is decrypted and exported with its time and
    direction. -/
theorem late_survives :
    (stepPkt params sB pzGarbled).caught.isSome = true ∧ (stepPkt params sB pzGarbled).st.out = [] ∧
    (stepPkt params sB pzGarbled).st.pnClient = sB.pnClient ∧
    (stepPkt params (stepPkt params sB pzGarbled).st p1).caught = none ∧
    ((stepPkt params (stepPkt params sB pzGarbled).st p1).st.out.map fun o => (o.ts, o.isServer, (frameOf o).data)) =
      [(9, false, [0x4c, 0x41, 0x54, 0x45])] := by
  decide +kernel

end ExZr
/-! ### 0-RTT: the full statement, as a `def`; the proved form is `C02Capstone4.quic_connection_exact_0rtt` -/
section ZeroRttStatement
variable (maskFn : Dissect.MaskFn) (H : Crypto.Prims) (Pc : Cipher.Prims) (info : Nat → Pipeline.Info)

/-- a datagram of the interleaved history that may also carry 0-RTT packets: `base` as in `DgM`; the 0-RTT packets `zr`
    (client only) stand after the first `pos` long-header packets of `base` (RFC 9000 §12.2 order: Initial, 0-RTT,
    Handshake, 1-RTT) -/
structure DgX where
  base : DgM
  zr : List PkH
  pos : Nat

def DgX.wire (L : SealLaws Pc) (dcid0 : Bytes) (sel selR : SuiteSel) (sh ch sa ca e : Bytes) (d : DgX) : Bytes :=
  ((d.base.longs.take d.pos).map (pkWire H Pc L dcid0 sel sh ch)).flatten ++ (d.zr.map (zrWire H Pc L selR e)).flatten ++
    ((d.base.longs.drop d.pos).map (pkWire H Pc L dcid0 sel sh ch)).flatten ++
    (d.base.short.map (wireOf H Pc L sel .v1 (rfcGen (hashOf H sel.hash) sel.keyLen sa ca 0))).getD []

/-- the routing header: that of the first packet on the wire -/
def DgX.dcid (d : DgX) : Bytes :=
  match d.base.longs.take d.pos, d.zr with
  | [], q :: _ => q.x.dcid
  | _, _ => d.base.dcid
def DgX.ver (d : DgX) : MainLoop.Version := if d.base.longs = [] ∧ d.zr = [] then .unknown else .v1

/-- the observer's bookkeeping after a 0-RTT packet: the client's application packet-number space, connection IDs issued -/
def _root_.TLX.Props.C02Capstone.Trk.zr (t : Trk) (x : SPkt) : Trk :=
  { t with tc := { t.tc with app := max t.tc.app x.pn }, cc := issue t.cc (newCids x.frames) }

def _root_.TLX.Props.C02Capstone.Trk.dgx (t : Trk) (d : DgX) : Trk :=
  let t1 := (d.zr.foldl (fun t q => t.zr q.x) (t.run (d.base.longs.take d.pos))).run (d.base.longs.drop d.pos)
  match d.base.short with
  | none => t1
  | some o => t1.short o.x

/-- **THE CONDITION under which the tool exports a 0-RTT packet** of a client that resumed a session of suite `selR` with
    early secret `e`, relative to the bookkeeping `t` when the packet is reached:
    `suite`  `tls_session.ciphersuite` — unset until the CRYPTO stream has completed the ClientHello, then the FIRST OFFERED
             suite, from the ServerHello on the selected one — names `selR`: the tool's Early keys are the client's
             (`afterTls_early`); when it names ANOTHER known suite the packet is rejected and lost
             (`zero_rtt_rejected_leaves_session`; on `Session.Legacy` it also poisons the client's application
             packet-number space: `legacy_zero_rtt_rejected_poisons_pn`); when it is unset the packet is dropped
             (`zero_rtt_dropped_without_key`);
    the rest as for the other packets: RFC 9000 §17.2.3 shape, §12.4 frames (no CRYPTO), packet number in the window of the
    application space (shared with 1-RTT), header protection with the early key. -/
structure ZrPkOk (L : SealLaws Pc) (selR : SuiteSel) (e : Bytes) (t : Trk) (q : PkH) : Prop where
  suite : t.core.msgs.ciphersuite.bind selectSuite = some selR
  shape : ZrShape q.x
  frames : ∀ f ∈ q.x.frames, isCryptoQ f = false
  wf : WellFormedSeq q.x.frames
  pn : PnLenOk t.tc.app q.x.pn q.x.pnLen
  mask : maskFn (chachaOf t.core) (quicHp (hashOf H selR.hash) e selR.keyLen)
    (longOf q.x (protectedPayload L.aeadSeal selR.alg (earlyDec H selR e).client q.x)).sample = some q.mask
  mask5 : 5 ≤ q.mask.length

def ZrPks (L : SealLaws Pc) (selR : SuiteSel) (e : Bytes) : Trk → List PkH → Prop
  | _, [] => True
  | t, q :: qs => ZrPkOk maskFn H Pc L selR e t q ∧ ZrPks L selR e (t.zr q.x) qs

/-- one datagram with 0-RTT packets, relative to the bookkeeping before it: `MixDgOk` for the rest, `ZrPkOk` for the 0-RTT
    packets where they stand -/
structure XDgOk (L : SealLaws Pc) (dcid0 : Bytes) (sel selR : SuiteSel) (sh ch sa ca e : Bytes) (t : Trk) (d : DgX) : Prop where
  client : d.zr ≠ [] → d.base.srv = false
  dir : ∀ q ∈ d.base.longs ++ d.zr, q.x.srv = d.base.srv ∧ q.x.ts = d.base.ts
  cid : DcidOk t.cc t.sc d.base.srv d.dcid
  pre : HsPks maskFn H Pc L dcid0 sel sh ch t (d.base.longs.take d.pos)
  zr : ZrPks maskFn H Pc L selR e (t.run (d.base.longs.take d.pos)) d.zr
  post : HsPks maskFn H Pc L dcid0 sel sh ch (d.zr.foldl (fun t q => t.zr q.x) (t.run (d.base.longs.take d.pos)))
    (d.base.longs.drop d.pos)
  nonempty : d.base.longs ≠ [] ∨ d.zr ≠ [] ∨ d.base.short.isSome = true
  short : ∀ o, d.base.short = some o → ShortOk maskFn H Pc L sel sa ca
    ((d.zr.foldl (fun t q => t.zr q.x) (t.run (d.base.longs.take d.pos))).run (d.base.longs.drop d.pos)) d.base o

def XDgs (L : SealLaws Pc) (dcid0 : Bytes) (sel selR : SuiteSel) (sh ch sa ca e : Bytes) : Trk → List DgX → Prop
  | _, [] => True
  | t, d :: ds => XDgOk maskFn H Pc L dcid0 sel selR sh ch sa ca e t d ∧ XDgs L dcid0 sel selR sh ch sa ca e (t.dgx d) ds

def xFeedAll (QM : MainLoop.QuicMachine Keylog.Key QConn Pipeline.OutPkt) (c : QConn) :
    List (List Keylog.Key × MainLoop.Pkt × DgX) → QConn
  | [] => c
  | (kl, p, d) :: rest => xFeedAll QM (QM.feed c kl p d.dcid d.ver) rest

/-- the STREAM data of a datagram: of its 0-RTT packets, then of its 1-RTT packet -/
def DgX.data (d : DgX) : List Bytes :=
  d.zr.flatMap (fun q => streamData q.x.frames) ++ (d.base.short.map fun o => streamData o.x.frames).getD []

/-- one UDP frame per datagram with STREAM data (0-RTT or 1-RTT), then the 1-RTT-only part -/
def expectedOutX (c : QConn) (ds : List DgX) (bs : List Dg1) : List Pipeline.OutPkt :=
  ((ds.filter fun d => !d.data.isEmpty).map fun d => addressed c ⟨d.base.srv, d.base.ts, d.data.flatten⟩) ++
    expectedOut c bs

set_option linter.unusedVariables false -- the `_statement` definition names its hypotheses for the reader

/-- **C02 with 0-RTT, the full statement** (`quic_connection_exact_interleaved` with 0-RTT packets anywhere in the mixed
    part, under `ZrPkOk`). NOT PROVED in this form: `quic_connection_exact_0rtt_partial` proves the step for one 0-RTT packet right
    after the firing `handle_crypto_frame`; `C02Capstone4.quic_connection_exact_0rtt` is the proved form (`XDgOkE.suite` for
    `ZrPkOk.suite`).
    The condition `ZrPkOk.suite` is NOT implied by the RFCs before the ServerHello (first offered suite = resumed suite;
    ClientHello complete): `ExZr.legacy_first_offered_suite_counterexample` / `ExZr.late_survives`, `ExZr.zero_rtt_before_client_hello_counterexample`,
    `harness/c02_0rtt_replay.py`. -/
def quic_connection_exact_0rtt_statement : Prop :=
  ∀ (hl : H.Lawful) (h32 : H.sha256.outLen = 32) (L : SealLaws Pc)
    (cr csel ch sh ca sa e : Bytes) (sel selR : SuiteSel) (hsel : selectSuite csel = some sel)
    (ho : (hashOf H sel.hash).outLen < 65536)
    (hsa : sa.length = (hashOf H sel.hash).outLen) (hca : ca.length = (hashOf H sel.hash).outLen)
    (kl0 : List Keylog.Key) (p0 : MainLoop.Pkt) (d0 : DgX) (itemsA : List (List Keylog.Key × MainLoop.Pkt × DgX))
    (hkl : ∀ x ∈ (kl0, p0, d0) :: itemsA, KeylogHas x.1 cr ch sh ca sa (some e))
    (c : QConn) (hc : Fresh H Pc c) (hd0 : d0.base.longs.take d0.pos ≠ [])
    (hok : XDgs maskFn H Pc L d0.dcid sel selR sh ch sa ca e trk0 (d0 :: itemsA.map (·.2.2)))
    (htr : PTrace cr csel {} (allInsM ((d0 :: itemsA.map (·.2.2)).map (·.base))))
    (hcar : ∀ x ∈ (kl0, p0, d0) :: itemsA,
      x.2.1.payload = DgX.wire H Pc L d0.dcid sel selR sh ch sa ca e x.2.2 ∧
        (info x.2.1.tag).ts = x.2.2.base.ts ∧ (x.2.1.src == c.client) = !x.2.2.base.srv)
    (hkeyed : ((d0 :: itemsA.map (·.2.2)).foldl Trk.dgx trk0).keyed = true)
    (itemsB : List (List Keylog.Key × MainLoop.Pkt × Dg1))
    (hcarB : ∀ x ∈ itemsB, Carries info c
      (wireOf H Pc L sel .v1 (rfcGen (hashOf H sel.hash) sel.keyLen sa ca 0)) x.2.1 x.2.2)
    (hsend : Send1 maskFn H Pc L sel .v1 (rfcGen (hashOf H sel.hash) sel.keyLen sa ca 0)
      (quicHp (hashOf H sel.hash) ca sel.keyLen) (quicHp (hashOf H sel.hash) sa sel.keyLen)
      (chachaOf ((d0 :: itemsA.map (·.2.2)).foldl Trk.dgx trk0).core) 0 0
      ((d0 :: itemsA.map (·.2.2)).foldl Trk.dgx trk0).tc.app ((d0 :: itemsA.map (·.2.2)).foldl Trk.dgx trk0).ts.app
      ((d0 :: itemsA.map (·.2.2)).foldl Trk.dgx trk0).cc ((d0 :: itemsA.map (·.2.2)).foldl Trk.dgx trk0).sc
      (itemsB.map (·.2.2)))
    (hadj : Quic.UdpOut.AdjDistinct ((((d0 :: itemsA.map (·.2.2)).filter fun d => !d.data.isEmpty).map
        fun d => (d.base.ts, d.base.srv)) ++
      ((itemsB.map (·.2.2)).filter fun d => hasStream d.x.frames).map fun d => (d.x.ts, d.x.srv))),
    let QM := quicMachine maskFn H Pc info
    let c1 := xFeedAll QM c ((kl0, p0, d0) :: itemsA)
    (feedAll QM c1 itemsB).raised = none ∧
    QM.out false (feedAll QM c1 itemsB) = expectedOutX c (d0 :: itemsA.map (·.2.2)) (itemsB.map (·.2.2))

set_option linter.unusedVariables true

end ZeroRttStatement
end TLX.Props.C02Capstone3
