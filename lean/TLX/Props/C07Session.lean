/-
C07 (TLS session part) — every exported entry is attributed to the record it came from and the direction that
record travelled in: for EVERY decryptor behaviour and record sequence, each element of `application_traffic` carries
one of the handled records (with its carrier packets, which `TLX.Props.C05.metadata_is_overlap` identifies as exactly
the packets overlapping the record's bytes) and that record's direction flag, in the order the records were handled.
With `TLX.Props.C07.out_ts_from_carrier` the exported segment's time is the time of one of those packets.
-/
import TLX.Lemmas.Session
namespace TLX.Props.C07
open TLX TLX.Session

variable {δ : Type}

/-- the traffic list is the concatenation, in handling order, of what each record contributed; what record `i`
    contributed carries record `i` and its direction (so traffic order = record order per connection) -/
theorem traffic_by_record (O : Ops δ) (m : Bool) (rs : List (Rec × Bool)) :
    ∃ ls : List (List Entry), (run O m St.init rs).traffic = ls.flatten ∧ ls.length = rs.length ∧
      ∀ p ∈ ls.zip rs, ∀ e ∈ p.1, (e.record, e.fromServer) = p.2 := by
  suffices ∀ (s : St δ), ∃ ls : List (List Entry), (run O m s rs).traffic = s.traffic ++ ls.flatten ∧
      ls.length = rs.length ∧ ∀ p ∈ ls.zip rs, ∀ e ∈ p.1, (e.record, e.fromServer) = p.2 from this St.init
  induction rs with
  | nil => intro s; exact ⟨[], by simp [run], rfl, by simp⟩
  | cons x rest ih =>
    intro s
    obtain ⟨l, hl, hp⟩ := handleRecord_appends O m s x.1 x.2
    obtain ⟨ls, h1, h2, h3⟩ := ih (handleRecord O m s x.1 x.2)
    refine ⟨l :: ls, ?_, by simp [h2], ?_⟩
    · simp only [run, List.foldl_cons] at h1 ⊢
      rw [h1, hl]; simp
    · intro p hpz e he
      simp only [List.zip_cons_cons, List.mem_cons] at hpz
      rcases hpz with rfl | hpz
      · obtain ⟨a, b⟩ := hp e he
        simp [a, b]
      · exact h3 p hpz e he

/-- every entry of the traffic carries one of the handled records and its direction (from `traffic_by_record`) -/
theorem entry_origin (O : Ops δ) (m : Bool) (rs : List (Rec × Bool)) :
    ∀ e ∈ (run O m St.init rs).traffic, (e.record, e.fromServer) ∈ rs := by
  obtain ⟨ls, h1, h2, h3⟩ := traffic_by_record O m rs
  intro e he
  rw [h1] at he
  obtain ⟨l, hl, hel⟩ := List.mem_flatten.mp he
  obtain ⟨i, hi, rfl⟩ := List.getElem_of_mem hl
  have hz : (ls[i], rs[i]'(h2 ▸ hi)) ∈ ls.zip rs := by
    rw [← List.getElem_zip (h := by rw [List.length_zip, ← h2, Nat.min_self]; exact hi)]
    exact List.getElem_mem _
  rw [h3 _ hz e hel]
  exact List.getElem_mem _

def echo : Ops Unit := ⟨fun d r _ => (d, some (some r.body)), fun d _ => (d, true), fun _ _ _ _ _ _ => .installed ()⟩
example : ((run echo true St.init [(⟨[0x16, 3, 3, 0, 1, 1], [7]⟩, false), (⟨[0x14, 3, 3, 0, 1, 1], [8]⟩, true)]).traffic.map
    fun e => (e.record.carriers, e.fromServer)) = [([7], false), ([8], true)] := by decide

end TLX.Props.C07
