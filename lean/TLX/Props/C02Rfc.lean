/-
C02 from file to file with hypotheses in RFC / file terms only: `QuicCaptureRfc`, `quic_capture_exact_rfc`. Every tool-side
field of `C02File.QuicCapture` is derived (`capture_of_rfc`): the suite from the IANA denotation, the key log from the TEXT of
the file (`keylogHas_text`), what the tool's handshake parser reads along the handshake (`parser_facts`, from the walk
`C02Capstone.conformant_steps`), and the observer's bookkeeping `Trk` from the senders' own `RTrk` (`Sync`, `dgs_of_rfc`).
Of this namespace, `chIns` / `shIn` / `tailIns` are declared in `Props/C02Parser.lean`. Core Lean only.
-/
import TLX.Spec.RfcQuic
import TLX.Lemmas.C01Rfc
import TLX.Lemmas.KeylogLines
import TLX.Lemmas.HsPkChecks
import TLX.Props.C02File
set_option autoImplicit false
namespace TLX.Props.C02Rfc
open TLX TLX.Spec.RfcSuite TLX.Spec.RfcQuic TLX.Lemmas.C01Rfc TLX.Props.C09Found TLX.Keylog TLX.Spec.KeySchedules
open TLX.Lemmas.KeySchedule TLX.QuicPipeline TLX.Props.C02Capstone TLX.Spec.NssKeylog
open TLX.Quic TLX.Cipher TLX.Quic.Session TLX.Lemmas.QuicSession
open TLX.Props.C02Session TLX.Spec.QuicConnection TLX.Props.C02Pipeline TLX.Quic.CryptoStream TLX.Lemmas.CryptoStream
open TLX.Spec.TlsHandshakeFraming TLX.Spec.TlsHello TLX.Lemmas.TlsHello
open TLX.Spec.QuicSender TLX.Spec.QuicFrames TLX.Spec.QuicPackets
open TLX.MainLoop TLX.Spec.Demux TLX.Lemmas.MainLoop TLX.Dissect TLX.OutBytes
open TLX.Props.C01File TLX.Spec.FrameBuild TLX.Spec.TlsCapture TLX.Spec.QuicCapture TLX.Props.C12Dissect
open TLX.Export TLX.Props.C01File2 TLX.Props.C02File

theorem selectSuite_cases (cs : Bytes) (sel : Quic.Session.SuiteSel) (h : Quic.Session.selectSuite cs = some sel) :
    cs = [0x13, 0x01] ∨ cs = [0x13, 0x02] ∨ cs = [0x13, 0x03] ∨ cs = [0x13, 0x04] := by
  unfold Quic.Session.selectSuite at h
  by_cases h1 : cs = [0x13, 0x01]; · exact .inl h1
  by_cases h2 : cs = [0x13, 0x02]; · exact .inr (.inl h2)
  by_cases h3 : cs = [0x13, 0x03]; · exact .inr (.inr (.inl h3))
  by_cases h4 : cs = [0x13, 0x04]; · exact .inr (.inr (.inr h4))
  rw [if_neg h1, if_neg h2, if_neg h3, if_neg h4] at h
  cases h

theorem quicSuite_of_select (cs : Bytes) (sel : Quic.Session.SuiteSel) (h : Quic.Session.selectSuite cs = some sel) :
    ∃ sp, quicSuite (Bytes.beNat cs) = some (sp, sel) ∧ sp.keyLen = sel.keyLen ∧ sel.keyLen ≤ 32 := by
  obtain ⟨e1, e2, e3, e4⟩ := quicSuite_codes
  rcases selectSuite_cases cs sel h with rfl | rfl | rfl | rfl <;> cases h
  · exact ⟨_, e1, rfl, by decide⟩
  · exact ⟨_, e2, rfl, by decide⟩
  · exact ⟨_, e3, rfl, by decide⟩
  · exact ⟨_, e4, rfl, by decide⟩

theorem selectSuite_rfc (cs : Bytes) (haccept : Quic.Session.selectSuite cs ≠ none) (sp : SuiteSpec)
    (sel : Quic.Session.SuiteSel) (h : quicSuite (Bytes.beNat cs) = some (sp, sel)) :
    Quic.Session.selectSuite cs = some sel ∧ sp.keyLen = sel.keyLen ∧ sel.keyLen ≤ 32 := by
  obtain ⟨sel', hs⟩ := Option.ne_none_iff_exists'.mp haccept
  obtain ⟨sp', h', hk, h32⟩ := quicSuite_of_select cs sel' hs
  rw [h'] at h
  cases h
  exact ⟨hs, hk, h32⟩

theorem selectSuite_tls13 (cs : Bytes) (h13 : cs ∈ tls13Codes) (sp : SuiteSpec) (sel : Quic.Session.SuiteSel)
    (h : quicSuite (Bytes.beNat cs) = some (sp, sel)) :
    Quic.Session.selectSuite cs = some sel ∧ sp.keyLen = sel.keyLen ∧ sel.keyLen ≤ 32 := by
  simp only [tls13Codes, List.mem_cons, List.not_mem_nil, or_false] at h13
  rcases h13 with rfl | rfl | rfl | rfl | rfl
  · exact selectSuite_rfc _ (by decide) sp sel h
  · exact selectSuite_rfc _ (by decide) sp sel h
  · exact selectSuite_rfc _ (by decide) sp sel h
  · exact selectSuite_rfc _ (by decide) sp sel h
  · have : Bytes.beNat [0x13, 0x05] = 0x1305 := by decide
    rw [this, quicSuite_ccm8] at h; cases h

/-- the four QUIC v1 suites, by code point: each is accepted and has a denotation -/
theorem quicSuite_exists (cs : Bytes) (haccept : Quic.Session.selectSuite cs ≠ none) :
    ∃ sp sel, quicSuite (Bytes.beNat cs) = some (sp, sel) := by
  obtain ⟨sel, hs⟩ := Option.ne_none_iff_exists'.mp haccept
  obtain ⟨sp, h, _⟩ := quicSuite_of_select cs sel hs
  exact ⟨sp, sel, h⟩

theorem labelCETS_eq : labelCETS = Keylog.s_CETS := by decide +kernel

/-- what the five label names of the key-log file are to `dev_quic_keys` (the four of TLS 1.3: `labelOf_13`) -/
theorem labelOf_quic :
    Pipeline.labelOf labelCHTS = .clientHandshake ∧ Pipeline.labelOf labelSHTS = .serverHandshake ∧
    Pipeline.labelOf labelCTS0 = .clientTraffic0 ∧ Pipeline.labelOf labelSTS0 = .serverTraffic0 ∧
    Pipeline.labelOf labelCETS = .clientEarly ∧
    Keylog.labelsQuic = [labelCHTS, labelSHTS, labelCTS0, labelSTS0, labelCETS, Keylog.s_SETS] := by
  obtain ⟨e1, e2, e3, e4, e5, _⟩ := labelOf_13
  refine ⟨e1, e2, e3, e4, by rw [labelCETS_eq]; decide, ?_⟩
  rw [labelCETS_eq, show Keylog.labelsQuic = Keylog.labels13 ++ [Keylog.s_CETS, Keylog.s_SETS] from rfl, e5]
  rfl

/-- `set_tls_decryptors`' filter `bytes.fromhex(key.client_random) == client_random` over the whole key log: for a file of
    well-formed lines it never raises (every line the reader's regular expression accepts has a 64-digit hexadecimal
    client-random field) and keeps exactly the lines of the connection, in file order -/
theorem quicSessionKeys_fileText (ls : List (FLine × Bool)) (hwf : ∀ x ∈ ls, x.1.WF) (cr : List Nat) :
    Keylog.quicSessionKeys ((Export.fileKeysOf (some (fileText ls))).getD []) cr = some (linesFor cr ls) := by
  rw [fileKeys_fileText, parse_fileText _ ls hwf (src_cls ls hwf)]
  unfold Keylog.quicSessionKeys
  have hall : ((ls.filterMap fun x => x.1.key?).all fun k => (Keylog.fromHex k.clientRandom).isSome) = true := by
    rw [List.all_eq_true]
    intro k hk
    obtain ⟨⟨l, b⟩, hm, hk'⟩ := List.mem_filterMap.mp hk
    cases l with
    | other s => simp [FLine.key?] at hk'
    | key tr hc hv =>
      simp only [FLine.key?, Option.some.injEq] at hk'
      subst hk'
      have w : DenotesVia _ tr hc hv := hwf _ hm
      simp [Lemmas.Keylog.fromHex_of_isHexOf w.2.2.1]
  rw [if_pos hall]
  congr 1
  clear hall
  induction ls with
  | nil => rfl
  | cons x rest ih =>
    obtain ⟨l, crlf⟩ := x
    have w := hwf (l, crlf) (by simp)
    have := ih (fun y hy => hwf y (by simp [hy]))
    cases l with
    | other s => simpa [linesFor, FLine.key?] using this
    | key tr hc hv =>
      have hx := Lemmas.Keylog.fromHex_of_isHexOf w.2.2.1
      simp only [linesFor, FLine.key?, List.filterMap_cons, List.filter_cons, hx] at this ⊢
      by_cases e : tr.cr = cr
      · simp only [e, beq_self_eq_true, if_true, List.cons.injEq, true_and]; exact this
      · have : (some tr.cr == some cr) = false := by simp [e]
        simp only [this, Bool.false_eq_true, if_false, e]; assumption

theorem quicSecrets_lines (cr : List Nat) (ls : List (FLine × Bool)) (hwf : ∀ x ∈ ls, x.1.WF) :
    quicSecrets (linesFor cr ls) = some (ls.filterMap (Lemmas.KeylogLines.lineSecOf Keylog.labelsQuic cr)) :=
  Lemmas.KeylogLines.mapM_secOf_lines Keylog.labelsQuic cr ls hwf

/-- what the key-log file says about the 0-RTT secret of the connection -/
def EarlyLine (ls : List (FLine × Bool)) (cr : List Nat) : Option Bytes → Prop
  | some e => HasLine ls labelCETS cr (Pipeline.natsOfBytes e) ∧ OnlySecret ls labelCETS cr (Pipeline.natsOfBytes e)
  | none => ∀ tr hc hv crlf, (FLine.key tr hc hv, crlf) ∈ ls → tr.cr = cr → tr.label ≠ labelCETS

/-- **the key log in FILE terms.** A key-log file of well-formed lines (`FLine.WF`: what the reader's regular expression
    accepts, or inert text) that has the four NSS lines of the connection — anywhere, any hex case, LF or CRLF, between any
    other lines, also of other connections — and no DIFFERENT secret under the same label and client random (`OnlySecret`;
    C09's consistency) gives `dev_quic_keys` exactly the connection's secrets. -/
theorem keylogHas_text (ls : List (FLine × Bool)) (hwf : ∀ x ∈ ls, x.1.WF) (cr ch sh ca sa : Bytes) (early : Option Bytes)
    (hl1 : HasLine ls labelCHTS (Pipeline.natsOfBytes cr) (Pipeline.natsOfBytes ch))
    (hl2 : HasLine ls labelSHTS (Pipeline.natsOfBytes cr) (Pipeline.natsOfBytes sh))
    (hl3 : HasLine ls labelCTS0 (Pipeline.natsOfBytes cr) (Pipeline.natsOfBytes ca))
    (hl4 : HasLine ls labelSTS0 (Pipeline.natsOfBytes cr) (Pipeline.natsOfBytes sa))
    (ho1 : OnlySecret ls labelCHTS (Pipeline.natsOfBytes cr) (Pipeline.natsOfBytes ch))
    (ho2 : OnlySecret ls labelSHTS (Pipeline.natsOfBytes cr) (Pipeline.natsOfBytes sh))
    (ho3 : OnlySecret ls labelCTS0 (Pipeline.natsOfBytes cr) (Pipeline.natsOfBytes ca))
    (ho4 : OnlySecret ls labelSTS0 (Pipeline.natsOfBytes cr) (Pipeline.natsOfBytes sa))
    (he : EarlyLine ls (Pipeline.natsOfBytes cr) early) :
    KeylogHas ((Export.fileKeysOf (some (fileText ls))).getD []) cr ch sh ca sa early := by
  obtain ⟨e1, e2, e3, e4, e5, e6⟩ := labelOf_quic
  have last : ∀ lab ∈ Keylog.labelsQuic, ∀ sec : Bytes, HasLine ls lab (Pipeline.natsOfBytes cr) (Pipeline.natsOfBytes sec) →
      OnlySecret ls lab (Pipeline.natsOfBytes cr) (Pipeline.natsOfBytes sec) →
      lastOf (Pipeline.labelOf lab) (ls.filterMap (Lemmas.KeylogLines.lineSecOf Keylog.labelsQuic (Pipeline.natsOfBytes cr))) =
        some sec := by
    intro lab hlab sec hhas honly
    rw [Lemmas.KeylogLines.lastOf_linesOf _ (fun _ h => h) _ ls lab hlab _ hhas honly, bytesOfNats_natsOfBytes]
  have q1 := last _ (by rw [e6]; simp) ch hl1 ho1
  have q2 := last _ (by rw [e6]; simp) sh hl2 ho2
  have q3 := last _ (by rw [e6]; simp) ca hl3 ho3
  have q4 := last _ (by rw [e6]; simp) sa hl4 ho4
  have m5 : labelCETS ∈ Keylog.labelsQuic := by rw [e6]; simp
  rw [e1] at q1; rw [e2] at q2; rw [e3] at q3; rw [e4] at q4
  refine ⟨⟨_, _, quicSessionKeys_fileText ls hwf _, quicSecrets_lines _ ls hwf, q1, q2, q3, q4, ?_⟩⟩
  cases early with
  | some e =>
    have := last _ m5 e he.1 he.2
    rw [e5] at this; exact this
  | none =>
    have := Lemmas.KeylogLines.lastOf_linesOf_none _ (fun _ h => h) _ ls _ m5 he
    rw [e5] at this; exact this

section Parser

/-- **What the tool's parser reads along a conformant handshake.** The CRYPTO input carrying the ServerHello makes
    `new_data` fire (the session installs the keys then), and after it and after every later input the parser's
    `ciphersuite` is the ServerHello's. -/
theorem parser_facts (h : ConfHs) (hok : h.Ok) :
    pfired (pfold {} (chIns h)) [shIn h] = true ∧
    ∀ b, b <+: tailIns h → (pfold {} (chIns h ++ shIn h :: b)).msgs.ciphersuite = some h.sh.cipherSuite := by
  obtain ⟨n1, n34, _, _, ⟨_, hm2, _⟩, st34, hfl⟩ := conformant_steps h hok
  obtain ⟨s', e, q1, q2, _⟩ := C02Hello.server_hello_parsed h.sh hok.sh h.shExts hok.shE (pfold {} (chIns h)).msgs
  have hf : feedRecords (pfold {} (chIns h)).msgs [encodeServerHello h.sh] = s' := by
    unfold encodeServerHello at e ⊢; rw [feed_one 2 (by decide), e]
  rw [hf] at hm2
  refine ⟨by simp [pfired, hm2, q2], ?_⟩
  intro b hb
  rw [show chIns h ++ shIn h :: b = (chIns h ++ [shIn h]) ++ b by simp, pfold_app, pfold_app]
  refine steps_keep (fun st => st.ciphersuite = some h.sh.cipherSuite) (fun _ hh => hh) _ _ _ st34 ?_ ?_ b hb
  · intro n hn st hst
    rw [(feed_flight_eq h hok n (fun m hm => hfl m (List.mem_flatten.mpr ⟨n, hn, hm⟩)) st).2]; exact hst
  · show (clearND (tlsUpdate (pfold {} (chIns h)) (shIn h)).1).msgs.ciphersuite = _
    simp only [clearND]
    rw [hm2]; exact q1

end Parser

section Sender
variable (maskFn : Dissect.MaskFn) (H : Crypto.Prims) (Pc : Cipher.Prims)

/-- what the two endpoints know themselves after the packets so far: has the server sent CRYPTO data (its ServerHello)?,
    the largest packet numbers sent per space and direction, the connection IDs in use -/
structure RTrk where
  shSent : Bool
  tc : PnTab
  ts : PnTab
  cc : List Bytes
  sc : List Bytes

def RTrk.step (r : RTrk) (x : SPkt) : RTrk :=
  { shSent := r.shSent || (x.srv && !(cryptoIns x).isEmpty),
    tc := if x.srv then r.tc else bump r.tc (spaceOf x.level) x.pn,
    ts := if x.srv then bump r.ts (spaceOf x.level) x.pn else r.ts,
    cc := (learn r.cc r.sc x).1, sc := (learn r.cc r.sc x).2 }

def rtrk0 : RTrk := ⟨false, {}, {}, [], []⟩

def RTrk.run (r : RTrk) (qs : List PkH) : RTrk := qs.foldl (fun r q => r.step q.x) r
def RTrk.runDgs (r : RTrk) (ds : List DgH) : RTrk := ds.foldl (fun r d => r.run d.pkts) r

/-- `HsPkOk` in the senders' terms: Handshake packets only once the ServerHello is out (RFC 9001 §4.1.4: the Handshake keys
    come from the ServerHello), header protection by the SUITE's algorithm (RFC 9001 §5.4.3 / §5.4.4), packet numbers
    relative to the sender's own largest one -/
structure HsPkR (L : SealLaws Pc) (dcid0 : Bytes) (sel : SuiteSel) (sh ch : Bytes) (r : RTrk) (q : PkH) : Prop where
  shape : LongShape q.x
  keys : q.x.level = .handshake → r.shSent = true
  late : r.shSent = true → ¬ (q.x.srv = false ∧ q.x.level = .initial) ∨ cryptoIns q.x = []
  frames : ∀ f ∈ q.x.frames, hsFrameQ f = true
  wf : WellFormedSeq q.x.frames
  pn : PnLenOk ((if q.x.srv then r.ts else r.tc).get (spaceOf q.x.level)) q.x.pn q.x.pnLen
  mask : maskFn (senderChacha (ltypeOf q.x.level) (hpChacha sel)) (lvlHp H dcid0 sel sh ch q.x.level q.x.srv)
    (longOf q.x (protectedPayload L.aeadSeal (lvlDec H dcid0 sel sh ch q.x.level).alg
      (lvlKey H dcid0 sel sh ch q.x.level q.x.srv) q.x)).sample = some q.mask
  mask5 : 5 ≤ q.mask.length

def HsPksR (L : SealLaws Pc) (dcid0 : Bytes) (sel : SuiteSel) (sh ch : Bytes) : RTrk → List PkH → Prop
  | _, [] => True
  | r, q :: qs => HsPkR maskFn H Pc L dcid0 sel sh ch r q ∧ HsPksR L dcid0 sel sh ch (r.step q.x) qs

def HsDgR (L : SealLaws Pc) (dcid0 : Bytes) (sel : SuiteSel) (sh ch : Bytes) (r : RTrk) (d : DgH) : Prop :=
  (∀ q ∈ d.pkts, q.x.srv = d.srv ∧ q.x.ts = d.ts) ∧ DcidOk r.cc r.sc d.srv (dgDcid d) ∧
  HsPksR maskFn H Pc L dcid0 sel sh ch r d.pkts

def HsDgsR (L : SealLaws Pc) (dcid0 : Bytes) (sel : SuiteSel) (sh ch : Bytes) : RTrk → List DgH → Prop
  | _, [] => True
  | r, d :: ds => HsDgR maskFn H Pc L dcid0 sel sh ch r d ∧ HsDgsR L dcid0 sel sh ch (r.run d.pkts) ds

/-- the observer's bookkeeping `t` and the senders' `r` after the CRYPTO inputs `a` -/
structure Sync (a : List CryptoIn) (t : Trk) (r : RTrk) : Prop where
  core : t.core = pfold {} a
  keyed : t.keyed = r.shSent
  sent : r.shSent = a.any (·.isServer)
  tc : t.tc = r.tc
  ts : t.ts = r.ts
  cc : t.cc = r.cc
  sc : t.sc = r.sc

theorem sync0 : Sync [] trk0 rtrk0 := ⟨rfl, rfl, rfl, rfl, rfl, rfl, rfl⟩

theorem mem_cryptoIns (x : SPkt) (c : CryptoIn) (h : c ∈ cryptoIns x) : c.isServer = x.srv ∧ c.ptype = x.level.ptype := by
  unfold cryptoIns at h
  obtain ⟨f, _, hf⟩ := List.mem_filterMap.mp h
  split at hf
  · cases hf; exact ⟨rfl, rfl⟩
  · cases hf

/-- a prefix of the handshake's CRYPTO inputs: within the ClientHello, or past the ServerHello -/
theorem prefix_cases (h : ConfHs) (a : List CryptoIn) (ha : a <+: h.ins) :
    (a <+: chIns h ∧ a.any (·.isServer) = false) ∨ (∃ b, a = chIns h ++ shIn h :: b ∧ b <+: tailIns h ∧ a.any (·.isServer) = true) := by
  rw [ins_split] at ha
  rcases List.prefix_or_prefix_of_prefix ha (List.prefix_append (chIns h) _) with h1 | h1
  · left
    refine ⟨h1, ?_⟩
    rw [List.any_eq_false]
    intro c hc
    simp [(chIns_client h c (h1.subset hc)).1]
  · obtain ⟨a', rfl⟩ := h1
    have ha' : a' <+: shIn h :: tailIns h := (List.prefix_append_right_inj _).mp ha
    cases a' with
    | nil =>
      left
      refine ⟨by simp, ?_⟩
      rw [List.any_eq_false]
      intro c hc
      simp only [List.append_nil] at hc
      simp [(chIns_client h c hc).1]
    | cons c b =>
      obtain ⟨rfl, hb⟩ := List.cons_prefix_cons.mp ha'
      right
      exact ⟨b, rfl, hb, by simp [shIn, inOf]⟩

theorem chacha_of_sel (cs : Bytes) (sel : SuiteSel) (h : selectSuite cs = some sel) :
    (cs == [0x13, 0x03]) = hpChacha sel := by
  rcases selectSuite_cases cs sel h with rfl | rfl | rfl | rfl <;> cases h <;> rfl

theorem level_ptype_initial (l : Level) (h : l.ptype = .initial) : l = .initial := by
  cases l <;> simp [Level.ptype] at h ⊢

/-- the observer's `keyed` follows the senders' `shSent` -/
theorem keyed_sync (h : ConfHs) (hok : h.Ok) (a rest : List CryptoIn) (x : SPkt)
    (hins : h.ins = a ++ cryptoIns x ++ rest) :
    (a.any (·.isServer) || (pfired (pfold {} a) (cryptoIns x) && !(!x.srv && decide (x.level = .initial)))) =
      (a.any (·.isServer) || (x.srv && !(cryptoIns x).isEmpty)) := by
  have hpre : a <+: h.ins := ⟨cryptoIns x ++ rest, by rw [hins, List.append_assoc]⟩
  rcases prefix_cases h a hpre with ⟨ha, hany⟩ | ⟨b, _, _, hany⟩
  · rw [hany, Bool.false_or, Bool.false_or]
    cases hseg : cryptoIns x with
    | nil => simp [pfired]
    | cons c seg =>
      obtain ⟨hc1, hc2⟩ := mem_cryptoIns x c (by rw [hseg]; exact List.mem_cons_self ..)
      obtain ⟨a'', ha''⟩ := ha
      have hsplit : a'' ++ shIn h :: tailIns h = c :: (seg ++ rest) := by
        have := hins
        rw [ins_split, ← ha'', hseg, List.append_assoc, List.append_assoc] at this
        simpa using List.append_cancel_left this
      cases a'' with
      | cons c' a3 =>
        simp only [List.cons_append, List.cons.injEq] at hsplit
        obtain ⟨rfl, _⟩ := hsplit
        obtain ⟨k1, k2⟩ := chIns_client h c' (by rw [← ha'']; simp)
        have hs : x.srv = false := by rw [← hc1]; exact k1
        have hl : x.level = .initial := level_ptype_initial _ (by rw [← hc2]; exact k2)
        simp [hs, hl]
      | nil =>
        simp only [List.nil_append, List.cons.injEq] at hsplit
        obtain ⟨rfl, _⟩ := hsplit
        have hs : x.srv = true := by rw [← hc1]; rfl
        have haeq : a = chIns h := by simpa using ha''
        have hfire := (parser_facts h hok).1
        simp only [pfired, Bool.or_false] at hfire
        simp [hs, pfired, haeq, hfire]
  · rw [hany]; simp

/-- past the ServerHello the parser's `ciphersuite` decides for the suite's header-protection algorithm -/
theorem chacha_sync (h : ConfHs) (hok : h.Ok) (sel : SuiteSel) (hsel : selectSuite h.sh.cipherSuite = some sel)
    (a : List CryptoIn) (ha : a <+: h.ins) (hany : a.any (·.isServer) = true) :
    chachaOf (pfold {} a) = hpChacha sel := by
  rcases prefix_cases h a ha with ⟨_, hn⟩ | ⟨b, rfl, hb, _⟩
  · rw [hn] at hany; cases hany
  · unfold chachaOf
    rw [(parser_facts h hok).2 b hb, ← chacha_of_sel _ _ hsel]
    simp

theorem sync_step (h : ConfHs) (hok : h.Ok) (a rest : List CryptoIn) (x : SPkt)
    (hins : h.ins = a ++ cryptoIns x ++ rest) (t : Trk) (r : RTrk) (hs : Sync a t r) :
    Sync (a ++ cryptoIns x) (t.step x) (r.step x) := by
  obtain ⟨s1, s2, s3, s4, s5, s6, s7⟩ := hs
  -- all CRYPTO frames of a packet go the packet's way
  have hany : (x.srv && !(cryptoIns x).isEmpty) = (cryptoIns x).any (·.isServer) := by
    cases hseg : cryptoIns x with
    | nil => simp
    | cons c seg =>
      have hall : ∀ c' ∈ c :: seg, c'.isServer = x.srv := fun c' hc' => (mem_cryptoIns x c' (by rw [hseg]; exact hc')).1
      cases hsv : x.srv
      · rw [Bool.false_and]; symm; rw [List.any_eq_false]; intro c' hc'; simp [hall c' hc', hsv]
      · have := hall c (List.mem_cons_self ..)
        simp [this, hsv]
  have hsent : (r.step x).shSent = (a ++ cryptoIns x).any (·.isServer) := by
    simp only [RTrk.step, s3, List.any_append]
    rw [hany]
  refine ⟨?_, ?_, hsent, ?_, ?_, ?_, ?_⟩
  · simp only [Trk.step, s1, pfold_app]
  · rw [hsent]
    simp only [Trk.step, s1, s2, s3]
    rw [keyed_sync h hok a rest x hins, List.any_append, hany]
  · simp only [Trk.step, RTrk.step, s4]
  · simp only [Trk.step, RTrk.step, s5]
  · simp only [Trk.step, RTrk.step, s6, s7]
  · simp only [Trk.step, RTrk.step, s6, s7]

variable {maskFn H Pc}

theorem pkOk_of_rfc (h : ConfHs) (hok : h.Ok) (L : SealLaws Pc) (dcid0 : Bytes) (sel : SuiteSel) (sh ch : Bytes)
    (hsel : selectSuite h.sh.cipherSuite = some sel) (a : List CryptoIn) (ha : a <+: h.ins) (t : Trk) (r : RTrk)
    (hs : Sync a t r) (q : PkH) (hq : HsPkR maskFn H Pc L dcid0 sel sh ch r q) :
    HsPkOk maskFn H Pc L dcid0 sel sh ch t q := by
  obtain ⟨q1, q2, q3, q4, q5, q6, q7, q8⟩ := hq
  refine ⟨q1, fun hl => by rw [hs.keyed]; exact q2 hl, fun hk => q3 (by rw [← hs.keyed]; exact hk), q4, q5,
    by rw [hs.tc, hs.ts]; exact q6, ?_, q8⟩
  rcases q1.level with hl | hl
  · rw [hl] at q7 ⊢; exact q7
  · have hk := q2 hl
    rw [hs.sent] at hk
    rw [hs.core, chacha_sync h hok sel hsel a ha hk]
    exact q7

theorem pks_of_rfc (h : ConfHs) (hok : h.Ok) (L : SealLaws Pc) (dcid0 : Bytes) (sel : SuiteSel) (sh ch : Bytes)
    (hsel : selectSuite h.sh.cipherSuite = some sel) (qs : List PkH) (a rest : List CryptoIn)
    (hins : h.ins = a ++ insOf qs ++ rest) (t : Trk) (r : RTrk) (hs : Sync a t r)
    (hq : HsPksR maskFn H Pc L dcid0 sel sh ch r qs) :
    HsPks maskFn H Pc L dcid0 sel sh ch t qs ∧ Sync (a ++ insOf qs) (t.run qs) (r.run qs) := by
  induction qs generalizing a t r with
  | nil => exact ⟨trivial, by simpa [insOf, Trk.run, RTrk.run] using hs⟩
  | cons q qs ih =>
    obtain ⟨hq1, hq2⟩ := hq
    have hins' : h.ins = a ++ cryptoIns q.x ++ (insOf qs ++ rest) := by
      rw [hins]; simp [insOf, List.flatMap_cons, List.append_assoc]
    have hpre : a <+: h.ins := ⟨cryptoIns q.x ++ (insOf qs ++ rest), by rw [hins', List.append_assoc]⟩
    have hstep := sync_step h hok a _ q.x hins' t r hs
    obtain ⟨i1, i2⟩ := ih (a ++ cryptoIns q.x) (by rw [hins', List.append_assoc, List.append_assoc, List.append_assoc]) (t.step q.x) (r.step q.x) hstep hq2
    refine ⟨⟨pkOk_of_rfc h hok L dcid0 sel sh ch hsel a hpre t r hs q hq1, i1⟩, ?_⟩
    have : a ++ insOf (q :: qs) = a ++ cryptoIns q.x ++ insOf qs := by simp [insOf, List.flatMap_cons, List.append_assoc]
    rw [this]
    exact i2

theorem dgs_of_rfc (h : ConfHs) (hok : h.Ok) (L : SealLaws Pc) (dcid0 : Bytes) (sel : SuiteSel) (sh ch : Bytes)
    (hsel : selectSuite h.sh.cipherSuite = some sel) (ds : List DgH) (a rest : List CryptoIn)
    (hins : h.ins = a ++ allIns ds ++ rest) (t : Trk) (r : RTrk) (hs : Sync a t r)
    (hd : HsDgsR maskFn H Pc L dcid0 sel sh ch r ds) :
    HsDgs maskFn H Pc L dcid0 sel sh ch t ds ∧ Sync (a ++ allIns ds) (t.runDgs ds) (r.runDgs ds) := by
  induction ds generalizing a t r with
  | nil => exact ⟨trivial, by simpa [allIns, Trk.runDgs, RTrk.runDgs] using hs⟩
  | cons d ds ih =>
    obtain ⟨⟨d1, d2, d3⟩, hd2⟩ := hd
    have hins' : h.ins = a ++ insOf d.pkts ++ (allIns ds ++ rest) := by
      rw [hins]; simp [allIns, List.flatMap_cons, List.append_assoc]
    obtain ⟨p1, p2⟩ := pks_of_rfc h hok L dcid0 sel sh ch hsel d.pkts a _ hins' t r hs d3
    obtain ⟨i1, i2⟩ := ih (a ++ insOf d.pkts) (by rw [hins', List.append_assoc, List.append_assoc, List.append_assoc]) (t.run d.pkts) (r.run d.pkts) p2 hd2
    refine ⟨⟨⟨d1, by rw [hs.cc, hs.sc]; exact d2, p1⟩, i1⟩, ?_⟩
    have : a ++ allIns (d :: ds) = a ++ insOf d.pkts ++ allIns ds := by simp [allIns, List.flatMap_cons, List.append_assoc]
    rw [this]
    exact i2

end Sender

/-- the senders' twin of `HsPkOk.of_checks` (Lemmas/HsPkChecks): one evaluation per packet serves both -/
theorem HsPkR.of_checks {maskFn : Dissect.MaskFn} {H : Crypto.Prims} {Pc : Cipher.Prims} {L : SealLaws Pc} {dcid0 : Bytes}
    {sel : SuiteSel} {sh ch : Bytes} {r : RTrk} {q : PkH}
    (h : HsPkChecks maskFn H Pc L dcid0 sel sh ch r.shSent (hpChacha sel) r.tc r.ts q) :
    HsPkR maskFn H Pc L dcid0 sel sh ch r q :=
  match h with
  | ⟨⟨a, b, c, d, e, f, g, i⟩, keys, late, frames, wf, pn, mask, mask5⟩ =>
    ⟨⟨a, b, c, d, e, f, g, i⟩, keys, late, frames, wf, pn, mask, mask5⟩

section CaptureRfc
variable (maskFn : Quic.Dissect.MaskFn) (H : Crypto.Prims) (Pc : Cipher.Prims)

/-- the handshake / 1-RTT datagrams of a described capture, in capture order -/
def hsOf : List QEv → List DgH
  | [] => []
  | .hs _ _ _ d :: rest => d :: hsOf rest
  | _ :: rest => hsOf rest

def onesOf : List QEv → List Dg1
  | [] => []
  | .one _ _ _ d :: rest => d :: onesOf rest
  | _ :: rest => onesOf rest

theorem hsItems_dgs (fl : Flow) (kl : List Keylog.Key) (n : Nat) (evs : List QEv) :
    (hsItems fl kl n evs).map (·.2.2) = hsOf evs := by
  induction evs generalizing n with
  | nil => rfl
  | cons ev rest ih => cases ev <;> simp [hsItems, hsOf, ih]

theorem oneItems_dgs (fl : Flow) (n : Nat) (evs : List QEv) : (oneItems fl n evs).map (·.2) = onesOf evs := by
  induction evs generalizing n with
  | nil => rfl
  | cons ev rest ih => cases ev <;> simp [oneItems, onesOf, ih]

theorem hsItems_pre (fl : Flow) (kl : List Keylog.Key) (n : Nat) (pre rest : List QEv) (h : ∀ ev ∈ pre, noHs ev = true) :
    hsItems fl kl n (pre ++ rest) = hsItems fl kl (n + pre.length) rest := by
  induction pre generalizing n with
  | nil => rfl
  | cons ev pre ih =>
    have h1 := h ev (List.mem_cons_self ..)
    have := ih (n + 1) (fun e he => h e (List.mem_cons_of_mem _ he))
    cases ev with
    | hs _ _ _ _ => cases h1
    | one _ _ _ _ => simp only [List.cons_append, hsItems, this, List.length_cons]; congr 1; omega
    | foreign _ => simp only [List.cons_append, hsItems, this, List.length_cons]; congr 1; omega

/-- **C02's hypotheses in RFC / file terms.** Nothing here mentions the tool's state.
    * the suite: the ServerHello's code point is a TLS 1.3 one (RFC 8446 B.4) and `(sp, sel)` is what its IANA name denotes
      (`Spec.RfcQuic.quicSuite`: `Spec.Iana` + `Spec.denote`, RFC 9001 §5.3);
    * the key log: the TEXT `fileText ls` of a file of well-formed lines (`FLine.WF`: what the reader's regular expression
      accepts, or inert text; lines of other connections included) has the connection's four NSS lines and no different secret
      for the same label and client random; `early` is the CLIENT_EARLY_TRAFFIC_SECRET line's secret if there is one;
    * the capture: `pre` (no handshake datagram of the connection), the client's first datagram `d0`, the other events of the
      handshake phase, then the 1-RTT phase — each datagram with the wire bytes of RFC 9000 / 9001 under the keys the RFC
      schedule derives from the secrets in the file;
    * the senders: `HsDgsR` / `Send1` relative to THEIR OWN bookkeeping `RTrk` (packet numbers sent, CIDs in use, ServerHello
      sent), header protection by the suite's algorithm `hpChacha sel`. -/
structure QuicCaptureRfc (L : SealLaws Pc) (args : Args) (ls : List (FLine × Bool)) (pm : List (Int × Int))
    (ports : List Int) (fl : Flow) (hs : ConfHs) (ch sh ca sa : Bytes) (early : Option Bytes) (sp : SuiteSpec)
    (sel : SuiteSel) (pre : List QEv) (t0 : Container.Time) (fr0 : Spec.FrameBuild.Frame) (u0 : Udp) (d0 : DgH)
    (restH evsO : List QEv) : Prop where
  lawful : H.Lawful
  sha256 : H.sha256.outLen = 32
  times : ∀ e ∈ ((pre ++ .hs t0 fr0 u0 d0 :: restH) ++ evsO).map QEv.cap, Ingest.isMinusOne e.t = false
  noc : args.checksumTest = false
  nometa : args.metadata = false
  pmOk : Options.getPortMap Options.Src.bare args.mArg = .ok pm
  portsOk : Options.serverPorts Options.Src.builtin Options.Src.pDefault args.pArg = .ok ports
  endpoints : clientEp fl ≠ serverEp fl
  clientPort : ports.contains (fl.clientPort : Int) = false
  hsOk : hs.Ok
  /-- the suite, by the registry -/
  tls13 : hs.sh.cipherSuite ∈ tls13Codes
  suite : quicSuite (Bytes.beNat hs.sh.cipherSuite) = some (sp, sel)
  outLen : (hashOf H sel.hash).outLen < 65536
  saLen : sa.length = (hashOf H sel.hash).outLen
  caLen : ca.length = (hashOf H sel.hash).outLen
  /-- the key-log file, as text -/
  linesWf : ∀ x ∈ ls, x.1.WF
  lineCH : HasLine ls labelCHTS (Pipeline.natsOfBytes hs.ch.random) (Pipeline.natsOfBytes ch)
  lineSH : HasLine ls labelSHTS (Pipeline.natsOfBytes hs.ch.random) (Pipeline.natsOfBytes sh)
  lineCA : HasLine ls labelCTS0 (Pipeline.natsOfBytes hs.ch.random) (Pipeline.natsOfBytes ca)
  lineSA : HasLine ls labelSTS0 (Pipeline.natsOfBytes hs.ch.random) (Pipeline.natsOfBytes sa)
  onlyCH : OnlySecret ls labelCHTS (Pipeline.natsOfBytes hs.ch.random) (Pipeline.natsOfBytes ch)
  onlySH : OnlySecret ls labelSHTS (Pipeline.natsOfBytes hs.ch.random) (Pipeline.natsOfBytes sh)
  onlyCA : OnlySecret ls labelCTS0 (Pipeline.natsOfBytes hs.ch.random) (Pipeline.natsOfBytes ca)
  onlySA : OnlySecret ls labelSTS0 (Pipeline.natsOfBytes hs.ch.random) (Pipeline.natsOfBytes sa)
  earlyLine : EarlyLine ls (Pipeline.natsOfBytes hs.ch.random) early
  /-- the capture -/
  preNoHs : ∀ ev ∈ pre, noHs ev = true
  fromClient : d0.srv = false
  described : QDescribed fl (dgWire H Pc L (dgDcid d0) sel sh ch)
    (wireOf H Pc L sel .v1 (rfcGen (hashOf H sel.hash) sel.keyLen sa ca 0)) (optsOf args ports pm)
    ((pre ++ .hs t0 fr0 u0 d0 :: restH) ++ evsO)
  phaseH : ∀ ev ∈ pre ++ .hs t0 fr0 u0 d0 :: restH, noOne ev = true
  phaseO : ∀ ev ∈ evsO, noHs ev = true
  /-- the senders -/
  hsDgs : HsDgsR maskFn H Pc L (dgDcid d0) sel sh ch rtrk0 (d0 :: hsOf restH)
  hsIns : allIns (d0 :: hsOf restH) = hs.ins
  send1 : Send1 maskFn H Pc L sel .v1 (rfcGen (hashOf H sel.hash) sel.keyLen sa ca 0)
      (quicHp (hashOf H sel.hash) ca sel.keyLen) (quicHp (hashOf H sel.hash) sa sel.keyLen) (hpChacha sel) 0 0
      (rtrk0.runDgs (d0 :: hsOf restH)).tc.app (rtrk0.runDgs (d0 :: hsOf restH)).ts.app
      (rtrk0.runDgs (d0 :: hsOf restH)).cc (rtrk0.runDgs (d0 :: hsOf restH)).sc (onesOf evsO)
  routes : Routes1 (wireOf H Pc L sel .v1 (rfcGen (hashOf H sel.hash) sel.keyLen sa ca 0))
      (rtrk0.runDgs (d0 :: hsOf restH)).cc (rtrk0.runDgs (d0 :: hsOf restH)).sc (onesOf evsO)
  distinct : ((onesOf evsO).map fun d => (d.x.ts, d.x.srv)).Pairwise (· ≠ ·)

variable {maskFn H Pc}

/-- every tool-side hypothesis of `C02File.QuicCapture` DERIVED: the tool's suite table from the IANA denotation, what
    `dev_quic_keys` reads from the file text, the parser state (`parser_facts`), `keyed`, the header-protection switch, the
    learnt connection IDs and packet numbers from the senders' own -/
theorem capture_of_rfc {L : SealLaws Pc} {args : Args} {ls : List (FLine × Bool)} {pm : List (Int × Int)}
    {ports : List Int} {fl : Flow} {hs : ConfHs} {ch sh ca sa : Bytes} {early : Option Bytes} {sp : SuiteSpec}
    {sel : SuiteSel} {pre : List QEv} {t0 : Container.Time} {fr0 : Spec.FrameBuild.Frame} {u0 : Udp} {d0 : DgH}
    {restH evsO : List QEv}
    (h : QuicCaptureRfc maskFn H Pc L args ls pm ports fl hs ch sh ca sa early sp sel pre t0 fr0 u0 d0 restH evsO) :
    QuicCapture maskFn H Pc L args (some (fileText ls)) pm ports fl hs ch sh ca sa early sel
      (pre ++ .hs t0 fr0 u0 d0 :: restH) evsO ((fileKeysOf (some (fileText ls))).getD [])
      (dgPkt fl false u0.payload pre.length) d0
      (hsItems fl ((fileKeysOf (some (fileText ls))).getD []) (pre.length + 1) restH) := by
  obtain ⟨hsel, _, _⟩ := selectSuite_tls13 _ h.tls13 sp sel h.suite
  have hdgs : (hsItems fl ((fileKeysOf (some (fileText ls))).getD []) (pre.length + 1) restH).map (·.2.2) = hsOf restH :=
    hsItems_dgs ..
  obtain ⟨k1, k2⟩ := dgs_of_rfc hs h.hsOk L (dgDcid d0) sel sh ch hsel (d0 :: hsOf restH) [] []
    (by rw [h.hsIns]; simp) trk0 rtrk0 sync0 h.hsDgs
  have hkeyed : (trk0.runDgs (d0 :: hsOf restH)).keyed = true := by
    rw [k2.keyed, k2.sent, List.nil_append, h.hsIns, ins_split]
    simp [shIn, inOf]
  have hch : chachaOf (trk0.runDgs (d0 :: hsOf restH)).core = hpChacha sel := by
    rw [k2.core]
    refine chacha_sync hs h.hsOk sel hsel _ (by rw [List.nil_append, h.hsIns]; exact List.prefix_refl _) ?_
    rw [List.nil_append, h.hsIns, ins_split]; simp [shIn, inOf]
  exact
    { lawful := h.lawful, sha256 := h.sha256, times := h.times, noc := h.noc, nometa := h.nometa, pmOk := h.pmOk,
      portsOk := h.portsOk, endpoints := h.endpoints, clientPort := h.clientPort, hsOk := h.hsOk, suite := hsel,
      outLen := h.outLen, saLen := h.saLen, caLen := h.caLen,
      keylog := keylogHas_text ls h.linesWf _ _ _ _ _ early h.lineCH h.lineSH h.lineCA h.lineSA h.onlyCH h.onlySH h.onlyCA
        h.onlySA h.earlyLine,
      first := by
        rw [hsItems_pre fl _ 0 pre _ h.preNoHs, Nat.zero_add]
        simp only [hsItems, h.fromClient]
      fromClient := h.fromClient, described := h.described, phaseH := h.phaseH, phaseO := h.phaseO,
      hsDgs := by rw [hdgs]; exact k1,
      hsIns := by rw [hdgs]; exact h.hsIns,
      keyed := by rw [hdgs]; exact hkeyed,
      send1 := by
        rw [hdgs, oneItems_dgs, hch, k2.tc, k2.ts, k2.cc, k2.sc]; exact h.send1
      routes := by rw [hdgs, oneItems_dgs, k2.cc, k2.sc]; exact h.routes
      distinct := by rw [oneItems_dgs]; exact h.distinct }

/-- **C02 FROM FILE TO FILE, hypotheses in RFC / file terms only.** For the bytes of a capture file in any container variant
    (independent encoder) and the TEXT of a key-log file: a QUIC v1 connection with a conformant TLS 1.3 handshake, any of
    the four suites by their IANA denotation, whose secrets' NSS lines stand in the file, sent as RFC 9000 / 9001 say relative
    to the senders' own bookkeeping — the tool writes a file that reads back exactly the connection's block (or aborts in
    the write loop). No hypothesis mentions the tool's state (`QuicCaptureRfc`). -/
theorem quic_capture_exact_rfc {L : SealLaws Pc} {args : Args} {ls : List (FLine × Bool)} {pm : List (Int × Int)}
    {ports : List Int} {fl : Flow} {hs : ConfHs} {ch sh ca sa : Bytes} {early : Option Bytes} {sp : SuiteSpec}
    {sel : SuiteSel} {pre : List QEv} {t0 : Container.Time} {fr0 : Spec.FrameBuild.Frame} {u0 : Udp} {d0 : DgH}
    {restH evsO : List QEv}
    (h : QuicCaptureRfc maskFn H Pc L args ls pm ports fl hs ch sh ca sa early sp sel pre t0 fr0 u0 d0 restH evsO)
    (cv : Spec.Containers.Variant) (cevs : List Spec.Containers.Ev) (hcwf : cv.WF cevs)
    (hitems : cevs.filterMap (Spec.Containers.scale cv) =
      (((pre ++ .hs t0 fr0 u0 d0 :: restH) ++ evsO).map QEv.cap).map CapEv.item) :
    (∃ e, exportFile maskFn H Pc args cv.isLegacy (some (fileText ls)) (Spec.Containers.encode cv cevs) = .abort (.write e)) ∨
    ∃ f, exportFile maskFn H Pc args cv.isLegacy (some (fileText ls)) (Spec.Containers.encode cv cevs) = .file f ∧
      ReadsBack f (blockOf (maskFn := maskFn) (H := H) (Pc := Pc) args pm ports fl (pre ++ .hs t0 fr0 u0 d0 :: restH) evsO
        (dgPkt fl false u0.payload pre.length)) :=
  quic_capture_exact_encoded (capture_of_rfc h) cv cevs hcwf hitems

/-- **C02 from file to file in RFC / file terms, no abort.** `quic_capture_exact_rfc` without the abort alternative, under the
    explicit ranges of `C02File.quic_capture_exact_ranges` (no TCP payload in the capture; exported server port, STREAM data
    per datagram and capture microseconds in range): the file IS written and reads back exactly `blockOf`. -/
theorem quic_capture_rfc_ranges {L : SealLaws Pc} {args : Args} {ls : List (FLine × Bool)} {pm : List (Int × Int)}
    {ports : List Int} {fl : Flow} {hs : ConfHs} {ch sh ca sa : Bytes} {early : Option Bytes} {sp : SuiteSpec}
    {sel : SuiteSel} {pre : List QEv} {t0 : Container.Time} {fr0 : Spec.FrameBuild.Frame} {u0 : Udp} {d0 : DgH}
    {restH evsO : List QEv}
    (h : QuicCaptureRfc maskFn H Pc L args ls pm ports fl hs ch sh ca sa early sp sel pre t0 fr0 u0 d0 restH evsO)
    (cv : Spec.Containers.Variant) (cevs : List Spec.Containers.Ev) (hcwf : cv.WF cevs)
    (hitems : cevs.filterMap (Spec.Containers.scale cv) =
      (((pre ++ .hs t0 fr0 u0 d0 :: restH) ++ evsO).map QEv.cap).map CapEv.item)
    (hforeign : ∀ e, QEv.foreign e ∈ (pre ++ .hs t0 fr0 u0 d0 :: restH) ++ evsO → ∀ tag, NotTls (pktOf tag e.d))
    (hsp : TcpOut.exportedServerPort (Options.keepOriginalPorts args.mArg) (Pipeline.portmapFn pm) fl.serverPort < 65536)
    (hlen : ∀ d ∈ onesOf evsO, (if fl.v6 then 0 else 20) + 8 + (streamData d.x.frames).flatten.length < 65536)
    (hts : ∀ d ∈ onesOf evsO, d.x.ts < 2 ^ 64) :
    ∃ f, exportFile maskFn H Pc args cv.isLegacy (some (fileText ls)) (Spec.Containers.encode cv cevs) = .file f ∧
      ReadsBack f (blockOf (maskFn := maskFn) (H := H) (Pc := Pc) args pm ports fl (pre ++ .hs t0 fr0 u0 d0 :: restH) evsO
        (dgPkt fl false u0.payload pre.length)) :=
  quic_capture_exact_ranges (capture_of_rfc h) cv.isLegacy _ (by rw [Props.C12.reader_roundtrip cv cevs hcwf, hitems])
    hforeign hsp (by rw [oneItems_dgs]; exact hlen) (by rw [oneItems_dgs]; exact hts)

/-- what C02 demands of the output, in the senders' terms alone: one UDP frame per 1-RTT datagram that carried a STREAM
    frame, in capture order, payload = that datagram's STREAM data, its capture microsecond, between the client's endpoint
    and the server's address with the exported port, MAC addresses and IP version of the client's first datagram -/
def blockR (args : Args) (pm : List (Int × Int)) (fl : Flow) (fr0 : Spec.FrameBuild.Frame) (ds : List Dg1) :
    List Pipeline.OutPkt :=
  (ds.filter fun d => hasStream d.x.frames).map fun d =>
    let s : MainLoop.Endpoint := ⟨(serverEp fl).ip,
      TcpOut.exportedServerPort (Options.keepOriginalPorts args.mArg) (Pipeline.portmapFn pm) (serverEp fl).port⟩
    if d.x.srv then ⟨d.x.ts, fr0.dstMac, fr0.srcMac, s, clientEp fl, fl.v6, 0, 0, 0, (streamData d.x.frames).flatten, true⟩
    else ⟨d.x.ts, fr0.srcMac, fr0.dstMac, clientEp fl, s, fl.v6, 0, 0, 0, (streamData d.x.frames).flatten, true⟩

theorem blockOf_rfc {L : SealLaws Pc} {args : Args} {ls : List (FLine × Bool)} {pm : List (Int × Int)}
    {ports : List Int} {fl : Flow} {hs : ConfHs} {ch sh ca sa : Bytes} {early : Option Bytes} {sp : SuiteSpec}
    {sel : SuiteSel} {pre : List QEv} {t0 : Container.Time} {fr0 : Spec.FrameBuild.Frame} {u0 : Udp} {d0 : DgH}
    {restH evsO : List QEv}
    (h : QuicCaptureRfc maskFn H Pc L args ls pm ports fl hs ch sh ca sa early sp sel pre t0 fr0 u0 d0 restH evsO) :
    blockOf (maskFn := maskFn) (H := H) (Pc := Pc) args pm ports fl (pre ++ .hs t0 fr0 u0 d0 :: restH) evsO
      (dgPkt fl false u0.payload pre.length) = blockR args pm fl fr0 (onesOf evsO) := by
  obtain ⟨c1, c2, c3, c4, _⟩ := conn_of_capture (capture_of_rfc h)
  have hev : QEv.hs t0 fr0 u0 d0 ∈ (pre ++ .hs t0 fr0 u0 d0 :: restH) ++ evsO := by simp
  obtain ⟨hdg, _, _, _⟩ := h.described _ hev
  rw [h.fromClient] at hdg
  have hinfo := capInfo_dg fl false fr0 u0 hdg (((pre ++ .hs t0 fr0 u0 d0 :: restH) ++ evsO).map QEv.cap) pre.length t0
    (by simp [QEv.cap])
  generalize hc : (quicMachine maskFn H Pc (capInfo (((pre ++ .hs t0 fr0 u0 d0 :: restH) ++ evsO).map QEv.cap))).new
    (optsOf args ports pm) (dgPkt fl false u0.payload pre.length) = c at c1 c2 c3 c4
  have m1 : c.serverMac = fr0.dstMac := by
    rw [← hc]; simp only [quicMachine_new, dgPkt, clientEp, optsOf, h.clientPort, hinfo, Bool.false_eq_true, if_false]
  have m2 : c.clientMac = fr0.srcMac := by
    rw [← hc]; simp only [quicMachine_new, dgPkt, clientEp, optsOf, h.clientPort, hinfo, Bool.false_eq_true, if_false]
  unfold blockOf blockR expectedOut
  rw [hc, oneItems_dgs]
  apply List.map_congr_left
  intro d _
  simp only [addressed, c1, c2, c3, c4, m1, m2]
  rfl

end CaptureRfc

end TLX.Props.C02Rfc
