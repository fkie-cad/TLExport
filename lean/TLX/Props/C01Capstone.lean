/-
C01 for a WHOLE TLS connection at the level of `Pipeline.connOut`: packets in → addressed frames out, one theorem per
protocol family. Every theorem is proved from the reassembly conclusion alone — the records released for each direction are
the transcript's —, the in-order delivery model (`Props/C05.reassembly_exact_inorder`) being one way to get it:
`conn_of_release` (hello pair, then any interleaving of two scripts of any kind, then the builder) with its instances
`tls12_of_release`, `tls13_of_release` when the two hellos are released first (`Causal13`); `tls12_plain_of_release` for
≤ 1.2 without `-a` under the weaker `Causal12`, with a hello phase of its own. Suite table, key log and key schedule enter
as the one proposition `Lemmas/Pipeline.Installs`.
Sender-side specification: `Spec/TlsConnection` (`Transcript`: the two hello records, then per side a script `DirEv`;
`Script12`, `Script13`; the byte stream of a direction = concatenation of its records).

  `tls12_connection_exact`   SSL 3.0 – TLS 1.2, every class with `is13 = false`; covers False Start, NewSessionTicket
                             before the server's CCS, any grouping of clear-text handshake messages into records whose
                             first byte is not 01 / 02, protected handshake records among the application data
  `tls13_connection_exact`   TLS 1.3 with the four traffic secrets; dummy CCS records anywhere, protected handshake
                             records of whole messages anywhere (tickets in the application epoch: type ≠ 20, nothing
                             happens), each Finished switching that side's epoch
  Conclusion of both: `connOut = some (frames.map (addressed c.opts c))` — `addressed` orients MACs / IPs / ports by
  `fromServer` and exports the server port per `-m` —, `Spec.reassemble frames = some (client plaintext, server
  plaintext)` (well-formed conversation; nothing lost, added, duplicated, reordered, left encrypted), and every data
  segment's time is the capture time of a carrier packet of a released record of its direction.
  Capture hypotheses: `DeliveredInOrder` (per direction: any cuts, exact duplicates, any ISN incl. wrap; stream < 2^31)
  and causality on the order in which reassembly RELEASES records: `Causal12` = every record released before the
  first server record is a client record and no ChangeCipherSpec, and there is one (ClientHello before ServerHello,
  ServerHello before the client's CCS); `Causal13` = the first released record is the client's, the second the
  server's. Nothing else about the interleaving. Both halves are needed: `Ex` (1), (2).
  Hypotheses the RFCs do not give:
  `tls12_connection_exact_statement` / `Ex.tls12_connection_exact_counterexample`   any fragmentation of clear-text handshake messages: a
                             continuation record starting with byte 01 is taken for a ClientHello, everything is lost
  `Ex.fragRun`               TLS 1.3 handshake messages fragmented across protected records: exported with the
                             per-direction handshake buffer (`Props/C01Capstone2.tls13_connection_exact_fragmented`); the
                             per-record walk it replaced missed the Finished
  Not covered: early data, HelloRetryRequest, KeyUpdate, alerts, renegotiation, record compression. Displaced segments:
  `Props/C01Capstone2` (through `Props.C05.reassembly_exact_partial`; the same theorems from the release order).
Non-vacuity: `Ex.tls12_instance`, `Ex.tls13_instance` discharge EVERY hypothesis for concrete connections (regenerated
suite table, key-log lines, toy primitives) and agree with kernel evaluation of `connOut` on the same packets.
-/
import TLX.Lemmas.CapstoneF
-- `tls12_connection_exact_statement` is a `Prop` whose binders are the named hypotheses of the theorem it restates
set_option linter.unusedVariables false
namespace TLX.Props.C01Capstone
open TLX TLX.Cipher TLX.RecordLayer TLX.Spec.TlsSender TLX.Props.C01 TLX.Lemmas.Pipeline TLX.Spec.TlsConnection
open TLX.Lemmas.Capstone TLX.Props.C01Pipeline TLX.Spec.TlsFraming

/-- the capture delivers both directions of the transcript in order: each direction's TCP segments (as the session sees
    them, `dirSegs`) are an in-order delivery — any cut into segments, exact duplicates, any initial sequence number —
    of that direction's byte stream, which is shorter than 2^31 (half the sequence-number space: within it the reassembler's
    wrap-around comparisons are unambiguous, `Props.C05`) -/
def DeliveredInOrder (info : Nat → Pipeline.Info) (c : Pipeline.Conn) (streams : Bool → Bytes) : Prop :=
  ∀ d, (∃ isn, InOrder isn (streams d) ((dirSegs info c.server d c.pkts).map Props.C05.wire)) ∧
    (streams d).length ≤ 2 ^ 31

/-- Causality, TLS ≤ 1.2, stated on the order in which reassembly releases records (`connRecs`): every record released
    before the first server record is a client record and no ChangeCipherSpec, and there is at least one (the
    ClientHello) — i.e. the ClientHello is released before the ServerHello, the ServerHello before the client's
    ChangeCipherSpec. Nothing else is assumed about the interleaving of the two directions. -/
def Causal12 (M : List (Session.Rec × Bool)) : Prop :=
  ∃ pre post, M = pre ++ post ∧ pre ≠ [] ∧ (∀ q ∈ pre, q.2 = false ∧ q.1.typ ≠ some 20) ∧
    ∃ q post', post = q :: post' ∧ q.2 = true

/-- the sender's cipher states right after the key block of SSL 3.0 – TLS 1.2 is installed -/
def legacySnd (k : KeySchedule.Keys6) : Snd :=
  ⟨SDir.init k.clientKey k.clientIv [] [], SDir.init k.serverKey k.serverIv [] []⟩

/-- every exported data segment carries the capture time of a packet that is a carrier of a released record of its
    direction (which packets are a record's carriers: `Props.C05.metadata_is_overlap`) -/
def TimesFromCarriers (info : Nat → Pipeline.Info) (c : Pipeline.Conn) (frames : List TcpOut.Frame) : Prop :=
  ∀ d ts p, (d, ts, p) ∈ TcpOut.dataFrames frames →
    ∃ q ∈ connRecs info c, q.2 = d ∧ ∃ id ∈ q.1.carriers, ts = (info id).ts

/-- builder end of every connection theorem: from the per-direction plaintext of the session's traffic to the frames -/
theorem export_of_dirPlain (H : Crypto.Prims) (P : Prims) (kl : List Keylog.Key) (info : Nat → Pipeline.Info)
    (c : Pipeline.Conn) (pc psv : Bytes)
    (h : ∀ d, dirPlain d (Session.run (Pipeline.ops H P kl) c.opts.metadata Session.St.init (connRecs info c)).traffic
      = if d then psv else pc) :
    ∃ frames, Pipeline.connOut H P info c kl = some (frames.map (Pipeline.addressed c.opts c)) ∧
      Spec.reassemble frames = some (pc, psv) ∧ TimesFromCarriers info c frames := by
  obtain ⟨frames, hb, hout⟩ := connOut_some H P info c kl
  refine ⟨frames, hout, ?_, ?_⟩
  · rw [Props.C06.reassemble_build _ _ hb, dirBytes_toRec, dirBytes_toRec, h false, h true]; rfl
  · intro d ts p hm
    obtain ⟨r, hr, ps', _, j, _, hts, hdir⟩ := Props.C07.out_ts_from_carrier _ _ hb d ts p hm
    obtain ⟨e, he, rfl⟩ := List.mem_map.mp hr
    have horig := Props.C07.entry_origin (Pipeline.ops H P kl) c.opts.metadata (connRecs info c) e he
    refine ⟨(e.record, e.fromServer), horig, hdir, ?_⟩
    have hmem : ts ∈ (toRec (fun id => (info id).ts) e).ts := List.mem_of_getElem? hts
    simp only [toRec, List.mem_map] at hmem
    obtain ⟨id, hid, rfl⟩ := hmem
    exact ⟨id, hid, rfl⟩

theorem released_inorder (info : Nat → Pipeline.Info) (c : Pipeline.Conn) (recs : Bool → List Bytes)
    (hwr : ∀ d, ∀ r ∈ recs d, WholeRecord r) (hdel : DeliveredInOrder info c (fun d => (recs d).flatten)) :
    ∀ d, ((connRecs info c).filter fun q => q.2 == d).map (·.1.raw) = recs d := by
  intro d
  obtain ⟨⟨isn, hio⟩, hl⟩ := hdel d
  exact released_of_run info c.server _ c.pkts d 0 isn _ (by cases d <;> rfl) (hwr d) hio
    fun hw => Props.C05.reassembly_exact_inorder isn _ _ hio hw hl

theorem installs12 (H : Crypto.Prims) (P : Prims) (L : SealLaws P) (kl : List Keylog.Key)
    (ch : Spec.TlsHello.ClientHello) (sh : Spec.TlsHello.ServerHello) (hsh : sh.WellFormed)
    (v : Session.Ver) (hvne : v ≠ .tls13)
    (ps : CipherSuite.Params) (hres : CipherSuite.resolve (Bytes.beNat sh.cipherSuite) = some ps)
    (a : Pipeline.SuiteArgs) (hargs : Pipeline.suiteArgs ps = some a)
    (f : Keylog.Key) (fs : List Keylog.Key)
    (hfound : (Keylog.findSessionSecrets kl (Pipeline.natsOfBytes ch.random)).filter
        (fun k => k.label == Keylog.s_CLIENT_RANDOM || k.label == Keylog.s_RSA) = f :: fs)
    (secrets : List KeySchedule.Secret) (hsec : Pipeline.secretsOf false (f :: fs) = some secrets)
    (k : KeySchedule.Keys6)
    (hgen : KeySchedule.generateKeys H (Pipeline.ksVersion v) a.ks secrets ch.random sh.random
      = .ok (some (.legacy k)))
    (cls : CipherClass)
    (hcls : classOf a.bulk (Pipeline.rlVersion v)
      (Session.extGet ((sh.extensions.getD []).map extPair) [0x00, 0x16]).isSome a.tagLen = some cls)
    (hmac : 0 < (KeySchedule.macSuite H a.ks.mac).outLen)
    (hck : KeyMatOk cls k.clientKey k.clientIv) (hsk : KeyMatOk cls k.serverKey k.serverIv) :
    Installs H P kl ch sh v cls (KeySchedule.macSuite H a.ks.mac).outLen (legacySnd k) := by
  have h13 : cls.is13 = false := classOf_legacy hcls hvne
  exact ⟨⟨fun h => absurd h hvne, fun h => by rw [h13] at h; cases h⟩,
    genKeys_installs_rel_legacy H P L kl v hvne sh.cipherSuite ch.random sh.random
      ((sh.extensions.getD []).map extPair) (ServerHello.suite_length hsh) ps hres a hargs f fs hfound secrets hsec k hgen cls hcls hmac
      hck hsk⟩

/-- SSL 3.0 – TLS 1.2 without `-a` under the weak causality `Causal12`: clear-text client records may be released between
    the hellos (no decryptor exists yet, nothing happens). `x`: any sender state the installed decryptor is related to. -/
theorem tls12_plain_of_release (H : Crypto.Prims) (P : Prims) (L : SealLaws P) (kl : List Keylog.Key)
    (info : Nat → Pipeline.Info) (c : Pipeline.Conn) (hmeta : c.opts.metadata = false)
    (t : Transcript) (hch : t.ch.WellFormed) (hsh : t.sh.WellFormed) (hrc : t.rvC.length = 2) (hrs : t.rvS.length = 2)
    (hv : t.ver.length = 2) (hcomp : t.sh.compressionMethod = 0) (v : Session.Ver) (hneg : Negotiated t.rvS t.sh v)
    (cls : CipherClass) (h13 : cls.is13 = false) (macLen : Nat) (x : Snd)
    (hinst : Installs H P kl t.ch t.sh v cls macLen x)
    (hsc : Script12 t.cEvs) (hss : Script12 t.sEvs)
    (hokc : ∀ e ∈ t.cEvs, EvOk1 cls macLen e) (hoks : ∀ e ∈ t.sEvs, EvOk1 cls macLen e)
    (hlen : max x.c.seq x.s.seq + (t.cEvs.length + t.sEvs.length) ≤ seqLimit)
    (hproj : ∀ d, ((connRecs info c).filter fun q => q.2 == d).map (·.1.raw) = t.records P L cls x d)
    (hcausal : Causal12 (connRecs info c)) :
    ∃ frames, Pipeline.connOut H P info c kl = some (frames.map (Pipeline.addressed c.opts c)) ∧
      Spec.reassemble frames = some (Spec.TlsConnection.plainOf t.cEvs, Spec.TlsConnection.plainOf t.sEvs) ∧
      TimesFromCarriers info c frames := by
  apply export_of_dirPlain
  rw [hmeta]
  obtain ⟨cl, rest, hcE, hcl, hrest⟩ := hsc
  have hC := hproj false
  have hS := hproj true
  simp only [Transcript.records, Transcript.chRecord, Transcript.shRecord, Bool.false_eq_true, if_false, if_true]
    at hC hS
  rw [hcE] at hC
  obtain ⟨pre, post, hsplit, hne, hpre, hpost⟩ := hcausal
  obtain ⟨c0, noise, c1, M', cl2, hM, hnoise, hcl2, h5, hC', hS'⟩ :=
    hello_split P L cls t.ver _ _ _ _ cl rest t.sEvs _ pre post hC hS hsplit hne hpre hpost
  obtain ⟨hready, hflags, htr⟩ := hello_pair_ready H P kl false t.ch hch t.sh hsh t.rvC t.rvS hrc hrs c0 c1 v hneg hcomp
    cls macLen x hinst
  have hnoop := run_noops (Pipeline.ops H P kl) false (Session.handleRecord (Pipeline.ops H P kl) false Session.St.init
      ⟨record 22 t.rvC (Spec.TlsHello.encodeClientHello t.ch), c0⟩ false) noise (by
    intro q hq
    obtain ⟨b, car, rfl, hb⟩ := hnoise q hq
    exact handle_clear (Pipeline.ops H P kl) false _ t.ver b hv car false (hcl b hb)
      (Or.inl (by rw [handle_clientHello _ false _ ⟨rfl, rfl⟩ t.rvC hrc t.ch hch c0]; rfl)))
  let K := kit12 H P L kl cls h13 macLen t.ver hv false
  have hmerge := K.run M' x _ (fun d => if d then t.sEvs else cl2.map DirEv.clear ++ DirEv.ccs :: rest)
    ⟨hready,
      by
        intro d
        cases d
        · exact Or.inl ⟨by simp [ccOf, hflags.2], cl2, rest, rfl, fun b hb => hcl b (hcl2 b hb), hrest⟩
        · exact Or.inl ⟨by simp [ccOf, hflags.1], hss⟩,
      by
        intro d e he
        cases d
        · simp only [Bool.false_eq_true, if_false, List.mem_append, List.mem_map, List.mem_cons] at he
          rcases he with ⟨b, _, rfl⟩ | rfl | he
          · trivial
          · trivial
          · exact hokc e (by rw [hcE]; simp [he])
        · exact hoks e he,
      by
        have h4 := congrArg List.length hcE
        simp only [Bool.false_eq_true, if_false, if_true, List.length_map, List.length_append, List.length_cons] at h4 ⊢
        omega⟩
    (by intro d; cases d; exact hC'; exact hS')
  intro d
  rw [hM, sessRun_cons, Session.run_append, hnoop, sessRun_cons, hmerge d, htr d]
  show _ ++ stream12 false P L cls t.ver _ _ = _
  rw [stream12_false]
  cases d
  · simp only [Bool.false_eq_true, if_false, plainOf_clear_prefix, hcE]; rfl
  · rfl

/-- C01 for a whole SSL 3.0 – TLS 1.2 connection, every cipher class, packets in → frames out. -/
theorem tls12_connection_exact (H : Crypto.Prims) (P : Prims) (L : SealLaws P) (kl : List Keylog.Key)
    (info : Nat → Pipeline.Info) (c : Pipeline.Conn) (hmeta : c.opts.metadata = false)
    -- the connection as sent
    (t : Transcript) (hch : t.ch.WellFormed) (hsh : t.sh.WellFormed) (hrc : t.rvC.length = 2) (hrs : t.rvS.length = 2)
    (hv : t.ver.length = 2) (hcomp : t.sh.compressionMethod = 0)
    (v : Session.Ver) (hvne : v ≠ .tls13) (hneg : Negotiated t.rvS t.sh v)
    -- suite table (C14), key log (C09), key schedule (C15), as in `genKeys_installs_rel_legacy`
    (ps : CipherSuite.Params) (hres : CipherSuite.resolve (Bytes.beNat t.sh.cipherSuite) = some ps)
    (a : Pipeline.SuiteArgs) (hargs : Pipeline.suiteArgs ps = some a)
    (f : Keylog.Key) (fs : List Keylog.Key)
    (hfound : (Keylog.findSessionSecrets kl (Pipeline.natsOfBytes t.ch.random)).filter
        (fun k => k.label == Keylog.s_CLIENT_RANDOM || k.label == Keylog.s_RSA) = f :: fs)
    (secrets : List KeySchedule.Secret) (hsec : Pipeline.secretsOf false (f :: fs) = some secrets)
    (k : KeySchedule.Keys6)
    (hgen : KeySchedule.generateKeys H (Pipeline.ksVersion v) a.ks secrets t.ch.random t.sh.random
      = .ok (some (.legacy k)))
    (cls : CipherClass)
    (hcls : classOf a.bulk (Pipeline.rlVersion v)
      (Session.extGet ((t.sh.extensions.getD []).map extPair) [0x00, 0x16]).isSome a.tagLen = some cls)
    (hmac : 0 < (KeySchedule.macSuite H a.ks.mac).outLen)
    (hck : KeyMatOk cls k.clientKey k.clientIv) (hsk : KeyMatOk cls k.serverKey k.serverIv)
    -- what follows the hellos
    (hsc : Script12 t.cEvs) (hss : Script12 t.sEvs)
    (hokc : ∀ e ∈ t.cEvs, EvOk1 cls (KeySchedule.macSuite H a.ks.mac).outLen e)
    (hoks : ∀ e ∈ t.sEvs, EvOk1 cls (KeySchedule.macSuite H a.ks.mac).outLen e)
    (hwr : ∀ d, ∀ r ∈ t.records P L cls (legacySnd k) d, WholeRecord r)
    (hlen : t.cEvs.length + t.sEvs.length ≤ seqLimit)
    -- the capture
    (hdel : DeliveredInOrder info c (t.stream P L cls (legacySnd k)))
    (hcausal : Causal12 (connRecs info c)) :
    ∃ frames, Pipeline.connOut H P info c kl = some (frames.map (Pipeline.addressed c.opts c)) ∧
      Spec.reassemble frames = some (Spec.TlsConnection.plainOf t.cEvs, Spec.TlsConnection.plainOf t.sEvs) ∧
      TimesFromCarriers info c frames :=
  tls12_plain_of_release H P L kl info c hmeta t hch hsh hrc hrs hv hcomp v hneg cls
    (classOf_legacy hcls hvne) _ _
    (installs12 H P L kl t.ch t.sh hsh v hvne ps hres a hargs f fs hfound secrets hsec k hgen cls hcls hmac hck hsk)
    hsc hss hokc hoks (by simpa [legacySnd, SDir.init] using hlen) (released_inorder info c _ hwr hdel) hcausal

/-- Causality, TLS 1.3: the first record reassembly releases is the client's (the ClientHello) and the second is the
    server's (the ServerHello) — the client's second record (its dummy ChangeCipherSpec, its Finished; early data is not
    covered) is released after the ServerHello. Nothing else is assumed about the interleaving. -/
def Causal13 (M : List (Session.Rec × Bool)) : Prop :=
  ∃ q0 q1 M', M = q0 :: q1 :: M' ∧ q0.2 = false ∧ q1.2 = true

/-- sequence-number budget of a TLS 1.3 script: one per record and one per Finished -/
def budget13 (t : Transcript) : Nat := cost t.cEvs + cost t.sEvs

theorem installs13 (H : Crypto.Prims) (P : Prims) (kl : List Keylog.Key)
    (ch : Spec.TlsHello.ClientHello) (sh : Spec.TlsHello.ServerHello) (hsh : sh.WellFormed)
    (ps : CipherSuite.Params) (hres : CipherSuite.resolve (Bytes.beNat sh.cipherSuite) = some ps)
    (a : Pipeline.SuiteArgs) (hargs : Pipeline.suiteArgs ps = some a)
    (f : Keylog.Key) (fs : List Keylog.Key)
    (hfound : Keylog.findSessionSecrets kl (Pipeline.natsOfBytes ch.random) = f :: fs)
    (secrets : List KeySchedule.Secret) (hsec : Pipeline.secretsOf true (f :: fs) = some secrets)
    (k : KeySchedule.Installed13)
    (hgen : KeySchedule.generateKeys H .tls13 a.ks secrets ch.random sh.random = .ok (some (.tls13 k)))
    (chk chiv cak caiv shk shiv sak saiv : Bytes)
    (hk : k.clientHsKey = some chk ∧ k.clientHsIv = some chiv ∧ k.clientAppKey = some cak ∧ k.clientAppIv = some caiv ∧
      k.serverHsKey = some shk ∧ k.serverHsIv = some shiv ∧ k.serverAppKey = some sak ∧ k.serverAppIv = some saiv)
    (cls : CipherClass)
    (hcls : classOf a.bulk .tls13
      (Session.extGet ((sh.extensions.getD []).map extPair) [0x00, 0x16]).isSome a.tagLen = some cls)
    (h1 : KeyMatOk cls chk chiv) (h2 : KeyMatOk cls cak caiv) (h3 : KeyMatOk cls shk shiv) (h4 : KeyMatOk cls sak saiv) :
    Installs H P kl ch sh .tls13 cls (KeySchedule.macSuite H a.ks.mac).outLen
      ⟨SDir.init chk chiv cak caiv, SDir.init shk shiv sak saiv⟩ :=
  ⟨⟨fun _ => by rw [(classOf_spec _ _ _ _ cls hcls).2.2.2]; rfl, fun _ => rfl⟩,
    genKeys_installs_rel_13 H P kl sh.cipherSuite ch.random sh.random ((sh.extensions.getD []).map extPair)
      (ServerHello.suite_length hsh) ps hres a hargs f fs hfound secrets hsec k hgen chk chiv cak caiv shk shiv sak saiv hk cls hcls
      h1 h2 h3 h4⟩

/-- The connection theorem for every kind of script. A hello pair for which the tool installs a related decryptor, then
    the two endpoints' scripts of any kind whose invariant holds of every `Ready` session that has seen no
    ChangeCipherSpec; the records of each direction released in the sender's order, the ClientHello first and the
    ServerHello second, any interleaving otherwise. The export is, per direction, the contributions of that side's
    records, behind the hello record with `-a`. -/
theorem conn_of_release (H : Crypto.Prims) (P : Prims) (kl : List Keylog.Key) (info : Nat → Pipeline.Info)
    (c : Pipeline.Conn) (m : Bool) (hmeta : c.opts.metadata = m)
    (ch : Spec.TlsHello.ClientHello) (hch : ch.WellFormed) (sh : Spec.TlsHello.ServerHello) (hsh : sh.WellFormed)
    (rvC rvS : Bytes) (hrc : rvC.length = 2) (hrs : rvS.length = 2) (hcomp : sh.compressionMethod = 0)
    (v : Session.Ver) (hneg : Negotiated rvS sh v) (cls : CipherClass) (macLen : Nat) (x : Snd)
    (hinst : Installs H P kl ch sh v cls macLen x)
    {ε : Type} (K : Kit (Pipeline.ops H P kl) m ε) (evs : Bool → List ε)
    (hinv : ∀ s, Ready cls macLen x s → s.srvCC = false ∧ s.cliCC = false → K.Inv x s evs)
    (hC : ((connRecs info c).filter fun q => q.2 == false).map (·.1.raw)
      = record 22 rvC (Spec.TlsHello.encodeClientHello ch) :: K.send x.c (evs false))
    (hS : ((connRecs info c).filter fun q => q.2 == true).map (·.1.raw)
      = record 22 rvS (Spec.TlsHello.encodeServerHello sh) :: K.send x.s (evs true))
    (hcausal : Causal13 (connRecs info c)) :
    ∃ frames, Pipeline.connOut H P info c kl = some (frames.map (Pipeline.addressed c.opts c)) ∧
      Spec.reassemble frames = some
        ((if m then record 22 rvC (Spec.TlsHello.encodeClientHello ch) else []) ++ K.outs x.c (evs false),
         (if m then record 22 rvS (Spec.TlsHello.encodeServerHello sh) else []) ++ K.outs x.s (evs true)) ∧
      TimesFromCarriers info c frames := by
  apply export_of_dirPlain
  rw [hmeta]
  obtain ⟨c0, c1, M', hM, hC', hS'⟩ := hello_split13 _ hcausal _ _ _ _ hC hS
  obtain ⟨hready, hflags, htr⟩ := hello_pair_ready H P kl m ch hch sh hsh rvC rvS hrc hrs c0 c1 v hneg hcomp cls macLen x
    hinst
  have hrun := K.run M' x _ evs (hinv _ hready hflags) (by intro d; cases d; exact hC'; exact hS')
  intro d
  rw [hM, sessRun_cons, sessRun_cons, hrun d, htr d]
  cases d <;> rfl

/-- SSL 3.0 – TLS 1.2, either `-a`, any release order with the two hellos first. With `-a` each direction exports its hello
    record and then `stream12 true` (= `metaStream12`), without `-a` `stream12 false` (= `plainOf`). -/
theorem tls12_of_release (H : Crypto.Prims) (P : Prims) (L : SealLaws P) (kl : List Keylog.Key)
    (info : Nat → Pipeline.Info) (c : Pipeline.Conn) (m : Bool) (hmeta : c.opts.metadata = m)
    (t : Transcript) (hch : t.ch.WellFormed) (hsh : t.sh.WellFormed) (hrc : t.rvC.length = 2) (hrs : t.rvS.length = 2)
    (hv : t.ver.length = 2) (hcomp : t.sh.compressionMethod = 0) (v : Session.Ver) (hneg : Negotiated t.rvS t.sh v)
    (cls : CipherClass) (h13 : cls.is13 = false) (macLen : Nat) (x : Snd)
    (hinst : Installs H P kl t.ch t.sh v cls macLen x)
    (hsc : Script12 t.cEvs) (hss : Script12 t.sEvs)
    (hokc : ∀ e ∈ t.cEvs, EvOk1 cls macLen e) (hoks : ∀ e ∈ t.sEvs, EvOk1 cls macLen e)
    (hlen : max x.c.seq x.s.seq + (t.cEvs.length + t.sEvs.length) ≤ seqLimit)
    (hproj : ∀ d, ((connRecs info c).filter fun q => q.2 == d).map (·.1.raw) = t.records P L cls x d)
    (hcausal : Causal13 (connRecs info c)) :
    ∃ frames, Pipeline.connOut H P info c kl = some (frames.map (Pipeline.addressed c.opts c)) ∧
      Spec.reassemble frames = some
        ((if m then t.chRecord else []) ++ stream12 m P L cls t.ver x.c t.cEvs,
         (if m then t.shRecord else []) ++ stream12 m P L cls t.ver x.s t.sEvs) ∧
      TimesFromCarriers info c frames := by
  have hC := hproj false
  have hS := hproj true
  simp only [Transcript.records, Bool.false_eq_true, if_false, if_true] at hC hS
  exact conn_of_release H P kl info c m hmeta t.ch hch t.sh hsh t.rvC t.rvS hrc hrs hcomp v hneg cls macLen x hinst
    (kit12 H P L kl cls h13 macLen t.ver hv m) (fun d => if d then t.sEvs else t.cEvs)
    (fun s hs hfl => ⟨hs, by
      intro d
      cases d
      · exact Or.inl ⟨by simp [ccOf, hfl.2], hsc⟩
      · exact Or.inl ⟨by simp [ccOf, hfl.1], hss⟩,
      by intro d e he; cases d; exact hokc e he; exact hoks e he, hlen⟩) hC hS hcausal

open TLX.Lemmas.Capstone2 TLX.Lemmas.C01All TLX.Spec.TlsFragmented13 in
/-- TLS 1.3, endpoints that fragment their handshake messages anywhere, either `-a`, any release order with the two hellos
    first. `Plan [] l` (every record's `fins` is what the buffer loop counts) is what is needed of a script:
    `plan_of_conform` gives it for RFC-conformant fragmentation, `plan_toF` for records of whole messages. -/
theorem tls13_of_release (H : Crypto.Prims) (P : Prims) (L : SealLaws P) (kl : List Keylog.Key)
    (info : Nat → Pipeline.Info) (c : Pipeline.Conn) (m : Bool) (hmeta : c.opts.metadata = m)
    (t : TranscriptF) (hch : t.ch.WellFormed) (hsh : t.sh.WellFormed) (hrc : t.rvC.length = 2) (hrs : t.rvS.length = 2)
    (hv : t.ver.length = 2) (hcomp : t.sh.compressionMethod = 0) (hneg : Negotiated t.rvS t.sh .tls13)
    (cls : CipherClass) (macLen : Nat) (x : Snd) (hinst : Installs H P kl t.ch t.sh .tls13 cls macLen x)
    (hfc : Plan [] t.cF) (hfs : Plan [] t.sF)
    (hlen : max x.c.seq x.s.seq + (costF t.cF + costF t.sF) ≤ seqLimit)
    (hproj : ∀ d, ((connRecs info c).filter fun q => q.2 == d).map (·.1.raw) = t.records P L cls x d)
    (hcausal : Causal13 (connRecs info c)) :
    ∃ frames, Pipeline.connOut H P info c kl = some (frames.map (Pipeline.addressed c.opts c)) ∧
      Spec.reassemble frames = some
        ((if m then t.chRecord else []) ++ streamF m P L cls t.ver x.c t.cF,
         (if m then t.shRecord else []) ++ streamF m P L cls t.ver x.s t.sF) ∧
      TimesFromCarriers info c frames := by
  have h13 : cls.is13 = true := hinst.1.mp rfl
  have hC := hproj false
  have hS := hproj true
  simp only [TranscriptF.records, Bool.false_eq_true, if_false, if_true] at hC hS
  exact conn_of_release H P kl info c m hmeta t.ch hch t.sh hsh t.rvC t.rvS hrc hrs hcomp .tls13 hneg cls macLen x hinst
    (kitF H P L kl cls h13 macLen t.ver hv m) (fun d => if d then t.sF else t.cF)
    (fun s hs _ => ⟨fun _ => [], hs, by intro d; cases d; exact hfc; exact hfs, hlen⟩) hC hS hcausal

open TLX.Lemmas.Capstone2 TLX.Lemmas.C01All TLX.Spec.TlsFragmented13 in
/-- TLS 1.3 endpoints that put whole messages into each handshake record: `tls13_of_release` at `Transcript.toF t` -/
theorem tls13_whole_of_release (H : Crypto.Prims) (P : Prims) (L : SealLaws P) (kl : List Keylog.Key)
    (info : Nat → Pipeline.Info) (c : Pipeline.Conn) (m : Bool) (hmeta : c.opts.metadata = m)
    (t : Transcript) (hch : t.ch.WellFormed) (hsh : t.sh.WellFormed) (hrc : t.rvC.length = 2) (hrs : t.rvS.length = 2)
    (hv : t.ver.length = 2) (hcomp : t.sh.compressionMethod = 0) (hneg : Negotiated t.rvS t.sh .tls13)
    (cls : CipherClass) (macLen : Nat) (x : Snd) (hinst : Installs H P kl t.ch t.sh .tls13 cls macLen x)
    (hsc : Script13 t.cEvs) (hss : Script13 t.sEvs)
    (hokc : ∀ e ∈ t.cEvs, EvOk1 cls macLen e) (hoks : ∀ e ∈ t.sEvs, EvOk1 cls macLen e)
    (hlen : max x.c.seq x.s.seq + budget13 t ≤ seqLimit)
    (hproj : ∀ d, ((connRecs info c).filter fun q => q.2 == d).map (·.1.raw) = t.records P L cls x d)
    (hcausal : Causal13 (connRecs info c)) :
    ∃ frames, Pipeline.connOut H P info c kl = some (frames.map (Pipeline.addressed c.opts c)) ∧
      Spec.reassemble frames = some
        (if m then (t.chRecord ++ metaStream13 P L cls t.ver x.c t.cEvs, t.shRecord ++ metaStream13 P L cls t.ver x.s t.sEvs)
         else (Spec.TlsConnection.plainOf t.cEvs, Spec.TlsConnection.plainOf t.sEvs)) ∧
      TimesFromCarriers info c frames := by
  have := tls13_of_release H P L kl info c m hmeta (Transcript.toF t) hch hsh hrc hrs hv hcomp hneg cls macLen x hinst
    (plan_toF cls _ _ hsc hokc) (plan_toF cls _ _ hss hoks)
    (by simpa [budget13, Transcript.toF, ← cost_toF _ hsc, ← cost_toF _ hss] using hlen)
    (fun d => (records_toF P L cls _ t hsc hss d) ▸ hproj d) hcausal
  cases m
  · simpa only [Bool.false_eq_true, if_false, List.nil_append, streamF_false, Transcript.toF, ← plainOf_toF _ hsc,
      ← plainOf_toF _ hss] using this
  · simpa only [if_true, Transcript.toF, Transcript.chRecord, Transcript.shRecord, TranscriptF.chRecord,
      TranscriptF.shRecord, ← metaStream13_toF P L cls t.ver _ hsc, ← metaStream13_toF P L cls t.ver _ hss] using this

/-- C01 for a whole TLS 1.3 connection (all four traffic secrets in the key log), packets in → frames out. -/
theorem tls13_connection_exact (H : Crypto.Prims) (P : Prims) (L : SealLaws P) (kl : List Keylog.Key)
    (info : Nat → Pipeline.Info) (c : Pipeline.Conn) (hmeta : c.opts.metadata = false)
    -- the connection as sent
    (t : Transcript) (hch : t.ch.WellFormed) (hsh : t.sh.WellFormed) (hrc : t.rvC.length = 2) (hrs : t.rvS.length = 2)
    (hv : t.ver.length = 2) (hcomp : t.sh.compressionMethod = 0) (hneg : Negotiated t.rvS t.sh .tls13)
    -- suite table (C14), key log (C09), key schedule (C15), as in `genKeys_installs_rel_13`
    (ps : CipherSuite.Params) (hres : CipherSuite.resolve (Bytes.beNat t.sh.cipherSuite) = some ps)
    (a : Pipeline.SuiteArgs) (hargs : Pipeline.suiteArgs ps = some a)
    (f : Keylog.Key) (fs : List Keylog.Key)
    (hfound : Keylog.findSessionSecrets kl (Pipeline.natsOfBytes t.ch.random) = f :: fs)
    (secrets : List KeySchedule.Secret) (hsec : Pipeline.secretsOf true (f :: fs) = some secrets)
    (k : KeySchedule.Installed13)
    (hgen : KeySchedule.generateKeys H .tls13 a.ks secrets t.ch.random t.sh.random = .ok (some (.tls13 k)))
    (chk chiv cak caiv shk shiv sak saiv : Bytes)
    (hk : k.clientHsKey = some chk ∧ k.clientHsIv = some chiv ∧ k.clientAppKey = some cak ∧ k.clientAppIv = some caiv ∧
      k.serverHsKey = some shk ∧ k.serverHsIv = some shiv ∧ k.serverAppKey = some sak ∧ k.serverAppIv = some saiv)
    (cls : CipherClass)
    (hcls : classOf a.bulk .tls13
      (Session.extGet ((t.sh.extensions.getD []).map extPair) [0x00, 0x16]).isSome a.tagLen = some cls)
    (h1 : KeyMatOk cls chk chiv) (h2 : KeyMatOk cls cak caiv) (h3 : KeyMatOk cls shk shiv) (h4 : KeyMatOk cls sak saiv)
    -- what follows the hellos
    (hsc : Script13 t.cEvs) (hss : Script13 t.sEvs)
    (hokc : ∀ e ∈ t.cEvs, EvOk1 cls (KeySchedule.macSuite H a.ks.mac).outLen e)
    (hoks : ∀ e ∈ t.sEvs, EvOk1 cls (KeySchedule.macSuite H a.ks.mac).outLen e)
    (hwr : ∀ d, ∀ r ∈ t.records P L cls ⟨SDir.init chk chiv cak caiv, SDir.init shk shiv sak saiv⟩ d, WholeRecord r)
    (hlen : budget13 t ≤ seqLimit)
    -- the capture
    (hdel : DeliveredInOrder info c (t.stream P L cls ⟨SDir.init chk chiv cak caiv, SDir.init shk shiv sak saiv⟩))
    (hcausal : Causal13 (connRecs info c)) :
    ∃ frames, Pipeline.connOut H P info c kl = some (frames.map (Pipeline.addressed c.opts c)) ∧
      Spec.reassemble frames = some (Spec.TlsConnection.plainOf t.cEvs, Spec.TlsConnection.plainOf t.sEvs) ∧
      TimesFromCarriers info c frames :=
  tls13_whole_of_release H P L kl info c false hmeta t hch hsh hrc hrs hv hcomp hneg cls _ _
    (installs13 H P kl t.ch t.sh hsh ps hres a hargs f fs hfound secrets hsec k hgen chk chiv cak caiv shk shiv sak saiv hk
      cls hcls h1 h2 h3 h4)
    hsc hss hokc hoks (by simpa [SDir.init] using hlen) (released_inorder info c _ hwr hdel) hcausal

/-- `Script12` WITHOUT the condition on the first byte of clear-text handshake records: RFC 5246 §6.2.1 lets an endpoint
    fragment handshake messages over records at any point, so a continuation record may begin with any byte -/
def Script12Loose (l : List DirEv) : Prop :=
  ∃ (cl : List Bytes) (rest : List DirEv), l = cl.map .clear ++ .ccs :: rest ∧
    ∀ e ∈ rest, ∃ typ pt f, e = .enc typ pt f ∧ (typ = 22 ∨ typ = 23)

/-- `tls12_connection_exact` at full RFC strength (any fragmentation of the clear-text handshake). FALSE for the tool:
    `tls12_connection_exact_counterexample`; `tls12_connection_exact` is the partial result, the extra hypothesis being
    the first-byte condition inside `Script12`. -/
def tls12_connection_exact_statement : Prop := ∀ (H : Crypto.Prims) (P : Prims) (L : SealLaws P) (kl : List Keylog.Key)
    (info : Nat → Pipeline.Info) (c : Pipeline.Conn) (hmeta : c.opts.metadata = false)
    -- the connection as sent
    (t : Transcript) (hch : t.ch.WellFormed) (hsh : t.sh.WellFormed) (hrc : t.rvC.length = 2) (hrs : t.rvS.length = 2)
    (hv : t.ver.length = 2) (hcomp : t.sh.compressionMethod = 0)
    (v : Session.Ver) (hvne : v ≠ .tls13) (hneg : Negotiated t.rvS t.sh v)
    -- suite table (C14), key log (C09), key schedule (C15), as in `genKeys_installs_rel_legacy`
    (ps : CipherSuite.Params) (hres : CipherSuite.resolve (Bytes.beNat t.sh.cipherSuite) = some ps)
    (a : Pipeline.SuiteArgs) (hargs : Pipeline.suiteArgs ps = some a)
    (f : Keylog.Key) (fs : List Keylog.Key)
    (hfound : (Keylog.findSessionSecrets kl (Pipeline.natsOfBytes t.ch.random)).filter
        (fun k => k.label == Keylog.s_CLIENT_RANDOM || k.label == Keylog.s_RSA) = f :: fs)
    (secrets : List KeySchedule.Secret) (hsec : Pipeline.secretsOf false (f :: fs) = some secrets)
    (k : KeySchedule.Keys6)
    (hgen : KeySchedule.generateKeys H (Pipeline.ksVersion v) a.ks secrets t.ch.random t.sh.random
      = .ok (some (.legacy k)))
    (cls : CipherClass)
    (hcls : classOf a.bulk (Pipeline.rlVersion v)
      (Session.extGet ((t.sh.extensions.getD []).map extPair) [0x00, 0x16]).isSome a.tagLen = some cls)
    (hmac : 0 < (KeySchedule.macSuite H a.ks.mac).outLen)
    (hck : KeyMatOk cls k.clientKey k.clientIv) (hsk : KeyMatOk cls k.serverKey k.serverIv)
    -- what follows the hellos
    (hsc : Script12Loose t.cEvs) (hss : Script12Loose t.sEvs)
    (hokc : ∀ e ∈ t.cEvs, EvOk1 cls (KeySchedule.macSuite H a.ks.mac).outLen e)
    (hoks : ∀ e ∈ t.sEvs, EvOk1 cls (KeySchedule.macSuite H a.ks.mac).outLen e)
    (hwr : ∀ d, ∀ r ∈ t.records P L cls (legacySnd k) d, WholeRecord r)
    (hlen : t.cEvs.length + t.sEvs.length ≤ seqLimit)
    -- the capture
    (hdel : DeliveredInOrder info c (t.stream P L cls (legacySnd k)))
    (hcausal : Causal12 (connRecs info c)),
    ∃ frames, Pipeline.connOut H P info c kl = some (frames.map (Pipeline.addressed c.opts c)) ∧
      Spec.reassemble frames = some (Spec.TlsConnection.plainOf t.cEvs, Spec.TlsConnection.plainOf t.sEvs) ∧
      TimesFromCarriers info c frames

theorem delivered_of_cuts (info : Nat → Pipeline.Info) (c : Pipeline.Conn) (streams : Bool → Bytes) (isn : Bool → Nat)
    (chunks : Bool → List Bytes)
    (h : ∀ d, ((∀ b ∈ chunks d, b ≠ []) ∧ (chunks d).flatten = streams d) ∧
      (dirSegs info c.server d c.pkts).map Props.C05.wire = segsOf (isn d) 0 (chunks d) ∧
      (streams d).length ≤ 2 ^ 31) :
    DeliveredInOrder info c streams := by
  intro d
  obtain ⟨hcut, hw, hl⟩ := h d
  refine ⟨⟨isn d, ?_⟩, hl⟩
  unfold InOrder
  rw [hw]
  exact Delivers.cut _ hcut

theorem causal13_of_dirs (M : List (Session.Rec × Bool)) (h : (M.map (·.2)).take 2 = [false, true]) : Causal13 M := by
  match M, h with
  | q0 :: q1 :: M', h =>
    simp only [List.map_cons, List.take_succ_cons, List.take_zero, List.cons.injEq, and_true] at h
    exact ⟨q0, q1, M', rfl, h.1, h.2⟩
  | [_], h => simp at h
  | [], h => simp at h

/-- the ClientHello first and alone, then a server record: the TLS ≤ 1.2 causality hypothesis -/
theorem causal12_of_causal13 (M : List (Session.Rec × Bool)) (h : Causal13 M) (ht : ∀ q ∈ M.head?, q.1.typ ≠ some 20) :
    Causal12 M := by
  obtain ⟨q0, q1, M', rfl, h0, h1⟩ := h
  refine ⟨[q0], q1 :: M', rfl, by simp, ?_, q1, M', rfl, h1⟩
  intro q hq
  rw [List.mem_singleton.mp hq]
  exact ⟨h0, ht q0 rfl⟩

namespace Ex
open TLX.Props.C01Pipeline.Ex2 TLX.Props.C01.Ex

theorem some_getD {α : Type} (o : Option α) (d : α) (h : o.isSome = true) : o = some (o.getD d) := by
  cases o with
  | none => cases h
  | some a => rfl

theorem gen_eq {ε : Type} (x : Except ε (Option KeySchedule.Installed)) (k : KeySchedule.Keys6)
    (h : (match x with | .ok (some (.legacy k')) => decide (k' = k) | _ => false) = true) :
    x = .ok (some (.legacy k)) := by
  cases x with
  | error e => simp at h
  | ok o =>
    cases o with
    | none => simp at h
    | some i =>
      cases i with
      | legacy k' => simp only [decide_eq_true_eq] at h; rw [h]
      | tls13 _ => simp at h

/-- TLS_RSA_WITH_AES_128_GCM_SHA256 as the suite table resolves it, the key-log line, the key block -/
def ps0 : CipherSuite.Params := (CipherSuite.resolve (Bytes.beNat [0x00, 0x9c])).getD []
def a0 : Pipeline.SuiteArgs := (Pipeline.suiteArgs ps0).getD ⟨⟨.other, false, false, 0, .sha1⟩, .none, none⟩
def f0 : Keylog.Key :=
  ⟨Keylog.s_CLIENT_RANDOM, Keylog.hexOf (Pipeline.natsOfBytes cr0), Keylog.hexOf (List.replicate 48 5)⟩
def secrets0 : List KeySchedule.Secret := (Pipeline.secretsOf false [f0]).getD []
def k0 : KeySchedule.Keys6 :=
  match KeySchedule.generateKeys hashes .tls12 a0.ks secrets0 cr0 sr0 with
  | .ok (some (.legacy k)) => k
  | _ => ⟨[], [], [], [], [], []⟩
/-- the key block the key schedule derives from `f0`, as literals: every evaluation below that needs a key starts from
    these instead of running the key schedule again -/
def k0v : KeySchedule.Keys6 :=
  ⟨[], [], [130, 194, 216, 99, 81, 240, 170, 183, 164, 47, 45, 128, 22, 223, 210, 231],
   [23, 95, 186, 38, 160, 38, 183, 81, 244, 158, 78, 4, 191, 127, 67, 11], [215, 236, 159, 248], [251, 83, 219, 129]⟩

theorem gen0v : KeySchedule.generateKeys hashes .tls12 a0.ks secrets0 cr0 sr0 = .ok (some (.legacy k0v)) :=
  gen_eq _ k0v (by decide +kernel)

theorem k0_eq : k0 = k0v := by
  unfold k0
  rw [gen0v]

def fr : Fresh := ⟨iv8, [], [], 0⟩
def cls0 : CipherClass := .aead12 .aesgcm 16

/-- The suite-table (C14), key-log (C09) and key-schedule (C15) hypotheses of the TLS ≤ 1.2 theorems for the hello pair
    `ch0`, `sh12` and the key log `kl0`, evaluated once for all connections below that begin with these hellos:
    `args0`, `gen0` and `keys12`. -/
theorem args0 : Pipeline.suiteArgs ps0 = some a0 := some_getD _ _ (by decide +kernel)

theorem gen0 : KeySchedule.generateKeys hashes (Pipeline.ksVersion .tls12) a0.ks secrets0 ch0.random sh12.random
    = .ok (some (.legacy k0)) := by
  rw [k0_eq]; exact gen0v

theorem keys12 :
    CipherSuite.resolve (Bytes.beNat sh12.cipherSuite) = some ps0 ∧
    (Keylog.findSessionSecrets kl0 (Pipeline.natsOfBytes ch0.random)).filter
      (fun k => k.label == Keylog.s_CLIENT_RANDOM || k.label == Keylog.s_RSA) = [f0] ∧
    Pipeline.secretsOf false [f0] = some secrets0 ∧
    classOf a0.bulk (Pipeline.rlVersion .tls12)
      (Session.extGet ((sh12.extensions.getD []).map extPair) [0x00, 0x16]).isSome a0.tagLen = some cls0 ∧
    0 < (KeySchedule.macSuite hashes a0.ks.mac).outLen ∧
    KeyMatOk cls0 k0.clientKey k0.clientIv ∧ KeyMatOk cls0 k0.serverKey k0.serverIv := by
  rw [k0_eq]
  decide +kernel

/-- ClientHello, ServerHello; the client: ClientKeyExchange, CCS, Finished, "hi", an empty record; the server:
    Certificate…ServerHelloDone in one record, CCS, Finished, 16 bytes -/
def t0 : Transcript :=
  { ch := ch0, sh := sh12, rvC := [3, 1], rvS := [3, 3], ver := [3, 3],
    cEvs := [.clear [16, 0, 0, 2, 9, 9], .ccs, .enc 22 (20 :: 0 :: 0 :: 12 :: k16.take 12) fr, .enc 23 hi fr,
             .enc 23 [] fr],
    sEvs := [.clear [11, 0, 0, 3, 1, 2, 3, 14, 0, 0, 0], .ccs, .enc 22 (20 :: 0 :: 0 :: 12 :: k16.take 12) fr,
             .enc 23 k16 fr] }

def recsOfDir (d : Bool) : List Bytes := t0.records Cipher.Toy.prims Cipher.Toy.laws cls0 (legacySnd k0) d
def rC (i : Nat) : Bytes := (recsOfDir false).getD i []
def rS (i : Nat) : Bytes := (recsOfDir true).getD i []

/-- the capture: (from server?, payload, offset in the direction's stream). The ClientHello in two segments; the
    ServerHello and the certificate flight coalesced; the client's application data BEFORE the server's CCS/Finished
    (False Start) and retransmitted later; a server record split over two segments; the client's stream wraps 2^32. -/
def cap0 : List (Bool × Bytes × Nat) :=
  [(false, (rC 0).take 20, 0), (false, (rC 0).drop 20, 20), (true, rS 0 ++ rS 1, 0),
   (false, rC 1 ++ rC 2 ++ rC 3, 50), (false, rC 4, 112), (true, rS 2 ++ rS 3, 73), (true, (rS 4).take 10, 124),
   (false, rC 4, 112), (true, (rS 4).drop 10, 134), (false, rC 5, 143)]
def isnOf (d : Bool) : Nat := if d then 77 else 4294967290
def pktsCap : List MainLoop.Pkt := (List.range cap0.length).map fun i =>
  mkPkt (cap0.getD i (false, [], 0)).1 (cap0.getD i (false, [], 0)).2.1 i
def infoCap (tag : Nat) : Pipeline.Info :=
  ⟨(isnOf (cap0.getD tag (false, [], 0)).1 + (cap0.getD tag (false, [], 0)).2.2) % 4294967296, 1000 + tag, [1], [2], false⟩
def connCap : Pipeline.Conn := ⟨⟨[443], false, false, false, true, []⟩, sEp, cEp, [2], [1], false, pktsCap⟩

def chunksOf (d : Bool) : List Bytes :=
  if d then [rS 0 ++ rS 1, rS 2 ++ rS 3, (rS 4).take 10, (rS 4).drop 10]
  else [(rC 0).take 20, (rC 0).drop 20, rC 1 ++ rC 2 ++ rC 3, rC 4, rC 5]

/-- a capture given as a list of (from server?, payload, offset in the direction's stream) -/
def pktsOf (cap : List (Bool × Bytes × Nat)) : List MainLoop.Pkt := (List.range cap.length).map fun i =>
  mkPkt (cap.getD i (false, [], 0)).1 (cap.getD i (false, [], 0)).2.1 i
def infoOf (cap : List (Bool × Bytes × Nat)) (tag : Nat) : Pipeline.Info :=
  ⟨(isnOf (cap.getD tag (false, [], 0)).1 + (cap.getD tag (false, [], 0)).2.2) % 4294967296, 1000 + tag, [1], [2], false⟩
def connOf (cap : List (Bool × Bytes × Nat)) : Pipeline.Conn :=
  ⟨⟨[443], false, false, false, true, []⟩, sEp, cEp, [2], [1], false, pktsOf cap⟩

def outOf (cap : List (Bool × Bytes × Nat)) := view (Pipeline.connOut hashes Cipher.Toy.prims (infoOf cap) (connOf cap) kl0)

/-- Everything the kernel computes about the capture `cap0` of the connection `t0`, in ONE evaluation: it shares work inside a declaration
    only, and all of this goes through the same records and segments. What follows, and `Ex2.firstFlights0` in `Props/C01Capstone2.lean`,
    are projections; each conjunct has the form its user takes. -/
theorem cap0_eval :
    ((((∀ b ∈ chunksOf false, b ≠ []) ∧
          (chunksOf false).flatten = t0.stream Cipher.Toy.prims Cipher.Toy.laws cls0 (legacySnd k0) false) ∧
        segsOf (isnOf false) 0 (chunksOf false) = (segsOf (isnOf false) 0 (chunksOf false)).take 3 ++
          (segsOf (isnOf false) 0 (chunksOf false)).getD 3 (0, []) :: ([] ++ (segsOf (isnOf false) 0 (chunksOf false)).drop 4) ∧
        (dirSegs infoCap connCap.server false connCap.pkts).map Props.C05.wire
          = (segsOf (isnOf false) 0 (chunksOf false)).take 3 ++ (segsOf (isnOf false) 0 (chunksOf false)).getD 3 (0, []) ::
            ([] ++ (segsOf (isnOf false) 0 (chunksOf false)).getD 3 (0, []) :: (segsOf (isnOf false) 0 (chunksOf false)).drop 4) ∧
        (t0.stream Cipher.Toy.prims Cipher.Toy.laws cls0 (legacySnd k0) false).length ≤ 2 ^ 31) ∧
      ((∀ b ∈ chunksOf true, b ≠ []) ∧
          (chunksOf true).flatten = t0.stream Cipher.Toy.prims Cipher.Toy.laws cls0 (legacySnd k0) true) ∧
        (dirSegs infoCap connCap.server true connCap.pkts).map Props.C05.wire = segsOf (isnOf true) 0 (chunksOf true) ∧
        (t0.stream Cipher.Toy.prims Cipher.Toy.laws cls0 (legacySnd k0) true).length ≤ 2 ^ 31) ∧
    (((connRecs infoCap connCap).map (·.2)).take 2 = [false, true] ∧
      (∀ q ∈ (connRecs infoCap connCap).head?, q.1.typ ≠ some 20)) ∧
    ((∀ e ∈ t0.cEvs, EvOk1 cls0 (KeySchedule.macSuite hashes a0.ks.mac).outLen e) ∧
      (∀ e ∈ t0.sEvs, EvOk1 cls0 (KeySchedule.macSuite hashes a0.ks.mac).outLen e) ∧
      (∀ d, ∀ r ∈ t0.records Cipher.Toy.prims Cipher.Toy.laws cls0 (legacySnd k0) d, WholeRecord r) ∧
      t0.cEvs.length + t0.sEvs.length ≤ seqLimit) ∧
    (outOf ([cap0.getD 2 default, cap0.getD 0 default, cap0.getD 1 default] ++ cap0.drop 3) = some [] ∧
      outOf ([cap0.getD 0 default, cap0.getD 1 default, cap0.getD 3 default, cap0.getD 2 default] ++ cap0.drop 4) = some [] ∧
      outOf cap0 = some [(1004, hi), (1006, k16.take 8), (1008, k16.drop 8)]) := by
  delta infoCap
  simp only [chunksOf, rC, rS, recsOfDir, connCap, pktsCap, cap0, k0_eq]
  decide +kernel

theorem delivered0 : DeliveredInOrder infoCap connCap
    (t0.stream Cipher.Toy.prims Cipher.Toy.laws cls0 (legacySnd k0)) := by
  -- the client's segments are the cut `chunksOf false` with the fourth segment retransmitted behind its original, the
  -- server's are the cut `chunksOf true`
  obtain ⟨⟨hcut, e, e2, hl⟩, hcutS, e2S, hlS⟩ := cap0_eval.1
  intro d
  cases d
  · refine ⟨⟨isnOf false, ?_⟩, hl⟩
    have hd := Delivers.cut (k := 0) (isn := isnOf false) (chunksOf false) hcut
    rw [show segsOf (isnOf false) 0 (chunksOf false) = _ from e] at hd
    unfold InOrder
    rw [e2]
    exact Delivers.dup _ _ _ _ hd
  · refine ⟨⟨isnOf true, ?_⟩, hlS⟩
    unfold InOrder
    rw [e2S]
    exact Delivers.cut _ hcutS

theorem causal0' : Causal13 (connRecs infoCap connCap) := causal13_of_dirs _ cap0_eval.2.1.1

theorem causal0 : Causal12 (connRecs infoCap connCap) := causal12_of_causal13 _ causal0' cap0_eval.2.1.2

theorem script0 : Script12 t0.cEvs ∧ Script12 t0.sEvs ∧
    (∀ e ∈ t0.cEvs, EvOk1 cls0 (KeySchedule.macSuite hashes a0.ks.mac).outLen e) ∧
    (∀ e ∈ t0.sEvs, EvOk1 cls0 (KeySchedule.macSuite hashes a0.ks.mac).outLen e) ∧
    (∀ d, ∀ r ∈ t0.records Cipher.Toy.prims Cipher.Toy.laws cls0 (legacySnd k0) d, WholeRecord r) ∧
    t0.cEvs.length + t0.sEvs.length ≤ seqLimit := by
  refine ⟨⟨[[16, 0, 0, 2, 9, 9]], _, rfl, by decide, ?_⟩, ⟨[[11, 0, 0, 3, 1, 2, 3, 14, 0, 0, 0]], _, rfl, by decide, ?_⟩,
    cap0_eval.2.2.1⟩
  · intro e he
    simp only [List.mem_cons, List.mem_nil_iff, or_false] at he
    rcases he with rfl | rfl | rfl <;> exact ⟨_, _, _, rfl, by decide⟩
  · intro e he
    simp only [List.mem_cons, List.mem_nil_iff, or_false] at he
    rcases he with rfl | rfl <;> exact ⟨_, _, _, rfl, by decide⟩

/-- every hypothesis of `tls12_connection_exact` holds for this connection (toy primitives, toy hashes with the real
    digest sizes, the regenerated suite table, the key-log line) — and so does its conclusion -/
theorem tls12_instance :
    ∃ frames, Pipeline.connOut hashes Cipher.Toy.prims infoCap connCap kl0
        = some (frames.map (Pipeline.addressed connCap.opts connCap)) ∧
      Spec.reassemble frames = some (hi, k16) ∧ TimesFromCarriers infoCap connCap frames := by
  obtain ⟨hres, hfound, hsec, hcls, hmac, hck, hsk⟩ := keys12
  obtain ⟨hsc, hss, hokc, hoks, hwr, hlen⟩ := script0
  have h := tls12_connection_exact hashes Cipher.Toy.prims Cipher.Toy.laws kl0 infoCap connCap rfl t0
    (by decide) (by decide) rfl rfl rfl rfl .tls12 (by decide) (by unfold Negotiated; decide)
    ps0 hres a0 args0 f0 [] hfound secrets0 hsec k0 gen0 cls0 hcls hmac hck hsk hsc hss hokc hoks hwr hlen
    delivered0 causal0
  have e : (Spec.TlsConnection.plainOf t0.cEvs, Spec.TlsConnection.plainOf t0.sEvs) = (hi, k16) := by decide
  rw [e] at h
  exact h

/-- COUNTEREXAMPLE INPUT. As `t0`, but the server's clear-text handshake record begins with byte 01 (e.g. the
    continuation fragment of a Certificate message cut after a byte 01): `handle_tls_handshake_record` takes it for a
    ClientHello, `can_decrypt` becomes False and nothing is exported. -/
def t1 : Transcript :=
  { t0 with sEvs := [.clear [1, 0, 0, 3, 1, 2, 3, 14, 0, 0, 0], .ccs, .enc 22 (20 :: 0 :: 0 :: 12 :: k16.take 12) fr,
                     .enc 23 k16 fr] }

def recsOfDir1 (d : Bool) : List Bytes := t1.records Cipher.Toy.prims Cipher.Toy.laws cls0 (legacySnd k0) d

def cap1 : List (Bool × Bytes × Nat) :=
  [(false, (recsOfDir1 false).headD [], 0), (true, (recsOfDir1 true).flatten, 0),
   (false, (recsOfDir1 false).tail.flatten, ((recsOfDir1 false).headD []).length)]

def chunksOf1 (d : Bool) : List Bytes :=
  if d then [(recsOfDir1 true).flatten] else [(recsOfDir1 false).headD [], (recsOfDir1 false).tail.flatten]

/-- as `cap0_eval`, about the capture `cap1` of the connection `t1` -/
theorem cap1_eval :
    (∀ d, ((∀ b ∈ chunksOf1 d, b ≠ []) ∧
        (chunksOf1 d).flatten = t1.stream Cipher.Toy.prims Cipher.Toy.laws cls0 (legacySnd k0) d) ∧
      (dirSegs (infoOf cap1) (connOf cap1).server d (connOf cap1).pkts).map Props.C05.wire = segsOf (isnOf d) 0 (chunksOf1 d) ∧
      (t1.stream Cipher.Toy.prims Cipher.Toy.laws cls0 (legacySnd k0) d).length ≤ 2 ^ 31) ∧
    (((connRecs (infoOf cap1) (connOf cap1)).map (·.2)).take 2 = [false, true] ∧
      (∀ q ∈ (connRecs (infoOf cap1) (connOf cap1)).head?, q.1.typ ≠ some 20)) ∧
    ((∀ e ∈ t1.cEvs, EvOk1 cls0 (KeySchedule.macSuite hashes a0.ks.mac).outLen e) ∧
      (∀ e ∈ t1.sEvs, EvOk1 cls0 (KeySchedule.macSuite hashes a0.ks.mac).outLen e) ∧
      (∀ d, ∀ r ∈ t1.records Cipher.Toy.prims Cipher.Toy.laws cls0 (legacySnd k0) d, WholeRecord r) ∧
      t1.cEvs.length + t1.sEvs.length ≤ seqLimit ∧
      Pipeline.connOut hashes Cipher.Toy.prims (infoOf cap1) (connOf cap1) kl0 = some []) := by
  simp only [chunksOf1, cap1, recsOfDir1, k0_eq]
  decide +kernel

theorem delivered1 : DeliveredInOrder (infoOf cap1) (connOf cap1)
    (t1.stream Cipher.Toy.prims Cipher.Toy.laws cls0 (legacySnd k0)) := by
  exact delivered_of_cuts _ _ _ isnOf chunksOf1 cap1_eval.1

theorem causal1 : Causal12 (connRecs (infoOf cap1) (connOf cap1)) :=
  causal12_of_causal13 _ (causal13_of_dirs _ cap1_eval.2.1.1) cap1_eval.2.1.2

/-- the full-strength statement fails: every hypothesis holds for `t1` and its capture, but the tool exports nothing -/
theorem tls12_connection_exact_counterexample : ¬ tls12_connection_exact_statement := by
  intro hst
  obtain ⟨hres, hfound, hsec, hcls, hmac, hck, hsk⟩ := keys12
  obtain ⟨hokc, hoks, hwr, hlen, hout⟩ := cap1_eval.2.2
  have hsc : Script12Loose t1.cEvs := ⟨[[16, 0, 0, 2, 9, 9]], _, rfl, by
    intro e he
    simp only [List.mem_cons, List.mem_nil_iff, or_false] at he
    rcases he with rfl | rfl | rfl <;> exact ⟨_, _, _, rfl, by decide⟩⟩
  have hss : Script12Loose t1.sEvs := ⟨[[1, 0, 0, 3, 1, 2, 3, 14, 0, 0, 0]], _, rfl, by
    intro e he
    simp only [List.mem_cons, List.mem_nil_iff, or_false] at he
    rcases he with rfl | rfl <;> exact ⟨_, _, _, rfl, by decide⟩⟩
  obtain ⟨frames, h1, h2, _⟩ := hst hashes Cipher.Toy.prims Cipher.Toy.laws kl0 (infoOf cap1) (connOf cap1) rfl t1
    (by decide) (by decide) rfl rfl rfl rfl .tls12 (by decide) (by unfold Negotiated; decide)
    ps0 hres a0 args0 f0 [] hfound secrets0 hsec k0 gen0 cls0 hcls hmac hck hsk hsc hss hokc hoks hwr hlen
    delivered1 causal1
  -- no frames, yet the client's plaintext is not empty
  rw [hout] at h1
  have hf : frames = [] := List.map_eq_nil_iff.mp (Option.some.inj h1).symm
  rw [hf] at h2
  have : Spec.TlsConnection.plainOf t1.cEvs = [] := by
    have := congrArg (fun o => o.map Prod.fst) h2
    simpa [Spec.reassemble] using this.symm
  exact absurd this (by decide)

/-- the four traffic secrets of the connection -/
def kl13 : List Keylog.Key :=
  [⟨Keylog.s_CHTS, Keylog.hexOf (Pipeline.natsOfBytes cr0), Keylog.hexOf (List.replicate 32 1)⟩,
   ⟨Keylog.s_SHTS, Keylog.hexOf (Pipeline.natsOfBytes cr0), Keylog.hexOf (List.replicate 32 2)⟩,
   ⟨Keylog.s_CTS0, Keylog.hexOf (Pipeline.natsOfBytes cr0), Keylog.hexOf (List.replicate 32 3)⟩,
   ⟨Keylog.s_STS0, Keylog.hexOf (Pipeline.natsOfBytes cr0), Keylog.hexOf (List.replicate 32 4)⟩]
def ps13 : CipherSuite.Params := (CipherSuite.resolve (Bytes.beNat [0x13, 0x01])).getD []
def a13 : Pipeline.SuiteArgs := (Pipeline.suiteArgs ps13).getD ⟨⟨.other, false, false, 0, .sha1⟩, .none, none⟩
def secrets13 : List KeySchedule.Secret := (Pipeline.secretsOf true kl13).getD []
def k13 : KeySchedule.Installed13 :=
  match KeySchedule.generateKeys hashes .tls13 a13.ks secrets13 cr0 sr0 with
  | .ok (some (.tls13 k)) => k
  | _ => ⟨none, none, none, none, none, none, none, none, none, none, none, none⟩

theorem gen_eq13 {ε : Type} (x : Except ε (Option KeySchedule.Installed)) (k : KeySchedule.Installed13)
    (h : (match x with | .ok (some (.tls13 k')) => decide (k' = k) | _ => false) = true) :
    x = .ok (some (.tls13 k)) := by
  cases x with
  | error e => simp at h
  | ok o =>
    cases o with
    | none => simp at h
    | some i =>
      cases i with
      | legacy _ => simp at h
      | tls13 k' => simp only [decide_eq_true_eq] at h; rw [h]

/-- The traffic keys and IVs the key schedule derives from `kl13` (the installed pair is the handshake pair), as
    literals: every evaluation below that needs a key starts from these instead of running the key schedule again. -/
def k13v : KeySchedule.Installed13 :=
  let ck : Bytes := [248, 182, 116, 65, 255, 204, 138, 72, 21, 211, 145, 94, 28, 218, 167, 101]
  let ci : Bytes := [239, 131, 23, 186, 78, 241, 133, 40, 188, 95, 243, 150]
  let sk : Bytes := [143, 92, 26, 216, 165, 99, 48, 238, 172, 121, 55, 245, 194, 128, 62, 11]
  let si : Bytes := [70, 233, 125, 32, 180, 72, 235, 127, 34, 182, 89, 237]
  ⟨some ck, some ci, some sk, some si, some ck, some ci, some sk, some si,
   some [53, 243, 192, 126, 75, 9, 199, 148, 82, 16, 221, 155, 89, 38, 228, 177],
   some [172, 64, 227, 119, 26, 174, 81, 229, 121, 28, 176, 83],
   some [219, 153, 87, 36, 226, 175, 109, 43, 248, 182, 116, 65, 255, 189, 138, 72],
   some [3, 166, 58, 221, 113, 20, 168, 75, 223, 115, 22, 170]⟩

theorem gen13v : KeySchedule.generateKeys hashes .tls13 a13.ks secrets13 cr0 sr0 = .ok (some (.tls13 k13v)) :=
  gen_eq13 _ k13v (by decide +kernel)

theorem k13_eq : k13 = k13v := by
  unfold k13
  rw [gen13v]

def x13 : Snd :=
  ⟨SDir.init (k13.clientHsKey.getD []) (k13.clientHsIv.getD []) (k13.clientAppKey.getD []) (k13.clientAppIv.getD []),
   SDir.init (k13.serverHsKey.getD []) (k13.serverHsIv.getD []) (k13.serverAppKey.getD []) (k13.serverAppIv.getD [])⟩
def cls13 : CipherClass := .aead13 .aesgcm 16

/-- the same for TLS 1.3: hello pair `ch0`, `sh13`, key log `kl13` (all four traffic secrets) -/
theorem args13 : Pipeline.suiteArgs ps13 = some a13 := some_getD _ _ (by decide +kernel)

theorem gen13 : KeySchedule.generateKeys hashes .tls13 a13.ks secrets13 ch0.random sh13.random
    = .ok (some (.tls13 k13)) := by
  rw [k13_eq]; exact gen13v

theorem keys13 :
    CipherSuite.resolve (Bytes.beNat sh13.cipherSuite) = some ps13 ∧
    Keylog.findSessionSecrets kl13 (Pipeline.natsOfBytes ch0.random) = kl13.headD ⟨[], [], []⟩ :: kl13.tail ∧
    Pipeline.secretsOf true (kl13.headD ⟨[], [], []⟩ :: kl13.tail) = some secrets13 ∧
    (k13.clientHsKey = some (k13.clientHsKey.getD []) ∧ k13.clientHsIv = some (k13.clientHsIv.getD []) ∧
      k13.clientAppKey = some (k13.clientAppKey.getD []) ∧ k13.clientAppIv = some (k13.clientAppIv.getD []) ∧
      k13.serverHsKey = some (k13.serverHsKey.getD []) ∧ k13.serverHsIv = some (k13.serverHsIv.getD []) ∧
      k13.serverAppKey = some (k13.serverAppKey.getD []) ∧ k13.serverAppIv = some (k13.serverAppIv.getD [])) ∧
    classOf a13.bulk .tls13
      (Session.extGet ((sh13.extensions.getD []).map extPair) [0x00, 0x16]).isSome a13.tagLen = some cls13 ∧
    KeyMatOk cls13 (k13.clientHsKey.getD []) (k13.clientHsIv.getD []) ∧
    KeyMatOk cls13 (k13.clientAppKey.getD []) (k13.clientAppIv.getD []) ∧
    KeyMatOk cls13 (k13.serverHsKey.getD []) (k13.serverHsIv.getD []) ∧
    KeyMatOk cls13 (k13.serverAppKey.getD []) (k13.serverAppIv.getD []) := by
  rw [k13_eq]
  decide +kernel

/-- ClientHello, ServerHello; the server: dummy CCS, EncryptedExtensions…Finished in one record (padded), a
    NewSessionTicket (type 4) in the application epoch, 16 bytes; the client: dummy CCS, Finished, "hi" -/
def t13 : Transcript :=
  { ch := ch0, sh := sh13, rvC := [3, 1], rvS := [3, 3], ver := [3, 3],
    cEvs := [.ccs, .hs13 [C01Pipeline.Ex.fin] ⟨[], [], [], 0⟩, .enc 23 hi ⟨[], [], [], 5⟩],
    sEvs := [.ccs, .hs13 C01Pipeline.Ex.sflight ⟨[], [], [], 2⟩, .hs13 [(4, k24)] ⟨[], [], [], 0⟩,
             .enc 23 k16 ⟨[], [], [], 3⟩] }

def recs13 (d : Bool) : List Bytes := t13.records Cipher.Toy.prims Cipher.Toy.laws cls13 x13 d
def qC (i : Nat) : Bytes := (recs13 false).getD i []
def qS (i : Nat) : Bytes := (recs13 true).getD i []

/-- the capture: the ServerHello segment ends in the middle of the server's Finished flight; the rest of the flight and
    the ticket share a segment; the client's CCS and Finished share one -/
def cap13 : List (Bool × Bytes × Nat) :=
  [(false, qC 0, 0), (true, qS 0 ++ qS 1 ++ (qS 2).take 10, 0),
   (true, (qS 2).drop 10 ++ qS 3, (qS 0).length + (qS 1).length + 10), (false, qC 1 ++ qC 2, (qC 0).length),
   (false, qC 3, (qC 0).length + (qC 1).length + (qC 2).length),
   (true, qS 4, (qS 0).length + (qS 1).length + (qS 2).length + (qS 3).length)]
def pkts13 : List MainLoop.Pkt := (List.range cap13.length).map fun i =>
  mkPkt (cap13.getD i (false, [], 0)).1 (cap13.getD i (false, [], 0)).2.1 i
def info13 (tag : Nat) : Pipeline.Info :=
  ⟨(isnOf (cap13.getD tag (false, [], 0)).1 + (cap13.getD tag (false, [], 0)).2.2) % 4294967296, 1000 + tag, [1], [2], false⟩
def conn13 : Pipeline.Conn := ⟨⟨[443], false, false, false, true, []⟩, sEp, cEp, [2], [1], false, pkts13⟩
def chunks13 (d : Bool) : List Bytes :=
  if d then [qS 0 ++ qS 1 ++ (qS 2).take 10, (qS 2).drop 10 ++ qS 3, qS 4] else [qC 0, qC 1 ++ qC 2, qC 3]

/-- as `cap0_eval`, about the capture `cap13` of the connection `t13` -/
theorem cap13_eval :
    (∀ d, ((∀ b ∈ chunks13 d, b ≠ []) ∧
        (chunks13 d).flatten = t13.stream Cipher.Toy.prims Cipher.Toy.laws cls13 x13 d) ∧
      (dirSegs info13 conn13.server d conn13.pkts).map Props.C05.wire = segsOf (isnOf d) 0 (chunks13 d) ∧
      (t13.stream Cipher.Toy.prims Cipher.Toy.laws cls13 x13 d).length ≤ 2 ^ 31) ∧
    ((connRecs info13 conn13).map (·.2)).take 2 = [false, true] ∧
    ((∀ e ∈ t13.cEvs, EvOk1 cls13 (KeySchedule.macSuite hashes a13.ks.mac).outLen e) ∧
      (∀ e ∈ t13.sEvs, EvOk1 cls13 (KeySchedule.macSuite hashes a13.ks.mac).outLen e) ∧
      (∀ d, ∀ r ∈ t13.records Cipher.Toy.prims Cipher.Toy.laws cls13 x13 d, WholeRecord r) ∧
      budget13 t13 ≤ seqLimit) := by
  delta info13
  simp only [chunks13, qS, qC, recs13, conn13, pkts13, cap13, x13, k13_eq]
  decide +kernel

theorem delivered13 : DeliveredInOrder info13 conn13 (t13.stream Cipher.Toy.prims Cipher.Toy.laws cls13 x13) := by
  exact delivered_of_cuts _ _ _ isnOf chunks13 cap13_eval.1

theorem causal13 : Causal13 (connRecs info13 conn13) := causal13_of_dirs _ cap13_eval.2.1

theorem script13 : Script13 t13.cEvs ∧ Script13 t13.sEvs ∧
    (∀ e ∈ t13.cEvs, EvOk1 cls13 (KeySchedule.macSuite hashes a13.ks.mac).outLen e) ∧
    (∀ e ∈ t13.sEvs, EvOk1 cls13 (KeySchedule.macSuite hashes a13.ks.mac).outLen e) ∧
    (∀ d, ∀ r ∈ t13.records Cipher.Toy.prims Cipher.Toy.laws cls13 x13 d, WholeRecord r) ∧
    budget13 t13 ≤ seqLimit := by
  refine ⟨?_, ?_, cap13_eval.2.2⟩
  · intro e he
    simp only [t13, List.mem_cons, List.mem_nil_iff, or_false] at he
    rcases he with rfl | rfl | rfl
    · exact Or.inl rfl
    · exact Or.inr (Or.inl ⟨_, _, rfl⟩)
    · exact Or.inr (Or.inr ⟨_, _, rfl⟩)
  · intro e he
    simp only [t13, List.mem_cons, List.mem_nil_iff, or_false] at he
    rcases he with rfl | rfl | rfl | rfl
    · exact Or.inl rfl
    · exact Or.inr (Or.inl ⟨_, _, rfl⟩)
    · exact Or.inr (Or.inl ⟨_, _, rfl⟩)
    · exact Or.inr (Or.inr ⟨_, _, rfl⟩)

/-- every hypothesis of `tls13_connection_exact` holds for this connection — and so does its conclusion -/
theorem tls13_instance :
    ∃ frames, Pipeline.connOut hashes Cipher.Toy.prims info13 conn13 kl13
        = some (frames.map (Pipeline.addressed conn13.opts conn13)) ∧
      Spec.reassemble frames = some (hi, k16) ∧ TimesFromCarriers info13 conn13 frames := by
  obtain ⟨hres, hfound, hsec, hk, hcls, h1, h2, h3, h4⟩ := keys13
  obtain ⟨hsc, hss, hokc, hoks, hwr, hlen⟩ := script13
  have h := tls13_connection_exact hashes Cipher.Toy.prims Cipher.Toy.laws kl13 info13 conn13 rfl t13
    (by decide) (by decide) rfl rfl rfl rfl (by unfold Negotiated; decide)
    ps13 hres a13 args13 _ _ hfound secrets13 hsec k13 gen13 _ _ _ _ _ _ _ _ hk cls13 hcls h1 h2 h3 h4
    hsc hss hokc hoks hwr hlen delivered13 causal13
  have e : (Spec.TlsConnection.plainOf t13.cEvs, Spec.TlsConnection.plainOf t13.sEvs) = (hi, k16) := by decide
  rw [e] at h
  exact h

-- What fails outside the hypotheses. `Causal12` is needed, both halves. The same segments as `cap0`, each direction
-- still in order, but
-- (1) the ServerHello segment captured before the ClientHello: nothing is exported;
example : outOf ([cap0.getD 2 default, cap0.getD 0 default, cap0.getD 1 default] ++ cap0.drop 3) = some [] :=
  cap0_eval.2.2.2.1
-- (2) the client's ClientKeyExchange / ChangeCipherSpec / Finished segment captured before the ServerHello: nothing;
example : outOf ([cap0.getD 0 default, cap0.getD 1 default, cap0.getD 3 default, cap0.getD 2 default] ++ cap0.drop 4)
    = some [] := cap0_eval.2.2.2.2.1
-- whereas the capture order of `cap0` (a client record between the two hellos would also be fine) exports everything
example : outOf cap0 = some [(1004, hi), (1006, k16.take 8), (1008, k16.drop 8)] := cap0_eval.2.2.2.2.2

/-- TLS 1.3, RFC 8446 §5.1 "handshake messages MAY be … fragmented across several records": the server's flight
    EncryptedExtensions ‖ Certificate ‖ Finished as one byte stream, cut after `cut` bytes into two protected records
    (`cut = 0`: one record), then the switch to the application keys and 16 bytes of application data -/
def flightBytes : Bytes :=
  encMsgs [(8, [0, 0]), (11, [9, 9, 0, 0xff, 0xff, 0xff, 7, 7]), C01Pipeline.Ex.fin]
def fragRun (cut : Nat) : Option (List (Option Bytes × Bool × Bool)) :=
  match Dec.init Cipher.Toy.prims .aesgcm .tls13 32 (some 16) 128 false
      { cHsKey := some k16, sHsKey := some k16', cAppKey := some k16', sAppKey := some k16,
        cHsIv := some iv12, sHsIv := some iv12, cAppIv := some iv12, sAppIv := some iv12 } with
  | .ok d =>
    some ((Session.run (Pipeline.ops Crypto.toyPrims Cipher.Toy.prims []) false (C01Pipeline.Ex.sessOf d .tls13)
      (wireRecs (run Cipher.Toy.prims Cipher.Toy.laws (.aead13 .aesgcm 16) [3, 3]
          ⟨SDir.init k16 iv12 k16' iv12, SDir.init k16' iv12 k16 iv12⟩
          ((if cut = 0 then [Ev.send true 22 flightBytes ⟨[], [], [], 0⟩]
            else [Ev.send true 22 (flightBytes.take cut) ⟨[], [], [], 0⟩,
                  Ev.send true 22 (flightBytes.drop cut) ⟨[], [], [], 0⟩])
            ++ [.switch true, .send true 23 k16 ⟨[], [], [], 0⟩]))
        [[1], [2], [3]])).traffic.map fun e => (e.data, e.fromServer, e.isApp))
  | .error _ => none
-- whole messages per record (the hypothesis inside `DirEv.hs13`): exact
example : fragRun 0 = some [(some k16, true, true)] := by decide +kernel
-- the same flight cut inside the Certificate (the second record starts 00 ff ff ff …): BEFORE the repair of
-- `handle_decrypted_tls_13_handshake_record` (per-record walk, `Session.Legacy.hs13Loop`) the Finished was missed and
-- the server's application data lost (`Ex2.legacy_tls13_fragmented_counterexample`); with the per-direction buffer it
-- is exported
example : fragRun 12 = some [(some k16, true, true)] := by decide +kernel

-- … consistent with evaluating the model on the same packets
example : view (Pipeline.connOut hashes Cipher.Toy.prims infoCap connCap kl0)
    = some [(1004, hi), (1006, k16.take 8), (1008, k16.drop 8)] := cap0_eval.2.2.2.2.2

end Ex

end TLX.Props.C01Capstone
