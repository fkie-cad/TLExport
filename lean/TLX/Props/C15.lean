/-
C15 - the keys and IVs TLExport derives, as installed for a connection, equal those of the RFC key
schedules. Property theorems only; helper lemmas are in TLX/Lemmas/KeySchedule.lean (`hkdf_label_bytes` is proved
there, where the TLS 1.3 and QUIC derivations need it).

Every theorem is for ALL secrets, randoms and lengths and for EVERY hash suite: the hashes are
parameters (`Prims`, `HashSuite`), never axioms. Where a fact about the hash is needed it is the
explicit hypothesis `Lawful` (fixed non-zero output length; HKDF-Expand returns the length asked
for), which real MD5/SHA-1/SHA-256/SHA-384 satisfy and which `toy_lawful` shows satisfiable.
Model: TLX/KeySchedule.lean. Independent RFC transcription: TLX/Spec/KeySchedules.lean.
-/
import TLX.Lemmas.KeySchedule
namespace TLX.Props.C15
open TLX TLX.Crypto TLX.KeySchedule
open TLX.Spec.KeySchedules
open TLX.Lemmas.KeySchedule

/-- `prf_ssl_30` alone: RFC 6101's construction as long as ten terms suffice. -/
theorem ssl30_prf_eq_rfc_partial (P : Prims) (hmd5 : P.md5.Lawful) (secret cr sr : Bytes) (n : Nat) (nonKey : Bool)
    (hn : n ≤ 10 * P.md5.outLen) :
    prfSsl30 P secret cr sr n nonKey =
      .ok ((concatTerms (ssl3Term P.md5 P.sha1 secret (if nonKey then cr ++ sr else sr ++ cr))
            (ceilDiv n P.md5.outLen)).take n) := by
  have hK : ceilDiv n P.md5.outLen ≤ 10 := by
    false_or_by_contra; rename_i h
    have := (lt_ceilDiv_iff n P.md5.outLen 10 hmd5.outLen_pos).1 (by omega)
    omega
  have := whileShort_eq (ssl30Body P secret cr sr nonKey) (fun j => j + 1)
    (ssl3Term P.md5 P.sha1 secret (if nonKey then cr ++ sr else sr ++ cr)) P.md5.outLen n 10 hmd5.outLen_pos
    (fun j hj => ssl30Body_eq P secret cr sr nonKey j hj) (fun _ => hmd5.hash_len _) hK
  simp only [prfSsl30, Nat.zero_add] at this ⊢
  rw [this]; rfl

/-- `dev_ssl_30_keys` returns RFC 6101 §6.2.2's partition of the MD5/SHA key block, for every master
    secret, randoms and lengths - provided the requested block needs at most the ten salts
    `'A'…'JJJJJJJJJJ'` the code knows (`sec_bits`; beyond that Python raises IndexError) and the
    requested `key_block_length` covers the two MAC keys and two keys. -/
theorem ssl30_keys_eq_rfc (P : Prims) (hmd5 : P.md5.Lawful) (master sr cr : Bytes)
    (keyLen macLen kbLen : Nat) (c : CipherTag) (aead : Bool)
    (hkb : 2 * (if aead then 0 else macLen) + 2 * keyLen ≤ kbLen)
    (hmax : kbLen + 2 * ivLenLegacy c ≤ 10 * P.md5.outLen) (prfHash : HashSuite) :
    (devSsl30Keys P master sr cr keyLen macLen kbLen c aead).map toSpec =
      .ok (connectionKeys P .ssl30 ⟨prfHash, if aead then 0 else macLen, keyLen, ivLenLegacy c⟩ master cr sr) := by
  simp only [devSsl30Keys, ssl30_prf_eq_rfc_partial P hmd5 _ _ _ _ _ hmax, bind, Except.bind, pure, Except.pure,
    Except.map, connectionKeys, keyBlock, SecurityParameters.keyBlockLength, Bool.false_eq_true, if_false]
  exact congrArg _ (sliceKeys_stream (ssl3KeyBlock P.md5 P.sha1 master cr sr) (ssl3KeyBlock_prefix P hmd5 master cr sr)
    _ _ _ _ (by omega))

/-- The same for every length. FALSE: `sec_bits = 'ABCDEFGHIJ'` has ten letters, an eleventh term raises
    IndexError (with real MD5: more than 160 bytes; the largest SSL 3.0 suite needs 2*20 + 2*32 + 2*16 = 136). -/
def ssl30_prf_eq_rfc_statement : Prop :=
  ∀ (P : Prims), P.Lawful → ∀ (secret cr sr : Bytes) (n : Nat) (nonKey : Bool),
    prfSsl30 P secret cr sr n nonKey =
      .ok ((concatTerms (ssl3Term P.md5 P.sha1 secret (if nonKey then cr ++ sr else sr ++ cr))
            (ceilDiv n P.md5.outLen)).take n)

theorem ssl30_prf_eq_rfc_counterexample : ¬ ssl30_prf_eq_rfc_statement := by
  intro h
  have := congrArg Except.toOption (h toyPrims toyPrims_lawful [1] [2] [3] 21 false)
  revert this
  decide +kernel

/-- `prf_tls_10_11` is RFC 2246 §5's PRF for every secret of EVEN length (a master secret has 48
    bytes); the seed is `label + server_random + client_random` for key expansion (`non_key = 0`) and
    `label + client_random + server_random` for the master secret. -/
theorem tls10_prf_eq_rfc_partial (P : Prims) (hmd5 : P.md5.Lawful) (hsha : P.sha1.Lawful)
    (secret cr sr label : Bytes) (n : Nat) (nonKey : Bool) (heven : secret.length % 2 = 0) :
    prfTls1011 P secret cr sr label n nonKey =
      .ok (prf10 P.md5 P.sha1 secret label (if nonKey then cr ++ sr else sr ++ cr) n) := by
  have hhalf : secret.length - (secret.length + 1) / 2 = (secret.length + 1) / 2 := by omega
  have hc : ceilDiv secret.length 2 = (secret.length + 1) / 2 := by unfold ceilDiv; omega
  have hseed : (if nonKey then label ++ cr ++ sr else label ++ sr ++ cr) = label ++ (if nonKey then cr ++ sr else sr ++ cr) := by
    cases nonKey <;> simp
  simp only [prfTls1011, prf10, hseed, pHashLoop_eq _ hmd5, pHashLoop_eq _ hsha, hc, hhalf]
  simp only [bind, Except.bind, pure, Except.pure, xorZip_eq_xorBytes, xorBytes_take, pHash]

/-- The same without the parity hypothesis. It is FALSE: for odd `L_S` the RFC's S2 is the LAST
    `ceil(L_S/2)` bytes (sharing the middle byte with S1) while the code takes `secret[ceil(L_S/2):]`. -/
def tls10_prf_eq_rfc_statement : Prop :=
  ∀ (P : Prims), P.Lawful → ∀ (secret cr sr label : Bytes) (n : Nat) (nonKey : Bool),
    prfTls1011 P secret cr sr label n nonKey =
      .ok (prf10 P.md5 P.sha1 secret label (if nonKey then cr ++ sr else sr ++ cr) n)

theorem tls10_prf_eq_rfc_counterexample : ¬ tls10_prf_eq_rfc_statement := by
  intro h
  have := congrArg Except.toOption (h toyPrims toyPrims_lawful [1, 2, 3] [4] [5] [6] 4 false)
  revert this
  decide +kernel

/-- `dev_tls_10_11_keys` returns RFC 2246 §6.3's partition of
    `PRF(master_secret, "key expansion", server_random + client_random)` for every even-length
    master secret (RFC: 48 bytes), randoms, lengths; TLS 1.1 (RFC 4346) has the same key block. -/
theorem tls10_keys_eq_rfc (P : Prims) (hmd5 : P.md5.Lawful) (hsha : P.sha1.Lawful) (master sr cr : Bytes)
    (keyLen macLen kbLen : Nat) (c : CipherTag) (aead : Bool) (heven : master.length % 2 = 0)
    (hkb : 2 * (if aead then 0 else macLen) + 2 * keyLen ≤ kbLen) (v : ProtocolVersion)
    (hv : v = .tls10 ∨ v = .tls11) (prfHash : HashSuite) :
    (devTls1011Keys P master sr cr keyLen macLen kbLen c aead).map toSpec =
      .ok (connectionKeys P v ⟨prfHash, if aead then 0 else macLen, keyLen, ivLenLegacy c⟩ master cr sr) := by
  have hkb' : connectionKeys P v ⟨prfHash, if aead then 0 else macLen, keyLen, ivLenLegacy c⟩ master cr sr =
      connectionKeys P .tls10 ⟨prfHash, if aead then 0 else macLen, keyLen, ivLenLegacy c⟩ master cr sr := by
    rcases hv with rfl | rfl <;> rfl
  rw [hkb']
  simp only [devTls1011Keys, tls10_prf_eq_rfc_partial P hmd5 hsha _ _ _ _ _ _ heven, bind, Except.bind, pure, Except.pure,
    Except.map, connectionKeys, keyBlock, SecurityParameters.keyBlockLength, bKeyExpansion_eq]
  exact congrArg _ (sliceKeys_stream (prf10 P.md5 P.sha1 master _ _) (prf10_prefix P hmd5 hsha master _ _)
    _ _ _ _ (by omega))

/-- `prf_tls_12` is RFC 5246 §5's `P_<hash>(secret, label + server_random + client_random)`
    with SHA-384 exactly for the suites whose MAC token is SHA384, SHA-256 otherwise. -/
theorem tls12_prf_eq_rfc (P : Prims) (mac : MacTag) (hl : (prfHash12 P mac).Lawful) (secret cr sr label : Bytes)
    (n : Nat) :
    prfTls12 P secret cr sr label n mac =
      .ok (prf12 (tls12PrfHash P (mac = .sha384)) secret label (sr ++ cr) n) := by
  rw [tls12PrfHash_eq]
  simp only [prfTls12, prf12, pHash, List.append_assoc, pHashLoop_eq _ hl]
  rfl

/-- `dev_tls_12_keys` returns RFC 5246 §6.3's partition for every master secret, randoms, lengths
    and cipher class, with no condition on the master secret. -/
theorem tls12_keys_eq_rfc (P : Prims) (mac : MacTag) (hl : (prfHash12 P mac).Lawful) (master cr sr : Bytes)
    (keyLen macLen kbLen : Nat) (c : CipherTag) (aead : Bool)
    (hkb : 2 * (if aead then 0 else macLen) + 2 * keyLen ≤ kbLen) :
    (devTls12Keys P master cr sr keyLen macLen kbLen c aead mac).map toSpec =
      .ok (connectionKeys P .tls12
            ⟨tls12PrfHash P (mac = .sha384), if aead then 0 else macLen, keyLen, ivLenTls12 c aead⟩ master cr sr) := by
  simp only [devTls12Keys, tls12_prf_eq_rfc P mac hl, tls12PrfHash_eq, bind, Except.bind, pure, Except.pure, Except.map,
    connectionKeys, keyBlock, SecurityParameters.keyBlockLength, bKeyExpansion_eq]
  exact congrArg _ (sliceKeys_stream (prf12 (prfHash12 P mac) master _ _) (pHash_prefix _ hl master _) _ _ _ _ (by omega))

/-- `gen_master_secret_ssl_30` is RFC 6101 §6.1's three-term master secret (MD5 has 16 bytes). -/
theorem master_secret_ssl30_eq_rfc (P : Prims) (hmd5 : P.md5.Lawful) (h16 : P.md5.outLen = 16)
    (pms cr sr : Bytes) :
    genMasterSsl30 P pms cr sr = .ok (ssl3MasterSecret P.md5 P.sha1 pms cr sr) := by
  have h3 : ceilDiv 48 16 = 3 := by decide
  have hlen : (concatTerms (ssl3Term P.md5 P.sha1 pms (cr ++ sr)) 3).length = 3 * 16 := by
    rw [concatTerms_length _ 16 (fun _ => by rw [← h16]; exact hmd5.hash_len _)]
  rw [genMasterSsl30, ssl30_prf_eq_rfc_partial P hmd5 pms cr sr 48 true (by omega), h16, h3, ssl3MasterSecret]
  simp only [if_true]
  rw [List.take_of_length_le (by omega)]

/-- `gen_master_secret_tls_10_11` is RFC 2246 §8.1's master secret for even-length pre-master secrets. -/
theorem master_secret_tls10_eq_rfc (P : Prims) (hmd5 : P.md5.Lawful) (hsha : P.sha1.Lawful) (pms cr sr : Bytes)
    (heven : pms.length % 2 = 0) :
    genMasterTls1011 P pms cr sr = .ok (masterSecret10 P.md5 P.sha1 pms cr sr) := by
  rw [genMasterTls1011, tls10_prf_eq_rfc_partial P hmd5 hsha pms cr sr _ 48 true heven, masterSecret10, bMasterSecret_eq]
  rfl

/-- `gen_master_secret_tls_12` (two unrolled rounds of the suite's PRF hash, `(p1 + p2)[:48]`) is
    RFC 5246 §8.1's master secret for every hash of at least 24 bytes (SHA-256: 32, SHA-384: 48). -/
theorem master_secret_tls12_eq_rfc (P : Prims) (mac : MacTag) (hl : (prfHash12 P mac).Lawful)
    (h24 : 24 ≤ (prfHash12 P mac).outLen) (pms cr sr : Bytes) :
    genMasterTls12 P mac pms cr sr = masterSecret12 (tls12PrfHash P (mac = .sha384)) pms cr sr := by
  rw [tls12PrfHash_eq]
  unfold genMasterTls12
  generalize prfHash12 P mac = h at *
  have hle : ceilDiv 48 h.outLen ≤ 2 := by
    false_or_by_contra; rename_i hc
    have := (lt_ceilDiv_iff 48 h.outLen 2 hl.outLen_pos).1 (by omega)
    omega
  have := take_concatTerms_of_le (pHashTerm h pms (asc "master secret" ++ (cr ++ sr))) h.outLen
    (fun _ => hl.hmac_len _ _) (ceilDiv 48 h.outLen) 2 48 hle (ceilDiv_mul_ge 48 h.outLen hl.outLen_pos)
  simp only [masterSecret12, prf12, pHash, ← this]
  simp [concatTerms, List.range_succ, pHashTerm, A, bMasterSecret_eq]

/-- `dev_tls_13_keys` for every secret list, key length and hash: each key is
    `HKDF-Expand-Label(secret, "key", "", key_length)` and each IV `HKDF-Expand-Label(secret, "iv", "", 12)`
    of the LAST key-log entry with the corresponding label, and `None` when there is no such entry. -/
theorem tls13_keys_eq_rfc (h : HashSuite) (ss : List Secret) (keyLen : Nat) (hk : keyLen < 65536) :
    devTls13Keys h ss keyLen = .ok
      { clientHsKey := (lastOf .clientHandshake ss).map (tls13WriteKey h · keyLen)
        serverHsKey := (lastOf .serverHandshake ss).map (tls13WriteKey h · keyLen)
        clientAppKey := (lastOf .clientTraffic0 ss).map (tls13WriteKey h · keyLen)
        serverAppKey := (lastOf .serverTraffic0 ss).map (tls13WriteKey h · keyLen)
        clientHsIv := (lastOf .clientHandshake ss).map (tls13WriteIv h)
        serverHsIv := (lastOf .serverHandshake ss).map (tls13WriteIv h)
        clientAppIv := (lastOf .clientTraffic0 ss).map (tls13WriteIv h)
        serverAppIv := (lastOf .serverTraffic0 ss).map (tls13WriteIv h) } := by
  have h0 : ({} : Tls13Acc) = acc13 (fun s => h.hkdfExpand s (hkdfLabel keyLen (asc "key") []) keyLen)
      (fun s => h.hkdfExpand s (hkdfLabel 12 (asc "iv") []) 12) none none none none := rfl
  simp only [devTls13Keys, toBytes2, hk, if_true, bind, Except.bind, tls13_keyInfo, tls13_ivInfo, h0, tls13_fold,
    lastOf]
  rfl

/-- What `generate_keys` + `Decryptor.parse_keys` install for TLS 1.3 when all four traffic secrets
    are in the key log, for every suite, hash and secret values: the current keys are the RFC's
    handshake traffic keys, the stored application keys the RFC's application traffic keys
    (hash = the suite's hash, C14). -/
theorem tls13_installed_eq_rfc (P : Prims) (s : Suite) (ss : List Secret) (cr sr : Bytes)
    (hk : s.keyLen < 65536) (hne : ss ≠ [])
    (ch sh ca sa : Bytes) (h1 : lastOf .clientHandshake ss = some ch) (h2 : lastOf .serverHandshake ss = some sh)
    (h3 : lastOf .clientTraffic0 ss = some ca) (h4 : lastOf .serverTraffic0 ss = some sa) :
    let h := macSuite P s.mac
    generateKeys P .tls13 s ss cr sr = .ok (some (.tls13
      { clientKey := some (tls13WriteKey h ch s.keyLen), clientIv := some (tls13WriteIv h ch)
        serverKey := some (tls13WriteKey h sh s.keyLen), serverIv := some (tls13WriteIv h sh)
        clientHsKey := some (tls13WriteKey h ch s.keyLen), clientHsIv := some (tls13WriteIv h ch)
        serverHsKey := some (tls13WriteKey h sh s.keyLen), serverHsIv := some (tls13WriteIv h sh)
        clientAppKey := some (tls13WriteKey h ca s.keyLen), clientAppIv := some (tls13WriteIv h ca)
        serverAppKey := some (tls13WriteKey h sa s.keyLen), serverAppIv := some (tls13WriteIv h sa) })) := by
  cases ss with
  | nil => exact absurd rfl hne
  | cons x xs =>
    simp [generateKeys, tls13_keys_eq_rfc _ _ _ hk, h1, h2, h3, h4, bind, Except.bind, pure, Except.pure,
      parseKeys13]

/-- The fallback of `parse_keys`: without handshake secrets the connection starts on the RFC's
    APPLICATION traffic keys (TLExport's documented way to skip an undecryptable handshake). -/
theorem tls13_installed_without_handshake_secrets (P : Prims) (s : Suite) (ss : List Secret) (cr sr : Bytes)
    (hk : s.keyLen < 65536) (hne : ss ≠ [])
    (ca sa : Bytes) (h1 : lastOf .clientHandshake ss = none) (h2 : lastOf .serverHandshake ss = none)
    (h3 : lastOf .clientTraffic0 ss = some ca) (h4 : lastOf .serverTraffic0 ss = some sa) :
    let h := macSuite P s.mac
    generateKeys P .tls13 s ss cr sr = .ok (some (.tls13
      { clientKey := some (tls13WriteKey h ca s.keyLen), clientIv := some (tls13WriteIv h ca)
        serverKey := some (tls13WriteKey h sa s.keyLen), serverIv := some (tls13WriteIv h sa)
        clientHsKey := some (tls13WriteKey h ca s.keyLen), clientHsIv := some (tls13WriteIv h ca)
        serverHsKey := some (tls13WriteKey h sa s.keyLen), serverHsIv := some (tls13WriteIv h sa)
        clientAppKey := some (tls13WriteKey h ca s.keyLen), clientAppIv := some (tls13WriteIv h ca)
        serverAppKey := some (tls13WriteKey h sa s.keyLen), serverAppIv := some (tls13WriteIv h sa) })) := by
  cases ss with
  | nil => exact absurd rfl hne
  | cons x xs =>
    simp [generateKeys, tls13_keys_eq_rfc _ _ _ hk, h1, h2, h3, h4, bind, Except.bind, pure, Except.pure,
      parseKeys13]

/-- `update_keys` switches one direction to the stored application keys. -/
theorem tls13_update_keys (d : Installed13) :
    (updateKeys d true).serverKey = d.serverAppKey ∧ (updateKeys d true).serverIv = d.serverAppIv ∧
    (updateKeys d true).clientKey = d.clientKey ∧ (updateKeys d false).clientKey = d.clientAppKey ∧
    (updateKeys d false).clientIv = d.clientAppIv ∧ (updateKeys d false).serverKey = d.serverKey := by
  simp [updateKeys]

/-- `dev_initial_keys(dcid, V1, False)` is RFC 9001 §5.2 for every connection ID: v1 salt,
    "client in"/"server in" secrets of hash length, AES-128-GCM key/IV/HP labels - for every hash
    with SHA-256's output length 32 (the code writes the literal 32). -/
theorem quic_initial_eq_rfc (h : HashSuite) (h32 : h.outLen = 32) (dcid : Bytes) :
    devInitialKeys h dcid .v1 false =
      .ok (some { clientKey := (quicInitialClientKeys h dcid).key, clientIv := (quicInitialClientKeys h dcid).iv,
                  clientHp := (quicInitialClientKeys h dcid).hp, serverKey := (quicInitialServerKeys h dcid).key,
                  serverIv := (quicInitialServerKeys h dcid).iv, serverHp := (quicInitialServerKeys h dcid).hp }) := by
  simp only [devInitialKeys, Bool.false_eq_true, if_false, if_true,
    makeInfo_ok bClientIn 32 (by decide) (by decide), makeInfo_ok bServerIn 32 (by decide) (by decide),
    makeInfo_ok bQuicKey 16 (by decide) (by decide), makeInfo_ok bQuicIv 12 (by decide) (by decide),
    makeInfo_ok bQuicHp 16 (by decide) (by decide), bind, Except.bind, pure, Except.pure]
  simp only [quicInitialClientKeys, quicInitialServerKeys, quicPacketKeys, quicKey, quicIv, quicHp,
    quicClientInitialSecret, quicServerInitialSecret, quicInitialSecret, hkdfExpandLabel, h32, saltV1_eq,
    bClientIn_eq, bServerIn_eq, bQuicKey_eq, bQuicIv_eq, bQuicHp_eq]

/-- … and `set_initial_decryptor` hands the `Initial` decryptor server key, server IV, client key,
    client IV in that order. -/
theorem quic_initial_decryptor_eq_rfc (h : HashSuite) (h32 : h.outLen = 32) (dcid : Bytes) :
    (setInitialDecryptor h dcid .v1 false).map (fun o => o.map (·.1)) =
      .ok (some [(quicInitialServerKeys h dcid).key, (quicInitialServerKeys h dcid).iv,
                 (quicInitialClientKeys h dcid).key, (quicInitialClientKeys h dcid).iv]) := by
  simp only [setInitialDecryptor, quic_initial_eq_rfc h h32, bind, Except.bind, pure, Except.pure, Except.map,
    Option.map]

/-- With `chacha20 = True` (`handle_packet` re-derives so when the first offered suite is 0x1303,
    DESIGN §9 item 9) the installed Initial key has 32 bytes: not RFC 9001 §5.2, which fixes
    AES-128-GCM for Initial packets of every connection. -/
theorem quic_initial_chacha_flag_not_rfc (h : HashSuite) (hl : h.Lawful) (h32 : h.outLen = 32) (dcid : Bytes) :
    ∃ k, devInitialKeys h dcid .v1 true = .ok (some k) ∧ k.clientKey.length = 32 ∧
      (quicInitialClientKeys h dcid).key.length = 16 := by
  simp only [devInitialKeys, if_true, makeInfo_ok bClientIn 32 (by decide) (by decide),
    makeInfo_ok bServerIn 32 (by decide) (by decide), makeInfo_ok bQuicKey 32 (by decide) (by decide),
    makeInfo_ok bQuicIv 12 (by decide) (by decide), makeInfo_ok bQuicHp 32 (by decide) (by decide), bind,
    Except.bind, pure, Except.pure]
  exact ⟨_, rfl, hl.expand_len _ _ _ (by omega), hl.expand_len _ _ _ (by omega)⟩

/-- `dev_quic_keys(key_length, secrets, hash, V1)` for every secret list, key length and hash:
    handshake, 1-RTT and 0-RTT key, IV and header-protection key are RFC 9001 §5.1's
    "quic key" / "quic iv" / "quic hp" expansions of the last key-log entry with the label; the
    early entries are `None` when absent; without the four handshake/application secrets Python
    raises UnboundLocalError. -/
theorem quic_keys_eq_rfc (h : HashSuite) (keyLen : Nat) (ss : List Secret) (hk : keyLen < 65536) :
    devQuicKeys h keyLen ss .v1 =
      match lastOf .clientHandshake ss, lastOf .serverHandshake ss, lastOf .clientTraffic0 ss,
            lastOf .serverTraffic0 ss with
      | some ch, some sh, some ca, some sa => .ok
          { clientHs := tripleSpec (quicPacketKeys h ch keyLen), serverHs := tripleSpec (quicPacketKeys h sh keyLen)
            clientApp := tripleSpec (quicPacketKeys h ca keyLen), serverApp := tripleSpec (quicPacketKeys h sa keyLen)
            clientAppSec := ca, serverAppSec := sa
            clientEarly := (lastOf .clientEarly ss).map fun s => tripleSpec (quicPacketKeys h s keyLen)
            serverEarly := (lastOf .serverEarly ss).map fun s => tripleSpec (quicPacketKeys h s keyLen) }
      | _, _, _, _ => .error .unbound := by
  have h0 : ({} : QuicAcc) = accQ (fun s => ⟨h.hkdfExpand s (hkdfLabel keyLen bQuicKey []) keyLen,
      h.hkdfExpand s (hkdfLabel 12 bQuicIv []) 12, h.hkdfExpand s (hkdfLabel keyLen bQuicHp []) keyLen⟩)
      none none none none none none := rfl
  simp only [devQuicKeys, if_true, makeInfo_ok bQuicKey keyLen hk (by decide),
    makeInfo_ok bQuicIv 12 (by decide) (by decide), makeInfo_ok bQuicHp keyLen hk (by decide), bind, Except.bind,
    h0, quic_fold, lastOf]
  simp only [accQ, tripleSpec, quicPacketKeys, quicKey, quicIv, quicHp, hkdfExpandLabel, bQuicKey_eq, bQuicIv_eq,
    bQuicHp_eq]
  cases ss.foldl (pick .clientHandshake) none <;> cases ss.foldl (pick .serverHandshake) none <;>
    cases ss.foldl (pick .clientTraffic0) none <;> cases ss.foldl (pick .serverTraffic0) none <;> rfl

/-- `set_tls_decryptors` for the four QUIC v1 suites: hash and key length are the suite's
    (RFC 8446 B.4), the Handshake decryptor holds the RFC's handshake keys, the Application list
    starts with the RFC's generation 0 (keys, IVs and the two traffic secrets), the Early decryptor
    the 0-RTT key and IV when the early secret is in the key log. -/
theorem quic_installed_eq_rfc (P : Prims) (code : Nat) (keyLen : Nat) (hcode : quicSuiteKeyLength code = some keyLen)
    (ss : List Secret) (ch sh ca sa : Bytes)
    (h1 : lastOf .clientHandshake ss = some ch) (h2 : lastOf .serverHandshake ss = some sh)
    (h3 : lastOf .clientTraffic0 ss = some ca) (h4 : lastOf .serverTraffic0 ss = some sa) :
    let h := if quicSuiteUsesSha384 code then P.sha384 else P.sha256
    ∃ q, setTlsDecryptors P code ss .v1 = .ok (some q) ∧
      q.handshake = [quicKey h sh keyLen, quicIv h sh, quicKey h ch keyLen, quicIv h ch] ∧
      q.application = [specGeneration h keyLen sa ca 0] ∧
      q.early = (lastOf .clientEarly ss).map (fun s => [quicKey h s keyLen, quicIv h s]) ∧
      q.keys.clientHs.hp = quicHp h ch keyLen ∧ q.keys.serverHs.hp = quicHp h sh keyLen ∧
      q.keys.clientApp.hp = quicHp h ca keyLen ∧ q.keys.serverApp.hp = quicHp h sa keyLen ∧
      q.keys.clientEarly.map (·.hp) = (lastOf .clientEarly ss).map (quicHp h · keyLen) := by
  have hkl : keyLen < 65536 := Nat.lt_of_le_of_lt (quicSuiteKeyLength_le hcode) (by decide)
  simp only [setTlsDecryptors, quicSuiteParams_eq, hcode, Option.map_some, quic_keys_eq_rfc _ _ _ hkl, h1, h2, h3, h4,
    bind, Except.bind, pure, Except.pure]
  refine ⟨_, rfl, rfl, rfl, ?_, rfl, rfl, rfl, rfl, ?_⟩ <;>
    cases lastOf .clientEarly ss <;> rfl

/-- `n` key updates starting from the RFC's generation 0 give the RFC's generation `n`
    (RFC 9001 §6.1: `secret_<n+1> = HKDF-Expand-Label(secret_<n>, "quic ku", "", secret_<n>.Length)`,
    new key and IV from the new secret) - for every hash, key length and pair of traffic secrets of
    the hash's length (the code asks for `hash.digest_size` bytes where the RFC says
    `secret.Length`). By induction on `n`. -/
theorem quic_key_update_eq_rfc (h : HashSuite) (hl : h.Lawful) (keyLen : Nat) (hk : keyLen < 65536)
    (ho : h.outLen < 65536) (server0 client0 : Bytes) (hs : server0.length = h.outLen)
    (hc : client0.length = h.outLen) (n : Nat) :
    iterKeyUpdate h keyLen n (specGeneration h keyLen server0 client0 0) =
      .ok (specGeneration h keyLen server0 client0 n) := by
  induction n with
  | zero => rfl
  | succ n ih =>
    simp only [iterKeyUpdate, ih, Except.bind]
    exact keyUpdate_specGeneration h hl keyLen hk ho server0 client0 hs hc n

/-- `key_update` for traffic secrets of ANY length. FALSE: the code always asks for `hash.digest_size`
    bytes, RFC 9001 §6.1 for `secret_<n>.Length` (the two agree for genuine TLS 1.3 traffic secrets). -/
def quic_key_update_any_length_statement : Prop :=
  ∀ (h : HashSuite), h.Lawful → ∀ (keyLen : Nat), keyLen < 65536 → h.outLen < 65536 → ∀ (server0 client0 : Bytes),
    keyUpdate h keyLen (specGeneration h keyLen server0 client0 0) = .ok (specGeneration h keyLen server0 client0 1)

theorem quic_key_update_any_length_counterexample : ¬ quic_key_update_any_length_statement := by
  intro h
  have := congrArg (fun r => r.toOption.map (fun d => d.map List.length))
    (h (toy 4) (toy_lawful 4 (by decide)) 16 (by decide) (by decide) [1] [2])
  revert this
  decide +kernel

/-- One call of `check_key_epoch` keeps `decryptors["Application"]` equal to the RFC's generations `0 … k-1`
    and, when it appends, appends the RFC's generation `k`. -/
theorem quic_epoch_generations (h : HashSuite) (hl : h.Lawful) (keyLen : Nat) (hk : keyLen < 65536)
    (ho : h.outLen < 65536) (s0 c0 : Bytes) (hs : s0.length = h.outLen) (hc : c0.length = h.outLen)
    (st : Epochs) (k : Nat) (hpos : 0 < k)
    (happ : st.application = (List.range k).map (specGeneration h keyLen s0 c0)) (phase : Nat) (isServer : Bool) :
    ∃ st' k', checkKeyEpoch h keyLen st phase isServer = .ok st' ∧ k ≤ k' ∧ k' ≤ k + 1 ∧
      st'.application = (List.range k').map (specGeneration h keyLen s0 c0) := by
  obtain ⟨k0, rfl⟩ : ∃ k0, k = k0 + 1 := ⟨k - 1, by omega⟩
  unfold checkKeyEpoch
  simp only [bind, Except.bind, pure, Except.pure]
  generalize hst1 : (if isServer = true then
      if st.lastPhaseServer ≠ phase then
        { st with epochServer := st.epochServer + 1, lastPhaseServer := phase } else st
    else
      if st.lastPhaseClient ≠ phase then
        { st with epochClient := st.epochClient + 1, lastPhaseClient := phase } else st) = st1
  have happ1 : st1.application = (List.range (k0 + 1)).map (specGeneration h keyLen s0 c0) := by
    rw [← hst1, ← happ]
    cases isServer <;> simp <;> split <;> rfl
  have hlast : st1.application.getLast? = some (specGeneration h keyLen s0 c0 k0) := by
    rw [happ1, List.range_succ, List.map_append]; simp
  split
  · rw [hlast]
    simp only [keyUpdate_specGeneration h hl keyLen hk ho s0 c0 hs hc k0]
    refine ⟨_, k0 + 2, rfl, by omega, by omega, ?_⟩
    simp only [happ1]
    rw [show k0 + 2 = (k0 + 1) + 1 from rfl, List.range_succ (n := k0 + 1), List.map_append]; rfl
  · exact ⟨_, k0 + 1, rfl, by omega, by omega, happ1⟩

def specVersion : Version → Option ProtocolVersion
  | .ssl30 => some .ssl30 | .tls10 => some .tls10 | .tls11 => some .tls11 | .tls12 => some .tls12
  | .tls13 => none

/-- the bulk cipher a resolved suite denotes (the interface to C14); `none` for inconsistent
    parameter combinations that no table entry resolves to -/
def suiteBulk (s : Suite) : Option Bulk :=
  match s.cipher, s.modeFlag with
  | .aes, false => some .aesCbc
  | .camellia, false => some .camelliaCbc
  | .camellia, true => some .camelliaGcm
  | .tripleDES, false => some .tripleDesEdeCbc
  | .idea, false => some .ideaCbc
  | .rc4, false => some .rc4_128
  | .chacha, true => some .chacha20Poly1305
  | .aesgcm, true => some .aesGcm
  | .aesccm, true => some .aesCcm
  | _, _ => none

/-- the RFC's SecurityParameters for a resolved suite in a protocol version -/
def rfcParams (P : Prims) (pv : ProtocolVersion) (s : Suite) (b : Bulk) : SecurityParameters :=
  { prfHash := tls12PrfHash P (s.mac = .sha384)
    macKeyLength := if b.isAead then 0 else (macSuite P s.mac).outLen
    encKeyLength := s.keyLen
    fixedIvLength := recordIvLength pv b }

/-- the IV length the implementation's tables give -/
def implIvLength (v : Version) (s : Suite) : Nat :=
  match v with
  | .tls12 => ivLenTls12 s.cipher s.modeFlag
  | _ => ivLenLegacy s.cipher

/-- The implementation's IV-length tables agree with the RFCs wherever the RFC takes an IV from the
    key block (SSL 3.0 / TLS 1.0 CBC: one cipher block - 8 bytes for 3DES and IDEA, 16 for AES and
    Camellia; TLS 1.2 AEAD: 4, ChaCha20-Poly1305: 12). -/
theorem iv_table_eq_rfc (v : Version) (pv : ProtocolVersion) (hv : specVersion v = some pv) (s : Suite) (b : Bulk)
    (hb : suiteBulk s = some b) (haead : b.isAead = true → v = .tls12) (hiv : 0 < recordIvLength pv b) :
    implIvLength v s = recordIvLength pv b := by
  obtain ⟨c, cf, mf, kl, m⟩ := s
  cases c <;> cases mf <;> cases hb <;> cases v <;> cases hv <;>
    first
      | rfl
      | exact absurd hiv (by decide)
      | exact absurd (haead rfl) (by decide)

/-- The table as it was before the repair (`IDEA` missing from the 8-byte branch) is wrong for the
    IDEA suites in SSL 3.0 and TLS 1.0: 4 bytes where the RFC needs the 8-byte block. -/
def ivLenLegacyUnrepaired : CipherTag → Nat
  | .aes | .camellia => 16
  | .tripleDES => 8
  | _ => 4

theorem unrepaired_idea_iv_not_rfc :
    ivLenLegacyUnrepaired .idea ≠ recordIvLength .tls10 .ideaCbc ∧
    ivLenLegacyUnrepaired .idea ≠ recordIvLength .ssl30 .ideaCbc ∧
    ivLenLegacy .idea = recordIvLength .tls10 .ideaCbc := by decide

/-- All six installed fields at once, for every resolved suite, with the IV length of the implementation's table. -/
theorem generateKeys_eq_connectionKeys (P : Prims) (hP : P.Lawful) (v : Version) (pv : ProtocolVersion)
    (hv : specVersion v = some pv) (s : Suite) (hcf : v = .ssl30 → s.cryptoFlag = s.modeFlag)
    (ms cr sr : Bytes) (rest : List Secret)
    (hms : v = .tls10 ∨ v = .tls11 → ms.length % 2 = 0)
    (hssl : v = .ssl30 →
      2 * s.keyLen + 2 * (macSuite P s.mac).outLen + 2 * ivLenLegacy s.cipher ≤ 10 * P.md5.outLen) :
    ∃ k, generateKeys P v s ((.clientRandom, ms) :: rest) cr sr = .ok (some (.legacy k)) ∧
      toSpec k = connectionKeys P pv
        ⟨tls12PrfHash P (s.mac = .sha384), if s.modeFlag then 0 else (macSuite P s.mac).outLen, s.keyLen,
         implIvLength v s⟩ ms cr sr := by
  have hlen : 2 * (if s.modeFlag = true then 0 else (macSuite P s.mac).outLen) + 2 * s.keyLen ≤
      2 * s.keyLen + 2 * (macSuite P s.mac).outLen := by split <;> omega
  cases v with
  | tls13 => cases hv
  | tls12 =>
    cases hv
    obtain ⟨k, hk, hspec⟩ := exists_of_map_ok (tls12_keys_eq_rfc P s.mac (prfHash12_lawful P hP s.mac) ms cr sr
      s.keyLen (macSuite P s.mac).outLen _ s.cipher s.modeFlag hlen)
    exact ⟨k, by simp only [generateKeys, hk]; rfl, hspec⟩
  | tls10 =>
    cases hv
    obtain ⟨k, hk, hspec⟩ := exists_of_map_ok (tls10_keys_eq_rfc P hP.md5 hP.sha1 ms sr cr s.keyLen
      (macSuite P s.mac).outLen _ s.cipher s.modeFlag (hms (.inl rfl)) hlen .tls10 (.inl rfl)
      (tls12PrfHash P (s.mac = .sha384)))
    exact ⟨k, by simp only [generateKeys, hk]; rfl, hspec⟩
  | tls11 =>
    cases hv
    obtain ⟨k, hk, hspec⟩ := exists_of_map_ok (tls10_keys_eq_rfc P hP.md5 hP.sha1 ms sr cr s.keyLen
      (macSuite P s.mac).outLen _ s.cipher s.modeFlag (hms (.inr rfl)) hlen .tls11 (.inr rfl)
      (tls12PrfHash P (s.mac = .sha384)))
    exact ⟨k, by simp only [generateKeys, hk]; rfl, hspec⟩
  | ssl30 =>
    cases hv
    obtain ⟨k, hk, hspec⟩ := exists_of_map_ok (ssl30_keys_eq_rfc P hP.md5 ms sr cr s.keyLen
      (macSuite P s.mac).outLen _ s.cipher s.cryptoFlag (by rw [hcf rfl]; exact hlen) (hssl rfl)
      (tls12PrfHash P (s.mac = .sha384)))
    exact ⟨k, by simp only [generateKeys, hk]; rfl, by rw [hspec, hcf rfl]; rfl⟩

/-- **Installed = schedule.** For every master secret (even length for TLS 1.0/1.1; the RFC's is 48
    bytes), every pair of randoms, every protocol version SSL 3.0 … TLS 1.2, every resolved suite that
    denotes a bulk cipher (AEAD only in TLS 1.2) and every hash suite: what `generate_keys` hands to
    the `Decryptor` when the key log holds the connection's `CLIENT_RANDOM` master secret is - in
    the RFC's order - the RFC's client/server MAC key (empty for AEAD), client/server key, and, where
    the RFC's record protection takes an IV from the key block at all, the client/server IV of the
    RFC's length. The randoms enter as `server_random + client_random` in all four versions. -/
theorem installed_eq_schedule (P : Prims) (hP : P.Lawful) (v : Version) (pv : ProtocolVersion)
    (hv : specVersion v = some pv) (s : Suite) (b : Bulk) (hb : suiteBulk s = some b)
    (haead : b.isAead = true → v = .tls12) (hcf : v = .ssl30 → s.cryptoFlag = s.modeFlag)
    (ms cr sr : Bytes) (rest : List Secret)
    (hms : v = .tls10 ∨ v = .tls11 → ms.length % 2 = 0)
    (hssl : v = .ssl30 →
      2 * s.keyLen + 2 * (macSuite P s.mac).outLen + 2 * ivLenLegacy s.cipher ≤ 10 * P.md5.outLen) :
    ∃ k, generateKeys P v s ((.clientRandom, ms) :: rest) cr sr = .ok (some (.legacy k)) ∧
      (let rfc := connectionKeys P pv (rfcParams P pv s b) ms cr sr
       k.clientMac = rfc.clientWriteMacKey ∧ k.serverMac = rfc.serverWriteMacKey ∧
       k.clientKey = rfc.clientWriteKey ∧ k.serverKey = rfc.serverWriteKey ∧
       (0 < recordIvLength pv b → k.clientIv = rfc.clientWriteIv ∧ k.serverIv = rfc.serverWriteIv)) := by
  have hmf : s.modeFlag = b.isAead := by
    obtain ⟨c, cf, mf, kl, m⟩ := s
    cases c <;> cases mf <;> simp [suiteBulk] at hb <;> subst hb <;> rfl
  obtain ⟨k, hk, hspec⟩ := generateKeys_eq_connectionKeys P hP v pv hv s hcf ms cr sr rest hms hssl
  rw [hmf] at hspec
  refine ⟨k, hk, ?_⟩
  have hprf : (tls12PrfHash P (s.mac = .sha384)).Lawful := tls12PrfHash_eq P s.mac ▸ prfHash12_lawful P hP s.mac
  have hmk := connectionKeys_macs_keys P hP pv (tls12PrfHash P (s.mac = .sha384)) hprf
    (if b.isAead then 0 else (macSuite P s.mac).outLen) s.keyLen (implIvLength v s) (recordIvLength pv b) ms cr sr
  show (toSpec k).clientWriteMacKey = _ ∧ (toSpec k).serverWriteMacKey = _ ∧ (toSpec k).clientWriteKey = _ ∧
    (toSpec k).serverWriteKey = _ ∧ (_ → (toSpec k).clientWriteIv = _ ∧ (toSpec k).serverWriteIv = _)
  rw [hspec]
  refine ⟨hmk.1, hmk.2.1, hmk.2.2.1, hmk.2.2.2, fun hiv => ?_⟩
  rw [iv_table_eq_rfc v pv hv s b hb haead hiv]
  exact ⟨rfl, rfl⟩

/-- the `gen_master_secret_*` call `generate_keys` makes for the version -/
def genMaster (P : Prims) (v : Version) (mac : MacTag) (pms cr sr : Bytes) : R Bytes :=
  match v with
  | .ssl30 => genMasterSsl30 P pms cr sr
  | .tls10 | .tls11 => genMasterTls1011 P pms cr sr
  | _ => .ok (genMasterTls12 P mac pms cr sr)

/-- RFC 6101 §6.1 / RFC 2246 §8.1 / RFC 5246 §8.1 -/
def rfcMasterSecret (P : Prims) (pv : ProtocolVersion) (s : Suite) (pms cr sr : Bytes) : Bytes :=
  match pv with
  | .ssl30 => ssl3MasterSecret P.md5 P.sha1 pms cr sr
  | .tls10 | .tls11 => masterSecret10 P.md5 P.sha1 pms cr sr
  | .tls12 => masterSecret12 (tls12PrfHash P (s.mac = .sha384)) pms cr sr

/-- With an `RSA` entry `generate_keys` does exactly what it does with a `CLIENT_RANDOM` entry holding
    the master secret it derives first: same randoms in the same places, same lengths. -/
theorem generateKeys_premaster (P : Prims) (v : Version) (hv : v ≠ .tls13) (s : Suite) (pms cr sr : Bytes)
    (rest : List Secret) :
    generateKeys P v s ((.rsa, pms) :: rest) cr sr =
      (genMaster P v s.mac pms cr sr).bind fun ms => generateKeys P v s ((.clientRandom, ms) :: rest) cr sr := by
  cases v with
  | tls13 => exact absurd rfl hv
  | tls12 => rfl
  | tls10 => simp only [generateKeys, genMaster, bind, Except.bind]
  | tls11 => simp only [generateKeys, genMaster, bind, Except.bind]
  | ssl30 => simp only [generateKeys, genMaster, bind, Except.bind]

/-- **Installed = schedule, from a pre-master secret.** For every even-length pre-master secret (the
    RFC's has 48 bytes), randoms, version SSL 3.0 … TLS 1.2 and suite: the installed MAC keys, keys and
    IVs are the RFC's for the RFC's master secret (`"master secret"`, client random first; P_SHA384 for the
    SHA384 suites in TLS 1.2). Hash sizes enter because the code asks for the literal 48 bytes / two
    unrolled rounds: MD5 = 16 bytes for SSL 3.0, PRF hash ≥ 24 bytes for TLS 1.2.
    (RFC 7627 extended master secrets are outside this path: they need the handshake transcript.) -/
theorem installed_eq_schedule_premaster (P : Prims) (hP : P.Lawful) (v : Version) (pv : ProtocolVersion)
    (hv : specVersion v = some pv) (s : Suite) (b : Bulk) (hb : suiteBulk s = some b)
    (haead : b.isAead = true → v = .tls12) (hcf : v = .ssl30 → s.cryptoFlag = s.modeFlag)
    (pms cr sr : Bytes) (rest : List Secret)
    (hpms : v = .tls10 ∨ v = .tls11 → pms.length % 2 = 0)
    (h16 : v = .ssl30 → P.md5.outLen = 16)
    (h24 : v = .tls12 → 24 ≤ (prfHash12 P s.mac).outLen)
    (hssl : v = .ssl30 →
      2 * s.keyLen + 2 * (macSuite P s.mac).outLen + 2 * ivLenLegacy s.cipher ≤ 10 * P.md5.outLen) :
    ∃ k, generateKeys P v s ((.rsa, pms) :: rest) cr sr = .ok (some (.legacy k)) ∧
      (let rfc := connectionKeys P pv (rfcParams P pv s b) (rfcMasterSecret P pv s pms cr sr) cr sr
       k.clientMac = rfc.clientWriteMacKey ∧ k.serverMac = rfc.serverWriteMacKey ∧
       k.clientKey = rfc.clientWriteKey ∧ k.serverKey = rfc.serverWriteKey ∧
       (0 < recordIvLength pv b → k.clientIv = rfc.clientWriteIv ∧ k.serverIv = rfc.serverWriteIv)) := by
  have hne : v ≠ .tls13 := by intro h; subst h; simp [specVersion] at hv
  have hgm : genMaster P v s.mac pms cr sr = .ok (rfcMasterSecret P pv s pms cr sr) := by
    cases v with
    | tls13 => exact absurd rfl hne
    | tls12 =>
      simp [specVersion] at hv; subst hv
      have hl := prfHash12_lawful P hP s.mac
      simp only [genMaster, rfcMasterSecret, master_secret_tls12_eq_rfc P s.mac hl (h24 rfl)]
    | tls10 =>
      simp [specVersion] at hv; subst hv
      exact master_secret_tls10_eq_rfc P hP.md5 hP.sha1 pms cr sr (hpms (.inl rfl))
    | tls11 =>
      simp [specVersion] at hv; subst hv
      exact master_secret_tls10_eq_rfc P hP.md5 hP.sha1 pms cr sr (hpms (.inr rfl))
    | ssl30 =>
      simp [specVersion] at hv; subst hv
      exact master_secret_ssl30_eq_rfc P hP.md5 (h16 rfl) pms cr sr
  rw [generateKeys_premaster P v hne, hgm]
  refine installed_eq_schedule P hP v pv hv s b hb haead hcf _ cr sr rest ?_ hssl
  intro h10
  have : pv = .tls10 ∨ pv = .tls11 := by
    rcases h10 with rfl | rfl <;> simp [specVersion] at hv <;> simp [← hv]
  rcases this with rfl | rfl <;>
    simp [rfcMasterSecret, masterSecret10, prf10_length P hP.md5 hP.sha1]

/-- The call as it was before the repair (`dev_tls_10_11_keys(master_secret, client_random, server_random, …)`
    in the `RSA` branch, against the signature `(master_secret, server_random, client_random, …)`) derives a
    different key block: the two randoms are not interchangeable. -/
theorem unrepaired_premaster_call_swaps_randoms :
    (devTls1011Keys toyPrims [1, 2] [3] [4] 1 1 4 .aes false).toOption ≠
      (devTls1011Keys toyPrims [1, 2] [4] [3] 1 1 4 .aes false).toOption := by decide +kernel

/-! ## Non-vacuity: every hypothesis above is met by concrete, non-trivial inputs -/

/-- a lawful instance with the real digest sizes (16, 20, 32, 48) -/
def sizedToy : Prims := ⟨toy 16, toy 20, toy 32, toy 48⟩

theorem sizedToy_lawful : sizedToy.Lawful :=
  ⟨toy_lawful 16 (by decide), toy_lawful 20 (by decide), toy_lawful 32 (by decide), toy_lawful 48 (by decide)⟩

-- installed_eq_schedule: TLS 1.0 AES-128-CBC-SHA, SSL 3.0 IDEA-CBC-SHA, TLS 1.2 AES-256-GCM-SHA384, TLS 1.2 ChaCha20
example := installed_eq_schedule sizedToy sizedToy_lawful .tls10 .tls10 rfl ⟨.aes, false, false, 16, .sha1⟩ .aesCbc rfl
  (by decide) (by decide) (List.replicate 48 7) [1, 2] [3, 4] [] (by decide) (by decide)
example := installed_eq_schedule sizedToy sizedToy_lawful .ssl30 .ssl30 rfl ⟨.idea, false, false, 16, .sha1⟩ .ideaCbc rfl
  (by decide) (by decide) (List.replicate 48 7) [1, 2] [3, 4] [] (by decide) (by decide)
example := installed_eq_schedule sizedToy sizedToy_lawful .tls12 .tls12 rfl ⟨.aesgcm, true, true, 32, .sha384⟩ .aesGcm rfl
  (by decide) (by decide) (List.replicate 48 7) [1, 2] [3, 4] [(.other, [9])] (by decide) (by decide)
example := installed_eq_schedule sizedToy sizedToy_lawful .tls12 .tls12 rfl ⟨.chacha, true, true, 32, .sha256⟩
  .chacha20Poly1305 rfl (by decide) (by decide) [5, 6, 7] [1, 2] [3, 4] [] (by decide) (by decide)
example := installed_eq_schedule_premaster sizedToy sizedToy_lawful .ssl30 .ssl30 rfl ⟨.tripleDES, false, false, 24, .sha1⟩
  .tripleDesEdeCbc rfl (by decide) (by decide) (List.replicate 48 9) [1, 2] [3, 4] [] (by decide) (by decide) (by decide)
  (by decide)
example := installed_eq_schedule_premaster sizedToy sizedToy_lawful .tls12 .tls12 rfl ⟨.aes, false, false, 32, .sha384⟩
  .aesCbc rfl (by decide) (by decide) (List.replicate 48 9) [1, 2] [3, 4] [] (by decide) (by decide) (by decide)
  (by decide)
-- the installed values are real data of the right sizes (AES-128-CBC-SHA in TLS 1.0: 20/20/16/16/16/16)
example : ((generateKeys sizedToy .tls10 ⟨.aes, false, false, 16, .sha1⟩ [(.clientRandom, List.replicate 48 7)] [1, 2]
    [3, 4]).toOption.map fun
      | some (.legacy k) => [k.clientMac.length, k.serverMac.length, k.clientKey.length, k.serverKey.length,
                             k.clientIv.length, k.serverIv.length, if k.clientKey = k.serverKey then 1 else 0]
      | _ => []) = some [20, 20, 16, 16, 16, 16, 0] := by decide +kernel
-- ssl30_keys_eq_rfc's bound is met by the largest SSL 3.0 suite (AES-256-CBC-SHA: 2*32 + 2*20 + 2*16 = 136 <= 160)
example : 2 * 32 + 2 * 20 + 2 * ivLenLegacy .aes ≤ 10 * sizedToy.md5.outLen := by decide
-- tls10_prf_eq_rfc_partial / tls10_keys_eq_rfc: a 48-byte master secret is even
example : (List.replicate 48 (7 : UInt8)).length % 2 = 0 := by decide
-- hkdf_label_bytes: both branches occur
example : makeInfo bQuicKey 16 = .ok [0, 16, 14, 0x74, 0x6c, 0x73, 0x31, 0x33, 0x20, 0x71, 0x75, 0x69, 0x63, 0x20, 0x6b,
    0x65, 0x79, 0] := by rfl
example : makeInfo bQuicKey 65536 = .error .overflow := by rfl
-- tls13 / quic: key logs with and without handshake secrets
example : lastOf .clientTraffic0 [(.clientTraffic0, [1]), (.serverTraffic0, [2]), (.clientTraffic0, [3])] = some [3] := by
  decide
example := tls13_installed_eq_rfc sizedToy ⟨.aesgcm, true, true, 16, .sha256⟩
  [(.serverTraffic0, [4]), (.clientHandshake, [1]), (.serverHandshake, [2]), (.clientTraffic0, [3])] [] [] (by decide)
  (by decide) [1] [2] [3] [4] (by decide) (by decide) (by decide) (by decide)
example := tls13_installed_without_handshake_secrets sizedToy ⟨.aesgcm, true, true, 16, .sha256⟩
  [(.serverTraffic0, [4]), (.clientTraffic0, [3])] [] [] (by decide) (by decide) [3] [4] (by decide) (by decide)
  (by decide) (by decide)
example := quic_installed_eq_rfc sizedToy 0x1302 32 (by decide)
  [(.serverTraffic0, [4]), (.clientHandshake, [1]), (.clientEarly, [5]), (.serverHandshake, [2]), (.clientTraffic0, [3])]
  [1] [2] [3] [4] (by decide) (by decide) (by decide) (by decide)
example := quic_initial_eq_rfc (toy 32) rfl [0x83, 0x94, 0xc8, 0xf0, 0x3e, 0x51, 0x57, 0x08]
example := quic_key_update_eq_rfc (toy 32) (toy_lawful 32 (by decide)) 16 (by decide) (by decide)
  (List.replicate 32 1) (List.replicate 32 2) (by decide) (by decide) 4
-- successive generations really are different secrets
example : quicGeneration (toy 32) (List.replicate 32 1) 1 ≠ quicGeneration (toy 32) (List.replicate 32 1) 2 ∧
    quicGeneration (toy 32) (List.replicate 32 1) 2 ≠ quicGeneration (toy 32) (List.replicate 32 1) 3 := by
  decide +kernel

end TLX.Props.C15
