/-
C10 — server-port selection and port mapping behave as documented.
Property theorems over the model `TLX/Options.lean`; the constants of the tree under test come from
`TLX/OptionsSrc.lean` (regenerated each run), so `documented_defaults` is re-checked by the kernel
against the current source.
-/
import TLX.OptionsSrc
import TLX.Lemmas.Options
namespace TLX.Props.C10
open TLX.Options TLX.Lemmas.Options

/-- Effective server ports: the built-in list followed by the `-p` values (or the `-p` default). -/
theorem server_ports_effective (builtin pDefault : List Int) :
    serverPorts builtin pDefault none = .ok (builtin ++ pDefault) ∧
    ∀ vs ps, vs.mapM pyInt = some ps → serverPorts builtin pDefault (some vs) = .ok (builtin ++ ps) := by
  refine ⟨rfl, ?_⟩
  intro vs ps h
  simp [serverPorts, h]

/-- A TCP packet outside every known session starts a TLS session iff its destination or its source
    port is a server port. -/
theorem tls_candidate_iff (ports : List Int) (sport dport : Nat) :
    tlsCandidate ports sport dport = true ↔ ((dport : Int) ∈ ports ∨ (sport : Int) ∈ ports) := by
  simp [tlsCandidate]

/-- Who is the server of a new flow: the side whose port is a server port; if both are, the sender
    of the first packet. The two ports are never altered, only assigned. -/
theorem server_role (ports : List Int) (sport dport : Nat) (h : tlsCandidate ports sport dport = true) :
    ((roles ports sport dport).serverPort : Int) ∈ ports ∧
    (((sport : Int) ∈ ports → roles ports sport dport = ⟨sport, dport, true⟩) ∧
     ((sport : Int) ∉ ports → roles ports sport dport = ⟨dport, sport, false⟩)) := by
  rw [tls_candidate_iff] at h
  by_cases hs : (sport : Int) ∈ ports
  · simp [roles, hs]
  · have hd : (dport : Int) ∈ ports := by rcases h with h | h; exact h; exact absurd h hs
    simp [roles, hs, hd]

/-- No session — hence no output — for a flow neither of whose ports is a server port. -/
theorem not_candidate_iff (ports : List Int) (sport dport : Nat) :
    tlsCandidate ports sport dport = false ↔ ((dport : Int) ∉ ports ∧ (sport : Int) ∉ ports) := by
  simp [tlsCandidate]

/-- `-m` absent: ports are kept and the map is empty; `-m` present (bare or with values): ports are
    not kept. -/
theorem keep_iff_m_absent (builtin pDefault : List Int) (bare : List (List Nat))
    (pArg mArg : Option (List (List Nat))) (P : Parsed) (h : parse builtin pDefault bare pArg mArg = .ok P) :
    P.keep = mArg.isNone ∧ (mArg = none → P.portmap = []) := by
  unfold parse at h
  split at h
  · cases h
  · rename_i pm hpm
    split at h
    · cases h
    · cases h
      refine ⟨rfl, ?_⟩
      intro hm; subst hm
      simp [getPortMap] at hpm
      exact hpm

/-- Commas in `-m` values are dropped before anything else: trailing (or any other) commas do not
    change the map. -/
theorem commas_irrelevant (bare : List (List Nat)) (vs₁ vs₂ : List (List Nat))
    (h : vs₁.map (·.filter (· ≠ 44)) = vs₂.map (·.filter (· ≠ 44))) (hb : vs₁.isEmpty = vs₂.isEmpty) :
    getPortMap bare (some vs₁) = getPortMap bare (some vs₂) := by
  have key : ∀ (l₁ l₂ : List (List Nat)) (m : List (Int × Int)),
      l₁.map (·.filter (· ≠ 44)) = l₂.map (·.filter (· ≠ 44)) →
      l₁.foldlM (fun m tok => (mapEntry tok).map fun e => dictSet m e.1 e.2) m =
      l₂.foldlM (fun m tok => (mapEntry tok).map fun e => dictSet m e.1 e.2) m := by
    intro l₁
    induction l₁ with
    | nil => intro l₂ m h; cases l₂ <;> simp_all
    | cons a as ih =>
      intro l₂ m h
      cases l₂ with
      | nil => simp at h
      | cons b bs =>
        simp only [List.map_cons, List.cons.injEq] at h
        have he : mapEntry a = mapEntry b := by
          unfold mapEntry
          have : List.filter (fun x => decide (x ≠ 44)) a = List.filter (fun x => decide (x ≠ 44)) b := h.1
          rw [this]
        simp only [List.foldlM_cons, he]
        cases hb' : mapEntry b with
        | error e => rfl
        | ok e => exact ih bs _ h.2
  unfold getPortMap mapPortsAction
  simp only [hb]
  split
  · rfl
  · exact key vs₁ vs₂ [] h

/-- `d[k] = v; d.get(k')` -/
theorem dictGet_dictSet (m : List (Int × Int)) (k v k' : Int) :
    dictGet? (dictSet m k v) k' = if k' = k then some v else dictGet? m k' := by
  unfold dictSet
  split
  · rename_i hany
    rw [dictGet_update, hany]
    simp
  · rename_i hany
    have hnone : m.find? (fun e => e.1 == k) = none := by
      rw [List.find?_eq_none]
      intro e he hek
      exact hany (List.any_eq_true.mpr ⟨e, he, hek⟩)
    unfold dictGet?
    rw [List.find?_append]
    by_cases hk : k' = k
    · subst hk; simp [hnone]
    · have : (k == k') = false := by simp; exact fun e => hk e.symm
      simp [hk, this]

/-- What both builders are required to do with the ports of a flow. -/
def exported_ports_statement (out : Bool → List (Int × Int) → Roles → Int × Int) (dflt : Int) : Prop :=
  ∀ (pm : List (Int × Int)) (r : Roles),
    out true pm r = ((r.serverPort : Int), (r.clientPort : Int)) ∧
    out false pm r = ((dictGet? pm r.serverPort).getD dflt, (r.clientPort : Int))

/-- TCP builder: without `-m` the server port is the original one; with `-m` it is the mapped port
    for listed server ports and the fallback port for others; the client port is never changed. -/
theorem exported_ports (dflt : Int) : exported_ports_statement (tcpOut dflt) dflt := by
  intro pm r
  simp [tcpOut, outServerPort]

/-- QUIC builder, repaired: the same. -/
theorem exported_ports_quic (dflt : Int) : exported_ports_statement (quicOut true dflt) dflt := by
  intro pm r
  simp [quicOut, outServerPort]

/-- QUIC builder as found (ignores `keep_original_ports`): without `-m` a flow to port 443 is
    exported with server port 8080. -/
theorem quic_always_maps_counterexample : ¬ exported_ports_statement (quicOut false 8080) 8080 := by
  intro H
  have := (H [] ⟨443, 50000, false⟩).1
  revert this
  decide

/-- The documented defaults, re-checked against the constants extracted from the tree under test:
    built-in server ports 443 and 44330, `-p` default 443, bare `-m` = `443:8080`, fallback 8080 in
    both builders. -/
theorem documented_defaults :
    (Src.parse none none).toOption = some ⟨[443, 44330, 443], true, []⟩ ∧
    (Src.parse none (some [])).toOption = some ⟨[443, 44330, 443], false, [(443, 8080)]⟩ ∧
    Src.tcpDefault = 8080 ∧ Src.quicDefault = 8080 := by decide +kernel

/-- End to end over the options: `-p 8443 9443 -m 443:9000, 8443:9001` (trailing comma) selects
    443, 44330, 8443, 9443; a flow to 8443 is exported on 9001, one to 9443 on 8080, the client
    port stays; without `-m` both keep their port. -/
example :
    (match Src.parse (some [[56, 52, 52, 51], [57, 52, 52, 51]]) (some [[52, 52, 51, 58, 57, 48, 48, 48, 44], [56, 52, 52, 51, 58, 57, 48, 48, 49]]) with
     | .ok P => (P.serverPorts, P.keep, tcpOut Src.tcpDefault P.keep P.portmap (roles P.serverPorts 40000 8443),
                 quicOut true Src.quicDefault P.keep P.portmap (roles P.serverPorts 50000 9443))
     | .error _ => ([], true, (0, 0), (0, 0))) =
    ([443, 44330, 8443, 9443], false, (9001, 40000), (8080, 50000)) ∧
    (match Src.parse (some [[56, 52, 52, 51]]) none with
     | .ok P => (tcpOut Src.tcpDefault P.keep P.portmap (roles P.serverPorts 40000 8443), tlsCandidate P.serverPorts 40000 9443)
     | .error _ => ((0, 0), true)) = ((8443, 40000), false) := by decide +kernel

-- non-vacuity of `server_role`: both ports are server ports → the sender is taken for the server
example : tlsCandidate [443, 44330] 44330 443 = true ∧ roles [443, 44330] 44330 443 = ⟨44330, 443, true⟩ := by decide
example : tlsCandidate [443, 44330] 40000 443 = true ∧ roles [443, 44330] 40000 443 = ⟨443, 40000, false⟩ := by decide

end TLX.Props.C10
