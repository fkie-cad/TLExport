/-
C08 (TLS session part, composed with the builder) — cutting the capture only removes a suffix of the export.

`session_prefix_monotone`: for EVERY decryptor behaviour, the traffic list after the first `n` records is a prefix
of the traffic list after all records (the session only ever appends). `tls_export_prefix`: hence the conversation
built from the cut is a prefix, frame by frame, of the conversation built from everything. Reassembly is an online
machine as well (`TLX.Props.C05.two_pass_eq_fused`, `TLX.Props.C08.stage_prefix_monotone`): a cut capture delivers a
prefix of the records.
-/
import TLX.Lemmas.Session
import TLX.Props.C08
import TLX.Props.C13Session
namespace TLX.Props.C08
open TLX TLX.Session

variable {δ : Type}

theorem session_prefix_monotone (O : Ops δ) (m : Bool) (s : St δ) (rs : List (Rec × Bool)) (n : Nat) :
    (run O m s (rs.take n)).traffic <+: (run O m s rs).traffic :=
  foldl_take_grows (fun s (x : Rec × Bool) => handleRecord O m s x.1 x.2) (·.traffic)
    (fun s x => handleRecord_traffic_prefix O m s x.1 x.2) s rs n

/-- builder: a prefix of the records yields a prefix of the conversation -/
theorem build_prefix (a b : List TcpOut.Rec) (h : a <+: b) (fa fb : List TcpOut.Frame)
    (ha : TcpOut.build a = some fa) (hb : TcpOut.build b = some fb) : fa <+: fb := by
  have : a = b.take a.length := by
    obtain ⟨t, rfl⟩ := h
    simp
  rw [this] at ha
  exact build_take_prefix b a.length fa fb ha hb

/-- C08 for TLS, session and builder composed -/
theorem tls_export_prefix (O : Ops δ) (m : Bool) (rs : List (Rec × Bool)) (n : Nat) (fa fb : List TcpOut.Frame)
    (ha : TcpOut.build ((run O m St.init (rs.take n)).traffic.map C13.toRec) = some fa)
    (hb : TcpOut.build ((run O m St.init rs).traffic.map C13.toRec) = some fb) : fa <+: fb := by
  apply build_prefix _ _ _ fa fb ha hb
  obtain ⟨t, ht⟩ := session_prefix_monotone O m St.init rs n
  exact ⟨t.map C13.toRec, by rw [← List.map_append, ht]⟩

end TLX.Props.C08
