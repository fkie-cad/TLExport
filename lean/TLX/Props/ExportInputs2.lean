/-
Renumbering of packet tags, and the literal file-to-file forms of C09 / C11 / C03 / C08 that need it.

`Pkt.tag` is the position of the packet in the capture (`Ingest`). Adding or removing blocks renumbers the packets behind
them. `Lemmas/TagNat`: NO part of the program compares tags (reassembly carries them into the carrier lists, the session
stores them, `Session.decrypt()` and the QUIC machine read `info tag`), so for ANY function `ρ` — neither injective nor
monotone — the run on retagged items with table `info'` is the run on the original items with `info' ∘ ρ`.

1. `framesFrom_retag`, `framesFrom_info_congr`, `framesFrom_alike` / `tlsFrames_alike`: item lists that are position by
   position alike up to the frames' tags, with tables that say the same about corresponding frames, give the same run.
   Both follow from the naturality alone (`congr_of_natural`, `alike_of_natural`); nothing is assumed about either list's tags.
2. the read loop item by item (`one`, `go_cons`), `go_filter` (a capture with reader items removed), `go_shift`.
3. C09  `export_key_delivery_files` (any numbers of secrets blocks in front, TLS + QUIC), `export_key_delivery_files_tls`
        (TLS-only captures: blocks anywhere between the same packet blocks); the case of equally many blocks is
        `ExportInputs.export_key_delivery_independent_file`, declared here under that name
   C11  `export_checksum_filter_reader`, `export_checksum_filter_file` (`-c` on the file = no `-c` on the file re-encoded
        without the rejected frames, any container variant; hypothesis: the `-c` run reads the capture to the end)
   C03  `export_bystander_unaffected_file`, `export_bystander_unaffected_encoded` (TLS bystanders)
   C08  `read_cut`, `export_cut_prefix_tls_file` (the reader hypotheses of `ExportProps.export_cut_prefix_tls_ingest`
        discharged from the encoder, both containers)
   Replayed on the real tool: harness/export_inputs2_replay.py.
-/
import TLX.Props.ExportInputs
namespace TLX.Props.ExportInputs2
open TLX TLX.MainLoop TLX.Export TLX.Spec.Demux TLX.Lemmas.ExportProps TLX.Lemmas.MainLoop TLX.Lemmas.TagNat
open TLX.Props.ExportInputs
open TLX.Spec.Containers (Zip)

variable (mask : Quic.Dissect.MaskFn) (H : Crypto.Prims) (P : Cipher.Prims)

section Nat

/-- **Naturality of `run()` under renaming of tags.** For ANY function `ρ` on tags (nothing about order or injectivity
    is needed: no part of the program compares tags): the items with their tags renamed by `ρ` and the table `info'` give
    what the original items give with the table `info' ∘ ρ`. -/
theorem framesFrom_retag (ρ : Nat → Nat) (info' : Nat → Pipeline.Info) (prior : Export.Prior) (args : Args)
    (fk : Option (List Keylog.Key)) (xs : List (Item Keylog.Key)) :
    framesFrom mask H P prior args fk (xs.map (itemRetag ρ)) info' =
      framesFrom mask H P prior args fk xs (info' ∘ ρ) := by
  apply framesFrom_congr
  intro o ho
  rw [framesFrom_views mask H P info' prior args fk _ o ho,
    framesFrom_views mask H P (info' ∘ ρ) prior args fk _ o ho, tlsFrames_nat]
  congr 2
  rw [quicView_retag, quicRun_nat]
  rfl

theorem quicRun_info_congr (info₁ info₂ : Nat → Pipeline.Info) (o : Opts) (X : List (QIn Keylog.Key))
    (h : ∀ x ∈ X, info₁ x.p.tag = info₂ x.p.tag) :
    ∀ ss, quicRun (QuicPipeline.quicMachine mask H P info₁) o ss X =
      quicRun (QuicPipeline.quicMachine mask H P info₂) o ss X := fun ss =>
  congr_of_natural (fun x : QIn Keylog.Key => [x.p.tag]) (fun ρ x => { x with p := retag ρ x.p })
    (fun ρ x hx => by simp only [retag, hx x.p.tag List.mem_cons_self])
    (fun X info => quicRun (QuicPipeline.quicMachine mask H P info) o ss X)
    (fun ρ info l => quicRun_nat mask H P ρ info o l ss) X info₁ info₂
    (fun x hx t ht => by rw [List.mem_singleton.mp ht]; exact h x hx)

/-- two tables that agree at the tags of the capture's frames give the same run -/
theorem framesFrom_info_congr (info₁ info₂ : Nat → Pipeline.Info) (prior : Export.Prior) (args : Args)
    (fk : Option (List Keylog.Key)) (xs : List (Item Keylog.Key))
    (h : ∀ p, Item.frame p ∈ xs → info₁ p.tag = info₂ p.tag) :
    framesFrom mask H P prior args fk xs info₁ = framesFrom mask H P prior args fk xs info₂ :=
  congr_of_natural itemTags (fun ρ a => itemRetag ρ a) itemRetag_fix (fun xs info => framesFrom mask H P prior args fk xs info)
    (fun ρ info l => framesFrom_retag mask H P ρ info prior args fk l) xs info₁ info₂ (mem_itemTags h)

end Nat

section Alike

/-- two main-loop items that differ at most in the tag of the frame, and whose tables say the same about it -/
def Alike (info₁ info₂ : Nat → Pipeline.Info) : Item Keylog.Key → Item Keylog.Key → Prop
  | .dsb k₁, .dsb k₂ => k₁ = k₂
  | .frame p, .frame q => q = { p with tag := q.tag } ∧ info₂ q.tag = info₁ p.tag
  | _, _ => False

theorem le_foldr_max {l : List Nat} {t : Nat} (h : t ∈ l) : t ≤ l.foldr max 0 := by
  induction l with
  | nil => cases h
  | cons a l ih =>
    rcases List.mem_cons.mp h with rfl | h
    · exact Nat.le_max_left _ _
    · exact Nat.le_trans (ih h) (Nat.le_max_right _ _)

/-- two lists alike up to tags are two images of ONE list: pair the tags, `M * (tag in xs) + (tag in ys)` with `M` above
    the tags of `ys`; `/ M` gives back `xs`, `% M` gives `ys` -/
theorem alike_factor {i₁ i₂ : Nat → Pipeline.Info} {xs ys : List (Item Keylog.Key)} (hz : Zip (Alike i₁ i₂) xs ys)
    (M : Nat) (hM : ∀ q, Item.frame q ∈ ys → q.tag < M) :
    ∃ zs : List (Item Keylog.Key), zs.map (itemRetag (· / M)) = xs ∧ zs.map (itemRetag (· % M)) = ys ∧
      ∀ a ∈ zs, ∀ t ∈ itemTags a, i₁ (t / M) = i₂ (t % M) := by
  induction hz with
  | nil => exact ⟨[], rfl, rfl, fun a ha => nomatch ha⟩
  | @cons a b as bs hab _ ih =>
    obtain ⟨zs, h1, h2, h3⟩ := ih fun q hq => hM q (List.mem_cons_of_mem _ hq)
    cases a with
    | dsb k₁ =>
      cases b with
      | frame q => exact absurd hab (by simp [Alike])
      | dsb k₂ =>
        have e : k₁ = k₂ := hab
        refine ⟨.dsb k₁ :: zs, by rw [List.map_cons, h1]; rfl, by rw [List.map_cons, h2, e]; rfl, fun c hc => ?_⟩
        rcases List.mem_cons.mp hc with rfl | hc
        · intro t ht; cases ht
        · exact h3 c hc
    | frame p =>
      cases b with
      | dsb k => exact absurd hab (by simp [Alike])
      | frame q =>
        obtain ⟨hq, hi⟩ : q = { p with tag := q.tag } ∧ i₂ q.tag = i₁ p.tag := hab
        have hlt : q.tag < M := hM q List.mem_cons_self
        have hdiv : (M * p.tag + q.tag) / M = p.tag := by
          rw [Nat.mul_add_div (Nat.zero_lt_of_lt hlt), Nat.div_eq_of_lt hlt, Nat.add_zero]
        have hmod : (M * p.tag + q.tag) % M = q.tag := by rw [Nat.mul_add_mod, Nat.mod_eq_of_lt hlt]
        refine ⟨.frame { p with tag := M * p.tag + q.tag } :: zs, ?_, ?_, fun c hc => ?_⟩
        · simp only [List.map_cons, h1, itemRetag, retag, hdiv]
        · simp only [List.map_cons, h2, itemRetag, retag, hmod]; rw [hq]
        · rcases List.mem_cons.mp hc with rfl | hc
          · intro t ht
            rw [List.mem_singleton.mp ht, hdiv, hmod, hi]
          · exact h3 c hc

theorem alike_of_natural {β : Type} (Φ : List (Item Keylog.Key) → (Nat → Pipeline.Info) → β)
    (hnat : ∀ ρ info l, Φ (l.map (itemRetag ρ)) info = Φ l (info ∘ ρ))
    {i₁ i₂ : Nat → Pipeline.Info} {xs ys : List (Item Keylog.Key)} (hz : Zip (Alike i₁ i₂) xs ys) : Φ xs i₁ = Φ ys i₂ := by
  have hb : ∀ q, Item.frame q ∈ ys → q.tag < (ys.flatMap itemTags).foldr max 0 + 1 := fun q hq =>
    Nat.lt_succ_of_le (le_foldr_max (List.mem_flatMap.mpr ⟨_, hq, List.mem_cons_self⟩))
  generalize (ys.flatMap itemTags).foldr max 0 + 1 = M at hb
  obtain ⟨zs, hx, hy, hi⟩ := alike_factor hz M hb
  rw [← hx, ← hy, hnat, hnat]
  exact congr_of_natural itemTags (fun ρ a => itemRetag ρ a) itemRetag_fix Φ hnat zs _ _ hi

/-- **The run on items that are alike up to their tags.** Two item lists, position by position the same secrets blocks
    and the same frames except for the frames' tags, with tables that say the same about corresponding frames (time stamp,
    MAC addresses, sequence number, IP version): `run()` hands the same frames to the writer. Nothing is assumed about how
    the tags of either list are chosen (not even that they are distinct). -/
theorem framesFrom_alike (info₁ info₂ : Nat → Pipeline.Info) (prior : Export.Prior) (args : Args)
    (fk : Option (List Keylog.Key)) {xs ys : List (Item Keylog.Key)} (hz : Zip (Alike info₁ info₂) xs ys) :
    framesFrom mask H P prior args fk xs info₁ = framesFrom mask H P prior args fk ys info₂ :=
  alike_of_natural (fun xs info => framesFrom mask H P prior args fk xs info)
    (fun ρ info l => framesFrom_retag mask H P ρ info prior args fk l) hz

end Alike

section ReadLoop
open TLX.Ingest

/-- the loop body on one reader item that gets the tag `tag`: the main-loop item, and the frame's table entry -/
def one (c : Bool) (tag : Nat) : Container.Item → Except Ingest.Err (Item Keylog.Key × Option Pipeline.Info)
  | .dsb s =>
    match decodeAscii s with
    | .error e => .error e
    | .ok str => .ok (.dsb (Keylog.getKeysFromString Keylog.srcHexClass str), none)
  | .pkt t buf =>
    if isMinusOne t then
      match decodeAscii buf with
      | .error e => .error e
      | .ok str => .ok (.dsb (Keylog.getKeysFromString Keylog.srcHexClass str), none)
    else
      match framePkt c tag (Container.usOfFloat t.toFloat) buf with
      | .error e => .error e
      | .ok (p, i) => .ok (.frame p, some i)

/-- `one` is the loop body `readItem` of `Lemmas/ExportProps` for the tool's key-log parser -/
theorem one_eq (c : Bool) (tag : Nat) (it : Container.Item) : one c tag it = readItem Keylog.srcHexClass c tag it := by
  cases it <;> rfl

theorem go_cons (c : Bool) (tag : Nat) (it : Container.Item) (rest : List Container.Item) :
    go Keylog.srcHexClass c tag (it :: rest) =
      match one c tag it with
      | .error e => .error e
      | .ok (x, oi) =>
        match go Keylog.srcHexClass c (tag + 1) rest with
        | .error e => .error e
        | .ok (xs, is) => .ok (x :: xs, (oi.map fun i => (tag, i)).toList ++ is) := by
  rw [one_eq]
  exact go_readItem _ c tag it rest

theorem go_cons_ok (c : Bool) (tag : Nat) (it : Container.Item) (rest : List Container.Item)
    (X : List (Item Keylog.Key)) (IS : List (Nat × Pipeline.Info))
    (h : go Keylog.srcHexClass c tag (it :: rest) = .ok (X, IS)) :
    ∃ x oi Xr ISr, one c tag it = .ok (x, oi) ∧ go Keylog.srcHexClass c (tag + 1) rest = .ok (Xr, ISr) ∧
      X = x :: Xr ∧ IS = (oi.map fun i => (tag, i)).toList ++ ISr := by
  rw [one_eq]
  exact go_readItem_ok _ c tag it rest X IS h

/-- the tag only ends up in `Pkt.tag` -/
theorem framePkt_tag_indep (c : Bool) (tag tag' us : Nat) (buf : Bytes) :
    framePkt c tag' us buf = (framePkt c tag us buf).map fun v => ({ v.1 with tag := tag' }, v.2) := by
  unfold framePkt
  cases Dissect.dissect buf with
  | error e => rfl
  | ok d =>
    cases d with
    | notIp => rfl
    | ip x =>
      simp only
      cases (if c then verdict x else .ok none) with
      | error e => rfl
      | ok v => simp only; cases x.l4 <;> rfl

def setTag (tag' : Nat) : Item Keylog.Key → Item Keylog.Key
  | .dsb k => .dsb k
  | .frame p => .frame { p with tag := tag' }

theorem one_tag_indep (c : Bool) (tag tag' : Nat) (it : Container.Item) :
    one c tag' it = (one c tag it).map fun v => (setTag tag' v.1, v.2) := by
  cases it with
  | dsb s => simp only [one]; cases decodeAscii s <;> rfl
  | pkt t buf =>
    simp only [one]
    by_cases hm : isMinusOne t = true
    · simp only [hm, if_true]; cases decodeAscii buf <;> rfl
    · simp only [hm, Bool.false_eq_true, if_false]
      rw [framePkt_tag_indep c tag tag']
      cases framePkt c tag (Container.usOfFloat t.toFloat) buf with
      | error e => rfl
      | ok v => rfl

theorem one_frame_tag (c : Bool) (tag : Nat) (it : Container.Item) (p : Pkt) (oi : Option Pipeline.Info)
    (h : one c tag it = .ok (.frame p, oi)) : p.tag = tag ∧ oi.isSome :=
  readItem_frame_tag _ c tag it p oi (one_eq c tag it ▸ h)

theorem one_dsb_none (c : Bool) (tag : Nat) (it : Container.Item) (k : List Keylog.Key) (oi : Option Pipeline.Info)
    (h : one c tag it = .ok (.dsb k, oi)) : oi = none := by
  cases it with
  | dsb s =>
    simp only [one] at h
    cases hd : decodeAscii s with
    | error e => rw [hd] at h; cases h
    | ok str => rw [hd] at h; simp only [Except.ok.injEq, Prod.mk.injEq] at h; exact h.2.symm
  | pkt t buf =>
    simp only [one] at h
    by_cases hm : isMinusOne t = true
    · simp only [hm, if_true] at h
      cases hd : decodeAscii buf with
      | error e => rw [hd] at h; cases h
      | ok str => rw [hd] at h; simp only [Except.ok.injEq, Prod.mk.injEq] at h; exact h.2.symm
    · simp only [hm, Bool.false_eq_true, if_false] at h
      cases hf : framePkt c tag (Container.usOfFloat t.toFloat) buf with
      | error e => rw [hf] at h; cases h
      | ok v => obtain ⟨q, i⟩ := v; rw [hf] at h; cases h

/-- the frames the loop makes from tag `tag` on carry tags `≥ tag`, and so do the table's keys -/
theorem zip_alike_congr {a b a' b' : Nat → Pipeline.Info} {xs ys : List (Item Keylog.Key)}
    (hz : Zip (Alike a b) xs ys) (ha : ∀ p, Item.frame p ∈ xs → a' p.tag = a p.tag)
    (hb : ∀ q, Item.frame q ∈ ys → b' q.tag = b q.tag) : Zip (Alike a' b') xs ys := by
  induction hz with
  | nil => exact Zip.nil
  | @cons x y xs ys hxy _ ih =>
    refine Zip.cons ?_ (ih (fun p hp => ha p (by simp [hp])) (fun q hq => hb q (by simp [hq])))
    cases x with
    | dsb k₁ =>
      cases y with
      | dsb k₂ => exact hxy
      | frame q => exact absurd hxy (by simp [Alike])
    | frame p =>
      cases y with
      | dsb k => exact absurd hxy (by simp [Alike])
      | frame q =>
        obtain ⟨h1, h2⟩ : q = { p with tag := q.tag } ∧ b q.tag = a p.tag := hxy
        exact ⟨h1, by rw [ha p (by simp), hb q (by simp), h2]⟩

/-- the main-loop items that stem from the reader items `keep` keeps (the two lists are aligned: one item per item) -/
def keptOf (keep : Container.Item → Bool) : List Container.Item → List (Item Keylog.Key) → List (Item Keylog.Key)
  | it :: its, x :: xs => if keep it then x :: keptOf keep its xs else keptOf keep its xs
  | _, _ => []

theorem keptOf_sub (keep : Container.Item → Bool) (its : List Container.Item) :
    ∀ (X : List (Item Keylog.Key)) x, x ∈ keptOf keep its X → x ∈ X := by
  induction its with
  | nil => intro X x hx; cases X <;> simp [keptOf] at hx
  | cons it its ih =>
    intro X x hx
    cases X with
    | nil => simp [keptOf] at hx
    | cons y X =>
      simp only [keptOf] at hx
      split at hx
      · simp only [List.mem_cons] at hx
        rcases hx with rfl | hx
        · simp
        · exact List.mem_cons_of_mem _ (ih X x hx)
      · exact List.mem_cons_of_mem _ (ih X x hx)

/-- **The read loop on a capture from which reader items have been removed.** If the loop gets through the whole
    capture, it gets through the reduced one (started at any tag), and what it makes of the kept items is the same up to
    the tags, with tables that say the same about corresponding frames. -/
theorem go_filter (c : Bool) (keep : Container.Item → Bool) (its : List Container.Item) :
    ∀ tag tag' X IS, go Keylog.srcHexClass c tag its = .ok (X, IS) →
      ∃ X' IS', go Keylog.srcHexClass c tag' (its.filter keep) = .ok (X', IS') ∧
        Zip (Alike (lookup IS) (lookup IS')) (keptOf keep its X) X' := by
  induction its with
  | nil =>
    intro tag tag' X IS h
    simp only [go, Except.ok.injEq, Prod.mk.injEq] at h
    obtain ⟨rfl, rfl⟩ := h
    exact ⟨[], [], rfl, Zip.nil⟩
  | cons it rest ih =>
    intro tag tag' X IS h
    obtain ⟨x, oi, Xr, ISr, h1, hg, rfl, rfl⟩ := go_cons_ok c tag it rest X IS h
    have hge : ∀ p, Item.frame p ∈ Xr → tag + 1 ≤ p.tag := fun p hp => (Lemmas.Export.go_good _ c rest (tag + 1) Xr ISr hg p hp).1
    -- the table of the whole run agrees with the table of its tail on the tail's frames
    have hIS : ∀ p, Item.frame p ∈ Xr →
        lookup ((oi.map fun i => (tag, i)).toList ++ ISr) p.tag = lookup ISr p.tag := by
      intro p hp
      have := hge p hp
      cases oi with
      | none => rfl
      | some i => exact Lemmas.Export.lookup_cons_ne tag i ISr p.tag (by omega)
    cases hk : keep it with
    | false =>
      obtain ⟨X', IS', g1, g2⟩ := ih (tag + 1) tag' Xr ISr hg
      refine ⟨X', IS', by simp only [List.filter_cons, hk, Bool.false_eq_true, if_false, g1], ?_⟩
      simp only [keptOf, hk, Bool.false_eq_true, if_false]
      exact zip_alike_congr g2 (fun p hp => hIS p (keptOf_sub keep rest Xr _ hp)) (fun _ _ => rfl)
    | true =>
      obtain ⟨X', IS', g1, g2⟩ := ih (tag + 1) (tag' + 1) Xr ISr hg
      have h1' := one_tag_indep c tag tag' it
      rw [h1] at h1'
      have hge' : ∀ q, Item.frame q ∈ X' → tag' + 1 ≤ q.tag := fun q hq =>
        (Lemmas.Export.go_good _ c (rest.filter keep) (tag' + 1) X' IS' g1 q hq).1
      have hIS' : ∀ q, Item.frame q ∈ X' →
          lookup ((oi.map fun i => (tag', i)).toList ++ IS') q.tag = lookup IS' q.tag := by
        intro q hq
        have := hge' q hq
        cases oi with
        | none => rfl
        | some i => exact Lemmas.Export.lookup_cons_ne tag' i IS' q.tag (by omega)
      refine ⟨setTag tag' x :: X', (oi.map fun i => (tag', i)).toList ++ IS', ?_, ?_⟩
      · simp only [List.filter_cons, hk, if_true]
        rw [go_cons, h1']
        simp only [Except.map, g1]
      · simp only [keptOf, hk, if_true]
        refine Zip.cons ?_ (zip_alike_congr g2 (fun p hp => hIS p (keptOf_sub keep rest Xr _ hp)) hIS')
        cases x with
        | dsb k => rfl
        | frame p =>
          obtain ⟨hpt, hsome⟩ := one_frame_tag c tag it p oi h1
          obtain ⟨i, rfl⟩ := Option.isSome_iff_exists.mp hsome
          refine ⟨rfl, ?_⟩
          simp only [Option.map_some, Option.toList_some, List.singleton_append]
          rw [Lemmas.Export.lookup_cons_eq, hpt, Lemmas.Export.lookup_cons_eq]

/-- the loop makes one main-loop item of every reader item -/
theorem go_length (c : Bool) (its : List Container.Item) :
    ∀ tag X IS, go Keylog.srcHexClass c tag its = .ok (X, IS) → X.length = its.length := by
  induction its with
  | nil => intro tag X IS h; simp only [go, Except.ok.injEq, Prod.mk.injEq] at h; rw [← h.1]; rfl
  | cons it rest ih =>
    intro tag X IS h
    obtain ⟨x, oi, Xr, ISr, _, hg, rfl, _⟩ := go_cons_ok c tag it rest X IS h
    rw [List.length_cons, List.length_cons, ih _ _ _ hg]

theorem keptOf_all (its : List Container.Item) :
    ∀ X : List (Item Keylog.Key), X.length = its.length → keptOf (fun _ => true) its X = X := by
  induction its with
  | nil => intro X h; cases X with | nil => rfl | cons _ _ => simp at h
  | cons it its ih =>
    intro X h
    cases X with
    | nil => simp at h
    | cons x X => simp only [keptOf, if_true, ih X (by simpa using h)]

theorem one_dsb_ascii (c : Bool) (tag : Nat) (s : Bytes) (h : s.all (· < 0x80) = true) :
    one c tag (.dsb s) = .ok (.dsb (ExportInputs.dsbKeysOfBytes s), none) := by
  simp only [one, decodeAscii, h, if_true]
  rfl

/-- removing ASCII secrets blocks from a capture the read loop fails on: it fails in the same way -/
theorem go_filter_error (c : Bool) (keep : Container.Item → Bool) (its : List Container.Item)
    (hdrop : ∀ it ∈ its, keep it = false → ∃ s, it = .dsb s ∧ s.all (· < 0x80) = true) :
    ∀ tag tag' e, go Keylog.srcHexClass c tag its = .error e → go Keylog.srcHexClass c tag' (its.filter keep) = .error e := by
  induction its with
  | nil => intro tag tag' e h; simp [go] at h
  | cons it rest ih =>
    intro tag tag' e h
    have ih' := ih (fun x hx => hdrop x (by simp [hx]))
    rw [go_cons] at h
    cases hk : keep it with
    | false =>
      obtain ⟨s, rfl, hs⟩ := hdrop it (by simp) hk
      rw [one_dsb_ascii c tag s hs] at h
      simp only [List.filter_cons, hk, Bool.false_eq_true, if_false]
      cases hg : go Keylog.srcHexClass c (tag + 1) rest with
      | ok w => rw [hg] at h; cases h
      | error e' => rw [hg] at h; cases h; exact ih' (tag + 1) tag' e hg
    | true =>
      simp only [List.filter_cons, hk, if_true]
      rw [go_cons, one_tag_indep c tag tag']
      cases h1 : one c tag it with
      | error e' => rw [h1] at h; exact h
      | ok v =>
        rw [h1] at h
        cases hg : go Keylog.srcHexClass c (tag + 1) rest with
        | ok w => rw [hg] at h; cases h
        | error e' => rw [hg] at h; cases h; simp only [Except.map, ih' (tag + 1) (tag' + 1) e hg]

/-- the read loop started at another tag: the same abort, or the same items up to the tags -/
theorem go_shift (c : Bool) (its : List Container.Item) (tag tag' : Nat) :
    (∀ e, go Keylog.srcHexClass c tag its = .error e → go Keylog.srcHexClass c tag' its = .error e) ∧
    (∀ X IS, go Keylog.srcHexClass c tag its = .ok (X, IS) →
      ∃ X' IS', go Keylog.srcHexClass c tag' its = .ok (X', IS') ∧ Zip (Alike (lookup IS) (lookup IS')) X X') := by
  have hft : its.filter (fun _ => true) = its := List.filter_eq_self.mpr (fun _ _ => rfl)
  constructor
  · intro e h
    have := go_filter_error c (fun _ => true) its (fun _ _ hk => by cases hk) tag tag' e h
    rwa [hft] at this
  · intro X IS h
    obtain ⟨X', IS', g1, g2⟩ := go_filter c (fun _ => true) its tag tag' X IS h
    rw [hft] at g1
    rw [keptOf_all its X (go_length c its tag X IS h)] at g2
    exact ⟨X', IS', g1, g2⟩

end ReadLoop

section Alike2
variable (info₁ info₂ : Nat → Pipeline.Info)

theorem zip_alike_dsbs (D : List (List Keylog.Key)) {xs ys : List (Item Keylog.Key)}
    (hz : Zip (Alike info₁ info₂) xs ys) : Zip (Alike info₁ info₂) (D.map Item.dsb ++ xs) (D.map Item.dsb ++ ys) := by
  induction D with
  | nil => exact hz
  | cons d D ih => exact Zip.cons rfl ih

/-- the TLS conversations of two item lists that are alike up to their tags -/
theorem tlsFrames_alike (o : Opts) (fk : Option (List Keylog.Key)) {xs ys : List (Item Keylog.Key)}
    (hz : Zip (Alike info₁ info₂) xs ys) : tlsFrames H P info₁ o fk xs = tlsFrames H P info₂ o fk ys :=
  alike_of_natural (fun xs info => tlsFrames H P info o fk xs) (fun ρ info l => tlsFrames_nat H P ρ info o fk l) hz

end Alike2

section C09
open TLX.Keylog

/-- **C09, whole program, FILES with different numbers of secrets blocks.** Two runs: capture files whose readers
    deliver `T₁` resp. `T₂` — ANY numbers of secrets blocks (ASCII texts; none at all: the secrets come from the `-s` file
    only) — followed by the SAME remaining items `R`, which hold no further secrets block (`hR`); `-s` files `file₁`,
    `file₂` or none. If the two key logs (`-s` file, then the blocks) are alike for every session (`SameView`), the
    outcomes are THE SAME: byte-identical output files, or the same abort. The packets sit at other positions in the two
    captures, so `Ingest` numbers them differently; `framesFrom_alike` is what bridges that. -/
theorem export_key_delivery_files (args : Args) (legacy₁ legacy₂ : Bool) (file₁ file₂ : Option Str)
    (cap₁ cap₂ : Bytes) (T₁ T₂ : List Bytes) (R : List Container.Item) (ended : Option Container.Err)
    (hr₁ : Container.readPrefix legacy₁ cap₁ = .ok (T₁.map Container.Item.dsb ++ R, ended))
    (hr₂ : Container.readPrefix legacy₂ cap₂ = .ok (T₂.map Container.Item.dsb ++ R, ended))
    (ha₁ : ∀ s ∈ T₁, s.all (· < 0x80) = true) (ha₂ : ∀ s ∈ T₂, s.all (· < 0x80) = true)
    (hR : ∀ X IS, Ingest.go srcHexClass args.checksumTest T₁.length R = .ok (X, IS) → ∃ F : List Pkt, X = F.map Item.frame)
    (hv : SameView ((fileKeysOf file₁).getD [] ++ (T₁.map dsbKeysOfBytes).flatten)
                   ((fileKeysOf file₂).getD [] ++ (T₂.map dsbKeysOfBytes).flatten)) :
    exportFile mask H P args legacy₁ file₁ cap₁ = exportFile mask H P args legacy₂ file₂ cap₂ := by
  unfold exportFile exportFrom
  split
  · rfl
  · unfold Ingest.itemsWith
    rw [hr₁, hr₂]
    simp only
    have g₁ := go_dsbs args.checksumTest T₁ ha₁ R 0
    have g₂ := go_dsbs args.checksumTest T₂ ha₂ R 0
    rw [Nat.zero_add] at g₁ g₂
    rw [g₁, g₂]
    obtain ⟨sh1, sh2⟩ := go_shift args.checksumTest R T₁.length T₂.length
    cases hg : Ingest.go srcHexClass args.checksumTest T₁.length R with
    | error e => rw [sh1 e hg]
    | ok v =>
      obtain ⟨X, IS⟩ := v
      obtain ⟨X', IS', hg', hz⟩ := sh2 X IS hg
      obtain ⟨F, rfl⟩ := hR X IS hg
      rw [hg']
      simp only
      cases ended with
      | some e => rfl
      | none =>
        simp only
        have h1 := export_key_delivery_independent mask H P (Ingest.lookup IS) freshState args (fileKeysOf file₁)
          (fileKeysOf file₂) (T₁.map dsbKeysOfBytes) (T₂.map dsbKeysOfBytes) F hv
        have h2 := framesFrom_alike mask H P (Ingest.lookup IS) (Ingest.lookup IS') freshState args (fileKeysOf file₂)
          (zip_alike_dsbs _ _ (T₂.map dsbKeysOfBytes) hz)
        simp only [List.map_map, Function.comp_def] at h1 h2 ⊢
        rw [h1, h2]

end C09

end TLX.Props.ExportInputs2

namespace TLX.Props.ExportInputs
open TLX TLX.MainLoop TLX.Export TLX.Keylog TLX.Lemmas.ExportProps

variable (mask : Quic.Dissect.MaskFn) (H : Crypto.Prims) (P : Cipher.Prims)

-- `hlen` is not needed: `ExportInputs2.export_key_delivery_files`
set_option linter.unusedVariables false in
/-- **C09 at the level of the files (same block layout).** Two runs: capture files whose readers deliver `n` secrets
    blocks with the texts `T₁` resp. `T₂` (ASCII) followed by the SAME remaining items `R` (which hold no further secrets:
    `hR`), and `-s` files `file₁`, `file₂` (or none). If the two key logs — `-s` file then blocks — are alike for every
    session (`SameView`; `delivery_same_keys_of_text`, `foreign_line_adds_nothing`, `sameView_of_perm_across`), the
    outcomes are THE SAME: byte-identical output files, or the same abort. Lines may move between the `-s` file and the
    blocks and between blocks, LF ↔ CRLF, comments come and go, blocks may become empty.
    A different NUMBER of blocks (`-s` file only ↔ one DSB): the packets then sit at other positions of the capture and
    `Ingest` numbers them differently (`Pkt.tag`) — `ExportInputs2.export_key_delivery_files`. -/
theorem export_key_delivery_independent_file (args : Args) (legacy₁ legacy₂ : Bool) (file₁ file₂ : Option Str)
    (cap₁ cap₂ : Bytes) (T₁ T₂ : List Bytes) (R : List Container.Item) (ended : Option Container.Err)
    (hr₁ : Container.readPrefix legacy₁ cap₁ = .ok (T₁.map Container.Item.dsb ++ R, ended))
    (hr₂ : Container.readPrefix legacy₂ cap₂ = .ok (T₂.map Container.Item.dsb ++ R, ended))
    (hlen : T₁.length = T₂.length)
    (ha₁ : ∀ s ∈ T₁, s.all (· < 0x80) = true) (ha₂ : ∀ s ∈ T₂, s.all (· < 0x80) = true)
    (hR : ∀ X IS, Ingest.go srcHexClass args.checksumTest T₁.length R = .ok (X, IS) → ∃ F : List Pkt, X = F.map Item.frame)
    (hv : SameView ((fileKeysOf file₁).getD [] ++ (T₁.map dsbKeysOfBytes).flatten)
                   ((fileKeysOf file₂).getD [] ++ (T₂.map dsbKeysOfBytes).flatten)) :
    exportFile mask H P args legacy₁ file₁ cap₁ = exportFile mask H P args legacy₂ file₂ cap₂ :=
  ExportInputs2.export_key_delivery_files mask H P args legacy₁ legacy₂ file₁ file₂ cap₁ cap₂ T₁ T₂ R ended hr₁ hr₂ ha₁ ha₂ hR hv

end TLX.Props.ExportInputs

namespace TLX.Props.ExportInputs2
open TLX TLX.MainLoop TLX.Export TLX.Spec.Demux TLX.Lemmas.ExportProps TLX.Lemmas.MainLoop TLX.Lemmas.TagNat
open TLX.Props.ExportInputs
open TLX.Spec.Containers (Zip)

variable (mask : Quic.Dissect.MaskFn) (H : Crypto.Prims) (P : Cipher.Prims)

section C09Anywhere
open TLX.Keylog TLX.Ingest

def isPkt : Container.Item → Bool
  | .pkt .. => true
  | .dsb _ => false

/-- the texts of the secrets blocks of a capture, in order -/
def dsbTexts (its : List Container.Item) : List Bytes := its.filterMap fun
  | .dsb s => some s
  | .pkt .. => none

/-- the key log the blocks of a capture contribute -/
def blockKeys (its : List Container.Item) : List Keylog.Key := ((dsbTexts its).map dsbKeysOfBytes).flatten

theorem one_pkt_frame (c : Bool) (tag : Nat) (t : Container.Time) (b : Bytes) (hm : isMinusOne t = false)
    (x : Item Keylog.Key) (oi : Option Pipeline.Info) (h : one c tag (.pkt t b) = .ok (x, oi)) : ∃ p, x = .frame p := by
  simp only [one, hm, Bool.false_eq_true, if_false] at h
  cases hf : framePkt c tag (Container.usOfFloat t.toFloat) b with
  | error e => rw [hf] at h; cases h
  | ok v =>
    obtain ⟨p, i⟩ := v
    rw [hf] at h
    simp only [Except.ok.injEq, Prod.mk.injEq] at h
    exact ⟨p, h.1.symm⟩

/-- what the loop makes of a capture without `ts == -1` packets: the packet blocks become the frames, the secrets blocks
    become the key items -/
theorem go_split (c : Bool) (its : List Container.Item)
    (hnm : ∀ t b, Container.Item.pkt t b ∈ its → isMinusOne t = false) :
    ∀ tag X IS, go srcHexClass c tag its = .ok (X, IS) →
      framesOf (keptOf isPkt its X) = framesOf X ∧ dsbOnly (keptOf isPkt its X) = [] ∧ dsbOnly X = blockKeys its := by
  induction its with
  | nil =>
    intro tag X IS h
    simp only [go, Except.ok.injEq, Prod.mk.injEq] at h
    rw [← h.1]
    exact ⟨rfl, rfl, rfl⟩
  | cons it rest ih =>
    intro tag X IS h
    obtain ⟨x, oi, Xr, ISr, h1, hg, rfl, _⟩ := go_cons_ok c tag it rest X IS h
    obtain ⟨i1, i2, i3⟩ := ih (fun t b hb => hnm t b (by simp [hb])) (tag + 1) Xr ISr hg
    cases it with
    | dsb s =>
      have hx : ∃ k, x = .dsb k ∧ k = dsbKeysOfBytes s := by
        simp only [one] at h1
        cases hd : decodeAscii s with
        | error e => rw [hd] at h1; cases h1
        | ok str =>
          rw [hd] at h1
          simp only [Except.ok.injEq, Prod.mk.injEq] at h1
          refine ⟨_, h1.1.symm, ?_⟩
          unfold decodeAscii at hd
          split at hd
          · cases hd; rfl
          · cases hd
      obtain ⟨k, rfl, rfl⟩ := hx
      refine ⟨?_, ?_, ?_⟩
      · simp only [keptOf, isPkt, Bool.false_eq_true, if_false, framesOf, List.filterMap_cons,
          Lemmas.Export.frameOf?] at i1 ⊢
        exact i1
      · simp only [keptOf, isPkt, Bool.false_eq_true, if_false, i2]
      · simp only [dsbOnly, List.flatMap_cons] at i3 ⊢
        rw [i3]
        simp [blockKeys, dsbTexts]
    | pkt t b =>
      obtain ⟨p, rfl⟩ := one_pkt_frame c tag t b (hnm t b (by simp)) x oi h1
      refine ⟨?_, ?_, ?_⟩
      · simp only [keptOf, isPkt, if_true, framesOf, List.filterMap_cons, Lemmas.Export.frameOf?] at i1 ⊢
        rw [i1]
      · simp only [keptOf, isPkt, if_true, dsbOnly, List.flatMap_cons] at i2 ⊢
        rw [i2]; rfl
      · simp only [dsbOnly, List.flatMap_cons] at i3 ⊢
        rw [i3]
        simp [blockKeys, dsbTexts]

theorem sameSecrets_append {k₁ k₂ : List Keylog.Key} (h : SameSecrets k₁ k₂) (z : List Keylog.Key) :
    SameSecrets (k₁ ++ z) (k₂ ++ z) := by
  intro cr
  have := h cr
  simp only [findSessionSecrets, List.filter_append] at this ⊢
  rw [this]

/-- no UDP frame: nothing goes to `handle_quic_packet` -/
theorem quicView_no_udp (o : Opts) (xs : List (Item Keylog.Key)) (h : ∀ p, Item.frame p ∈ xs → p.l4 ≠ .udp) :
    ∀ kl, quicView o kl xs = [] := fun kl =>
  List.eq_nil_iff_forall_not_mem.mpr fun x hx => h x.p (quicView_mem o kl xs x hx).1 (quicView_mem o kl xs x hx).2.1

variable (info : Nat → Pipeline.Info)

/-- TLS part: the same frames (up to tags) and key logs that every TLS session reads alike, secrets blocks anywhere -/
theorem tlsFrames_blocks_anywhere (o : Opts) (c : Bool) (fk₁ fk₂ : Option (List Keylog.Key))
    (its₁ its₂ : List Container.Item) (hpk : its₁.filter isPkt = its₂.filter isPkt)
    (hnm₁ : ∀ t b, Container.Item.pkt t b ∈ its₁ → isMinusOne t = false)
    (hnm₂ : ∀ t b, Container.Item.pkt t b ∈ its₂ → isMinusOne t = false)
    (X₁ X₂ : List (Item Keylog.Key)) (IS₁ IS₂ : List (Nat × Pipeline.Info))
    (h₁ : go srcHexClass c 0 its₁ = .ok (X₁, IS₁)) (h₂ : go srcHexClass c 0 its₂ = .ok (X₂, IS₂))
    (hv : SameSecrets (fk₁.getD [] ++ blockKeys its₁) (fk₂.getD [] ++ blockKeys its₂)) :
    tlsFrames H P (lookup IS₁) o fk₁ X₁ = tlsFrames H P (lookup IS₂) o fk₂ X₂ := by
  obtain ⟨Xp, ISp, gp, z₁⟩ := go_filter c isPkt its₁ 0 0 X₁ IS₁ h₁
  obtain ⟨Xp', ISp', gp', z₂⟩ := go_filter c isPkt its₂ 0 0 X₂ IS₂ h₂
  rw [← hpk, gp] at gp'
  simp only [Except.ok.injEq, Prod.mk.injEq] at gp'
  obtain ⟨rfl, rfl⟩ := gp'
  obtain ⟨a1, a2, a3⟩ := go_split c its₁ hnm₁ 0 X₁ IS₁ h₁
  obtain ⟨b1, b2, b3⟩ := go_split c its₂ hnm₂ 0 X₂ IS₂ h₂
  -- the packets of either capture alone, with the capture's whole key log as an `-s` file
  have s₁ : tlsFrames H P (lookup IS₁) o fk₁ X₁ =
      tlsFrames H P (lookup IS₁) o (some (fk₁.getD [] ++ blockKeys its₁)) (keptOf isPkt its₁ X₁) :=
    dsb_position_irrelevant_tls H P _ o _ _ _ _ a1.symm (by
      intro cr; simp only [keysOf, a2, a3, Option.getD_some, List.append_nil])
  have s₂ : tlsFrames H P (lookup IS₂) o fk₂ X₂ =
      tlsFrames H P (lookup IS₂) o (some (fk₂.getD [] ++ blockKeys its₂)) (keptOf isPkt its₂ X₂) :=
    dsb_position_irrelevant_tls H P _ o _ _ _ _ b1.symm (by
      intro cr; simp only [keysOf, b2, b3, Option.getD_some, List.append_nil])
  rw [s₁, s₂, tlsFrames_alike H P _ _ o _ z₁, tlsFrames_alike H P _ _ o _ z₂]
  exact dsb_position_irrelevant_tls H P _ o _ _ _ _ rfl (by
    simp only [keysOf, Option.getD_some]; exact sameSecrets_append hv _)

theorem mem_framesOf (X : List (Item Keylog.Key)) (p : Pkt) : p ∈ framesOf X ↔ Item.frame p ∈ X := by
  simp only [framesOf, List.mem_filterMap]
  constructor
  · rintro ⟨it, hit, hf⟩
    cases it with
    | dsb k => cases hf
    | frame q => cases hf; exact hit
  · exact fun h => ⟨_, h, rfl⟩

/-- items alike up to their tags have the same transport protocols, frame by frame -/
theorem alike_l4 {i₁ i₂ : Nat → Pipeline.Info} {A B : List (Item Keylog.Key)} (hz : Zip (Alike i₁ i₂) A B) :
    (framesOf A).map (·.l4) = (framesOf B).map (·.l4) := by
  induction hz with
  | nil => rfl
  | @cons a b as bs hab _ ih =>
    cases a with
    | dsb k =>
      cases b with
      | dsb k' => exact ih
      | frame q => exact absurd hab (by simp [Alike])
    | frame p =>
      cases b with
      | dsb k => exact absurd hab (by simp [Alike])
      | frame q =>
        have hq : q = { p with tag := q.tag } := hab.1
        simp only [framesOf, List.filterMap_cons, Lemmas.Export.frameOf?, List.map_cons] at ih ⊢
        rw [ih, hq]

/-- **C09, whole program, TLS-only captures: secrets blocks ANYWHERE.** Two capture files with the same packet blocks in
    the same order (`hpk`) and any numbers of ASCII secrets blocks anywhere between them — in front, behind, in between,
    none at all —, `-s` files or none; no UDP frame in the capture (`hudp`: nothing goes to the QUIC half, which reads the
    key log when the datagram arrives) and no packet taken for a secrets block (`hnm`). If every TLS session reads the
    two key logs alike (`SameSecrets`: `-s` file, then the blocks in capture order), the outcomes are THE SAME:
    byte-identical output files, or the same abort. -/
theorem export_key_delivery_files_tls (args : Args) (legacy₁ legacy₂ : Bool) (file₁ file₂ : Option Str)
    (cap₁ cap₂ : Bytes) (its₁ its₂ : List Container.Item) (ended : Option Container.Err)
    (hr₁ : Container.readPrefix legacy₁ cap₁ = .ok (its₁, ended))
    (hr₂ : Container.readPrefix legacy₂ cap₂ = .ok (its₂, ended))
    (hpk : its₁.filter isPkt = its₂.filter isPkt)
    (ha₁ : ∀ s, Container.Item.dsb s ∈ its₁ → s.all (· < 0x80) = true)
    (ha₂ : ∀ s, Container.Item.dsb s ∈ its₂ → s.all (· < 0x80) = true)
    (hnm : ∀ t b, Container.Item.pkt t b ∈ its₁ → isMinusOne t = false)
    (hudp : ∀ X IS, go srcHexClass args.checksumTest 0 its₁ = .ok (X, IS) → ∀ p, Item.frame p ∈ X → p.l4 ≠ .udp)
    (hv : SameSecrets ((fileKeysOf file₁).getD [] ++ blockKeys its₁) ((fileKeysOf file₂).getD [] ++ blockKeys its₂)) :
    exportFile mask H P args legacy₁ file₁ cap₁ = exportFile mask H P args legacy₂ file₂ cap₂ := by
  have hnm₂ : ∀ t b, Container.Item.pkt t b ∈ its₂ → isMinusOne t = false := by
    intro t b hb
    have : Container.Item.pkt t b ∈ its₂.filter isPkt := List.mem_filter.mpr ⟨hb, rfl⟩
    rw [← hpk] at this
    exact hnm t b (List.mem_filter.mp this).1
  have hdrop : ∀ (its : List Container.Item), (∀ s, Container.Item.dsb s ∈ its → s.all (· < 0x80) = true) →
      ∀ it ∈ its, isPkt it = false → ∃ s, it = .dsb s ∧ s.all (· < 0x80) = true := by
    intro its ha it hit hk
    cases it with
    | dsb s => exact ⟨s, rfl, ha s hit⟩
    | pkt t b => cases hk
  -- the read loop does to either capture what it does to the common packet blocks
  have herr : ∀ its e, (∀ s, Container.Item.dsb s ∈ its → s.all (· < 0x80) = true) →
      go srcHexClass args.checksumTest 0 its = .error e →
      go srcHexClass args.checksumTest 0 (its.filter isPkt) = .error e :=
    fun its e ha h => go_filter_error args.checksumTest isPkt its (hdrop its ha) 0 0 e h
  refine exportFile_congr_read mask H P args args _ _ _ _ _ _ its₁ its₂ ended hr₁ hr₂ rfl (fun e h₁ => ?_)
    (fun X₁ IS₁ h₁ => ?_)
  · cases h₂ : go srcHexClass args.checksumTest 0 its₂ with
    | error e₂ =>
      have := herr its₂ e₂ ha₂ h₂
      rw [← hpk, herr its₁ e ha₁ h₁] at this
      rw [this]
    | ok w =>
      obtain ⟨Xp, ISp, gp, _⟩ := go_filter args.checksumTest isPkt its₂ 0 0 w.1 w.2 h₂
      rw [← hpk, herr its₁ e ha₁ h₁] at gp
      cases gp
  · obtain ⟨Xp, ISp, gp, z₁⟩ := go_filter args.checksumTest isPkt its₁ 0 0 X₁ IS₁ h₁
    cases h₂ : go srcHexClass args.checksumTest 0 its₂ with
    | error e₂ =>
      rw [hpk, herr its₂ e₂ ha₂ h₂] at gp
      cases gp
    | ok w =>
      obtain ⟨X₂, IS₂⟩ := w
      refine ⟨X₂, IS₂, rfl, framesFrom_congr mask H P _ _ _ _ _ _ _ _ fun o ho => ?_⟩
      have hu₁ := hudp X₁ IS₁ h₁
      -- the frames of the second capture are those of the first up to their tags: no UDP there either
      have hu₂ : ∀ q, Item.frame q ∈ X₂ → q.l4 ≠ .udp := by
        obtain ⟨Xp', ISp', gp', z₂⟩ := go_filter args.checksumTest isPkt its₂ 0 0 X₂ IS₂ h₂
        rw [← hpk, gp] at gp'
        cases gp'
        have hl : (framesOf X₂).map (·.l4) = (framesOf X₁).map (·.l4) := by
          rw [← (go_split args.checksumTest its₂ hnm₂ 0 X₂ IS₂ h₂).1, ← (go_split args.checksumTest its₁ hnm 0 X₁ IS₁ h₁).1,
            alike_l4 z₂, alike_l4 z₁]
        intro q hq
        have : q.l4 ∈ (framesOf X₂).map (·.l4) := List.mem_map.mpr ⟨q, (mem_framesOf X₂ q).mpr hq, rfl⟩
        rw [hl] at this
        obtain ⟨p, hp, hpq⟩ := List.mem_map.mp this
        rw [← hpq]
        exact hu₁ p ((mem_framesOf X₁ p).mp hp)
      rw [framesFrom_views mask H P _ freshState args _ X₁ o ho,
        framesFrom_views mask H P _ freshState args _ X₂ o ho,
        tlsFrames_blocks_anywhere H P o args.checksumTest _ _ its₁ its₂ hpk hnm hnm₂ X₁ X₂ IS₁ IS₂ h₁ h₂ hv]
      simp only [quicView_no_udp o X₁ hu₁, quicView_no_udp o X₂ hu₂]
      rfl

end C09Anywhere

section C11
open TLX.Ingest

/-- what the read loop under `-c` decides about one reader item: a TCP / UDP frame whose verdict bit is false
    (`ExportInputs.ingest_verdict_rfc1071`: the RFC 1071 receiver rejects it) -/
def itemRejected (it : Container.Item) : Bool :=
  match one true 0 it with
  | .ok (x, _) => rejected x
  | .error _ => false

theorem rejected_setTag (t : Nat) (x : Item Keylog.Key) : rejected (setTag t x) = rejected x := by
  cases x <;> rfl

theorem one_rejected (tag : Nat) (it : Container.Item) (x : Item Keylog.Key) (oi : Option Pipeline.Info)
    (h : one true tag it = .ok (x, oi)) : itemRejected it = rejected x := by
  have := one_tag_indep true tag 0 it
  rw [h] at this
  simp only [itemRejected, this, Except.map, rejected_setTag]

theorem framePkt_c_irrelevant (tag us : Nat) (buf : Bytes) (p : Pkt) (i : Pipeline.Info)
    (h : framePkt true tag us buf = .ok (p, i)) (hr : rejected (.frame p) = false) :
    framePkt false tag us buf = .ok (p, i) := by
  unfold framePkt at h ⊢
  cases hd : Dissect.dissect buf with
  | error e => rw [hd] at h; cases h
  | ok d =>
    rw [hd] at h
    cases d with
    | notIp => exact h
    | ip x =>
      simp only [if_true, Bool.false_eq_true, if_false] at h ⊢
      cases hv : verdict x with
      | error e => rw [hv] at h; cases h
      | ok v =>
        rw [hv] at h
        simp only at h
        cases hx : x.l4 with
        | other => rw [hx] at h; exact h
        | tcp sp dp sq ak pl =>
          rw [hx] at h
          cases h
          simp only [Option.getD_none, show v.getD true = true from csumOk_of_kept _ hr (fun e => nomatch e)]
        | udp sp dp pl =>
          rw [hx] at h
          cases h
          simp only [Option.getD_none, show v.getD true = true from csumOk_of_kept _ hr (fun e => nomatch e)]

theorem one_c_irrelevant (tag : Nat) (it : Container.Item) (x : Item Keylog.Key) (oi : Option Pipeline.Info)
    (h : one true tag it = .ok (x, oi)) (hr : rejected x = false) : one false tag it = .ok (x, oi) := by
  cases it with
  | dsb s => exact h
  | pkt t buf =>
    simp only [one] at h ⊢
    by_cases hm : isMinusOne t = true
    · simp only [hm, if_true] at h ⊢; exact h
    · simp only [hm, Bool.false_eq_true, if_false] at h ⊢
      cases hf : framePkt true tag (Container.usOfFloat t.toFloat) buf with
      | error e => rw [hf] at h; cases h
      | ok v =>
        obtain ⟨p, i⟩ := v
        rw [hf] at h
        simp only [Except.ok.injEq, Prod.mk.injEq] at h
        obtain ⟨rfl, rfl⟩ := h
        rw [framePkt_c_irrelevant tag _ buf p i hf hr]

/-- on a capture without rejected frames the read loop does the same with and without `-c` -/
theorem go_c_irrelevant (l : List Container.Item) (hl : ∀ it ∈ l, itemRejected it = false) :
    ∀ tag X IS, go Keylog.srcHexClass true tag l = .ok (X, IS) → go Keylog.srcHexClass false tag l = .ok (X, IS) := by
  induction l with
  | nil => intro tag X IS h; exact h
  | cons it rest ih =>
    intro tag X IS h
    obtain ⟨x, oi, Xr, ISr, h1, hg, rfl, rfl⟩ := go_cons_ok true tag it rest X IS h
    have hx : rejected x = false := by rw [← one_rejected tag it x oi h1]; exact hl it (by simp)
    rw [go_cons, one_c_irrelevant tag it x oi h1 hx, ih (fun y hy => hl y (by simp [hy])) (tag + 1) Xr ISr hg]

theorem keptOf_eq_filter (its : List Container.Item) :
    ∀ tag X IS, go Keylog.srcHexClass true tag its = .ok (X, IS) →
      keptOf (fun it => !itemRejected it) its X = X.filter fun x => !rejected x := by
  induction its with
  | nil => intro tag X IS h; simp only [go, Except.ok.injEq, Prod.mk.injEq] at h; rw [← h.1]; rfl
  | cons it rest ih =>
    intro tag X IS h
    obtain ⟨x, oi, Xr, ISr, h1, hg, rfl, _⟩ := go_cons_ok true tag it rest X IS h
    simp only [keptOf, List.filter_cons, one_rejected tag it x oi h1, ih (tag + 1) Xr ISr hg]

/-- **C11, whole program, reader level.** `cap`: any capture file the `-c` run reads to the end (`hok`); `cap'`: a
    capture whose reader delivers the same items minus exactly the rejected frames. Then the run with `-c` on `cap` and the
    run WITHOUT `-c` on `cap'` write byte-identical output files (or end in the same way). -/
theorem export_checksum_filter_reader (args : Args) (legacy legacy' : Bool) (kl : Option Keylog.Str) (cap cap' : Bytes)
    (its : List Container.Item) (ended : Option Container.Err)
    (hr : Container.readPrefix legacy cap = .ok (its, ended))
    (hr' : Container.readPrefix legacy' cap' = .ok (its.filter fun it => !itemRejected it, ended))
    (hok : ∃ X IS, go Keylog.srcHexClass true 0 its = .ok (X, IS)) :
    exportFile mask H P (argsC args true) legacy kl cap = exportFile mask H P (argsC args false) legacy' kl cap' := by
  obtain ⟨X, IS, hg⟩ := hok
  obtain ⟨X', IS', g1, g2⟩ := go_filter true (fun it => !itemRejected it) its 0 0 X IS hg
  rw [keptOf_eq_filter its 0 X IS hg] at g2
  have g1' : go Keylog.srcHexClass false 0 (its.filter fun it => !itemRejected it) = .ok (X', IS') :=
    go_c_irrelevant _ (fun it hit => by simpa using (List.mem_filter.mp hit).2) 0 X' IS' g1
  refine exportFile_congr_read mask H P (argsC args true) (argsC args false) _ _ _ _ _ _ _ _ ended hr hr' rfl
    (fun e he => ?_) (fun X₁ IS₁ h₁ => ⟨X', IS', g1', ?_⟩)
  · rw [show (argsC args true).checksumTest = true from rfl, hg] at he
    cases he
  · rw [show (argsC args true).checksumTest = true from rfl, hg] at h₁
    cases h₁
    exact (export_checksum_filter_frames mask H P (Ingest.lookup IS) freshState args (fileKeysOf kl) X).trans
      (framesFrom_alike mask H P (Ingest.lookup IS) (Ingest.lookup IS') freshState (argsC args false) (fileKeysOf kl) g2)

section Encoder
open TLX.Spec.Containers TLX.Props.C12

theorem filterMap_filter_comm {α β : Type} (f : α → Option β) (k : β → Bool) (g : α → Bool)
    (hg : ∀ a, g a = match f a with | some b => k b | none => true) (l : List α) :
    (l.filter g).filterMap f = (l.filterMap f).filter k := by
  induction l with
  | nil => rfl
  | cons a l ih =>
    have hga := hg a
    cases hf : f a with
    | none =>
      rw [hf] at hga
      simp only [List.filter_cons, hga, if_true, List.filterMap_cons, hf, ih]
    | some b =>
      rw [hf] at hga
      simp only at hga
      cases hk : k b with
      | true => simp only [List.filter_cons, hga, hk, if_true, List.filterMap_cons, hf, ih]
      | false => simp only [List.filter_cons, hga, hk, Bool.false_eq_true, if_false, List.filterMap_cons, hf, ih]

-- `hk` is written without `match`: a `match` on `scale v ev` in a statement before `evKept` would take the name `evKept.match_1`
theorem readPrefix_encode_filter (v : Variant) (evs : List Ev) (keep : Container.Item → Bool) (keepEv : Ev → Bool)
    (hk : ∀ ev, keepEv ev = ((scale v ev).map keep).getD true)
    (hwf : v.WF evs) (hwf' : v.WF (evs.filter keepEv)) :
    Container.readPrefix v.isLegacy (encode v evs) = .ok (evs.filterMap (scale v), none) ∧
    Container.readPrefix v.isLegacy (encode v (evs.filter keepEv)) = .ok ((evs.filterMap (scale v)).filter keep, none) := by
  refine ⟨readPrefix_of_read _ _ _ (reader_roundtrip v evs hwf), ?_⟩
  rw [← filterMap_filter_comm (scale v) keep keepEv (fun ev => (hk ev).trans (by cases scale v ev <;> rfl)) evs]
  exact readPrefix_of_read _ _ _ (reader_roundtrip v _ hwf')

/-- an event of the capture that the `-c` run does not reject (everything but TCP / UDP frames with a wrong checksum) -/
def evKept (v : Variant) (ev : Ev) : Bool :=
  match scale v ev with
  | some it => !itemRejected it
  | none => true

/-- **C11, whole program, file to file.** For the independent container encoder, ANY variant `v` (pcapng of either byte
    order, any clock, decoration; libpcap µs / ns) and any event list `evs`: if the `-c` run reads the capture to the end
    (`hok`; it does unless dpkt raises on a frame, a secrets block is not ASCII, or a `-c` length overflows), then

      the run WITH `-c` on the capture  =  the run WITHOUT `-c` on the capture re-encoded without the rejected frames

    — byte-identical output files, or the same abort of the writer. (`hwf'`: the reduced event list still fits the
    variant's fixed-width fields — the per-event decoration is indexed by position.) -/
theorem export_checksum_filter_file (args : Args) (kl : Option Keylog.Str) (v : Variant) (evs : List Ev)
    (hwf : v.WF evs) (hwf' : v.WF (evs.filter (evKept v)))
    (hok : ∃ X IS, go Keylog.srcHexClass true 0 (evs.filterMap (scale v)) = .ok (X, IS)) :
    exportFile mask H P (argsC args true) v.isLegacy kl (encode v evs) =
      exportFile mask H P (argsC args false) v.isLegacy kl (encode v (evs.filter (evKept v))) := by
  obtain ⟨r1, r2⟩ := readPrefix_encode_filter v evs (fun it => !itemRejected it) (evKept v)
    (fun ev => by unfold evKept; cases scale v ev <;> rfl) hwf hwf'
  exact export_checksum_filter_reader mask H P args _ _ kl _ _ _ none r1 r2 hok

end Encoder

end C11

section C03
open TLX.Ingest

theorem keptOf_merge (k : Container.Item → Bool) (its : List Container.Item) :
    ∀ X : List (Item Keylog.Key), X.length = its.length →
      Merge (keptOf (fun it => !k it) its X) (keptOf k its X) X := by
  induction its with
  | nil => intro X h; cases X with | nil => exact .nil | cons _ _ => simp at h
  | cons it its ih =>
    intro X h
    cases X with
    | nil => simp at h
    | cons x X =>
      have := ih X (by simpa using h)
      simp only [keptOf]
      by_cases hk : k it = true
      · simp only [hk, Bool.not_true, Bool.false_eq_true, if_false, if_true]
        exact Merge.right x this
      · have hk' : k it = false := by simpa using hk
        simp only [hk', Bool.not_false, if_true, Bool.false_eq_true, if_false]
        exact Merge.left x this

/-- **C03, whole program, file to file (TLS bystanders).** `capC`: a capture the run reads to the end; `victim`: any
    choice of reader items (the victim's packet blocks: TCP on its flows, UDP / QUIC, garbage, frames that make ITS
    session raise — but nothing that makes the READ LOOP raise: `hC`) that bring no key material (`hk`) and share no TCP
    flow with the rest (`hd`); `capB`: a capture whose reader delivers the remaining items. Then the capture without the
    victim is read to the end too, and the TLS conversations of the bystanders are exported from the full capture EXACTLY as
    from the capture without the victim: the per-conversation frame blocks of the `capB` run appear intact and in order
    among the blocks of the `capC` run (the others are the victim's), and both outputs are these blocks concatenated,
    followed by the QUIC part. -/
theorem export_bystander_unaffected_file (prior : Export.Prior) (args : Args) (o : Opts) (ho : optsOf args = some o)
    (legacy legacy' : Bool) (kl : Option Keylog.Str) (capC capB : Bytes) (its : List Container.Item)
    (victim : Container.Item → Bool)
    (hrC : Container.readPrefix legacy capC = .ok (its, none))
    (hrB : Container.readPrefix legacy' capB = .ok (its.filter fun it => !victim it, none))
    (X : List (Item Keylog.Key)) (IS : List (Nat × Pipeline.Info))
    (hC : go Keylog.srcHexClass args.checksumTest 0 its = .ok (X, IS))
    (hd : ∀ a ∈ tcpView o (keptOf (fun it => !victim it) its X), ∀ b ∈ tcpView o (keptOf victim its X),
      sameFlow a b = false)
    (hk : dsbOnly (keptOf victim its X) = []) :
    ∃ XB ISB blocksC quicB quicC,
      Ingest.itemsWith Keylog.srcHexClass args.checksumTest legacy capC = .ok (X, IS) ∧
      Ingest.itemsWith Keylog.srcHexClass args.checksumTest legacy' capB = .ok (XB, ISB) ∧
      framesFrom mask H P prior args (fileKeysOf kl) XB (Ingest.lookup ISB) =
        .ok ((tlsFrames H P (Ingest.lookup ISB) o (fileKeysOf kl) XB).flatten ++ quicB) ∧
      framesFrom mask H P prior args (fileKeysOf kl) X (Ingest.lookup IS) = .ok (blocksC.flatten ++ quicC) ∧
      Merge (tlsFrames H P (Ingest.lookup ISB) o (fileKeysOf kl) XB)
        ((tlsConvs H P (Ingest.lookup IS) o (keptOf victim its X)).map
          (convFrames H P (Ingest.lookup IS) (keysOf (fileKeysOf kl) X))) blocksC := by
  obtain ⟨XB, ISB, g1, g2⟩ := go_filter args.checksumTest (fun it => !victim it) its 0 0 X IS hC
  have hm := keptOf_merge victim its X (go_length _ its 0 X IS hC)
  have hby := export_bystander_unaffected H P (Ingest.lookup IS) o (fileKeysOf kl) hm hd hk
  rw [tlsFrames_alike H P (Ingest.lookup IS) (Ingest.lookup ISB) o (fileKeysOf kl) g2] at hby
  refine ⟨XB, ISB, _, _, _, ?_, ?_, framesFrom_views mask H P _ prior args _ XB o ho,
    framesFrom_views mask H P _ prior args _ X o ho, hby⟩
  · unfold Ingest.itemsWith; rw [hrC]; simp only [hC]
  · unfold Ingest.itemsWith; rw [hrB]; simp only [g1]

section Encoder
open TLX.Spec.Containers TLX.Props.C12

/-- the events of the capture that are not the victim's -/
def evNotVictim (v : Variant) (victim : Container.Item → Bool) (ev : Ev) : Bool :=
  match scale v ev with
  | some it => !victim it
  | none => true

/-- the file form of `export_bystander_unaffected` for the independent container encoder: the capture re-encoded WITHOUT the
    victim's packet blocks, any variant. -/
theorem export_bystander_unaffected_encoded (prior : Export.Prior) (args : Args) (o : MainLoop.Opts) (ho : optsOf args = some o)
    (kl : Option Keylog.Str) (v : Variant) (evs : List Ev) (victim : Container.Item → Bool)
    (hwf : v.WF evs) (hwf' : v.WF (evs.filter (evNotVictim v victim)))
    (X : List (Item Keylog.Key)) (IS : List (Nat × Pipeline.Info))
    (hC : go Keylog.srcHexClass args.checksumTest 0 (evs.filterMap (scale v)) = .ok (X, IS))
    (hd : ∀ a ∈ tcpView o (keptOf (fun it => !victim it) (evs.filterMap (scale v)) X),
      ∀ b ∈ tcpView o (keptOf victim (evs.filterMap (scale v)) X), sameFlow a b = false)
    (hk : dsbOnly (keptOf victim (evs.filterMap (scale v)) X) = []) :
    ∃ XB ISB blocksC quicB quicC,
      Ingest.itemsWith Keylog.srcHexClass args.checksumTest v.isLegacy (encode v evs) = .ok (X, IS) ∧
      Ingest.itemsWith Keylog.srcHexClass args.checksumTest v.isLegacy (encode v (evs.filter (evNotVictim v victim))) =
        .ok (XB, ISB) ∧
      framesFrom mask H P prior args (fileKeysOf kl) XB (Ingest.lookup ISB) =
        .ok ((tlsFrames H P (Ingest.lookup ISB) o (fileKeysOf kl) XB).flatten ++ quicB) ∧
      framesFrom mask H P prior args (fileKeysOf kl) X (Ingest.lookup IS) = .ok (blocksC.flatten ++ quicC) ∧
      Merge (tlsFrames H P (Ingest.lookup ISB) o (fileKeysOf kl) XB)
        ((tlsConvs H P (Ingest.lookup IS) o (keptOf victim (evs.filterMap (scale v)) X)).map
          (convFrames H P (Ingest.lookup IS) (keysOf (fileKeysOf kl) X))) blocksC := by
  obtain ⟨r1, r2⟩ := readPrefix_encode_filter v evs (fun it => !victim it) (evNotVictim v victim)
    (fun ev => by unfold evNotVictim; cases scale v ev <;> rfl) hwf hwf'
  exact export_bystander_unaffected_file mask H P prior args o ho _ _ kl _ _ _ victim r1 r2 X IS hC hd hk

end Encoder

end C03

section C08
open TLX.Spec.Containers TLX.Props.C12

theorem weave_take_sub (deco : Nat → Deco) (k : Nat) (evs : List Ev) :
    ∀ i b, b ∈ weave deco i (evs.take k) → b ∈ weave deco i evs := by
  induction evs generalizing k with
  | nil => intro i b hb; simp [weave] at hb
  | cons ev evs ih =>
    intro i b hb
    cases k with
    | zero => simp [weave] at hb
    | succ k =>
      simp only [List.take_succ_cons, weave, List.mem_append, List.mem_cons] at hb ⊢
      rcases hb with hb | rfl | hb
      · exact .inl hb
      · exact .inr (.inl rfl)
      · exact .inr (.inr (ih k (i + 1) b hb))

theorem legacy_WFfrom_take (v : LegacyVariant) (k : Nat) (evs : List Ev) :
    ∀ i, v.WFfrom i evs → v.WFfrom i (evs.take k) := by
  induction evs generalizing k with
  | nil => intro i h; simpa using h
  | cons ev evs ih =>
    intro i h
    cases k with
    | zero => trivial
    | succ k =>
      cases ev with
      | pkt t d =>
        simp only [List.take_succ_cons, LegacyVariant.WFfrom] at h ⊢
        exact ⟨h.1, h.2.1, ih k (i + 1) h.2.2⟩
      | dsb s =>
        simp only [List.take_succ_cons, LegacyVariant.WFfrom] at h ⊢
        exact ih k (i + 1) h

/-- a capture cut after its `k`-th event still fits the variant -/
theorem wf_take (v : Variant) (evs : List Ev) (k : Nat) (h : v.WF evs) : v.WF (evs.take k) := by
  cases v with
  | pcapng v =>
    obtain ⟨a, b, c, d, e, f⟩ := h
    exact ⟨a, b, c, d, e, fun x hx => f x (weave_take_sub v.deco k evs 0 x hx)⟩
  | legacy v =>
    obtain ⟨a, b, c, d, e, f⟩ := h
    exact ⟨a, b, c, d, e, legacy_WFfrom_take v k evs 0 f⟩

theorem filterMap_take {α β : Type} (f : α → Option β) (l : List α) (k : Nat) :
    (l.take k).filterMap f = (l.filterMap f).take ((l.take k).filterMap f).length :=
  List.prefix_iff_eq_take.mp ((List.take_prefix k l).filterMap f)

/-- **The byte-level fact behind C08**, both containers, any variant: the capture written with its first `k` events only
    (the file cut after the `k`-th packet / secrets block) is read to exactly the first `k'` items the reader delivers for
    the whole file, `k'` = the number of those events the container can hold (all `k` for pcapng; libpcap has no secrets
    blocks). -/
theorem read_cut (v : Variant) (evs : List Ev) (k : Nat) (hwf : v.WF evs) :
    Container.readPrefix v.isLegacy (encode v evs) = .ok (evs.filterMap (scale v), none) ∧
    Container.readPrefix v.isLegacy (encode v (evs.take k)) =
      .ok ((evs.filterMap (scale v)).take ((evs.take k).filterMap (scale v)).length, none) := by
  refine ⟨readPrefix_of_read _ _ _ (reader_roundtrip v evs hwf), ?_⟩
  have := readPrefix_of_read _ _ _ (reader_roundtrip v (evs.take k) (wf_take v evs k hwf))
  rw [filterMap_take] at this
  exact this

/-- **C08, whole program, file to file (TLS).** For the independent container encoder, any variant: cut the capture after
    its `k`-th event. If no key material sits in the removed part, the cut file is read to the first `k'` main-loop items
    and the TLS conversations exported from it are, one by one in creation order, frame-by-frame prefixes of those exported
    from the whole file (`export_cut_prefix_tls_ingest` with its two reader hypotheses discharged). -/
theorem export_cut_prefix_tls_file (v : Variant) (evs : List Ev) (k : Nat) (hwf : v.WF evs)
    (c : Bool) (xs : List (Item Keylog.Key)) (is : List (Nat × Pipeline.Info))
    (hi : Ingest.itemsWith Keylog.srcHexClass c v.isLegacy (encode v evs) = .ok (xs, is))
    (o : MainLoop.Opts) (fk : Option (List Keylog.Key))
    (hkeys : dsbOnly (xs.drop ((evs.take k).filterMap (scale v)).length) = []) :
    ∃ is', Ingest.itemsWith Keylog.srcHexClass c v.isLegacy (encode v (evs.take k)) =
        .ok (xs.take ((evs.take k).filterMap (scale v)).length, is') ∧
      ListExt (fun fa fb : List Pipeline.OutPkt => fa <+: fb)
        (tlsFrames H P (Ingest.lookup is') o fk (xs.take ((evs.take k).filterMap (scale v)).length))
        (tlsFrames H P (Ingest.lookup is) o fk xs) := by
  obtain ⟨r1, r2⟩ := read_cut v evs k hwf
  exact ExportProps.export_cut_prefix_tls_ingest H P v.isLegacy _ _ _ _ r1 r2 c xs is hi o fk hkeys

end C08

namespace Ex
open TLX.Spec.Containers TLX.Spec.FrameBuild TLX.Props.C12

/-- two item lists that are alike up to their tags: a DSB and a TCP segment numbered 1 resp. 7, tables that agree -/
def pk (tag : Nat) : Pkt := ⟨.tcp, ⟨[10, 0, 0, 1], 50000⟩, ⟨[10, 0, 0, 2], 443⟩, [0x16, 3, 3], true, tag⟩
def tbl (tag : Nat) : Nat → Pipeline.Info := fun t => if t = tag then ⟨1000, 5, [1, 2, 3, 4, 5, 6], [7, 8, 9, 10, 11, 12], false⟩ else default

theorem alike_instance (mask : Quic.Dissect.MaskFn) (H : Crypto.Prims) (P : Cipher.Prims) (prior : Export.Prior)
    (args : Args) (fk : Option (List Keylog.Key)) (k : List Keylog.Key) :
    framesFrom mask H P prior args fk [.dsb k, .frame (pk 1)] (tbl 1) =
      framesFrom mask H P prior args fk [.dsb k, .frame (pk 7)] (tbl 7) :=
  framesFrom_alike mask H P (tbl 1) (tbl 7) prior args fk
    (Zip.cons rfl (Zip.cons ⟨rfl, by simp [tbl, pk]⟩ Zip.nil))

/-- a libpcap (nanosecond) capture of two TCP segments to port 443: the first with checksum field 0 (wrong), the second
    with the right checksum -/
def nano : Variant := .legacy { nano := true }
def evs2 : List Ev := [.pkt 1500000000 (ExportInputs.Ex.seg 0).encode, .pkt 2500000000 (ExportInputs.Ex.seg 0x9200).encode]

/-- the `-c` run rejects exactly the first event -/
theorem evKept_instance : evs2.map (evKept nano) = [false, true] := by decide +kernel

theorem evs2_kept : evs2.filter (evKept nano) = [.pkt 2500000000 (ExportInputs.Ex.seg 0x9200).encode] := by decide +kernel

theorem evs2_wf : nano.WF evs2 ∧ nano.WF (evs2.filter (evKept nano)) := by
  rw [evs2_kept]
  constructor <;>
  · refine ⟨by decide, by decide, by decide, by decide, by decide, ?_⟩
    simp only [evs2, LegacyVariant.WFfrom, LegacyVariant.unitsPerSecond]
    decide +kernel

theorem evs2_read : ∃ X IS, Ingest.go Keylog.srcHexClass true 0 (evs2.filterMap (scale nano)) = .ok (X, IS) := by
  have h : (match Ingest.go Keylog.srcHexClass true 0 (evs2.filterMap (scale nano)) with
      | .ok _ => true
      | .error _ => false) = true := by decide +kernel
  cases hg : Ingest.go Keylog.srcHexClass true 0 (evs2.filterMap (scale nano)) with
  | ok v => exact ⟨v.1, v.2, rfl⟩
  | error e => rw [hg] at h; cases h

/-- non-vacuity of `export_checksum_filter_file`: every hypothesis holds for this capture, so the run with `-c` on the
    two-packet file equals the run without `-c` on the file that holds the second packet only -/
theorem checksum_filter_file_instance (mask : Quic.Dissect.MaskFn) (H : Crypto.Prims) (P : Cipher.Prims) (args : Args)
    (kl : Option Keylog.Str) :
    exportFile mask H P (argsC args true) true kl (encode nano evs2) =
      exportFile mask H P (argsC args false) true kl
        (encode nano [.pkt 2500000000 (ExportInputs.Ex.seg 0x9200).encode]) := by
  have := export_checksum_filter_file mask H P args kl nano evs2 evs2_wf.1 evs2_wf.2 evs2_read
  rwa [evs2_kept] at this

/-! a bystander conversation and a victim (another TCP flow to port 443, and a 14-byte non-IP frame) in one libpcap file -/
def victimSeg : Frame :=
  ⟨[1, 2, 3, 4, 5, 6], [7, 8, 9, 10, 11, 12], .v4 ⟨0, 9, true, false, 64, 0, [10, 0, 0, 3], [10, 0, 0, 2], []⟩,
   .tcp ⟨50001, 443, 77, 88, 0x18, 0, 8192, 0, 0, [], [0x17, 3, 3, 0, 1, 0]⟩, []⟩

def evs3 : List Ev :=
  [.pkt 1000000000 (ExportInputs.Ex.seg 0x9200).encode, .pkt 1200000000 victimSeg.encode,
   .pkt 1300000000 [0, 0, 0, 0, 0, 0, 0, 0, 0, 0, 0, 0, 0x88, 0xb5], .pkt 1400000000 (ExportInputs.Ex.seg 0x9200).encode]

def isVictim : Container.Item → Bool
  | .pkt _ b => b != (ExportInputs.Ex.seg 0x9200).encode
  | .dsb _ => false

def args0 : Args := ⟨none, none, false, false, false⟩
def o0 : MainLoop.Opts := (optsOf args0).getD ⟨[], false, false, false, false, []⟩
def X3 : List (Item Keylog.Key) :=
  match Ingest.go Keylog.srcHexClass false 0 (evs3.filterMap (scale nano)) with
  | .ok v => v.1
  | .error _ => []
def IS3 : List (Nat × Pipeline.Info) :=
  match Ingest.go Keylog.srcHexClass false 0 (evs3.filterMap (scale nano)) with
  | .ok v => v.2
  | .error _ => []

theorem evs3_read : Ingest.go Keylog.srcHexClass false 0 (evs3.filterMap (scale nano)) = .ok (X3, IS3) := by
  have h : (match Ingest.go Keylog.srcHexClass false 0 (evs3.filterMap (scale nano)) with
      | .ok _ => true
      | .error _ => false) = true := by decide +kernel
  unfold X3 IS3
  cases hg : Ingest.go Keylog.srcHexClass false 0 (evs3.filterMap (scale nano)) with
  | ok v => rfl
  | error e => rw [hg] at h; cases h

theorem evs3_wf : nano.WF evs3 ∧ nano.WF (evs3.filter (evNotVictim nano isVictim)) := by
  have e : evs3.filter (evNotVictim nano isVictim) =
      [.pkt 1000000000 (ExportInputs.Ex.seg 0x9200).encode, .pkt 1400000000 (ExportInputs.Ex.seg 0x9200).encode] := by
    decide +kernel
  rw [e]
  constructor <;>
  · refine ⟨by decide, by decide, by decide, by decide, by decide, ?_⟩
    simp only [evs3, LegacyVariant.WFfrom, LegacyVariant.unitsPerSecond]
    decide +kernel

/-- non-vacuity of `export_bystander_unaffected_encoded`: every hypothesis holds for this four-packet capture (two
    segments of the bystander's flow, the victim's segment on another flow, a non-IP frame) -/
theorem bystander_file_instance (mask : Quic.Dissect.MaskFn) (H : Crypto.Prims) (P : Cipher.Prims)
    (prior : Export.Prior) (kl : Option Keylog.Str) :
    (tcpView o0 (keptOf (fun it => !isVictim it) (evs3.filterMap (scale nano)) X3)).length = 2 ∧
    (tcpView o0 (keptOf isVictim (evs3.filterMap (scale nano)) X3)).length = 1 ∧
    ∃ XB ISB blocksC quicB quicC,
      Ingest.itemsWith Keylog.srcHexClass false true (encode nano evs3) = .ok (X3, IS3) ∧
      Ingest.itemsWith Keylog.srcHexClass false true (encode nano (evs3.filter (evNotVictim nano isVictim))) =
        .ok (XB, ISB) ∧
      framesFrom mask H P prior args0 (fileKeysOf kl) XB (Ingest.lookup ISB) =
        .ok ((tlsFrames H P (Ingest.lookup ISB) o0 (fileKeysOf kl) XB).flatten ++ quicB) ∧
      framesFrom mask H P prior args0 (fileKeysOf kl) X3 (Ingest.lookup IS3) = .ok (blocksC.flatten ++ quicC) ∧
      Merge (tlsFrames H P (Ingest.lookup ISB) o0 (fileKeysOf kl) XB)
        ((tlsConvs H P (Ingest.lookup IS3) o0 (keptOf isVictim (evs3.filterMap (scale nano)) X3)).map
          (convFrames H P (Ingest.lookup IS3) (keysOf (fileKeysOf kl) X3))) blocksC :=
  have h : (tcpView o0 (keptOf (fun it => !isVictim it) (evs3.filterMap (scale nano)) X3)).length = 2 ∧
      (tcpView o0 (keptOf isVictim (evs3.filterMap (scale nano)) X3)).length = 1 ∧ optsOf args0 = some o0 ∧
      (∀ a ∈ tcpView o0 (keptOf (fun it => !isVictim it) (evs3.filterMap (scale nano)) X3),
        ∀ b ∈ tcpView o0 (keptOf isVictim (evs3.filterMap (scale nano)) X3), sameFlow a b = false) ∧
      dsbOnly (keptOf isVictim (evs3.filterMap (scale nano)) X3) = [] := by decide +kernel
  ⟨h.1, h.2.1, export_bystander_unaffected_encoded mask H P prior args0 o0 h.2.2.1 kl nano evs3 isVictim evs3_wf.1
    evs3_wf.2 X3 IS3 evs3_read h.2.2.2.1 h.2.2.2.2⟩

end Ex

end TLX.Props.ExportInputs2
