import TLX.QuicPipeline
import TLX.Props.C02Out
import TLX.Lemmas.QuicMachine
set_option autoImplicit false
/-! The connection object `QConn` of the main loop, apart from its session: `connOut` is the builder's output over
`output_buffer`, addressed by the six fields that `feed` never writes (`SameEnds`). Namespace `TLX.Props.C02Capstone`; `expo`
is declared into `TLX.Props.C02Capstone3`, where fixed statements name it. -/
namespace TLX.Props.C02Capstone
open TLX TLX.Quic TLX.Quic.Session TLX.QuicPipeline TLX.Quic.UdpOut TLX.Props.C02Out

theorem connOut_eq (md : Bool) (c : QConn) :
    connOut md c = (build md (c.st.out.map frameOf)).map (addressed c) := by
  unfold connOut
  split
  · rename_i h
    have : c.st.out = [] := by simpa using h
    rw [this]; rfl
  · rfl

theorem addressed_congr (c c' : QConn) (h1 : c'.opts = c.opts) (h2 : c'.server = c.server) (h3 : c'.client = c.client)
    (h4 : c'.serverMac = c.serverMac) (h5 : c'.clientMac = c.clientMac) (h6 : c'.ipv6 = c.ipv6) :
    addressed c' = addressed c := by
  funext d; unfold addressed; rw [h1, h2, h3, h4, h5, h6]

/-- the part of `output_buffer` that is exported without `-a` -/
def _root_.TLX.Props.C02Capstone3.expo (l : List Out) : List Out :=
  l.filter fun o => (UdpOut.exported false (frameOf o)).isSome

open TLX.Props.C02Capstone3 (expo)

theorem expo_append (a b : List Out) : expo (a ++ b) = expo a ++ expo b := List.filter_append ..

theorem expo_none (l : List Out) (h : ∀ o ∈ l, UdpOut.exported false (frameOf o) = none) : expo l = [] := by
  unfold expo
  rw [List.filter_eq_nil_iff]
  intro o ho; simp [h o ho]

theorem expo_nil {l : List Out} (h : expo l = []) : ∀ o ∈ l, UdpOut.exported false (frameOf o) = none := by
  intro o ho
  have := List.filter_eq_nil_iff.mp h o ho
  simpa using this

theorem filter_map_frameOf (l : List Out) :
    (l.map frameOf).filter (fun f => (exported false f).isSome) = (expo l).map frameOf := by
  unfold expo
  induction l with
  | nil => rfl
  | cons o l ih =>
    simp only [List.map_cons, List.filter_cons]
    split <;> simp [ih]

/-- `build` looks at the exported frames only -/
theorem build_congr (a b : List Out) (h : expo a = expo b) :
    build false (a.map frameOf) = build false (b.map frameOf) := by
  rw [build_eq_runs, build_eq_runs, filter_map_frameOf, filter_map_frameOf, h]

structure SameEnds (c c' : QConn) : Prop where
  opts : c'.opts = c.opts
  server : c'.server = c.server
  client : c'.client = c.client
  serverMac : c'.serverMac = c.serverMac
  clientMac : c'.clientMac = c.clientMac
  ipv6 : c'.ipv6 = c.ipv6

theorem SameEnds.refl (c : QConn) : SameEnds c c := ⟨rfl, rfl, rfl, rfl, rfl, rfl⟩

theorem SameEnds.trans {a b c : QConn} (h1 : SameEnds a b) (h2 : SameEnds b c) : SameEnds a c :=
  ⟨h2.opts.trans h1.opts, h2.server.trans h1.server, h2.client.trans h1.client, h2.serverMac.trans h1.serverMac,
    h2.clientMac.trans h1.clientMac, h2.ipv6.trans h1.ipv6⟩

theorem SameEnds.addressed {c c' : QConn} (h : SameEnds c c') : addressed c' = addressed c :=
  addressed_congr c c' h.opts h.server h.client h.serverMac h.clientMac h.ipv6

/-- whatever the datagram -/
theorem feed_sameEnds (mask : Dissect.MaskFn) (H : Crypto.Prims) (Pc : Cipher.Prims) (info : Nat → Pipeline.Info) (c : QConn)
    (kl : List Keylog.Key) (p : MainLoop.Pkt) (dcid : Bytes) (ver : MainLoop.Version) :
    SameEnds c ((quicMachine mask H Pc info).feed c kl p dcid ver) := by
  rw [quicMachine_feed_eq]
  split <;> exact ⟨rfl, rfl, rfl, rfl, rfl, rfl⟩

end TLX.Props.C02Capstone
