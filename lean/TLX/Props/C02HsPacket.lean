/-
The handshake of a QUIC connection in the composed session, packet by packet: the session is compared with an observer's
bookkeeping `Trk` (`HsSt`), and each step lemma — one CRYPTO frame, the frames of a packet, one Initial / Handshake packet, a
1-RTT packet in a keyed state — says how the bookkeeping moves and what is appended to `output_buffer`; `set_tls_decryptors` is
an equation in RFC 9001 terms (`afterTls_rfc`).
Namespace `TLX.Props.C02Capstone`. `noOut`, `earlyDec`, `EarlyKeyed`, `afterTls_early` are declared into
`TLX.Props.C02Capstone3` and `ecsFold` into `TLX.Props.C02Capstone4`: statements of theorems in those modules name them, and the step
lemmas here need them.
-/
import TLX.Props.C02Rtt1
set_option autoImplicit false
namespace TLX.Props.C02Capstone
open TLX TLX.Quic TLX.Cipher TLX.Quic.Session TLX.Lemmas.QuicSession TLX.Spec.QuicSender TLX.Spec.QuicFrames
open TLX.Lemmas.QuicFrameSeq (normalize_filterMap forall_normalize)
open TLX.Props.C02Session TLX.Spec.QuicConnection TLX.Spec.QuicPackets TLX.QuicPipeline
open TLX.Spec.KeySchedules TLX.Lemmas.KeySchedule

variable {σ : Type} (P : Params σ)
/-- the state without its output buffer -/
def _root_.TLX.Props.C02Capstone3.noOut (s : St Tls) : St Tls := { s with out := [] }

open TLX.Props.C02Capstone3

section HsInv
variable (H : Crypto.Prims) (Pc : Cipher.Prims)

/-- the Handshake decryptor RFC 9001 §5.1 gives for the two handshake traffic secrets -/
def hsDec (sel : SuiteSel) (sh ch : Bytes) : Dec :=
  { alg := sel.alg,
    server := some ⟨quicKey (hashOf H sel.hash) sh sel.keyLen, quicIv (hashOf H sel.hash) sh⟩,
    client := ⟨quicKey (hashOf H sel.hash) ch sel.keyLen, quicIv (hashOf H sel.hash) ch⟩ }

/-- the Initial decryptor RFC 9001 §5.2 gives for the client's first Destination Connection ID -/
def initDec (dcid0 : Bytes) : Dec :=
  { alg := .aesgcm,
    server := some ⟨(quicInitialServerKeys H.sha256 dcid0).key, (quicInitialServerKeys H.sha256 dcid0).iv⟩,
    client := ⟨(quicInitialClientKeys H.sha256 dcid0).key, (quicInitialClientKeys H.sha256 dcid0).iv⟩ }

/-- `set_tls_decryptors` ran for the connection's suite with the connection's key-log lines: Handshake and generation-0
    Application decryptors and the four header-protection keys are RFC 9001 §5.1's -/
structure Keyed (sel : SuiteSel) (ch sh ca sa : Bytes) (s : St Tls) : Prop where
  suite : s.suite = some sel
  hs : s.decHandshake = some (hsDec H sel sh ch)
  app : s.decApp = some [(rfcGen (hashOf H sel.hash) sel.keyLen sa ca 0).toDec sel.alg]
  hpSH : s.tls.hp.serverHandshake = some (quicHp (hashOf H sel.hash) sh sel.keyLen)
  hpCH : s.tls.hp.clientHandshake = some (quicHp (hashOf H sel.hash) ch sel.keyLen)
  hpSA : s.tls.hp.serverApplication = some (quicHp (hashOf H sel.hash) sa sel.keyLen)
  hpCA : s.tls.hp.clientApplication = some (quicHp (hashOf H sel.hash) ca sel.keyLen)

theorem Keyed.congr {sel : SuiteSel} {ch sh ca sa : Bytes} {s s' : St Tls} (h : Keyed H sel ch sh ca sa s)
    (hsu : s'.suite = s.suite) (hh : s'.decHandshake = s.decHandshake) (ha : s'.decApp = s.decApp)
    (hp : s'.tls.hp = s.tls.hp) : Keyed H sel ch sh ca sa s' :=
  ⟨hsu.trans h.suite, hh.trans h.hs, ha.trans h.app, by rw [hp]; exact h.hpSH, by rw [hp]; exact h.hpCH,
    by rw [hp]; exact h.hpSA, by rw [hp]; exact h.hpCA⟩

/-- what no handshake step changes (before the first 1-RTT packet): version and stamp, the Initial decryptor and
    header-protection keys of the first DCID, epochs and key phases at their initial values, nothing decrypted in the
    application packet-number space, nothing in `output_buffer` that is exported without `-a` -/
structure HsInv (dcid0 : Bytes) (s : St Tls) : Prop where
  version : s.version = .v1
  ver : s.tls.ver = s.version
  init : s.decInitial = some (initDec H dcid0)
  hpSI : s.tls.hp.serverInitial = some (quicInitialServerKeys H.sha256 dcid0).hp
  hpCI : s.tls.hp.clientInitial = some (quicInitialClientKeys H.sha256 dcid0).hp
  ec : s.epochClient = 0
  es : s.epochServer = 0
  lpc : s.lastPhaseClient = some 0
  lps : s.lastPhaseServer = some 0
  out : ∀ o ∈ s.out, UdpOut.exported false (frameOf o) = none

/-- the parser part of a `QuicTlsSession` (the adapter fields set to their defaults) -/
def coreOf (t : Tls) : Tls := { t with ver := .unknown, hp := {} }

/-- `handle_crypto_frame` clears `new_data` -/
def clearND (t : Tls) : Tls := { t with msgs := { t.msgs with newData := false } }

theorem tlsUpdate_core (t : Tls) (c : CryptoIn) :
    tlsUpdate t c = ({ (tlsUpdate (coreOf t) c).1 with ver := t.ver, hp := t.hp }, (tlsUpdate (coreOf t) c).2) := by
  unfold tlsUpdate coreOf
  split <;> rfl

/-- the Early decryptor RFC 9001 §5.1 gives for CLIENT_EARLY_TRAFFIC_SECRET `e` under the suite `sel` -/
def _root_.TLX.Props.C02Capstone3.earlyDec (sel : SuiteSel) (e : Bytes) : Dec :=
  { alg := sel.alg, server := none, client := ⟨quicKey (hashOf H sel.hash) e sel.keyLen, quicIv (hashOf H sel.hash) e⟩ }

/-- the session holds the 0-RTT keys of suite `sel`: decryptor and header-protection key -/
structure _root_.TLX.Props.C02Capstone3.EarlyKeyed (sel : SuiteSel) (e : Bytes) (s : St Tls) : Prop where
  dec : s.decEarly = some (earlyDec H sel e)
  hp : s.tls.hp.clientEarly = some (quicHp (hashOf H sel.hash) e sel.keyLen)

/-- the session after `set_tls_decryptors` ran for the known suite `sel` with the connection's key-log lines (QUIC v1);
    without an early secret the early header-protection key is overwritten, the Early decryptor is not -/
def keyedSt (sel : SuiteSel) (ch sh ca sa : Bytes) (early : Option Bytes) (s : St Tls) : St Tls :=
  { s with
    suite := some sel, keysHs := true, keysApp := true, keysEarly := s.keysEarly || early.isSome,
    decHandshake := some (hsDec H sel sh ch),
    decApp := some [(rfcGen (hashOf H sel.hash) sel.keyLen sa ca 0).toDec sel.alg],
    decEarly := early.elim s.decEarly fun e => some (earlyDec H sel e),
    earlyTrafficKeys := s.earlyTrafficKeys || early.isSome,
    tls := { s.tls with
      msgs := { s.tls.msgs with newData := false },
      hp := { s.tls.hp with
        serverHandshake := some (quicHp (hashOf H sel.hash) sh sel.keyLen),
        clientHandshake := some (quicHp (hashOf H sel.hash) ch sel.keyLen),
        serverApplication := some (quicHp (hashOf H sel.hash) sa sel.keyLen),
        clientApplication := some (quicHp (hashOf H sel.hash) ca sel.keyLen),
        clientEarly := early.map fun e => quicHp (hashOf H sel.hash) e sel.keyLen } } }

theorem keyedSt_keyed (sel : SuiteSel) (ch sh ca sa : Bytes) (early : Option Bytes) (s : St Tls) :
    Keyed H sel ch sh ca sa (keyedSt H sel ch sh ca sa early s) := ⟨rfl, rfl, rfl, rfl, rfl, rfl, rfl⟩

/-- `set_tls_decryptors` for a known suite is idempotent: the RFC keys are installed whatever the session held -/
theorem afterTls_rfc (kl : List Keylog.Key) (s : St Tls) (cr cs ch sh ca sa : Bytes) (early : Option Bytes) (sel : SuiteSel)
    (hv1 : s.version = .v1) (hv : s.tls.ver = s.version)
    (hn : s.tls.msgs.newData = true) (hcr : s.tls.msgs.clientRandom = some cr) (hcs : s.tls.msgs.ciphersuite = some cs)
    (hsel : selectSuite cs = some sel) (hkl : KeylogHas kl cr ch sh ca sa early) :
    afterTls (params H Pc kl) s = (keyedSt H sel ch sh ca sa early s, none) := by
  obtain ⟨k, hdq, k1, k2, k3, k4, k5, k6, k7⟩ := devQuic_rfc H kl sel (by have := (selectSuite_aeadOk hsel).2; omega)
    cr ch sh ca sa early hkl
  rw [← hv1] at hdq
  rw [C02Pipeline.afterTls_keyed H Pc kl s hv cr cs sel k hn hcr hcs hsel hdq]
  unfold keyedSt HpKeys.withTls
  rw [k1, k2, k3, k4, k5, k6, k7]
  cases early <;> rfl

theorem afterTls_noSuite (kl : List Keylog.Key) (s : St Tls) (cr cs : Bytes)
    (hn : s.tls.msgs.newData = true) (hcr : s.tls.msgs.clientRandom = some cr) (hcs : s.tls.msgs.ciphersuite = some cs)
    (hsel : selectSuite cs = none) :
    afterTls (params H Pc kl) s = ({ s with canDecrypt := false, tls := clearND s.tls }, none) := by
  have e1 : (params H Pc kl).tlsNewData s.tls = true := hn
  have e2 : (params H Pc kl).tlsClientRandom s.tls = some cr := hcr
  have e3 : (params H Pc kl).tlsCiphersuite s.tls = some cs := hcs
  unfold afterTls
  simp only [e1, if_true, e2, e3, setTlsDecryptors, hsel]
  simp [params, tlsClearNewData, hcr, hcs, hsel, clearND]

/-- **When and with which suite the tool derives the 0-RTT keys.** `handle_crypto_frame` with `new_data` set (the CRYPTO
    stream just completed a ClientHello, a ServerHello or EncryptedExtensions), the connection's lines in the key log
    including CLIENT_EARLY_TRAFFIC_SECRET: the Early decryptor and the early header-protection key are derived with the suite
    that `tls_session.ciphersuite` holds AT THAT MOMENT — after the ClientHello that is the FIRST OFFERED suite
    (quic_tls_parser.py l. 90), after the ServerHello the selected one — whatever suite the client used. -/
theorem _root_.TLX.Props.C02Capstone3.afterTls_early (kl : List Keylog.Key) (s : St Tls) (cr cs ch sh ca sa e : Bytes) (sel : SuiteSel)
    (hv1 : s.version = .v1) (hv : s.tls.ver = s.version)
    (hn : s.tls.msgs.newData = true) (hcr : s.tls.msgs.clientRandom = some cr) (hcs : s.tls.msgs.ciphersuite = some cs)
    (hsel : selectSuite cs = some sel) (hkl : KeylogHas kl cr ch sh ca sa (some e)) :
    EarlyKeyed H sel e (afterTls (params H Pc kl) s).1 := by
  rw [afterTls_rfc H Pc kl s cr cs ch sh ca sa (some e) sel hv1 hv hn hcr hcs hsel hkl]
  exact ⟨rfl, rfl⟩

end HsInv

/-- the known suite `set_tls_decryptors` was last called with, after the CRYPTO inputs `cs` went through the parser (state
    `core`, `new_data` cleared between them): a call happens when an input leaves `new_data` set, with the parser's
    `ciphersuite` of that moment; a call with an unknown suite returns before it derives anything -/
def _root_.TLX.Props.C02Capstone4.ecsFold : Tls → List CryptoIn → Option SuiteSel → Option SuiteSel
  | _, [], e => e
  | core, c :: cs, e =>
    ecsFold (clearND (tlsUpdate core c).1) cs
      (if (tlsUpdate core c).1.msgs.newData then
        (match (tlsUpdate core c).1.msgs.ciphersuite.bind selectSuite with | some x => some x | none => e)
       else e)

open TLX.Props.C02Capstone4

section Early
variable (H : Crypto.Prims) (Pc : Cipher.Prims)

/-- if the key log has a CLIENT_EARLY_TRAFFIC_SECRET line and `set_tls_decryptors` was called with a known suite, the session
    holds the Early keys of the suite of the last such call -/
def EarlyInv (early : Option Bytes) (ecs : Option SuiteSel) (s : St Tls) : Prop :=
  ∀ e selX, early = some e → ecs = some selX → EarlyKeyed H selX e s

theorem EarlyInv.congr {early : Option Bytes} {ecs : Option SuiteSel} {s s' : St Tls} (h : EarlyInv H early ecs s)
    (hd : s'.decEarly = s.decEarly) (hp : s'.tls.hp = s.tls.hp) : EarlyInv H early ecs s' :=
  fun e selX he hx => ⟨hd ▸ (h e selX he hx).dec, by rw [hp]; exact (h e selX he hx).hp⟩

end Early

section HsFrames
variable (H : Crypto.Prims) (Pc : Cipher.Prims)

/-- LOCAL parser hypothesis: what the concrete `QuicTlsSession` does on the CRYPTO inputs of THIS history, in processing
    order, starting from parser state `t`: `update_session` never raises; whenever it leaves `new_data` set, the client
    random is the connection's and the cipher suite is the selected one `csel` — except after a CRYPTO frame of a client
    Initial packet (the ClientHello: first offered suite). `new_data` is cleared between the inputs (`handle_crypto_frame`). -/
def PTrace (cr csel : Bytes) : Tls → List CryptoIn → Prop
  | _, [] => True
  | t, c :: rest =>
    (tlsUpdate t c).2 = none ∧
    ((tlsUpdate t c).1.msgs.newData = true →
      (tlsUpdate t c).1.msgs.clientRandom = some cr ∧
      ∃ cs, (tlsUpdate t c).1.msgs.ciphersuite = some cs ∧ (¬ (c.isServer = false ∧ c.ptype = .initial) → cs = csel)) ∧
    PTrace cr csel (clearND (tlsUpdate t c).1) rest

/-- what the observer's bookkeeping is after the packets so far: keys installed?, largest packet numbers, CID sets, and the
    parser part of the TLS session (the concrete `QuicTlsSession` on the CRYPTO inputs so far) -/
structure Trk where
  keyed : Bool
  tc : PnTab
  ts : PnTab
  cc : List Bytes
  sc : List Bytes
  core : Tls

/-- the session during the handshake agrees with the bookkeeping `t`. `inv` is taken on the state without its buffer, where
    `HsInv.out` says nothing: what a step appends to `output_buffer` is a conjunct of its own in every step lemma -/
structure HsSt (dcid0 : Bytes) (sel : SuiteSel) (ch sh ca sa : Bytes) (t : Trk) (s : St Tls) : Prop where
  inv : HsInv H dcid0 (noOut s)
  nd : s.tls.msgs.newData = false
  core : coreOf s.tls = t.core
  pc : s.pnClient = t.tc
  ps : s.pnServer = t.ts
  cc : s.clientCids = t.cc
  sc : s.serverCids = t.sc
  keyed : t.keyed = true → Keyed H sel ch sh ca sa s

theorem coreOf_idem (t : Tls) : coreOf (coreOf t) = coreOf t := rfl

theorem coreOf_fix (t : Tls) (h1 : t.ver = .unknown) (h2 : t.hp = {}) : coreOf t = t := by
  cases t; simp_all [coreOf]

theorem tlsUpdate_hp (t : Tls) (c : CryptoIn) : (tlsUpdate t c).1.hp = t.hp := by
  unfold tlsUpdate; split <;> rfl

theorem coreOf_with (t : Tls) (v : Version) (h : HpKeys) : coreOf { t with ver := v, hp := h } = coreOf t := rfl

/-- frames a handshake-level packet may carry besides CRYPTO: anything but STREAM and NEW_CONNECTION_ID (RFC 9000 §12.4:
    Initial and Handshake packets carry PADDING, PING, ACK, CRYPTO, CONNECTION_CLOSE only) -/
def hsFrameP (f : Frame.Parsed) : Bool :=
  match f with
  | .stream .. => false
  | .newConnectionId .. => false
  | _ => true

theorem handleFrame_inert {σ : Type} (P : Params σ) (s : St σ) (p : Pkt) (f : Frame.Parsed) (hc : isCryptoP f = false)
    (hf : hsFrameP f = true) : handleFrame P s p f = (s, none) := by
  unfold handleFrame
  split
  · exact Bool.noConfusion hc
  · exact Bool.noConfusion hf
  · exact Bool.noConfusion hf
  · rfl

/-- the CRYPTO inputs `handle_frame` hands to the TLS parser for the frames of packet `p`, in order -/
def cryptoInsP (p : Pkt) (fs : List Frame.Parsed) : List CryptoIn :=
  fs.filterMap fun f => match f with | .crypto _ off len data => some (cryptoIn p off len data) | _ => none

/-- the parser part after a list of CRYPTO inputs -/
def pfold (t : Tls) (cs : List CryptoIn) : Tls := cs.foldl (fun t c => clearND (tlsUpdate t c).1) t

/-- did one of them complete a hello (`new_data`)? -/
def pfired : Tls → List CryptoIn → Bool
  | _, [] => false
  | t, c :: rest => (tlsUpdate t c).1.msgs.newData || pfired (clearND (tlsUpdate t c).1) rest

theorem ecsFold_append (core : Tls) (a b : List CryptoIn) (e : Option SuiteSel) :
    ecsFold core (a ++ b) e = ecsFold (pfold core a) b (ecsFold core a e) := by
  induction a generalizing core e with
  | nil => rfl
  | cons c a ih => simp only [List.cons_append, ecsFold, pfold, List.foldl_cons]; exact ih _ _

variable {kl : List Keylog.Key} {dcid0 cr csel ch sh ca sa : Bytes} {early : Option Bytes} {sel : SuiteSel}

/-- one CRYPTO frame. `ni` ("not of a client Initial") is a Boolean because the bookkeeping's update is written with it
    (`Trk.step`: `&& !(!x.srv && …)`) -/
theorem handleCrypto_hs (hsel : selectSuite csel = some sel) (hkl : KeylogHas kl cr ch sh ca sa early)
    {t : Trk} {s : St Tls} (hst : HsSt H dcid0 sel ch sh ca sa t s)
    {ecs : Option SuiteSel} (hearly : EarlyInv H early ecs s) (p : Pkt) (f : Frame.Parsed)
    (c : CryptoIn) (ni : Bool) (hni : ni = true ↔ ¬ (c.isServer = false ∧ c.ptype = .initial)) (rest : List CryptoIn)
    (htr : PTrace cr csel t.core (c :: rest)) (hcl : t.keyed = true → ni = true) :
    (handleCrypto (params H Pc kl) s p f c).2 = none ∧
    HsSt H dcid0 sel ch sh ca sa
      { t with keyed := t.keyed || ((tlsUpdate t.core c).1.msgs.newData && ni), core := clearND (tlsUpdate t.core c).1 }
      (handleCrypto (params H Pc kl) s p f c).1 ∧
    PTrace cr csel (clearND (tlsUpdate t.core c).1) rest ∧
    EarlyInv H early (ecsFold t.core [c] ecs) (handleCrypto (params H Pc kl) s p f c).1 ∧
    (handleCrypto (params H Pc kl) s p f c).1.out = s.out ++ [mkOut p f] := by
  obtain ⟨keyed, tc, ts, cc, sc, core⟩ := t
  obtain ⟨t1, t2, t3⟩ := htr
  obtain ⟨⟨(v1 : s.version = .v1), (v2 : s.tls.ver = s.version), (v3 : s.decInitial = _), (v4 : s.tls.hp.serverInitial = _),
    (v5 : s.tls.hp.clientInitial = _), (v6 : s.epochClient = 0), (v7 : s.epochServer = 0), (v8 : s.lastPhaseClient = _),
    (v9 : s.lastPhaseServer = _), _⟩, (hnd : s.tls.msgs.newData = false), (hcore : coreOf s.tls = core),
    (hpc : s.pnClient = tc), (hps : s.pnServer = ts), (hcc : s.clientCids = cc), (hsc : s.serverCids = sc), hkeyed⟩ := hst
  have hup := tlsUpdate_core s.tls c
  rw [hcore] at hup
  have hfix : coreOf (tlsUpdate core c).1 = (tlsUpdate core c).1 := by
    apply coreOf_fix
    · rw [C02Pipeline.tlsUpdate_ver, ← hcore]; rfl
    · rw [tlsUpdate_hp, ← hcore]; rfl
  simp only [ecsFold]
  generalize hu : tlsUpdate core c = u at hup t1 t2 t3 hfix ⊢
  obtain ⟨ut, ue⟩ := u
  simp only at t1 t2 t3 hup hfix ⊢
  subst t1
  have hni' : ∀ nd : Bool, (keyed || (nd && ni)) = true → ¬ (c.isServer = false ∧ c.ptype = .initial) := fun _ hk =>
    hni.mp ((Bool.or_eq_true ..).mp hk |>.elim hcl fun h => ((Bool.and_eq_true ..).mp h).2)
  have hPup : (params H Pc kl).tlsUpdate s.tls c = ({ ut with ver := s.tls.ver, hp := s.tls.hp }, none) := hup
  unfold handleCrypto
  rw [hPup]
  simp only
  by_cases hn : ut.msgs.newData = true
  · -- a hello was completed: set_tls_decryptors
    obtain ⟨hcr, cs, hcs, hcsel⟩ := t2 hn
    simp only [hn, if_true, hcs, Option.bind_some]
    cases hsx : selectSuite cs with
    | none =>
      -- an unknown suite is not the connection's: this is the ClientHello, the session is not keyed
      have hne : ¬ cs = csel := fun h => by rw [h, hsel] at hsx; cases hsx
      rw [afterTls_noSuite H Pc kl { s with tls := { ut with ver := s.tls.ver, hp := s.tls.hp } } cr cs hn hcr hcs hsx]
      exact ⟨rfl, ⟨⟨v1, v2, v3, v4, v5, v6, v7, v8, v9, fun _ ho => nomatch ho⟩, rfl, congrArg clearND hfix, hpc, hps, hcc, hsc,
        fun hk => (hne (hcsel (hni' _ hk))).elim⟩, t3, hearly.congr H rfl rfl, rfl⟩
    | some selY =>
      have hY : cs = csel → selY = sel := fun h => by rw [h, hsel] at hsx; exact (Option.some.inj hsx).symm
      rw [afterTls_rfc H Pc kl { s with tls := { ut with ver := s.tls.ver, hp := s.tls.hp } } cr cs ch sh ca sa early selY v1 v2
        hn hcr hcs hsx hkl]
      exact ⟨rfl, ⟨⟨v1, v2, v3, v4, v5, v6, v7, v8, v9, fun _ ho => nomatch ho⟩, rfl, congrArg clearND hfix, hpc, hps, hcc, hsc,
        fun hk => by cases hY (hcsel (hni' _ hk)); exact (keyedSt_keyed H sel ch sh ca sa early _).congr H rfl rfl rfl rfl⟩, t3,
        fun e selX he hx => by cases he; cases hx; exact ⟨rfl, rfl⟩, rfl⟩
  · -- nothing new: the frame is buffered / a message without effect
    have hn' : ut.msgs.newData = false := by simpa using hn
    have hflag : (params H Pc kl).tlsNewData { ut with ver := s.tls.ver, hp := s.tls.hp } = false := hn'
    simp only [afterTls, hflag, hn', Bool.false_eq_true, if_false]
    have hclr : clearND ut = ut := by
      obtain ⟨fr, ms, ni, vv, hh⟩ := ut
      obtain ⟨m1, m2, m3, m4, m5, m6, m7⟩ := ms
      simp_all [clearND]
    rw [hclr] at t3 ⊢
    refine ⟨trivial, ⟨⟨v1, v2, v3, v4, v5, v6, v7, v8, v9, fun _ ho => nomatch ho⟩,
      hn', (coreOf_with ut _ _).trans hfix, hpc, hps, hcc, hsc, ?_⟩, t3, hearly.congr H rfl rfl, trivial⟩
    intro hk
    exact (hkeyed (by simpa [hn'] using hk)).congr H rfl rfl rfl rfl

theorem handleFrames_hs (hsel : selectSuite csel = some sel) (hkl : KeylogHas kl cr ch sh ca sa early)
    (p : Pkt) (ni : Bool) (hni : ni = true ↔ ¬ (p.isServer = false ∧ p.ptype = .initial))
    (fs : List Frame.Parsed) (hok : ∀ f ∈ fs, hsFrameP f = true) (rest : List CryptoIn)
    {t : Trk} {s : St Tls} (hst : HsSt H dcid0 sel ch sh ca sa t s)
    (hcl : t.keyed = true → ni = true ∨ cryptoInsP p fs = [])
    (htr : PTrace cr csel t.core (cryptoInsP p fs ++ rest)) {ecs : Option SuiteSel} (hearly : EarlyInv H early ecs s) :
    (handleFrames (params H Pc kl) s p fs).2 = none ∧
    HsSt H dcid0 sel ch sh ca sa
      { t with keyed := t.keyed || (pfired t.core (cryptoInsP p fs) && ni), core := pfold t.core (cryptoInsP p fs) }
      (handleFrames (params H Pc kl) s p fs).1 ∧
    PTrace cr csel (pfold t.core (cryptoInsP p fs)) rest ∧
    EarlyInv H early (ecsFold t.core (cryptoInsP p fs) ecs) (handleFrames (params H Pc kl) s p fs).1 ∧
    ∃ J, (∀ o ∈ J, UdpOut.exported false (frameOf o) = none) ∧ (handleFrames (params H Pc kl) s p fs).1.out = s.out ++ J := by
  induction fs generalizing s t ecs with
  | nil =>
    exact ⟨rfl, ⟨hst.inv, hst.nd, hst.core, hst.pc, hst.ps, hst.cc, hst.sc, fun hk => hst.keyed (by simpa [pfired, cryptoInsP] using hk)⟩,
      htr, hearly, [], (fun _ h => nomatch h), (List.append_nil _).symm⟩
  | cons f fs ih =>
    have hf := hok f (List.mem_cons_self ..)
    have hrest := fun g hg => hok g (List.mem_cons_of_mem _ hg)
    cases hc : isCryptoP f
    · have hins : cryptoInsP p (f :: fs) = cryptoInsP p fs := by
        cases f <;> first | rfl | exact Bool.noConfusion hc
      rw [hins] at htr hcl ⊢
      rw [handleFrames, handleFrame_inert _ s p f hc hf]
      exact ih hrest hst hcl htr hearly
    · cases f <;> try (exact Bool.noConfusion hc)
      rename_i l off len data
      have hins : cryptoInsP p (.crypto l off len data :: fs) = cryptoIn p off len data :: cryptoInsP p fs := rfl
      have hni1 : t.keyed = true → ni = true := fun hk => (hcl hk).resolve_right (by rw [hins]; simp)
      rw [hins] at htr ⊢
      obtain ⟨b1, b2, b4, b5, b6⟩ := handleCrypto_hs H Pc hsel hkl hst hearly p (.crypto l off len data)
        (cryptoIn p off len data) ni hni (cryptoInsP p fs ++ rest) htr hni1
      have hexp : UdpOut.exported false (frameOf (mkOut p (.crypto l off len data))) = none := by
        simp [mkOut, frameOf, UdpOut.exported, UdpOut.isStream]
      have hstep : handleFrame (params H Pc kl) s p (.crypto l off len data) =
          handleCrypto (params H Pc kl) s p (.crypto l off len data) (cryptoIn p off len data) := rfl
      unfold handleFrames
      rw [hstep]
      generalize hr : handleCrypto (params H Pc kl) s p (.crypto l off len data) (cryptoIn p off len data) = r at b1 b2 b5 b6
      obtain ⟨s1, e1⟩ := r
      simp only at b1 b2 b5 b6 ⊢
      subst b1
      simp only
      obtain ⟨i1, i2, i4, i5, J, i6, i7⟩ := ih hrest b2
        (fun hk => Or.inl ((Bool.or_eq_true ..).mp hk |>.elim hni1 fun h => ((Bool.and_eq_true ..).mp h).2)) b4 b5
      have hb : ∀ k a b n : Bool, (k || (a && n) || (b && n)) = (k || ((a || b) && n)) := by decide
      refine ⟨i1, ⟨i2.inv, i2.nd, i2.core, i2.pc, i2.ps, i2.cc, i2.sc, fun hk => i2.keyed ((hb t.keyed
        (tlsUpdate t.core (cryptoIn p off len data)).1.msgs.newData
        (pfired (clearND (tlsUpdate t.core (cryptoIn p off len data)).1) (cryptoInsP p fs)) ni).trans hk)⟩, i4, i5,
        mkOut p (.crypto l off len data) :: J, ?_, by rw [i7, b6]; simp⟩
      intro o ho
      rcases List.mem_cons.mp ho with rfl | ho
      · exact hexp
      · exact i6 o ho

end HsFrames

section HsPacket
variable (H : Crypto.Prims) (Pc : Cipher.Prims)

/-- RFC 9000 §12.4 for Initial and Handshake packets -/
def hsFrameQ (f : QFrame) : Bool :=
  match f with
  | .stream .. => false
  | .newConnectionId .. => false
  | _ => true

theorem hsFrameP_toParsed (f : QFrame) : hsFrameP f.toParsed = hsFrameQ f := by cases f <;> rfl

theorem normalize_hsFrame (fs : List QFrame) (h : ∀ f ∈ fs, hsFrameQ f = true) : ∀ f ∈ normalize fs, hsFrameQ f = true :=
  forall_normalize (fun f => hsFrameQ f = true) (fun _ => rfl) fs h

theorem cryptoIns_eq (L : Seal) (alg : Alg) (k : DirKeys) (x : SPkt) :
    cryptoInsP (emit L alg k x) ((normalize x.frames).map QFrame.toParsed) = cryptoIns x := by
  have hsrv := emit_isServer L alg k x
  have hpt := emit_ptype L alg k x
  unfold cryptoIns cryptoInsP
  generalize emit L alg k x = p at hsrv hpt
  rw [List.filterMap_map, normalize_filterMap _ (fun _ => rfl)]
  congr 1
  funext f
  cases f with
  | crypto off lw data => simp only [Function.comp, QFrame.toParsed, cryptoIn, hsrv, hpt]
  | _ => rfl

/-- the decryptor of a handshake-level packet's encryption level, and the sender's key in it -/
def lvlDec (dcid0 : Bytes) (sel : SuiteSel) (sh ch : Bytes) (lv : Level) : Dec :=
  if lv = .initial then initDec H dcid0 else hsDec H sel sh ch

def lvlKey (dcid0 : Bytes) (sel : SuiteSel) (sh ch : Bytes) (lv : Level) (srv : Bool) : DirKeys :=
  if srv then ((lvlDec H dcid0 sel sh ch lv).server.getD default) else (lvlDec H dcid0 sel sh ch lv).client

theorem lvlKey_aeadOk (hl : H.Lawful) {csel : Bytes} {sel : SuiteSel} (hsel : selectSuite csel = some sel)
    (dcid0 sh ch : Bytes) (lv : Level) (srv : Bool) :
    AeadOk (lvlDec H dcid0 sel sh ch lv).alg (lvlKey H dcid0 sel sh ch lv srv).key.length
      (lvlKey H dcid0 sel sh ch lv srv).iv.length 16 ∧ 8 ≤ (lvlKey H dcid0 sel sh ch lv srv).iv.length := by
  obtain ⟨haead, hk32⟩ := selectSuite_aeadOk hsel
  have hlawS := hashOf_lawful hl sel.hash
  unfold lvlKey lvlDec
  by_cases h : lv = .initial <;> cases srv <;>
    simp only [h, if_true, if_false, initDec, hsDec, Option.getD, quicInitialServerKeys, quicInitialClientKeys, quicPacketKeys,
      quicKey_length _ hl.sha256 _ _ (by decide : 16 ≤ 255), quicKey_length _ hlawS _ _ (by omega : sel.keyLen ≤ 255),
      quicIv_length _ hl.sha256, quicIv_length _ hlawS, Bool.false_eq_true]
  all_goals first
    | exact ⟨haead, by decide⟩
    | exact ⟨by decide, by decide⟩

/-- RFC 9000 §7.2: an Initial packet teaches the observer both connection IDs (`Spec.QuicConnection.learnFrom` is the same
    function) -/
def learn (cc sc : List Bytes) (x : SPkt) : List Bytes × List Bytes :=
  if x.level = .initial then
    (if x.srv then (issue cc [x.dcid], issue sc [x.scid]) else (issue cc [x.scid], issue sc [x.dcid]))
  else (cc, sc)

example : @learn = @learnFrom := rfl

/-- the bookkeeping after one more packet (`keyed`: a CRYPTO input other than a client Initial's — `!(!x.srv && …)` —
    completed a hello) -/
def Trk.step (t : Trk) (x : SPkt) : Trk :=
  { keyed := t.keyed || (pfired t.core (cryptoIns x) && !(!x.srv && decide (x.level = .initial))),
    tc := if x.srv then t.tc else bump t.tc (spaceOf x.level) x.pn,
    ts := if x.srv then bump t.ts (spaceOf x.level) x.pn else t.ts,
    cc := (learn t.cc t.sc x).1, sc := (learn t.cc t.sc x).2,
    core := pfold t.core (cryptoIns x) }

variable {kl : List Keylog.Key} {dcid0 cr csel ch sh ca sa : Bytes} {early : Option Bytes} {sel : SuiteSel}

theorem HsSt.congr {t t' : Trk} {s s' : St Tls} (h : HsSt H dcid0 sel ch sh ca sa t s)
    (hv : s'.version = s.version) (ht : s'.tls = s.tls) (hi : s'.decInitial = s.decInitial)
    (hec : s'.epochClient = s.epochClient) (hes : s'.epochServer = s.epochServer)
    (hlc : s'.lastPhaseClient = s.lastPhaseClient) (hls : s'.lastPhaseServer = s.lastPhaseServer)
    (hsu : s'.suite = s.suite) (hh : s'.decHandshake = s.decHandshake) (ha : s'.decApp = s.decApp)
    (hk : t'.keyed = t.keyed) (hco : t'.core = t.core)
    (hpc : s'.pnClient = t'.tc) (hps : s'.pnServer = t'.ts) (hcc : s'.clientCids = t'.cc) (hsc : s'.serverCids = t'.sc) :
    HsSt H dcid0 sel ch sh ca sa t' s' := by
  obtain ⟨⟨a1, a2, a3, a4, a5, a6, a7, a8, a9, _⟩, b1, b2, _, _, _, _, b7⟩ := h
  exact ⟨⟨hv.trans a1, (congrArg (·.ver) ht).trans (a2.trans (a1.trans (hv.trans a1).symm)), hi.trans a3,
    (congrArg (·.hp.serverInitial) ht).trans a4, (congrArg (·.hp.clientInitial) ht).trans a5, hec.trans a6,
    hes.trans a7, hlc.trans a8, hls.trans a9, fun _ ho => nomatch ho⟩, by rw [ht]; exact b1, by rw [ht, hco]; exact b2, hpc, hps, hcc, hsc,
    fun hk' => (b7 (hk ▸ hk')).congr H hsu hh ha (congrArg (·.hp) ht)⟩

/-- the level's decryptor holds the sender's key, so `decrypt_packet` IS `handle_frame` over the sender's frames (`step_long_eq`) -/
theorem hs_packet_frames (hl : H.Lawful) (kl : List Keylog.Key) (L : SealLaws Pc) (hsel : selectSuite csel = some sel)
    {t : Trk} (x : SPkt) (hlv : x.level = .initial ∨ (x.level = .handshake ∧ t.keyed = true))
    (hfr : ∀ f ∈ x.frames, hsFrameQ f = true) (hwf : WellFormedSeq x.frames)
    {s : St Tls} (hst : HsSt H dcid0 sel ch sh ca sa t s)
    (hpn : PnLenOk ((if x.srv then t.ts else t.tc).get (spaceOf x.level)) x.pn x.pnLen) :
    let p := emit L.aeadSeal (lvlDec H dcid0 sel sh ch x.level).alg (lvlKey H dcid0 sel sh ch x.level x.srv) x
    let fs := (normalize x.frames).map QFrame.toParsed
    let s2 := pnStore s x.srv (spaceOf x.level) (max ((if x.srv then t.ts else t.tc).get (spaceOf x.level)) x.pn)
    stepPkt (params H Pc kl) s p =
      { st := postLevel x.level (handleFrames (params H Pc kl) s2 p fs).1 p,
        caught := (handleFrames (params H Pc kl) s2 p fs).2, escaped := none } ∧
    HsSt H dcid0 sel ch sh ca sa
      { t with tc := if x.srv then t.tc else bump t.tc (spaceOf x.level) x.pn,
               ts := if x.srv then bump t.ts (spaceOf x.level) x.pn else t.ts } s2 ∧
    cryptoInsP p fs = cryptoIns x ∧
    ((p.isServer = false ∧ p.ptype = .initial) ↔ (x.srv = false ∧ x.level = .initial)) ∧
    (∀ g ∈ fs, hsFrameP g = true) := by
  intro p fs s2
  have hinit : s.decInitial = some (initDec H dcid0) := hst.inv.init
  have hpc : s.pnClient = t.tc := hst.pc
  have hps : s.pnServer = t.ts := hst.ps
  have hne : x.level ≠ .oneRtt := by rcases hlv with h | ⟨h, _⟩ <;> simp [h]
  have hdec : longDecryptor s x.level.ptype = .ok (some (lvlDec H dcid0 sel sh ch x.level)) := by
    rcases hlv with h | ⟨h, hk⟩
    · simp [h, Level.ptype, longDecryptor, hinit, lvlDec]
    · have hhs : s.decHandshake = _ := (hst.keyed hk).hs
      simp [h, Level.ptype, longDecryptor, hhs, lvlDec]
  have hdir : (if x.srv then (lvlDec H dcid0 sel sh ch x.level).server else some (lvlDec H dcid0 sel sh ch x.level).client) =
      some (lvlKey H dcid0 sel sh ch x.level x.srv) := by
    unfold lvlKey lvlDec
    rcases hlv with h | ⟨h, _⟩ <;> cases x.srv <;> simp [h, initDec, hsDec]
  have haead := lvlKey_aeadOk H hl hsel dcid0 sh ch x.level x.srv
  have hlarge : pnLargest s x.srv (spaceOf x.level) = (if x.srv then t.ts else t.tc).get (spaceOf x.level) := by
    cases x.srv <;> simp [pnLargest, hpc, hps]
  have hstep := step_long_eq (params H Pc kl) L x _ _ s hne hdec hdir haead.1 haead.2 (by rw [hlarge]; exact hpn) hwf
  simp only at hstep
  rw [hlarge] at hstep
  refine ⟨hstep, ?_, cryptoIns_eq _ _ _ x, ?_, ?_⟩
  · show HsSt H dcid0 sel ch sh ca sa _ (pnStore s x.srv _ _)
    cases x.srv
    · exact hst.congr H rfl rfl rfl rfl rfl rfl rfl rfl rfl rfl rfl rfl (by rw [← hpc]; rfl) hps hst.cc hst.sc
    · exact hst.congr H rfl rfl rfl rfl rfl rfl rfl rfl rfl rfl rfl rfl hpc (by rw [← hps]; rfl) hst.cc hst.sc
  · have hpsrv : p.isServer = x.srv := emit_isServer ..
    have hppt : p.ptype = x.level.ptype := emit_ptype ..
    rw [hpsrv, hppt]
    rcases hlv with h | ⟨h, _⟩ <;> simp [h, Level.ptype]
  · intro g hg
    obtain ⟨f, hf, rfl⟩ := List.mem_map.mp hg
    rw [hsFrameP_toParsed]; exact normalize_hsFrame _ hfr f hf

theorem hs_packet_step (hl : H.Lawful) (L : SealLaws Pc) (hsel : selectSuite csel = some sel)
    (hkl : KeylogHas kl cr ch sh ca sa early) {t : Trk} (x : SPkt)
    (hlv : x.level = .initial ∨ (x.level = .handshake ∧ t.keyed = true))
    (hcl : t.keyed = true → ¬ (x.srv = false ∧ x.level = .initial) ∨ cryptoIns x = [])
    (hfr : ∀ f ∈ x.frames, hsFrameQ f = true) (hwf : WellFormedSeq x.frames) (rest : List CryptoIn)
    {s : St Tls} (hst : HsSt H dcid0 sel ch sh ca sa t s)
    (hpn : PnLenOk ((if x.srv then t.ts else t.tc).get (spaceOf x.level)) x.pn x.pnLen)
    (htr : PTrace cr csel t.core (cryptoIns x ++ rest)) {ecs : Option SuiteSel} (hearly : EarlyInv H early ecs s) :
    let p := emit L.aeadSeal (lvlDec H dcid0 sel sh ch x.level).alg (lvlKey H dcid0 sel sh ch x.level x.srv) x
    let r := stepPkt (params H Pc kl) s p
    r.escaped = none ∧ r.caught = none ∧ HsSt H dcid0 sel ch sh ca sa (t.step x) r.st ∧
    PTrace cr csel (t.step x).core rest ∧ EarlyInv H early (ecsFold t.core (cryptoIns x) ecs) r.st ∧
    ∃ J, (∀ o ∈ J, UdpOut.exported false (frameOf o) = none) ∧ r.st.out = s.out ++ J := by
  intro p r
  obtain ⟨hstep, hst2, hins, hci, hfs⟩ := hs_packet_frames H Pc hl kl L hsel x hlv hfr hwf hst hpn
  -- storing the packet number touches neither the Early keys nor the buffer
  have hearly2 : EarlyInv H early ecs
      (pnStore s x.srv (spaceOf x.level) (max ((if x.srv then t.ts else t.tc).get (spaceOf x.level)) x.pn)) := by
    refine hearly.congr H ?_ ?_ <;> rw [pnStore_eq]
  have hout2 : (pnStore s x.srv (spaceOf x.level) (max ((if x.srv then t.ts else t.tc).get (spaceOf x.level)) x.pn)).out = s.out := by
    rw [pnStore_eq]
  generalize pnStore s x.srv (spaceOf x.level) (max ((if x.srv then t.ts else t.tc).get (spaceOf x.level)) x.pn) = s2
    at hstep hst2 hearly2 hout2
  have hne : x.level ≠ .oneRtt := by rcases hlv with h | ⟨h, _⟩ <;> simp [h]
  have hni : (!(!x.srv && decide (x.level = .initial))) = true ↔ ¬ (p.isServer = false ∧ p.ptype = .initial) := by
    rw [hci]; cases x.srv <;> simp
  obtain ⟨f1, f2, f4, f5, J, f6, f7⟩ := handleFrames_hs H Pc hsel hkl p _ hni
    ((normalize x.frames).map QFrame.toParsed) hfs rest hst2
    (fun hk => (hcl hk).imp (fun h => hni.mpr (by rw [hci]; exact h)) (fun h => by rw [hins]; exact h))
    (by rw [hins]; exact htr) hearly2
  rw [hins] at f2 f4 f5
  have hr : r = { st := postLevel x.level (handleFrames (params H Pc kl) s2 p ((normalize x.frames).map QFrame.toParsed)).1 p,
                  caught := (handleFrames (params H Pc kl) s2 p ((normalize x.frames).map QFrame.toParsed)).2,
                  escaped := none } := hstep
  rw [hr]
  generalize (handleFrames (params H Pc kl) s2 p ((normalize x.frames).map QFrame.toParsed)).1 = s3 at f2 f5 f7
  -- CID learning of an Initial touches the CID sets only, as `learn` says
  have hcids : (postLevel x.level s3 p).clientCids = (learn t.cc t.sc x).1 ∧
      (postLevel x.level s3 p).serverCids = (learn t.cc t.sc x).2 := by
    have c1 : s3.clientCids = t.cc := f2.cc
    have c2 : s3.serverCids = t.sc := f2.sc
    have hpsrv : p.isServer = x.srv := emit_isServer ..
    have hpd : p.dcid = x.dcid := emit_dcid ..
    have hps2 : p.scid = some x.scid := emit_scid _ _ _ hne
    unfold postLevel learn learnCids
    rw [hpsrv]
    by_cases hi : x.level = .initial <;> cases x.srv <;> simp [hi, hps2, hpd, optAdd, issue_eq, c1, c2]
  obtain ⟨c1, c2, hq⟩ : ∃ c1 c2, postLevel x.level s3 p = { s3 with clientCids := c1, serverCids := c2 } := by
    unfold postLevel learnCids
    split
    · split <;> exact ⟨_, _, rfl⟩
    · exact ⟨_, _, rfl⟩
  rw [hq] at hcids ⊢
  exact ⟨rfl, f1, f2.congr H rfl rfl rfl rfl rfl rfl rfl rfl rfl rfl rfl rfl f2.pc f2.ps hcids.1 hcids.2,
    f4, f5.congr H rfl rfl, J, f6, by rw [← hout2, ← f7]⟩

end HsPacket

/-- the first byte and the encodability of a long-header packet rest on these fields of `LongShape` only; a 0-RTT packet
    (`C02Capstone3.ZrShape`) has them too -/
theorem longOf_first (x : SPkt) (pl : Bytes) (hty : x.typeBits = (ltypeOf x.level).bits) (h1 : 1 ≤ x.pnLen)
    (h4 : x.pnLen ≤ 4) : (longOf x pl).first = firstByteLong x := by
  unfold Long.first firstByteLong longOf
  simp only [pnBytes_length, hty]
  congr 1
  have : (ltypeOf x.level).bits < 4 := by cases x.level <;> simp [ltypeOf, LType.bits]
  omega

theorem longOf_wf (x : SPkt) (pl : Bytes) (hv : x.version = [0, 0, 0, 1]) (hd : x.dcid.length ≤ 20)
    (hs : x.scid.length ≤ 20) (htok : x.tokW.fits x.token.length)
    (hlen : x.lenW.fits (x.pnLen + (encodeAll x.frames).length + 16)) (h1 : 1 ≤ x.pnLen) (h4 : x.pnLen ≤ 4)
    (hpl : pl.length = (encodeAll x.frames).length + 16) : (longOf x pl).wf := by
  refine ⟨?_, ?_, ?_, ?_, ?_, ?_, htok, ?_⟩
  · show x.lowBits % 4 < 4; omega
  · show x.version.length = 4; rw [hv]; rfl
  · show x.dcid.length ≤ 255; omega
  · show x.scid.length ≤ 255; omega
  · show 1 ≤ (pnBytes x.pnLen x.pn).length; rw [pnBytes_length]; exact h1
  · show (pnBytes x.pnLen x.pn).length ≤ 4; rw [pnBytes_length]; exact h4
  · show x.lenW.fits ((pnBytes x.pnLen x.pn).length + pl.length)
    rw [pnBytes_length, hpl, ← Nat.add_assoc]; exact hlen

theorem longOf_toPkt (sealFn : Seal) (alg : Alg) (k : DirKeys) (x : SPkt) (hs : LongShape x)
    (h1 : 1 ≤ x.pnLen) (h4 : x.pnLen ≤ 4)
    (hpl : (protectedPayload sealFn alg k x).length = (encodeAll x.frames).length + 16) :
    (longOf x (protectedPayload sealFn alg k x)).toPkt x.srv x.ts = emit sealFn alg k x := by
  have hne : x.level ≠ .oneRtt := by rcases hs.level with h | h <;> simp [h]
  unfold Long.toPkt emit
  rw [longOf_first x _ hs.typeBits h1 h4]
  simp only [hne, if_false]
  rcases hs.level with h | h <;>
    simp [longOf, h, ltypeOf, LType.ptype, Level.ptype, Long.lengthField, lengthField, pnBytes_length, hpl, Nat.add_assoc]

section HsKinds
variable (maskFn : Dissect.MaskFn) (H : Crypto.Prims) (Pc : Cipher.Prims)

/-- `tls_session.ciphersuite == b"\x13\x03"` as the dissector is told -/
def chachaOf (core : Tls) : Bool := core.msgs.ciphersuite == some [0x13, 0x03]

/-- the header-protection key of a handshake-level packet (RFC 9001 §5.1 / §5.2) -/
def lvlHp (dcid0 : Bytes) (sel : SuiteSel) (sh ch : Bytes) (lv : Level) (srv : Bool) : Bytes :=
  if lv = .initial then
    (if srv then (quicInitialServerKeys H.sha256 dcid0).hp else (quicInitialClientKeys H.sha256 dcid0).hp)
  else quicHp (hashOf H sel.hash) (if srv then sh else ch) sel.keyLen

/-- one handshake-level packet of a conformant sender, relative to the bookkeeping `t`:
    `shape`   QUIC v1 long header of level Initial / Handshake (`LongShape`);
    `keys`    a Handshake packet comes after the ServerHello was seen (the keys are installed);
    `late`    once the keys are installed a client Initial carries no CRYPTO frame (it only acknowledges);
    `frames`  RFC 9000 §12.4 frame types, well formed; `pn`: RFC 9000 §17.1 window per space and direction;
    `mask`    header protection with the level's key (AES-based for Initial, the suite's otherwise) -/
structure HsPkOk (L : SealLaws Pc) (dcid0 : Bytes) (sel : SuiteSel) (sh ch : Bytes) (t : Trk) (q : PkH) : Prop where
  shape : LongShape q.x
  keys : q.x.level = .handshake → t.keyed = true
  late : t.keyed = true → ¬ (q.x.srv = false ∧ q.x.level = .initial) ∨ cryptoIns q.x = []
  frames : ∀ f ∈ q.x.frames, hsFrameQ f = true
  wf : WellFormedSeq q.x.frames
  pn : PnLenOk ((if q.x.srv then t.ts else t.tc).get (spaceOf q.x.level)) q.x.pn q.x.pnLen
  mask : maskFn (senderChacha (ltypeOf q.x.level) (chachaOf t.core)) (lvlHp H dcid0 sel sh ch q.x.level q.x.srv)
    (longOf q.x (protectedPayload L.aeadSeal (lvlDec H dcid0 sel sh ch q.x.level).alg
      (lvlKey H dcid0 sel sh ch q.x.level q.x.srv) q.x)).sample = some q.mask
  mask5 : 5 ≤ q.mask.length

def pkWire (L : SealLaws Pc) (dcid0 : Bytes) (sel : SuiteSel) (sh ch : Bytes) (q : PkH) : Bytes :=
  q.wire L.aeadSeal (lvlDec H dcid0 sel sh ch q.x.level).alg (lvlKey H dcid0 sel sh ch q.x.level q.x.srv)

theorem chachaOf_core (s : St Tls) : (envOf s).chacha = chachaOf (coreOf s.tls) := rfl

def Trk.run (t : Trk) (qs : List PkH) : Trk := qs.foldl (fun t q => t.step q.x) t

/-- the CRYPTO inputs of a packet list, in processing order -/
def insOf (qs : List PkH) : List CryptoIn := qs.flatMap fun q => cryptoIns q.x

def HsPks (L : SealLaws Pc) (dcid0 : Bytes) (sel : SuiteSel) (sh ch : Bytes) : Trk → List PkH → Prop
  | _, [] => True
  | t, q :: qs => HsPkOk maskFn H Pc L dcid0 sel sh ch t q ∧ HsPks L dcid0 sel sh ch (t.step q.x) qs

end HsKinds

/-! ### a 1-RTT packet in a keyed handshake state -/

section ShortKeeps
variable {σ : Type} (P : Params σ)

theorem step_one_rtt_keep (L : SealLaws P.prims) (sel : SuiteSel) (v : Version) (k0 : AppKeys)
    (hk : KeysWf P sel v k0)
    (x : SPkt) (s : St σ) (gc gs lc ls : Nat) (hrel : Rel1 P sel v k0 s gc gs lc ls)
    (hlv : x.level = .oneRtt) (hlo : (if x.srv then gs else gc) ≤ x.gen) (hhi : x.gen ≤ (if x.srv then gs else gc) + 1)
    (hpn : PnLenOk (if x.srv then ls else lc) x.pn x.pnLen) (hwf : WellFormedSeq x.frames)
    (hnc : ∀ f ∈ x.frames, isCryptoQ f = false) :
    let s' := (stepPkt P s (emit1 P L sel v k0 x)).st
    s'.decHandshake = s.decHandshake ∧ s'.decEarly = s.decEarly ∧
    s'.pnClient.initial = s.pnClient.initial ∧ s'.pnClient.handshake = s.pnClient.handshake ∧
    s'.pnServer.initial = s.pnServer.initial ∧ s'.pnServer.handshake = s.pnServer.handshake := by
  obtain ⟨s', ⟨_, _, _, _, _, rfl⟩, _, hstep⟩ := step_short_eq P L sel v k0 hk x s gc gs lc ls hrel hlv hlo hhi hpn hwf
  rw [hstep, handleFrames_nc P _ _ _ (noCryptoP_of_noCrypto _ hnc)]
  unfold pnStore
  cases x.srv <;> simp [afterFrames, PnTab.set]

end ShortKeeps

/-- the observer's bookkeeping after a 1-RTT packet: largest packet number of the application space, connection IDs issued -/
def Trk.short (t : Trk) (x : SPkt) : Trk :=
  { t with tc := if x.srv then t.tc else { t.tc with app := max t.tc.app x.pn },
           ts := if x.srv then { t.ts with app := max t.ts.app x.pn } else t.ts,
           cc := if x.srv then t.cc else issue t.cc (newCids x.frames),
           sc := if x.srv then issue t.sc (newCids x.frames) else t.sc }

section Short
variable (maskFn : Dissect.MaskFn) (H : Crypto.Prims) (Pc : Cipher.Prims)

/-- a keyed handshake state IS the state the 1-RTT theorem starts from -/
theorem est_of_hsSt (kl : List Keylog.Key) {dcid0 : Bytes} {sel : SuiteSel} {ch sh ca sa : Bytes} {t : Trk} {s : St Tls}
    (h : HsSt H dcid0 sel ch sh ca sa t s) (hk : t.keyed = true) :
    Est H Pc kl sel .v1 (rfcGen (hashOf H sel.hash) sel.keyLen sa ca 0)
      (quicHp (hashOf H sel.hash) ca sel.keyLen) (quicHp (hashOf H sel.hash) sa sel.keyLen) (chachaOf t.core)
      s 0 0 t.tc.app t.ts.app t.cc t.sc := by
  have k := h.keyed hk
  refine ⟨⟨⟨k.suite, h.inv.version, ?_, h.inv.ec, h.inv.es, h.inv.lpc, h.inv.lps⟩, h.nd, ?_, ?_⟩, ?_, k.hpCA, k.hpSA, ?_,
    h.inv.ver, h.cc, h.sc⟩
  · rw [k.app]; rfl
  · rw [h.pc]
  · rw [h.ps]
  · rw [show s.decInitial = _ from h.inv.init]; rfl
  · rw [← h.core]; rfl

theorem pnTab_ext (a b : PnTab) (h1 : a.initial = b.initial) (h2 : a.handshake = b.handshake) (h3 : a.app = b.app) :
    a = b := by
  cases a; cases b; simp_all

/-- a 1-RTT packet of key generation 0 without CRYPTO frames in a keyed handshake state: the bookkeeping moves as
    `Trk.short` says -/
theorem hsSt_after_short {kl : List Keylog.Key} (L : SealLaws Pc) {dcid0 : Bytes} {sel : SuiteSel}
    {ch sh ca sa : Bytes} (hk : KeysWf (params H Pc kl) sel .v1 (rfcGen (hashOf H sel.hash) sel.keyLen sa ca 0))
    {t : Trk} {s : St Tls} (hkeyed : t.keyed = true) (hst : HsSt H dcid0 sel ch sh ca sa t s) (x : SPkt)
    (hlv : x.level = .oneRtt) (hg : x.gen = 0)
    (hpn : PnLenOk (if x.srv then t.ts.app else t.tc.app) x.pn x.pnLen) (hwf : WellFormedSeq x.frames)
    (hnc : ∀ f ∈ x.frames, isCryptoQ f = false) :
    let r := stepPkt (params H Pc kl) s
      (emit1 (params H Pc kl) L sel .v1 (rfcGen (hashOf H sel.hash) sel.keyLen sa ca 0) x)
    HsSt H dcid0 sel ch sh ca sa (t.short x) r.st ∧ r.st.out = s.out ++ expectedOf .rtt1 x ∧ r.st.tls = s.tls ∧
      r.st.decEarly = s.decEarly := by
  obtain ⟨hrel, _⟩ := est_of_hsSt H Pc kl hst hkeyed
  have hlo : (if x.srv then 0 else 0) ≤ x.gen := by rw [hg]; split <;> exact Nat.le_refl _
  have hhi : x.gen ≤ (if x.srv then 0 else 0) + 1 := by rw [hg]; split <;> omega
  obtain ⟨_, _, c3, c4, c5, c6, c7, c8⟩ := step_one_rtt_nc (params H Pc kl) L sel .v1 _ hk x s 0 0 t.tc.app t.ts.app hrel
    hlv hlo hhi hpn hwf hnc
  obtain ⟨k1, k2, k3, k4, k5, k6⟩ := step_one_rtt_keep (params H Pc kl) L sel .v1 _ hk x s 0 0 t.tc.app t.ts.app hrel
    hlv hlo hhi hpn hwf hnc
  simp only [hg, ite_self] at c4
  -- from here on the state after the packet is a variable: only the facts above are used
  dsimp only
  generalize (stepPkt (params H Pc kl) s
    (emit1 (params H Pc kl) L sel .v1 (rfcGen (hashOf H sel.hash) sel.keyLen sa ca 0) x)).st = s' at c3 c4 c5 c6 c7 c8 k1 k2 k3 k4 k5 k6 ⊢
  obtain ⟨hinv, _, hpc, hps⟩ := c4
  have hK := hst.keyed hkeyed
  have e1 : s.pnClient = t.tc := hst.pc
  have e2 : s.pnServer = t.ts := hst.ps
  have e3 : s.clientCids = t.cc := hst.cc
  have e4 : s.serverCids = t.sc := hst.sc
  refine ⟨hst.congr H (s' := s') (hinv.version.trans hst.inv.version.symm) c5 c6
    (hinv.ec.trans hst.inv.ec.symm) (hinv.es.trans hst.inv.es.symm) (hinv.lc.trans hst.inv.lpc.symm)
    (hinv.ls.trans hst.inv.lps.symm) (hinv.suite.trans hK.suite.symm) (k1.trans rfl) (hinv.gens.trans hK.app.symm)
    rfl rfl ?_ ?_ ?_ ?_, c3, c5, k2⟩
  · show s'.pnClient = _
    apply pnTab_ext
    · rw [k3, e1]; unfold Trk.short; cases x.srv <;> rfl
    · rw [k4, e1]; unfold Trk.short; cases x.srv <;> rfl
    · rw [hpc]; unfold Trk.short; cases x.srv <;> rfl
  · show s'.pnServer = _
    apply pnTab_ext
    · rw [k5, e2]; unfold Trk.short; cases x.srv <;> rfl
    · rw [k6, e2]; unfold Trk.short; cases x.srv <;> rfl
    · rw [hps]; unfold Trk.short; cases x.srv <;> rfl
  · show s'.clientCids = _
    rw [c7, e3]; unfold Trk.short; cases x.srv <;> rfl
  · show s'.serverCids = _
    rw [c8, e4]; unfold Trk.short; cases x.srv <;> rfl

end Short

end TLX.Props.C02Capstone
