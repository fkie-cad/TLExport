/-
C02 (CRYPTO stream part) — the TLS handshake messages of a QUIC encryption level are recovered from CRYPTO frames
delivered in ANY order, with exact duplicates anywhere, cut at arbitrary points; the eight (direction, packet type)
spaces do not influence each other.

Model: `TLX.Quic.CryptoStream` (QuicTlsSession.update_session + handle_buffer); independent meaning of the stream:
`TLX.Spec.TlsHandshakeFraming` (RFC 8446 §4 framing, RFC 9000 §19.6 frames of a cut).

The unchanged code does NOT satisfy the full statement: `len(buffer) <= 4: break` leaves a *last* message with an
empty body (exactly 4 bytes) in the buffer until more bytes arrive. `crypto_any_order_statement` is the full
statement, `crypto_any_order_counterexample` refutes it (stream `0e 00 00 00`), `crypto_any_order_partial` proves it
for streams that do not end in an empty-bodied message, and `crypto_any_order_upto_empty_tail` says unconditionally
that the empty-bodied last message is the only thing that can be missing.
-/
import TLX.Lemmas.CryptoStream
namespace TLX.Props.C02Crypto
open TLX TLX.Quic.CryptoStream TLX.Spec.TlsHandshakeFraming TLX.Lemmas.CryptoStream

/-- what a delivered frame object says on the wire -/
def wire (f : CFrame) : Wire := (f.offset, f.crypto, f.clen)

/-- `dl` is a delivery of the cut `frs`: the frames of the cut in ANY order (`List.Perm`) with any number of exact
    duplicates `dups` of frames of the cut mixed in anywhere; `id`s name objects -/
structure Delivery (frs : List Bytes) (dl : List CFrame) : Prop where
  perm : ∃ dups : List Wire, (dl.map wire).Perm (framesOf 0 frs ++ dups) ∧ ∀ d ∈ dups, d ∈ framesOf 0 frs
  ids : IdsOK dl

/-- the stream does not end in a handshake message with an empty body -/
def NoEmptyTail (S : Bytes) : Prop :=
  ¬ (WholeMessages S ∧ ∃ m, (frameHs S).getLast? = some m ∧ m.length = 4)

/-- what C02 asks of the CRYPTO stream of space `k` after the deliveries `dl` of the stream `S` -/
def Recovered (raises : Bytes → Bool) (k : Key) (S : Bytes) (dl : List CFrame) : Prop :=
  let r := run raises State.init (dl.map fun f => (k, f))
  -- the messages handed on are exactly the RFC framing of S
  r.2 = frameHs S ∧
  -- the bytes given to the message loop are exactly S, each byte once
  r.2.flatten ++ (r.1.ks k).buf = S ∧ (r.1.ks k).off = S.length ∧
  -- after any prefix of the deliveries: a prefix of that
  ∀ n, (run raises State.init ((dl.take n).map fun f => (k, f))).2 <+: frameHs S

/-- the full statement -/
def crypto_any_order_statement : Prop :=
  ∀ (raises : Bytes → Bool) (k : Key) (S : Bytes) (frs : List Bytes) (dl : List CFrame),
    IsCut S frs → Delivery frs dl → (∀ m ∈ frameHs S, raises m = false) → Recovered raises k S dl

theorem bnd_zero (frs : List Bytes) : bnd frs 0 = 0 := by simp [bnd]

theorem bnd_cons_succ (c : Bytes) (cs : List Bytes) (i : Nat) : bnd (c :: cs) (i + 1) = c.length + bnd cs i := by
  simp [bnd]

theorem mem_framesOf (off : Nat) (frs : List Bytes) (w : Wire) :
    w ∈ framesOf off frs ↔ ∃ i c, frs[i]? = some c ∧ w = (off + bnd frs i, c, c.length) := by
  induction frs generalizing off with
  | nil => simp [framesOf]
  | cons c cs ih =>
    simp only [framesOf, List.mem_cons, ih]
    constructor
    · rintro (rfl | ⟨i, c', hi, rfl⟩)
      · exact ⟨0, c, by simp, by simp [bnd_zero]⟩
      · exact ⟨i + 1, c', by simpa using hi, by rw [bnd_cons_succ]; simp [Nat.add_assoc]⟩
    · rintro ⟨i, c', hi, rfl⟩
      cases i with
      | zero =>
        left
        simp only [List.getElem?_cons_zero, Option.some.injEq] at hi
        subst hi
        simp [bnd_zero]
      | succ i =>
        right
        exact ⟨i, c', by simpa using hi, by rw [bnd_cons_succ]; simp [Nat.add_assoc]⟩

theorem delivery_frag {frs : List Bytes} {dl : List CFrame} (h : Delivery frs dl) : ∀ f ∈ dl, IsFrag frs f := by
  obtain ⟨⟨dups, hperm, hdups⟩, _⟩ := h
  intro f hf
  have hw : wire f ∈ framesOf 0 frs ++ dups := hperm.mem_iff.mp (List.mem_map_of_mem hf)
  have hw' : wire f ∈ framesOf 0 frs := by
    rcases List.mem_append.mp hw with h | h
    · exact h
    · exact hdups _ h
  obtain ⟨i, c, hi, he⟩ := (mem_framesOf 0 frs (wire f)).mp hw'
  simp only [wire, Prod.mk.injEq, Nat.zero_add] at he
  obtain ⟨h1, h2, h3⟩ := he
  exact ⟨i, by rw [h2]; exact hi, h1, by rw [h3, h2]⟩

theorem delivery_complete {frs : List Bytes} {dl : List CFrame} (h : Delivery frs dl) :
    ∀ i, i < frs.length → ∃ f ∈ dl, f.offset = bnd frs i := by
  obtain ⟨⟨dups, hperm, _⟩, _⟩ := h
  intro i hi
  have hw : (bnd frs i, frs[i], (frs[i]).length) ∈ framesOf 0 frs :=
    (mem_framesOf 0 frs _).mpr ⟨i, frs[i], List.getElem?_eq_getElem hi, by simp⟩
  have hw' := hperm.mem_iff.mpr (List.mem_append_left dups hw)
  obtain ⟨f, hf, he⟩ := List.mem_map.mp hw'
  refine ⟨f, hf, ?_⟩
  simp only [wire, Prod.mk.injEq] at he
  exact he.1

theorem ids_take {dl : List CFrame} (h : IdsOK dl) (n : Nat) : IdsOK (dl.take n) :=
  fun a ha b hb => h a (List.mem_of_mem_take ha) b (List.mem_of_mem_take hb)

theorem noEmptyTail_rem (S : Bytes) (h : NoEmptyTail S) : ¬ ((rem S).length = 4 ∧ hsLen (rem S) = 0) := by
  intro hc
  apply h
  have hf := frameHs_eq_impl S
  rw [if_pos hc] at hf
  refine ⟨?_, rem S, ?_, hc.1⟩
  · unfold WholeMessages
    rw [hf, List.flatten_append]
    simpa using msgLoop_flatten S
  · rw [hf]; simp

/-- the frame's own space sees exactly `kstep`; frames of one space from the initial state -/
theorem run_own_space (raises : Bytes → Bool) (k : Key) (dl : List CFrame) :
    run raises State.init (dl.map fun f => (k, f)) =
      (State.init.set k (krun raises {} dl).1, (krun raises {} dl).2) :=
  run_single raises k dl State.init (fun _ _ => drained_nil raises)

theorem run_complete (raises : Bytes → Bool) (k : Key) (S : Bytes) (frs : List Bytes) (dl : List CFrame) (hcut : IsCut S frs)
    (hd : Delivery frs dl) (hnr : ∀ m ∈ frameHs S, raises m = false) :
    (run raises State.init (dl.map fun f => (k, f))).2 = implFrame S ∧
    ((run raises State.init (dl.map fun f => (k, f))).1.ks k).buf = rem S ∧
    ((run raises State.init (dl.map fun f => (k, f))).1.ks k).off = S.length :=
  hcut.2 ▸ (run_init raises k S frs dl hcut (delivery_frag hd) hd.ids hnr).complete (delivery_complete hd)

/-- unconditional part: for EVERY stream, cut, delivery order and duplicates, the bytes given to the message loop
    are exactly the stream, every prefix of the deliveries hands on a prefix of the RFC framing, and after all
    deliveries the RFC framing is what was handed on plus at most one last empty-bodied message still in the buffer -/
theorem crypto_any_order_upto_empty_tail (raises : Bytes → Bool) (k : Key) (S : Bytes) (frs : List Bytes)
    (dl : List CFrame) (hcut : IsCut S frs) (hd : Delivery frs dl) (hnr : ∀ m ∈ frameHs S, raises m = false) :
    let r := run raises State.init (dl.map fun f => (k, f))
    frameHs S = r.2 ++ (if (r.1.ks k).buf.length = 4 ∧ hsLen (r.1.ks k).buf = 0 then [(r.1.ks k).buf] else []) ∧
    r.2.flatten ++ (r.1.ks k).buf = S ∧ (r.1.ks k).off = S.length ∧
    ∀ n, (run raises State.init ((dl.take n).map fun f => (k, f))).2 <+: frameHs S := by
  intro r
  obtain ⟨hmsgs, hbuf, hoff⟩ := run_complete raises k S frs dl hcut hd hnr
  refine ⟨?_, ?_, hoff, fun n => ?_⟩
  · show frameHs S = r.2 ++ _
    rw [hmsgs, hbuf]; exact frameHs_eq_impl S
  · show r.2.flatten ++ (r.1.ks k).buf = S
    rw [hmsgs, hbuf]; exact msgLoop_flatten S
  · exact (run_init raises k S frs (dl.take n) hcut (fun f hf => delivery_frag hd f (List.mem_of_mem_take hf))
      (ids_take hd.ids n) hnr).prefix.trans (hcut.2 ▸ implFrame_prefix_frameHs _)

/-- C02, CRYPTO reassembly: for every byte string `S` that does not end in an empty-bodied handshake message, every
    cut of `S` into non-empty fragments, delivered in ANY permutation with any exact duplicates anywhere: the
    messages handed to `handle_record` are exactly the RFC 8446 framing of `S`, the bytes given to the message loop
    are exactly `S` (each byte once), and after any prefix of the deliveries what was handed on is a prefix of that -/
theorem crypto_any_order_partial (raises : Bytes → Bool) (k : Key) (S : Bytes) (frs : List Bytes)
    (dl : List CFrame) (hcut : IsCut S frs) (hd : Delivery frs dl) (hnr : ∀ m ∈ frameHs S, raises m = false)
    (htail : NoEmptyTail S) : Recovered raises k S dl := by
  obtain ⟨h1, h2, h3, h4⟩ := crypto_any_order_upto_empty_tail raises k S frs dl hcut hd hnr
  refine ⟨?_, h2, h3, h4⟩
  rw [(run_complete raises k S frs dl hcut hd hnr).2.1, if_neg (noEmptyTail_rem S htail)] at h1
  simpa using h1.symm

/-- the code as it stands: the stream `0e 00 00 00` (a ServerHelloDone, an empty-bodied message) delivered in one
    frame is not handed on -/
theorem crypto_any_order_counterexample : ¬ crypto_any_order_statement := by
  intro h
  have hcut : IsCut [14, 0, 0, 0] [[14, 0, 0, 0]] := ⟨by simp, by simp⟩
  have hd : Delivery [[14, 0, 0, 0]] [⟨0, 0, [14, 0, 0, 0], 4⟩] :=
    ⟨⟨[], by simp [wire, framesOf], by simp⟩, by intro a ha b hb _; simp_all⟩
  have hf : frameHs [14, 0, 0, 0] = [[14, 0, 0, 0]] := by
    rw [frameHs_eq_impl]; simp [implFrame, rem, msgLoop_short, hsLen]
  obtain ⟨h1, _⟩ := h never (false, .initial) _ _ _ hcut hd (by simp [never])
  rw [hf] at h1
  revert h1
  simp only [List.map, run, update, handleBuffer, handleBufferGo, msgLoop_eq_len]
  decide

/-- feeding a frame of space `k` leaves frame buffer, offset and byte buffer of every other space unchanged
    (reachable states: no other buffer of that direction holds a message `handle_record` raised on) -/
theorem spaces_independent (raises : Bytes → Bool) (st : State) (k k' : Key) (f : CFrame) (hk : k' ≠ k)
    (hd : ∀ pt, (k.1, pt) ≠ k → Drained raises (st.ks (k.1, pt)).buf) :
    (update raises st k f).1.ks k' = st.ks k' := by
  rw [update_own_space raises st k f hd]
  simp [State.set, hk]

/-- a frame of the OTHER direction never touches a space, whatever the buffers hold -/
theorem directions_independent (raises : Bytes → Bool) (st : State) (k k' : Key) (f : CFrame) (hk : k'.1 ≠ k.1) :
    (update raises st k f).1.ks k' = st.ks k' := by
  have hgo : ∀ (pts : List PT) (s : State), (handleBufferGo raises k.1 pts s).1.ks k' = s.ks k' := by
    intro pts
    induction pts with
    | nil => intro s; rfl
    | cons p ps ih =>
      intro s
      have hne : k' ≠ (k.1, p) := by intro he; apply hk; rw [he]
      simp only [handleBufferGo]
      split
      · simp [State.set, hne]
      · rw [ih]; simp [State.set, hne]
  have hne : k' ≠ k := by intro he; apply hk; rw [he]
  simp only [update, handleBuffer, hgo]
  simp [State.set, hne]

/-- the drained-buffers condition holds along every history in which `handle_record` did not raise -/
theorem update_keeps_drained (raises : Bytes → Bool) (st : State) (k : Key) (f : CFrame)
    (hall : ∀ k', Drained raises (st.ks k').buf) (hok : (update raises st k f).2.2 = false) :
    ∀ k', Drained raises ((update raises st k f).1.ks k').buf := by
  rw [update_own_space raises st k f (fun pt _ => hall _)] at hok ⊢
  intro k'
  simp only [State.set]
  split
  · simp only [kstep] at hok ⊢
    exact msgLoop_idem raises _ hok
  · exact hall k'

/-- without that condition the spaces are NOT independent: a message `handle_record` raised on stays at the head of
    its buffer (the buffer is assigned only after `handle_record` returned) and every later `update_session` of that
    direction raises again before it reaches the buffers of the later packet types -/
theorem stuck_message_blocks_later_spaces :
    let raises : Bytes → Bool := fun m => m.head? == some 2
    let bad : CFrame := ⟨0, 0, [2, 0, 0, 1, 0], 5⟩            -- a message of type 2 in the server's Initial space
    let good : CFrame := ⟨1, 0, [8, 0, 0, 2, 0, 0], 6⟩         -- EncryptedExtensions in the server's Handshake space
    let st1 := (update raises State.init (true, .initial) bad).1
    (update raises State.init (true, .handshake) good).2.1 = [[8, 0, 0, 2, 0, 0]] ∧
    (update raises st1 (true, .handshake) good).2 = ([[2, 0, 0, 1, 0]], true) := by
  simp only [update, handleBuffer, handleBufferGo, msgLoop_eq_len]
  decide

/-- outside the hypothesis of `crypto_any_order`: a retransmission that cuts the stream at OTHER points than the
    first transmission (RFC 9000 §13.3 allows it) overlaps the consumed prefix, is never consumed, and the stream
    stalls: stream `01 00 00 02 07 07` captured as (0, `01 00 00 02`) and (2, `00 02 07 07`) -/
theorem rechunked_retransmission_stalls :
    let r := run never State.init
      [((false, .initial), ⟨0, 0, [1, 0, 0, 2], 4⟩), ((false, .initial), ⟨1, 2, [0, 2, 7, 7], 4⟩)]
    r.2 = [] ∧ (r.1.ks (false, .initial)).off = 4 ∧ (r.1.ks (false, .initial)).fb.length = 1 := by
  simp only [run, update, handleBuffer, handleBufferGo, msgLoop_eq_len]
  decide

-- a stream of two messages (bodies 1 and 2 bytes), cut into three fragments across the message boundary, delivered
-- last-first with a duplicate of the middle fragment
example : IsCut [1, 0, 0, 1, 9, 2, 0, 0, 2, 7, 7] [[1, 0, 0], [1, 9, 2, 0], [0, 2, 7, 7]] := ⟨by simp, by simp⟩
example : Delivery [[1, 0, 0], [1, 9, 2, 0], [0, 2, 7, 7]]
    [⟨10, 7, [0, 2, 7, 7], 4⟩, ⟨11, 3, [1, 9, 2, 0], 4⟩, ⟨12, 0, [1, 0, 0], 3⟩, ⟨13, 3, [1, 9, 2, 0], 4⟩] := by
  refine ⟨⟨[(3, [1, 9, 2, 0], 4)], ?_, by simp [framesOf]⟩, ?_⟩
  · simp only [wire, framesOf, List.map]
    decide
  · unfold IdsOK; decide

-- … and what the model makes of that delivery: nothing until the first fragment arrives, then both messages
example :
    (run never State.init ([⟨10, 7, [0, 2, 7, 7], 4⟩, ⟨11, 3, [1, 9, 2, 0], 4⟩, ⟨12, 0, [1, 0, 0], 3⟩,
      ⟨13, 3, [1, 9, 2, 0], 4⟩].map fun f => ((true, PT.handshake), f))).2 = [[1, 0, 0, 1, 9], [2, 0, 0, 2, 7, 7]] := by
  simp only [List.map, run, update, handleBuffer, handleBufferGo, msgLoop_eq_len]
  decide
example : NoEmptyTail [1, 0, 0, 1, 9, 2, 0, 0, 2, 7, 7] := by
  intro h
  obtain ⟨_, m, hm, hl⟩ := h
  have hf : frameHs [1, 0, 0, 1, 9, 2, 0, 0, 2, 7, 7] = [[1, 0, 0, 1, 9], [2, 0, 0, 2, 7, 7]] := by
    rw [frameHs_eq_impl]; simp only [implFrame, rem, msgLoop_eq_len]; decide
  rw [hf] at hm
  simp at hm
  subst hm
  simp at hl

end TLX.Props.C02Crypto
