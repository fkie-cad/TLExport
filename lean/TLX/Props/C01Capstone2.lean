/-
C01 capstones, second part (same namespace `TLX.Props.C01Capstone`; nothing of `Props/C01Capstone.lean` is restated).

1. Causality from the PACKET order. `FirstFlights info c recsA recsB`: `c.pkts = A ++ B ++ C`, `A` client packets only,
   delivering (in order: cuts, duplicates, any ISN) the whole records `recsA`; `B` server packets only, delivering whole
   records `recsB ≠ []`; `C` arbitrary — a flight's segments are captured, ending on a record boundary, before the next
   flight's first segment. `causal12_of_packet_order` (`recsA ≠ []`, no CCS in it), `causal13_of_packet_order`
   (`recsA = [ClientHello]`). `Ex2`: byte-level causality alone ("all ClientHello bytes before the first server
   segment") is NOT enough when the segment completing the ClientHello carries the start of the next record.
2. `tls12_connection_exact_displaced`, `tls13_connection_exact_displaced`: `DeliveredDisplaced` = per direction
   `Delivers k isn` (segments displaced by up to k positions) ∧ `Props.C05.NoEarlyDelivery`.
3. TLS 1.3 handshake messages fragmented across records (`Spec/TlsFragmented13`: `FEv.frag bytes fins`, `FragConform`).
   `tls13_connection_exact_statement` (def, full RFC 8446 §5.1 strength) is TRUE for the model as repaired (per-direction
   `handshake_13_buffer`): `tls13_connection_exact_fragmented`. `Lemmas/Capstone2.plan_of_conform` turns RFC
   conformance (Finished ends counted per record) into the per-record facts the loop needs; `hsBuf_invariant`: the
   buffer is exactly the unfinished tail of the direction's handshake stream. Before the repair
   (`Session.Legacy.hs13Loop`, characterised by `walk` / `legacy_hs13Loop_walk`): `Ex2.legacy_tls13_fragmented_counterexample`.
4. `tls12_connection_meta_exact`, `tls13_connection_meta_exact`: the export with `-a` (`metaStream12`, `metaStream13`).
All are instances of the release-order theorems of `Props/C01Capstone.lean`.
Non-vacuity: `Ex2.*_instance` discharge every hypothesis for concrete connections.
-/
import TLX.Props.C01Capstone
-- `tls13_connection_exact_statement` is a `Prop` whose binders are the named hypotheses of the theorem it restates
set_option linter.unusedVariables false
namespace TLX.Props.C01Capstone
open TLX TLX.Cipher TLX.RecordLayer TLX.Spec.TlsSender TLX.Props.C01 TLX.Lemmas.Pipeline TLX.Spec.TlsConnection
open TLX.Lemmas.Capstone TLX.Lemmas.Capstone2 TLX.Props.C01Pipeline TLX.Spec.TlsFraming TLX.Spec.TlsFragmented13

/-- each direction's segments are a delivery of its stream with any cuts, exact duplicates, any initial sequence number
    AND segments displaced by up to `k` positions, under the hypothesis of `Props.C05.reassembly_exact_partial`: nothing
    is handed on before the segment that starts the stream has been captured (`NoEarlyDelivery`) -/
def DeliveredDisplaced (info : Nat → Pipeline.Info) (c : Pipeline.Conn) (streams : Bool → Bytes) : Prop :=
  ∀ d, (∃ k isn, Delivers k isn (streams d) ((dirSegs info c.server d c.pkts).map Props.C05.wire) ∧
      Props.C05.NoEarlyDelivery isn (dirSegs info c.server d c.pkts)) ∧
    (streams d).length ≤ 2 ^ 31

theorem released_displaced (info : Nat → Pipeline.Info) (c : Pipeline.Conn) (recs : Bool → List Bytes)
    (hwr : ∀ d, ∀ r ∈ recs d, WholeRecord r) (hdel : DeliveredDisplaced info c (fun d => (recs d).flatten)) :
    ∀ d, ((connRecs info c).filter fun q => q.2 == d).map (·.1.raw) = recs d := by
  intro d
  obtain ⟨⟨k, isn, hd, hearly⟩, hl⟩ := hdel d
  exact released_of_run info c.server _ c.pkts d k isn _ (by cases d <;> rfl) (hwr d) hd
    fun hw => Props.C05.reassembly_exact_partial k isn _ _ hd hw hl hearly

/-- C01 for a whole SSL 3.0 – TLS 1.2 connection whose segments may be displaced within each direction -/
theorem tls12_connection_exact_displaced (H : Crypto.Prims) (P : Prims) (L : SealLaws P) (kl : List Keylog.Key)
    (info : Nat → Pipeline.Info) (c : Pipeline.Conn) (hmeta : c.opts.metadata = false)
    (t : Transcript) (hch : t.ch.WellFormed) (hsh : t.sh.WellFormed) (hrc : t.rvC.length = 2) (hrs : t.rvS.length = 2)
    (hv : t.ver.length = 2) (hcomp : t.sh.compressionMethod = 0)
    (v : Session.Ver) (hvne : v ≠ .tls13) (hneg : Negotiated t.rvS t.sh v)
    (ps : CipherSuite.Params) (hres : CipherSuite.resolve (Bytes.beNat t.sh.cipherSuite) = some ps)
    (a : Pipeline.SuiteArgs) (hargs : Pipeline.suiteArgs ps = some a)
    (f : Keylog.Key) (fs : List Keylog.Key)
    (hfound : (Keylog.findSessionSecrets kl (Pipeline.natsOfBytes t.ch.random)).filter
        (fun k => k.label == Keylog.s_CLIENT_RANDOM || k.label == Keylog.s_RSA) = f :: fs)
    (secrets : List KeySchedule.Secret) (hsec : Pipeline.secretsOf false (f :: fs) = some secrets)
    (k : KeySchedule.Keys6)
    (hgen : KeySchedule.generateKeys H (Pipeline.ksVersion v) a.ks secrets t.ch.random t.sh.random
      = .ok (some (.legacy k)))
    (cls : CipherClass)
    (hcls : classOf a.bulk (Pipeline.rlVersion v)
      (Session.extGet ((t.sh.extensions.getD []).map extPair) [0x00, 0x16]).isSome a.tagLen = some cls)
    (hmac : 0 < (KeySchedule.macSuite H a.ks.mac).outLen)
    (hck : KeyMatOk cls k.clientKey k.clientIv) (hsk : KeyMatOk cls k.serverKey k.serverIv)
    (hsc : Script12 t.cEvs) (hss : Script12 t.sEvs)
    (hokc : ∀ e ∈ t.cEvs, EvOk1 cls (KeySchedule.macSuite H a.ks.mac).outLen e)
    (hoks : ∀ e ∈ t.sEvs, EvOk1 cls (KeySchedule.macSuite H a.ks.mac).outLen e)
    (hwr : ∀ d, ∀ r ∈ t.records P L cls (legacySnd k) d, WholeRecord r)
    (hlen : t.cEvs.length + t.sEvs.length ≤ seqLimit)
    (hdel : DeliveredDisplaced info c (t.stream P L cls (legacySnd k)))
    (hcausal : Causal12 (connRecs info c)) :
    ∃ frames, Pipeline.connOut H P info c kl = some (frames.map (Pipeline.addressed c.opts c)) ∧
      Spec.reassemble frames = some (Spec.TlsConnection.plainOf t.cEvs, Spec.TlsConnection.plainOf t.sEvs) ∧
      TimesFromCarriers info c frames := by
  exact tls12_plain_of_release H P L kl info c hmeta t hch hsh hrc hrs hv hcomp v hneg cls
    (classOf_legacy hcls hvne) _ _
    (installs12 H P L kl t.ch t.sh hsh v hvne ps hres a hargs f fs hfound secrets hsec k hgen cls hcls hmac hck hsk)
    hsc hss hokc hoks (by simpa [legacySnd, SDir.init] using hlen) (released_displaced info c _ hwr hdel) hcausal

/-- C01 for a whole TLS 1.3 connection whose segments may be displaced within each direction -/
theorem tls13_connection_exact_displaced (H : Crypto.Prims) (P : Prims) (L : SealLaws P) (kl : List Keylog.Key)
    (info : Nat → Pipeline.Info) (c : Pipeline.Conn) (hmeta : c.opts.metadata = false)
    -- the connection as sent
    (t : Transcript) (hch : t.ch.WellFormed) (hsh : t.sh.WellFormed) (hrc : t.rvC.length = 2) (hrs : t.rvS.length = 2)
    (hv : t.ver.length = 2) (hcomp : t.sh.compressionMethod = 0) (hneg : Negotiated t.rvS t.sh .tls13)
    -- suite table (C14), key log (C09), key schedule (C15), as in `genKeys_installs_rel_13`
    (ps : CipherSuite.Params) (hres : CipherSuite.resolve (Bytes.beNat t.sh.cipherSuite) = some ps)
    (a : Pipeline.SuiteArgs) (hargs : Pipeline.suiteArgs ps = some a)
    (f : Keylog.Key) (fs : List Keylog.Key)
    (hfound : Keylog.findSessionSecrets kl (Pipeline.natsOfBytes t.ch.random) = f :: fs)
    (secrets : List KeySchedule.Secret) (hsec : Pipeline.secretsOf true (f :: fs) = some secrets)
    (k : KeySchedule.Installed13)
    (hgen : KeySchedule.generateKeys H .tls13 a.ks secrets t.ch.random t.sh.random = .ok (some (.tls13 k)))
    (chk chiv cak caiv shk shiv sak saiv : Bytes)
    (hk : k.clientHsKey = some chk ∧ k.clientHsIv = some chiv ∧ k.clientAppKey = some cak ∧ k.clientAppIv = some caiv ∧
      k.serverHsKey = some shk ∧ k.serverHsIv = some shiv ∧ k.serverAppKey = some sak ∧ k.serverAppIv = some saiv)
    (cls : CipherClass)
    (hcls : classOf a.bulk .tls13
      (Session.extGet ((t.sh.extensions.getD []).map extPair) [0x00, 0x16]).isSome a.tagLen = some cls)
    (h1 : KeyMatOk cls chk chiv) (h2 : KeyMatOk cls cak caiv) (h3 : KeyMatOk cls shk shiv) (h4 : KeyMatOk cls sak saiv)
    -- what follows the hellos
    (hsc : Script13 t.cEvs) (hss : Script13 t.sEvs)
    (hokc : ∀ e ∈ t.cEvs, EvOk1 cls (KeySchedule.macSuite H a.ks.mac).outLen e)
    (hoks : ∀ e ∈ t.sEvs, EvOk1 cls (KeySchedule.macSuite H a.ks.mac).outLen e)
    (hwr : ∀ d, ∀ r ∈ t.records P L cls ⟨SDir.init chk chiv cak caiv, SDir.init shk shiv sak saiv⟩ d, WholeRecord r)
    (hlen : budget13 t ≤ seqLimit)
    -- the capture
    (hdel : DeliveredDisplaced info c (t.stream P L cls ⟨SDir.init chk chiv cak caiv, SDir.init shk shiv sak saiv⟩))
    (hcausal : Causal13 (connRecs info c)) :
    ∃ frames, Pipeline.connOut H P info c kl = some (frames.map (Pipeline.addressed c.opts c)) ∧
      Spec.reassemble frames = some (Spec.TlsConnection.plainOf t.cEvs, Spec.TlsConnection.plainOf t.sEvs) ∧
      TimesFromCarriers info c frames := by
  exact tls13_whole_of_release H P L kl info c false hmeta t hch hsh hrc hrs hv hcomp hneg cls _ _
    (installs13 H P kl t.ch t.sh hsh ps hres a hargs f fs hfound secrets hsec k hgen chk chiv cak caiv shk shiv sak saiv hk
      cls hcls h1 h2 h3 h4)
    hsc hss hokc hoks (by simpa [SDir.init] using hlen) (released_displaced info c _ hwr hdel) hcausal

/-- Flights alternate, stated on the CAPTURE ORDER of packets: the connection's packets are `A ++ B ++ C` where
    `A` (the client's first flight) holds client packets only and delivers — in order, any cuts, exact duplicates, any
    ISN — whole records `recsA`; `B` (the server's first flight) holds server packets only and delivers whole records
    `recsB`, at least one; `C` is arbitrary. I.e. a flight's segments are all captured, ending on a record boundary,
    before the first segment of the next flight. -/
structure FirstFlights (info : Nat → Pipeline.Info) (c : Pipeline.Conn) (recsA recsB : List Bytes) : Prop where
  split : ∃ A B C, c.pkts = A ++ B ++ C ∧ (∀ p ∈ A, (p.src == c.server) = false) ∧ (∀ p ∈ B, (p.src == c.server) = true) ∧
    (∃ isn, InOrder isn recsA.flatten ((dirSegs info c.server false A).map Props.C05.wire)) ∧
    (∃ isn, InOrder isn recsB.flatten ((dirSegs info c.server true B).map Props.C05.wire))
  wholeA : ∀ r ∈ recsA, WholeRecord r
  wholeB : ∀ r ∈ recsB, WholeRecord r
  lenA : recsA.flatten.length ≤ 2 ^ 31
  lenB : recsB.flatten.length ≤ 2 ^ 31
  neB : recsB ≠ []

theorem firstFlights_release (info : Nat → Pipeline.Info) (c : Pipeline.Conn) (recsA recsB : List Bytes)
    (h : FirstFlights info c recsA recsB) :
    ∃ relA relB relC, connRecs info c = relA ++ relB ++ relC ∧ relA.map (·.1.raw) = recsA ∧ (∀ q ∈ relA, q.2 = false) ∧
      relB.map (·.1.raw) = recsB ∧ (∀ q ∈ relB, q.2 = true) := by
  obtain ⟨A, B, C, hp, hA, hB, ⟨isnA, hdA⟩, ⟨isnB, hdB⟩⟩ := h.split
  obtain ⟨a1, a2⟩ := released_block info c.server (Reassembly.St.init, Reassembly.St.init) A false rfl hA isnA recsA
    h.wholeA hdA h.lenA
  have hR := reasmFinal_other info c.server (Reassembly.St.init, Reassembly.St.init) A true (by simpa using hA)
  obtain ⟨b1, b2⟩ := released_block info c.server (reasmFinal info c.server (Reassembly.St.init, Reassembly.St.init) A) B true
    (by simpa using hR) hB isnB recsB h.wholeB hdB h.lenB
  refine ⟨_, _, released info c.server (reasmFinal info c.server (Reassembly.St.init, Reassembly.St.init) (A ++ B)) C,
    ?_, a1, a2, b1, b2⟩
  unfold connRecs
  rw [hp, released_append, released_append]

/-- TLS ≤ 1.2: if flights alternate in the capture order and the client's first flight contains at least one record
    (the ClientHello) and no ChangeCipherSpec, the release-order hypothesis `Causal12` of `tls12_connection_exact`
    holds. -/
theorem causal12_of_packet_order (info : Nat → Pipeline.Info) (c : Pipeline.Conn) (recsA recsB : List Bytes)
    (h : FirstFlights info c recsA recsB) (hneA : recsA ≠ []) (hccs : ∀ r ∈ recsA, r.head? ≠ some 20) :
    Causal12 (connRecs info c) := by
  obtain ⟨relA, relB, relC, hM, a1, a2, b1, b2⟩ := firstFlights_release info c recsA recsB h
  refine ⟨relA, relB ++ relC, by rw [hM, List.append_assoc], ?_, ?_, ?_⟩
  · intro hnil; rw [hnil] at a1; exact hneA a1.symm
  · intro q hq
    refine ⟨a2 q hq, ?_⟩
    have : q.1.raw ∈ recsA := by rw [← a1]; exact List.mem_map_of_mem (f := fun q => q.1.raw) hq
    exact hccs _ this
  · cases relB with
    | nil => rw [List.map_nil] at b1; exact absurd b1.symm h.neB
    | cons q rest => exact ⟨q, rest ++ relC, rfl, b2 q (by simp)⟩

/-- TLS 1.3: if flights alternate and the client's first flight is exactly one record (the ClientHello; no early
    data), `Causal13` holds. -/
theorem causal13_of_packet_order (info : Nat → Pipeline.Info) (c : Pipeline.Conn) (chRec : Bytes) (recsB : List Bytes)
    (h : FirstFlights info c [chRec] recsB) : Causal13 (connRecs info c) := by
  obtain ⟨relA, relB, relC, hM, a1, a2, b1, b2⟩ := firstFlights_release info c [chRec] recsB h
  cases relA with
  | nil => simp at a1
  | cons q0 ra =>
    cases ra with
    | cons _ _ => simp at a1
    | nil =>
      cases relB with
      | nil => rw [List.map_nil] at b1; exact absurd b1.symm h.neB
      | cons q1 rest =>
        exact ⟨q0, q1, rest ++ relC, by rw [hM]; rfl, a2 q0 (by simp), b2 q1 (by simp)⟩

/-- `tls13_connection_exact` at full RFC 8446 §5.1 strength: the endpoints may cut their handshake message streams into
    records anywhere (`Spec/TlsFragmented13`: `FragConform`). True of the model with the per-direction handshake buffer
    (`tls13_connection_exact_fragmented`); the per-record walk it replaced: `Ex2.legacy_tls13_fragmented_counterexample`. -/
def tls13_connection_exact_statement : Prop := ∀ (H : Crypto.Prims) (P : Prims) (L : SealLaws P) (kl : List Keylog.Key)
    (info : Nat → Pipeline.Info) (c : Pipeline.Conn) (hmeta : c.opts.metadata = false)
    -- the connection as sent
    (t : TranscriptF) (hch : t.ch.WellFormed) (hsh : t.sh.WellFormed) (hrc : t.rvC.length = 2) (hrs : t.rvS.length = 2)
    (hv : t.ver.length = 2) (hcomp : t.sh.compressionMethod = 0) (hneg : Negotiated t.rvS t.sh .tls13)
    -- suite table (C14), key log (C09), key schedule (C15), as in `genKeys_installs_rel_13`
    (ps : CipherSuite.Params) (hres : CipherSuite.resolve (Bytes.beNat t.sh.cipherSuite) = some ps)
    (a : Pipeline.SuiteArgs) (hargs : Pipeline.suiteArgs ps = some a)
    (f : Keylog.Key) (fs : List Keylog.Key)
    (hfound : Keylog.findSessionSecrets kl (Pipeline.natsOfBytes t.ch.random) = f :: fs)
    (secrets : List KeySchedule.Secret) (hsec : Pipeline.secretsOf true (f :: fs) = some secrets)
    (k : KeySchedule.Installed13)
    (hgen : KeySchedule.generateKeys H .tls13 a.ks secrets t.ch.random t.sh.random = .ok (some (.tls13 k)))
    (chk chiv cak caiv shk shiv sak saiv : Bytes)
    (hk : k.clientHsKey = some chk ∧ k.clientHsIv = some chiv ∧ k.clientAppKey = some cak ∧ k.clientAppIv = some caiv ∧
      k.serverHsKey = some shk ∧ k.serverHsIv = some shiv ∧ k.serverAppKey = some sak ∧ k.serverAppIv = some saiv)
    (cls : CipherClass)
    (hcls : classOf a.bulk .tls13
      (Session.extGet ((t.sh.extensions.getD []).map extPair) [0x00, 0x16]).isSome a.tagLen = some cls)
    (h1 : KeyMatOk cls chk chiv) (h2 : KeyMatOk cls cak caiv) (h3 : KeyMatOk cls shk shiv) (h4 : KeyMatOk cls sak saiv)
    -- what follows the hellos
    (hfc : FragConform t.cF) (hfs : FragConform t.sF)
    (hwr : ∀ d, ∀ r ∈ t.records P L cls ⟨SDir.init chk chiv cak caiv, SDir.init shk shiv sak saiv⟩ d, WholeRecord r)
    (hlen : costF t.cF + costF t.sF ≤ seqLimit)
    -- the capture
    (hdel : DeliveredInOrder info c (t.stream P L cls ⟨SDir.init chk chiv cak caiv, SDir.init shk shiv sak saiv⟩))
    (hcausal : Causal13 (connRecs info c)),
    ∃ frames, Pipeline.connOut H P info c kl = some (frames.map (Pipeline.addressed c.opts c)) ∧
      Spec.reassemble frames = some (plainOfF t.cF, plainOfF t.sF) ∧
      TimesFromCarriers info c frames 

/-- With the per-direction handshake buffer the full-strength statement holds — handshake
    messages may be fragmented ANYWHERE across protected records (RFC 8446 §5.1), coalesced, interleaved with the other
    direction; no lockstep hypothesis. (Before the repair: `Ex2.legacy_tls13_fragmented_counterexample`.) -/
theorem tls13_connection_exact_fragmented : tls13_connection_exact_statement := by
  intro H P L kl info c hmeta t hch hsh hrc hrs hv hcomp hneg ps hres a hargs f fs hfound secrets hsec k hgen
    chk chiv cak caiv shk shiv sak saiv hk cls hcls h1 h2 h3 h4 hfc hfs hwr hlen hdel hcausal
  have := tls13_of_release H P L kl info c false hmeta t hch hsh hrc hrs hv hcomp hneg cls _ _
    (installs13 H P kl t.ch t.sh hsh ps hres a hargs f fs hfound secrets hsec k hgen chk chiv cak caiv shk shiv sak saiv hk
      cls hcls h1 h2 h3 h4)
    (plan_of_conform _ hfc) (plan_of_conform _ hfs) (by simpa [SDir.init] using hlen)
    (released_inorder info c _ hwr hdel) hcausal
  simpa only [Bool.false_eq_true, if_false, List.nil_append, Lemmas.C01All.streamF_false] using this

/-- The per-direction handshake buffer in pure form (`Lemmas/Pipeline.consume` is the loop without the decryptor; the
    session's buffer field after a record is this `consume` of buffer ++ plaintext, `handleRecord_frag_any`): whatever
    pieces `frs` the first `n` bytes of a stream of whole messages `msgs` are cut into, feeding them one by one leaves in
    the buffer exactly the unfinished tail — the first `n` stream bytes minus the messages that fit entirely into them -/
theorem hsBuf_invariant (msgs : List HsMsg) (hok : ∀ m ∈ msgs, MsgOk m) (frs : List Bytes) (n : Nat)
    (hcut : frs.flatten = (encMsgs msgs).take n) (hn : n ≤ (encMsgs msgs).length) :
    frs.foldl (fun buf f => (consume (buf ++ f).length (buf ++ f)).2) []
      = ((encMsgs msgs).take n).drop (encMsgs (completed msgs n).1).length := by
  -- the pieces do not matter (`foldl_hsRem`); what one run leaves of the first `n` stream bytes is `hs_take`
  have h0 := foldl_hsRem frs []
  rw [show hsRem [] = [] from rfl, List.nil_append, hcut] at h0
  rw [h0]
  exact (hs_take msgs hok n).2

/-- C01 ∧ C13 for a whole SSL 3.0 – TLS 1.2 connection WITH `-a`: the exported conversation reassembles, per direction,
    to the hello record verbatim followed by `metaStream12`: every clear-text handshake and ChangeCipherSpec record
    verbatim, every protected handshake record as its plaintext followed by the record as captured, application data as
    plaintext. Causality here: the first released record is the client's, the second the server's (`Causal13`). -/
theorem tls12_connection_meta_exact (H : Crypto.Prims) (P : Prims) (L : SealLaws P) (kl : List Keylog.Key)
    (info : Nat → Pipeline.Info) (c : Pipeline.Conn) (hmeta : c.opts.metadata = true)
    (t : Transcript) (hch : t.ch.WellFormed) (hsh : t.sh.WellFormed) (hrc : t.rvC.length = 2) (hrs : t.rvS.length = 2)
    (hv : t.ver.length = 2) (hcomp : t.sh.compressionMethod = 0)
    (v : Session.Ver) (hvne : v ≠ .tls13) (hneg : Negotiated t.rvS t.sh v)
    (ps : CipherSuite.Params) (hres : CipherSuite.resolve (Bytes.beNat t.sh.cipherSuite) = some ps)
    (a : Pipeline.SuiteArgs) (hargs : Pipeline.suiteArgs ps = some a)
    (f : Keylog.Key) (fs : List Keylog.Key)
    (hfound : (Keylog.findSessionSecrets kl (Pipeline.natsOfBytes t.ch.random)).filter
        (fun k => k.label == Keylog.s_CLIENT_RANDOM || k.label == Keylog.s_RSA) = f :: fs)
    (secrets : List KeySchedule.Secret) (hsec : Pipeline.secretsOf false (f :: fs) = some secrets)
    (k : KeySchedule.Keys6)
    (hgen : KeySchedule.generateKeys H (Pipeline.ksVersion v) a.ks secrets t.ch.random t.sh.random
      = .ok (some (.legacy k)))
    (cls : CipherClass)
    (hcls : classOf a.bulk (Pipeline.rlVersion v)
      (Session.extGet ((t.sh.extensions.getD []).map extPair) [0x00, 0x16]).isSome a.tagLen = some cls)
    (hmac : 0 < (KeySchedule.macSuite H a.ks.mac).outLen)
    (hck : KeyMatOk cls k.clientKey k.clientIv) (hsk : KeyMatOk cls k.serverKey k.serverIv)
    (hsc : Script12 t.cEvs) (hss : Script12 t.sEvs)
    (hokc : ∀ e ∈ t.cEvs, EvOk1 cls (KeySchedule.macSuite H a.ks.mac).outLen e)
    (hoks : ∀ e ∈ t.sEvs, EvOk1 cls (KeySchedule.macSuite H a.ks.mac).outLen e)
    (hwr : ∀ d, ∀ r ∈ t.records P L cls (legacySnd k) d, WholeRecord r)
    (hlen : t.cEvs.length + t.sEvs.length ≤ seqLimit)
    (hdel : DeliveredInOrder info c (t.stream P L cls (legacySnd k)))
    (hcausal : Causal13 (connRecs info c)) :
    ∃ frames, Pipeline.connOut H P info c kl = some (frames.map (Pipeline.addressed c.opts c)) ∧
      Spec.reassemble frames = some
        (t.chRecord ++ metaStream12 P L cls t.ver (legacySnd k).c t.cEvs,
         t.shRecord ++ metaStream12 P L cls t.ver (legacySnd k).s t.sEvs) ∧
      TimesFromCarriers info c frames := by
  have := tls12_of_release H P L kl info c true hmeta t hch hsh hrc hrs hv hcomp v hneg cls
    (classOf_legacy hcls hvne) _ _
    (installs12 H P L kl t.ch t.sh hsh v hvne ps hres a hargs f fs hfound secrets hsec k hgen cls hcls hmac hck hsk)
    hsc hss hokc hoks (by simpa [legacySnd, SDir.init] using hlen) (released_inorder info c _ hwr hdel) hcausal
  simpa only [if_true, stream12_true] using this

/-- C01 ∧ C13 for a whole TLS 1.3 connection WITH `-a`: per direction the hello record verbatim followed by
    `metaStream13` — dummy ChangeCipherSpec records verbatim, protected handshake records (flights, tickets) NOT AT
    ALL, application data as plaintext. -/
theorem tls13_connection_meta_exact (H : Crypto.Prims) (P : Prims) (L : SealLaws P) (kl : List Keylog.Key)
    (info : Nat → Pipeline.Info) (c : Pipeline.Conn) (hmeta : c.opts.metadata = true)
    (t : Transcript) (hch : t.ch.WellFormed) (hsh : t.sh.WellFormed) (hrc : t.rvC.length = 2) (hrs : t.rvS.length = 2)
    (hv : t.ver.length = 2) (hcomp : t.sh.compressionMethod = 0) (hneg : Negotiated t.rvS t.sh .tls13)
    (ps : CipherSuite.Params) (hres : CipherSuite.resolve (Bytes.beNat t.sh.cipherSuite) = some ps)
    (a : Pipeline.SuiteArgs) (hargs : Pipeline.suiteArgs ps = some a)
    (f : Keylog.Key) (fs : List Keylog.Key)
    (hfound : Keylog.findSessionSecrets kl (Pipeline.natsOfBytes t.ch.random) = f :: fs)
    (secrets : List KeySchedule.Secret) (hsec : Pipeline.secretsOf true (f :: fs) = some secrets)
    (k : KeySchedule.Installed13)
    (hgen : KeySchedule.generateKeys H .tls13 a.ks secrets t.ch.random t.sh.random = .ok (some (.tls13 k)))
    (chk chiv cak caiv shk shiv sak saiv : Bytes)
    (hk : k.clientHsKey = some chk ∧ k.clientHsIv = some chiv ∧ k.clientAppKey = some cak ∧ k.clientAppIv = some caiv ∧
      k.serverHsKey = some shk ∧ k.serverHsIv = some shiv ∧ k.serverAppKey = some sak ∧ k.serverAppIv = some saiv)
    (cls : CipherClass)
    (hcls : classOf a.bulk .tls13
      (Session.extGet ((t.sh.extensions.getD []).map extPair) [0x00, 0x16]).isSome a.tagLen = some cls)
    (h1 : KeyMatOk cls chk chiv) (h2 : KeyMatOk cls cak caiv) (h3 : KeyMatOk cls shk shiv) (h4 : KeyMatOk cls sak saiv)
    (hsc : Script13 t.cEvs) (hss : Script13 t.sEvs)
    (hokc : ∀ e ∈ t.cEvs, EvOk1 cls (KeySchedule.macSuite H a.ks.mac).outLen e)
    (hoks : ∀ e ∈ t.sEvs, EvOk1 cls (KeySchedule.macSuite H a.ks.mac).outLen e)
    (hwr : ∀ d, ∀ r ∈ t.records P L cls ⟨SDir.init chk chiv cak caiv, SDir.init shk shiv sak saiv⟩ d, WholeRecord r)
    (hlen : budget13 t ≤ seqLimit)
    (hdel : DeliveredInOrder info c (t.stream P L cls ⟨SDir.init chk chiv cak caiv, SDir.init shk shiv sak saiv⟩))
    (hcausal : Causal13 (connRecs info c)) :
    ∃ frames, Pipeline.connOut H P info c kl = some (frames.map (Pipeline.addressed c.opts c)) ∧
      Spec.reassemble frames = some
        (t.chRecord ++ metaStream13 P L cls t.ver (SDir.init chk chiv cak caiv) t.cEvs,
         t.shRecord ++ metaStream13 P L cls t.ver (SDir.init shk shiv sak saiv) t.sEvs) ∧
      TimesFromCarriers info c frames := by
  exact tls13_whole_of_release H P L kl info c true hmeta t hch hsh hrc hrs hv hcomp hneg cls _ _
    (installs13 H P kl t.ch t.sh hsh ps hres a hargs f fs hfound secrets hsec k hgen chk chiv cak caiv shk shiv sak saiv hk
      cls hcls h1 h2 h3 h4)
    hsc hss hokc hoks (by simpa [SDir.init] using hlen) (released_inorder info c _ hwr hdel) hcausal

namespace Ex2
open TLX.Props.C01Pipeline.Ex2 TLX.Props.C01.Ex TLX.Props.C01Capstone.Ex

/-- the capture `cap0` of `Ex.tls12_instance` has alternating first flights: the ClientHello (two segments), then the
    ServerHello flight (one segment) -/
theorem firstFlights0 : FirstFlights infoCap connCap [rC 0] [rS 0, rS 1] := by
  have h : ((∀ p ∈ pktsCap.take 2, (p.src == connCap.server) = false) ∧
        (∀ p ∈ (pktsCap.drop 2).take 1, (p.src == connCap.server) = true)) ∧
      (((∀ b ∈ [(rC 0).take 20, (rC 0).drop 20], b ≠ []) ∧ [(rC 0).take 20, (rC 0).drop 20].flatten = [rC 0].flatten) ∧
        (dirSegs infoCap connCap.server false (pktsCap.take 2)).map Props.C05.wire
          = segsOf (isnOf false) 0 [(rC 0).take 20, (rC 0).drop 20]) ∧
      (((∀ b ∈ [rS 0 ++ rS 1], b ≠ []) ∧ [rS 0 ++ rS 1].flatten = [rS 0, rS 1].flatten) ∧
        (dirSegs infoCap connCap.server true ((pktsCap.drop 2).take 1)).map Props.C05.wire
          = segsOf (isnOf true) 0 [rS 0 ++ rS 1]) ∧
      ((∀ r ∈ [rC 0], WholeRecord r) ∧ (∀ r ∈ [rS 0, rS 1], WholeRecord r)) ∧
      [rC 0].flatten.length ≤ 2 ^ 31 ∧ [rS 0, rS 1].flatten.length ≤ 2 ^ 31 := by decide +kernel
  obtain ⟨⟨hA, hB⟩, ⟨cutA, eA⟩, ⟨cutB, eB⟩, ⟨wA, wB⟩, lA, lB⟩ := h
  exact
    { split := ⟨pktsCap.take 2, (pktsCap.drop 2).take 1, (pktsCap.drop 2).drop 1,
        by rw [List.append_assoc, List.take_append_drop, List.take_append_drop]; rfl, hA, hB,
        ⟨isnOf false, by unfold InOrder; rw [eA]; exact Delivers.cut _ cutA⟩,
        ⟨isnOf true, by unfold InOrder; rw [eB]; exact Delivers.cut _ cutB⟩⟩
      wholeA := wA, wholeB := wB, lenA := lA, lenB := lB, neB := by decide }

example : Causal12 (connRecs infoCap connCap) :=
  causal12_of_packet_order infoCap connCap _ _ firstFlights0 (by decide) (by decide +kernel)

-- a WEAKER packet-order condition is not enough: "every byte of the ClientHello is captured before the first server
-- segment" holds here too, and each direction is in order, but the segment that completes the ClientHello also carries
-- the first 3 bytes of the client's next record, so nothing is released until after the ServerHello: all is lost …
example : outOf ([(false, rC 0 ++ (rC 1).take 3, 0), (true, rS 0 ++ rS 1, 0),
    (false, (rC 1).drop 3 ++ rC 2 ++ rC 3, 53)] ++ cap0.drop 4) = some [] := by decide +kernel
-- … whereas with the flight boundary on a segment boundary (`FirstFlights`) everything is exported
example : outOf ([(false, rC 0, 0), (true, rS 0 ++ rS 1, 0), (false, rC 1 ++ rC 2 ++ rC 3, 50)] ++ cap0.drop 4)
    = some [(1003, hi), (1005, k16.take 8), (1007, k16.drop 8)] := by
  simp only [cap0, rC, rS, recsOfDir, k0_eq]
  decide +kernel

/-- the simplest sufficient condition for `NoEarlyDelivery`: the first captured data segment of the direction is the one
    that starts the stream (every LATER segment may be displaced) -/
theorem noEarly_of_head (isn : Nat) (segs : List Reassembly.Seg)
    (h : ∀ s, segs.head? = some s → s.seq = isn % 2 ^ 32) : Props.C05.NoEarlyDelivery isn segs :=
  Props.C05.noEarly_of_head isn segs h

/-- `cap0` with the client's False-Start record captured BEFORE the segment that carries ClientKeyExchange / CCS /
    Finished (displacement by one position), and retransmitted later -/
def capD : List (Bool × Bytes × Nat) :=
  [cap0.getD 0 default, cap0.getD 1 default, cap0.getD 2 default, cap0.getD 4 default, cap0.getD 3 default] ++ cap0.drop 5
def infoD := infoOf capD
def connD := connOf capD

theorem deliveredD : DeliveredDisplaced infoD connD (t0.stream Cipher.Toy.prims Cipher.Toy.laws cls0 (legacySnd k0)) := by
  -- the client's segments are the cut `chunksOf false`, its fourth segment moved one position ahead and retransmitted in its
  -- own place; the server's are the cut `chunksOf true`
  let w := segsOf (isnOf false) 0 (chunksOf false)
  have h : (((∀ b ∈ chunksOf false, b ≠ []) ∧
          (chunksOf false).flatten = t0.stream Cipher.Toy.prims Cipher.Toy.laws cls0 (legacySnd k0) false) ∧
        w = w.take 2 ++ ([w.getD 2 (0, [])] ++ w.getD 3 (0, []) :: w.drop 4) ∧
        (dirSegs infoD connD.server false connD.pkts).map Props.C05.wire
          = w.take 2 ++ w.getD 3 (0, []) :: ([w.getD 2 (0, [])] ++ w.getD 3 (0, []) :: w.drop 4) ∧
        (∀ s, (dirSegs infoD connD.server false connD.pkts).head? = some s → s.seq = isnOf false % 2 ^ 32) ∧
        (t0.stream Cipher.Toy.prims Cipher.Toy.laws cls0 (legacySnd k0) false).length ≤ 2 ^ 31) ∧
      ((∀ b ∈ chunksOf true, b ≠ []) ∧
          (chunksOf true).flatten = t0.stream Cipher.Toy.prims Cipher.Toy.laws cls0 (legacySnd k0) true) ∧
        (dirSegs infoD connD.server true connD.pkts).map Props.C05.wire = segsOf (isnOf true) 0 (chunksOf true) ∧
        (∀ s, (dirSegs infoD connD.server true connD.pkts).head? = some s → s.seq = isnOf true % 2 ^ 32) ∧
        (t0.stream Cipher.Toy.prims Cipher.Toy.laws cls0 (legacySnd k0) true).length ≤ 2 ^ 31 := by
    simp only [w, infoD, connD, capD]
    simp only [chunksOf, rC, rS, recsOfDir, cap0, k0_eq]
    decide +kernel
  obtain ⟨⟨hcut, e, e2, hhead, hl⟩, hcutS, e2S, hheadS, hlS⟩ := h
  intro d
  cases d
  · refine ⟨⟨1, isnOf false, ?_, noEarly_of_head _ _ hhead⟩, hl⟩
    have h0 := Delivers.cut (k := 1) (isn := isnOf false) (chunksOf false) hcut
    rw [show segsOf (isnOf false) 0 (chunksOf false) = _ from e] at h0
    rw [e2]
    exact Delivers.dup _ _ _ _ (Delivers.displace _ _ h0 (Displaced.earlier _ _ _ _ (by decide)))
  · refine ⟨⟨0, isnOf true, ?_, noEarly_of_head _ _ hheadS⟩, hlS⟩
    rw [e2S]
    exact Delivers.cut _ hcutS

theorem causalD : Causal12 (connRecs infoD connD) :=
  causal12_of_causal13 _ (causal13_of_dirs _ (by decide +kernel)) (by decide +kernel)

/-- every hypothesis of `tls12_connection_exact_displaced` holds for the displaced capture -/
theorem tls12_displaced_instance :
    ∃ frames, Pipeline.connOut hashes Cipher.Toy.prims infoD connD kl0
        = some (frames.map (Pipeline.addressed connD.opts connD)) ∧
      Spec.reassemble frames = some (hi, k16) ∧ TimesFromCarriers infoD connD frames := by
  obtain ⟨hres, hfound, hsec, hcls, hmac, hck, hsk⟩ := keys12
  obtain ⟨hsc, hss, hokc, hoks, hwr, hlen⟩ := script0
  have h := tls12_connection_exact_displaced hashes Cipher.Toy.prims Cipher.Toy.laws kl0 infoD connD rfl t0
    (by decide) (by decide) rfl rfl rfl rfl .tls12 (by decide) (by unfold Negotiated; decide)
    ps0 hres a0 args0 f0 [] hfound secrets0 hsec k0 gen0 cls0 hcls hmac hck hsk hsc hss hokc hoks hwr hlen
    deliveredD causalD
  have e : (Spec.TlsConnection.plainOf t0.cEvs, Spec.TlsConnection.plainOf t0.sEvs) = (hi, k16) := by decide
  rw [e] at h
  exact h

theorem causal0m : Causal13 (connRecs infoCap (setMeta connCap true)) := causal0'

/-- every hypothesis of `tls12_connection_meta_exact` holds for the connection of `Ex.tls12_instance` exported with `-a` -/
theorem tls12_meta_instance :
    ∃ frames, Pipeline.connOut hashes Cipher.Toy.prims infoCap (setMeta connCap true) kl0
        = some (frames.map (Pipeline.addressed (setMeta connCap true).opts (setMeta connCap true))) ∧
      Spec.reassemble frames = some
        (t0.chRecord ++ metaStream12 Cipher.Toy.prims Cipher.Toy.laws cls0 t0.ver (legacySnd k0).c t0.cEvs,
         t0.shRecord ++ metaStream12 Cipher.Toy.prims Cipher.Toy.laws cls0 t0.ver (legacySnd k0).s t0.sEvs) ∧
      TimesFromCarriers infoCap (setMeta connCap true) frames := by
  obtain ⟨hres, hfound, hsec, hcls, hmac, hck, hsk⟩ := keys12
  obtain ⟨hsc, hss, hokc, hoks, hwr, hlen⟩ := script0
  exact tls12_connection_meta_exact hashes Cipher.Toy.prims Cipher.Toy.laws kl0 infoCap (setMeta connCap true) rfl t0
    (by decide) (by decide) rfl rfl rfl rfl .tls12 (by decide) (by unfold Negotiated; decide)
    ps0 hres a0 args0 f0 [] hfound secrets0 hsec k0 gen0 cls0 hcls hmac hck hsk hsc hss hokc hoks hwr hlen
    delivered0 causal0m

-- the client's exported stream with `-a`: ClientHello record, ClientKeyExchange record, CCS record, the decrypted
-- Finished followed by its record, "hi", (the empty record contributes nothing)
example : t0.chRecord ++ metaStream12 Cipher.Toy.prims Cipher.Toy.laws cls0 t0.ver (legacySnd k0).c t0.cEvs
    = rC 0 ++ rC 1 ++ rC 2 ++ ((20 :: 0 :: 0 :: 12 :: k16.take 12) ++ rC 3) ++ hi := by
  simp only [rC, recsOfDir, k0_eq]
  decide +kernel

/-- every hypothesis of `tls13_connection_meta_exact` holds for the connection of `Ex.tls13_instance` exported with `-a` -/
theorem tls13_meta_instance :
    ∃ frames, Pipeline.connOut hashes Cipher.Toy.prims info13 (setMeta conn13 true) kl13
        = some (frames.map (Pipeline.addressed (setMeta conn13 true).opts (setMeta conn13 true))) ∧
      Spec.reassemble frames = some
        (t13.chRecord ++ metaStream13 Cipher.Toy.prims Cipher.Toy.laws cls13 t13.ver x13.c t13.cEvs,
         t13.shRecord ++ metaStream13 Cipher.Toy.prims Cipher.Toy.laws cls13 t13.ver x13.s t13.sEvs) ∧
      TimesFromCarriers info13 (setMeta conn13 true) frames := by
  obtain ⟨hres, hfound, hsec, hk, hcls, h1, h2, h3, h4⟩ := keys13
  obtain ⟨hsc, hss, hokc, hoks, hwr, hlen⟩ := script13
  exact tls13_connection_meta_exact hashes Cipher.Toy.prims Cipher.Toy.laws kl13 info13 (setMeta conn13 true) rfl t13
    (by decide) (by decide) rfl rfl rfl rfl (by unfold Negotiated; decide)
    ps13 hres a13 args13 _ _ hfound secrets13 hsec k13 gen13 _ _ _ _ _ _ _ _ hk cls13 hcls h1 h2 h3 h4
    hsc hss hokc hoks hwr hlen delivered13 causal13

-- the server's exported stream with `-a`: ServerHello record, the dummy CCS record, 16 bytes — nothing of the flight
-- or the ticket
example : t13.shRecord ++ metaStream13 Cipher.Toy.prims Cipher.Toy.laws cls13 t13.ver x13.s t13.sEvs
    = qS 0 ++ qS 1 ++ k16 := by
  simp only [qS, recs13, x13, k13_eq]
  decide +kernel

/-- the server's handshake messages: EncryptedExtensions, a Certificate whose body contains 00 ff ff ff, Finished -/
def flightMsgs : List (UInt8 × Bytes) := [(8, [0, 0]), (11, [9, 9, 0, 0xff, 0xff, 0xff, 7, 7]), C01Pipeline.Ex.fin]
example : hsBytes flightMsgs = flightBytes := by decide

/-- The server's flight EncryptedExtensions ‖ Certificate ‖ Finished cut into THREE protected records: after 12 bytes
    (inside the Certificate) and after 18 bytes (at the start of the Finished); then 16 bytes of application data -/
def tFG : TranscriptF :=
  { ch := ch0, sh := sh13, rvC := [3, 1], rvS := [3, 3], ver := [3, 3],
    cF := [.ccs, .frag (encMsgs [C01Pipeline.Ex.fin]) 1 ⟨[], [], [], 0⟩],
    sF := [.ccs, .frag (flightBytes.take 12) 0 ⟨[], [], [], 0⟩, .frag ((flightBytes.drop 12).take 6) 0 ⟨[], [], [], 1⟩,
             .frag (flightBytes.drop 18) 1 ⟨[], [], [], 0⟩, .app k16 ⟨[], [], [], 3⟩] }

def recsFG (d : Bool) : List Bytes := tFG.records Cipher.Toy.prims Cipher.Toy.laws cls13 x13 d
def uCG (i : Nat) : Bytes := (recsFG false).getD i []
def uSG (i : Nat) : Bytes := (recsFG true).getD i []
def capFG : List (Bool × Bytes × Nat) := 
  [(false, uCG 0, 0), (true, uSG 0 ++ uSG 1, 0), (true, uSG 2 ++ uSG 3 ++ uSG 4, (uSG 0).length + (uSG 1).length),
   (false, uCG 1 ++ uCG 2, (uCG 0).length),
   (true, uSG 5, (uSG 0).length + (uSG 1).length + (uSG 2).length + (uSG 3).length + (uSG 4).length)]
def pktsFG : List MainLoop.Pkt := (List.range capFG.length).map fun i =>
  mkPkt (capFG.getD i (false, [], 0)).1 (capFG.getD i (false, [], 0)).2.1 i
def infoFG (tag : Nat) : Pipeline.Info :=
  ⟨(isnOf (capFG.getD tag (false, [], 0)).1 + (capFG.getD tag (false, [], 0)).2.2) % 4294967296, 1000 + tag, [1], [2], false⟩
def connFG : Pipeline.Conn := ⟨⟨[443], false, false, false, true, []⟩, sEp, cEp, [2], [1], false, pktsFG⟩
def chunksFG (d : Bool) : List Bytes := if d then [uSG 0 ++ uSG 1, uSG 2 ++ uSG 3 ++ uSG 4, uSG 5] else [uCG 0, uCG 1 ++ uCG 2]

/-- as `Ex.cap0_eval`, about the capture of the connection `tFG` -/
theorem capFG_eval :
    (∀ d, ((∀ b ∈ chunksFG d, b ≠ []) ∧
        (chunksFG d).flatten = tFG.stream Cipher.Toy.prims Cipher.Toy.laws cls13 x13 d) ∧
      (dirSegs infoFG connFG.server d connFG.pkts).map Props.C05.wire = segsOf (isnOf d) 0 (chunksFG d) ∧
      (tFG.stream Cipher.Toy.prims Cipher.Toy.laws cls13 x13 d).length ≤ 2 ^ 31) ∧
    ((connRecs infoFG connFG).map (·.2)).take 2 = [false, true] ∧
    (∀ d, ∀ r ∈ tFG.records Cipher.Toy.prims Cipher.Toy.laws cls13 x13 d, WholeRecord r) ∧
    costF tFG.cF + costF tFG.sF ≤ seqLimit := by
  delta infoFG
  simp only [chunksFG, uSG, uCG, recsFG, connFG, pktsFG, capFG, x13, k13_eq]
  decide +kernel

theorem deliveredFG : DeliveredInOrder infoFG connFG (tFG.stream Cipher.Toy.prims Cipher.Toy.laws cls13 x13) := by
  exact delivered_of_cuts _ _ _ isnOf chunksFG capFG_eval.1

theorem causalFG : Causal13 (connRecs infoFG connFG) := causal13_of_dirs _ capFG_eval.2.1

theorem conformFG : FragConform tFG.cF ∧ FragConform tFG.sF := by
  constructor
  · refine ⟨[C01Pipeline.Ex.fin], by decide, by decide +kernel, ?_, ?_⟩
    · simp only [tFG, FinsRight]; decide +kernel
    · simp only [tFG, FragsNonEmpty]; decide +kernel
  · refine ⟨flightMsgs, by decide, by decide +kernel, ?_, ?_⟩
    · simp only [tFG, FinsRight]; decide +kernel
    · simp only [tFG, FragsNonEmpty]; decide +kernel

/-- every hypothesis of `tls13_connection_exact_fragmented` holds for this connection, in which the Certificate message
    spans two records and the Finished starts its own record -/
theorem tls13_fragmented_instance :
    ∃ frames, Pipeline.connOut hashes Cipher.Toy.prims infoFG connFG kl13
        = some (frames.map (Pipeline.addressed connFG.opts connFG)) ∧
      Spec.reassemble frames = some ([], k16) ∧ TimesFromCarriers infoFG connFG frames := by
  obtain ⟨hres, hfound, hsec, hk, hcls, h1, h2, h3, h4⟩ := keys13
  have hw := capFG_eval.2.2
  exact tls13_connection_exact_fragmented hashes Cipher.Toy.prims Cipher.Toy.laws kl13 infoFG connFG rfl tFG
    (by decide) (by decide) rfl rfl rfl rfl (by unfold Negotiated; decide)
    ps13 hres a13 args13 _ _ hfound secrets13 hsec k13 gen13 _ _ _ _ _ _ _ _ hk cls13 hcls h1 h2 h3 h4
    conformFG.1 conformFG.2 hw.1 hw.2 deliveredFG causalFG

/-- COUNTEREXAMPLE INPUT. The same flight cut into TWO protected records after 12 bytes only: the second record starts
    inside the Certificate (00 ff ff ff 07 07) and continues with the whole Finished; then 16 bytes of application data -/
def tFB : TranscriptF :=
  { ch := ch0, sh := sh13, rvC := [3, 1], rvS := [3, 3], ver := [3, 3],
    cF := [.ccs, .frag (encMsgs [C01Pipeline.Ex.fin]) 1 ⟨[], [], [], 0⟩],
    sF := [.ccs, .frag (flightBytes.take 12) 0 ⟨[], [], [], 0⟩, .frag (flightBytes.drop 12) 1 ⟨[], [], [], 0⟩,
             .app k16 ⟨[], [], [], 3⟩] }

def recsFB (d : Bool) : List Bytes := tFB.records Cipher.Toy.prims Cipher.Toy.laws cls13 x13 d
def uCB (i : Nat) : Bytes := (recsFB false).getD i []
def uSB (i : Nat) : Bytes := (recsFB true).getD i []
def capFB : List (Bool × Bytes × Nat) := 
  [(false, uCB 0, 0), (true, uSB 0 ++ uSB 1, 0), (true, uSB 2 ++ uSB 3, (uSB 0).length + (uSB 1).length),
   (false, uCB 1 ++ uCB 2, (uCB 0).length),
   (true, uSB 4, (uSB 0).length + (uSB 1).length + (uSB 2).length + (uSB 3).length)]
def pktsFB : List MainLoop.Pkt := (List.range capFB.length).map fun i =>
  mkPkt (capFB.getD i (false, [], 0)).1 (capFB.getD i (false, [], 0)).2.1 i
def infoFB (tag : Nat) : Pipeline.Info :=
  ⟨(isnOf (capFB.getD tag (false, [], 0)).1 + (capFB.getD tag (false, [], 0)).2.2) % 4294967296, 1000 + tag, [1], [2], false⟩
def connFB : Pipeline.Conn := ⟨⟨[443], false, false, false, true, []⟩, sEp, cEp, [2], [1], false, pktsFB⟩
def chunksFB (d : Bool) : List Bytes := if d then [uSB 0 ++ uSB 1, uSB 2 ++ uSB 3, uSB 4] else [uCB 0, uCB 1 ++ uCB 2]

/-- as `Ex.cap0_eval`, about the capture of the connection `tFB` -/
theorem capFB_eval :
    (∀ d, ((∀ b ∈ chunksFB d, b ≠ []) ∧
        (chunksFB d).flatten = tFB.stream Cipher.Toy.prims Cipher.Toy.laws cls13 x13 d) ∧
      (dirSegs infoFB connFB.server d connFB.pkts).map Props.C05.wire = segsOf (isnOf d) 0 (chunksFB d) ∧
      (tFB.stream Cipher.Toy.prims Cipher.Toy.laws cls13 x13 d).length ≤ 2 ^ 31) ∧
    ((connRecs infoFB connFB).map (·.2)).take 2 = [false, true] ∧
    (∀ d, ∀ r ∈ tFB.records Cipher.Toy.prims Cipher.Toy.laws cls13 x13 d, WholeRecord r) ∧
    costF tFB.cF + costF tFB.sF ≤ seqLimit := by
  delta infoFB
  simp only [chunksFB, uSB, uCB, recsFB, connFB, pktsFB, capFB, x13, k13_eq]
  decide +kernel

theorem deliveredFB : DeliveredInOrder infoFB connFB (tFB.stream Cipher.Toy.prims Cipher.Toy.laws cls13 x13) := by
  exact delivered_of_cuts _ _ _ isnOf chunksFB capFB_eval.1

theorem causalFB : Causal13 (connRecs infoFB connFB) := causal13_of_dirs _ capFB_eval.2.1

theorem conformFB : FragConform tFB.cF ∧ FragConform tFB.sF := by
  constructor
  · refine ⟨[C01Pipeline.Ex.fin], by decide, by decide +kernel, ?_, ?_⟩
    · simp only [tFB, FinsRight]; decide +kernel
    · simp only [tFB, FragsNonEmpty]; decide +kernel
  · refine ⟨flightMsgs, by decide, by decide +kernel, ?_, ?_⟩
    · simp only [tFB, FinsRight]; decide +kernel
    · simp only [tFB, FragsNonEmpty]; decide +kernel

/-- the input on which the tool failed before the repair (`legacy_tls13_fragmented_counterexample`): every hypothesis of
    `tls13_connection_exact_fragmented` holds for `tFB` — the second record starts inside the Certificate and carries the
    whole Finished — and the server's application data is exported -/
theorem tls13_fragmented_instance_B :
    ∃ frames, Pipeline.connOut hashes Cipher.Toy.prims infoFB connFB kl13
        = some (frames.map (Pipeline.addressed connFB.opts connFB)) ∧
      Spec.reassemble frames = some ([], k16) ∧ TimesFromCarriers infoFB connFB frames := by
  obtain ⟨hres, hfound, hsec, hk, hcls, h1, h2, h3, h4⟩ := keys13
  have hw := capFB_eval.2.2
  exact tls13_connection_exact_fragmented hashes Cipher.Toy.prims Cipher.Toy.laws kl13 infoFB connFB rfl tFB
    (by decide) (by decide) rfl rfl rfl rfl (by unfold Negotiated; decide)
    ps13 hres a13 args13 _ _ hfound secrets13 hsec k13 gen13 _ _ _ _ _ _ _ _ hk cls13 hcls h1 h2 h3 h4
    conformFB.1 conformFB.2 hw.1 hw.2 deliveredFB causalFB

/-- a decryptor that only counts its `update_keys` calls -/
def counting : Session.Ops Nat := ⟨fun d _ _ => (d, none), fun d _ => (d + 1, true), fun _ _ _ _ _ _ => .noSuite⟩

/-- BEFORE the repair (`Session.Legacy.hs13Loop`: the walk restarts at offset 0 of every record's plaintext): over the
    two records of `tFB`'s server flight `update_keys` is never called although a Finished ends in the second one —
    while the repaired loop calls it exactly once and ends with an empty buffer. Replayed on the real tool: the server's
    application data was lost (0 of 21 bytes exported). -/
theorem legacy_tls13_fragmented_counterexample :
    finCount flightMsgs = 1 ∧
    (Session.Legacy.hs13Loop counting (flightBytes.drop 12) true (flightBytes.drop 12).length 0
      (Session.Legacy.hs13Loop counting (flightBytes.take 12) true 12 0 0).1).1 = 0 ∧
    (let r1 := Session.hs13Loop counting true 12 (flightBytes.take 12) 0
     Session.hs13Loop counting true (r1.2.1 ++ flightBytes.drop 12).length (r1.2.1 ++ flightBytes.drop 12) r1.1)
      = (1, [], true) := by
  decide +kernel

end Ex2

end TLX.Props.C01Capstone
