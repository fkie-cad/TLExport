/-
C02 from capture file to output file for ONE interleaved connection (`Props/C02Capstone3.lean`) among other QUIC connections.
Those are separated from it in the sense of Props/C04 and lifted through `C04.quic_route_exact`: the session list of the run
is the interleaving of the two solo runs, so the connection still has exactly ONE session, in the same state
(`quic_capture_session2`). `Props/C02File.lean` — handshake datagrams, then 1-RTT datagrams, no other QUIC connection — is
the special case `C02File.capture2_of_capture`. Left out: 0-RTT packets (`Props/C02All.lean`); the no-abort variant (as
`C02File.quic_capture_exact_ranges`; with other QUIC sessions exporting too, `OthersFit` is a real condition there).
Core Lean only.
-/
import TLX.Props.C02FileBase
import TLX.Props.C02Capstone3
import TLX.Props.C04
set_option linter.unusedVariables false
-- the definition `ownView` has an unused argument `fl`
set_option autoImplicit false
namespace TLX.Props.C02File2
open TLX TLX.MainLoop TLX.Spec.Demux TLX.Lemmas.MainLoop TLX.Dissect TLX.OutBytes
open TLX.Container (Item)
open TLX.Props.C01File TLX.Spec.FrameBuild TLX.Spec.TlsCapture TLX.Spec.QuicCapture TLX.Props.C12Dissect
open TLX.Spec.QuicSender TLX.Spec.QuicConnection TLX.Spec.QuicPackets TLX.QuicPipeline TLX.Props.C02Capstone
open TLX.Props.C02File TLX.Props.C02Capstone3 TLX.Props.C02Sim

section Glue

theorem merge_singleton {α : Type} {x : α} {b m : List α} (h : Merge [x] b m) : ∃ l1 l2, m = l1 ++ [x] ++ l2 := by
  obtain ⟨l1, l2, e⟩ := List.append_of_mem ((h.mem x).mpr (.inl (List.mem_singleton_self x)))
  exact ⟨l1, l2, by rw [e, List.append_assoc]; rfl⟩

end Glue
inductive QEv2
  /-- a datagram of the connection's mixed part: coalesced long-header packets, optionally closed by a 1-RTT packet -/
  | mix (t : Container.Time) (fr : Spec.FrameBuild.Frame) (u : Udp) (d : DgM)
  /-- a 1-RTT datagram of the connection's 1-RTT-only part -/
  | one (t : Container.Time) (fr : Spec.FrameBuild.Frame) (u : Udp) (d : Dg1)
  /-- a packet the main loop takes for QUIC that belongs to ANOTHER connection -/
  | other (e : CapEv)
  /-- a packet the main loop does not take for QUIC -/
  | foreign (e : CapEv)

def QEv2.cap : QEv2 → CapEv
  | .mix t fr _ _ => ⟨t, fr.encode, viewOf fr⟩
  | .one t fr _ _ => ⟨t, fr.encode, viewOf fr⟩
  | .other e => e
  | .foreign e => e

/-- the first packet of a mixed datagram carries what the main loop routes by -/
def HdrOkM (d : DgM) : Prop :=
  (∃ q qs, d.longs = q :: qs ∧ LongShape q.x ∧ 1 ≤ q.x.pnLen ∧ q.x.pnLen ≤ 4) ∨
  (d.longs = [] ∧ ∃ o, d.short = some o ∧ 1 ≤ o.x.pnLen ∧ o.x.pnLen ≤ 4)

/-- the header the main loop parses off a mixed datagram -/
def hdrM (d : DgM) : Hdr := if d.longs = [] then .short else .long d.dcid .v1

def QDescribed2 (fl : Flow) (wM : DgM → Bytes) (w1 : Dg1 → Bytes) (o : Opts) (evs : List QEv2) : Prop :=
  ∀ ev ∈ evs, match ev with
    | .mix t fr u d => IsDg fl d.srv fr u ∧ u.payload = wM d ∧ d.ts = Container.usOfFloat t.toFloat ∧ HdrOkM d
    | .one t fr u d => IsDg fl d.x.srv fr u ∧ u.payload = w1 d ∧ d.x.ts = Container.usOfFloat t.toFloat ∧
        1 ≤ d.x.pnLen ∧ d.x.pnLen ≤ 4
    | .other e => dissect e.buf = .ok e.d
    | .foreign e => dissect e.buf = .ok e.d ∧ ∀ tag, NotQuic o (pktOf tag e.d)

def mixItems (fl : Flow) (kl : List Keylog.Key) : Nat → List QEv2 → List (List Keylog.Key × MainLoop.Pkt × DgM)
  | _, [] => []
  | n, .mix _ _ u d :: rest => (kl, dgPkt fl d.srv u.payload n, d) :: mixItems fl kl (n + 1) rest
  | n, _ :: rest => mixItems fl kl (n + 1) rest

def oneItems2 (fl : Flow) : Nat → List QEv2 → List (MainLoop.Pkt × Dg1)
  | _, [] => []
  | n, .one _ _ u d :: rest => (dgPkt fl d.x.srv u.payload n, d) :: oneItems2 fl (n + 1) rest
  | n, _ :: rest => oneItems2 fl (n + 1) rest

/-- what the main loop makes of the OTHER connections' packets (each with the tag of its position) -/
def othView (o : Opts) (kl : List Keylog.Key) : Nat → List QEv2 → List (QIn Keylog.Key)
  | _, [] => []
  | n, .other e :: rest => quicView o kl [.frame (pktOf n e.d)] ++ othView o kl (n + 1) rest
  | n, _ :: rest => othView o kl (n + 1) rest

def noOne2 : QEv2 → Bool | .one .. => false | _ => true
def noMix2 : QEv2 → Bool | .mix .. => false | _ => true

theorem capOk_of_qdescribed2 (fl : Flow) (wM : DgM → Bytes) (w1 : Dg1 → Bytes) (o : Opts) (evs : List QEv2)
    (h : QDescribed2 fl wM w1 o evs) (ht : ∀ e ∈ evs.map QEv2.cap, Ingest.isMinusOne e.t = false) :
    CapOk (evs.map QEv2.cap) := by
  refine capOk_of_events _ _ (fun ev hev => ?_) ht
  have := h ev hev
  cases ev with
  | mix t fr u d => exact dissect_dg fl d.srv fr u this.1
  | one t fr u d => exact dissect_dg fl d.x.srv fr u this.1
  | other e => exact this
  | foreign e => exact this.1

def MixHeader (wM : DgM → Bytes) : Prop :=
  ∀ d, HdrOkM d → ∃ b0 rest, wM d = b0 :: rest ∧ (b0.toNat &&& 0x40) >>> 6 = 1 ∧ parseHeader1 b0 rest = hdrM d

theorem merge_append {α : Type} {a1 b1 m1 a2 b2 m2 : List α} (h1 : Merge a1 b1 m1) (h2 : Merge a2 b2 m2) :
    Merge (a1 ++ a2) (b1 ++ b2) (m1 ++ m2) := by
  induction h1 with
  | nil => exact h2
  | left x _ ih => exact Merge.left x ih
  | right x _ ih => exact Merge.right x ih

theorem merge_right_append {α : Type} {a b m : List α} (l : List α) (h : Merge a b m) : Merge a (l ++ b) (l ++ m) := by
  induction l with
  | nil => exact h
  | cons x l ih => exact Merge.right x ih

theorem quicView_mixPhase (fl : Flow) (wM : DgM → Bytes) (w1 : Dg1 → Bytes) (o : Opts) (hc : o.checksumTest = false)
    (hH : MixHeader wM) (kl : List Keylog.Key) (evs : List QEv2) (hd : QDescribed2 fl wM w1 o evs)
    (hph : ∀ ev ∈ evs, noOne2 ev = true) (n : Nat) :
    Merge ((mixItems fl kl n evs).map fun x => (⟨x.1, hdrM x.2.2, x.2.1⟩ : QIn Keylog.Key)) (othView o kl n evs)
      (quicView o kl (itemsFrom n (evs.map QEv2.cap))) := by
  induction evs generalizing n with
  | nil => exact Merge.nil
  | cons ev rest ih =>
    have hrest := ih (fun e he => hd e (List.mem_cons_of_mem _ he)) (fun e he => hph e (List.mem_cons_of_mem _ he)) (n + 1)
    have hev := hd ev (List.mem_cons_self ..)
    have hp1 := hph ev (List.mem_cons_self ..)
    rw [List.map_cons, itemsFrom, quicView_cons]
    cases ev with
    | one t fr u d => cases hp1
    | foreign e =>
      simp only [QEv2.cap, mixItems, othView]
      rw [quicView_notQuic o _ (hev.2 n) kl]; exact hrest
    | other e =>
      simp only [QEv2.cap, mixItems, othView]
      exact merge_right_append _ hrest
    | mix t fr u d =>
      obtain ⟨hdg, hpay, _, hhdr⟩ := hev
      obtain ⟨b0, r, hw, hfix, hparse⟩ := hH d hhdr
      simp only [QEv2.cap, mixItems, othView, List.map_cons]
      rw [quicView_own o hc kl fl d.srv fr u hdg b0 r (by rw [hpay, hw]) hfix n, hparse]
      exact Merge.left _ hrest

theorem quicView_onePhase2 (fl : Flow) (wM : DgM → Bytes) (w1 : Dg1 → Bytes) (o : Opts) (hc : o.checksumTest = false)
    (hO : OneHeader w1) (kl : List Keylog.Key) (evs : List QEv2) (hd : QDescribed2 fl wM w1 o evs)
    (hph : ∀ ev ∈ evs, noMix2 ev = true) (n : Nat) :
    Merge ((oneItems2 fl n evs).map fun x => (⟨kl, .short, x.1⟩ : QIn Keylog.Key)) (othView o kl n evs)
      (quicView o kl (itemsFrom n (evs.map QEv2.cap))) := by
  induction evs generalizing n with
  | nil => exact Merge.nil
  | cons ev rest ih =>
    have hrest := ih (fun e he => hd e (List.mem_cons_of_mem _ he)) (fun e he => hph e (List.mem_cons_of_mem _ he)) (n + 1)
    have hev := hd ev (List.mem_cons_self ..)
    have hp1 := hph ev (List.mem_cons_self ..)
    rw [List.map_cons, itemsFrom, quicView_cons]
    cases ev with
    | mix t fr u d => cases hp1
    | foreign e =>
      simp only [QEv2.cap, oneItems2, othView]
      rw [quicView_notQuic o _ (hev.2 n) kl]; exact hrest
    | other e =>
      simp only [QEv2.cap, oneItems2, othView]
      exact merge_right_append _ hrest
    | one t fr u d =>
      obtain ⟨hdg, hpay, _, h1, h4⟩ := hev
      obtain ⟨b0, r, hw, hfix, hparse⟩ := hO d h1 h4
      simp only [QEv2.cap, oneItems2, othView, List.map_cons]
      rw [quicView_own o hc kl fl d.x.srv fr u hdg b0 r (by rw [hpay, hw]) hfix n, hparse]
      exact Merge.left _ hrest

theorem mixItems_eq (fl : Flow) (kl : List Keylog.Key) (n : Nat) (evs : List QEv2) :
    mixItems fl kl n evs = Lemmas.pickFrom (fun n ev => match ev with
      | .mix _ _ u d => some (kl, dgPkt fl d.srv u.payload n, d)
      | _ => none) n evs := by
  induction evs generalizing n with
  | nil => rfl
  | cons ev rest ih => cases ev <;> simp only [mixItems, Lemmas.pickFrom, ih]

theorem oneItems2_eq (fl : Flow) (n : Nat) (evs : List QEv2) :
    oneItems2 fl n evs = Lemmas.pickFrom (fun n ev => match ev with
      | .one _ _ u d => some (dgPkt fl d.x.srv u.payload n, d)
      | _ => none) n evs := by
  induction evs generalizing n with
  | nil => rfl
  | cons ev rest ih => cases ev <;> simp only [oneItems2, Lemmas.pickFrom, ih]

theorem mixItems_mem (fl : Flow) (kl : List Keylog.Key) (evs : List QEv2) (n : Nat)
    (x : List Keylog.Key × MainLoop.Pkt × DgM) (hx : x ∈ mixItems fl kl n evs) :
    ∃ i t fr u d, evs[i]? = some (.mix t fr u d) ∧ x = (kl, dgPkt fl d.srv u.payload (n + i), d) := by
  rw [mixItems_eq] at hx
  obtain ⟨i, ev, hi, hf⟩ := Lemmas.mem_pickFrom _ n evs x hx
  cases ev with
  | mix t fr u d => exact ⟨i, t, fr, u, d, hi, (Option.some.inj hf).symm⟩
  | one t fr u d => cases hf
  | other e => cases hf
  | foreign e => cases hf

theorem oneItems2_mem (fl : Flow) (evs : List QEv2) (n : Nat) (x : MainLoop.Pkt × Dg1) (hx : x ∈ oneItems2 fl n evs) :
    ∃ i t fr u d, evs[i]? = some (.one t fr u d) ∧ x = (dgPkt fl d.x.srv u.payload (n + i), d) := by
  rw [oneItems2_eq] at hx
  obtain ⟨i, ev, hi, hf⟩ := Lemmas.mem_pickFrom _ n evs x hx
  cases ev with
  | one t fr u d => exact ⟨i, t, fr, u, d, hi, (Option.some.inj hf).symm⟩
  | mix t fr u d => cases hf
  | other e => cases hf
  | foreign e => cases hf

theorem carriesM_of_described (fl : Flow) (hne : clientEp fl ≠ serverEp fl) (wM : DgM → Bytes) (w1 : Dg1 → Bytes)
    (o : Opts) (kl : List Keylog.Key) (evs : List QEv2) (hd : QDescribed2 fl wM w1 o evs) (full pre post : List CapEv)
    (hfull : full = pre ++ evs.map QEv2.cap ++ post) (off : Nat) (hoff : pre.length = off) :
    ∀ x ∈ mixItems fl kl off evs, x.1 = kl ∧ x.2.1 = dgPkt fl x.2.2.srv (wM x.2.2) x.2.1.tag ∧
      ∀ c : QConn, c.client = clientEp fl → CarriesM (capInfo full) c wM x.2.1 x.2.2 := by
  intro x hx
  obtain ⟨i, t, fr, u, d, hi, rfl⟩ := mixItems_mem fl kl evs off x hx
  obtain ⟨hdg, hpay, hts, _⟩ := hd _ (List.mem_of_getElem? hi)
  have hinfo := capInfo_dg fl d.srv fr u hdg full _ t (cap_at QEv2.cap evs full pre post hfull off hoff i _ hi)
  exact ⟨rfl, by rw [hpay]; rfl, fun c hc => ⟨hpay, by show (capInfo full (off + i)).ts = _; rw [hinfo, hts],
    by rw [hc]; exact dgPkt_src_client fl hne _ _ _⟩⟩

theorem carries_of_described2 (fl : Flow) (hne : clientEp fl ≠ serverEp fl) (wM : DgM → Bytes) (w1 : Dg1 → Bytes)
    (o : Opts) (evs : List QEv2) (hd : QDescribed2 fl wM w1 o evs) (full pre post : List CapEv)
    (hfull : full = pre ++ evs.map QEv2.cap ++ post) (off : Nat) (hoff : pre.length = off) :
    ∀ x ∈ oneItems2 fl off evs, x.1 = dgPkt fl x.2.x.srv (w1 x.2) x.1.tag ∧
      ∀ c : QConn, c.client = clientEp fl → Carries (capInfo full) c w1 x.1 x.2 := by
  intro x hx
  obtain ⟨i, t, fr, u, d, hi, rfl⟩ := oneItems2_mem fl evs off x hx
  obtain ⟨hdg, hpay, hts, _⟩ := hd _ (List.mem_of_getElem? hi)
  have hinfo := capInfo_dg fl d.x.srv fr u hdg full _ t (cap_at QEv2.cap evs full pre post hfull off hoff i _ hi)
  exact ⟨by rw [hpay]; rfl, fun c hc => ⟨hpay, by show (capInfo full (off + i)).ts = _; rw [hinfo, hts],
    by rw [hc]; exact dgPkt_src_client fl hne _ _ _⟩⟩

section WireHeader2
open TLX.Quic.Session TLX.Cipher
variable (H : Crypto.Prims) (Pc : Cipher.Prims)

theorem mixHeader_wire (L : SealLaws Pc) (dcid0 : Bytes) (sel : SuiteSel) (sh ch sa ca : Bytes) :
    MixHeader (DgM.wire H Pc L dcid0 sel sh ch sa ca) := by
  intro d hd
  rcases hd with ⟨q, qs, hp, hshape, h1, h4⟩ | ⟨hl, o, ho, h1, h4⟩
  · have hw : DgM.wire H Pc L dcid0 sel sh ch sa ca d =
        (longOf q.x (protectedPayload L.aeadSeal (lvlDec H dcid0 sel sh ch q.x.level).alg
          (lvlKey H dcid0 sel sh ch q.x.level q.x.srv) q.x)).protect q.mask ++
        ((qs.map (pkWire H Pc L dcid0 sel sh ch)).flatten ++
          (d.short.map (wireOf H Pc L sel .v1 (rfcGen (hashOf H sel.hash) sel.keyLen sa ca 0))).getD []) := by
      unfold DgM.wire; rw [hp]; simp [pkWire, PkH.wire, List.append_assoc]
    have hdc : d.dcid = q.x.dcid := by unfold DgM.dcid; rw [hp]
    have hh : hdrM d = .long q.x.dcid .v1 := by unfold hdrM; rw [hp, hdc]; simp
    rw [hw, hh]
    exact longOf_wire_header q.x _ hshape.version hshape.dcid hshape.scid h1 h4 _ _
  · have hw : DgM.wire H Pc L dcid0 sel sh ch sa ca d =
        wireOf H Pc L sel .v1 (rfcGen (hashOf H sel.hash) sel.keyLen sa ca 0) o := by
      unfold DgM.wire; rw [hl, ho]; simp
    have hh : hdrM d = .short := by unfold hdrM; rw [hl]; simp
    rw [hw, hh]
    exact oneHeader_wireOf H Pc L sel .v1 _ o h1 h4

end WireHeader2

section Runs2
open TLX.Quic.Session TLX.Cipher TLX.Props.C02Session TLX.Spec.KeySchedules
variable (maskFn : Quic.Dissect.MaskFn) (H : Crypto.Prims) (Pc : Cipher.Prims) (info : Nat → Pipeline.Info)

/-- routing of the mixed part: a datagram that BEGINS with a 1-RTT packet is found by the loop's connection-ID search
    (`C02File.RouteOk`, for the CIDs the receiver has issued so far); long-header datagrams carry their DCID -/
def RoutesM (w : DgM → Bytes) : Trk → List DgM → Prop
  | _, [] => True
  | t, d :: ds => (d.longs = [] → RouteOk (if d.srv then t.cc else t.sc) (w d) d.dcid) ∧ RoutesM w (t.dgm d) ds

theorem hdrM_eq (d : DgM) : hdrM d = hdrG mView d := by
  unfold hdrM hdrG
  show _ = if DgM.ver d = .unknown then _ else _
  unfold DgM.ver
  by_cases h : d.longs = [] <;> simp [h] <;> rfl

theorem routesG_of_M (L : SealLaws Pc) (dcid0 ch sh : Bytes) (sel : SuiteSel) (w : DgM → Bytes) (t : Trk)
    (ecs : Option SuiteSel) (ds : List DgM) (h : RoutesM w t ds) :
    RoutesG (longK maskFn H Pc L dcid0 ch sh sel) mView w ⟨t, ecs⟩ ds := by
  induction ds generalizing t ecs with
  | nil => trivial
  | cons d ds ih =>
    refine ⟨fun hu => h.1 (Classical.byContradiction fun hl => ?_), by rw [mView_after]; exact ih _ _ h.2⟩
    have : DgM.ver d = .v1 := by unfold DgM.ver; rw [if_neg hl]
    rw [show mView.ver d = DgM.ver d from rfl, this] at hu
    cases hu

end Runs2

section Final2
open TLX.Export TLX.Quic.Session TLX.Cipher TLX.Props.C02Session TLX.Spec.KeySchedules

/-- the main loop's calls for the connection's own datagrams -/
def ownView (fl : Flow) (keys : List Keylog.Key) (itemsA : List (List Keylog.Key × MainLoop.Pkt × DgM))
    (itemsB : List (MainLoop.Pkt × Dg1)) : List (QIn Keylog.Key) :=
  (itemsA.map fun x => (⟨x.1, hdrM x.2.2, x.2.1⟩ : QIn Keylog.Key)) ++
    itemsB.map fun x => (⟨keys, .short, x.1⟩ : QIn Keylog.Key)

theorem othView_append (o : Opts) (kl : List Keylog.Key) (a b : List QEv2) (n : Nat) :
    othView o kl n (a ++ b) = othView o kl n a ++ othView o kl (n + a.length) b := by
  induction a generalizing n with
  | nil => simp [othView]
  | cons e rest ih =>
    have hn : n + 1 + rest.length = n + (rest.length + 1) := by omega
    cases e <;> simp [othView, ih (n + 1), hn, List.append_assoc]

end Final2
section Capture2
open TLX.Export TLX.Quic.Session TLX.Cipher TLX.Props.C02Session TLX.Spec.KeySchedules
variable (maskFn : Quic.Dissect.MaskFn) (H : Crypto.Prims) (Pc : Cipher.Prims)

/-- EVERYTHING `quic_capture_exact2` assumes. Parameters as in `C02File.QuicCapture`; the capture is `evsA ++ evsB`:
    `evsA` the connection's mixed part (`QEv2.mix`), `evsB` its 1-RTT-only part (`QEv2.one`), both interleaved with packets of
    OTHER QUIC connections (`QEv2.other`) and packets the loop does not take for QUIC (`QEv2.foreign`). -/
structure QuicCapture2 (L : SealLaws Pc) (args : Args) (keyFile : Option Keylog.Str) (pm : List (Int × Int))
    (ports : List Int) (fl : Flow) (hs : ConfHs) (ch sh ca sa : Bytes) (early : Option Bytes) (sel : SuiteSel)
    (evsA evsB : List QEv2) (kl0 : List Keylog.Key) (p0 : MainLoop.Pkt) (d0 : DgM)
    (itemsA : List (List Keylog.Key × MainLoop.Pkt × DgM)) : Prop where
  lawful : H.Lawful
  sha256 : H.sha256.outLen = 32
  times : ∀ e ∈ (evsA ++ evsB).map QEv2.cap, Ingest.isMinusOne e.t = false
  noc : args.checksumTest = false
  nometa : args.metadata = false
  pmOk : Options.getPortMap Options.Src.bare args.mArg = .ok pm
  portsOk : Options.serverPorts Options.Src.builtin Options.Src.pDefault args.pArg = .ok ports
  endpoints : clientEp fl ≠ serverEp fl
  clientPort : ports.contains (fl.clientPort : Int) = false
  hsOk : hs.Ok
  suite : selectSuite hs.sh.cipherSuite = some sel
  outLen : (hashOf H sel.hash).outLen < 65536
  saLen : sa.length = (hashOf H sel.hash).outLen
  caLen : ca.length = (hashOf H sel.hash).outLen
  keylog : KeylogHas ((fileKeysOf keyFile).getD []) hs.ch.random ch sh ca sa early
  /-- the first datagram of the connection in the capture is the client's first flight: it begins with an Initial packet -/
  first : mixItems fl ((fileKeysOf keyFile).getD []) 0 evsA = (kl0, p0, d0) :: itemsA
  fromClient : d0.srv = false
  firstLong : d0.longs ≠ []
  described : QDescribed2 fl (DgM.wire H Pc L d0.dcid sel sh ch sa ca)
    (wireOf H Pc L sel .v1 (rfcGen (hashOf H sel.hash) sel.keyLen sa ca 0)) (optsOf args ports pm) (evsA ++ evsB)
  phaseA : ∀ ev ∈ evsA, noOne2 ev = true
  phaseB : ∀ ev ∈ evsB, noMix2 ev = true
  /-- the mixed part: `MixDgs` (conformant long-header packets; a 1-RTT packet only after the ServerHello was captured, in key
      generation 0, with the datagram's DCID), carrying the handshake's CRYPTO frames; routable (`RoutesM`) -/
  mixDgs : MixDgs maskFn H Pc L d0.dcid sel sh ch sa ca trk0 (d0 :: itemsA.map (·.2.2))
  mixIns : allInsM (d0 :: itemsA.map (·.2.2)) = hs.ins
  keyed : (trk0.runM (d0 :: itemsA.map (·.2.2))).keyed = true
  routesA : RoutesM (DgM.wire H Pc L d0.dcid sel sh ch sa ca) (trk0.dgm d0) (itemsA.map (·.2.2))
  /-- the 1-RTT-only part: `Send1` (any key updates), routable (`Routes1`) -/
  send1 : Send1 maskFn H Pc L sel .v1 (rfcGen (hashOf H sel.hash) sel.keyLen sa ca 0)
      (quicHp (hashOf H sel.hash) ca sel.keyLen) (quicHp (hashOf H sel.hash) sa sel.keyLen)
      (chachaOf (trk0.runM (d0 :: itemsA.map (·.2.2))).core) 0 0
      (trk0.runM (d0 :: itemsA.map (·.2.2))).tc.app (trk0.runM (d0 :: itemsA.map (·.2.2))).ts.app
      (trk0.runM (d0 :: itemsA.map (·.2.2))).cc (trk0.runM (d0 :: itemsA.map (·.2.2))).sc
      ((oneItems2 fl evsA.length evsB).map (·.2))
  routesB : Routes1 (wireOf H Pc L sel .v1 (rfcGen (hashOf H sel.hash) sel.keyLen sa ca 0))
      (trk0.runM (d0 :: itemsA.map (·.2.2))).cc (trk0.runM (d0 :: itemsA.map (·.2.2))).sc
      ((oneItems2 fl evsA.length evsB).map (·.2))
  /-- CONSECUTIVE datagrams with STREAM data differ in (capture microsecond, direction): the output builder merges adjacent
      frames of equal time and direction into one datagram (`C02Out.build_groups_needs_distinct`) -/
  distinct : C02Out.DistinctAdjacent false ((shortsOf (d0 :: itemsA.map (·.2.2)) ++
      (oneItems2 fl evsA.length evsB).map (·.2)).map fun d => inDg d.x)
  /-- the OTHER QUIC connections of the capture are separated from this one in the sense of Props/C04 (`QuicSeparated`: at
      no moment of either run alone does a session exist that recognises a datagram of the other — other 4-tuple, DCID not
      among its connection IDs, none of its connection IDs a prefix of the short-header bytes), both ways -/
  sepOwn : QuicSeparated (quicMachine maskFn H Pc (capInfo ((evsA ++ evsB).map QEv2.cap))) (optsOf args ports pm)
      (ownView fl ((fileKeysOf keyFile).getD []) ((kl0, p0, d0) :: itemsA) (oneItems2 fl evsA.length evsB))
      (othView (optsOf args ports pm) ((fileKeysOf keyFile).getD []) 0 (evsA ++ evsB))
  sepOther : QuicSeparated (quicMachine maskFn H Pc (capInfo ((evsA ++ evsB).map QEv2.cap))) (optsOf args ports pm)
      (othView (optsOf args ports pm) ((fileKeysOf keyFile).getD []) 0 (evsA ++ evsB))
      (ownView fl ((fileKeysOf keyFile).getD []) ((kl0, p0, d0) :: itemsA) (oneItems2 fl evsA.length evsB))

variable {maskFn H Pc}

/-- the block of the connection's session: one UDP frame per datagram whose 1-RTT packet carried STREAM data, mixed part and
    1-RTT-only part in capture order -/
def blockOf2 (args : Args) (pm : List (Int × Int)) (ports : List Int) (fl : Flow) (evsA evsB : List QEv2)
    (p0 : MainLoop.Pkt) (d0 : DgM) (itemsA : List (List Keylog.Key × MainLoop.Pkt × DgM)) : List Pipeline.OutPkt :=
  expectedOut ((quicMachine maskFn H Pc (capInfo ((evsA ++ evsB).map QEv2.cap))).new (optsOf args ports pm) p0)
    (shortsOf (d0 :: itemsA.map (·.2.2)) ++ (oneItems2 fl evsA.length evsB).map (·.2))

-- the distinctness hypothesis is only handed on below; unfolding it when an application is elaborated is expensive
attribute [local irreducible] C02Out.DistinctAdjacent in
/-- the sessions of the run are the connection's ONE session merged with the sessions the other connections' packets make
    alone (`QuicSeparated`, both ways: Props/C04), and what that session exports is `blockOf2` -/
theorem quic_capture_session2 {L : SealLaws Pc} {args : Args} {keyFile : Option Keylog.Str} {pm : List (Int × Int)}
    {ports : List Int} {fl : Flow} {hs : ConfHs} {ch sh ca sa : Bytes} {early : Option Bytes} {sel : SuiteSel}
    {evsA evsB : List QEv2} {kl0 : List Keylog.Key} {p0 : MainLoop.Pkt} {d0 : DgM}
    {itemsA : List (List Keylog.Key × MainLoop.Pkt × DgM)}
    (h : QuicCapture2 maskFn H Pc L args keyFile pm ports fl hs ch sh ca sa early sel evsA evsB kl0 p0 d0 itemsA) :
    CapOk ((evsA ++ evsB).map QEv2.cap) ∧
    ∃ sess : QuicSess QConn,
      Merge [sess]
        (quicRun (quicMachine maskFn H Pc (capInfo ((evsA ++ evsB).map QEv2.cap))) (optsOf args ports pm) []
          (othView (optsOf args ports pm) ((fileKeysOf keyFile).getD []) 0 (evsA ++ evsB)))
        (quicRun (quicMachine maskFn H Pc (capInfo ((evsA ++ evsB).map QEv2.cap))) (optsOf args ports pm) []
          (quicView (optsOf args ports pm) ((fileKeysOf keyFile).getD []) (itemsFrom 0 ((evsA ++ evsB).map QEv2.cap)))) ∧
      (quicMachine maskFn H Pc (capInfo ((evsA ++ evsB).map QEv2.cap))).out args.metadata sess.st =
        blockOf2 (maskFn := maskFn) (H := H) (Pc := Pc) args pm ports fl evsA evsB p0 d0 itemsA := by
  have hdesc := h.described
  have hfirst := h.first
  have hkl := h.keylog
  have hsep1 := h.sepOwn
  have hsep2 := h.sepOther
  unfold blockOf2
  generalize hcapdef : (evsA ++ evsB).map QEv2.cap = cap at hsep1 hsep2 ⊢
  generalize (fileKeysOf keyFile).getD [] = keys at hfirst hkl hsep1 hsep2 ⊢
  generalize hodef : optsOf args ports pm = o at hdesc hsep1 hsep2 ⊢
  have hoc : o.checksumTest = false := by rw [← hodef]; exact h.noc
  have hop : o.ports = ports := by rw [← hodef]; rfl
  let QM := quicMachine maskFn H Pc (capInfo cap)
  let wM := DgM.wire H Pc L d0.dcid sel sh ch sa ca
  let w1 := wireOf H Pc L sel .v1 (rfcGen (hashOf H sel.hash) sel.keyLen sa ca 0)
  have hcapOk : CapOk cap := by
    rw [← hcapdef]; exact capOk_of_qdescribed2 fl wM w1 o _ hdesc h.times
  have hdA : QDescribed2 fl wM w1 o evsA := fun ev he => hdesc ev (List.mem_append_left _ he)
  have hdB : QDescribed2 fl wM w1 o evsB := fun ev he => hdesc ev (List.mem_append_right _ he)
  have hcarAll := carriesM_of_described fl h.endpoints wM w1 o keys evsA hdA cap [] (evsB.map QEv2.cap)
    (by rw [← hcapdef, List.map_append, List.nil_append]) 0 rfl
  rw [hfirst] at hcarAll
  have hcarO := carries_of_described2 fl h.endpoints wM w1 o evsB hdB cap (evsA.map QEv2.cap) []
    (by rw [← hcapdef, List.map_append, List.append_nil]) evsA.length (List.length_map ..)
  have hp0 : p0 = dgPkt fl d0.srv (wM d0) p0.tag := (hcarAll _ (List.mem_cons_self ..)).2.1
  let c0 := QM.new o p0
  have hroles : rolesOf o.ports p0 = (serverEp fl, clientEp fl) := by
    rw [hp0, h.fromClient, hop]; exact rolesOf_client fl ports h.clientPort _ _
  have hc0c : c0.client = clientEp fl := congrArg Prod.snd hroles
  have hview : Merge (ownView fl keys ((kl0, p0, d0) :: itemsA) (oneItems2 fl evsA.length evsB))
      (othView o keys 0 (evsA ++ evsB)) (quicView o keys (itemsFrom 0 cap)) := by
    rw [← hcapdef, List.map_append, itemsFrom_append, quicView_append, othView_append, List.length_map, Nat.zero_add]
    unfold ownView
    rw [← hfirst]
    exact merge_append (quicView_mixPhase fl wM w1 o hoc (mixHeader_wire H Pc L _ sel sh ch sa ca) keys evsA hdA h.phaseA 0)
      (quicView_onePhase2 fl wM w1 o hoc (oneHeader_wireOf H Pc L sel .v1 _) keys evsB hdB h.phaseB evsA.length)
  have hklA : ∀ x ∈ (kl0, p0, d0) :: itemsA, KeylogHas x.1 hs.ch.random ch sh ca sa early := by
    intro x hx; rw [(hcarAll x hx).1]; exact hkl
  have htr : PTrace hs.ch.random hs.sh.cipherSuite {} (allInsM (d0 :: itemsA.map (·.2.2))) := by
    rw [h.mixIns]; exact ptrace_of_conformant hs h.hsOk
  have hd0l := h.firstLong
  have hv0 : d0.ver = .v1 := by unfold DgM.ver; rw [if_neg hd0l]
  have hfresh := new_fresh maskFn H Pc (capInfo cap) o p0
  let s0 : QuicSess QConn := ⟨serverEp fl, clientEp fl, QM.feed c0 kl0 p0 d0.dcid d0.ver⟩
  have hnew : quicNew QM o kl0 (.long d0.dcid .v1) p0 = s0 := by
    simp only [quicNew, hroles, Hdr.dcid, Hdr.ver, s0, hv0]; rfl
  have hk0 := keysWf_rfc H h.lawful Pc [] hs.sh.cipherSuite sel h.suite .v1 h.outLen sa ca h.saLen h.caLen
  have hrun := mView_runM (maskFn := maskFn) (H := H) (Pc := Pc) (L := L) (dcid0 := d0.dcid) (ch := ch) (sh := sh)
    (sel := sel) (d0 :: itemsA.map (·.2.2)) trk0 none
  have hrunOwn : quicRun QM o [] (ownView fl keys ((kl0, p0, d0) :: itemsA) (oneItems2 fl evsA.length evsB)) =
      [{ s0 with st := (C02Capstone.feedAll QM (mixFeedAll QM c0 ((kl0, p0, d0) :: itemsA))
          ((oneItems2 fl evsA.length evsB).map fun x => (keys, x.1, x.2))) }] := by
    unfold ownView
    simp only [List.map_cons, List.cons_append, quicRun_cons, hdrM_eq]
    rw [show hdrG mView d0 = .long d0.dcid .v1 by rw [← hdrM_eq]; unfold hdrM; rw [if_neg hd0l], quicHandle_new, hnew,
      mixFeedAll_eq]
    exact own_run_G (V := mView) (steps_long maskFn H Pc h.lawful L d0.dcid hs.ch.random hs.sh.cipherSuite ch sh ca sa early
        sel h.suite) h.lawful h.suite h.outLen h.saLen h.caLen o kl0 p0 d0 itemsA hklA ⟨trk0, none⟩ c0 (SameEnds.refl c0)
      hfresh.2
      (by show Sim _ _ _ _ _ _ _ _ _ (feedPre _ _ _ d0.dcid (sver d0.ver)); rw [hv0]
          exact (hfresh.sim kl0 h.sha256 d0.dcid sel ch sh ca sa early).2.2)
      (mView_oks hk0 _ trk0 none h.mixDgs) htr
      (fun x hx => carriesG_of_M ((hcarAll x hx).2.2 c0 hc0c)) (by rw [hrun]; exact h.keyed)
      (by rw [mView_after]; exact routesG_of_M maskFn H Pc L d0.dcid ch sh sel _ _ _ _ h.routesA) keys (oneItems2 fl evsA.length evsB) (fun x hx => (hcarO x hx).2 c0 hc0c)
      (by rw [hrun]; exact h.send1) (by rw [hrun]; exact h.routesB) s0 rfl hc0c.symm
      (by intro x hx; rw [(hcarAll x (List.mem_cons_of_mem _ hx)).2.1]; exact dgPkt_matches fl s0 rfl rfl _ _ _)
      (by intro x hx; rw [(hcarO x hx).1]; exact dgPkt_matches fl s0 rfl rfl _ _ _)
  have hmap : ((oneItems2 fl evsA.length evsB).map fun x => (keys, x.1, x.2)).map (·.2.2) =
      (oneItems2 fl evsA.length evsB).map (·.2) := by simp [List.map_map]
  obtain ⟨_, r2⟩ := quic_interleaved_exact_conformant maskFn H Pc (capInfo cap) h.lawful h.sha256 L hs h.hsOk ch sh ca sa
    early sel h.suite h.outLen h.saLen h.caLen kl0 p0 d0 itemsA hklA c0 hfresh hd0l h.mixDgs h.mixIns
    (fun x hx => (hcarAll x hx).2.2 c0 hc0c) h.keyed
    ((oneItems2 fl evsA.length evsB).map fun x => (keys, x.1, x.2))
    (fun x hx => by
      obtain ⟨y, hy, rfl⟩ := List.mem_map.mp hx
      exact (hcarO y hy).2 c0 hc0c)
    (by rw [hmap]; exact h.send1) (by rw [hmap]; exact h.distinct)
  rw [hmap] at r2
  have hmerge := C04.quic_route_exact QM o hview hsep1 hsep2
  rw [hrunOwn] at hmerge
  exact ⟨hcapOk, _, hmerge, by rw [h.nometa]; exact r2⟩

/-- **C02 FROM FILE TO FILE, one interleaved connection among other QUIC connections.** `exportFile` on a capture file (any
    container the reader model reads as the described packets), a key-log file and options, where (1) the connection's
    datagrams are coalesced packets of several levels, both directions in any interleaving — server 1-RTT data before the
    client's Finished, 1-RTT packets behind Handshake packets in one datagram — followed by a 1-RTT-only part with any key
    updates, and (2) datagrams of OTHER QUIC connections, separated from this one in C04's sense, and packets the loop does
    not take for QUIC stand anywhere between them (`QuicCapture2`: every hypothesis). The run either dies in the write loop
    (scapy / dpkt refuse a frame) or writes a file whose block of the connection's session reads back exactly as `blockOf2`:
    one UDP frame per DATAGRAM whose 1-RTT packet carried STREAM data. -/
theorem quic_capture_exact2 {L : SealLaws Pc} {args : Args} {keyFile : Option Keylog.Str} {pm : List (Int × Int)}
    {ports : List Int} {fl : Flow} {hs : ConfHs} {ch sh ca sa : Bytes} {early : Option Bytes} {sel : SuiteSel}
    {evsA evsB : List QEv2} {kl0 : List Keylog.Key} {p0 : MainLoop.Pkt} {d0 : DgM}
    {itemsA : List (List Keylog.Key × MainLoop.Pkt × DgM)}
    (h : QuicCapture2 maskFn H Pc L args keyFile pm ports fl hs ch sh ca sa early sel evsA evsB kl0 p0 d0 itemsA)
    (legacy : Bool) (file : Bytes)
    (hread : Container.read legacy file = .ok (((evsA ++ evsB).map QEv2.cap).map CapEv.item)) :
    (∃ e, exportFile maskFn H Pc args legacy keyFile file = .abort (.write e)) ∨
    ∃ f, exportFile maskFn H Pc args legacy keyFile file = .file f ∧
      ReadsBack f (blockOf2 (maskFn := maskFn) (H := H) (Pc := Pc) args pm ports fl evsA evsB p0 d0 itemsA) := by
  obtain ⟨hcap, sess, hm, hblk⟩ := quic_capture_session2 h
  obtain ⟨S1, S2, hq⟩ := merge_singleton hm
  exact export_of_quic_session_among maskFn H Pc args legacy keyFile file _ hread hcap h.noc pm ports h.pmOk h.portsOk
    S1 S2 sess hq _ hblk

/-- `quic_capture_exact2` for the BYTES of a capture file written by the independent container encoder in ANY variant -/
theorem quic_capture_exact2_encoded {L : SealLaws Pc} {args : Args} {keyFile : Option Keylog.Str} {pm : List (Int × Int)}
    {ports : List Int} {fl : Flow} {hs : ConfHs} {ch sh ca sa : Bytes} {early : Option Bytes} {sel : SuiteSel}
    {evsA evsB : List QEv2} {kl0 : List Keylog.Key} {p0 : MainLoop.Pkt} {d0 : DgM}
    {itemsA : List (List Keylog.Key × MainLoop.Pkt × DgM)}
    (h : QuicCapture2 maskFn H Pc L args keyFile pm ports fl hs ch sh ca sa early sel evsA evsB kl0 p0 d0 itemsA)
    (cv : Spec.Containers.Variant) (cevs : List Spec.Containers.Ev) (hcwf : cv.WF cevs)
    (hitems : cevs.filterMap (Spec.Containers.scale cv) = ((evsA ++ evsB).map QEv2.cap).map CapEv.item) :
    (∃ e, exportFile maskFn H Pc args cv.isLegacy keyFile (Spec.Containers.encode cv cevs) = .abort (.write e)) ∨
    ∃ f, exportFile maskFn H Pc args cv.isLegacy keyFile (Spec.Containers.encode cv cevs) = .file f ∧
      ReadsBack f (blockOf2 (maskFn := maskFn) (H := H) (Pc := Pc) args pm ports fl evsA evsB p0 d0 itemsA) :=
  quic_capture_exact2 h cv.isLegacy _ (by rw [Props.C12.reader_roundtrip cv cevs hcwf, hitems])

end Capture2
end TLX.Props.C02File2
