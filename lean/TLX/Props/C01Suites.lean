/-
C01 × C14 bridge — "for every cipher suite in TLExport's table that is valid for the negotiated version":
every entry of the table REGENERATED from the source (TLX.Gen), resolved by the model of `split_cipher_suite`,
lands — for every protocol version the suite is valid for and with or without encrypt-then-MAC — in one of the
cipher classes for which `TLX.Props.C01.unprotect_protect` is proved; and no table suite makes `get_cipher_type`
answer "unknown", so `Decryptor.decrypt` never returns `None` for a table suite and the output builder's
placeholder bytes (`b'123345'`) are unreachable.
-/
import TLX.Props.C01
import TLX.CipherSuite
import TLX.Props.C14
namespace TLX.Props.C01Suites
open TLX TLX.Cipher TLX.RecordLayer TLX.CipherSuite TLX.Tok

/-- the `cryptography` class named in a resolved suite ↦ the record-layer algorithm tag -/
def algOfCls (n : List Nat) : Alg :=
  if n = t_AES then .aes else if n = t_TripleDES then .tdes else if n = t_Camellia then .camellia
  else if n = t_IDEA then .idea else if n = t_AESCCM then .aesccm else if n = t_AESGCM then .aesgcm
  else if n = t_ChaCha20Poly1305 then .chachaPoly else if n = t_ARC4 then .arc4 else .none

def algOf (ps : Params) : Alg :=
  match getPart ps t_CryptoAlgo with
  | some (.tup c _) => algOfCls c
  | _ => .none

def tagOf (ps : Params) : Option Nat :=
  match getPart ps t_TagLength with
  | some (.int n) => some n
  | _ => none

def macIsSha2 (ps : Params) : Bool :=
  getPart ps t_MAC == some (.cls t_SHA256) || getPart ps t_MAC == some (.cls t_SHA384)

def isAead (ps : Params) : Bool :=
  match getPart ps t_CryptoAlgo with
  | some (.tup _ f) => f == 1
  | _ => false

/-- protocol versions a suite is valid for (RFC 5246 A.5 / RFC 8446 B.4; IDEA removed in TLS 1.2) -/
def validVersions (code : Nat) (ps : Params) : List Version :=
  if code / 256 = 0x13 then [.tls13]
  else if isAead ps || macIsSha2 ps then [.tls12]
  else if algOf ps = .idea then [.ssl30, .tls10, .tls11]
  else [.ssl30, .tls10, .tls11, .tls12]

def entryCovered (e : Nat × List Nat) : Bool :=
  let ps := splitName Gen.cipherSuiteParts e.2
  cipherType (algOf ps) != .unknown &&
  (validVersions e.1 ps).all fun v =>
    [false, true].all fun etm => (C01.classOf (algOf ps) v etm (tagOf ps)).isSome

/-- kernel evaluation over the whole generated table, on what each name denotes (`C14.all_resolved_of_denoted`) -/
theorem table_covered : Gen.cipherSuites.all entryCovered = true :=
  C14.all_resolved_of_denoted
    (fun c ps => cipherType (algOf ps) != .unknown &&
      (validVersions c ps).all fun v => [false, true].all fun etm => (C01.classOf (algOf ps) v etm (tagOf ps)).isSome)
    (by decide +kernel)

/-- every table suite, for every version it is valid for, with or without encrypt-then-MAC, is handled by a
    decrypt routine for which `unprotect_protect` is proved -/
theorem every_table_suite_has_proved_class (e : Nat × List Nat) (he : e ∈ Gen.cipherSuites)
    (v : Version) (hv : v ∈ validVersions e.1 (splitName Gen.cipherSuiteParts e.2)) (etm : Bool) :
    ∃ cls, C01.classOf (algOf (splitName Gen.cipherSuiteParts e.2)) v etm
      (tagOf (splitName Gen.cipherSuiteParts e.2)) = some cls := by
  have h := List.all_eq_true.mp table_covered e he
  simp only [entryCovered, Bool.and_eq_true, List.all_eq_true] at h
  have := h.2 v hv etm (by cases etm <;> simp)
  exact Option.isSome_iff_exists.mp this

/-- no table suite has an unknown cipher type: `Decryptor.decrypt` cannot fall through to `None`, hence the
    builder's placeholder payload is never exported for a table suite -/
theorem table_suite_cipher_type_known (e : Nat × List Nat) (he : e ∈ Gen.cipherSuites) :
    cipherType (algOf (splitName Gen.cipherSuiteParts e.2)) ≠ .unknown := by
  have h := List.all_eq_true.mp table_covered e he
  simp only [entryCovered, Bool.and_eq_true, bne_iff_ne, ne_eq] at h
  exact h.1

example : (Gen.cipherSuites.length > 200) = true := by decide +kernel

end TLX.Props.C01Suites
