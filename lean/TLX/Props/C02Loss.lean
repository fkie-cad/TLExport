/-
C03, prefix clause, the row "delete, cut-before (QUIC, handshake)" of `Props/ExportFaults2.lean`: QUIC losses INSIDE the
handshake, on the packet-level session model `Quic.Session` (cryptography, key derivations and the TLS handshake parser are
the parameters `Params σ`, as in `Props/C02Session.lean`).

WHAT THE CODE DOES (and the model mirrors): every key of a connection except the Initial keys is derived inside
`handle_crypto_frame` → `set_tls_decryptors`, at the moment the TLS parser reports new data — for the first time when the
CRYPTO stream completes the CLIENTHELLO, with the FIRST OFFERED suite (quic_tls_parser.py "For early data"), again at the
ServerHello / EncryptedExtensions with the selected suite. Consequences for the two losses:

  * a CRYPTO fragment of the ClientHello is missing: the parser never completes a hello, `set_tls_decryptors` is never
    called, the session holds the Initial decryptor only — `client_hello_fragment_lost_exports_nothing`: nothing raises,
    no Handshake / Early / Application decryptor ever exists, and `output_buffer` only ever receives frames of
    Initial-type packets (their CRYPTO frames; conformant Initial packets carry no STREAM frame, RFC 9000 §12.4) and
    VERSION_NEG pseudo frames: no 0-RTT / 1-RTT STREAM data is exported.
  * the datagram(s) with the ServerHello are missing: the statement "no Handshake / 1-RTT keys are ever installed" is FALSE
    for the code: they were installed at the ClientHello, for the first offered suite. When that suite is the one the
    server then selects they are the right keys, and 1-RTT packets the session is handed ARE decrypted and exported —
    kernel-checked witness `Ex.server_hello_lost_first_offered_exports` (not an error: the export is still a subsequence of
    what was sent, which is all C03's prefix clause asks of QUIC). What holds in general is
    `server_hello_lost_exports_nothing` under the named hypothesis `KeysDead`: the keys derivable without the ServerHello
    (first offered suite ≠ selected suite, or key-log lines of another suite) are not the senders', i.e. the AEAD rejects
    the capture's packets under them — then, as above, nothing raises and only Initial-type frames reach the buffer.

Both are instances of ONE invariant theorem `dead_run` (any packet list: lost, reordered, duplicated, damaged packets
included): `Dead K s` — every Handshake / Early / Application decryptor the session holds has keys outside `K` — is
preserved, and a packet only reaches `parse_frames` through the Initial decryptor.
Lifted to `handle_packet` / whole flows: `dead_flow`. NOT lifted to `QuicPipeline` (`quicFrames`): missing is the link from
the composed machine's dissector loop to `runPkts` for packets that FAIL (the step theorems of `Props/C02Sim` and `Props/C02Rtt1`
are stated for decryptable packets, and for 0-RTT packets that are rejected) and the admissibility hypotheses (`Cap.adm`,
`Env.upd`) for `QuicPipeline.params` from the CRYPTO-stream stall facts (`Lemmas.CryptoStream.Inv.kept`: a gap at offset k keeps everything behind it pending).
-/
import TLX.Props.C02Session
namespace TLX.Props.C02Loss
open TLX TLX.Quic TLX.Cipher TLX.Quic.Session TLX.Lemmas.QuicSession TLX.Props.C02Session

variable {σ : Type} (P : Params σ)

-- keys the capture's packets may be protected with (the Initial keys, say)
variable (K : Bytes → Prop)
-- an invariant of the TLS parser state (e.g. "no hello complete, nothing reported")
variable (T : σ → Prop)
-- the CRYPTO inputs that occur in this capture
variable (A : CryptoIn → Prop)

/-- neither direction of the decryptor has a key in `K` -/
def DeadDec (d : Dec) : Prop := (∀ k, d.server = some k → ¬ K k.key) ∧ ¬ K d.client.key

/-- every decryptor `set_tls_decryptors` / `key_update` ever produced is dead; the parser invariant holds -/
structure Dead (s : St σ) : Prop where
  hs : ∀ d, s.decHandshake = some d → DeadDec K d
  early : ∀ d, s.decEarly = some d → DeadDec K d
  app : ∀ g, s.decApp = some g → ∀ d ∈ g, DeadDec K d
  tls : T s.tls

/-- what is assumed of one captured packet: under a key outside `K` the AEAD rejects its payload; and whatever CRYPTO
    frame it yields, if it decrypts at all, is one of the admissible parser inputs `A` -/
structure Cap (p : Pkt) : Prop where
  rej : ∀ ct, p.payload = some ct → ∀ a k n ad, ¬ K k → ∃ e, P.prims.aeadOpen a k n ad 16 ct = .error e
  adm : ∀ d pn aad pt fs l off len data, decDecrypt P d p.payload pn aad p.isServer = .ok pt →
    Frame.parseFrames pt = some fs → Frame.Parsed.crypto l off len data ∈ fs → A (cryptoIn p off len data)

/-- what is assumed of the parameters: the parser invariant is kept by admissible inputs, and the re-keying block of
    `handle_crypto_frame` keeps the session dead -/
structure Env : Prop where
  upd : ∀ t c, T t → A c → T (P.tlsUpdate t c).1
  after : ∀ s : St σ, Dead K T s → Dead K T (afterTls P s).1
  key : ∀ sel v (d : Dec), DeadDec K d → ¬ K (P.keyUpdate sel v d.serverSec d.clientSec).server.key ∧
    ¬ K (P.keyUpdate sel v d.serverSec d.clientSec).client.key

/-- `output_buffer` only grew by entries of packet type `t` -/
abbrev Grew (t : PType) (s s' : St σ) : Prop := OutGrew (fun e => e.ptype = t) s.out s'.out

theorem Dead.of {s a : St σ} (h : Dead K T s) (h1 : a.decHandshake = s.decHandshake) (h2 : a.decEarly = s.decEarly)
    (h3 : a.decApp = s.decApp) (h4 : T a.tls) : Dead K T a :=
  ⟨h1 ▸ h.hs, h2 ▸ h.early, h3 ▸ h.app, h4⟩

theorem handleCrypto_dead (henv : Env P K T A) (s : St σ) (p : Pkt) (f : Frame.Parsed) (c : CryptoIn)
    (h : Dead K T s) (hc : A c) :
    Dead K T (handleCrypto P s p f c).1 ∧ Grew p.ptype s (handleCrypto P s p f c).1 :=
  handleCrypto_inv P (fun a => Dead K T a ∧ Grew p.ptype s a) s p f c
    ⟨h.of K T rfl rfl rfl (henv.upd s.tls c h.tls hc), .refl _ _⟩
    (fun a ha => ⟨henv.after a ha.1, OutGrew.trans ha.2 (.of_eq (afterTls_out P a))⟩)
    (fun _ ha => ⟨ha.1.of K T rfl rfl rfl ha.1.tls, OutGrew.snoc ha.2 _ rfl⟩)

theorem handleFrames_dead (henv : Env P K T A) (p : Pkt) (fs : List Frame.Parsed) (s : St σ) (h : Dead K T s)
    (hfs : ∀ l off len data, Frame.Parsed.crypto l off len data ∈ fs → A (cryptoIn p off len data)) :
    Dead K T (handleFrames P s p fs).1 ∧ Grew p.ptype s (handleFrames P s p fs).1 :=
  handleFrames_inv P (fun a => Dead K T a ∧ Grew p.ptype s a) p fs
    (fun a l off len data hm ha =>
      (handleCrypto_dead P K T A henv a p _ _ ha.1 (hfs l off len data hm)).imp id (OutGrew.trans ha.2))
    (fun _ _ _ ha => ⟨ha.1.of K T rfl rfl rfl ha.1.tls, OutGrew.snoc ha.2 _ rfl⟩)
    (fun _ _ _ _ _ _ _ _ ha => ⟨⟨ha.1.of K T rfl rfl rfl ha.1.tls, ha.2⟩, ⟨ha.1.of K T rfl rfl rfl ha.1.tls, ha.2⟩⟩)
    s ⟨h, .refl _ _⟩

theorem decDecrypt_dead (p : Pkt) (hcap : Cap P K A p) (d : Dec) (hd : DeadDec K d) (pn aad pt : Bytes) :
    decDecrypt P d p.payload pn aad p.isServer ≠ .ok pt := by
  intro h
  obtain ⟨k, ct, hk, hpl, ho⟩ := decDecrypt_ok P h
  have hkd : ¬ K k.key := by
    cases hs : p.isServer <;> simp [hs] at hk
    · rw [← hk]; exact hd.2
    · exact hd.1 k hk
  obtain ⟨e, he⟩ := hcap.rej ct hpl d.alg k.key (nonceOf k.iv pn) aad hkd
  rw [he] at ho
  cases ho

theorem extendGens_dead (henv : Env P K T A) (s : St σ) (h : Dead K T s) : Dead K T (extendGens P s).1 := by
  unfold extendGens
  cases hg : s.decApp with
  | none => exact h
  | some gens =>
    simp only
    split
    · cases hl : gens.getLast? with
      | none => exact h
      | some d =>
        simp only
        cases hs : s.suite with
        | none => exact h
        | some sel =>
          simp only
          refine ⟨h.hs, h.early, ?_, h.tls⟩
          intro g hg' x hx
          simp only [Option.some.injEq] at hg'
          subst hg'
          rcases List.mem_append.mp hx with hx | hx
          · exact h.app gens hg x hx
          · simp only [List.mem_singleton] at hx
            subst hx
            obtain ⟨k1, k2⟩ := henv.key sel s.version d (h.app gens hg d (List.mem_of_getLast? hl))
            refine ⟨fun k hk => ?_, k2⟩
            simp only [AppKeys.toDec, Option.some.injEq] at hk
            rw [← hk]; exact k1
    · exact h

theorem flipEpoch_dead (s : St σ) (ph : Option Nat) (srv : Bool) (h : Dead K T s) : Dead K T (flipEpoch s ph srv) := by
  unfold flipEpoch
  repeat' split
  all_goals first
    | exact h
    | exact h.of K T rfl rfl rfl h.tls

/-- the decryptor lookup keeps the session dead, and hands out either a dead decryptor or — for a long-header
    Initial packet — the Initial one -/
theorem selectDecryptor_dead (henv : Env P K T A) (s : St σ) (p : Pkt) (h : Dead K T s) :
    Dead K T (selectDecryptor P s p).1 ∧ (selectDecryptor P s p).1.out = s.out ∧
    ∀ d, (selectDecryptor P s p).2 = .ok (some d) → DeadDec K d ∨ p.ptype = .initial := by
  have happ : ∀ (a : St σ) (srv : Bool) (d : Dec), Dead K T a → appDecryptor a srv = .ok (some d) → DeadDec K d :=
    fun a srv d ha hd => let ⟨g, hg, hm⟩ := appDecryptor_mem hd; ha.app g hg d hm
  unfold selectDecryptor
  cases hh : p.htype with
  | short =>
    simp only
    split
    · have hc : Dead K T (checkKeyEpoch P s p.keyPhase p.isServer).1 :=
        extendGens_dead P K T A henv _ (flipEpoch_dead K T s _ _ h)
      have ho : (checkKeyEpoch P s p.keyPhase p.isServer).1.out = s.out := by
        obtain ⟨_, _, _, _, _, heq⟩ := checkKeyEpoch_frame P s p.keyPhase p.isServer
        rw [heq]
      cases hk : checkKeyEpoch P s p.keyPhase p.isServer with
      | mk s1 e =>
        rw [hk] at hc ho
        cases e with
        | some e => exact ⟨hc, ho, fun d hd => by simp at hd⟩
        | none => exact ⟨hc, ho, fun d hd => Or.inl (happ s1 _ d hc hd)⟩
    · exact ⟨h, rfl, fun d hd => Or.inl (happ s _ d h hd)⟩
  | long =>
    refine ⟨h, rfl, fun d hd => ?_⟩
    rcases longDecryptor_some hd with ⟨ht, _⟩ | ⟨_, hd⟩ | ⟨_, hd⟩
    · exact Or.inr ht
    · exact Or.inl (h.hs _ hd)
    · exact Or.inl (h.early _ hd)

theorem setLargestPn_dead (s : St σ) (p : Pkt) (pn : Bytes) (h : Dead K T s) :
    Dead K T (setLargestPn s p pn) ∧ (setLargestPn s p pn).out = s.out := by
  obtain ⟨_, _, heq⟩ := setLargestPn_frame s p pn
  rw [heq]
  exact ⟨h.of K T rfl rfl rfl h.tls, rfl⟩

theorem decryptPacket_dead (henv : Env P K T A) (s : St σ) (p : Pkt) (hcap : Cap P K A p) (h : Dead K T s) :
    Dead K T (decryptPacket P s p).1 ∧
    (Grew .initial s (decryptPacket P s p).1 ∧ (p.ptype ≠ .initial → (decryptPacket P s p).1.out = s.out)) := by
  obtain ⟨h1, h2, h3⟩ := selectDecryptor_dead P K T A henv s p h
  unfold decryptPacket
  cases hs : selectDecryptor P s p with
  | mk s1 r =>
    rw [hs] at h1 h2 h3
    simp only at h1 h2 h3
    cases r with
    | error e => exact ⟨h1, .of_eq h2, fun _ => h2⟩
    | ok d? =>
      simp only
      rcases decryptRest_cases P s1 p d? with ⟨e, he⟩ | ⟨d, pn, aad, pt, rfl, _, _, hd, hr⟩
      · rw [he]; exact ⟨h1, .of_eq h2, fun _ => h2⟩
      · rcases h3 d rfl with hdead | hini
        · exact absurd hd (decDecrypt_dead P K A p hcap d hdead pn aad pt)
        · obtain ⟨q1, q2⟩ := setLargestPn_dead K T s1 p pn h1
          rcases hr with ⟨_, hr⟩ | ⟨fs, hf, hr⟩ <;> rw [hr]
          · exact ⟨q1, .of_eq (q2.trans h2), fun hn => absurd hini hn⟩
          · obtain ⟨r1, r2⟩ := handleFrames_dead P K T A henv p fs _ q1
              (fun l off len data hm => hcap.adm d pn aad pt fs l off len data hd hf hm)
            rw [hini] at r2
            exact ⟨r1, OutGrew.trans (.of_eq (q2.trans h2)) r2, fun hn => absurd hini hn⟩

/-- `output_buffer` only grew by entries of Initial-type packets and VERSION_NEG pseudo frames -/
def GrewInit (s s' : St σ) : Prop := ∀ e ∈ s'.out, e ∈ s.out ∨ e.ptype = .initial ∨ e.ptype = .versionNeg

theorem GrewInit.refl (s : St σ) : GrewInit s s := fun _ h => Or.inl h
theorem GrewInit.trans {s a b : St σ} (h1 : GrewInit s a) (h2 : GrewInit a b) : GrewInit s b := by
  intro e he
  rcases h2 e he with h | h
  · exact h1 e h
  · exact Or.inr h

theorem stepPkt_dead (henv : Env P K T A) (hinit : T P.tlsInit) (s : St σ) (p : Pkt) (hcap : Cap P K A p)
    (h : Dead K T s) : Dead K T (stepPkt P s p).st ∧ GrewInit s (stepPkt P s p).st := by
  have hafter : ∀ (a : St σ) (c : Option PyErr), Dead K T a → GrewInit s a →
      Dead K T (afterDecrypt P a c p).st ∧ GrewInit s (afterDecrypt P a c p).st := by
    intro a c ha hg
    rcases afterDecrypt_st P a c p with h | ⟨hv, h⟩ | h | h <;> rw [h]
    · exact ⟨ha, hg⟩
    · refine ⟨ha.of K T rfl rfl rfl ha.tls, ?_⟩
      intro e he
      simp only [List.mem_append, List.mem_singleton] at he
      rcases he with he | rfl
      · exact hg e he
      · exact Or.inr (Or.inr hv)
    · exact ⟨⟨fun d hd => (nomatch hd), fun d hd => (nomatch hd), fun g hg' => (nomatch hg'), hinit⟩, hg⟩
    · unfold learnCids; split <;> exact ⟨ha.of K T rfl rfl rfl ha.tls, hg⟩
  unfold stepPkt
  split
  · obtain ⟨d1, d2, _⟩ := decryptPacket_dead P K T A henv s p hcap h
    exact hafter _ _ d1 (fun e he => (d2.mem e he).imp id Or.inl)
  · exact hafter s none h (GrewInit.refl s)

/-- **The invariant theorem.** Any packet list — packets lost, reordered, duplicated, damaged — each satisfying `Cap`: the
    session stays dead (no Handshake / Early / Application decryptor with a key in `K`, parser invariant `T`), and
    `output_buffer` only grows by frames of Initial-type packets and VERSION_NEG pseudo frames; with `Pkt.classOk`
    (`C02Session.session_total`) nothing raises. -/
theorem dead_run (henv : Env P K T A) (hinit : T P.tlsInit) (pkts : List Pkt) (s : St σ)
    (hcap : ∀ p ∈ pkts, Cap P K A p) (h : Dead K T s) :
    Dead K T (runPkts P s pkts) ∧ GrewInit s (runPkts P s pkts) :=
  runPkts_inv P (fun a => Dead K T a ∧ GrewInit s a) (Cap P K A)
    (fun a p hp h => (stepPkt_dead P K T A henv hinit a p hp h.1).imp id h.2.trans) pkts hcap s ⟨h, GrewInit.refl s⟩

/-- … for whole flows through `handle_packet` (any direction the datagram's packets are attributed to) -/
theorem dead_flow (henv : Env P K T A) (hinit : T P.tlsInit) (ds : List Dgram) (s : St σ)
    (hcap : ∀ d ∈ ds, ∀ p ∈ d.pkts, ∀ b, Cap P K A { p with isServer := b }) (hok : ∀ d ∈ ds, ∀ p ∈ d.pkts, Pkt.classOk p)
    (h : Dead K T s) :
    (run P s ds).2 = none ∧ Dead K T (run P s ds).1 ∧ GrewInit s (run P s ds).1 := by
  refine ⟨session_total_run P s ds hok, run_inv P (fun a => Dead K T a ∧ GrewInit s a) (Cap P K A)
    (fun a p hp h => (stepPkt_dead P K T A henv hinit a p hp h.1).imp id h.2.trans) (fun a dcid v h => ?_) ds hcap s
    ⟨h, GrewInit.refl s⟩⟩
  obtain ⟨_, _, _, _, hp⟩ := handlePacketPre_frame P a dcid v
  rw [hp]; exact ⟨h.1.of K T rfl rfl rfl h.1.tls, h.2⟩

/-- no Handshake / Early decryptor, no application generation -/
def Keyless (s : St σ) : Prop := s.decHandshake = none ∧ s.decEarly = none ∧ ∀ g, s.decApp = some g → g = []

theorem keyless_of_dead (s : St σ) (h : Dead (fun _ => True) T s) : Keyless s := by
  refine ⟨?_, ?_, fun g hg => ?_⟩
  · cases hd : s.decHandshake with
    | none => rfl
    | some d => exact absurd trivial (h.hs d hd).2
  · cases hd : s.decEarly with
    | none => rfl
    | some d => exact absurd trivial (h.early d hd).2
  · cases g with
    | nil => rfl
    | cons d r => exact absurd trivial (h.app _ hg d (List.mem_cons_self ..)).2

/-- **A CRYPTO fragment of the ClientHello is missing from the capture.** `T`: what is then true of the TLS parser for
    good — no hello complete, nothing reported (`quiet`); `A`: the CRYPTO inputs the capture can still yield (everything
    but the missing fragment), which keep it that way (`upd`; for `QuicTlsSession`: a gap at offset k keeps everything
    behind it pending, `Props/C02Crypto`). Then for every datagram sequence of such packets, from a keyless session: nothing
    raises, `set_tls_decryptors` is never reached — the session stays keyless, every Handshake, 0-RTT and 1-RTT packet is
    dropped — and `output_buffer` receives frames of Initial-type packets (and VERSION_NEG pseudo frames) only: no 0-RTT /
    1-RTT STREAM data is exported. -/
theorem client_hello_fragment_lost_exports_nothing
    (upd : ∀ t c, T t → A c → T (P.tlsUpdate t c).1) (quiet : ∀ t, T t → P.tlsNewData t = false) (hinit : T P.tlsInit)
    (ds : List Dgram) (s : St σ) (hs : Keyless s) (hT : T s.tls)
    (hadm : ∀ d ∈ ds, ∀ p ∈ d.pkts, ∀ b, ∀ dc pn aad pt fs l off len data,
      decDecrypt P dc ({ p with isServer := b } : Pkt).payload pn aad b = .ok pt → Frame.parseFrames pt = some fs →
      Frame.Parsed.crypto l off len data ∈ fs → A (cryptoIn { p with isServer := b } off len data))
    (hok : ∀ d ∈ ds, ∀ p ∈ d.pkts, Pkt.classOk p) :
    (run P s ds).2 = none ∧ Keyless (run P s ds).1 ∧ GrewInit s (run P s ds).1 := by
  have henv : Env P (fun _ => True) T A := by
    refine ⟨upd, fun a ha => ?_, fun _ _ d hd => absurd trivial hd.2⟩
    have : afterTls P a = (a, none) := by unfold afterTls; rw [quiet _ ha.tls]; simp
    rw [this]; exact ha
  have h0 : Dead (fun _ => True) T s := by
    obtain ⟨a, b, c⟩ := hs
    refine ⟨fun d hd => ?_, fun d hd => ?_, fun g hg x hx => ?_, hT⟩
    · rw [a] at hd; cases hd
    · rw [b] at hd; cases hd
    · rw [c g hg] at hx; cases hx
  obtain ⟨r1, r2, r3⟩ := dead_flow P (fun _ => True) T A henv hinit ds s
    (fun d hd p hp b => ⟨fun _ _ _ _ _ _ hk => absurd trivial hk, hadm d hd p hp b⟩) hok h0
  exact ⟨r1, keyless_of_dead T _ r2, r3⟩

/-- the keys derivable without the ServerHello are not in `K`: whatever `dev_quic_keys` returns (for the FIRST OFFERED
    suite, at the ClientHello) and whatever `key_update` makes of dead secrets -/
structure KeysDead : Prop where
  groups : ∀ sel v cr kg, P.devQuicKeys sel v cr = .ok kg →
    (∀ a b, kg.hs = some (a, b) → ¬ K a.key ∧ ¬ K b.key) ∧
    (∀ ak, kg.app = some ak → ¬ K ak.server.key ∧ ¬ K ak.client.key) ∧ (∀ ek, kg.early = some ek → ¬ K ek.key)
  update : ∀ sel v a b, ¬ K (P.keyUpdate sel v a b).server.key ∧ ¬ K (P.keyUpdate sel v a b).client.key

theorem installGroups_dead (s : St σ) (sel : SuiteSel) (kg : KeyGroups) (h : Dead K (fun _ => True) s)
    (g1 : ∀ a b, kg.hs = some (a, b) → ¬ K a.key ∧ ¬ K b.key)
    (g2 : ∀ ak, kg.app = some ak → ¬ K ak.server.key ∧ ¬ K ak.client.key) (g3 : ∀ ek, kg.early = some ek → ¬ K ek.key) :
    Dead K (fun _ => True) (installGroups s sel kg) := by
  obtain ⟨e1, e2, e3⟩ := installGroups_decs s sel kg
  refine ⟨fun d hd => ?_, fun d hd => ?_, fun g hg x hx => ?_, trivial⟩
  · rcases e1 with e | ⟨a, b, hk, e⟩ <;> rw [e] at hd
    · exact h.hs d hd
    · cases hd; exact ⟨fun k hk' => by cases hk'; exact (g1 a b hk).1, (g1 a b hk).2⟩
  · rcases e3 with e | ⟨ek, hk, e⟩ <;> rw [e] at hd
    · exact h.early d hd
    · cases hd; exact ⟨fun k hk' => (nomatch hk'), g3 ek hk⟩
  · rcases e2 with e | ⟨ak, hk, e⟩ <;> rw [e] at hg
    · exact h.app g hg x hx
    · cases hg; cases List.mem_singleton.mp hx
      exact ⟨fun k hk' => by cases hk'; exact (g2 ak hk).1, (g2 ak hk).2⟩

/-- **The datagram(s) carrying the ServerHello are missing from the capture** — partial: under `KeysDead`. The session
    DOES hold Handshake / Early / Application decryptors from the ClientHello on (first offered suite); the extra
    hypothesis says these keys are outside `K`, the keys under which the AEAD accepts the capture's packets (`rej`): the
    first offered suite is not the selected one, or the key log has no lines for this client random. Then for every
    datagram sequence: nothing raises, every decryptor but the Initial one stays dead, every Handshake / 0-RTT / 1-RTT
    packet is rejected, and `output_buffer` receives frames of Initial-type packets (and VERSION_NEG pseudo frames) only.
    Without `KeysDead` the statement is false: `Ex.server_hello_lost_first_offered_exports`. -/
theorem server_hello_lost_exports_nothing (hk : KeysDead P K)
    (ds : List Dgram) (s : St σ) (h0 : Dead K (fun _ => True) s)
    (rej : ∀ d ∈ ds, ∀ p ∈ d.pkts, ∀ ct, p.payload = some ct → ∀ a k n ad, ¬ K k →
      ∃ e, P.prims.aeadOpen a k n ad 16 ct = .error e)
    (hok : ∀ d ∈ ds, ∀ p ∈ d.pkts, Pkt.classOk p) :
    (run P s ds).2 = none ∧ Dead K (fun _ => True) (run P s ds).1 ∧ GrewInit s (run P s ds).1 := by
  have henv : Env P K (fun _ => True) (fun _ => True) := by
    refine ⟨fun _ _ _ _ => trivial, fun a ha => ?_, fun sel v d _ => hk.update sel v _ _⟩
    refine afterTls_inv P (Dead K (fun _ => True)) a ha (fun cr cs => ?_) (fun b hb => hb.of K _ rfl rfl rfl trivial)
    refine setTlsDecryptors_inv P (Dead K (fun _ => True)) a cr cs (ha.of K _ rfl rfl rfl trivial)
      (fun _ => ha.of K _ rfl rfl rfl trivial) (fun sel kg hd => ?_)
    obtain ⟨g1, g2, g3⟩ := hk.groups sel a.version cr kg hd
    exact installGroups_dead K _ sel kg (ha.of K _ rfl rfl rfl trivial) g1 g2 g3
  exact dead_flow P K (fun _ => True) (fun _ => True) henv trivial ds s
    (fun d hd p hp b => ⟨fun ct hct => rej d hd p hp ct hct, fun _ _ _ _ _ _ _ _ _ _ _ _ => trivial⟩) hok h0

/-! ### concrete instances (toy AEAD and derivations of `C02Session.Ex`, kernel-evaluated) -/
namespace Ex
open TLX.Props.C02Session.Ex TLX.Quic.SessionToy TLX.Spec.QuicSender TLX.Spec.QuicFrames

def iniKeyC : DirKeys := ⟨toyBytes 13 [[1], [0xd0, 0xd1]] 16, toyBytes 14 [[1], [0xd0, 0xd1]] 12⟩

/-- a client Initial packet (DCID d0d1) carrying the CRYPTO data `data` at offset `off` -/
def clientInitial (off : Nat) (data : Bytes) : Pkt :=
  emit Toy.laws.aeadSeal .aesgcm iniKeyC
    { level := .initial, srv := false, ts := 1, pn := 0, pnLen := 1, dcid := [0xd0, 0xd1], scid := [0xc1],
      frames := [.crypto ⟨off, w1⟩ w1 data, .padding 5] }

/-- a conformant server 1-RTT packet (generation 0, STREAM data `hi`), and a client one -/
def serverShort : Pkt :=
  emit1 params Toy.laws sel .v1 k0
    { level := .oneRtt, srv := true, ts := 30, pn := 0, pnLen := 1, frames := frames1, dcid := [], gen := 0 }
def clientShort : Pkt :=
  emit1 params Toy.laws sel .v1 k0
    { level := .oneRtt, srv := false, ts := 31, pn := 0, pnLen := 1, frames := frames1, dcid := [0x51], gen := 0 }

/-- the whole ClientHello of the toy parser is `01 13 01 07`; here the capture only has its tail (offset 1): the first
    fragment is lost. Then a server and a client 1-RTT packet, correctly protected. -/
def lostFragment : List Dgram :=
  [⟨true, [0xd0, 0xd1], .v1, [clientInitial 1 [0x13, 1, 7]]⟩, ⟨false, [], .v1, [serverShort]⟩, ⟨true, [0x51], .v1, [clientShort]⟩]

/-- ClientHello fragment lost: nothing raises, no key is ever installed, both 1-RTT packets are dropped; the buffer
    holds the one CRYPTO frame of the Initial packet, no STREAM data. -/
theorem client_hello_fragment_lost :
    (run params (St.init params) lostFragment).2 = none ∧
    (run params (St.init params) lostFragment).1.decApp = none ∧
    (run params (St.init params) lostFragment).1.decHandshake = none ∧
    (run params (St.init params) lostFragment).1.out.map (·.ptype) = [.initial] := by
  decide +kernel

/-- the ClientHello is complete, the ServerHello (and everything else of the server's first flight) is lost -/
def lostServerHello : List Dgram :=
  [⟨true, [0xd0, 0xd1], .v1, [clientInitial 0 [1, 0x13, 1, 7]]⟩, ⟨false, [], .v1, [serverShort]⟩]

/-- **Why `server_hello_lost_exports_nothing` needs `KeysDead`.** ServerHello lost, but the keys were derived at the
    ClientHello — for the first offered suite, which here is the suite in use: the Application decryptor exists, and the
    server's 1-RTT packet IS decrypted and exported (its STREAM frame follows the ClientHello's CRYPTO frame in the buffer). -/
theorem server_hello_lost_first_offered_exports :
    (run params (St.init params) lostServerHello).2 = none ∧
    ((run params (St.init params) lostServerHello).1.decApp.map List.length) = some 1 ∧
    (run params (St.init params) lostServerHello).1.out.map (·.ptype) = [.initial, .rtt1] := by
  decide +kernel

/-- the parser hypotheses of `client_hello_fragment_lost_exports_nothing` hold for the toy parser with
    `T` = "nothing reported" and `A` = "CRYPTO data that does not begin a ClientHello" -/
theorem fragment_hyps :
    (∀ (t : Bool) (c : CryptoIn), t = false → c.data.head? ≠ some 1 → (C02Session.Ex.params.tlsUpdate t c).1 = false) ∧
    (∀ t : Bool, t = false → C02Session.Ex.params.tlsNewData t = false) ∧ C02Session.Ex.params.tlsInit = false := by
  refine ⟨fun t c ht hc => ?_, fun t ht => ht, rfl⟩
  subst ht
  simp only [C02Session.Ex.params]
  split
  · rfl
  · cases hd : c.data with
    | nil => rfl
    | cons x r =>
      simp only [hd, List.head?_cons, ne_eq, Option.some.injEq] at hc
      split
      · rename_i heq; simp only [List.cons.injEq] at heq; exact absurd heq.1 hc
      · rfl

end Ex

end TLX.Props.C02Loss
