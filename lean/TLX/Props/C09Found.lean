/-
C09, the link the file-level theorems need: from the TEXT of a key-log file to what `find_session_secrets` returns.

A key-log file is described line by line (`FLine`): a line is either a secret line in NSS Key Log Format — `LABEL SP 64 hex
digits (the client random, upper or lower case) SP hex digits (the secret)`, `Spec.NssKeylog.DenotesVia` — or ANY other line
that does not look like one (`¬ LooksLikeKey`: comments, blank lines, `RSA …` lines, other tools' lines, prose); every line is
terminated by LF or CRLF, independently (`fileText`). No hypothesis on order or position.

  `parse_fileText`        `open(path).read()` (universal newlines) + `get_keys_from_string`: exactly the secret lines, as
                          `Key(label, client-random field, value field)`, in file order
  `keylog_line_found`     a secret line anywhere in the file ⇒ its `Key` is in the key log
  `findSessionSecrets_fileText`   `find_session_secrets(client_random)` = the keys of the secret lines with THAT client random,
                          in file order (comparison case-insensitive, as in the source)
  `found12_fileText`, `found13_fileText`   in the shape `tls12_connection_exact` / `tls13_connection_exact` take it
Holds for the pattern of the tree under test (`Keylog.srcHexClass`, regenerated; `srcHexClass_any`: both cases of hex
digits are accepted since the C09 repair) and, for lower-case client randoms, for the old pattern too.
-/
import TLX.Props.C09
import TLX.Export
set_option autoImplicit false
namespace TLX.Props.C09Found
open TLX TLX.Keylog TLX.Spec.NssKeylog TLX.Lemmas.Keylog

/-- one line of a key-log file -/
inductive FLine
  /-- a secret line for `tr`, written with the hex strings `hc` (client random) and `hv` (secret) -/
  | key (tr : Triple) (hc hv : Str)
  /-- anything else -/
  | other (l : Str)

def FLine.text : FLine → Str
  | .key tr hc hv => tr.label ++ 32 :: hc ++ 32 :: hv
  | .other l => l

/-- well-formed line: a secret line denotes its triple; another line contains no line-end character and does not look
    like a secret line -/
def FLine.WF : FLine → Prop
  | .key tr hc hv => DenotesVia (tr.label ++ 32 :: hc ++ 32 :: hv) tr hc hv
  | .other l => 10 ∉ l ∧ 13 ∉ l ∧ ¬ LooksLikeKey l

/-- the `Key` object `Key(line)` makes of a secret line -/
def FLine.key? : FLine → Option Key
  | .key tr hc hv => some ⟨tr.label, hc, hv⟩
  | .other _ => none

/-- the file: every line followed by LF or by CRLF (the flag) -/
def fileText : List (FLine × Bool) → Str
  | [] => []
  | (l, crlf) :: rest => l.text ++ (if crlf then [13, 10] else [10]) ++ fileText rest

theorem srcHexClass_any : Keylog.srcHexClass = .any := by decide

theorem hex_no_eol {h : Str} {b : List Nat} (H : IsHexOf h b) : 10 ∉ h ∧ 13 ∉ h := by
  have hd := (props_of_isHexOf H).2.2.2.1
  rw [List.all_eq_true] at hd
  constructor <;> intro hm <;> have := hd _ hm <;> revert this <;> decide

theorem label_no_eol {l : Str} (h : l ∈ nssLabels) : 10 ∉ l ∧ 13 ∉ l := by
  have := (nss_facts l h).2.1
  rw [List.all_eq_true] at this
  constructor <;> intro hm <;> have := this _ hm <;> revert this <;> decide

theorem text_no_eol (l : FLine) (w : l.WF) : 10 ∉ l.text ∧ 13 ∉ l.text := by
  cases l with
  | other s => exact ⟨w.1, w.2.1⟩
  | key tr hc hv =>
    obtain ⟨_, hl, hcr, _, hsec, _⟩ := w
    have a := label_no_eol hl
    have b := hex_no_eol hcr
    have c := hex_no_eol hsec
    simp only [FLine.text, List.mem_append, List.mem_cons, not_or]
    exact ⟨⟨⟨a.1, by decide, b.1⟩, by decide, c.1⟩, ⟨⟨a.2, by decide, b.2⟩, by decide, c.2⟩⟩

theorem getKey_line (hx : HexClass) (l : FLine) (w : l.WF)
    (hcls : ∀ tr hc hv, l = .key tr hc hv → hc.all hx.ok = true) : getKeyFromLine hx l.text = l.key? := by
  cases l with
  | other s => exact C09.foreign_lines_ignored hx s w.2.2
  | key tr hc hv =>
    have w' : DenotesVia (tr.label ++ 32 :: hc ++ 32 :: hv) tr hc hv := w
    simp only [FLine.text, FLine.key?, getKeyFromLine, accepts_of_denotes w' (hcls tr hc hv rfl), if_true,
      keyOfLine_of_denotes w']

/-- with the pattern of the repaired source every hex digit is in the class -/
theorem any_ok (tr : Triple) (hc hv : Str) (w : (FLine.key tr hc hv).WF) : hc.all HexClass.any.ok = true :=
  (props_of_isHexOf w.2.2.1).2.1

theorem universalNewlines_line (l rest : Str) (h : 13 ∉ l) (crlf : Bool) :
    universalNewlines (l ++ (if crlf then [13, 10] else [10]) ++ rest) = l ++ 10 :: universalNewlines rest := by
  induction l with
  | nil => cases crlf <;> simp [universalNewlines]
  | cons c cs ih =>
    have hc : c ≠ 13 := fun e => h (by simp [e])
    have := ih (fun hm => h (by simp [hm]))
    simp only [List.cons_append, List.append_assoc] at this ⊢
    rw [universalNewlines]
    · rw [this]
    · intro r e _; exact hc e
    · intro e; exact hc e

theorem keys_single (hx : HexClass) (l : Str) (h10 : 10 ∉ l) (h13 : 13 ∉ l) :
    getKeysFromString hx l = (getKeyFromLine hx l).toList := by
  have hr : removeCR l = l := by
    unfold removeCR
    exact List.filter_eq_self.mpr fun c hc => by
      have : c ≠ 13 := fun e => h13 (e ▸ hc)
      simpa using this
  simp only [getKeysFromString, hr, splitOn_of_not_mem 10 l h10, List.filterMap_cons, List.filterMap_nil]
  cases getKeyFromLine hx l <;> rfl

/-- **The key log read from the file**: exactly the secret lines, in file order. -/
theorem parse_fileText (hx : HexClass) (ls : List (FLine × Bool)) (hwf : ∀ x ∈ ls, x.1.WF)
    (hcls : ∀ x ∈ ls, ∀ tr hc hv, x.1 = .key tr hc hv → hc.all hx.ok = true) :
    getKeysFromString hx (universalNewlines (fileText ls)) = ls.filterMap fun x => x.1.key? := by
  induction ls with
  | nil => simp [fileText, universalNewlines, parse_nil]
  | cons x rest ih =>
    obtain ⟨l, crlf⟩ := x
    have w := hwf (l, crlf) (by simp)
    obtain ⟨h10, h13⟩ := text_no_eol l w
    have := ih (fun y hy => hwf y (by simp [hy])) (fun y hy => hcls y (by simp [hy]))
    rw [fileText, universalNewlines_line _ _ h13, Props.C09.parse_split_at_line_boundary, this, keys_single hx _ h10 h13,
      getKey_line hx l w (hcls (l, crlf) (by simp)), List.filterMap_cons]
    cases l.key? <;> rfl

/-- a secret line anywhere in the file, between any other lines, with either line ending ⇒ its key is in the key log -/
theorem keylog_line_found (hx : HexClass) (ls : List (FLine × Bool)) (hwf : ∀ x ∈ ls, x.1.WF)
    (hcls : ∀ x ∈ ls, ∀ tr hc hv, x.1 = .key tr hc hv → hc.all hx.ok = true)
    (tr : Triple) (hc hv : Str) (crlf : Bool) (hmem : (FLine.key tr hc hv, crlf) ∈ ls) :
    (⟨tr.label, hc, hv⟩ : Key) ∈ getKeysFromString hx (universalNewlines (fileText ls)) := by
  rw [parse_fileText hx ls hwf hcls]
  exact List.mem_filterMap.mpr ⟨_, hmem, rfl⟩

/-- the secret lines for the client random `cr`, as keys, in file order -/
def linesFor (cr : List Nat) (ls : List (FLine × Bool)) : List Key :=
  ls.filterMap fun x =>
    match x.1 with
    | .key tr hc hv => if tr.cr = cr then some ⟨tr.label, hc, hv⟩ else none
    | .other _ => none

/-- **`find_session_secrets`** returns exactly the keys of the secret lines with that client random, in file order. -/
theorem findSessionSecrets_fileText (hx : HexClass) (ls : List (FLine × Bool)) (hwf : ∀ x ∈ ls, x.1.WF)
    (hcls : ∀ x ∈ ls, ∀ tr hc hv, x.1 = .key tr hc hv → hc.all hx.ok = true) (cr : List Nat) :
    findSessionSecrets (getKeysFromString hx (universalNewlines (fileText ls))) cr = linesFor cr ls := by
  rw [parse_fileText hx ls hwf hcls]
  clear hcls
  induction ls with
  | nil => rfl
  | cons x rest ih =>
    obtain ⟨l, crlf⟩ := x
    have w := hwf (l, crlf) (by simp)
    have := ih (fun y hy => hwf y (by simp [hy]))
    cases l with
    | other s => simpa [linesFor, FLine.key?, findSessionSecrets] using this
    | key tr hc hv =>
      have hm := crMatch_eq (lower_of_isHexOf w.2.2.1) cr
      simp only [linesFor, FLine.key?, findSessionSecrets, List.filterMap_cons, List.filter_cons, hm] at this ⊢
      by_cases e : tr.cr = cr
      · simp only [e, decide_true, if_true, List.cons.injEq, true_and]; exact this
      · simp only [e, decide_false, Bool.false_eq_true, if_false]; exact this

theorem fileKeys_fileText (ls : List (FLine × Bool)) :
    (Export.fileKeysOf (some (fileText ls))).getD [] =
      getKeysFromString Keylog.srcHexClass (universalNewlines (fileText ls)) := rfl

theorem src_cls (ls : List (FLine × Bool)) (hwf : ∀ x ∈ ls, x.1.WF) :
    ∀ x ∈ ls, ∀ tr hc hv, x.1 = .key tr hc hv → hc.all Keylog.srcHexClass.ok = true := by
  intro x hx tr hc hv e
  rw [srcHexClass_any]
  exact any_ok tr hc hv (e ▸ hwf x hx)

/-- TLS 1.3: every line with the connection's client random (the four traffic secrets among them), in file order -/
theorem found13_fileText (ls : List (FLine × Bool)) (hwf : ∀ x ∈ ls, x.1.WF) (cr : List Nat) :
    findSessionSecrets ((Export.fileKeysOf (some (fileText ls))).getD []) cr = linesFor cr ls := by
  rw [fileKeys_fileText]
  exact findSessionSecrets_fileText _ ls hwf (src_cls ls hwf) cr

/-- SSL 3.0 – TLS 1.2: the `CLIENT_RANDOM` lines with the connection's client random (an `RSA` line never has a 64-digit
    second field: it is an `other` line) -/
theorem found12_fileText (ls : List (FLine × Bool)) (hwf : ∀ x ∈ ls, x.1.WF) (cr : List Nat) :
    (findSessionSecrets ((Export.fileKeysOf (some (fileText ls))).getD []) cr).filter
        (fun k => k.label == s_CLIENT_RANDOM || k.label == s_RSA) =
      (linesFor cr ls).filter fun k => k.label == s_CLIENT_RANDOM || k.label == s_RSA := by
  rw [found13_fileText ls hwf cr]

end TLX.Props.C09Found
