/-
C03 FOR THE WHOLE PROGRAM: a damaged, undecryptable or foreign flow never aborts the run and never disturbs the others.
Theorems about `TLX.Export.framesFrom` / `exportFile`, for every hash suite, cipher primitives, mask, options, key log.

1. BYSTANDERS, TLS and QUIC   `export_bystander_unaffected_quic` (items), `export_bystander_unaffected_quic_file` (two
   capture files, either container). The victim: any choice of frames with arbitrary content. The capture without the
   victim keeps every secrets block. Exclusions, each real: a TCP flow shared with a bystander (`hflow`); a QUIC routing
   collision, either way (`hBV`, `hVB`: `CaptureSeparated` of `ExportDemux` — same 4-tuple, or a datagram carrying / starting
   with a connection ID the other side's sessions hold; `ExportDemuxEx.Ex.prefix_cross_routing`); a frame on which the
   reader or dpkt raises (the read loop dies: `Export.export_abort_ingest_iff`); key lines brought in a secrets block of the
   victim's own (`ExportInputs.export_bystander_unaffected`, `hk`).
2. NEVER ABORTS   `sessions_never_raise`, `payloads_never_abort`: once the read loop is through (nothing there looks inside
   a TCP / UDP payload) the run writes its file, or the writer raises on a FIELD range (`Writable`); no payload content,
   no key-log text, no session can abort it. Robustness observations outside the model's inputs (replayed on the real
   tool): a `-s` file that is not valid UTF-8 (a latin-1 comment) → UnicodeDecodeError before anything is written; the
   six dpkt exception classes of `Dissect.DErr`; a non-ASCII secrets block.
3. PREFIX CLAUSE   `ExportProps.tlsFrames_prefix_of_view`, `export_victim_cut_tls` (frame-by-frame prefix per conversation ⇒ byte prefix per
   direction, `dirBytes_prefix`), `export_victim_cut_quic` (`CutRel` per session). The fault kinds of harness/c03.py
   `make_faults`:
     cut-after                      sections 1 + 3 (TLS and QUIC victims)                                      theorem
     whole capture cut              `ExportProps.export_cut_prefix_tls*`, `ExportPropsQuic.export_cut_prefix_quic*`  theorem
     bitflip, overwrite, shorten, unknown-suite, http-on-443, udp-noise, wrong-keys, drop-keys, no-keys
                                    never-abort: section 2 (the rebuilt frames dissect); bystanders: section 1
                                    (for a QUIC victim as long as the damaged datagram stays separated);
                                    what the VICTIM then exports: the table in the head of `Props/ExportFaults2`
     delete (one packet missing), cut-before (capture starts mid-connection)
                                    never-abort + bystanders as above; the victim's prefix (TLS: the reassembler stalls
                                    at the hole; QUIC: the remaining datagrams are a subsequence): `Props/ExportFaults2`
                                    (`sub_delivery_releases_prefix`, `export_victim_delete_tls`,
                                    `export_victim_headless_tls`, `quic_loss_subsequence`), `Props/C02Loss`
Instances: `Props/ExportFaultsEx.lean`.
-/
import TLX.Props.ExportDemux
namespace TLX.Props.ExportFaults
open TLX TLX.MainLoop TLX.Export TLX.Spec.Demux TLX.Lemmas.MainLoop TLX.Lemmas.ExportProps TLX.Lemmas.ExportDemux
open TLX.Props.ExportPropsQuic TLX.QuicPipeline TLX.Props.ExportDemux
open TLX.Props.ExportInputs (export_bystander_unaffected merge_map exportFile_stages finish)

variable (mask : Quic.Dissect.MaskFn) (H : Crypto.Prims) (P : Cipher.Prims) (info : Nat → Pipeline.Info)

section Bystanders

/-- the victim's packets are class 1, everything else class 0 -/
def vlab (victim : Pkt → Bool) (p : Pkt) : Nat := if victim p then 1 else 0

theorem vlab_zero (victim : Pkt → Bool) (p : Pkt) : (vlab victim p == 0) = !victim p := by
  unfold vlab; cases victim p <;> rfl

theorem vlab_one (victim : Pkt → Bool) (p : Pkt) : (vlab victim p == 1) = victim p := by
  unfold vlab; cases victim p <;> rfl

/-- the victim's frames alone (no secrets block) -/
def victimFrames (victim : Pkt → Bool) (C : List (Item Keylog.Key)) : List (Item Keylog.Key) :=
  C.filter fun
    | .dsb _ => false
    | .frame p => victim p

theorem merge_only_victim (victim : Pkt → Bool) (C : List (Item Keylog.Key)) :
    Merge (only (fun p => !victim p) C) (victimFrames victim C) C := by
  refine merge_split _ _ (fun it => ?_) C
  cases it with
  | dsb _ => rfl
  | frame p => exact (Bool.not_not _).symm

theorem dsbOnly_victimFrames (victim : Pkt → Bool) (C : List (Item Keylog.Key)) : dsbOnly (victimFrames victim C) = [] := by
  unfold dsbOnly victimFrames
  rw [List.flatMap_eq_nil_iff]
  intro it hit
  cases it with
  | dsb k => cases (List.mem_filter.mp hit).2
  | frame p => rfl

/-- **C03, whole program: the bystanders, TLS and QUIC.** `C`: any capture; `victim`: any choice of its frames — the
    victim flow(s), TLS or QUIC, with ARBITRARY content: damaged payloads, wrong versions, truncated datagrams, garbage after
    a valid handshake, foreign protocols. The capture without the victim is `only (¬victim) C`: the victim's PACKETS are
    removed, the secrets blocks stay. What the victim may NOT do, and nothing else:
    * share a TCP flow with a bystander (`hflow`: a "victim" that is some packets of a bystander's own connection is not a
      bystander's neighbour but a fault of that connection);
    * collide with a bystander's QUIC routing (`hBV`, `hVB`: `CaptureSeparated` both ways — the same 4-tuple, a datagram
      that carries as DCID / starts with a connection ID the other side's sessions hold; `ExportDemuxEx.Ex.prefix_cross_routing`
      is what happens otherwise: the bystander LOSES a datagram to the victim's session);
    * (outside this statement, which is about items the read loop delivered:) make the reader or dpkt raise — then the whole
      run dies (`Export.export_abort_ingest_iff`, the six exception classes of `Dissect.DErr`) —, or bring key-log lines in a
      secrets block of its own (`ExportInputs.export_bystander_unaffected`, hypothesis `hk`: secrets are global).
    Then: the TLS blocks and the QUIC blocks of the run WITHOUT the victim stand, intact and in order, among the blocks of the
    full run, the other blocks are the victim's; both outputs are their blocks concatenated, TLS first. -/
theorem export_bystander_unaffected_quic (prior : Prior) (args : Args) (o : Opts) (ho : optsOf args = some o)
    (fk : Option (List Keylog.Key)) (C : List (Item Keylog.Key)) (victim : Pkt → Bool)
    (hflow : ∀ a ∈ tcpView o (only (fun p => !victim p) C), ∀ b ∈ tcpView o (victimFrames victim C), sameFlow a b = false)
    (hBV : CaptureSeparated (quicMachine mask H P info) o
      (cls (fun x : QIn Keylog.Key => vlab victim x.p) 0 (quicView o (fk.getD []) C))
      (rest (fun x : QIn Keylog.Key => vlab victim x.p) 0 (quicView o (fk.getD []) C)))
    (hVB : CaptureSeparated (quicMachine mask H P info) o
      (cls (fun x : QIn Keylog.Key => vlab victim x.p) 1 (quicView o (fk.getD []) C))
      (rest (fun x : QIn Keylog.Key => vlab victim x.p) 1 (quicView o (fk.getD []) C))) :
    framesFrom mask H P prior args fk C info =
      .ok ((tlsFrames H P info o fk C).flatten ++ (quicFrames mask H P info o fk C).flatten) ∧
    framesFrom mask H P prior args fk (only (fun p => !victim p) C) info =
      .ok ((tlsFrames H P info o fk (only (fun p => !victim p) C)).flatten ++
           (quicFrames mask H P info o fk (only (fun p => !victim p) C)).flatten) ∧
    Merge (tlsFrames H P info o fk (only (fun p => !victim p) C))
      ((tlsConvs H P info o (victimFrames victim C)).map (convFrames H P info (keysOf fk C))) (tlsFrames H P info o fk C) ∧
    Merge (quicFrames mask H P info o fk (only (fun p => !victim p) C))
      (quicFrames mask H P info o fk (only victim C)) (quicFrames mask H P info o fk C) := by
  refine ⟨framesFrom_ok_quic mask H P info prior args fk C o ho, framesFrom_ok_quic mask H P info prior args fk _ o ho,
    export_bystander_unaffected H P info o fk (merge_only_victim victim C) hflow (dsbOnly_victimFrames victim C), ?_⟩
  have hsep : CaptureSeparatedN (quicMachine mask H P info) o (vlab victim) (quicView o (fk.getD []) C) := by
    apply captureSeparatedN_of_check
    intro x _
    cases hv : victim x.p with
    | true => have : vlab victim x.p = 1 := by simp [vlab, hv]
              rw [this]; exact hVB
    | false => have : vlab victim x.p = 0 := by simp [vlab, hv]
               rw [this]; exact hBV
  have := quic_frames_by_conn mask H P info o fk C (vlab victim) hsep 0
  simp only [vlab_zero, Bool.not_not] at this
  exact this

section File
open TLX.Ingest

/-- **… file to file.** `capC`: a capture the run reads to the end (`hC`); `capB`: a capture file, either container, whose
    reader delivers the same items without the victim's packet blocks (`hsel`: `keepIt` keeps every secrets block and
    exactly the packet blocks of the frames that are not the victim's). Then `capB` is read to the end too, the run on `capB`
    hands the writer its TLS blocks followed by its QUIC blocks, and these blocks stand intact and in order among the blocks
    of the run on `capC`: every bystander conversation, TLS or QUIC, exports the same frames from both files. -/
theorem export_bystander_unaffected_quic_file (prior : Prior) (args : Args) (o : Opts) (ho : optsOf args = some o)
    (legacy legacy' : Bool) (kl : Option Keylog.Str) (capC capB : Bytes) (its : List Container.Item)
    (keepIt : Container.Item → Bool) (victim : Pkt → Bool)
    (hrC : Container.readPrefix legacy capC = .ok (its, none))
    (hrB : Container.readPrefix legacy' capB = .ok (its.filter keepIt, none))
    (X : List (Item Keylog.Key)) (IS : List (Nat × Pipeline.Info))
    (hC : go Keylog.srcHexClass args.checksumTest 0 its = .ok (X, IS))
    (hsel : ∀ ix ∈ its.zip X, keepIt ix.1 = itemKeep (fun p => !victim p) ix.2)
    (hflow : ∀ a ∈ tcpView o (only (fun p => !victim p) X), ∀ b ∈ tcpView o (victimFrames victim X), sameFlow a b = false)
    (hBV : CaptureSeparated (quicMachine mask H P (Ingest.lookup IS)) o
      (cls (fun x : QIn Keylog.Key => vlab victim x.p) 0 (quicView o ((fileKeysOf kl).getD []) X))
      (rest (fun x : QIn Keylog.Key => vlab victim x.p) 0 (quicView o ((fileKeysOf kl).getD []) X)))
    (hVB : CaptureSeparated (quicMachine mask H P (Ingest.lookup IS)) o
      (cls (fun x : QIn Keylog.Key => vlab victim x.p) 1 (quicView o ((fileKeysOf kl).getD []) X))
      (rest (fun x : QIn Keylog.Key => vlab victim x.p) 1 (quicView o ((fileKeysOf kl).getD []) X))) :
    ∃ XB ISB tlsB quicB,
      Ingest.itemsWith Keylog.srcHexClass args.checksumTest legacy capC = .ok (X, IS) ∧
      Ingest.itemsWith Keylog.srcHexClass args.checksumTest legacy' capB = .ok (XB, ISB) ∧
      framesFrom mask H P prior args (fileKeysOf kl) XB (Ingest.lookup ISB) = .ok (tlsB.flatten ++ quicB.flatten) ∧
      framesFrom mask H P prior args (fileKeysOf kl) X (Ingest.lookup IS) =
        .ok ((tlsFrames H P (Ingest.lookup IS) o (fileKeysOf kl) X).flatten ++
             (quicFrames mask H P (Ingest.lookup IS) o (fileKeysOf kl) X).flatten) ∧
      Merge tlsB ((tlsConvs H P (Ingest.lookup IS) o (victimFrames victim X)).map
          (convFrames H P (Ingest.lookup IS) (keysOf (fileKeysOf kl) X))) (tlsFrames H P (Ingest.lookup IS) o (fileKeysOf kl) X) ∧
      Merge quicB (quicFrames mask H P (Ingest.lookup IS) o (fileKeysOf kl) (only victim X))
        (quicFrames mask H P (Ingest.lookup IS) o (fileKeysOf kl) X) := by
  obtain ⟨XB, ISB, h1, h2, h3⟩ := export_demux_file mask H P prior args legacy legacy' kl capC capB its keepIt
    (fun p => !victim p) hrC hrB X IS hC hsel
  obtain ⟨b1, b2, b3, b4⟩ := export_bystander_unaffected_quic mask H P (Ingest.lookup IS) prior args o ho (fileKeysOf kl) X
    victim hflow hBV hVB
  exact ⟨XB, ISB, _, _, h1, h2, h3.trans b2, b1, b3, b4⟩

end File

end Bystanders

section NeverAborts
open TLX.OutBytes TLX.Lemmas.OutBytes

/-- every field of the frame holds its value and the time stamp fits 64 bits of microseconds: what the writer needs -/
def Writable (q : Pipeline.OutPkt) : Prop := Fits (Frame.ofOutPkt q) ∧ (Frame.ofOutPkt q).ts < 2 ^ 64

/-- **No exception escapes a session, whatever it is fed.** For every capture item list, key log, options: every TLS
    conversation's `Session.decrypt()` returns (the state machine catches what it raises: `C03.run_never_raises`; the builder
    never divides by zero: every released record has a carrier), and no QUIC session has raised. -/
theorem sessions_never_raise (o : Opts) (fk : Option (List Keylog.Key)) (X : List (Item Keylog.Key)) :
    (∀ s ∈ tlsConvs H P info o X, (Pipeline.connOut H P info s.st (keysOf fk X)).isSome) ∧
    (∀ s ∈ quicSess mask H P info o fk X, s.st.raised = none) := by
  refine ⟨fun s _ => (C01Pipeline.connOut_never_raises H P info s.st _).2.2, ?_⟩
  have h3 := (Props.C04.tls_quic_independent (Pipeline.tlsMachine H P info) (quicMachine mask H P info) o X
    (⟨fk.getD [], [], []⟩ : State Keylog.Key Pipeline.Conn QConn)).2.2
  intro s hs
  unfold quicSess at hs
  simp only at h3
  rw [← h3] at hs
  exact C02Pipeline.quic_machine_never_raises mask H P info (Pipeline.tlsMachine H P info) o X _ (by simp) s hs

/-- **C03, whole program: no payload aborts the run.** ANY capture file the read loop gets through (`hread`: the reader
    accepts the container, every secrets block is ASCII, dpkt dissects every frame, no `-c` length overflows — nothing here
    looks INSIDE a TCP / UDP payload), ANY key-log text (`getKeysFromString` is total: lines that are not secret lines are
    skipped, malformed hex is skipped by the pattern), any options that parse (`hopt`). Whatever the TCP and UDP payloads
    contain — bit flips, truncation inside records, swapped or repeated records, garbage, HTTP on port 443, QUIC-looking
    noise, wrong versions, undecryptable data — the run ends in one of two ways:
    * it writes the output file `f`: exactly when every frame it built is `Writable`;
    * or the WRITER raises on a frame that is not: a port ≥ 2^16 (only through `-m 443:70000`), a sequence / acknowledgement
      number ≥ 2^32 (a direction exporting ≥ 4 GiB), an IP length above 65535 (a reassembled record exported in one segment
      that is longer than any IPv4 packet: needs a captured segment > 64 KiB, i.e. `ip.len = 0` offload captures), a time
      stamp ≥ 2^64 µs. These are ranges of FIELDS; no byte of payload content is among them.
    It never dies in a session (`sessions_never_raise`) and never with a message about options. -/
theorem payloads_never_abort (args : Args) (legacy : Bool) (kl : Option Keylog.Str) (capture : Bytes)
    (hopt : optionsBad (freshState : Prior) args = false)
    (X : List (Item Keylog.Key)) (IS : List (Nat × Pipeline.Info))
    (hread : Ingest.itemsWith Keylog.srcHexClass args.checksumTest legacy capture = .ok (X, IS)) :
    ∃ out, framesFrom mask H P freshState args (fileKeysOf kl) X (Ingest.lookup IS) = .ok out ∧
      ((∃ f, exportFile mask H P args legacy kl capture = .file f) ∨
       (∃ e, exportFile mask H P args legacy kl capture = .abort (.write e))) ∧
      ((∃ f, exportFile mask H P args legacy kl capture = .file f) ↔ ∀ q ∈ out, Writable q) := by
  unfold exportFile
  rcases Export.exportFrom_stages mask H P freshState args legacy kl capture hopt with
    ⟨e, hi, _⟩ | ⟨xs, is, out, hi, hf, hw⟩
  · rw [hread] at hi; cases hi
  rw [hread] at hi
  simp only [Except.ok.injEq, Prod.mk.injEq] at hi
  obtain ⟨rfl, rfl⟩ := hi
  have hwf : ∀ fr ∈ out.map Frame.ofOutPkt, fr.WF := by
    intro fr hfr
    obtain ⟨q, hq, rfl⟩ := List.mem_map.mp hfr
    exact Lemmas.Export.framesFrom_wf mask H P freshState args _ X _ out
      (Lemmas.Export.itemsWith_good _ _ _ _ _ _ hread) hf q hq
  have fits : ∀ fr : Frame, (∃ b, serializeFrame fr = .ok b) ↔ Fits fr := fun fr => by
    rcases serialize_cases fr with ⟨hF, he⟩ | ⟨hn, e, he⟩
    · exact iff_of_true ⟨_, he⟩ hF
    · exact iff_of_false (fun ⟨b, hb⟩ => by rw [he] at hb; cases hb) hn
  have hiff : (∃ f, fileOf out = .ok f) ↔ ∀ q ∈ out, Writable q := by
    refine (C06Bytes.fileOf_ok_iff (out.map Frame.ofOutPkt) hwf).trans ?_
    simp only [List.forall_mem_map, fits, Writable]
  refine ⟨out, hf, ?_⟩
  rcases hw with ⟨e, hwe, he⟩ | ⟨f, hwf', he⟩ <;> rw [he]
  · refine ⟨.inr ⟨e, rfl⟩, iff_of_false (fun ⟨f, h⟩ => nomatch h) fun h => ?_⟩
    obtain ⟨f, hf'⟩ := hiff.mpr h
    rw [hwe] at hf'; cases hf'
  · exact ⟨.inl ⟨f, rfl⟩, iff_of_true ⟨f, rfl⟩ (hiff.mp ⟨f, hwf'⟩)⟩

end NeverAborts

section Prefix
open TLX.Props.C01Pipeline

/-- the fault `cut-after` of harness/c03.py: from position `n` of the capture on, the victim's packets are missing (the
    capture of the victim flow ends mid-connection); everything else — other flows, secrets blocks — stays -/
def cutVictim (victim : Pkt → Bool) (n : Nat) (C : List (Item Keylog.Key)) : List (Item Keylog.Key) :=
  C.take n ++ only (fun p => !victim p) (C.drop n)

/-- the bystanders' capture is untouched by the fault -/
theorem cutVictim_bystanders (victim : Pkt → Bool) (n : Nat) (C : List (Item Keylog.Key)) :
    only (fun p => !victim p) (cutVictim victim n C) = only (fun p => !victim p) C := by
  unfold cutVictim
  rw [only_append, only_only]
  have : (fun p => (!victim p) && !victim p) = fun p => !victim p := by funext p; cases victim p <;> rfl
  rw [this, ← only_append, List.take_append_drop]

theorem dsbOnly_cutVictim (victim : Pkt → Bool) (n : Nat) (C : List (Item Keylog.Key)) :
    dsbOnly (cutVictim victim n C) = dsbOnly C := by
  unfold cutVictim
  rw [ExportInputs.dsbOnly_append, dsbOnly_only, ← ExportInputs.dsbOnly_append, List.take_append_drop]

theorem filter_take {α : Type} (f : α → Bool) (l : List α) (k : Nat) :
    (l.take k).filter f = (l.filter f).take ((l.take k).filter f).length :=
  List.prefix_iff_eq_take.mp ((List.take_prefix k l).filter f)

/-- the victim's capture under the fault: its first items, then the secrets blocks behind the cut -/
theorem only_victim_cut (victim : Pkt → Bool) (n : Nat) (C : List (Item Keylog.Key)) :
    only victim (cutVictim victim n C) =
      (only victim C).take ((only victim (C.take n)).length) ++ only (fun _ => false) (C.drop n) := by
  unfold cutVictim
  rw [only_append, only_only]
  have hf : (fun p => victim p && !victim p) = fun _ => false := by funext p; cases victim p <;> rfl
  rw [hf]
  congr 1
  exact filter_take _ C n

/-- **C03, prefix clause, TLS victim, `cut-after`.** The victim: any set of frames (one TCP flow, or several); from
    position `n` of the capture on its packets are missing. Then
    * the capture restricted to the bystanders is THE SAME list of items as before (so is everything they export:
      `export_bystander_unaffected_quic`, `ExportDemux.tls_frames_by_flow`),
    * and, restricted to the victim, conversation by conversation the frames exported under the fault are a frame-by-frame
      PREFIX of the frames exported without it — hence per direction a byte prefix of the exported plaintext
      (`dirBytes_prefix`). The secrets blocks behind the cut are still read: no key-material hypothesis. -/
theorem export_victim_cut_tls (o : Opts) (fk : Option (List Keylog.Key)) (C : List (Item Keylog.Key))
    (victim : Pkt → Bool) (n : Nat) :
    only (fun p => !victim p) (cutVictim victim n C) = only (fun p => !victim p) C ∧
    ListExt (fun fa fb : List Pipeline.OutPkt => fa <+: fb)
      (tlsFrames H P info o fk (only victim (cutVictim victim n C))) (tlsFrames H P info o fk (only victim C)) := by
  refine ⟨cutVictim_bystanders victim n C, ExportProps.tlsFrames_prefix_of_view H P info o fk fk _ _ ?_ ?_⟩
  · rw [only_victim_cut, tcpView_append, tcpView_only o fun _ => false,
      List.filter_eq_nil_iff.mpr fun _ _ => Bool.false_ne_true, List.append_nil]
    exact (List.take_prefix _ _).filterMap _
  · simp only [keysOf, dsbOnly_only, dsbOnly_cutVictim]

/-- the bytes a frame list carries in one direction: the payloads of the frames whose source endpoint is `e` -/
def dirBytes (e : Endpoint) (fs : List Pipeline.OutPkt) : Bytes := (fs.filter fun f => f.src == e).flatMap (·.payload)

theorem dirBytes_prefix (e : Endpoint) {fa fb : List Pipeline.OutPkt} (h : fa <+: fb) : dirBytes e fa <+: dirBytes e fb := by
  obtain ⟨t, rfl⟩ := h
  simp only [dirBytes, List.filter_append, List.flatMap_append]
  exact List.prefix_append _ _

/-- secrets blocks behind the last datagram change nothing for QUIC: a session reads the key log when a datagram arrives -/
theorem quicView_append_dsbs (o : Opts) (A D : List (Item Keylog.Key)) (hD : ∀ it ∈ D, ∃ k, it = Item.dsb k) :
    ∀ kl, quicView o kl (A ++ D) = quicView o kl A := by
  have hnil : ∀ kl, quicView o kl D = [] := fun kl =>
    List.eq_nil_iff_forall_not_mem.mpr fun x hx => nomatch (hD _ (quicView_mem o kl D x hx).1)
  intro kl
  rw [quicView_append_dsbKeys, hnil, List.append_nil]

/-- **C03, prefix clause, QUIC victim, `cut-after`.** From position `n` of the capture on the victim's datagrams are
    missing. Restricted to the victim, session by session in creation order, the frames exported under the fault stand in
    `CutRel` to the frames exported without it: all frames but the last unchanged, the last one at its place with the same
    time and addresses and a payload PREFIX (a plain frame prefix when the last exported frame before the cut and the first
    one after it differ in (capture time, direction): `ExportPropsQuic.export_cut_prefix_quic_items_split`); sessions that
    start later are absent. The bystanders' capture is untouched (`export_victim_cut_tls`, first clause). -/
theorem export_victim_cut_quic (o : Opts) (fk : Option (List Keylog.Key)) (C : List (Item Keylog.Key))
    (victim : Pkt → Bool) (n : Nat) :
    ListExt CutRel (quicFrames mask H P info o fk (only victim (cutVictim victim n C)))
      (quicFrames mask H P info o fk (only victim C)) := by
  have hq : quicFrames mask H P info o fk (only victim (cutVictim victim n C)) =
      quicFrames mask H P info o fk ((only victim C).take ((only victim (C.take n)).length)) := by
    unfold quicFrames quicSess
    rw [only_victim_cut, quicView_append_dsbs o _ _ (only_none_dsb _)]
  rw [hq]
  exact export_cut_prefix_quic_items mask H P info o fk (only victim C) _

end Prefix

end TLX.Props.ExportFaults
