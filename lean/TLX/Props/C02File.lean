/-
C02 from capture file to output file for a capture with ONE QUIC v1 connection — handshake datagrams (`QEv.hs`), then 1-RTT
datagrams (`QEv.one`) — among packets the loop does not take for QUIC: `quic_capture_exact` (`_file`, `_encoded`, `_ranges`),
`block_frames_parse`. Such a capture is a capture of `Props/C02File2.lean` in which no datagram of the mixed part closes with
a 1-RTT packet and no other QUIC connection occurs (`up`, `upD`, `capture2_of_capture`); `quic_capture_session` is
`C02File2.quic_capture_session2` read through that embedding. The namespace `TLX.Props.C02File` begins in
`Props/C02FileBase.lean`; the instance `Ex` is `Props/C02FileEx.lean`. Core Lean only.
-/
import TLX.Props.C02File2
set_option autoImplicit false
namespace TLX.Props.C02File
open TLX TLX.MainLoop TLX.Spec.Demux TLX.Lemmas.MainLoop TLX.Dissect TLX.OutBytes
open TLX.Container (Item)
open TLX.Props.C01File TLX.Spec.FrameBuild TLX.Spec.TlsCapture TLX.Spec.QuicCapture TLX.Props.C12Dissect
open TLX.Spec.QuicSender TLX.Spec.QuicConnection TLX.Spec.QuicPackets TLX.QuicPipeline TLX.Props.C02Capstone

/-- a described capture: handshake datagrams and 1-RTT datagrams of the connection (each with the time the reader yields for
    it, the frame of the independent encoder that carries it and its UDP part), and anything else -/
inductive QEv
  | hs (t : Container.Time) (fr : Spec.FrameBuild.Frame) (u : Udp) (d : DgH)
  | one (t : Container.Time) (fr : Spec.FrameBuild.Frame) (u : Udp) (d : Dg1)
  | foreign (e : CapEv)

def QEv.cap : QEv → CapEv
  | .hs t fr _ _ => ⟨t, fr.encode, viewOf fr⟩
  | .one t fr _ _ => ⟨t, fr.encode, viewOf fr⟩
  | .foreign e => e

/-- the first packet of a handshake datagram is a QUIC v1 long-header packet (it carries what the main loop routes by) -/
def HdrOk (d : DgH) : Prop :=
  ∃ q qs, d.pkts = q :: qs ∧ LongShape q.x ∧ 1 ≤ q.x.pnLen ∧ q.x.pnLen ≤ 4

/-- `wH` / `w1`: the UDP payload of a handshake / 1-RTT datagram of this connection (`dgWire` / `wireOf`: packet protection
    and header protection under the connection's keys) -/
def QDescribed (fl : Flow) (wH : DgH → Bytes) (w1 : Dg1 → Bytes) (o : Opts) (evs : List QEv) : Prop :=
  ∀ ev ∈ evs, match ev with
    | .hs t fr u d => IsDg fl d.srv fr u ∧ u.payload = wH d ∧ d.ts = Container.usOfFloat t.toFloat ∧ HdrOk d
    | .one t fr u d => IsDg fl d.x.srv fr u ∧ u.payload = w1 d ∧ d.x.ts = Container.usOfFloat t.toFloat ∧
        1 ≤ d.x.pnLen ∧ d.x.pnLen ≤ 4
    | .foreign e => dissect e.buf = .ok e.d ∧ ∀ tag, NotQuic o (pktOf tag e.d)

/-- the handshake datagrams with the `Packet` objects the loop makes of them (tag = position in the capture) -/
def hsItems (fl : Flow) (kl : List Keylog.Key) : Nat → List QEv → List (List Keylog.Key × MainLoop.Pkt × DgH)
  | _, [] => []
  | n, .hs _ _ u d :: rest => (kl, dgPkt fl d.srv u.payload n, d) :: hsItems fl kl (n + 1) rest
  | n, _ :: rest => hsItems fl kl (n + 1) rest

def oneItems (fl : Flow) : Nat → List QEv → List (MainLoop.Pkt × Dg1)
  | _, [] => []
  | n, .one _ _ u d :: rest => (dgPkt fl d.x.srv u.payload n, d) :: oneItems fl (n + 1) rest
  | n, _ :: rest => oneItems fl (n + 1) rest

def noOne : QEv → Bool | .one .. => false | _ => true
def noHs : QEv → Bool | .hs .. => false | _ => true

/-- what the main loop reads off the first bytes of a handshake datagram (discharged by `hsHeader_dgWire` for the wire format
    of the connection) -/
def HsHeader (wH : DgH → Bytes) : Prop :=
  ∀ d, HdrOk d → ∃ b0 rest, wH d = b0 :: rest ∧ (b0.toNat &&& 0x40) >>> 6 = 1 ∧ parseHeader1 b0 rest = .long (dgDcid d) .v1

section WireHeaders
open TLX.Quic.Session TLX.Cipher
variable (H : Crypto.Prims) (Pc : Cipher.Prims)

theorem hsHeader_dgWire (L : SealLaws Pc) (dcid0 : Bytes) (sel : SuiteSel) (sh ch : Bytes) :
    HsHeader (dgWire H Pc L dcid0 sel sh ch) := by
  intro d ⟨q, qs, hp, hshape, h1, h4⟩
  have hw : dgWire H Pc L dcid0 sel sh ch d =
      (longOf q.x (protectedPayload L.aeadSeal (lvlDec H dcid0 sel sh ch q.x.level).alg
        (lvlKey H dcid0 sel sh ch q.x.level q.x.srv) q.x)).protect q.mask ++
      (qs.map (pkWire H Pc L dcid0 sel sh ch)).flatten := by
    unfold dgWire; rw [hp]; rfl
  have hd : dgDcid d = q.x.dcid := by unfold dgDcid; rw [hp]
  rw [hw, hd]
  exact longOf_wire_header q.x _ hshape.version hshape.dcid hshape.scid h1 h4 _ _

end WireHeaders

theorem hsItems_eq (fl : Flow) (kl : List Keylog.Key) (n : Nat) (evs : List QEv) :
    hsItems fl kl n evs = Lemmas.pickFrom (fun n ev => match ev with
      | .hs _ _ u d => some (kl, dgPkt fl d.srv u.payload n, d)
      | _ => none) n evs := by
  induction evs generalizing n with
  | nil => rfl
  | cons ev rest ih => cases ev <;> simp only [hsItems, Lemmas.pickFrom, ih]

theorem hsItems_mem (fl : Flow) (kl : List Keylog.Key) (evs : List QEv) (n : Nat)
    (x : List Keylog.Key × MainLoop.Pkt × DgH) (hx : x ∈ hsItems fl kl n evs) :
    ∃ i t fr u d, evs[i]? = some (.hs t fr u d) ∧ x = (kl, dgPkt fl d.srv u.payload (n + i), d) := by
  rw [hsItems_eq] at hx
  obtain ⟨i, ev, hi, hf⟩ := Lemmas.mem_pickFrom _ n evs x hx
  cases ev with
  | hs t fr u d => exact ⟨i, t, fr, u, d, hi, (Option.some.inj hf).symm⟩
  | one t fr u d => cases hf
  | foreign e => cases hf

section Embed
open TLX.Props.C02Capstone3 TLX.Props.C02File2

/-- a handshake datagram as a datagram of an interleaved history: no closing 1-RTT packet -/
def upD (d : DgH) : DgM := ⟨d.srv, d.ts, d.pkts, none⟩

def up : QEv → QEv2
  | .hs t fr u d => .mix t fr u (upD d)
  | .one t fr u d => .one t fr u d
  | .foreign e => .foreign e

theorem cap_up (evs : List QEv) : (evs.map up).map QEv2.cap = evs.map QEv.cap := by
  rw [List.map_map]; exact List.map_congr_left fun ev _ => by cases ev <;> rfl

theorem dcid_up (d : DgH) : (upD d).dcid = dgDcid d := by
  unfold DgM.dcid dgDcid upD; cases d.pkts <;> rfl

theorem runM_up (t : Trk) (ds : List DgH) : t.runM (ds.map upD) = t.runDgs ds := by
  unfold Trk.runM Trk.runDgs; rw [List.foldl_map]; rfl

theorem allInsM_up (ds : List DgH) : allInsM (ds.map upD) = allIns ds := by
  unfold allInsM allIns; rw [List.flatMap_map]; rfl

theorem shortsOf_up (ds : List DgH) : shortsOf (ds.map upD) = [] := by
  unfold shortsOf; rw [List.filterMap_map]; exact List.filterMap_eq_nil_iff.mpr fun _ _ => rfl

theorem mixItems_up (fl : Flow) (kl : List Keylog.Key) (n : Nat) (evs : List QEv) :
    mixItems fl kl n (evs.map up) = (hsItems fl kl n evs).map fun x => (x.1, x.2.1, upD x.2.2) := by
  induction evs generalizing n with
  | nil => rfl
  | cons ev rest ih => cases ev <;> simp [up, mixItems, hsItems, ih, upD]

theorem oneItems2_up (fl : Flow) (n : Nat) (evs : List QEv) : oneItems2 fl n (evs.map up) = oneItems fl n evs := by
  induction evs generalizing n with
  | nil => rfl
  | cons ev rest ih => cases ev <;> simp [up, oneItems2, oneItems, ih]

theorem othView_up (o : Opts) (kl : List Keylog.Key) (n : Nat) (evs : List QEv) : othView o kl n (evs.map up) = [] := by
  induction evs generalizing n with
  | nil => rfl
  | cons ev rest ih => cases ev <;> simp [up, othView, ih]

theorem phase_up (evs : List QEv) : (∀ ev ∈ evs, noOne ev = true) → ∀ ev ∈ evs.map up, noOne2 ev = true := by
  intro h ev hev
  obtain ⟨e, he, rfl⟩ := List.mem_map.mp hev
  have := h e he
  cases e <;> first | rfl | cases this

theorem phase_up' (evs : List QEv) : (∀ ev ∈ evs, noHs ev = true) → ∀ ev ∈ evs.map up, noMix2 ev = true := by
  intro h ev hev
  obtain ⟨e, he, rfl⟩ := List.mem_map.mp hev
  have := h e he
  cases e <;> first | rfl | cases this

theorem sep_nil_right {κ τ ο : Type} (M : QuicMachine κ τ ο) (o : Opts) (A : List (QIn κ)) : QuicSeparated M o A [] :=
  fun _ _ _ _ hx => nomatch hx

theorem sep_nil_left {κ τ ο : Type} (M : QuicMachine κ τ ο) (o : Opts) (B : List (QIn κ)) : QuicSeparated M o [] B := by
  intro n s hs
  rw [List.take_nil] at hs
  cases hs

open TLX.Quic.Session TLX.Cipher TLX.Props.C02Session TLX.Spec.KeySchedules
variable (maskFn : Quic.Dissect.MaskFn) (H : Crypto.Prims) (Pc : Cipher.Prims)

theorem wire_up (L : SealLaws Pc) (dcid0 : Bytes) (sel : SuiteSel) (sh ch sa ca : Bytes) (d : DgH) :
    DgM.wire H Pc L dcid0 sel sh ch sa ca (upD d) = dgWire H Pc L dcid0 sel sh ch d := by
  simp [DgM.wire, dgWire, upD]

theorem described_up (L : SealLaws Pc) (dcid0 : Bytes) (sel : SuiteSel) (sh ch sa ca : Bytes) (fl : Flow)
    (w1 : Dg1 → Bytes) (o : Opts) (evs : List QEv) (h : QDescribed fl (dgWire H Pc L dcid0 sel sh ch) w1 o evs) :
    QDescribed2 fl (DgM.wire H Pc L dcid0 sel sh ch sa ca) w1 o (evs.map up) := by
  intro ev hev
  obtain ⟨e, he, rfl⟩ := List.mem_map.mp hev
  have := h e he
  cases e with
  | hs t fr u d => exact ⟨this.1, by rw [wire_up]; exact this.2.1, this.2.2.1, .inl this.2.2.2⟩
  | one t fr u d => exact this
  | foreign e => exact this

variable {maskFn H Pc}

theorem mixDgs_up (L : SealLaws Pc) (dcid0 : Bytes) (sel : SuiteSel) (sh ch sa ca : Bytes) (t : Trk) (ds : List DgH)
    (hne : ∀ d ∈ ds, d.pkts ≠ []) (h : HsDgs maskFn H Pc L dcid0 sel sh ch t ds) :
    MixDgs maskFn H Pc L dcid0 sel sh ch sa ca t (ds.map upD) := by
  induction ds generalizing t with
  | nil => trivial
  | cons d ds ih =>
    obtain ⟨⟨h1, h2, h3⟩, hrest⟩ := h
    exact ⟨⟨h1, by rw [dcid_up]; exact h2, h3, .inl (hne d (List.mem_cons_self ..)), fun o ho => nomatch ho⟩,
      ih _ (fun e he => hne e (List.mem_cons_of_mem _ he)) hrest⟩

theorem routesM_up (w : DgM → Bytes) (t : Trk) (ds : List DgH) (hne : ∀ d ∈ ds, d.pkts ≠ []) : RoutesM w t (ds.map upD) := by
  induction ds generalizing t with
  | nil => trivial
  | cons d ds ih =>
    exact ⟨fun h0 => absurd h0 (hne d (List.mem_cons_self ..)), ih _ (fun e he => hne e (List.mem_cons_of_mem _ he))⟩

end Embed

section Capture
open TLX.Export TLX.Quic.Session TLX.Cipher TLX.Props.C02Session TLX.Spec.KeySchedules TLX.Props.C01File2
variable (maskFn : Quic.Dissect.MaskFn) (H : Crypto.Prims) (Pc : Cipher.Prims)

/-- EVERYTHING the file-level theorems assume, in one place (each field with its justification).
    Parameters: the primitives (`maskFn` any header-protection primitive, `H` hash functions, `Pc` AEAD with `SealLaws`),
    the options, the key-log file, the flow, the TLS side of the handshake `hs`, the connection's secrets, the capture as
    two phases of events (`evsH`: handshake datagrams and foreign packets, `evsO`: 1-RTT datagrams and foreign packets),
    the first handshake datagram `(kl0, p0, d0)` and the others `items`. -/
structure QuicCapture (L : SealLaws Pc) (args : Args) (keyFile : Option Keylog.Str) (pm : List (Int × Int))
    (ports : List Int) (fl : Flow) (hs : ConfHs) (ch sh ca sa : Bytes) (early : Option Bytes) (sel : SuiteSel)
    (evsH evsO : List QEv) (kl0 : List Keylog.Key) (p0 : MainLoop.Pkt) (d0 : DgH)
    (items : List (List Keylog.Key × MainLoop.Pkt × DgH)) : Prop where
  /-- the hash functions are lawful (output lengths, HKDF-Expand length), SHA-256 has 32 bytes -/
  lawful : H.Lawful
  sha256 : H.sha256.outLen = 32
  /-- no packet's time stamp evaluates to −1.0 (the tool would take it for a secrets block) -/
  times : ∀ e ∈ (evsH ++ evsO).map QEv.cap, Ingest.isMinusOne e.t = false
  /-- options: no `-c` (checksums are not looked at), no `-a`; `-m` / `-p` parse -/
  noc : args.checksumTest = false
  nometa : args.metadata = false
  pmOk : Options.getPortMap Options.Src.bare args.mArg = .ok pm
  portsOk : Options.serverPorts Options.Src.builtin Options.Src.pDefault args.pArg = .ok ports
  /-- the two endpoints differ; the client's port is not a server port (else the tool swaps the roles) -/
  endpoints : clientEp fl ≠ serverEp fl
  clientPort : ports.contains (fl.clientPort : Int) = false
  /-- the TLS handshake is conformant (`ConfHs.Ok`: RFC 8446 messages, any cut / order of the ClientHello) -/
  hsOk : hs.Ok
  /-- the ServerHello selects one of the four QUIC v1 suites; the traffic secrets have the hash's length -/
  suite : selectSuite hs.sh.cipherSuite = some sel
  outLen : (hashOf H sel.hash).outLen < 65536
  saLen : sa.length = (hashOf H sel.hash).outLen
  caLen : ca.length = (hashOf H sel.hash).outLen
  /-- the key-log FILE has the connection's lines (last line of each label: `KeylogHas`) -/
  keylog : KeylogHas ((fileKeysOf keyFile).getD []) hs.ch.random ch sh ca sa early
  /-- the first handshake datagram of the capture is the client's first Initial; the handshake datagrams are these -/
  first : hsItems fl ((fileKeysOf keyFile).getD []) 0 evsH = (kl0, p0, d0) :: items
  fromClient : d0.srv = false
  /-- the capture, sender side: every event is a datagram of the flow carrying the connection's wire bytes at the
      reader's time, or a foreign packet the main loop does not take for QUIC; handshake before 1-RTT -/
  described : QDescribed fl (dgWire H Pc L (dgDcid d0) sel sh ch)
    (wireOf H Pc L sel .v1 (rfcGen (hashOf H sel.hash) sel.keyLen sa ca 0)) (optsOf args ports pm) (evsH ++ evsO)
  phaseH : ∀ ev ∈ evsH, noOne ev = true
  phaseO : ∀ ev ∈ evsO, noHs ev = true
  /-- the handshake datagrams are conformant packets (`HsDgs`) carrying the handshake's CRYPTO frames (`hins`), and contain
      a Handshake-level packet after the ServerHello (`keyed`) -/
  hsDgs : HsDgs maskFn H Pc L (dgDcid d0) sel sh ch trk0 (d0 :: items.map (·.2.2))
  hsIns : allIns (d0 :: items.map (·.2.2)) = hs.ins
  keyed : (trk0.runDgs (d0 :: items.map (·.2.2))).keyed = true
  /-- the 1-RTT datagrams are a conformant history (`Send1`), routable by a passive observer (`Routes1`), pairwise
      different in (capture microsecond, direction) -/
  send1 : Send1 maskFn H Pc L sel .v1 (rfcGen (hashOf H sel.hash) sel.keyLen sa ca 0)
      (quicHp (hashOf H sel.hash) ca sel.keyLen) (quicHp (hashOf H sel.hash) sa sel.keyLen)
      (chachaOf (trk0.runDgs (d0 :: items.map (·.2.2))).core) 0 0
      (trk0.runDgs (d0 :: items.map (·.2.2))).tc.app (trk0.runDgs (d0 :: items.map (·.2.2))).ts.app
      (trk0.runDgs (d0 :: items.map (·.2.2))).cc (trk0.runDgs (d0 :: items.map (·.2.2))).sc
      ((oneItems fl evsH.length evsO).map (·.2))
  routes : Routes1 (wireOf H Pc L sel .v1 (rfcGen (hashOf H sel.hash) sel.keyLen sa ca 0))
      (trk0.runDgs (d0 :: items.map (·.2.2))).cc (trk0.runDgs (d0 :: items.map (·.2.2))).sc
      ((oneItems fl evsH.length evsO).map (·.2))
  distinct : (((oneItems fl evsH.length evsO).map (·.2)).map fun d => (d.x.ts, d.x.srv)).Pairwise (· ≠ ·)

variable {maskFn H Pc}

/-- what C02 demands of the output: the block of the connection's session is one UDP frame per 1-RTT datagram that carried a
    STREAM frame, in capture order, payload = that datagram's STREAM data, its capture microsecond, addressed
    client→server / server→client with the exported server port (`QuicPipeline.addressed`: `-m` map or 8080) -/
def blockOf (args : Args) (pm : List (Int × Int)) (ports : List Int) (fl : Flow) (evsH evsO : List QEv) (p0 : MainLoop.Pkt) :
    List Pipeline.OutPkt :=
  expectedOut ((quicMachine maskFn H Pc (capInfo ((evsH ++ evsO).map QEv.cap))).new (optsOf args ports pm) p0)
    ((oneItems fl evsH.length evsO).map (·.2))

open TLX.Props.C02Capstone3 TLX.Props.C02File2 in
/-- **the one-connection capture is an interleaved capture** without closing 1-RTT packets and without other connections -/
theorem capture2_of_capture {L : SealLaws Pc} {args : Args} {keyFile : Option Keylog.Str} {pm : List (Int × Int)}
    {ports : List Int} {fl : Flow} {hs : ConfHs} {ch sh ca sa : Bytes} {early : Option Bytes} {sel : SuiteSel}
    {evsH evsO : List QEv} {kl0 : List Keylog.Key} {p0 : MainLoop.Pkt} {d0 : DgH}
    {items : List (List Keylog.Key × MainLoop.Pkt × DgH)}
    (h : QuicCapture maskFn H Pc L args keyFile pm ports fl hs ch sh ca sa early sel evsH evsO kl0 p0 d0 items) :
    QuicCapture2 maskFn H Pc L args keyFile pm ports fl hs ch sh ca sa early sel (evsH.map up) (evsO.map up) kl0 p0 (upD d0)
      (items.map fun x => (x.1, x.2.1, upD x.2.2)) := by
  have hds : (upD d0 :: (items.map fun x => (x.1, x.2.1, upD x.2.2)).map (·.2.2)) = (d0 :: items.map (·.2.2)).map upD := by
    simp [List.map_map]
  have hevs : evsH.map up ++ evsO.map up = (evsH ++ evsO).map up := (List.map_append ..).symm
  -- every handshake datagram has a first packet (`HdrOk`, in `described`)
  have hne : ∀ d ∈ d0 :: items.map (·.2.2), d.pkts ≠ [] := by
    intro d hd
    have : ∃ x ∈ (kl0, p0, d0) :: items, x.2.2 = d := by
      rcases List.mem_cons.mp hd with rfl | hd
      · exact ⟨_, List.mem_cons_self .., rfl⟩
      · obtain ⟨x, hx, rfl⟩ := List.mem_map.mp hd
        exact ⟨x, List.mem_cons_of_mem _ hx, rfl⟩
    obtain ⟨x, hx, rfl⟩ := this
    rw [← h.first] at hx
    obtain ⟨i, t, fr, u, d, hi, rfl⟩ := hsItems_mem fl _ evsH 0 x hx
    obtain ⟨_, _, _, q, qs, hq, _⟩ := h.described _ (List.mem_append_left _ (List.mem_of_getElem? hi))
    rw [hq]; exact List.cons_ne_nil _ _
  have hone : (oneItems2 fl (evsH.map up).length (evsO.map up)) = oneItems fl evsH.length evsO := by
    rw [List.length_map, oneItems2_up]
  have hoth : ∀ o kl, othView o kl 0 (evsH.map up ++ evsO.map up) = [] := fun o kl => by rw [hevs, othView_up]
  exact
    { lawful := h.lawful, sha256 := h.sha256, times := by rw [hevs, cap_up]; exact h.times, noc := h.noc, nometa := h.nometa,
      pmOk := h.pmOk, portsOk := h.portsOk, endpoints := h.endpoints, clientPort := h.clientPort, hsOk := h.hsOk,
      suite := h.suite, outLen := h.outLen, saLen := h.saLen, caLen := h.caLen, keylog := h.keylog,
      first := by rw [mixItems_up, h.first]; rfl,
      fromClient := h.fromClient,
      firstLong := hne d0 (List.mem_cons_self ..),
      described := by rw [hevs, dcid_up]; exact described_up H Pc L _ sel sh ch sa ca fl _ _ _ h.described,
      phaseA := phase_up _ h.phaseH, phaseB := phase_up' _ h.phaseO,
      mixDgs := by rw [hds, dcid_up]; exact mixDgs_up L _ sel sh ch sa ca trk0 _ hne h.hsDgs,
      mixIns := by rw [hds, allInsM_up]; exact h.hsIns,
      keyed := by rw [hds, runM_up]; exact h.keyed,
      routesA := by
        rw [show (items.map fun x => (x.1, x.2.1, upD x.2.2)).map (·.2.2) = (items.map (·.2.2)).map upD by simp [List.map_map]]
        exact routesM_up _ _ _ fun d hd => hne d (List.mem_cons_of_mem _ hd),
      send1 := by rw [hds, runM_up, hone]; exact h.send1,
      routesB := by rw [hds, runM_up, hone]; exact h.routes,
      distinct := by
        rw [hds, shortsOf_up, hone, List.nil_append]
        refine C02Out.DistinctKeys.adjacent ?_ false
        unfold C02Out.DistinctKeys
        rw [List.map_map]
        exact h.distinct,
      sepOwn := by rw [hoth]; exact sep_nil_right _ _ _,
      sepOther := by rw [hoth]; exact sep_nil_left _ _ _ }

open TLX.Props.C02Capstone3 TLX.Props.C02File2 in
/-- the core of the file-level theorems: the QUIC view of the described capture leaves exactly ONE session in
    `quic_sessions`, and what it exports is `blockOf` -/
theorem quic_capture_session {L : SealLaws Pc} {args : Args} {keyFile : Option Keylog.Str} {pm : List (Int × Int)}
    {ports : List Int} {fl : Flow} {hs : ConfHs} {ch sh ca sa : Bytes} {early : Option Bytes} {sel : SuiteSel}
    {evsH evsO : List QEv} {kl0 : List Keylog.Key} {p0 : MainLoop.Pkt} {d0 : DgH}
    {items : List (List Keylog.Key × MainLoop.Pkt × DgH)}
    (h : QuicCapture maskFn H Pc L args keyFile pm ports fl hs ch sh ca sa early sel evsH evsO kl0 p0 d0 items) :
    CapOk ((evsH ++ evsO).map QEv.cap) ∧
    ∃ sess : QuicSess QConn,
      quicRun (quicMachine maskFn H Pc (capInfo ((evsH ++ evsO).map QEv.cap))) (optsOf args ports pm) []
        (quicView (optsOf args ports pm) ((fileKeysOf keyFile).getD []) (itemsFrom 0 ((evsH ++ evsO).map QEv.cap))) = [sess] ∧
      (quicMachine maskFn H Pc (capInfo ((evsH ++ evsO).map QEv.cap))).out args.metadata sess.st =
        blockOf (maskFn := maskFn) (H := H) (Pc := Pc) args pm ports fl evsH evsO p0 := by
  obtain ⟨hcap, sess, hm, hblk⟩ := quic_capture_session2 (capture2_of_capture h)
  have hevs : evsH.map up ++ evsO.map up = (evsH ++ evsO).map up := (List.map_append ..).symm
  rw [hevs] at hcap hm hblk
  rw [othView_up] at hm
  rw [cap_up] at hcap hm hblk
  refine ⟨hcap, sess, Merge.eq_of_right_nil hm, hblk.trans ?_⟩
  unfold blockOf2 blockOf
  rw [hevs, cap_up, show (upD d0 :: (items.map fun x => (x.1, x.2.1, upD x.2.2)).map (·.2.2)) =
    (d0 :: items.map (·.2.2)).map upD by simp [List.map_map], shortsOf_up, List.nil_append, List.length_map, oneItems2_up]

/-- **C02 FROM FILE TO FILE** (any file the reader model reads as the described packets). `exportFile` on the bytes of the
    capture and the text of the key-log file gets past option parsing and the read loop and — unless scapy / dpkt refuse a
    frame in the write loop — writes a file in which the tool's own reader and the independent frame parser find, as the
    block of the connection's session, exactly `blockOf`. -/
theorem quic_capture_exact {L : SealLaws Pc} {args : Args} {keyFile : Option Keylog.Str} {pm : List (Int × Int)}
    {ports : List Int} {fl : Flow} {hs : ConfHs} {ch sh ca sa : Bytes} {early : Option Bytes} {sel : SuiteSel}
    {evsH evsO : List QEv} {kl0 : List Keylog.Key} {p0 : MainLoop.Pkt} {d0 : DgH}
    {items : List (List Keylog.Key × MainLoop.Pkt × DgH)}
    (h : QuicCapture maskFn H Pc L args keyFile pm ports fl hs ch sh ca sa early sel evsH evsO kl0 p0 d0 items)
    (legacy : Bool) (file : Bytes)
    (hread : Container.read legacy file = .ok (((evsH ++ evsO).map QEv.cap).map CapEv.item)) :
    (∃ e, exportFile maskFn H Pc args legacy keyFile file = .abort (.write e)) ∨
    ∃ f, exportFile maskFn H Pc args legacy keyFile file = .file f ∧
      ReadsBack f (blockOf (maskFn := maskFn) (H := H) (Pc := Pc) args pm ports fl evsH evsO p0) := by
  obtain ⟨hcap, sess, hq, hblk⟩ := quic_capture_session h
  exact export_of_quic_session_among maskFn H Pc args legacy keyFile file _ hread hcap h.noc pm ports h.pmOk h.portsOk [] []
    sess (by rw [hq]; rfl) _ hblk

/-- `quic_capture_exact` WITHOUT the abort alternative, when every frame of the block is taken by the write loop
    (`WritesOk`: scapy serialises it — UDP payload at most 65507 bytes, ports below 65536, addresses of the IP version's
    length — and dpkt can store its time), and so is whatever the other sessions of the capture export (`OthersFit`). -/
theorem quic_capture_exact_file {L : SealLaws Pc} {args : Args} {keyFile : Option Keylog.Str} {pm : List (Int × Int)}
    {ports : List Int} {fl : Flow} {hs : ConfHs} {ch sh ca sa : Bytes} {early : Option Bytes} {sel : SuiteSel}
    {evsH evsO : List QEv} {kl0 : List Keylog.Key} {p0 : MainLoop.Pkt} {d0 : DgH}
    {items : List (List Keylog.Key × MainLoop.Pkt × DgH)}
    (h : QuicCapture maskFn H Pc L args keyFile pm ports fl hs ch sh ca sa early sel evsH evsO kl0 p0 d0 items)
    (legacy : Bool) (file : Bytes)
    (hread : Container.read legacy file = .ok (((evsH ++ evsO).map QEv.cap).map CapEv.item))
    (hfit : ∀ x ∈ blockOf (maskFn := maskFn) (H := H) (Pc := Pc) args pm ports fl evsH evsO p0, WritesOk x)
    (hothers : OthersFit maskFn H Pc args keyFile ((evsH ++ evsO).map QEv.cap)
      (blockOf (maskFn := maskFn) (H := H) (Pc := Pc) args pm ports fl evsH evsO p0)) :
    ∃ f, exportFile maskFn H Pc args legacy keyFile file = .file f ∧
      ReadsBack f (blockOf (maskFn := maskFn) (H := H) (Pc := Pc) args pm ports fl evsH evsO p0) := by
  obtain ⟨hcap, sess, hq, hblk⟩ := quic_capture_session h
  exact export_of_quic_session_file maskFn H Pc args legacy keyFile file _ hread hcap h.noc pm ports h.pmOk h.portsOk sess
    hq _ hblk hfit hothers

/-- `quic_capture_exact` for the BYTES of a capture file written by the independent container encoder (pcapng in any variant,
    libpcap µs / ns): `Props.C12.reader_roundtrip` gives the reader's view. -/
theorem quic_capture_exact_encoded {L : SealLaws Pc} {args : Args} {keyFile : Option Keylog.Str} {pm : List (Int × Int)}
    {ports : List Int} {fl : Flow} {hs : ConfHs} {ch sh ca sa : Bytes} {early : Option Bytes} {sel : SuiteSel}
    {evsH evsO : List QEv} {kl0 : List Keylog.Key} {p0 : MainLoop.Pkt} {d0 : DgH}
    {items : List (List Keylog.Key × MainLoop.Pkt × DgH)}
    (h : QuicCapture maskFn H Pc L args keyFile pm ports fl hs ch sh ca sa early sel evsH evsO kl0 p0 d0 items)
    (cv : Spec.Containers.Variant) (cevs : List Spec.Containers.Ev) (hcwf : cv.WF cevs)
    (hitems : cevs.filterMap (Spec.Containers.scale cv) = ((evsH ++ evsO).map QEv.cap).map CapEv.item) :
    (∃ e, exportFile maskFn H Pc args cv.isLegacy keyFile (Spec.Containers.encode cv cevs) = .abort (.write e)) ∨
    ∃ f, exportFile maskFn H Pc args cv.isLegacy keyFile (Spec.Containers.encode cv cevs) = .file f ∧
      ReadsBack f (blockOf (maskFn := maskFn) (H := H) (Pc := Pc) args pm ports fl evsH evsO p0) :=
  quic_capture_exact h cv.isLegacy _ (by rw [Props.C12.reader_roundtrip cv cevs hcwf, hitems])

end Capture

section Ranges
open TLX.Export TLX.Quic.Session TLX.Cipher TLX.Props.C02Session TLX.Spec.KeySchedules TLX.Props.C01File2
variable (maskFn : Quic.Dissect.MaskFn) (H : Crypto.Prims) (Pc : Cipher.Prims)

/-- a packet the TLS side of the main loop does not take: not a TCP segment with payload -/
def NotTls (p : MainLoop.Pkt) : Prop := ¬ (p.l4 = .tcp ∧ p.payload ≠ [])

theorem tcpView_qdescribed (fl : Flow) (wH : DgH → Bytes) (w1 : Dg1 → Bytes) (o : Opts) (hc : o.checksumTest = false)
    (evs : List QEv) (hd : QDescribed fl wH w1 o evs)
    (hf : ∀ e, QEv.foreign e ∈ evs → ∀ tag, NotTls (pktOf tag e.d)) (n : Nat) :
    Spec.Demux.tcpView o (itemsFrom n (evs.map QEv.cap)) = [] := by
  induction evs generalizing n with
  | nil => rfl
  | cons ev rest ih =>
    rw [List.map_cons, itemsFrom, tcpView_cons,
      ih (fun e he => hd e (List.mem_cons_of_mem _ he)) (fun e he => hf e (List.mem_cons_of_mem _ he)), List.append_nil,
      tcpView_frame o hc]
    have hev := hd ev (List.mem_cons_self ..)
    cases ev with
    | hs t fr u d =>
      have hp := pktOf_dg fl d.srv fr u hev.1 n
      simp only [QEv.cap, hp]; simp
    | one t fr u d =>
      have hp := pktOf_dg fl d.x.srv fr u hev.1 n
      simp only [QEv.cap, hp]; simp
    | foreign e =>
      have := hf e (List.mem_cons_self ..) n
      have h' : ¬ ((pktOf n (QEv.foreign e).cap.d).l4 = .tcp ∧ (pktOf n (QEv.foreign e).cap.d).payload ≠ []) := this
      exact if_neg h'

theorem othersFit_of_noTcp (args : Args) (keyFile : Option Keylog.Str) (cap : List CapEv)
    (pm : List (Int × Int)) (ports : List Int)
    (hpm : Options.getPortMap Options.Src.bare args.mArg = .ok pm)
    (hports : Options.serverPorts Options.Src.builtin Options.Src.pDefault args.pArg = .ok ports)
    (htcp : Spec.Demux.tcpView (optsOf args ports pm) (itemsFrom 0 cap) = [])
    (sess : QuicSess QConn)
    (hq : quicRun (quicMachine maskFn H Pc (capInfo cap)) (optsOf args ports pm) []
      (quicView (optsOf args ports pm) ((fileKeysOf keyFile).getD []) (itemsFrom 0 cap)) = [sess])
    (blk : List Pipeline.OutPkt)
    (hblk : (quicMachine maskFn H Pc (capInfo cap)).out args.metadata sess.st = blk) :
    OthersFit maskFn H Pc args keyFile cap blk := by
  have hrun := C18.fresh_run_is (Pipeline.tlsMachine H Pc (capInfo cap)) (quicMachine maskFn H Pc (capInfo cap))
    (optsOf args ports pm) ((fileKeysOf keyFile).getD []) (itemsFrom 0 cap)
  rw [hq, htcp] at hrun
  simp only [tlsRun_nil, List.flatMap_cons, List.flatMap_nil, List.append_nil, List.nil_append] at hrun
  have hmd : (optsOf args ports pm).metadata = args.metadata := rfl
  rw [hmd, hblk] at hrun
  have hfr := framesFrom_eq maskFn H Pc args (fileKeysOf keyFile) (itemsFrom 0 cap) (capInfo cap) pm ports hpm hports
  rw [hrun] at hfr
  exact Lemmas.ExportWrite.alone_fits _ blk hfr

theorem writesOk_addressed (c : QConn) (d : Quic.UdpOut.Dgram) (hcp : c.client.port < 65536)
    (hsp : TcpOut.exportedServerPort c.opts.keep (Pipeline.portmapFn c.opts.portmap) c.server.port < 65536)
    (hlen : (if c.ipv6 then 0 else 20) + 8 + d.payload.length < 65536) (hts : d.ts < 2 ^ 64) :
    WritesOk (addressed c d) := by
  refine ⟨(C06Bytes.serialize_ok_iff _).mpr ?_, ?_⟩
  · unfold addressed
    cases d.isServer <;> simp [Frame.ofOutPkt, hcp, hsp, hlen]
  · unfold addressed
    cases d.isServer <;> simpa using hts

variable {maskFn H Pc}

/-- the connection object the loop creates from the first datagram of a `QuicCapture`: the flow's endpoints in their roles,
    its IP version, the run's options; the client's port is below 2^16 (it was in a UDP header) -/
theorem conn_of_capture {L : SealLaws Pc} {args : Args} {keyFile : Option Keylog.Str} {pm : List (Int × Int)}
    {ports : List Int} {fl : Flow} {hs : ConfHs} {ch sh ca sa : Bytes} {early : Option Bytes} {sel : SuiteSel}
    {evsH evsO : List QEv} {kl0 : List Keylog.Key} {p0 : MainLoop.Pkt} {d0 : DgH}
    {items : List (List Keylog.Key × MainLoop.Pkt × DgH)}
    (h : QuicCapture maskFn H Pc L args keyFile pm ports fl hs ch sh ca sa early sel evsH evsO kl0 p0 d0 items) :
    let c := (quicMachine maskFn H Pc (capInfo ((evsH ++ evsO).map QEv.cap))).new (optsOf args ports pm) p0
    c.client = clientEp fl ∧ c.server = serverEp fl ∧ c.ipv6 = fl.v6 ∧ c.opts = optsOf args ports pm ∧
      fl.clientPort < 65536 := by
  intro c
  have hmem : (kl0, p0, d0) ∈ hsItems fl ((fileKeysOf keyFile).getD []) 0 evsH := by rw [h.first]; simp
  obtain ⟨i, t, fr, u, d, hi, hx⟩ := hsItems_mem fl _ evsH 0 _ hmem
  simp only [Prod.mk.injEq] at hx
  obtain ⟨_, hp0, rfl⟩ := hx
  rw [h.fromClient, Nat.zero_add] at hp0
  obtain ⟨hdg, _, _, _⟩ := h.described _ (List.mem_append_left _ (List.mem_of_getElem? hi))
  rw [h.fromClient] at hdg
  have hroles : rolesOf (optsOf args ports pm).ports p0 = (serverEp fl, clientEp fl) := by
    rw [hp0]; exact rolesOf_client fl ports h.clientPort _ _
  have hinfo := capInfo_dg fl false fr u hdg ((evsH ++ evsO).map QEv.cap) (0 + i) t
    (cap_at QEv.cap evsH _ [] (evsO.map QEv.cap) (by rw [List.map_append, List.nil_append]) 0 rfl i _ hi)
  refine ⟨congrArg Prod.snd hroles, congrArg Prod.fst hroles, ?_, rfl, ?_⟩
  · show (capInfo _ p0.tag).ipv6 = fl.v6
    rw [hp0]
    show (capInfo _ i).ipv6 = _
    rw [← Nat.zero_add i, hinfo]
  · obtain ⟨hwf, hu, hsp, _⟩ := hdg
    obtain ⟨_, _, huw, _⟩ := hwf
    rw [hu] at huw
    have : u.sport < 65536 := huw.1
    rw [hsp] at this
    simpa using this

/-- **C02 FROM FILE TO FILE, no abort, explicit ranges.** Besides `QuicCapture`:
    `hforeign`  the capture has no TCP payload (the foreign packets are not taken by the TLS side either), so the
                connection's block is everything the run exports;
    `hsp`       the exported server port (`-m` map, else 8080, or the original one) is below 2^16;
    `hlen`      the STREAM data of one datagram fits a UDP datagram of the flow's IP version (it came out of one, so this
                always holds for the same IP version; stated, not derived);
    `hts`       the capture microseconds fit dpkt's 64-bit field (an IEEE-754 fact about the reader's doubles).
    Then the file IS written and reads back exactly `blockOf`. -/
theorem quic_capture_exact_ranges {L : SealLaws Pc} {args : Args} {keyFile : Option Keylog.Str} {pm : List (Int × Int)}
    {ports : List Int} {fl : Flow} {hs : ConfHs} {ch sh ca sa : Bytes} {early : Option Bytes} {sel : SuiteSel}
    {evsH evsO : List QEv} {kl0 : List Keylog.Key} {p0 : MainLoop.Pkt} {d0 : DgH}
    {items : List (List Keylog.Key × MainLoop.Pkt × DgH)}
    (h : QuicCapture maskFn H Pc L args keyFile pm ports fl hs ch sh ca sa early sel evsH evsO kl0 p0 d0 items)
    (legacy : Bool) (file : Bytes)
    (hread : Container.read legacy file = .ok (((evsH ++ evsO).map QEv.cap).map CapEv.item))
    (hforeign : ∀ e, QEv.foreign e ∈ evsH ++ evsO → ∀ tag, NotTls (pktOf tag e.d))
    (hsp : TcpOut.exportedServerPort (Options.keepOriginalPorts args.mArg) (Pipeline.portmapFn pm) fl.serverPort < 65536)
    (hlen : ∀ d ∈ (oneItems fl evsH.length evsO).map (·.2),
      (if fl.v6 then 0 else 20) + 8 + (streamData d.x.frames).flatten.length < 65536)
    (hts : ∀ d ∈ (oneItems fl evsH.length evsO).map (·.2), d.x.ts < 2 ^ 64) :
    ∃ f, exportFile maskFn H Pc args legacy keyFile file = .file f ∧
      ReadsBack f (blockOf (maskFn := maskFn) (H := H) (Pc := Pc) args pm ports fl evsH evsO p0) := by
  obtain ⟨hcap, sess, hq, hblk⟩ := quic_capture_session h
  obtain ⟨c1, c2, c3, c4, c5⟩ := conn_of_capture h
  refine export_of_quic_session_file maskFn H Pc args legacy keyFile file _ hread hcap h.noc pm ports h.pmOk h.portsOk sess
    hq (expectedOut _ _) hblk ?_ ?_
  · intro x hx
    simp only [expectedOut, List.mem_map, List.mem_filter] at hx
    obtain ⟨d, ⟨hd, _⟩, rfl⟩ := hx
    have hd : d ∈ (oneItems fl evsH.length evsO).map (·.2) := List.mem_map.mpr hd
    apply writesOk_addressed
    · rw [c1]; exact c5
    · rw [c4, c2]; exact hsp
    · rw [c3]; exact hlen d hd
    · exact hts d hd
  · exact othersFit_of_noTcp maskFn H Pc args keyFile _ pm ports h.pmOk h.portsOk
      (tcpView_qdescribed fl _ _ _ h.noc _ h.described hforeign 0) sess hq _ hblk

end Ranges

section Receiver
open TLX.Export TLX.Spec.FrameParse TLX.Spec.QuicConnection
variable {maskFn : Quic.Dissect.MaskFn} {H : Crypto.Prims} {Pc : Cipher.Prims}

/-- In the block of the output file, packet `i` belongs to the `i`-th 1-RTT datagram `d` that carried a STREAM frame: the
    tool's own reader yields it at `d`'s microsecond, and the INDEPENDENT frame parser reads a UDP datagram whose payload
    is exactly `d`'s STREAM data, from the client's endpoint to the server's address with the exported server port, or
    back, according to `d`'s direction, with the MAC addresses and IP version of the connection's first packet. -/
theorem block_frames_parse (args : Args) (pm : List (Int × Int)) (ports : List Int) (fl : Flow) (evsH evsO : List QEv)
    (p0 : MainLoop.Pkt) (f : Bytes)
    (h : ReadsBack f (blockOf (maskFn := maskFn) (H := H) (Pc := Pc) args pm ports fl evsH evsO p0)) :
    let c := (quicMachine maskFn H Pc (capInfo ((evsH ++ evsO).map QEv.cap))).new (optsOf args ports pm) p0
    let ds := ((oneItems fl evsH.length evsO).map (·.2)).filter fun d => hasStream d.x.frames
    let sp : MainLoop.Endpoint :=
      ⟨c.server.ip, TcpOut.exportedServerPort c.opts.keep (Pipeline.portmapFn c.opts.portmap) c.server.port⟩
    ∃ (A C : List Item) (B : List Bytes), B.length = ds.length ∧
      Container.read false f = .ok (A ++ (ds.zip B).map (fun db => Item.pkt ⟨db.1.x.ts, 10 ^ 6, 0, false⟩ db.2) ++ C) ∧
      ∀ db ∈ ds.zip B, ∃ q, parse db.2 = some q ∧ q.l4 = .udp ∧ q.payload = (streamData db.1.x.frames).flatten ∧
        q.v6 = c.ipv6 ∧
        (q.src, q.sport, q.srcMac) = (if db.1.x.srv then (sp.ip, sp.port, c.serverMac) else (c.client.ip, c.client.port, c.clientMac)) ∧
        (q.dst, q.dport, q.dstMac) = (if db.1.x.srv then (c.client.ip, c.client.port, c.clientMac) else (sp.ip, sp.port, c.serverMac)) := by
  intro c ds sp
  obtain ⟨A, C, B, hB, hread, hparse⟩ := Lemmas.ExportWrite.readsBack_map
    (fun d : Dg1 => addressed c ⟨d.x.srv, d.x.ts, (streamData d.x.frames).flatten⟩) (·.x.ts)
    (fun d => by unfold addressed; split <;> rfl) ds f h
  refine ⟨A, C, B, hB, hread, fun db hdb => ?_⟩
  obtain ⟨seg, hp⟩ := hparse db hdb
  refine ⟨_, hp, ?_⟩
  cases hsrv : db.1.x.srv <;> simp [Frame.ofOutPkt, addressed, sp]

end Receiver

end TLX.Props.C02File
