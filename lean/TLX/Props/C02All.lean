import TLX.Props.C02AllFile
import TLX.Props.ExportDemux
set_option autoImplicit false
/-! # C02, all together — `quic_capture_exact_all`

ONE theorem from the bytes of a capture file and the text of a key-log file to the bytes of the output file, with everything
at once: file level among other QUIC / TLS traffic (`C02File2`, separation on the CAPTURE: `ExportDemux`), one
interleaved history (`C02Capstone3`), 0-RTT anywhere — exported or, for the wrong suite, missing (`C02Capstone4`, `C02Zr2`) —,
a Retry before the handshake (`C02Capstone.quic_connection_exact_retry`), hypotheses in RFC / file terms (`C02Rfc`), and no
write-abort alternative under explicit ranges on ALL exported frames (`quic_capture_all_ranges`). Last of the four files of
the namespace `TLX.Props.C02All` (`C02AllConn`, `C02AllRfc`, `C02AllFile`, this one).

REMAINING CONDITIONS, classified (fields of `QuicCaptureAll`):
  RFC-given           hsOk, tls13 / suite / tls13R / suiteR (registry), saLen / caLen, described (RFC 9000 / 9001 wire
                      format), retryOk, mixDgs / send1 (packet-number windows, frame types, header protection of the suite,
                      Handshake packets after the ServerHello, 1-RTT key generation 0 before the handshake is done …), mixIns
  key-log FILE        linesWf, lineCH … lineE, onlyCH … onlyE (the five NSS lines; no other secret for the same label/random)
  C02's quantifier    distinct (consecutive exported datagrams told apart by (µs, direction)), times (no −1.0 time stamp)
  options             noc, nometa, pmOk, portsOk, endpoints, clientPort
  capture shape       noiseR / noiseA / phaseA / phaseB (what stands where), fromClient, firstLong, sepOwn / sepOther
                      (other QUIC connections separated on the capture)
  recorded limits     routesA / routesB (longest-known-CID routing, `RouteOk`); `HsPkR.late` inside mixDgs (no client Initial
                      with CRYPTO after the ServerHello); `YDgR.early` (every 0-RTT packet comes after the ClientHello is
                      complete: `EarlyAt`; before that the tool has no Early key — open finding `early-data-lost`);
                      the first attempt before a Retry is ONE datagram
  primitive laws      lawful, sha256, outLen; for wrong-suite 0-RTT packets `RejectedT` (AEAD authenticity) inside mixDgs
Core Lean only. -/
namespace TLX.Props.C02All
open TLX TLX.MainLoop TLX.Spec.Demux TLX.Lemmas.MainLoop TLX.Dissect TLX.OutBytes
open TLX.Container (Item)
open TLX.Props.C01File TLX.Spec.FrameBuild TLX.Spec.TlsCapture TLX.Spec.QuicCapture TLX.Props.C12Dissect
open TLX.Spec.QuicSender TLX.Spec.QuicConnection TLX.Spec.QuicPackets TLX.QuicPipeline TLX.Props.C02Capstone
open TLX.Props.C02File TLX.Props.C02Capstone3 TLX.Props.C02File2 TLX.Props.C02Zr

-- the distinctness hypothesis is only handed on in this file; unfolding it when an application is elaborated is expensive
attribute [local irreducible] C02Out.DistinctAdjacent

section Phases

def isNoise : QEv3 → Bool | .other _ | .foreign _ => true | _ => false
def okA : QEv3 → Bool | .mix .. | .other _ | .foreign _ => true | _ => false
def okB : QEv3 → Bool | .one .. | .other _ | .foreign _ => true | _ => false

def mixItems3 (fl : Flow) (kl : List Keylog.Key) : Nat → List QEv3 → List (List Keylog.Key × MainLoop.Pkt × DgY)
  | _, [] => []
  | n, .mix _ _ u d :: rest => (kl, dgPkt fl d.x.base.srv u.payload n, d) :: mixItems3 fl kl (n + 1) rest
  | n, _ :: rest => mixItems3 fl kl (n + 1) rest

def oneItems3 (fl : Flow) : Nat → List QEv3 → List (MainLoop.Pkt × Dg1)
  | _, [] => []
  | n, .one _ _ u d :: rest => (dgPkt fl d.x.srv u.payload n, d) :: oneItems3 fl (n + 1) rest
  | n, _ :: rest => oneItems3 fl (n + 1) rest

/-- the datagrams of the interleaved part / of the 1-RTT-only part, in capture order -/
def mixOf : List QEv3 → List DgY
  | [] => []
  | .mix _ _ _ d :: rest => d :: mixOf rest
  | _ :: rest => mixOf rest

def onesOf3 : List QEv3 → List Dg1
  | [] => []
  | .one _ _ _ d :: rest => d :: onesOf3 rest
  | _ :: rest => onesOf3 rest

theorem mixItems3_dgs (fl : Flow) (kl : List Keylog.Key) (n : Nat) (evs : List QEv3) :
    (mixItems3 fl kl n evs).map (·.2.2) = mixOf evs := by
  induction evs generalizing n with
  | nil => rfl
  | cons ev rest ih => cases ev <;> simp [mixItems3, mixOf, ih]

theorem oneItems3_dgs (fl : Flow) (n : Nat) (evs : List QEv3) : (oneItems3 fl n evs).map (·.2) = onesOf3 evs := by
  induction evs generalizing n with
  | nil => rfl
  | cons ev rest ih => cases ev <;> simp [oneItems3, onesOf3, ih]

theorem ownIn_noise (fl : Flow) (kl : List Keylog.Key) (n : Nat) (evs : List QEv3) (h : ∀ ev ∈ evs, isNoise ev = true) :
    ownIn fl kl n evs = [] ∧ mixItems3 fl kl n evs = [] := by
  induction evs generalizing n with
  | nil => exact ⟨rfl, rfl⟩
  | cons ev rest ih =>
    have h1 := h ev (List.mem_cons_self ..)
    have := ih (n + 1) (fun e he => h e (List.mem_cons_of_mem _ he))
    cases ev <;> first | (simp [isNoise] at h1; done) | simpa [ownIn, QEv3.own, mixItems3] using this

theorem ownIn_phaseA (fl : Flow) (kl : List Keylog.Key) (n : Nat) (evs : List QEv3) (h : ∀ ev ∈ evs, okA ev = true) :
    ownIn fl kl n evs = (mixItems3 fl kl n evs).map fun x => (⟨x.1, hdrX x.2.2.x, x.2.1⟩ : QIn Keylog.Key) := by
  induction evs generalizing n with
  | nil => rfl
  | cons ev rest ih =>
    have h1 := h ev (List.mem_cons_self ..)
    have := ih (n + 1) (fun e he => h e (List.mem_cons_of_mem _ he))
    cases ev <;> first | (simp [okA] at h1; done) | simpa [ownIn, QEv3.own, mixItems3] using this

theorem ownIn_phaseB (fl : Flow) (kl : List Keylog.Key) (n : Nat) (evs : List QEv3) (h : ∀ ev ∈ evs, okB ev = true) :
    ownIn fl kl n evs = (oneItems3 fl n evs).map fun x => (⟨kl, .short, x.1⟩ : QIn Keylog.Key) := by
  induction evs generalizing n with
  | nil => rfl
  | cons ev rest ih =>
    have h1 := h ev (List.mem_cons_self ..)
    have := ih (n + 1) (fun e he => h e (List.mem_cons_of_mem _ he))
    cases ev <;> first | (simp [okB] at h1; done) | simpa [ownIn, QEv3.own, oneItems3] using this

theorem mixItems3_eq (fl : Flow) (kl : List Keylog.Key) (n : Nat) (evs : List QEv3) :
    mixItems3 fl kl n evs = Lemmas.pickFrom (fun n ev => match ev with
      | .mix _ _ u d => some (kl, dgPkt fl d.x.base.srv u.payload n, d)
      | _ => none) n evs := by
  induction evs generalizing n with
  | nil => rfl
  | cons ev rest ih => cases ev <;> simp only [mixItems3, Lemmas.pickFrom, ih]

theorem oneItems3_eq (fl : Flow) (n : Nat) (evs : List QEv3) :
    oneItems3 fl n evs = Lemmas.pickFrom (fun n ev => match ev with
      | .one _ _ u d => some (dgPkt fl d.x.srv u.payload n, d)
      | _ => none) n evs := by
  induction evs generalizing n with
  | nil => rfl
  | cons ev rest ih => cases ev <;> simp only [oneItems3, Lemmas.pickFrom, ih]

theorem mixItems3_mem (fl : Flow) (kl : List Keylog.Key) (evs : List QEv3) (n : Nat)
    (x : List Keylog.Key × MainLoop.Pkt × DgY) (hx : x ∈ mixItems3 fl kl n evs) :
    ∃ i t fr u d, evs[i]? = some (.mix t fr u d) ∧ x = (kl, dgPkt fl d.x.base.srv u.payload (n + i), d) := by
  rw [mixItems3_eq] at hx
  obtain ⟨i, ev, hi, hf⟩ := Lemmas.mem_pickFrom _ n evs x hx
  cases ev <;> first | exact ⟨i, _, _, _, _, hi, (Option.some.inj hf).symm⟩ | cases hf

theorem oneItems3_mem (fl : Flow) (evs : List QEv3) (n : Nat) (x : MainLoop.Pkt × Dg1) (hx : x ∈ oneItems3 fl n evs) :
    ∃ i t fr u d, evs[i]? = some (.one t fr u d) ∧ x = (dgPkt fl d.x.srv u.payload (n + i), d) := by
  rw [oneItems3_eq] at hx
  obtain ⟨i, ev, hi, hf⟩ := Lemmas.mem_pickFrom _ n evs x hx
  cases ev <;> first | exact ⟨i, _, _, _, _, hi, (Option.some.inj hf).symm⟩ | cases hf

/-- a described capture: every datagram of the connection with the frame of the independent encoder that carries it, its UDP
    part and the reader's time; `wA` / `wX` / `w1`: the wire bytes of the first attempt, of the interleaved part, of the
    1-RTT-only part -/
def QDescribed3 (fl : Flow) (wA : DgH → Bytes) (wX : DgX → Bytes) (w1 : Dg1 → Bytes) (o : Opts) (evs : List QEv3) : Prop :=
  ∀ ev ∈ evs, match ev with
    | .pre t fr u d => IsDg fl d.srv fr u ∧ u.payload = wA d ∧ d.ts = Container.usOfFloat t.toFloat ∧ HdrOk d
    | .retry _ fr u r => IsDg fl true fr u ∧ u.payload = r.encode ∧ r.wf ∧ r.version = [0, 0, 0, 1] ∧ r.scid.length ≤ 63
    | .mix t fr u d => IsDg fl d.x.base.srv fr u ∧ u.payload = wX d.x ∧ d.x.base.ts = Container.usOfFloat t.toFloat ∧
        HdrOkX d.x
    | .one t fr u d => IsDg fl d.x.srv fr u ∧ u.payload = w1 d ∧ d.x.ts = Container.usOfFloat t.toFloat ∧
        1 ≤ d.x.pnLen ∧ d.x.pnLen ≤ 4
    | .other e => dissect e.buf = .ok e.d
    | .foreign e => dissect e.buf = .ok e.d ∧ ∀ tag, NotQuic o (pktOf tag e.d)

end Phases
section Carry3
open TLX.Quic.Session TLX.Cipher TLX.Spec.KeySchedules TLX.Props.C02Capstone4
variable (H : Crypto.Prims) (Pc : Cipher.Prims)

theorem evBase_of_described (fl : Flow) (L : SealLaws Pc) (dcidA dcid0 : Bytes) (sel selR : SuiteSel)
    (sh ch sa ca e : Bytes) (o : Opts) (evs : List QEv3)
    (hd : QDescribed3 fl (dgWire H Pc L dcidA sel sh ch) (DgX.wire H Pc L dcid0 sel selR sh ch sa ca e)
      (wireOf H Pc L sel .v1 (rfcGen (hashOf H sel.hash) sel.keyLen sa ca 0)) o evs) :
    ∀ ev ∈ evs, EvBase fl o ev := by
  intro ev hev
  have := hd ev hev
  cases ev with
  | pre t fr u d =>
    obtain ⟨h1, h2, _, h4⟩ := this
    obtain ⟨b0, r, hw, hf, hp⟩ := hsHeader_dgWire H Pc L dcidA sel sh ch d h4
    exact ⟨h1, b0, r, by rw [h2, hw], hf, hp⟩
  | retry t fr u r =>
    obtain ⟨h1, h2, h3, h4, h5⟩ := this
    obtain ⟨b0, rest, hw, hf, hp⟩ := retry_wire_header r h4 h3.1 h3.2.2.1 h5
    exact ⟨h1, b0, rest, by rw [h2, hw], hf, hp⟩
  | mix t fr u d =>
    obtain ⟨h1, h2, _, h4⟩ := this
    obtain ⟨b0, r, hw, hf, hp⟩ := xHeader_wire H Pc L dcid0 sel selR sh ch sa ca e d.x h4
    exact ⟨h1, b0, r, by rw [h2, hw], hf, hp⟩
  | one t fr u d =>
    obtain ⟨h1, h2, _, h4, h5⟩ := this
    obtain ⟨b0, r, hw, hf, hp⟩ := oneHeader_wireOf H Pc L sel .v1 _ d h4 h5
    exact ⟨h1, b0, r, by rw [h2, hw], hf, hp⟩
  | other e => exact this
  | foreign e => exact this

theorem carriesX_of_described (fl : Flow) (hne : clientEp fl ≠ serverEp fl) (wA : DgH → Bytes) (wX : DgX → Bytes)
    (w1 : Dg1 → Bytes) (o : Opts) (kl : List Keylog.Key) (evs : List QEv3) (hd : QDescribed3 fl wA wX w1 o evs)
    (full pre post : List CapEv) (hfull : full = pre ++ evs.map QEv3.cap ++ post) (off : Nat) (hoff : pre.length = off) :
    ∀ x ∈ mixItems3 fl kl off evs, x.1 = kl ∧ x.2.1 = dgPkt fl x.2.2.x.base.srv (wX x.2.2.x) x.2.1.tag ∧
      ∀ c : QConn, c.client = clientEp fl → CarriesX (capInfo full) c wX x.2.1 x.2.2.x := by
  intro x hx
  obtain ⟨i, t, fr, u, d, hi, rfl⟩ := mixItems3_mem fl kl evs off x hx
  obtain ⟨hdg, hpay, hts, _⟩ := hd _ (List.mem_of_getElem? hi)
  have hinfo := capInfo_dg fl d.x.base.srv fr u hdg full _ t (cap_at QEv3.cap evs full pre post hfull off hoff i _ hi)
  exact ⟨rfl, by rw [hpay]; rfl, fun c hc => ⟨hpay, by show (capInfo full (off + i)).ts = _; rw [hinfo, hts],
    by rw [hc]; exact dgPkt_src_client fl hne _ _ _⟩⟩

theorem carries1_of_described (fl : Flow) (hne : clientEp fl ≠ serverEp fl) (wA : DgH → Bytes) (wX : DgX → Bytes)
    (w1 : Dg1 → Bytes) (o : Opts) (evs : List QEv3) (hd : QDescribed3 fl wA wX w1 o evs)
    (full pre post : List CapEv) (hfull : full = pre ++ evs.map QEv3.cap ++ post) (off : Nat) (hoff : pre.length = off) :
    ∀ x ∈ oneItems3 fl off evs, x.1 = dgPkt fl x.2.x.srv (w1 x.2) x.1.tag ∧
      ∀ c : QConn, c.client = clientEp fl → Carries (capInfo full) c w1 x.1 x.2 := by
  intro x hx
  obtain ⟨i, t, fr, u, d, hi, rfl⟩ := oneItems3_mem fl evs off x hx
  obtain ⟨hdg, hpay, hts, _⟩ := hd _ (List.mem_of_getElem? hi)
  have hinfo := capInfo_dg fl d.x.srv fr u hdg full _ t (cap_at QEv3.cap evs full pre post hfull off hoff i _ hi)
  exact ⟨by rw [hpay]; rfl, fun c hc => ⟨hpay, by show (capInfo full (off + i)).ts = _; rw [hinfo, hts],
    by rw [hc]; exact dgPkt_src_client fl hne _ _ _⟩⟩

end Carry3

section Session3
open TLX.Export TLX.Quic.Session TLX.Cipher TLX.Props.C02Session TLX.Spec.KeySchedules TLX.Props.C02Capstone4
variable (maskFn : Quic.Dissect.MaskFn) (H : Crypto.Prims) (Pc : Cipher.Prims)

/-- the other connections stay apart: the own run's single session stands among theirs -/
theorem among_others {κ τ ο : Type} (M : QuicMachine κ τ ο) (o : Opts) {A B C : List (QIn κ)} (hm : Merge A B C)
    (hAB : QuicSeparated M o A B) (hBA : QuicSeparated M o B A) (sess : QuicSess τ) (hown : quicRun M o [] A = [sess]) :
    ∃ S1 S2, quicRun M o [] C = S1 ++ [sess] ++ S2 := by
  have hmerge := C04.quic_route_exact M o hm hAB hBA
  rw [hown] at hmerge
  exact merge_singleton hmerge

theorem getElem?_append_cons {α : Type} (a : List α) (x : α) (b c : List α) : ((a ++ x :: b) ++ c)[a.length]? = some x := by
  rw [List.getElem?_append_left (by simp), List.getElem?_append_right (Nat.le_refl _)]; simp

/-- **the core.** The capture `(R ++ mix d0 :: restA) ++ evsB`: whatever came before (`R`: nothing of the connection, or its
    first Initial and the Retry), the first datagram `d0` of the interleaved part, the rest of it, the 1-RTT-only part;
    packets of other QUIC connections (separated, both ways) and anything else anywhere. `SS`: the sessions the connection's
    own datagrams of `R` leave; `hfirst`: the loop hands `d0` to the session `s` whose state before was `c` — fresh, or
    after the Retry. The connection has ONE session in `quic_sessions`; its export is `expectedOutX`. -/
theorem capture_session_gen (hl : H.Lawful) (L : SealLaws Pc)
    (o : Opts) (hoc : o.checksumTest = false) (keys : List Keylog.Key) (R : List QEv3) (t0 : Container.Time)
    (fr0 : Spec.FrameBuild.Frame) (u0 : Udp) (d0 : DgY) (restA evsB : List QEv3)
    (evs : List QEv3) (hevs : (R ++ .mix t0 fr0 u0 d0 :: restA) ++ evsB = evs)
    (cap : List CapEv) (hcap : evs.map QEv3.cap = cap)
    (htime : ∀ e ∈ cap, Ingest.isMinusOne e.t = false)
    (fl : Flow) (hne : clientEp fl ≠ serverEp fl)
    (cr csel ch sh ca sa e : Bytes) (sel selR : SuiteSel) (csR : Bytes) (hsel : selectSuite csel = some sel)
    (hselR : selectSuite csR = some selR)
    (ho : (hashOf H sel.hash).outLen < 65536)
    (hsa : sa.length = (hashOf H sel.hash).outLen) (hca : ca.length = (hashOf H sel.hash).outLen)
    (hkl : KeylogHas keys cr ch sh ca sa (some e))
    (hphA : ∀ ev ∈ restA, okA ev = true) (hphB : ∀ ev ∈ evsB, okB ev = true)
    (wA : DgH → Bytes)
    (hdesc : QDescribed3 fl wA (DgX.wire H Pc L d0.x.dcid sel selR sh ch sa ca e)
      (wireOf H Pc L sel .v1 (rfcGen (hashOf H sel.hash) sel.keyLen sa ca 0)) o
      evs)
    (hbase : ∀ ev ∈ evs, EvBase fl o ev)
    (hd0 : d0.x.base.srv = false) (hd0v : d0.x.ver = .v1)
    (t0' : Trk) (ecs0 : Option SuiteSel)
    (hok : YDgs maskFn H Pc L d0.x.dcid sel selR sh ch sa ca e t0' ecs0 (d0 :: mixOf restA))
    (htr : PTrace cr csel t0'.core (allInsM ((d0 :: mixOf restA).map (·.x.base))))
    (tF : Trk) (htF : ((d0 :: mixOf restA).map DgY.eff).foldl Trk.dgx t0' = tF)
    (hkeyed : tF.keyed = true)
    (hrouteA : RoutesY (DgX.wire H Pc L d0.x.dcid sel selR sh ch sa ca e) (t0'.dgx d0.eff) (mixOf restA))
    (hsend : Send1 maskFn H Pc L sel .v1 (rfcGen (hashOf H sel.hash) sel.keyLen sa ca 0)
      (quicHp (hashOf H sel.hash) ca sel.keyLen) (quicHp (hashOf H sel.hash) sa sel.keyLen)
      (chachaOf tF.core) 0 0 tF.tc.app tF.ts.app tF.cc tF.sc (onesOf3 evsB))
    (hrouteB : Routes1 (wireOf H Pc L sel .v1 (rfcGen (hashOf H sel.hash) sel.keyLen sa ca 0)) tF.cc tF.sc (onesOf3 evsB))
    (hadj : C02Out.DistinctAdjacent false (((d0 :: mixOf restA).map DgY.eff).map inDgX ++
      (onesOf3 evsB).map fun d => inDg d.x))
    (hsep1 : QuicSeparated (quicMachine maskFn H Pc (capInfo cap)) o
      (ownIn fl keys 0 evs) (othIn o keys 0 evs))
    (hsep2 : QuicSeparated (quicMachine maskFn H Pc (capInfo cap)) o
      (othIn o keys 0 evs) (ownIn fl keys 0 evs))
    -- what came before
    (SS : List (QuicSess QConn)) (s : QuicSess QConn) (c : QConn)
    (hR : quicRun (quicMachine maskFn H Pc (capInfo cap)) o [] (ownIn fl keys 0 R) = SS)
    (hfirst : quicHandleH (quicMachine maskFn H Pc (capInfo cap)) o keys (.long d0.x.dcid .v1) SS
      (dgPkt fl false u0.payload R.length) = [s])
    (hsst : s.st = (quicMachine maskFn H Pc (capInfo cap)).feed c keys (dgPkt fl false u0.payload R.length) d0.x.dcid
      d0.x.ver)
    (hss : s.server = serverEp fl) (hsc : s.client = clientEp fl) (hcc : c.client = clientEp fl)
    (hr : c.raised = none) (hout0 : expo c.st.out = [])
    (hsim : C02Sim.Sim H d0.x.dcid ch sh ca sa (some e) sel ⟨t0', ecs0⟩
      (feedPre H (params H Pc keys) c.st d0.x.dcid (sver d0.x.ver))) :
    CapOk cap ∧
    ∃ (S1 S2 : List (QuicSess QConn)) (sess : QuicSess QConn),
      quicRun (quicMachine maskFn H Pc (capInfo cap)) o [] (quicView o keys (itemsFrom 0 cap)) = S1 ++ [sess] ++ S2 ∧
      (quicMachine maskFn H Pc (capInfo cap)).out false sess.st =
        expectedOutX c ((d0 :: mixOf restA).map DgY.eff) (onesOf3 evsB) := by
  subst hevs
  let QM := quicMachine maskFn H Pc (capInfo cap)
  let wX := DgX.wire H Pc L d0.x.dcid sel selR sh ch sa ca e
  let w1 := wireOf H Pc L sel .v1 (rfcGen (hashOf H sel.hash) sel.keyLen sa ca 0)
  have hcapOk : CapOk cap := by rw [← hcap]; exact capOk3 fl o _ hbase (by rw [hcap]; exact htime)
  have hdA : QDescribed3 fl wA wX w1 o restA := fun ev he => hdesc ev (by simp [he])
  have hdB : QDescribed3 fl wA wX w1 o evsB := fun ev he => hdesc ev (by simp [he])
  obtain ⟨hdg0, hpay0, hts0, _⟩ := hdesc (QEv3.mix t0 fr0 u0 d0) (by simp)
  let p0 := dgPkt fl false u0.payload R.length
  have hinfo0 := capInfo_dg fl _ fr0 u0 hdg0 cap R.length t0
    (by rw [← hcap, List.getElem?_map, getElem?_append_cons]; rfl)
  have hcar0 : CarriesX (capInfo cap) c wX p0 d0.x :=
    ⟨hpay0, by show (capInfo cap R.length).ts = _; rw [hinfo0, hts0],
      by rw [hcc, hd0]; exact dgPkt_src_client fl hne _ _ _⟩
  have hown : ownIn fl keys 0 ((R ++ .mix t0 fr0 u0 d0 :: restA) ++ evsB) =
      ownIn fl keys 0 R ++ ((⟨keys, .long d0.x.dcid .v1, p0⟩ : QIn Keylog.Key) ::
        (((mixItems3 fl keys (R.length + 1) restA).map fun x => (⟨x.1, hdrX x.2.2.x, x.2.1⟩ : QIn Keylog.Key)) ++
          (oneItems3 fl (R ++ QEv3.mix t0 fr0 u0 d0 :: restA).length evsB).map fun x => (⟨keys, .short, x.1⟩ : QIn Keylog.Key))) := by
    have hh : hdrX d0.x = .long d0.x.dcid .v1 := by
      unfold hdrX; unfold DgX.ver at hd0v; split at hd0v
      · cases hd0v
      · rename_i hn; rw [if_neg hn]
    rw [ownIn_append, ownIn_append, Nat.zero_add]
    simp only [ownIn, QEv3.own, hh, hd0]
    rw [ownIn_phaseA fl keys _ restA hphA, ownIn_phaseB fl keys _ evsB hphB, Nat.zero_add, List.append_assoc]
    rfl
  have hview := quicView3 fl o hoc keys _ hbase 0
  rw [hcap] at hview
  let itemsA := mixItems3 fl keys (R.length + 1) restA
  let itemsB := oneItems3 fl (R ++ QEv3.mix t0 fr0 u0 d0 :: restA).length evsB
  have hcarA := carriesX_of_described fl hne wA wX w1 o keys restA hdA cap ((R ++ [QEv3.mix t0 fr0 u0 d0]).map QEv3.cap)
    (evsB.map QEv3.cap) (by rw [← hcap]; simp) (R.length + 1) (by simp)
  have hcarB := carries1_of_described fl hne wA wX w1 o evsB hdB cap ((R ++ QEv3.mix t0 fr0 u0 d0 :: restA).map QEv3.cap) []
    (by rw [← hcap]; simp) _ (List.length_map ..)
  obtain ⟨t1, t2⟩ := own_run_tail maskFn H Pc (capInfo cap) o hl L d0.x.dcid cr csel ch sh ca sa (some e) e sel selR csR hsel
    hselR ho hsa hca t0' ecs0 keys p0 d0 itemsA (mixOf restA) (mixItems3_dgs ..) tF htF
    (by
      intro x hx
      rcases List.mem_cons.mp hx with rfl | hx
      · exact hkl
      · rw [(hcarA x hx).1]; exact hkl)
    (fun _ _ _ => rfl) c hr hout0 hsim hok htr
    (by
      intro x hx
      rcases List.mem_cons.mp hx with rfl | hx
      · exact hcar0
      · exact (hcarA x hx).2.2 c hcc)
    hkeyed hrouteA keys itemsB (onesOf3 evsB) (oneItems3_dgs ..) (fun x hx => (hcarB x hx).2 c hcc) hsend hrouteB hadj
    s hsst (by rw [hsc, hcc])
    (by intro x hx; rw [(hcarA x hx).2.1]; exact dgPkt_matches fl s hss hsc _ _ _)
    (by intro x hx; rw [(hcarB x hx).1]; exact dgPkt_matches fl s hss hsc _ _ _)
  let F := C02Capstone.feedAll QM (yFeedAll QM c ((keys, p0, d0) :: itemsA)) (itemsB.map fun x => (keys, x.1, x.2))
  have hrunOwn : quicRun QM o [] (ownIn fl keys 0 ((R ++ .mix t0 fr0 u0 d0 :: restA) ++ evsB)) = [{ s with st := F }] := by
    rw [hown, quicRun_append, hR]
    simp only [quicRun_cons]
    rw [hfirst]
    exact t1
  obtain ⟨S1, S2, hS⟩ := among_others QM o hview hsep1 hsep2 _ hrunOwn
  exact ⟨hcapOk, S1, S2, _, hS, t2⟩

end Session3

section Prefix3
open TLX.Export TLX.Quic.Session TLX.Cipher TLX.Props.C02Session TLX.Spec.KeySchedules TLX.Props.C02Capstone4
variable (maskFn : Quic.Dissect.MaskFn) (H : Crypto.Prims) (Pc : Cipher.Prims)

/-- the session object of the flow: its address fields are the flow's, its MAC addresses those of the frame `frF` of the
    connection's first datagram -/
structure ConnIs (c : QConn) (o : Opts) (fl : Flow) (frF : Spec.FrameBuild.Frame) : Prop where
  client : c.client = clientEp fl
  server : c.server = serverEp fl
  ipv6 : c.ipv6 = fl.v6
  opts : c.opts = o
  smac : c.serverMac = frF.dstMac
  cmac : c.clientMac = frF.srcMac

theorem connIs_new (info : Nat → Pipeline.Info) (o : Opts) (ports : List Int) (hop : o.ports = ports) (fl : Flow)
    (hcp : ports.contains (fl.clientPort : Int) = false) (pl : Bytes) (i : Nat) (frF : Spec.FrameBuild.Frame) (us : Nat)
    (hinfo : info i = ⟨0, us, frF.srcMac, frF.dstMac, fl.v6⟩) :
    ConnIs ((quicMachine maskFn H Pc info).new o (dgPkt fl false pl i)) o fl frF ∧
    rolesOf o.ports (dgPkt fl false pl i) = (serverEp fl, clientEp fl) := by
  have hroles : rolesOf o.ports (dgPkt fl false pl i) = (serverEp fl, clientEp fl) := by
    rw [hop]; exact rolesOf_client fl ports hcp pl i
  refine ⟨⟨congrArg Prod.snd hroles, congrArg Prod.fst hroles, ?_, rfl, ?_, ?_⟩, hroles⟩
  · show (info i).ipv6 = _; rw [hinfo]
  · simp only [quicMachine_new, dgPkt, clientEp, hop, hcp, hinfo, Bool.false_eq_true, if_false]
  · simp only [quicMachine_new, dgPkt, clientEp, hop, hcp, hinfo, Bool.false_eq_true, if_false]

theorem ownIn_cons_noise (fl : Flow) (kl : List Keylog.Key) (n : Nat) (a : List QEv3) (ev : QEv3) (b : List QEv3)
    (ha : ∀ x ∈ a, isNoise x = true) :
    ownIn fl kl n (a ++ ev :: b) = ownIn fl kl (n + a.length) (ev :: b) := by
  rw [ownIn_append, (ownIn_noise fl kl n a ha).1, List.nil_append]

/-- **the client's first Initial and the server's Retry** through the main loop: ONE session, in the state the second
    attempt starts from -/
theorem retry_prefix (hl : H.Lawful) (h32 : H.sha256.outLen = 32) (L : SealLaws Pc) (o : Opts) (ports : List Int)
    (hop : o.ports = ports) (keys : List Keylog.Key) (fl : Flow) (hne : clientEp fl ≠ serverEp fl)
    (hcp : ports.contains (fl.clientPort : Int) = false)
    (cr csel ch sh ca sa : Bytes) (early : Option Bytes) (sel : SuiteSel) (hsel : selectSuite csel = some sel)
    (hkl : KeylogHas keys cr ch sh ca sa early)
    (n1 : List QEv3) (tA : Container.Time) (frA : Spec.FrameBuild.Frame) (uA : Udp) (dA : DgH)
    (n2 : List QEv3) (tR : Container.Time) (frR : Spec.FrameBuild.Frame) (uR : Udp) (r : Retry) (n3 : List QEv3)
    (hn1 : ∀ ev ∈ n1, isNoise ev = true) (hn2 : ∀ ev ∈ n2, isNoise ev = true) (hn3 : ∀ ev ∈ n3, isNoise ev = true)
    (cap : List CapEv)
    (hcapA : cap[n1.length]? = some (QEv3.pre tA frA uA dA).cap)
    (hdgA : IsDg fl dA.srv frA uA) (hpayA : uA.payload = dgWire H Pc L (dgDcid dA) sel sh ch dA)
    (htsA : dA.ts = Container.usOfFloat tA.toFloat) (hsrvA : dA.srv = false)
    (hpayR : uR.payload = r.encode) (hrwf : r.wf) (hrver : r.version = [0, 0, 0, 1])
    (hrscid : r.scid.length ≤ 63)
    (hokA : HsDgOk maskFn H Pc L (dgDcid dA) sel sh ch trk0 dA)
    (htrA : PTrace cr csel {} (insOf dA.pkts)) :
    let QM := quicMachine maskFn H Pc (capInfo cap)
    ∃ (s2 : QuicSess QConn),
      quicRun QM o [] (ownIn fl keys 0 (n1 ++ .pre tA frA uA dA :: (n2 ++ .retry tR frR uR r :: n3))) = [s2] ∧
      s2.server = serverEp fl ∧ s2.client = clientEp fl ∧ ConnIs s2.st o fl frA ∧ s2.st.raised = none ∧
      expo s2.st.st.out = [] ∧
      ∀ kl0 dcid', C02Sim.Sim H dcid' ch sh ca sa early sel ⟨(trk0.run dA.pkts).afterRetry, none⟩
        (feedPre H (params H Pc kl0) s2.st.st dcid' .v1) := by
  intro QM
  have hinfoA := capInfo_dg fl _ frA uA hdgA cap n1.length tA hcapA
  let pA := dgPkt fl false uA.payload n1.length
  let pR := dgPkt fl true uR.payload (n1.length + 1 + n2.length)
  obtain ⟨hci, hroles⟩ := connIs_new maskFn H Pc (capInfo cap) o ports hop fl hcp uA.payload n1.length frA _ hinfoA
  let c0 := QM.new o pA
  have hfresh := new_fresh maskFn H Pc (capInfo cap) o pA
  have hown : ownIn fl keys 0 (n1 ++ .pre tA frA uA dA :: (n2 ++ .retry tR frR uR r :: n3)) =
      [⟨keys, .long (dgDcid dA) .v1, pA⟩, ⟨keys, .long r.dcid .v1, pR⟩] := by
    rw [ownIn_cons_noise fl keys 0 n1 _ _ hn1, Nat.zero_add]
    simp only [ownIn, QEv3.own, hsrvA]
    rw [ownIn_cons_noise fl keys _ n2 _ _ hn2]
    simp only [ownIn, QEv3.own, (ownIn_noise fl keys _ n3 hn3).1]
    rfl
  have hpreA := (hfresh.sim keys h32 (dgDcid dA) sel ch sh ca sa early).2.2
  have hcarA : CarriesH (capInfo cap) c0 (dgWire H Pc L (dgDcid dA) sel sh ch) pA dA :=
    ⟨hpayA, by show (capInfo cap n1.length).ts = _; rw [hinfoA, htsA],
      by rw [hci.client, hsrvA]; exact dgPkt_src_client fl hne _ _ _⟩
  obtain ⟨a1, a2, _, a4, a5⟩ := C02Sim.feed_dg (V := hView)
    (C02Sim.steps_long maskFn H Pc hl L (dgDcid dA) cr csel ch sh ca sa early sel hsel) hkl (hView_ok ca sa none hokA) []
    hfresh.2 hpreA (by rw [List.append_nil]; exact htrA) (carriesG_of_H ca sa hcarA)
  let c1 := QM.feed c0 keys pA (dgDcid dA) .v1
  obtain ⟨r1, r2, r3, r4⟩ := retry_sim maskFn H Pc (capInfo cap) h32 keys keys (dgDcid dA) (dgDcid dA) r hrwf
    (by rw [hrver]; decide) hrscid (c := c1) a1 a2 pR hpayR r.dcid
  let s1 : QuicSess QConn := ⟨serverEp fl, clientEp fl, c1⟩
  have hends := a5.trans r2
  refine ⟨{ s1 with st := QM.feed c1 keys pR r.dcid .v1 }, ?_, rfl, rfl,
    ⟨hends.client.trans hci.client, hends.server.trans hci.server, hends.ipv6.trans hci.ipv6, hends.opts.trans hci.opts,
      hends.serverMac.trans hci.smac, hends.clientMac.trans hci.cmac⟩, r1, ?_, ?_⟩
  · rw [hown]
    simp only [quicRun_cons, quicRun_nil]
    rw [quicHandle_new]
    have hnew : quicNew QM o keys (.long (dgDcid dA) .v1) pA = s1 := by
      have hr' : rolesOf o.ports pA = (serverEp fl, clientEp fl) := hroles
      simp only [quicNew, hr', Hdr.dcid, Hdr.ver, s1]; rfl
    rw [hnew]
    exact quicHandle_long _ o keys _ _ pR s1 (dgPkt_matches fl s1 rfl rfl _ _ _)
  · show expo (QM.feed c1 keys pR r.dcid .v1).st.out = []
    rw [r3]
    have : expo c1.st.out = expo c0.st.out ++ expo (hView.out _ dA) := a4
    rw [this, hView_out1, hfresh.1]
    rfl
  · intro kl0 dcid'
    obtain ⟨_, _, _, q⟩ := retry_sim maskFn H Pc (capInfo cap) h32 keys kl0 (dgDcid dA) dcid' r hrwf
      (by rw [hrver]; decide) hrscid (c := c1) a1 a2 pR hpayR r.dcid
    rw [hView_after] at q
    exact q

end Prefix3

section RfcLayer
open TLX.Export TLX.Quic.Session TLX.Cipher TLX.Props.C02Session TLX.Spec.KeySchedules TLX.Props.C02Capstone4
open TLX.Props.C02Rfc TLX.Spec.RfcQuic
variable {maskFn : Quic.Dissect.MaskFn} {H : Crypto.Prims} {Pc : Cipher.Prims}

/-- `RoutesY` relative to the senders' connection IDs -/
def RoutesYR (w : DgX → Bytes) : RTrk → List DgY → Prop
  | _, [] => True
  | r, d :: ds => (d.x.base.longs = [] ∧ d.x.zr = [] → RouteOk (if d.x.base.srv then r.cc else r.sc) (w d.x) d.x.dcid) ∧
      RoutesYR w (r.dgx d.eff) ds

theorem routes_of_rfc (h : ConfHs) (hok : h.Ok) (L : SealLaws Pc) (dcid0 : Bytes) (sel selR : SuiteSel) (sh ch sa ca e : Bytes)
    (hsel : selectSuite h.sh.cipherSuite = some sel) (w : DgX → Bytes) (ds : List DgY) (a rest : List CryptoIn)
    (hins : h.ins = a ++ allInsM (ds.map (·.x.base)) ++ rest) (t : Trk) (r : RTrk) (hs : Sync a t r)
    (ecs : Option SuiteSel) (hecs : ecs = ecsFold {} a none)
    (hd : YDgsR maskFn H Pc L dcid0 sel selR sh ch sa ca e h a r ds) (hro : RoutesYR w r ds) : RoutesY w t ds := by
  induction ds generalizing a t r ecs with
  | nil => trivial
  | cons d ds ih =>
    obtain ⟨hd1, hd2⟩ := hd
    obtain ⟨r1, r2⟩ := hro
    have hins' : h.ins = a ++ insOf d.x.base.longs ++ (allInsM (ds.map (·.x.base)) ++ rest) := by
      rw [hins]; simp [allInsM, List.flatMap_cons, List.append_assoc]
    obtain ⟨_, y2, y3⟩ := ydg_of_rfc h hok L dcid0 sel selR sh ch sa ca e hsel d a _ hins' t r hs ecs hecs hd1
    exact ⟨by rw [hs.cc, hs.sc]; exact r1,
      ih (a ++ insOf d.x.base.longs) (by rw [hins']; simp [List.append_assoc]) (t.dgx d.eff) (r.dgx d.eff) y2 _ y3 hd2 r2⟩

def _root_.TLX.Props.C02Rfc.RTrk.afterRetry (r : RTrk) : RTrk := ⟨false, r.tc, r.ts, r.cc, r.sc⟩

theorem sync_afterRetry (a : List CryptoIn) (t : Trk) (r : RTrk) (h : Sync a t r) : Sync [] t.afterRetry r.afterRetry :=
  ⟨rfl, rfl, rfl, h.tc, h.ts, h.cc, h.sc⟩

theorem mix_of_rfc (h : ConfHs) (hok : h.Ok) (L : SealLaws Pc) (dcid0 : Bytes) (sel selR : SuiteSel) (sh ch sa ca e : Bytes)
    (hsel : selectSuite h.sh.cipherSuite = some sel) (w : DgX → Bytes) (d0 : DgY) (ds : List DgY)
    (hins : allInsM ((d0 :: ds).map (·.x.base)) = h.ins) (t : Trk) (r : RTrk) (hs : Sync [] t r)
    (hd : YDgsR maskFn H Pc L dcid0 sel selR sh ch sa ca e h [] r (d0 :: ds)) (hro : RoutesYR w (r.dgx d0.eff) ds) :
    YDgs maskFn H Pc L dcid0 sel selR sh ch sa ca e t none (d0 :: ds) ∧
    RoutesY w (t.dgx d0.eff) ds ∧
    (((d0 :: ds).map DgY.eff).foldl Trk.dgx t).keyed = true ∧
    chachaOf (((d0 :: ds).map DgY.eff).foldl Trk.dgx t).core = hpChacha sel ∧
    (((d0 :: ds).map DgY.eff).foldl Trk.dgx t).tc = (((d0 :: ds).map DgY.eff).foldl RTrk.dgx r).tc ∧
    (((d0 :: ds).map DgY.eff).foldl Trk.dgx t).ts = (((d0 :: ds).map DgY.eff).foldl RTrk.dgx r).ts ∧
    (((d0 :: ds).map DgY.eff).foldl Trk.dgx t).cc = (((d0 :: ds).map DgY.eff).foldl RTrk.dgx r).cc ∧
    (((d0 :: ds).map DgY.eff).foldl Trk.dgx t).sc = (((d0 :: ds).map DgY.eff).foldl RTrk.dgx r).sc := by
  have hins0 : h.ins = [] ++ allInsM ((d0 :: ds).map (·.x.base)) ++ [] := by rw [hins]; simp
  obtain ⟨y1, y2⟩ := ydgs_of_rfc h hok L dcid0 sel selR sh ch sa ca e hsel (d0 :: ds) [] [] hins0 t r hs none rfl hd
  rw [List.nil_append, hins] at y2
  have hany : h.ins.any (·.isServer) = true := by rw [ins_split]; simp [shIn, inOf]
  have hins1 : h.ins = [] ++ insOf d0.x.base.longs ++ (allInsM (ds.map (·.x.base)) ++ []) := by
    rw [← hins]; simp [allInsM, List.flatMap_cons]
  obtain ⟨_, z2, z3⟩ := ydg_of_rfc h hok L dcid0 sel selR sh ch sa ca e hsel d0 [] _ hins1 t r hs none rfl hd.1
  have hr := routes_of_rfc h hok L dcid0 sel selR sh ch sa ca e hsel w ds ([] ++ insOf d0.x.base.longs) []
    (by rw [hins1]; simp) (t.dgx d0.eff) (r.dgx d0.eff) z2 _ z3 hd.2 hro
  refine ⟨y1, hr, by rw [y2.keyed, y2.sent]; exact hany, ?_, y2.tc, y2.ts, y2.cc, y2.sc⟩
  rw [y2.core]
  exact chacha_sync h hok sel hsel _ (List.prefix_refl _) hany

end RfcLayer

section Block
open TLX.Export TLX.Quic.Session TLX.Cipher TLX.Props.C02Session

/-- one exported UDP frame: between the client's endpoint and the server's address with the exported port (`-m` map, else
    8080, or the original one), MAC addresses and IP version of the connection's first datagram, addressed by direction -/
def addrR (args : Args) (pm : List (Int × Int)) (fl : Flow) (frF : Spec.FrameBuild.Frame) (srv : Bool) (ts : Nat)
    (payload : Bytes) : Pipeline.OutPkt :=
  let s : MainLoop.Endpoint := ⟨(serverEp fl).ip,
    TcpOut.exportedServerPort (Options.keepOriginalPorts args.mArg) (Pipeline.portmapFn pm) (serverEp fl).port⟩
  if srv then ⟨ts, frF.dstMac, frF.srcMac, s, clientEp fl, fl.v6, 0, 0, 0, payload, true⟩
  else ⟨ts, frF.srcMac, frF.dstMac, clientEp fl, s, fl.v6, 0, 0, 0, payload, true⟩

/-- **what C02 demands**: one UDP frame per datagram of the interleaved part that carried STREAM data in an exported 0-RTT
    packet or in its 1-RTT packet (payload: the 0-RTT packets' data, then the 1-RTT packet's), then one per datagram of the
    1-RTT-only part that carried STREAM data — in capture order, at the datagram's capture microsecond -/
def blockAll (args : Args) (pm : List (Int × Int)) (fl : Flow) (frF : Spec.FrameBuild.Frame) (ds : List DgX) (bs : List Dg1) :
    List Pipeline.OutPkt :=
  ((ds.filter fun d => !d.data.isEmpty).map fun d => addrR args pm fl frF d.base.srv d.base.ts d.data.flatten) ++
    (bs.filter fun d => hasStream d.x.frames).map fun d => addrR args pm fl frF d.x.srv d.x.ts (streamData d.x.frames).flatten

theorem expectedOutX_block (args : Args) (pm : List (Int × Int)) (ports : List Int) (fl : Flow)
    (frF : Spec.FrameBuild.Frame) (c : QConn) (hc : ConnIs c (optsOf args ports pm) fl frF) (ds : List DgX) (bs : List Dg1) :
    expectedOutX c ds bs = blockAll args pm fl frF ds bs := by
  obtain ⟨c1, c2, c3, c4, m1, m2⟩ := hc
  have hadd : ∀ srv ts pl, addressed c ⟨srv, ts, pl⟩ = addrR args pm fl frF srv ts pl := by
    intro srv ts pl
    simp only [addressed, addrR, c1, c2, c3, c4, m1, m2]
    rfl
  unfold expectedOutX blockAll expectedOut
  congr 1
  · apply List.map_congr_left; intro d _; exact hadd _ _ _
  · apply List.map_congr_left; intro d _; exact hadd _ _ _

end Block

section All
open TLX.Export TLX.Quic.Session TLX.Cipher TLX.Props.C02Session TLX.Spec.KeySchedules TLX.Props.C02Capstone4
open TLX.Props.C02Rfc TLX.Spec.RfcQuic TLX.Spec.RfcSuite TLX.Lemmas.C01Rfc TLX.Props.C09Found TLX.Lemmas.ExportDemux
open TLX.Props.C01File2
variable (maskFn : Quic.Dissect.MaskFn) (H : Crypto.Prims) (Pc : Cipher.Prims)

/-- the client's first Initial datagram and the server's Retry, with what stands before and between them in the capture -/
structure RetryPart where
  n1 : List QEv3
  tA : Container.Time
  frA : Spec.FrameBuild.Frame
  uA : Udp
  dA : DgH
  n2 : List QEv3
  tR : Container.Time
  frR : Spec.FrameBuild.Frame
  uR : Udp
  r : Retry

def RetryPart.evs (x : RetryPart) : List QEv3 :=
  x.n1 ++ .pre x.tA x.frA x.uA x.dA :: (x.n2 ++ [.retry x.tR x.frR x.uR x.r])

def preOf : Option RetryPart → List QEv3
  | none => []
  | some x => x.evs

/-- the frame of the connection's first datagram (its MAC addresses go into the export) -/
def firstFrame : Option RetryPart → Spec.FrameBuild.Frame → Spec.FrameBuild.Frame
  | none, fr0 => fr0
  | some x, _ => x.frA

/-- the DCID of the client's first Initial (the Initial keys of the first attempt) -/
def dcidA : Option RetryPart → Bytes
  | none => []
  | some x => dgDcid x.dA

/-- the senders' bookkeeping when the interleaved part begins -/
def r0Of : Option RetryPart → RTrk
  | none => rtrk0
  | some x => (rtrk0.run x.dA.pkts).afterRetry

/-- the events of the capture: (Retry part) noise, the client's first datagram of the (second) attempt, the rest of the
    interleaved part, the 1-RTT-only part -/
def allEvs (rp : Option RetryPart) (preA : List QEv3) (t0 : Container.Time) (fr0 : Spec.FrameBuild.Frame) (u0 : Udp)
    (d0 : DgY) (restA evsB : List QEv3) : List QEv3 :=
  ((preOf rp ++ preA) ++ .mix t0 fr0 u0 d0 :: restA) ++ evsB

/-- **EVERYTHING `quic_capture_exact_all` assumes**, in RFC / file / capture terms. -/
structure QuicCaptureAll (L : SealLaws Pc) (args : Args) (ls : List (FLine × Bool)) (pm : List (Int × Int))
    (ports : List Int) (fl : Flow) (hs : ConfHs) (ch sh ca sa e : Bytes) (sp spR : SuiteSpec) (sel selR : SuiteSel)
    (csR : Bytes) (rp : Option RetryPart) (preA : List QEv3) (t0 : Container.Time) (fr0 : Spec.FrameBuild.Frame) (u0 : Udp)
    (d0 : DgY) (restA evsB : List QEv3) : Prop where
  /-- primitive laws -/
  lawful : H.Lawful
  sha256 : H.sha256.outLen = 32
  outLen : (hashOf H sel.hash).outLen < 65536
  /-- options and reader -/
  times : ∀ e ∈ (allEvs rp preA t0 fr0 u0 d0 restA evsB).map QEv3.cap, Ingest.isMinusOne e.t = false
  noc : args.checksumTest = false
  nometa : args.metadata = false
  pmOk : Options.getPortMap Options.Src.bare args.mArg = .ok pm
  portsOk : Options.serverPorts Options.Src.builtin Options.Src.pDefault args.pArg = .ok ports
  endpoints : clientEp fl ≠ serverEp fl
  clientPort : ports.contains (fl.clientPort : Int) = false
  /-- RFC 8446 handshake; suites by the registry: the selected one, and the one of the resumed session (0-RTT) -/
  hsOk : hs.Ok
  tls13 : hs.sh.cipherSuite ∈ tls13Codes
  suite : quicSuite (Bytes.beNat hs.sh.cipherSuite) = some (sp, sel)
  tls13R : csR ∈ tls13Codes
  suiteR : quicSuite (Bytes.beNat csR) = some (spR, selR)
  saLen : sa.length = (hashOf H sel.hash).outLen
  caLen : ca.length = (hashOf H sel.hash).outLen
  /-- the key-log file, as text: the connection's five NSS lines -/
  linesWf : ∀ x ∈ ls, x.1.WF
  lineCH : HasLine ls labelCHTS (Pipeline.natsOfBytes hs.ch.random) (Pipeline.natsOfBytes ch)
  lineSH : HasLine ls labelSHTS (Pipeline.natsOfBytes hs.ch.random) (Pipeline.natsOfBytes sh)
  lineCA : HasLine ls labelCTS0 (Pipeline.natsOfBytes hs.ch.random) (Pipeline.natsOfBytes ca)
  lineSA : HasLine ls labelSTS0 (Pipeline.natsOfBytes hs.ch.random) (Pipeline.natsOfBytes sa)
  lineE : HasLine ls labelCETS (Pipeline.natsOfBytes hs.ch.random) (Pipeline.natsOfBytes e)
  onlyCH : OnlySecret ls labelCHTS (Pipeline.natsOfBytes hs.ch.random) (Pipeline.natsOfBytes ch)
  onlySH : OnlySecret ls labelSHTS (Pipeline.natsOfBytes hs.ch.random) (Pipeline.natsOfBytes sh)
  onlyCA : OnlySecret ls labelCTS0 (Pipeline.natsOfBytes hs.ch.random) (Pipeline.natsOfBytes ca)
  onlySA : OnlySecret ls labelSTS0 (Pipeline.natsOfBytes hs.ch.random) (Pipeline.natsOfBytes sa)
  onlyE : OnlySecret ls labelCETS (Pipeline.natsOfBytes hs.ch.random) (Pipeline.natsOfBytes e)
  /-- the capture: what stands where -/
  noiseR : ∀ x, rp = some x → (∀ ev ∈ x.n1, isNoise ev = true) ∧ (∀ ev ∈ x.n2, isNoise ev = true)
  noiseA : ∀ ev ∈ preA, isNoise ev = true
  phaseA : ∀ ev ∈ restA, okA ev = true
  phaseB : ∀ ev ∈ evsB, okB ev = true
  fromClient : d0.x.base.srv = false
  firstLong : d0.x.ver = .v1
  described : QDescribed3 fl (dgWire H Pc L (dcidA rp) sel sh ch) (DgX.wire H Pc L d0.x.dcid sel selR sh ch sa ca e)
    (wireOf H Pc L sel .v1 (rfcGen (hashOf H sel.hash) sel.keyLen sa ca 0)) (optsOf args ports pm)
    (allEvs rp preA t0 fr0 u0 d0 restA evsB)
  /-- the senders: first attempt (if a Retry follows), interleaved part, 1-RTT-only part — relative to THEIR bookkeeping -/
  retryOk : ∀ x, rp = some x → x.dA.srv = false ∧
    HsDgR maskFn H Pc L (dgDcid x.dA) sel sh ch rtrk0 x.dA ∧ ∃ rest, hs.ins = insOf x.dA.pkts ++ rest
  mixDgs : YDgsR maskFn H Pc L d0.x.dcid sel selR sh ch sa ca e hs [] (r0Of rp) (d0 :: mixOf restA)
  mixIns : allInsM ((d0 :: mixOf restA).map (·.x.base)) = hs.ins
  routesA : RoutesYR (DgX.wire H Pc L d0.x.dcid sel selR sh ch sa ca e) ((r0Of rp).dgx d0.eff) (mixOf restA)
  send1 : Send1 maskFn H Pc L sel .v1 (rfcGen (hashOf H sel.hash) sel.keyLen sa ca 0)
      (quicHp (hashOf H sel.hash) ca sel.keyLen) (quicHp (hashOf H sel.hash) sa sel.keyLen) (hpChacha sel) 0 0
      (((d0 :: mixOf restA).map DgY.eff).foldl RTrk.dgx (r0Of rp)).tc.app
      (((d0 :: mixOf restA).map DgY.eff).foldl RTrk.dgx (r0Of rp)).ts.app
      (((d0 :: mixOf restA).map DgY.eff).foldl RTrk.dgx (r0Of rp)).cc
      (((d0 :: mixOf restA).map DgY.eff).foldl RTrk.dgx (r0Of rp)).sc (onesOf3 evsB)
  routesB : Routes1 (wireOf H Pc L sel .v1 (rfcGen (hashOf H sel.hash) sel.keyLen sa ca 0))
      (((d0 :: mixOf restA).map DgY.eff).foldl RTrk.dgx (r0Of rp)).cc
      (((d0 :: mixOf restA).map DgY.eff).foldl RTrk.dgx (r0Of rp)).sc (onesOf3 evsB)
  /-- C02's quantifier: consecutive exported datagrams are told apart by (capture microsecond, direction) -/
  distinct : C02Out.DistinctAdjacent false (((d0 :: mixOf restA).map DgY.eff).map inDgX ++
      (onesOf3 evsB).map fun d => inDg d.x)
  /-- the other QUIC connections of the capture are separated from this one ON THE CAPTURE (`CaptureSeparated`: other
      4-tuples; no long-header DCID, no short-header prefix that is a connection ID the other side's sessions ever hold),
      both ways -/
  sepOwn : CaptureSeparated (quicMachine maskFn H Pc (capInfo ((allEvs rp preA t0 fr0 u0 d0 restA evsB).map QEv3.cap)))
      (optsOf args ports pm)
      (ownIn fl ((fileKeysOf (some (fileText ls))).getD []) 0 (allEvs rp preA t0 fr0 u0 d0 restA evsB))
      (othIn (optsOf args ports pm) ((fileKeysOf (some (fileText ls))).getD []) 0 (allEvs rp preA t0 fr0 u0 d0 restA evsB))
  sepOther : CaptureSeparated (quicMachine maskFn H Pc (capInfo ((allEvs rp preA t0 fr0 u0 d0 restA evsB).map QEv3.cap)))
      (optsOf args ports pm)
      (othIn (optsOf args ports pm) ((fileKeysOf (some (fileText ls))).getD []) 0 (allEvs rp preA t0 fr0 u0 d0 restA evsB))
      (ownIn fl ((fileKeysOf (some (fileText ls))).getD []) 0 (allEvs rp preA t0 fr0 u0 d0 restA evsB))

variable {maskFn H Pc}

theorem hsDgOk_of_rfc (h : ConfHs) (hok : h.Ok) (L : SealLaws Pc) (sel : SuiteSel) (sh ch : Bytes)
    (hsel : selectSuite h.sh.cipherSuite = some sel) (dA : DgH) (rest : List CryptoIn)
    (hins : h.ins = insOf dA.pkts ++ rest) (hd : HsDgR maskFn H Pc L (dgDcid dA) sel sh ch rtrk0 dA) :
    HsDgOk maskFn H Pc L (dgDcid dA) sel sh ch trk0 dA ∧ Sync (insOf dA.pkts) (trk0.run dA.pkts) (rtrk0.run dA.pkts) := by
  obtain ⟨d1, d2, d3⟩ := hd
  obtain ⟨p1, p2⟩ := pks_of_rfc h hok L (dgDcid dA) sel sh ch hsel dA.pkts [] rest (by simpa using hins) trk0 rtrk0 sync0 d3
  exact ⟨⟨d1, d2, p1⟩, by simpa using p2⟩

theorem session_of_all {L : SealLaws Pc} {args : Args} {ls : List (FLine × Bool)} {pm : List (Int × Int)}
    {ports : List Int} {fl : Flow} {hs : ConfHs} {ch sh ca sa e : Bytes} {sp spR : SuiteSpec} {sel selR : SuiteSel}
    {csR : Bytes} {rp : Option RetryPart} {preA : List QEv3} {t0 : Container.Time} {fr0 : Spec.FrameBuild.Frame} {u0 : Udp}
    {d0 : DgY} {restA evsB : List QEv3}
    (h : QuicCaptureAll maskFn H Pc L args ls pm ports fl hs ch sh ca sa e sp spR sel selR csR rp preA t0 fr0 u0 d0 restA
      evsB) :
    CapOk ((allEvs rp preA t0 fr0 u0 d0 restA evsB).map QEv3.cap) ∧
    ∃ (S1 S2 : List (QuicSess QConn)) (sess : QuicSess QConn),
      quicRun (quicMachine maskFn H Pc (capInfo ((allEvs rp preA t0 fr0 u0 d0 restA evsB).map QEv3.cap)))
        (optsOf args ports pm) []
        (quicView (optsOf args ports pm) ((fileKeysOf (some (fileText ls))).getD [])
          (itemsFrom 0 ((allEvs rp preA t0 fr0 u0 d0 restA evsB).map QEv3.cap))) = S1 ++ [sess] ++ S2 ∧
      (quicMachine maskFn H Pc (capInfo ((allEvs rp preA t0 fr0 u0 d0 restA evsB).map QEv3.cap))).out args.metadata sess.st =
        blockAll args pm fl (firstFrame rp fr0) ((d0 :: mixOf restA).map DgY.eff) (onesOf3 evsB) := by
  obtain ⟨hsel, _, _⟩ := selectSuite_tls13 _ h.tls13 sp sel h.suite
  obtain ⟨hselR, _, _⟩ := selectSuite_tls13 _ h.tls13R spR selR h.suiteR
  have hkl : KeylogHas ((fileKeysOf (some (fileText ls))).getD []) hs.ch.random ch sh ca sa (some e) :=
    keylogHas_text ls h.linesWf _ _ _ _ _ (some e) h.lineCH h.lineSH h.lineCA h.lineSA h.onlyCH h.onlySH h.onlyCA h.onlySA
      ⟨h.lineE, h.onlyE⟩
  have hbase := evBase_of_described H Pc fl L (dcidA rp) d0.x.dcid sel selR sh ch sa ca e _ _ h.described
  have hsep1 := quicSeparated_of_capture _ _ h.sepOwn
  have hsep2 := quicSeparated_of_capture _ _ h.sepOther
  have htrAll := ptrace_of_conformant hs h.hsOk
  rw [h.nometa]
  generalize hkeys : (fileKeysOf (some (fileText ls))).getD [] = keys at *
  obtain ⟨hdg0, _, _, _⟩ := h.described (QEv3.mix t0 fr0 u0 d0) (by simp [allEvs])
  rw [h.fromClient] at hdg0
  have hop : (optsOf args ports pm).ports = ports := rfl
  cases rp with
  | none =>
    -- no Retry: the first datagram creates the session
    obtain ⟨m1, m2, m3, m4, m5, m6, m7, m8⟩ := mix_of_rfc hs h.hsOk L d0.x.dcid sel selR sh ch sa ca e hsel
      (DgX.wire H Pc L d0.x.dcid sel selR sh ch sa ca e) d0 (mixOf restA) h.mixIns trk0 rtrk0 sync0 h.mixDgs h.routesA
    have hinfo0 := capInfo_dg fl _ fr0 u0 hdg0 ((allEvs none preA t0 fr0 u0 d0 restA evsB).map QEv3.cap) preA.length t0 (by
      rw [List.getElem?_map]
      show (((preA ++ QEv3.mix t0 fr0 u0 d0 :: restA) ++ evsB)[preA.length]?).map _ = _
      rw [getElem?_append_cons]; rfl)
    obtain ⟨hci, hroles⟩ := connIs_new maskFn H Pc _ (optsOf args ports pm) ports hop fl h.clientPort u0.payload preA.length
      fr0 _ hinfo0
    have hfresh := new_fresh maskFn H Pc (capInfo ((allEvs none preA t0 fr0 u0 d0 restA evsB).map QEv3.cap))
      (optsOf args ports pm) (dgPkt fl false u0.payload preA.length)
    have hv0 : sver d0.x.ver = .v1 := by rw [h.firstLong]; rfl
    obtain ⟨k1, S1, S2, sess, k2, k3⟩ := capture_session_gen maskFn H Pc h.lawful L (optsOf args ports pm) h.noc keys preA
      t0 fr0 u0 d0 restA evsB _ rfl _ rfl h.times fl h.endpoints hs.ch.random hs.sh.cipherSuite ch sh ca sa e sel selR csR hsel hselR
      h.outLen h.saLen h.caLen hkl h.phaseA h.phaseB _ h.described hbase h.fromClient h.firstLong trk0 none m1
      (by rw [h.mixIns]; exact htrAll) _ rfl m3 m2
      (by rw [m4, m5, m6, m7, m8]; exact h.send1) (by rw [m7, m8]; exact h.routesB) h.distinct hsep1 hsep2
      [] ⟨serverEp fl, clientEp fl, _⟩ _
      (by rw [(ownIn_noise fl keys 0 preA h.noiseA).1]; rfl)
      (by
        rw [quicHandle_new]
        simp only [quicNew, hroles, Hdr.dcid, Hdr.ver, h.firstLong]
        rfl)
      rfl rfl rfl hci.client hfresh.2 (by rw [hfresh.1]; rfl)
      (by rw [hv0]; exact (hfresh.sim keys h.sha256 d0.x.dcid sel ch sh ca sa (some e)).2.2)
    exact ⟨k1, S1, S2, sess, k2, k3.trans (expectedOutX_block args pm ports fl fr0 _ hci _ _)⟩
  | some x =>
    obtain ⟨hsrvA, hdgRfc, restIns, hinsA⟩ := h.retryOk x rfl
    obtain ⟨hn1, hn2⟩ := h.noiseR x rfl
    obtain ⟨hokA, hsyncA⟩ := hsDgOk_of_rfc hs h.hsOk L sel sh ch hsel x.dA restIns hinsA hdgRfc
    obtain ⟨m1, m2, m3, m4, m5, m6, m7, m8⟩ := mix_of_rfc hs h.hsOk L d0.x.dcid sel selR sh ch sa ca e hsel
      (DgX.wire H Pc L d0.x.dcid sel selR sh ch sa ca e) d0 (mixOf restA) h.mixIns (trk0.run x.dA.pkts).afterRetry
      (rtrk0.run x.dA.pkts).afterRetry (sync_afterRetry _ _ _ hsyncA) h.mixDgs h.routesA
    have hReq : preOf (some x) ++ preA = x.n1 ++ .pre x.tA x.frA x.uA x.dA :: (x.n2 ++ .retry x.tR x.frR x.uR x.r :: preA) := by
      simp [preOf, RetryPart.evs, List.append_assoc]
    obtain ⟨hA1, hA2, hA3, _⟩ := h.described (QEv3.pre x.tA x.frA x.uA x.dA) (by simp [allEvs, preOf, RetryPart.evs])
    obtain ⟨hR1, hR2, hR3, hR4, hR5⟩ := h.described (QEv3.retry x.tR x.frR x.uR x.r) (by simp [allEvs, preOf, RetryPart.evs])
    have hcapA : ((allEvs (some x) preA t0 fr0 u0 d0 restA evsB).map QEv3.cap)[x.n1.length]? =
        some (QEv3.pre x.tA x.frA x.uA x.dA).cap := by
      rw [List.getElem?_map]
      simp [allEvs, preOf, RetryPart.evs]
    obtain ⟨s2, q1, q2, q3, q4, q5, q6, q7⟩ := retry_prefix maskFn H Pc h.lawful h.sha256 L (optsOf args ports pm) ports hop keys fl
      h.endpoints h.clientPort hs.ch.random hs.sh.cipherSuite ch sh ca sa (some e) sel hsel hkl x.n1 x.tA x.frA x.uA x.dA x.n2
      x.tR x.frR x.uR x.r preA hn1 hn2 h.noiseA ((allEvs (some x) preA t0 fr0 u0 d0 restA evsB).map QEv3.cap) hcapA hA1 hA2 hA3
      hsrvA hR2 hR3 hR4 hR5 hokA (ptrace_prefix _ _ _ _ restIns (by rw [← hinsA]; exact htrAll))
    have hv0 : sver d0.x.ver = .v1 := by rw [h.firstLong]; rfl
    obtain ⟨k1, S1, S2, sess, k2, k3⟩ := capture_session_gen maskFn H Pc h.lawful L (optsOf args ports pm) h.noc keys
      (preOf (some x) ++ preA) t0 fr0 u0 d0 restA evsB _ rfl _ rfl h.times fl h.endpoints hs.ch.random hs.sh.cipherSuite ch sh ca sa e
      sel selR csR hsel hselR h.outLen h.saLen h.caLen hkl h.phaseA h.phaseB _ h.described hbase h.fromClient h.firstLong
      (trk0.run x.dA.pkts).afterRetry none m1 (by rw [h.mixIns]; exact htrAll) _ rfl m3 m2
      (by rw [m4, m5, m6, m7, m8]; exact h.send1) (by rw [m7, m8]; exact h.routesB) h.distinct hsep1 hsep2
      [s2] ⟨s2.server, s2.client, _⟩ s2.st
      (by have q1' := q1; rw [← hReq] at q1'; exact q1')
      (by
        rw [h.firstLong]
        exact quicHandle_long _ _ keys _ _ _ s2 (dgPkt_matches fl s2 q2 q3 _ _ _))
      rfl q2 q3 q4.client q5 q6 (by rw [hv0]; exact q7 keys d0.x.dcid)
    exact ⟨k1, S1, S2, sess, k2, k3.trans (expectedOutX_block args pm ports fl x.frA _ q4 _ _)⟩

/-- **C02, ALL TOGETHER, FROM FILE TO FILE.** A capture FILE in any container variant (independent encoder) and the TEXT of a
    key-log file. The capture holds — among packets the loop does not take for QUIC (TLS over TCP, anything else) and
    capture-separated other QUIC connections — the datagrams of ONE conformant QUIC v1 connection:
    optionally the client's first Initial and the server's Retry; the (second) attempt as one interleaved history of
    datagrams of coalesced packets of all levels — ClientHello cut and ordered in any way, 0-RTT packets of the resumed suite
    anywhere, 0.5-RTT data, 1-RTT packets behind Handshake packets; then any conformant 1-RTT history (key updates,
    connection-ID switches, packet-number gaps). The key-log text has the connection's five NSS lines. Then the output file
    (unless scapy / dpkt refuse a frame: `quic_capture_all_ranges` removes the alternative) reads back, as the block of the
    connection's session, exactly `blockAll`: one UDP frame per datagram that carried STREAM data, in capture order,
    payload = that datagram's stream data, addressed by direction with the exported server port, at the datagram's
    capture microsecond. 0-RTT data is included when the tool's Early keys are the client's (`DgY.good`; `YDgR.early`:
    before the ServerHello iff the resumed suite is the FIRST of the client's offer, after it iff it is the selected one)
    and missing otherwise (`RejectedT`). -/
theorem quic_capture_exact_all {L : SealLaws Pc} {args : Args} {ls : List (FLine × Bool)} {pm : List (Int × Int)}
    {ports : List Int} {fl : Flow} {hs : ConfHs} {ch sh ca sa e : Bytes} {sp spR : SuiteSpec} {sel selR : SuiteSel}
    {csR : Bytes} {rp : Option RetryPart} {preA : List QEv3} {t0 : Container.Time} {fr0 : Spec.FrameBuild.Frame} {u0 : Udp}
    {d0 : DgY} {restA evsB : List QEv3}
    (h : QuicCaptureAll maskFn H Pc L args ls pm ports fl hs ch sh ca sa e sp spR sel selR csR rp preA t0 fr0 u0 d0 restA
      evsB)
    (cv : Spec.Containers.Variant) (cevs : List Spec.Containers.Ev) (hcwf : cv.WF cevs)
    (hitems : cevs.filterMap (Spec.Containers.scale cv) =
      ((allEvs rp preA t0 fr0 u0 d0 restA evsB).map QEv3.cap).map CapEv.item) :
    (∃ e', exportFile maskFn H Pc args cv.isLegacy (some (fileText ls)) (Spec.Containers.encode cv cevs) = .abort (.write e')) ∨
    ∃ f, exportFile maskFn H Pc args cv.isLegacy (some (fileText ls)) (Spec.Containers.encode cv cevs) = .file f ∧
      ReadsBack f (blockAll args pm fl (firstFrame rp fr0) ((d0 :: mixOf restA).map DgY.eff) (onesOf3 evsB)) := by
  obtain ⟨hcap, S1, S2, sess, hq, hblk⟩ := session_of_all h
  exact export_of_quic_session_among maskFn H Pc args cv.isLegacy (some (fileText ls)) _ _
    (by rw [Props.C12.reader_roundtrip cv cevs hcwf, hitems]) hcap h.noc pm ports h.pmOk h.portsOk S1 S2 sess hq _ hblk

/-- **C02, all together, no write abort.** `quic_capture_exact_all` WITHOUT the write-abort alternative, also when other
    sessions export: when every frame the run hands to the writer — the block of this connection, the blocks of the other
    QUIC and TLS sessions — is taken by the write loop (`WritesOk`: scapy serialises it, dpkt stores its time), the file IS
    written and reads back, as the block of the connection's session, exactly `blockAll`. -/
theorem quic_capture_all_ranges {L : SealLaws Pc} {args : Args} {ls : List (FLine × Bool)} {pm : List (Int × Int)}
    {ports : List Int} {fl : Flow} {hs : ConfHs} {ch sh ca sa e : Bytes} {sp spR : SuiteSpec} {sel selR : SuiteSel}
    {csR : Bytes} {rp : Option RetryPart} {preA : List QEv3} {t0 : Container.Time} {fr0 : Spec.FrameBuild.Frame} {u0 : Udp}
    {d0 : DgY} {restA evsB : List QEv3}
    (h : QuicCaptureAll maskFn H Pc L args ls pm ports fl hs ch sh ca sa e sp spR sel selR csR rp preA t0 fr0 u0 d0 restA
      evsB)
    (cv : Spec.Containers.Variant) (cevs : List Spec.Containers.Ev) (hcwf : cv.WF cevs)
    (hitems : cevs.filterMap (Spec.Containers.scale cv) =
      ((allEvs rp preA t0 fr0 u0 d0 restA evsB).map QEv3.cap).map CapEv.item)
    (hall : ∀ out, framesFrom maskFn H Pc freshState args (fileKeysOf (some (fileText ls)))
        (itemsFrom 0 ((allEvs rp preA t0 fr0 u0 d0 restA evsB).map QEv3.cap))
        (capInfo ((allEvs rp preA t0 fr0 u0 d0 restA evsB).map QEv3.cap)) = .ok out → ∀ q ∈ out, WritesOk q) :
    ∃ f, exportFile maskFn H Pc args cv.isLegacy (some (fileText ls)) (Spec.Containers.encode cv cevs) = .file f ∧
      ReadsBack f (blockAll args pm fl (firstFrame rp fr0) ((d0 :: mixOf restA).map DgY.eff) (onesOf3 evsB)) := by
  rcases quic_capture_exact_all h cv cevs hcwf hitems with habort | hfile
  · exfalso
    exact no_abort_of_all_fit maskFn H Pc args cv.isLegacy (some (fileText ls)) _ _
      (by rw [Props.C12.reader_roundtrip cv cevs hcwf, hitems]) (session_of_all h).1 h.noc hall habort
  · exact hfile

end All

end TLX.Props.C02All
