/-
Whole-program forms of C08, C13, C10, C07 for TLS: theorems about what `run()` hands to the writer
(`TLX.Export.framesFrom`, which `exportFile` serialises), lifting the per-connection results of `Props/C01Pipeline`
through the demultiplexer of `TLX.MainLoop` and (C08) the read loop of `TLX.Ingest`.

Vocabulary (`Lemmas/ExportProps`): `optsOf args` the options the loop runs with; `tlsConvs o xs` the TLS conversation
objects of a run in creation order; `keysOf fk xs` the key log at the end of the run (`-s` file, then DSB items);
`tlsFrames o fk xs` the exported frames conversation by conversation; `framesFrom_ok`: the output of `framesFrom` is
`(tlsFrames …).flatten ++ QUIC part`. `ListExt R x y`: `y` extends `x` element by element (related by `R`), more at the end.

1. C08  `cut_sessions_prefix` (demux of a cut capture), `export_cut_prefix_tls_items`, `export_cut_prefix_tls`
        (`framesFrom` level), `export_cut_prefix_tls_ingest` (through `Ingest.itemsWith`, both containers, stated on what
        the reader yields for the two files). Hypothesis `hkeys`: no DSB key material in the removed suffix — NEEDED:
        `Ex.cut_before_late_dsb_not_prefix`, replayed on the real tool (`harness/export_props_replay.py`).
        The hypotheses `hfull`, `hcut` of `export_cut_prefix_tls_ingest` ("the file cut after its k-th record is read to
        the first k items") are discharged for the independent encoder in `Props/ExportInputs2` (`read_cut`,
        `export_cut_prefix_tls_file`).
2. C13  `export_meta_only_adds_items`      3. C10  `export_ports_tls_items`      4. C07  `export_time_and_ends_tls_items`
All for EVERY capture item list, key log, options, hash suite, cipher primitives; QUIC items, DSBs, foreign and ignored
frames may be mixed in anywhere.
-/
import TLX.Lemmas.ExportProps
namespace TLX.Props.ExportProps
open TLX TLX.MainLoop TLX.Export TLX.Spec.Demux TLX.Lemmas.ExportProps TLX.Props.C01Pipeline TLX.Lemmas.Pipeline TLX.Lemmas.MainLoop

variable (mask : Quic.Dissect.MaskFn) (H : Crypto.Prims) (P : Cipher.Prims) (info : Nat → Pipeline.Info)

/-- demultiplexing of a cut capture: the TLS conversations of the first `n` items are, in the same creation order, the
    first conversations of the whole capture, each cut after some of its packets (same server / client address, same
    options); conversations created later are absent -/
theorem cut_sessions_prefix (o : Opts) (xs : List (Item Keylog.Key)) (n : Nat) :
    ListExt ConnCut (tlsConvs H P info o (xs.take n)) (tlsConvs H P info o xs) :=
  (tlsRun_prefix_ext (Pipeline.tlsMachine H P info) o [] (tcpView_take_prefix o xs n)).imp
    fun _ _ r => connCut_of_ext H P info r

/-- TLS: if the TLS-relevant TCP packets of `xs'` are the first ones of `xs` and both runs end with the same key log, then
    conversation by conversation (creation order) the frames of `xs'` are a frame-by-frame prefix of those of `xs`;
    conversations that start later are absent. -/
theorem tlsFrames_prefix_of_view (o : Opts) (fk fk' : Option (List Keylog.Key)) (xs' xs : List (Item Keylog.Key))
    (hv : tcpView o xs' <+: tcpView o xs) (hk : keysOf fk' xs' = keysOf fk xs) :
    ListExt (fun fa fb : List Pipeline.OutPkt => fa <+: fb) (tlsFrames H P info o fk' xs') (tlsFrames H P info o fk xs) := by
  have hc : ListExt ConnCut (tlsConvs H P info o xs') (tlsConvs H P info o xs) :=
    (tlsRun_prefix_ext (Pipeline.tlsMachine H P info) o [] hv).imp fun _ _ r => connCut_of_ext H P info r
  unfold tlsFrames
  rw [hk]
  refine ListExt.map _ _ ?_ hc
  intro a b ⟨_, _, k, hk'⟩
  obtain ⟨fa, fb, h1, h2, h3⟩ := connOut_take_prefix H P info b.st (keysOf fk xs) k
  simp only [convFrames, hk', h1, h2, Option.getD_some]
  exact h3

/-- **C08, whole program, items level.** Cut the capture after its first `n` items (packets, DSBs, anything). If the
    removed suffix holds no key material (`hkeys`: no DSB keys after the cut — the `-s` file is the same for both runs),
    then conversation by conversation, in creation order, the frames exported from the cut capture are a PREFIX, frame by
    frame (times, MACs, addresses, ports, flags, sequence and acknowledgement numbers, payload), of the frames exported
    from the whole capture; conversations that start after the cut are absent. Any options, key log, primitives. -/
theorem export_cut_prefix_tls_items (o : Opts) (fk : Option (List Keylog.Key)) (xs : List (Item Keylog.Key)) (n : Nat)
    (hkeys : dsbOnly (xs.drop n) = []) :
    ListExt (fun fa fb : List Pipeline.OutPkt => fa <+: fb) (tlsFrames H P info o fk (xs.take n))
      (tlsFrames H P info o fk xs) := by
  refine tlsFrames_prefix_of_view H P info o fk fk _ _ (tcpView_take_prefix o xs n) ?_
  have : dsbOnly xs = dsbOnly (xs.take n) ++ dsbOnly (xs.drop n) := by
    unfold dsbOnly
    rw [← List.flatMap_append, List.take_append_drop]
  simp only [keysOf, this, hkeys, List.append_nil]

/-- `export_cut_prefix_tls_items` as a statement about what `run()` hands to the writer: both outputs are the TLS
    conversations' frames followed by the QUIC part, and the TLS parts are related as above -/
theorem export_cut_prefix_tls (prior : Prior) (args : Args) (fk : Option (List Keylog.Key))
    (xs : List (Item Keylog.Key)) (n : Nat) (hkeys : dsbOnly (xs.drop n) = [])
    (outCut outFull : List Pipeline.OutPkt)
    (hc : framesFrom mask H P prior args fk (xs.take n) info = .ok outCut)
    (hf : framesFrom mask H P prior args fk xs info = .ok outFull) :
    ∃ (cut full : List (List Pipeline.OutPkt)) (qc qf : List Pipeline.OutPkt),
      outCut = cut.flatten ++ qc ∧ outFull = full.flatten ++ qf ∧
      ListExt (fun fa fb : List Pipeline.OutPkt => fa <+: fb) cut full := by
  obtain ⟨o, ho⟩ := framesFrom_ok_opts mask H P info prior args fk xs outFull hf
  obtain ⟨qc, h1⟩ := framesFrom_ok mask H P info prior args fk (xs.take n) o ho
  obtain ⟨qf, h2⟩ := framesFrom_ok mask H P info prior args fk xs o ho
  rw [h1] at hc
  rw [h2] at hf
  refine ⟨_, _, qc, qf, (Except.ok.inj hc).symm, (Except.ok.inj hf).symm, export_cut_prefix_tls_items H P info o fk xs n hkeys⟩

/-- **C08, whole program, through the ingest model.** `file` is a capture the reader gets through without an exception,
    yielding the container items `its`; `cut` is a file of the same container for which the reader yields the first `k`
    of them (the capture cut after its `k`-th packet / DSB record or block). Then the read loop turns `cut` into exactly
    the first `k` main-loop items of `file` (one per container item, DSBs count) with the same per-packet data, and — if no
    key material sits in the removed part — the TLS conversations exported from `cut` are, one by one in creation order,
    frame-by-frame prefixes of those exported from `file`. Any container (`legacy` = libpcap, else pcapng), options, key
    log file, primitives. -/
theorem export_cut_prefix_tls_ingest (legacy : Bool) (file cut : Bytes) (its : List Container.Item) (k : Nat)
    (hfull : Container.readPrefix legacy file = .ok (its, none))
    (hcut : Container.readPrefix legacy cut = .ok (its.take k, none))
    (c : Bool) (xs : List (Item Keylog.Key)) (is : List (Nat × Pipeline.Info))
    (hi : Ingest.itemsWith Keylog.srcHexClass c legacy file = .ok (xs, is))
    (o : Opts) (fk : Option (List Keylog.Key)) (hkeys : dsbOnly (xs.drop k) = []) :
    ∃ is', Ingest.itemsWith Keylog.srcHexClass c legacy cut = .ok (xs.take k, is') ∧
      ListExt (fun fa fb : List Pipeline.OutPkt => fa <+: fb)
        (tlsFrames H P (Ingest.lookup is') o fk (xs.take k)) (tlsFrames H P (Ingest.lookup is) o fk xs) := by
  unfold Ingest.itemsWith at hi
  rw [hfull] at hi
  simp only at hi
  cases hg : Ingest.go Keylog.srcHexClass c 0 its with
  | error e => rw [hg] at hi; cases hi
  | ok v =>
    obtain ⟨X, IS⟩ := v
    rw [hg] at hi
    simp only [Except.ok.injEq, Prod.mk.injEq] at hi
    obtain ⟨rfl, rfl⟩ := hi
    obtain ⟨IS', g1, g2, g3⟩ := go_take Keylog.srcHexClass c its 0 k X IS hg
    refine ⟨IS', by unfold Ingest.itemsWith; rw [hcut]; simp only [g1], ?_⟩
    have hcongr : tlsFrames H P (Ingest.lookup IS') o fk (X.take k) = tlsFrames H P (Ingest.lookup IS) o fk (X.take k) := by
      apply tlsFrames_info_congr
      intro p hp
      obtain ⟨i, hi⟩ := g3 p hp
      exact lookup_prefix IS' IS g2 p.tag i hi
    rw [hcongr]
    exact export_cut_prefix_tls_items H P (Ingest.lookup IS) o fk X k hkeys

/-- **C13, whole program, items level.** The same capture, key log and options, once without and once with `-a`:
    the TLS conversations correspond one to one in the same order (`tlsConvs_optMeta`: the demultiplexer does not read the
    flag); for each pair the application-data entries of `application_traffic` are the same, in the same order (the
    `-a` run has them interleaved with the metadata entries), both exports exist, and the payload-carrying packets
    without `-a` are a subsequence — same time, MACs, addresses, ports, payload, same order — of those with `-a`. -/
theorem export_meta_only_adds_items (o : Opts) (fk : Option (List Keylog.Key)) (xs : List (Item Keylog.Key)) :
    tlsConvs H P info (optMeta o true) xs = (tlsConvs H P info (optMeta o false) xs).map (sessMeta true) ∧
    (tlsFrames H P info (optMeta o false) fk xs).length = (tlsFrames H P info (optMeta o true) fk xs).length ∧
    ListExt (fun fOff fOn : List Pipeline.OutPkt => (dataPkts fOff).Sublist (dataPkts fOn))
      (tlsFrames H P info (optMeta o false) fk xs) (tlsFrames H P info (optMeta o true) fk xs) ∧
    ∀ s ∈ tlsConvs H P info (optMeta o false) xs,
      (Session.run (Pipeline.ops H P (keysOf fk xs)) false Session.St.init (connRecs info s.st)).traffic
        = (Session.run (Pipeline.ops H P (keysOf fk xs)) true Session.St.init (connRecs info s.st)).traffic.filter (·.isApp) := by
  have hconv : tlsConvs H P info (optMeta o true) xs = (tlsConvs H P info (optMeta o false) xs).map (sessMeta true) :=
    tlsConvs_optMeta H P info (optMeta o false) true xs
  refine ⟨hconv, ?_, ?_, ?_⟩
  · simp only [tlsFrames, List.length_map, hconv]
  · unfold tlsFrames
    rw [hconv, List.map_map]
    refine ListExt.map_map _ _ _ fun s hs => ?_
    obtain ⟨fsOn, fsOff, h1, h2, h3⟩ := connOut_meta_only_adds H P info s.st (keysOf fk xs)
    -- `s` was created without `-a`: clearing the flag in its options changes nothing
    have hoff : setMeta s.st false = s.st := by
      have hopts := (convOk_all H P info (optMeta o false) xs s hs).opts
      cases hst : s.st
      rw [hst] at hopts
      cases hopts
      rfl
    rw [hoff] at h2
    simp only [convFrames, Function.comp, sessMeta, h1, h2, Option.getD_some]
    exact h3
  · intro s _
    exact (Props.C13.session_meta_only_adds (Pipeline.ops H P (keysOf fk xs)) (connRecs info s.st)).1

/-- the frames of a conversation are the builder's abstract frames (it always returns some), addressed with the options
    and ends the conversation object stores -/
theorem convFrames_addressed (kl : List Keylog.Key) (s : TlsSess Pipeline.Conn) :
    ∃ fs, TcpOut.build ((Session.run (Pipeline.ops H P kl) s.st.opts.metadata Session.St.init
        (connRecs info s.st)).traffic.map (Lemmas.Pipeline.toRec fun id => (info id).ts)) = some fs ∧
      convFrames H P info kl s = fs.map (Pipeline.addressed s.st.opts s.st) := by
  have hsome := (connOut_never_raises H P info s.st kl).2.2
  rw [connOut_eq, Option.isSome_map] at hsome
  obtain ⟨fs, hb⟩ := Option.isSome_iff_exists.mp hsome
  exact ⟨fs, hb, by simp only [convFrames, connOut_eq, hb, Option.map_some, Option.getD_some]⟩

/-- **C10, whole program, items level.** Every frame of every exported TLS conversation runs between the client's
    ORIGINAL endpoint (address and port as captured) and the server's address with the exported server port: the original
    port when `keep_original_ports` (no `-m`), else the port the map lists for it, else 8080. The roles are those decided
    on the conversation's first packet: the server is the side whose port is in the server-port list (`rolesOf`), and
    that port is in the list. A TCP packet none of whose ports is in the list is in no conversation: it contributes no
    frame. -/
theorem export_ports_tls_items (o : Opts) (fk : Option (List Keylog.Key)) (xs : List (Item Keylog.Key)) :
    (∀ s ∈ tlsConvs H P info o xs, ∀ pkt ∈ convFrames H P info (keysOf fk xs) s,
      let sp := TcpOut.exportedServerPort o.keep (Pipeline.portmapFn o.portmap) s.server.port
      ((pkt.src = s.client ∧ pkt.dst = ⟨s.server.ip, sp⟩) ∨ (pkt.src = ⟨s.server.ip, sp⟩ ∧ pkt.dst = s.client)) ∧
      (o.keep = true → sp = s.server.port) ∧
      (o.keep = false → sp = ((Pipeline.portmapFn o.portmap) s.server.port).getD 8080)) ∧
    (∀ s ∈ tlsConvs H P info o xs, ∃ p0 ∈ tcpView o xs, (s.server, s.client) = rolesOf o.ports p0 ∧
      o.ports.contains (s.server.port : Int) = true) ∧
    (∀ p ∈ tcpView o xs, candidate o p = false → ∀ s ∈ tlsConvs H P info o xs, p ∉ s.st.pkts) := by
  refine ⟨?_, ?_, ?_⟩
  · intro s hs pkt hpkt
    have hok := convOk_all H P info o xs s hs
    intro sp
    refine ⟨?_, by intro hk; simp [sp, TcpOut.exportedServerPort, hk], by intro hk; simp [sp, TcpOut.exportedServerPort, hk]⟩
    obtain ⟨fs, _, hfs⟩ := convFrames_addressed H P info (keysOf fk xs) s
    rw [hfs] at hpkt
    obtain ⟨f, _, rfl⟩ := List.mem_map.mp hpkt
    simp only [Pipeline.addressed, hok.opts, hok.server, hok.client]
    cases f.fromServer
    · exact .inl ⟨rfl, rfl⟩
    · exact .inr ⟨rfl, rfl⟩
  · intro s hs
    obtain ⟨p0, rest, h4, h5, h6, _⟩ := (convOk_all H P info o xs s hs).first
    have hmem := ((convOk_all H P info o xs s hs).pkts p0 (by rw [h4]; simp)).1
    refine ⟨p0, hmem, h6, ?_⟩
    simp only [rolesOf] at h6
    simp only [candidate, Bool.or_eq_true] at h5
    split at h6
    · rename_i hc
      have : s.server = p0.src := by simpa using congrArg Prod.fst h6
      rw [this]; exact hc
    · rename_i hc
      have : s.server = p0.dst := by simpa using congrArg Prod.fst h6
      rw [this]
      rcases h5 with h5 | h5
      · exact h5
      · exact absurd h5 hc
  · intro p _ hc s hs hmem
    have := ((convOk_all H P info o xs s hs).pkts p hmem).2.2
    rw [hc] at this; cases this

/-- **C07, whole program, items level.** For every exported TLS conversation `s` (first packet `p0`, a TCP packet of
    the capture): its frames are `addressed` abstract frames `fs`; every frame carries the IP version of `p0` and runs
    between the two ends as `p0` shows them — server-side frames from the server's IP and MAC (the MAC `p0` has on the
    server's side) to the client's, client-side frames the other way round —; and every DATA frame (PSH|ACK) carries the
    capture time of a packet `q` of that conversation which travels in the frame's direction and is a carrier of a record
    released for that direction (`connRecs`; carriers = the packets whose bytes overlap the record:
    `Props.C05.metadata_is_overlap`). -/
theorem export_time_and_ends_tls_items (o : Opts) (fk : Option (List Keylog.Key)) (xs : List (Item Keylog.Key)) :
    ∀ s ∈ tlsConvs H P info o xs, ∃ (p0 : Pkt) (fs : List TcpOut.Frame),
      p0 ∈ tcpView o xs ∧ s.st.pkts.head? = some p0 ∧ (s.server, s.client) = rolesOf o.ports p0 ∧
      convFrames H P info (keysOf fk xs) s = fs.map (Pipeline.addressed o s.st) ∧
      (∀ f ∈ fs,
        (Pipeline.addressed o s.st f).ipv6 = (info p0.tag).ipv6 ∧
        (Pipeline.addressed o s.st f).ts = f.ts ∧ (Pipeline.addressed o s.st f).payload = f.payload ∧
        let sMac := if s.server == p0.src then (info p0.tag).srcMac else (info p0.tag).dstMac
        let cMac := if s.server == p0.src then (info p0.tag).dstMac else (info p0.tag).srcMac
        (f.fromServer = true → (Pipeline.addressed o s.st f).src.ip = s.server.ip ∧
          (Pipeline.addressed o s.st f).dst = s.client ∧ (Pipeline.addressed o s.st f).srcMac = sMac ∧
          (Pipeline.addressed o s.st f).dstMac = cMac) ∧
        (f.fromServer = false → (Pipeline.addressed o s.st f).src = s.client ∧
          (Pipeline.addressed o s.st f).dst.ip = s.server.ip ∧ (Pipeline.addressed o s.st f).srcMac = cMac ∧
          (Pipeline.addressed o s.st f).dstMac = sMac)) ∧
      (∀ f ∈ fs, f.flags = 0x18 → ∃ q ∈ s.st.pkts, q ∈ tcpView o xs ∧ f.ts = (info q.tag).ts ∧
        (q.src == s.server) = f.fromServer ∧
        ∃ r ∈ connRecs info s.st, r.2 = f.fromServer ∧ q.tag ∈ r.1.carriers) := by
  intro s hs
  have hok := convOk_all H P info o xs s hs
  obtain ⟨p0, rest, h4, h5, h6, h7, h8, h9⟩ := hok.first
  obtain ⟨fs, hb, hfs⟩ := convFrames_addressed H P info (keysOf fk xs) s
  refine ⟨p0, fs, (hok.pkts p0 (by rw [h4]; simp)).1, by rw [h4]; rfl, h6, by rw [hfs, hok.opts], ?_, ?_⟩
  · intro f _
    simp only [Pipeline.addressed, hok.server, hok.client, h7, h8, h9]
    cases f.fromServer <;> simp
  · intro f hf hflags
    have hd : (f.fromServer, f.ts, f.payload) ∈ TcpOut.dataFrames fs := by
      simp only [TcpOut.dataFrames, List.mem_filterMap]
      exact ⟨f, hf, by simp [TcpOut.Frame.data?, hflags]⟩
    obtain ⟨r, hr, ps', _, j, _, hts, hdir⟩ := Props.C07.out_ts_from_carrier _ _ hb _ _ _ hd
    obtain ⟨e, he, rfl⟩ := List.mem_map.mp hr
    have horig := Props.C07.entry_origin (Pipeline.ops H P (keysOf fk xs)) s.st.opts.metadata (connRecs info s.st) e he
    have hmem : f.ts ∈ (Lemmas.Pipeline.toRec (fun id => (info id).ts) e).ts := List.mem_of_getElem? hts
    simp only [Lemmas.Pipeline.toRec, List.mem_map] at hmem
    obtain ⟨id, hid, hidts⟩ := hmem
    obtain ⟨q, hq, hqt, hqd⟩ := released_carrier_tags info s.st.server s.st.pkts (e.record, e.fromServer) horig id hid
    refine ⟨q, hq, (hok.pkts q hq).1, by rw [hqt]; exact hidts.symm, ?_, (e.record, e.fromServer), horig, hdir, by rw [hqt]; exact hid⟩
    rw [← hok.server, hqd]; exact hdir

namespace Ex
open TLX.Props.C01Capstone.Ex TLX.Props.C01Pipeline.Ex2 TLX.Props.C01.Ex

/-- the capture of `C01Capstone.Ex.tls12_instance` as items: ten TCP segments of one TLS 1.2 connection (split
    ClientHello, False Start, a retransmission, a record over two segments, sequence numbers wrapping 2^32) -/
def capItems : List (Item Keylog.Key) := pktsCap.map .frame

def optsA (a : Bool) : Opts := ⟨[443], false, false, a, true, []⟩

/-- (capture time, payload) of the data segments of each exported conversation -/
def viewOf (l : List (List Pipeline.OutPkt)) : List (List (Nat × Bytes)) :=
  l.map fun fs => (dataPkts fs).map fun p => (p.1, p.2.2.2.2.2.2)

/-- a frame of the exported conversation from the client (10.0.0.1:5555, MAC 1) / from the server (10.0.0.2:443, MAC 2) -/
def fromC (ts flags seq ack : Nat) (payload : Bytes) : Pipeline.OutPkt :=
  ⟨ts, [1], [2], ⟨[10, 0, 0, 1], 5555⟩, ⟨[10, 0, 0, 2], 443⟩, false, flags, seq, ack, payload, false⟩
def fromS (ts flags seq ack : Nat) (payload : Bytes) : Pipeline.OutPkt :=
  ⟨ts, [2], [1], ⟨[10, 0, 0, 2], 443⟩, ⟨[10, 0, 0, 1], 5555⟩, false, flags, seq, ack, payload, false⟩

/-- every run on this capture that the statements below speak of, in ONE declaration: the kernel shares the reassembly,
    the key derivation and the record decryptions inside a declaration only -/
theorem runs :
    (viewOf (tlsFrames hashes Cipher.Toy.prims infoCap (optsA false) (some kl0) (capItems.take 7)) = [[(1004, hi)]] ∧
     tlsFrames hashes Cipher.Toy.prims infoCap (optsA false) (some kl0) capItems =
      [[fromC 1004 2 0 0 [], fromS 1004 18 0 1 [], fromC 1004 16 1 1 [], fromC 1004 24 1 1 hi, fromS 1004 16 1 3 [],
        fromS 1006 24 1 3 (k16.take 8), fromC 1006 16 3 9 [], fromS 1008 24 9 3 (k16.drop 8), fromC 1008 16 3 17 []]] ∧
     viewOf (tlsFrames hashes Cipher.Toy.prims infoCap (optMeta (optsA false) true) (some kl0) capItems)
      = [[(1000, (rC 0).take 25), (1001, (rC 0).drop 25), (1002, rS 0), (1002, rS 1), (1003, rC 1), (1003, rC 2),
          (1003, 20 :: 0 :: 0 :: 12 :: k16.take 12), (1003, rC 3), (1004, hi), (1005, rS 2),
          (1005, 20 :: 0 :: 0 :: 12 :: k16.take 12), (1005, rS 3), (1006, k16.take 8), (1008, k16.drop 8)]]) ∧
    (((tlsFrames hashes Cipher.Toy.prims infoCap ⟨[443], false, false, false, false, [(443, 9443)]⟩ (some kl0)
      capItems).flatten.map fun p => (p.src.port, p.dst.port)).eraseDups = [(5555, 9443), (9443, 5555)] ∧
     tlsFrames hashes Cipher.Toy.prims infoCap ⟨[8443], false, false, false, true, []⟩ (some kl0) capItems = []) ∧
    ((viewOf (tlsFrames hashes Cipher.Toy.prims infoCap (optsA true) none ((capItems ++ [Item.dsb kl0]).take 10))).length = 1 ∧
     (viewOf (tlsFrames hashes Cipher.Toy.prims infoCap (optsA true) none (capItems ++ [Item.dsb kl0]))).length = 1 ∧
     (((viewOf (tlsFrames hashes Cipher.Toy.prims infoCap (optsA true) none ((capItems ++ [Item.dsb kl0]).take 10))).headD []).isPrefixOf
       ((viewOf (tlsFrames hashes Cipher.Toy.prims infoCap (optsA true) none (capItems ++ [Item.dsb kl0]))).headD [])) = false ∧
     viewOf (tlsFrames hashes Cipher.Toy.prims infoCap (optsA false) none ((capItems ++ [Item.dsb kl0]).take 10)) = [[]]) := by
  decide +kernel

-- C08: the capture cut after 7 items exports a prefix of what the whole capture exports (key log from `-s`; the
-- seventh packet holds only the first 10 bytes of the server's record, which is therefore not yet released)
example : viewOf (tlsFrames hashes Cipher.Toy.prims infoCap (optsA false) (some kl0) (capItems.take 7))
    = [[(1004, hi)]] := runs.1.1

/-- the whole export of the capture (key log from `-s`, no `-a`), frame by frame: the synthetic handshake stamped with the
    time of the first data segment, then every data segment (PSH|ACK) followed by the other side's ACK -/
theorem frames_cap : tlsFrames hashes Cipher.Toy.prims infoCap (optsA false) (some kl0) capItems =
    [[fromC 1004 2 0 0 [], fromS 1004 18 0 1 [], fromC 1004 16 1 1 [], fromC 1004 24 1 1 hi, fromS 1004 16 1 3 [],
      fromS 1006 24 1 3 (k16.take 8), fromC 1006 16 3 9 [], fromS 1008 24 9 3 (k16.drop 8), fromC 1008 16 3 17 []]] :=
  runs.1.2.1

example : viewOf (tlsFrames hashes Cipher.Toy.prims infoCap (optsA false) (some kl0) capItems)
    = [[(1004, hi), (1006, k16.take 8), (1008, k16.drop 8)]] := by rw [frames_cap]; decide +kernel
example : dsbOnly (capItems.drop 7) = [] := by decide +kernel

/-- WITNESS for the hypothesis `hkeys` (replayed on the real tool: `harness/export_props_replay.py`): the keys arrive in a
    Decryption Secrets Block AFTER the packets, no `-s` file, `-a` on. Cut before that block the run has no keys and
    exports the records verbatim; the whole capture exports the decrypted Finished messages and application data in
    between — the cut export is NOT a prefix. (Without `-a` the cut run exports nothing, which is a prefix.) -/
theorem cut_before_late_dsb_not_prefix :
    let whole := capItems ++ [.dsb kl0]
    let cut := viewOf (tlsFrames hashes Cipher.Toy.prims infoCap (optsA true) none (whole.take 10))
    let full := viewOf (tlsFrames hashes Cipher.Toy.prims infoCap (optsA true) none whole)
    dsbOnly (whole.drop 10) ≠ [] ∧ cut.length = 1 ∧ full.length = 1 ∧
    ((cut.headD []).isPrefixOf (full.headD [])) = false ∧
    viewOf (tlsFrames hashes Cipher.Toy.prims infoCap (optsA false) none (whole.take 10)) = [[]] :=
  ⟨by decide +kernel, runs.2.2⟩

-- C13: the same capture without and with `-a`
example : viewOf (tlsFrames hashes Cipher.Toy.prims infoCap (optMeta (optsA false) true) (some kl0) capItems)
    = [[(1000, (rC 0).take 25), (1001, (rC 0).drop 25), (1002, rS 0), (1002, rS 1), (1003, rC 1), (1003, rC 2),
        (1003, 20 :: 0 :: 0 :: 12 :: k16.take 12), (1003, rC 3), (1004, hi), (1005, rS 2),
        (1005, 20 :: 0 :: 0 :: 12 :: k16.take 12), (1005, rS 3), (1006, k16.take 8), (1008, k16.drop 8)]] := runs.1.2.2

-- C10: with `-m 443:9443` every frame runs between the client's port 5555 and the mapped server port 9443
example : ((tlsFrames hashes Cipher.Toy.prims infoCap ⟨[443], false, false, false, false, [(443, 9443)]⟩ (some kl0)
    capItems).flatten.map fun p => (p.src.port, p.dst.port)).eraseDups = [(5555, 9443), (9443, 5555)] := runs.2.1.1
-- … and a flow on other ports is in no conversation
example : tlsFrames hashes Cipher.Toy.prims infoCap ⟨[8443], false, false, false, true, []⟩ (some kl0) capItems = [] :=
  runs.2.1.2

-- C07: the data segments carry the capture times of packets 4, 6 and 8 (`infoCap tag = 1000 + tag`), the ends are
-- those of the first packet
example : ((tlsFrames hashes Cipher.Toy.prims infoCap (optsA false) (some kl0) capItems).flatten.map fun p =>
    (p.srcMac, p.dstMac, p.src.ip, p.dst.ip)).eraseDups
    = [([1], [2], [10, 0, 0, 1], [10, 0, 0, 2]), ([2], [1], [10, 0, 0, 2], [10, 0, 0, 1])] := by
  rw [frames_cap]; decide +kernel

end Ex

end TLX.Props.ExportProps
