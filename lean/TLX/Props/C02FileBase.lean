/-
The capture and file layers shared by the QUIC file-to-file theorems (`Props/C02File2`, `C02File`, `C02All*`): a datagram of
the independent frame encoder as the main loop's packet; how the loop routes the connection's own datagrams to its ONE
session (1-RTT: `quicRun_one`; a handshake history read through any `C02Sim.DgView`: `quicRun_feedG`, `own_run_G`); the file
layers around one QUIC session (`export_of_quic_session_among`). Declares into `TLX.Props.C02File`, the namespace of the
one-connection theorems, which `Props/C02File.lean` continues. Core Lean only.
-/
import TLX.Props.C01File
import TLX.Props.C01File2
import TLX.Lemmas.ExportWrite
import TLX.Props.C02Capstone
import TLX.Spec.QuicCapture
import TLX.Lemmas.PickFrom
import TLX.Lemmas.QuicMachine
set_option autoImplicit false
namespace TLX.Props.C02File
open TLX TLX.MainLoop TLX.Spec.Demux TLX.Lemmas.MainLoop TLX.Dissect TLX.OutBytes
open TLX.Container (Item)
open TLX.Props.C01File TLX.Spec.FrameBuild TLX.Spec.TlsCapture TLX.Spec.QuicCapture TLX.Props.C12Dissect
open TLX.Spec.QuicSender TLX.Spec.QuicConnection TLX.Spec.QuicPackets TLX.QuicPipeline TLX.Props.C02Capstone
open TLX.Props.C02Sim

theorem dissect_dg (fl : Flow) (d : Bool) (fr : Spec.FrameBuild.Frame) (u : Udp) (h : IsDg fl d fr u) :
    dissect fr.encode = .ok (viewOf fr) :=
  Lemmas.C01Full.dissect_viewOf fr h.1 fun h6 hn => by
    have := h.2.2.2.2; rw [hn] at this; rw [this.2.1]; simp [Lemmas.C01Full.fragFirst]

theorem viewOf_dg (fl : Flow) (d : Bool) (fr : Spec.FrameBuild.Frame) (u : Udp) (h : IsDg fl d fr u) :
    viewOf fr = .ip ⟨fl.v6, fr.srcMac, fr.dstMac, if d then fl.serverIp else fl.clientIp,
      if d then fl.clientIp else fl.serverIp, 17, u.encode, transportOf (.udp u)⟩ := by
  obtain ⟨_, hu, _, _, hnet⟩ := h
  unfold viewOf
  cases hn : fr.net with
  | v4 h4 =>
    rw [hn] at hnet
    obtain ⟨hv, hs, hd⟩ := hnet
    rw [hu, hv, ← hs, ← hd]; rfl
  | v6 h6 =>
    rw [hn] at hnet
    obtain ⟨hv, _, hs, hd⟩ := hnet
    rw [hu, hv, ← hs, ← hd]; rfl

theorem pktOf_dg (fl : Flow) (d : Bool) (fr : Spec.FrameBuild.Frame) (u : Udp) (h : IsDg fl d fr u) (tag : Nat) :
    pktOf tag (viewOf fr) =
      ⟨.udp, if d then serverEp fl else clientEp fl, if d then clientEp fl else serverEp fl, u.payload, true, tag⟩ := by
  rw [viewOf_dg fl d fr u h]
  simp only [pktOf, transportOf, h.2.2.1, h.2.2.2.1, clientEp, serverEp]
  cases d <;> rfl

theorem infoOf_dg (fl : Flow) (d : Bool) (fr : Spec.FrameBuild.Frame) (u : Udp) (h : IsDg fl d fr u) (us : Nat) :
    infoOf us (viewOf fr) = ⟨0, us, fr.srcMac, fr.dstMac, fl.v6⟩ := by
  rw [viewOf_dg fl d fr u h]; rfl

section Routing
variable {κ τ ο : Type}

theorem quicHandle_new (M : QuicMachine κ τ ο) (o : Opts) (kl : List κ) (dcid : Bytes) (v : MainLoop.Version) (p : Pkt) :
    quicHandleH M o kl (.long dcid v) [] p = [quicNew M o kl (.long dcid v) p] := by
  simp [quicHandleH, quicLoop]

theorem quicHandle_long (M : QuicMachine κ τ ο) (o : Opts) (kl : List κ) (dcid : Bytes) (v : MainLoop.Version) (p : Pkt)
    (s : QuicSess τ) (hm : s.matches p = true) :
    quicHandleH M o kl (.long dcid v) [s] p = [{ s with st := M.feed s.st kl p dcid v }] := by
  have ht : quicTake M (.long dcid v) p s = some dcid := by
    unfold quicTake
    simp only [cidMatch]
    by_cases hc : 0 < dcid.length ∧ (dcid ∈ M.clientCids s.st ∨ dcid ∈ M.serverCids s.st)
    · simp [hc]
    · simp [hc, hm, Hdr.dcid]
  simp [quicHandleH, quicLoop, ht, Hdr.ver]

/-- what a passive observer needs to find a short-header packet's connection ID among the ones it knows (`cands`: those the
    RECEIVER issued): the packet's DCID is one of them or empty, and no LONGER known one happens to be a prefix of the
    packet's bytes after the first (the length of the DCID is not on the wire: RFC 9000 §17.3.1) -/
def RouteOk (cands : List Bytes) (wire dcid : Bytes) : Prop :=
  (dcid = [] ∨ (dcid ∈ cands ∧ dcid <+: wire.drop 1)) ∧
  ∀ c ∈ cands, c ≠ [] → c <+: wire.drop 1 → c.length ≤ dcid.length

theorem shortPick_route (cands : List Bytes) (wire dcid : Bytes) (h : RouteOk cands wire dcid) :
    (shortPick cands wire).getD [] = dcid := by
  obtain ⟨h1, h2⟩ := h
  cases hp : shortPick cands wire with
  | none =>
    rcases h1 with rfl | ⟨hm, hpre⟩
    · rfl
    · by_cases hne : dcid = []
      · subst hne; rfl
      · exact absurd hpre ((shortPick_eq_none_iff _ _).mp hp dcid hm hne)
  | some c =>
    obtain ⟨c1, c2, c3⟩ := shortPick_some hp
    have hle := h2 c c1 c2 c3
    rcases h1 with rfl | ⟨hm, hpre⟩
    · have : c.length = 0 := by simpa using hle
      exact absurd (List.eq_nil_of_length_eq_zero this) c2
    · by_cases hne : dcid = []
      · subst hne
        have : c.length = 0 := by simpa using hle
        exact absurd (List.eq_nil_of_length_eq_zero this) c2
      · have hge := shortPick_longest hp dcid hm hne hpre
        have hlen : c.length = dcid.length := by omega
        simp only [Option.getD_some]
        rw [List.prefix_iff_eq_take] at c3 hpre
        rw [c3, hpre, hlen]

theorem quicHandle_short (M : QuicMachine κ τ ο) (o : Opts) (kl : List κ) (p : Pkt) (s : QuicSess τ)
    (hm : s.matches p = true) (dcid : Bytes)
    (hr : RouteOk (shortCandidates (M.clientCids s.st) (M.serverCids s.st) (s.side p)) p.payload dcid) :
    quicHandleH M o kl .short [s] p = [{ s with st := M.feed s.st kl p dcid .unknown }] := by
  have hg := shortPick_route _ _ _ hr
  have ht : quicTake M .short p s = some dcid := by
    unfold quicTake cidMatch
    simp only
    cases hp : shortPick (shortCandidates (M.clientCids s.st) (M.serverCids s.st) (s.side p)) p.payload with
    | none => rw [hp] at hg; simp at hg; simp [hm, Hdr.dcid, hg]
    | some c => rw [hp] at hg; simp at hg; simp [hg]
  simp [quicHandleH, quicLoop, ht, Hdr.ver]

theorem shortCandidates_own {α : Type} (s : Sess α) (p : Pkt) (hm : s.matches p = true) (srv : Bool)
    (hdir : (p.src == s.client) = !srv) (cc sc : List Bytes) :
    shortCandidates cc sc (s.side p) = if srv then cc else sc := by
  unfold Sess.side
  rw [hm, hdir]
  cases srv <;> rfl

theorem quicHandle_own (M : QuicMachine κ τ ο) (o : Opts) (kl : List κ) (p : Pkt) (s : QuicSess τ)
    (hm : s.matches p = true) (srv : Bool) (hdir : (p.src == s.client) = !srv) (dcid : Bytes) (c : Prop) [Decidable c]
    (hr : c → RouteOk (if srv then M.clientCids s.st else M.serverCids s.st) p.payload dcid) :
    quicHandleH M o kl (if c then .short else .long dcid .v1) [s] p =
      [{ s with st := M.feed s.st kl p dcid (if c then .unknown else .v1) }] := by
  by_cases hc : c
  · rw [if_pos hc, if_pos hc]
    exact quicHandle_short M o kl p s hm dcid (by rw [shortCandidates_own s p hm srv hdir]; exact hr hc)
  · rw [if_neg hc, if_neg hc]
    exact quicHandle_long M o kl dcid .v1 p s hm

end Routing

section Header

theorem bits_of_byte : ∀ n : Fin 256,
    (((UInt8.ofNat n.val).toNat >>> 7) &&& 1 = 1 ↔ Quic.Dissect.isLong (UInt8.ofNat n.val) = true) ∧
    ((UInt8.ofNat n.val >>> 6 = 1 ∨ UInt8.ofNat n.val >>> 6 = 3) → ((UInt8.ofNat n.val).toNat &&& 0x40) >>> 6 = 1) := by
  decide +kernel

theorem longBit_iff (b : UInt8) : ((b.toNat >>> 7) &&& 1 = 1) ↔ Quic.Dissect.isLong b = true := by
  have := (bits_of_byte ⟨b.toNat, b.toNat_lt⟩).1
  simpa using this

theorem fixedBit_of_shift (b : UInt8) (h : b >>> 6 = 1 ∨ b >>> 6 = 3) : (b.toNat &&& 0x40) >>> 6 = 1 := by
  have := (bits_of_byte ⟨b.toNat, b.toNat_lt⟩).2
  simp only [UInt8.ofNat_toNat] at this
  exact this h

theorem parseHeader1_long (b0 : UInt8) (hL : Quic.Dissect.isLong b0 = true) (version dcid scid tail : Bytes)
    (hv : version = [0, 0, 0, 1]) (hd : dcid.length ≤ 255) (hs63 : scid.length ≤ 63) :
    parseHeader1 b0 (version ++ (UInt8.ofNat dcid.length :: (dcid ++ (UInt8.ofNat scid.length :: (scid ++ tail))))) =
      .long dcid .v1 := by
  obtain ⟨_, f1, f2, _, f4, _⟩ := Lemmas.QuicDissect.header_facts b0 version dcid scid tail _ (by rw [hv]; rfl) hs63 rfl
  unfold parseHeader1
  rw [if_pos ((longBit_iff b0).mpr hL)]
  have hlen : ¬ (b0 :: (version ++ (UInt8.ofNat dcid.length :: (dcid ++ (UInt8.ofNat scid.length :: (scid ++ tail)))))).length
      < 6 := by
    simp only [List.length_cons, List.length_append, hv, List.length_nil]; omega
  simp only [hlen, if_false, f2]
  have hdl : (UInt8.ofNat dcid.length).toNat = dcid.length := by simp; omega
  rw [hdl, f4, f1, hv, show versionOf (Bytes.beNat [0, 0, 0, 1]) = .v1 by decide]

/-- what `handle_quic_packet` classifies and parses for a datagram that starts with a protected v1 long-header packet -/
theorem long_wire_header (p : Long) (hr : p.reserved < 4) (h1 : 1 ≤ p.pn.length) (h4 : p.pn.length ≤ 4)
    (hv : p.version = [0, 0, 0, 1]) (hd : p.dcid.length ≤ 20) (hs63 : p.scid.length ≤ 63) (m more : Bytes) :
    ∃ b0 rest, p.protect m ++ more = b0 :: rest ∧ (b0.toNat &&& 0x40) >>> 6 = 1 ∧
      parseHeader1 b0 rest = .long p.dcid .v1 := by
  have hb : p.ty.bits < 3 := by cases p.ty <;> simp [LType.bits]
  have hfb := Lemmas.QuicDissect.long_first_bits ⟨p.ty.bits, hb⟩ ⟨p.reserved, hr⟩ ⟨p.pn.length - 1, by omega⟩
  have hf6 : p.first >>> 6 = 3 := by simpa [Long.first] using hfb.2.2.2
  have hL : Quic.Dissect.isLong p.first = true := by simpa [Long.first] using hfb.1
  generalize hb0 : p.first ^^^ (m.headD 0 &&& 0x0f) = b0
  have e6 : b0 >>> 6 = 3 := by rw [← hb0, Lemmas.QuicDissect.shiftRight_mask 6 _ _ _ (by decide)]; exact hf6
  have eL : Quic.Dissect.isLong b0 = true := by
    rw [← hb0, Lemmas.QuicDissect.isLong_mask _ _ _ (by decide)]; exact hL
  refine ⟨b0, p.version ++ (UInt8.ofNat p.dcid.length :: (p.dcid ++ (UInt8.ofNat p.scid.length :: (p.scid ++
      (p.tokenPart ++ p.lengthField ++ xorBytes p.pn ((m.drop 1).take p.pn.length) ++ p.payload ++ more))))), ?_,
    fixedBit_of_shift b0 (.inr e6), parseHeader1_long b0 eL _ _ _ _ hv (by omega) hs63⟩
  rw [← hb0]; simp [Long.protect, applyMask, Long.mid, List.append_assoc]

theorem short_wire_header (p : Short) (hwf : p.wf) (m : Bytes) :
    ∃ b0 rest, p.protect m = b0 :: rest ∧ (b0.toNat &&& 0x40) >>> 6 = 1 ∧ parseHeader1 b0 rest = .short ∧
      rest = p.dcid ++ xorBytes p.pn ((m.drop 1).take p.pn.length) ++ p.payload := by
  obtain ⟨hL, _, _, h6⟩ := Lemmas.QuicDissect.short_first p hwf
  generalize hb0 : p.first ^^^ (m.headD 0 &&& 0x1f) = b0
  have e6 : b0 >>> 6 = 1 := by rw [← hb0, Lemmas.QuicDissect.shiftRight_mask 6 _ _ _ (by decide)]; exact h6
  have eL : Quic.Dissect.isLong b0 = false := by
    rw [← hb0, Lemmas.QuicDissect.isLong_mask _ _ _ (by decide)]; exact hL
  refine ⟨b0, _, by rw [← hb0]; simp [Short.protect, applyMask], fixedBit_of_shift b0 (.inl e6), ?_, rfl⟩
  unfold parseHeader1
  rw [if_neg (by rw [longBit_iff, eL]; simp)]

end Header

section Runs
open TLX.Quic.Session TLX.Cipher TLX.Props.C02Session
variable (maskFn : Quic.Dissect.MaskFn) (H : Crypto.Prims) (Pc : Cipher.Prims) (info : Nat → Pipeline.Info)

/-- RFC 9000 §5.1 seen by the observer: every 1-RTT datagram is addressed to a connection ID its RECEIVER issued (or to the
    empty one), and no longer CID that receiver issued is a prefix of the protected packet (`RouteOk`); `cc` / `sc` grow with
    the NEW_CONNECTION_ID frames as in `Send1` -/
def Routes1 (w : Dg1 → Bytes) : (cc sc : List Bytes) → List Dg1 → Prop
  | _, _, [] => True
  | cc, sc, d :: rest =>
    RouteOk (if d.x.srv then cc else sc) (w d) d.x.dcid ∧
    Routes1 w (if d.x.srv then cc else issue cc (newCids d.x.frames))
      (if d.x.srv then issue sc (newCids d.x.frames) else sc) rest

/-- on the 1-RTT datagrams of a conformant history the loop feeds the session exactly as `feedAll`, the recursion
    `quic_one_rtt_connection_exact` speaks about -/
theorem quicRun_one (o : Opts) (kl : List Keylog.Key) (L : SealLaws Pc) (sel : SuiteSel) (v : Quic.Session.Version)
    (k0 : AppKeys) (hpC hpS : Bytes) (chacha : Bool) (hk : KeysWf (params H Pc kl) sel v k0)
    (items : List (MainLoop.Pkt × Dg1)) (s : QuicSess QConn) (gc gs lc ls : Nat) (cc sc : List Bytes)
    (hcl : s.client = s.st.client) (hr : s.st.raised = none)
    (hest : Est H Pc kl sel v k0 hpC hpS chacha s.st.st gc gs lc ls cc sc)
    (hm : ∀ x ∈ items, s.matches x.1 = true)
    (hcar : ∀ x ∈ items, Carries info s.st (wireOf H Pc L sel v k0) x.1 x.2)
    (hsend : Send1 maskFn H Pc L sel v k0 hpC hpS chacha gc gs lc ls cc sc (items.map (·.2)))
    (hroute : Routes1 (wireOf H Pc L sel v k0) cc sc (items.map (·.2))) :
    quicRun (quicMachine maskFn H Pc info) o [s] (items.map fun x => (⟨kl, .short, x.1⟩ : QIn Keylog.Key)) =
      [{ s with st := C02Capstone.feedAll (quicMachine maskFn H Pc info) s.st (items.map fun x => (kl, x.1, x.2)) }] := by
  induction items generalizing s gc gs lc ls cc sc with
  | nil => simp [quicRun_nil, C02Capstone.feedAll]
  | cons x rest ih =>
    obtain ⟨p, d⟩ := x
    obtain ⟨h1, h2, h3, h4, h5, h6, h7, h8⟩ := hsend
    obtain ⟨r1, r2⟩ := hroute
    obtain ⟨w1, w2, w3⟩ := hcar (p, d) (List.mem_cons_self ..)
    have hmp := hm (p, d) (List.mem_cons_self ..)
    obtain ⟨s1, s2, s3⟩ := datagram_step maskFn H Pc kl L sel v k0 hpC hpS chacha hk s.st.st gc gs lc ls cc sc hest d
      h1 h2 h3 h4 h5 h6 h7
    have hfeed : (quicMachine maskFn H Pc info).feed s.st kl p d.x.dcid .unknown =
        { s.st with st := (handleDatagram maskFn H (params H Pc kl) s.st.st (!d.x.srv) d.x.dcid .unknown d.x.ts
                          (wireOf H Pc L sel v k0 d)).1, raised := none } := by
      simp only [quicMachine_feed maskFn H Pc info s.st kl p d.x.dcid .unknown hr, sver]
      rw [w1, w2, w3]
      unfold wireOf
      rw [s1]
    have hcc : (quicMachine maskFn H Pc info).clientCids s.st = cc := hest.cc
    have hsc : (quicMachine maskFn H Pc info).serverCids s.st = sc := hest.sc
    have hstep := quicHandle_own (quicMachine maskFn H Pc info) o kl p s hmp d.x.srv (by rw [hcl]; exact w3) d.x.dcid True
      (fun _ => by rw [hcc, hsc, w1]; exact r1)
    simp only [if_true] at hstep
    simp only [List.map_cons, quicRun_cons, C02Capstone.feedAll]
    rw [hstep, hfeed]
    exact ih _ _ _ _ _ _ _ hcl rfl s3 (fun y hy => hm y (List.mem_cons_of_mem _ hy))
      (fun y hy => by
        obtain ⟨a, b, c⟩ := hcar y (List.mem_cons_of_mem _ hy)
        exact ⟨a, b, c⟩) h8 r2

end Runs

section RunG
open TLX.Quic.Session TLX.Cipher TLX.Props.C02Session TLX.Spec.KeySchedules
variable {maskFn : Quic.Dissect.MaskFn} {H : Crypto.Prims} {Pc : Cipher.Prims} {info : Nat → Pipeline.Info}
variable {L : SealLaws Pc} {dcid0 cr csel ch sh ca sa : Bytes} {early : Option Bytes} {sel : SuiteSel}
variable {ε D : Type} {K : Kinds ε} {V : DgView ε D}

def hdrG (V : DgView ε D) (d : D) : Hdr := if V.ver d = .unknown then .short else .long (V.dcid d) .v1

/-- `RouteOk`, for the CIDs its receiver has issued so far, for every datagram that BEGINS with a 1-RTT packet;
    long-header datagrams carry their DCID -/
def RoutesG (K : Kinds ε) (V : DgView ε D) (w : D → Bytes) : Bk → List D → Prop
  | _, [] => True
  | b, d :: ds => (V.ver d = .unknown → RouteOk (if V.srv d then b.t.cc else b.t.sc) (w d) (V.dcid d)) ∧
      RoutesG K V w (V.after K b d) ds

/-- the handshake-phase datagrams of the connection, read through `V`, all go to the ONE session, which is fed as `feedG` -/
theorem quicRun_feedG (hK : K.Steps maskFn H Pc dcid0 cr csel ch sh ca sa early sel) (o : Opts)
    (items : List (List Keylog.Key × MainLoop.Pkt × D)) (hkl : ∀ x ∈ items, KeylogHas x.1 cr ch sh ca sa early)
    (b : Bk) (s : QuicSess QConn) (hcl : s.client = s.st.client) (hr : s.st.raised = none)
    (hsim : Sim H dcid0 ch sh ca sa early sel b s.st.st)
    (hm : ∀ x ∈ items, s.matches x.2.1 = true)
    (hok : V.Oks maskFn H Pc L ca sa sel K b (items.map (·.2.2)))
    (htr : PTrace cr csel b.t.core ((items.map (·.2.2)).flatMap (V.ins K)))
    (hcar : ∀ x ∈ items, CarriesG H Pc info L ca sa sel K V s.st x.2.1 x.2.2)
    (hroute : RoutesG K V (V.wire H Pc L ca sa sel K) b (items.map (·.2.2))) :
    quicRun (quicMachine maskFn H Pc info) o [s] (items.map fun x => (⟨x.1, hdrG V x.2.2, x.2.1⟩ : QIn Keylog.Key)) =
      [{ s with st := feedG V (quicMachine maskFn H Pc info) s.st items }] := by
  induction items generalizing b s with
  | nil => simp [quicRun_nil, feedG]
  | cons x rest ih =>
    obtain ⟨kl, p, d⟩ := x
    obtain ⟨hd, hds⟩ := hok
    obtain ⟨r1, r2⟩ := hroute
    have hc0 := hcar (kl, p, d) (List.mem_cons_self ..)
    obtain ⟨b1, b2, b3, _, b5⟩ := feed_dg hK (hkl (kl, p, d) (List.mem_cons_self ..)) hd
      ((rest.map (·.2.2)).flatMap (V.ins K)) hr
      (by rw [feedPre_sim (params H Pc kl) hsim (V.dcid d) (V.ver d)]; exact hsim)
      (by simpa [List.flatMap_cons] using htr) hc0
    have hstep : quicHandleH (quicMachine maskFn H Pc info) o kl (hdrG V d) [s] p =
        [{ s with st := (quicMachine maskFn H Pc info).feed s.st kl p (V.dcid d) (V.ver d) }] := by
      have := quicHandle_own (quicMachine maskFn H Pc info) o kl p s (hm (kl, p, d) (List.mem_cons_self ..)) (V.srv d)
        (by rw [hcl]; exact hc0.dir) (V.dcid d) (V.ver d = .unknown)
        (fun hu => by
          rw [quicMachine_clientCids, quicMachine_serverCids, hsim.cc, hsim.sc, hc0.payload]
          exact r1 hu)
      rcases hd.ver with hv | hv <;> simpa [hdrG, hv] using this
    simp only [List.map_cons, quicRun_cons, feedG]
    rw [hstep]
    exact ih (fun y hy => hkl y (List.mem_cons_of_mem _ hy)) (V.after K b d) _ (by show s.client = _; rw [b5.client]; exact hcl)
      b1 b2 (fun y hy => hm y (List.mem_cons_of_mem _ hy)) hds b3
      (fun y hy => ⟨(hcar y (List.mem_cons_of_mem _ hy)).payload, (hcar y (List.mem_cons_of_mem _ hy)).ts,
        by rw [b5.client]; exact (hcar y (List.mem_cons_of_mem _ hy)).dir⟩) r2


/-- the session `s` has just been fed the first datagram `d0` (by `quicNew` on a fresh connection object, or after a Retry;
    `hsim`: its state behind the prologue of `handle_packet` agreed with `b`): on the rest of the history and the 1-RTT-only
    part the loop keeps it the ONE session and feeds it as `feedG`, then `feedAll`. `c0`: the connection object as created. -/
theorem own_run_G (hK : K.Steps maskFn H Pc dcid0 cr csel ch sh ca sa early sel) (hl : H.Lawful)
    (hsel : selectSuite csel = some sel) (ho : (hashOf H sel.hash).outLen < 65536)
    (hsa : sa.length = (hashOf H sel.hash).outLen) (hca : ca.length = (hashOf H sel.hash).outLen) (o : Opts)
    (kl0 : List Keylog.Key) (p0 : MainLoop.Pkt) (d0 : D) (itemsA : List (List Keylog.Key × MainLoop.Pkt × D))
    (hkl : ∀ x ∈ (kl0, p0, d0) :: itemsA, KeylogHas x.1 cr ch sh ca sa early)
    (b : Bk) {c0 : QConn} (c : QConn) (h0 : SameEnds c0 c) (hr : c.raised = none)
    (hsim : Sim H dcid0 ch sh ca sa early sel b (feedPre H (params H Pc kl0) c.st (V.dcid d0) (sver (V.ver d0))))
    (hok : V.Oks maskFn H Pc L ca sa sel K b (d0 :: itemsA.map (·.2.2)))
    (htr : PTrace cr csel b.t.core ((d0 :: itemsA.map (·.2.2)).flatMap (V.ins K)))
    (hcar : ∀ x ∈ (kl0, p0, d0) :: itemsA, CarriesG H Pc info L ca sa sel K V c0 x.2.1 x.2.2)
    (hkeyed : ((d0 :: itemsA.map (·.2.2)).foldl (V.after K) b).t.keyed = true)
    (hrouteA : RoutesG K V (V.wire H Pc L ca sa sel K) (V.after K b d0) (itemsA.map (·.2.2)))
    (keys : List Keylog.Key) (itemsB : List (MainLoop.Pkt × Dg1))
    (hcarB : ∀ x ∈ itemsB, Carries info c0 (wireOf H Pc L sel .v1 (rfcGen (hashOf H sel.hash) sel.keyLen sa ca 0)) x.1 x.2)
    (hsend : Send1 maskFn H Pc L sel .v1 (rfcGen (hashOf H sel.hash) sel.keyLen sa ca 0)
      (quicHp (hashOf H sel.hash) ca sel.keyLen) (quicHp (hashOf H sel.hash) sa sel.keyLen)
      (chachaOf ((d0 :: itemsA.map (·.2.2)).foldl (V.after K) b).t.core) 0 0
      ((d0 :: itemsA.map (·.2.2)).foldl (V.after K) b).t.tc.app ((d0 :: itemsA.map (·.2.2)).foldl (V.after K) b).t.ts.app
      ((d0 :: itemsA.map (·.2.2)).foldl (V.after K) b).t.cc ((d0 :: itemsA.map (·.2.2)).foldl (V.after K) b).t.sc
      (itemsB.map (·.2)))
    (hrouteB : Routes1 (wireOf H Pc L sel .v1 (rfcGen (hashOf H sel.hash) sel.keyLen sa ca 0))
      ((d0 :: itemsA.map (·.2.2)).foldl (V.after K) b).t.cc ((d0 :: itemsA.map (·.2.2)).foldl (V.after K) b).t.sc
      (itemsB.map (·.2)))
    (s : QuicSess QConn) (hsst : s.st = (quicMachine maskFn H Pc info).feed c kl0 p0 (V.dcid d0) (V.ver d0))
    (hcl : s.client = c0.client)
    (hmA : ∀ x ∈ itemsA, s.matches x.2.1 = true) (hmB : ∀ x ∈ itemsB, s.matches x.1 = true) :
    let QM := quicMachine maskFn H Pc info
    quicRun QM o [s] ((itemsA.map fun x => (⟨x.1, hdrG V x.2.2, x.2.1⟩ : QIn Keylog.Key)) ++
        itemsB.map fun x => (⟨keys, .short, x.1⟩ : QIn Keylog.Key)) =
      [{ s with st := (C02Capstone.feedAll QM (feedG V QM c ((kl0, p0, d0) :: itemsA))
          (itemsB.map fun x => (keys, x.1, x.2))) }] := by
  intro QM
  have hcarc : ∀ x ∈ (kl0, p0, d0) :: itemsA, CarriesG H Pc info L ca sa sel K V c x.2.1 x.2.2 :=
    fun x hx => ⟨(hcar x hx).payload, (hcar x hx).ts, by rw [h0.client]; exact (hcar x hx).dir⟩
  obtain ⟨a1, a2, a3, _, a5⟩ := feed_dg hK (hkl _ (List.mem_cons_self ..)) hok.1
    ((itemsA.map (·.2.2)).flatMap (V.ins K)) hr hsim (by simpa [List.flatMap_cons] using htr) (hcarc _ (List.mem_cons_self ..))
  rw [← hsst] at a1 a2 a5
  have hcarA : ∀ x ∈ itemsA, CarriesG H Pc info L ca sa sel K V s.st x.2.1 x.2.2 := fun x hx =>
    ⟨(hcar x (List.mem_cons_of_mem _ hx)).payload, (hcar x (List.mem_cons_of_mem _ hx)).ts,
      by rw [a5.client, h0.client]; exact (hcar x (List.mem_cons_of_mem _ hx)).dir⟩
  have hklA := fun x hx => hkl x (List.mem_cons_of_mem _ hx)
  have hscl : s.client = s.st.client := by rw [hcl, a5.client, h0.client]
  have hrunA := quicRun_feedG hK o itemsA hklA (V.after K b d0) s hscl a1 a2 hmA hok.2 a3 hcarA hrouteA
  obtain ⟨e1, e2, _, e4⟩ := feedG_exact hK itemsA hklA (V.after K b d0) s.st a1 a2 hok.2 a3 hcarA
  have hc1 : feedG V QM c ((kl0, p0, d0) :: itemsA) = feedG V QM s.st itemsA := by rw [hsst]; rfl
  rw [← hc1] at e1 e2 e4
  have hk := keysWf_rfc H hl Pc keys csel sel hsel .v1 ho sa ca hsa hca
  have hcl1 : (feedG V QM c ((kl0, p0, d0) :: itemsA)).client = c0.client := by rw [e4.client, a5.client, h0.client]
  have hrunO := quicRun_one maskFn H Pc info o keys L sel .v1 _ _ _ _ hk itemsB
    { s with st := feedG V QM c ((kl0, p0, d0) :: itemsA) } 0 0 _ _ _ _ (by show s.client = _; rw [hcl1, hcl]) e1
    (e2.est keys hkeyed) hmB
    (fun x hx => ⟨(hcarB x hx).payload, (hcarB x hx).ts, by
      show (x.1.src == (feedG V QM c ((kl0, p0, d0) :: itemsA)).client) = _
      rw [hcl1]; exact (hcarB x hx).dir⟩)
    hsend hrouteB
  rw [quicRun_append, hrunA, ← hc1]
  exact hrunO

end RunG

/-- the main loop does not take the packet for QUIC: not UDP, or UDP without payload, or (without `-g`) a first payload byte
    without the QUIC fixed bit -/
def NotQuic (o : Opts) (p : MainLoop.Pkt) : Prop :=
  p.l4 = .udp → p.payload = [] ∨ (o.greasy = false ∧ ∀ b0 r, p.payload = b0 :: r → (b0.toNat &&& 0x40) >>> 6 ≠ 1)

def dgPkt (fl : Flow) (srv : Bool) (payload : Bytes) (tag : Nat) : MainLoop.Pkt :=
  ⟨.udp, if srv then serverEp fl else clientEp fl, if srv then clientEp fl else serverEp fl, payload, true, tag⟩

theorem capOk_of_events {ε : Type} (cap : ε → CapEv) (evs : List ε) (hd : ∀ ev ∈ evs, dissect (cap ev).buf = .ok (cap ev).d)
    (ht : ∀ e ∈ evs.map cap, Ingest.isMinusOne e.t = false) : CapOk (evs.map cap) := by
  intro e he
  obtain ⟨ev, hev, rfl⟩ := List.mem_map.mp he
  exact ⟨hd ev hev, ht _ he⟩

theorem quicView_cons (o : Opts) (kl : List Keylog.Key) (p : MainLoop.Pkt) (l : List (MainLoop.Item Keylog.Key)) :
    quicView o kl (.frame p :: l) = quicView o kl [.frame p] ++ quicView o kl l := by
  rcases classify_frame_cases (κ := Keylog.Key) o p with ⟨w, h⟩ | ⟨h, _⟩ | ⟨b0, r, h, _⟩ <;> simp [quicView, h]

theorem quicView_notQuic (o : Opts) (p : MainLoop.Pkt) (h : NotQuic o p) (kl : List Keylog.Key) :
    quicView o kl [.frame p] = [] := by
  rcases classify_frame_cases (κ := Keylog.Key) o p with ⟨w, h'⟩ | ⟨h', _⟩ | ⟨b0, r, h', hu, hp, hb⟩
  · simp only [quicView, h']
  · simp only [quicView, h']
  · exfalso
    rcases h hu with hh | ⟨hg, hh⟩
    · rw [hp] at hh; cases hh
    · rcases hb with hb | hb
      · exact hh b0 r hp hb
      · rw [hg] at hb; cases hb

theorem quicView_dgram (o : Opts) (hc : o.checksumTest = false) (p : MainLoop.Pkt) (hu : p.l4 = .udp) (b0 : UInt8)
    (rest : Bytes) (hp : p.payload = b0 :: rest) (hfix : (b0.toNat &&& 0x40) >>> 6 = 1) (kl : List Keylog.Key) :
    quicView o kl [.frame p] = [⟨kl, parseHeader1 b0 rest, p⟩] := by
  simp [quicView, classify, hu, hp, hc, hfix]

theorem quicView_own (o : Opts) (hc : o.checksumTest = false) (kl : List Keylog.Key) (fl : Flow) (srv : Bool)
    (fr : Spec.FrameBuild.Frame) (u : Udp) (hdg : IsDg fl srv fr u) (b0 : UInt8) (rest : Bytes)
    (hw : u.payload = b0 :: rest) (hfix : (b0.toNat &&& 0x40) >>> 6 = 1) (n : Nat) :
    quicView o kl [.frame (pktOf n (viewOf fr))] = [⟨kl, parseHeader1 b0 rest, dgPkt fl srv u.payload n⟩] := by
  rw [pktOf_dg fl srv fr u hdg n]
  exact quicView_dgram o hc _ rfl b0 rest hw hfix kl

def OneHeader (w1 : Dg1 → Bytes) : Prop :=
  ∀ d : Dg1, 1 ≤ d.x.pnLen → d.x.pnLen ≤ 4 →
    ∃ b0 rest, w1 d = b0 :: rest ∧ (b0.toNat &&& 0x40) >>> 6 = 1 ∧ parseHeader1 b0 rest = .short

theorem itemsFrom_append (a b : List CapEv) (n : Nat) :
    itemsFrom n (a ++ b) = itemsFrom n a ++ itemsFrom (n + a.length) b := by
  induction a generalizing n with
  | nil => simp [itemsFrom]
  | cons e rest ih =>
    have : n + 1 + rest.length = n + (rest.length + 1) := by omega
    simp [itemsFrom, ih (n + 1), this]

theorem quicView_append (o : Opts) (kl : List Keylog.Key) (a : List CapEv) (l : List (MainLoop.Item Keylog.Key)) (n : Nat) :
    quicView o kl (itemsFrom n a ++ l) = quicView o kl (itemsFrom n a) ++ quicView o kl l := by
  rw [quicView_append_dsbKeys, dsbKeys_itemsFrom, List.append_nil]

section WireHeaders
open TLX.Quic.Session TLX.Cipher
variable (H : Crypto.Prims) (Pc : Cipher.Prims)

theorem longOf_wire_header (x : SPkt) (pl : Bytes) (hv : x.version = [0, 0, 0, 1]) (hd : x.dcid.length ≤ 20)
    (hs : x.scid.length ≤ 20) (h1 : 1 ≤ x.pnLen) (h4 : x.pnLen ≤ 4) (m more : Bytes) :
    ∃ b0 rest, (longOf x pl).protect m ++ more = b0 :: rest ∧ (b0.toNat &&& 0x40) >>> 6 = 1 ∧
      parseHeader1 b0 rest = .long x.dcid .v1 :=
  long_wire_header _ (by show x.lowBits % 4 < 4; omega)
    (by show 1 ≤ (pnBytes x.pnLen x.pn).length; rw [Lemmas.QuicSession.pnBytes_length]; exact h1)
    (by show (pnBytes x.pnLen x.pn).length ≤ 4; rw [Lemmas.QuicSession.pnBytes_length]; exact h4)
    hv hd (by show x.scid.length ≤ 63; omega) m more

theorem oneHeader_wireOf (L : SealLaws Pc) (sel : SuiteSel) (v : Quic.Session.Version) (k0 : AppKeys) :
    OneHeader (wireOf H Pc L sel v k0) := by
  intro d h1 h4
  obtain ⟨b0, rest, e1, e2, e3, _⟩ := short_wire_header
    (shortOf d.x (protectedPayload L.aeadSeal sel.alg (genDir (keyUpdate H sel v) k0 d.x.srv d.x.gen) d.x))
    (shortOf_wf _ _ h1 h4) d.mask
  exact ⟨b0, rest, e1, e2, e3⟩

end WireHeaders

section Glue
open TLX.Export

/-- what a run hands to the writer when the QUIC view of the capture leaves the sessions `S1 ++ [sess] ++ S2` in
    `quic_sessions`: the block of `sess`, after the blocks of the TLS sessions and of `S1`, before those of `S2` -/
theorem frames_of_quic_session (mask : Quic.Dissect.MaskFn) (H : Crypto.Prims) (P : Cipher.Prims) (args : Args)
    (keyFile : Option Keylog.Str) (cap : List CapEv) (pm : List (Int × Int)) (ports : List Int)
    (hpm : Options.getPortMap Options.Src.bare args.mArg = .ok pm)
    (hports : Options.serverPorts Options.Src.builtin Options.Src.pDefault args.pArg = .ok ports)
    (S1 S2 : List (QuicSess QConn)) (sess : QuicSess QConn)
    (hq : quicRun (quicMachine mask H P (capInfo cap)) (optsOf args ports pm) []
      (quicView (optsOf args ports pm) ((fileKeysOf keyFile).getD []) (itemsFrom 0 cap)) = S1 ++ [sess] ++ S2)
    (blk : List Pipeline.OutPkt)
    (hblk : (quicMachine mask H P (capInfo cap)).out args.metadata sess.st = blk) :
    ∃ pre post, framesFrom mask H P freshState args (fileKeysOf keyFile) (itemsFrom 0 cap) (capInfo cap) =
      .ok (pre ++ blk ++ post) := by
  have hout := C18.fresh_run_is (Pipeline.tlsMachine H P (capInfo cap)) (quicMachine mask H P (capInfo cap))
    (optsOf args ports pm) ((fileKeysOf keyFile).getD []) (itemsFrom 0 cap)
  rw [hq] at hout
  simp only [List.flatMap_append, List.flatMap_cons, List.flatMap_nil, List.append_nil] at hout
  rw [show (optsOf args ports pm).metadata = args.metadata from rfl, hblk] at hout
  have hfr := framesFrom_eq mask H P args (fileKeysOf keyFile) (itemsFrom 0 cap) (capInfo cap) pm ports hpm hports
  rw [hout] at hfr
  have hassoc : ∀ a b c d : List Pipeline.OutPkt, a ++ (b ++ c ++ d) = a ++ b ++ c ++ d := by
    intros; simp only [List.append_assoc]
  exact ⟨_, _, hfr.trans (congrArg _ (hassoc _ _ _ _))⟩

/-- **The file layers around one of the QUIC sessions.** Capture file (any container the reader model reads as the packets
    `cap`, every frame dissected without exception), key-log file, options without `-c`. If the QUIC view of the capture
    leaves `sess` among the sessions in `quic_sessions` and `blk` is what it exports, the run gets past option parsing and
    the read loop, and either dies in the write loop (some frame of some session does not fit scapy's fields) or writes a
    file that `ReadsBack` exactly `blk` (between the blocks of the other sessions of the capture). -/
theorem export_of_quic_session_among (mask : Quic.Dissect.MaskFn) (H : Crypto.Prims) (P : Cipher.Prims) (args : Args)
    (legacy : Bool) (keyFile : Option Keylog.Str) (file : Bytes) (cap : List CapEv)
    (hread : Container.read legacy file = .ok (cap.map CapEv.item)) (hok : CapOk cap)
    (hnoc : args.checksumTest = false)
    (pm : List (Int × Int)) (ports : List Int)
    (hpm : Options.getPortMap Options.Src.bare args.mArg = .ok pm)
    (hports : Options.serverPorts Options.Src.builtin Options.Src.pDefault args.pArg = .ok ports)
    (S1 S2 : List (QuicSess QConn)) (sess : QuicSess QConn)
    (hq : quicRun (quicMachine mask H P (capInfo cap)) (optsOf args ports pm) []
      (quicView (optsOf args ports pm) ((fileKeysOf keyFile).getD []) (itemsFrom 0 cap)) = S1 ++ [sess] ++ S2)
    (blk : List Pipeline.OutPkt)
    (hblk : (quicMachine mask H P (capInfo cap)).out args.metadata sess.st = blk) :
    (∃ e, exportFile mask H P args legacy keyFile file = .abort (.write e)) ∨
    ∃ f, exportFile mask H P args legacy keyFile file = .file f ∧ ReadsBack f blk := by
  obtain ⟨pre, post, hfr⟩ := frames_of_quic_session mask H P args keyFile cap pm ports hpm hports S1 S2 sess hq blk hblk
  have hing := ingest_of_capture Keylog.srcHexClass legacy file cap hread hok
  rw [← hnoc] at hing
  obtain ⟨_, ⟨e, _, he⟩ | h⟩ := Lemmas.ExportWrite.wrote_or_abort mask H P args legacy keyFile file _ _ hing
    (optionsBad_false args pm ports hpm hports) pre blk post hfr
  · exact .inl ⟨e, he⟩
  · exact .inr h

/-- the write loop does not abort when every frame the run hands to the writer is taken by it (`WritesOk`: scapy
    serialises the frame, dpkt stores its time) -/
theorem no_abort_of_all_fit (mask : Quic.Dissect.MaskFn) (H : Crypto.Prims) (P : Cipher.Prims) (args : Args)
    (legacy : Bool) (keyFile : Option Keylog.Str) (file : Bytes) (cap : List CapEv)
    (hread : Container.read legacy file = .ok (cap.map CapEv.item)) (hok : CapOk cap)
    (hnoc : args.checksumTest = false)
    (hall : ∀ out, framesFrom mask H P freshState args (fileKeysOf keyFile) (itemsFrom 0 cap) (capInfo cap) = .ok out →
      ∀ q ∈ out, C01File2.WritesOk q) :
    ¬ ∃ e, exportFile mask H P args legacy keyFile file = .abort (.write e) := by
  rintro ⟨e, he⟩
  obtain ⟨hopt, xs, is, out, hi, hf, _⟩ := (Props.Export.export_abort_write_iff mask H P args legacy keyFile file e).mp he
  have hing := ingest_of_capture Keylog.srcHexClass legacy file cap hread hok
  rw [← hnoc, hi] at hing
  cases hing
  obtain ⟨f, hfile, _⟩ := Lemmas.ExportWrite.wrote_of_fits mask H P args legacy keyFile file _ _ hi hopt [] out []
    (by simpa using hf) (by simpa using hall out hf)
  rw [hfile] at he
  cases he

end Glue

theorem capInfo_dg (fl : Flow) (srv : Bool) (fr : Spec.FrameBuild.Frame) (u : Udp) (h : IsDg fl srv fr u) (cap : List CapEv)
    (n : Nat) (t : Container.Time) (hn : cap[n]? = some ⟨t, fr.encode, viewOf fr⟩) :
    capInfo cap n = ⟨0, Container.usOfFloat t.toFloat, fr.srcMac, fr.dstMac, fl.v6⟩ := by
  rw [capInfo_at cap n _ hn, infoOf_dg fl srv fr u h]; rfl

theorem dgPkt_src_client (fl : Flow) (hne : clientEp fl ≠ serverEp fl) (srv : Bool) (pl : Bytes) (tag : Nat) :
    ((dgPkt fl srv pl tag).src == clientEp fl) = !srv := by
  cases srv
  · simp [dgPkt]
  · simp only [dgPkt, if_true, Bool.not_true, beq_eq_false_iff_ne, ne_eq]
    exact fun h => hne h.symm

theorem dgPkt_matches {α : Type} (fl : Flow) (s : Sess α) (hs : s.server = serverEp fl) (hc : s.client = clientEp fl)
    (srv : Bool) (pl : Bytes) (tag : Nat) : s.matches (dgPkt fl srv pl tag) = true := by
  cases srv <;> simp [Sess.matches, dgPkt, hs, hc]

/-- the client's first datagram makes the session: the flow's endpoints in their roles, when the client's port is no server
    port (else the tool swaps them) -/
theorem rolesOf_client (fl : Flow) (ports : List Int) (hcp : ports.contains (fl.clientPort : Int) = false) (pl : Bytes)
    (tag : Nat) : rolesOf ports (dgPkt fl false pl tag) = (serverEp fl, clientEp fl) := by
  have hc' : ¬ (fl.clientPort : Int) ∈ ports := by simpa using hcp
  simp [rolesOf, dgPkt, clientEp, hc']

section NoAbort
open TLX.Export TLX.Props.C01File2

/-- `export_of_quic_session_among` without the abort alternative: when the frames of the block and of the other sessions
    are taken by the write loop, the file IS written -/
theorem export_of_quic_session_file (mask : Quic.Dissect.MaskFn) (H : Crypto.Prims) (P : Cipher.Prims) (args : Args)
    (legacy : Bool) (keyFile : Option Keylog.Str) (file : Bytes) (cap : List CapEv)
    (hread : Container.read legacy file = .ok (cap.map CapEv.item)) (hok : CapOk cap)
    (hnoc : args.checksumTest = false)
    (pm : List (Int × Int)) (ports : List Int)
    (hpm : Options.getPortMap Options.Src.bare args.mArg = .ok pm)
    (hports : Options.serverPorts Options.Src.builtin Options.Src.pDefault args.pArg = .ok ports)
    (sess : QuicSess QConn)
    (hq : quicRun (quicMachine mask H P (capInfo cap)) (optsOf args ports pm) []
      (quicView (optsOf args ports pm) ((fileKeysOf keyFile).getD []) (itemsFrom 0 cap)) = [sess])
    (blk : List Pipeline.OutPkt)
    (hblk : (quicMachine mask H P (capInfo cap)).out args.metadata sess.st = blk)
    (hfit : ∀ x ∈ blk, WritesOk x) (hothers : OthersFit mask H P args keyFile cap blk) :
    ∃ f, exportFile mask H P args legacy keyFile file = .file f ∧ ReadsBack f blk := by
  obtain ⟨pre, post, hfr⟩ := frames_of_quic_session mask H P args keyFile cap pm ports hpm hports [] [] sess
    (by rw [hq]; rfl) blk hblk
  have hing := ingest_of_capture Keylog.srcHexClass legacy file cap hread hok
  rw [← hnoc] at hing
  exact Lemmas.ExportWrite.wrote_of_block mask H P args legacy keyFile file _ _ hing
    (optionsBad_false args pm ports hpm hports) pre blk post hfr hfit hothers

end NoAbort

end TLX.Props.C02File
