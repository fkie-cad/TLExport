/-
`quic_connection_exact` for a conformant handshake (`ConfHs`: `PTrace` discharged by `ptrace_of_conformant`), and with a Retry
before the handshake. Namespace `TLX.Props.C02Capstone`, that of the theorems these are instances of.
-/
import TLX.Props.C02Parser
namespace TLX.Props.C02Capstone
open TLX TLX.Quic TLX.Cipher TLX.Quic.Session TLX.Lemmas.QuicSession TLX.Spec.QuicSender TLX.Spec.QuicFrames
open TLX.Props.C02Session TLX.Spec.QuicConnection TLX.Spec.QuicPackets TLX.QuicPipeline
open TLX.Spec.KeySchedules TLX.Lemmas.KeySchedule
open TLX.Props.C02Capstone3 (noOut expo)
open TLX.Props.C02Pipeline TLX.Quic.CryptoStream TLX.Lemmas.CryptoStream TLX.Spec.TlsHandshakeFraming
open TLX.Spec.TlsHello TLX.Lemmas.TlsHello

section ConformantConn
variable (maskFn : Dissect.MaskFn) (H : Crypto.Prims) (Pc : Cipher.Prims) (info : Nat → Pipeline.Info)

/-- **C02 for a whole connection with a conformant handshake**: `quic_connection_exact` with the local parser hypothesis
    `PTrace` replaced by its RFC-terms cause — the CRYPTO frames of the handshake datagrams are, in processing order, those of
    a conformant TLS 1.3 handshake `hs` (`ConfHs.ins`: ClientHello in any cut / order / duplicates over the client's
    Initial packets, ServerHello, the server's flight in order, the client's Finished); client random and selected suite
    are the ClientHello's and the ServerHello's. -/
theorem quic_connection_exact_conformant (hl : H.Lawful) (h32 : H.sha256.outLen = 32) (L : SealLaws Pc)
    (hs : ConfHs) (hsok : hs.Ok) (ch sh ca sa : Bytes) (early : Option Bytes) (sel : SuiteSel)
    (hsel : selectSuite hs.sh.cipherSuite = some sel)
    (ho : (hashOf H sel.hash).outLen < 65536)
    (hsa : sa.length = (hashOf H sel.hash).outLen) (hca : ca.length = (hashOf H sel.hash).outLen)
    (kl0 : List Keylog.Key) (p0 : MainLoop.Pkt) (d0 : DgH) (items : List (List Keylog.Key × MainLoop.Pkt × DgH))
    (hkl : ∀ x ∈ (kl0, p0, d0) :: items, KeylogHas x.1 hs.ch.random ch sh ca sa early)
    (c : QConn) (hc : Fresh H Pc c)
    (hok : HsDgs maskFn H Pc L (dgDcid d0) sel sh ch trk0 (d0 :: items.map (·.2.2)))
    (hins : allIns (d0 :: items.map (·.2.2)) = hs.ins)
    (hcar : ∀ x ∈ (kl0, p0, d0) :: items, CarriesH info c (dgWire H Pc L (dgDcid d0) sel sh ch) x.2.1 x.2.2)
    (hkeyed : (trk0.runDgs (d0 :: items.map (·.2.2))).keyed = true)
    (items1 : List (List Keylog.Key × MainLoop.Pkt × Dg1))
    (hcar1 : ∀ x ∈ items1, Carries info c
      (wireOf H Pc L sel .v1 (rfcGen (hashOf H sel.hash) sel.keyLen sa ca 0)) x.2.1 x.2.2)
    (hsend : Send1 maskFn H Pc L sel .v1 (rfcGen (hashOf H sel.hash) sel.keyLen sa ca 0)
      (quicHp (hashOf H sel.hash) ca sel.keyLen) (quicHp (hashOf H sel.hash) sa sel.keyLen)
      (chachaOf (trk0.runDgs (d0 :: items.map (·.2.2))).core) 0 0
      (trk0.runDgs (d0 :: items.map (·.2.2))).tc.app (trk0.runDgs (d0 :: items.map (·.2.2))).ts.app
      (trk0.runDgs (d0 :: items.map (·.2.2))).cc (trk0.runDgs (d0 :: items.map (·.2.2))).sc (items1.map (·.2.2)))
    (htimes : ((items1.map (·.2.2)).map fun d => (d.x.ts, d.x.srv)).Pairwise (· ≠ ·)) :
    let QM := quicMachine maskFn H Pc info
    let c1 := hsFeedAll QM c ((kl0, p0, d0) :: items)
    (feedAll QM c1 items1).raised = none ∧
    QM.out false (feedAll QM c1 items1) = expectedOut c (items1.map (·.2.2)) :=
  quic_connection_exact maskFn H Pc info hl h32 L hs.ch.random hs.sh.cipherSuite ch sh ca sa early sel hsel ho hsa hca kl0 p0 d0
    items hkl c hc hok (by rw [hins]; exact ptrace_of_conformant hs hsok) hcar hkeyed items1 hcar1 hsend htimes

end ConformantConn

section RetryVariant
open TLX.Props.C02Sim
variable (maskFn : Dissect.MaskFn) (H : Crypto.Prims) (Pc : Cipher.Prims) (info : Nat → Pipeline.Info)

/-- **C02 for a connection with a Retry** (RFC 9000 §8.1.2, §17.2.5): the client's first Initial datagram(s), the server's
    Retry (any SCID, any token), then the whole handshake again — the client's new Initial carries the Retry's SCID as
    DCID (that is `dgDcid d0`: the Initial keys are derived from it, RFC 9001 §5.2) and the token (any length: `LongShape.tok`)
    — and the 1-RTT phase. Conclusion as `quic_connection_exact`. The connection IDs learned from the first Initial stay in
    the sets (`Trk.afterRetry`); the only thing asked of them is the `DcidOk` of every later datagram, which RFC 9000 §5.1
    gives: the Retry SCID is a server-chosen CID, the stale first DCID sits in `server_cids` where it can only be taken for a
    client→server CID, which is what it was. -/
theorem quic_connection_exact_retry (hl : H.Lawful) (h32 : H.sha256.outLen = 32) (L : SealLaws Pc)
    (hs : ConfHs) (hsok : hs.Ok) (ch sh ca sa : Bytes) (early : Option Bytes) (sel : SuiteSel)
    (hsel : selectSuite hs.sh.cipherSuite = some sel)
    (ho : (hashOf H sel.hash).outLen < 65536)
    (hsa : sa.length = (hashOf H sel.hash).outLen) (hca : ca.length = (hashOf H sel.hash).outLen)
    -- first attempt
    (klA : List Keylog.Key) (pA : MainLoop.Pkt) (dA : DgH)
    (hklA : KeylogHas klA hs.ch.random ch sh ca sa early)
    (c : QConn) (hc : Fresh H Pc c)
    (hokA : HsDgOk maskFn H Pc L (dgDcid dA) sel sh ch trk0 dA)
    (htrA : PTrace hs.ch.random hs.sh.cipherSuite {} (insOf dA.pkts))
    (hcarA : CarriesH info c (dgWire H Pc L (dgDcid dA) sel sh ch) pA dA)
    -- the Retry
    (klR : List Keylog.Key) (pR : MainLoop.Pkt) (r : Retry) (dcidR : Bytes) (hrwf : r.wf)
    (hrver : r.version ≠ [0, 0, 0, 0]) (hrscid : r.scid.length ≤ 63) (hpR : pR.payload = r.encode)
    -- second attempt
    (kl0 : List Keylog.Key) (p0 : MainLoop.Pkt) (d0 : DgH) (items : List (List Keylog.Key × MainLoop.Pkt × DgH))
    (hkl : ∀ x ∈ (kl0, p0, d0) :: items, KeylogHas x.1 hs.ch.random ch sh ca sa early)
    (hok : HsDgs maskFn H Pc L (dgDcid d0) sel sh ch (trk0.run dA.pkts).afterRetry (d0 :: items.map (·.2.2)))
    (hins : allIns (d0 :: items.map (·.2.2)) = hs.ins)
    (hcar : ∀ x ∈ (kl0, p0, d0) :: items, CarriesH info c (dgWire H Pc L (dgDcid d0) sel sh ch) x.2.1 x.2.2)
    (hkeyed : ((trk0.run dA.pkts).afterRetry.runDgs (d0 :: items.map (·.2.2))).keyed = true)
    -- 1-RTT
    (items1 : List (List Keylog.Key × MainLoop.Pkt × Dg1))
    (hcar1 : ∀ x ∈ items1, Carries info c
      (wireOf H Pc L sel .v1 (rfcGen (hashOf H sel.hash) sel.keyLen sa ca 0)) x.2.1 x.2.2)
    (hsend : Send1 maskFn H Pc L sel .v1 (rfcGen (hashOf H sel.hash) sel.keyLen sa ca 0)
      (quicHp (hashOf H sel.hash) ca sel.keyLen) (quicHp (hashOf H sel.hash) sa sel.keyLen)
      (chachaOf ((trk0.run dA.pkts).afterRetry.runDgs (d0 :: items.map (·.2.2))).core) 0 0
      ((trk0.run dA.pkts).afterRetry.runDgs (d0 :: items.map (·.2.2))).tc.app
      ((trk0.run dA.pkts).afterRetry.runDgs (d0 :: items.map (·.2.2))).ts.app
      ((trk0.run dA.pkts).afterRetry.runDgs (d0 :: items.map (·.2.2))).cc
      ((trk0.run dA.pkts).afterRetry.runDgs (d0 :: items.map (·.2.2))).sc (items1.map (·.2.2)))
    (htimes : ((items1.map (·.2.2)).map fun d => (d.x.ts, d.x.srv)).Pairwise (· ≠ ·)) :
    let QM := quicMachine maskFn H Pc info
    let c1 := QM.feed c klA pA (dgDcid dA) .v1
    let c2 := QM.feed c1 klR pR dcidR .v1
    let c3 := hsFeedAll QM c2 ((kl0, p0, d0) :: items)
    (feedAll QM c3 items1).raised = none ∧
    QM.out false (feedAll QM c3 items1) = expectedOut c (items1.map (·.2.2)) := by
  intro QM c1 c2 c3
  obtain ⟨hr, hout0, hsim0⟩ := hc.sim klA h32 (dgDcid dA) sel ch sh ca sa early
  have hK := fun d => steps_long maskFn H Pc hl L d hs.ch.random hs.sh.cipherSuite ch sh ca sa early sel hsel
  -- first attempt
  obtain ⟨a1, a2, _, a4, a5⟩ := feed_dg (V := hView) (hK (dgDcid dA)) hklA (hView_ok ca sa none hokA) [] hr
    hsim0 (by rw [List.append_nil]; exact htrA) (carriesG_of_H ca sa hcarA)
  rw [hView_after] at a2
  -- the Retry, then the second attempt
  obtain ⟨b1, b2, b3, b4⟩ := retry_sim maskFn H Pc info h32 klR kl0 (dgDcid dA) (dgDcid d0) r hrwf hrver hrscid a1 a2 pR hpR dcidR
  have hk := keysWf_rfc H hl Pc [] hs.sh.cipherSuite sel hsel .v1 ho sa ca hsa hca
  have hrun : ((d0 :: items.map (·.2.2)).foldl (hView.after (longK maskFn H Pc L (dgDcid d0) ch sh sel))
      ⟨(trk0.run dA.pkts).afterRetry, none⟩).t = (trk0.run dA.pkts).afterRetry.runDgs (d0 :: items.map (·.2.2)) := hView_runDgs ..
  have hdist : C02Out.DistinctKeys ((items1.map (·.2.2)).map fun d => inDg d.x) := by
    unfold C02Out.DistinctKeys
    rw [List.map_map]
    exact htimes
  obtain ⟨r1, r2, _⟩ := conn_from (V := hView) (hK (dgDcid d0)) hk kl0 p0 d0 items hkl ⟨(trk0.run dA.pkts).afterRetry, none⟩ c2
    (a5.trans b2) b1
    (by rw [show c2.st.out = _ from b3, a4, hView_out1, hout0]; rfl) b4 (hView_oks ca sa _ _ none hok)
    (by show PTrace _ _ _ (allIns (d0 :: items.map (·.2.2))); rw [hins]; exact ptrace_of_conformant hs hsok)
    (fun x hx => carriesG_of_H ca sa (hcar x hx)) hrun hkeyed [] (by rw [hView_out]; rfl) items1 hcar1
    hsend (by rw [List.nil_append]; exact hdist.adjacent false)
  rw [show c3 = feedG hView QM c2 ((kl0, p0, d0) :: items) from hsFeedAll_eq ..]
  exact ⟨r1, by rw [r2]; rfl⟩

end RetryVariant
end TLX.Props.C02Capstone
