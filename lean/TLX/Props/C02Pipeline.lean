/-
C02 / C03 for the COMPOSED QUIC export model (`TLX.QuicPipeline`, the model the whole-program correspondence
`harness/quic_pipeline_corr.py` runs against the real tool): what is specific to the composition.

Everything the theorems of `Props/C02Session`, `C02Dissect`, `C02Crypto`, `C02Hello`, `C02Out`, `C16`, `C17` say for EVERY
`Params` / mask / `raises` function holds for the instances plugged together here. This file adds
  * `quic_conn_never_raises`, `quic_machine_never_raises`, `quic_run_never_raises` — no exception leaves `handle_packet`,
    for any datagram, key log, hash functions, AEAD, mask: `session_total`'s hypothesis `classOk` is discharged from what
    `extract_quic_packet` can build, through the coalescing loop and the main loop;
  * `quic_out_bytes_from_frames`, `quic_out_addressed` — the exported UDP payload bytes are exactly the data of the
    exported frames of `output_buffer`, and every exported frame is addressed with the connection's endpoints;
  * `handleRecord_err_indep`, `initial_keys_never_raise`, `key_update_never_raises` — the adapters' side conditions;
  * `after_tls_hp_exact`, `after_tls_hp_unchanged`, `decryptPacket_keeps`, `feedPre_verOk`, `handleTurn_verOk` — the
    header-protection keys handed to the dissector (adapter field `Tls.hp`) come from the same `dev_quic_keys` result
    as the packet keys in the decryptors;
  * the TLS-parser hypotheses of `C02Session.one_rtt_exact` for the concrete parser: `TlsQuiet` / `TlsNoRaise` quantify
    over ALL parser states and ALL 1-RTT CRYPTO frames and are FALSE for `QuicTlsSession` as written
    (`tls_quiet_rtt1_counterexample`: a 1-RTT CRYPTO frame carrying an EncryptedExtensions message sets `new_data`, and
    `set_tls_decryptors` runs again); what holds is the conditional form `tls_quiet_rtt1` / `tls_no_raise_rtt1` /
    `one_rtt_crypto_keeps_keys`: a CRYPTO frame that completes no ClientHello / ServerHello / EncryptedExtensions
    message (NewSessionTicket, type 4, is what RFC 9001 §4 allows in 1-RTT) neither raises nor touches any decryptor,
    key, epoch or header-protection key.
-/
import TLX.Lemmas.QuicPipeline
import TLX.Lemmas.QuicSessionExact
import TLX.Lemmas.CryptoStream
import TLX.Lemmas.TlsHello
import TLX.Props.C02Hello
import TLX.Props.C02Out
namespace TLX.Props.C02Pipeline
open TLX TLX.Quic TLX.QuicPipeline

/-- One datagram through `QuicSession.handle_packet`, composed: whatever the session state, the routing DCID, the
    version, the key log / hash functions / AEAD inside `P`, the header-protection mask and the datagram bytes, no
    exception leaves it. (`session_total` needs `classOk` for the dissected packets: the dissector guarantees it.) -/
theorem quic_conn_never_raises (mask : Dissect.MaskFn) (H : Crypto.Prims) (P : Quic.Session.Params Tls) (s : Quic.Session.St Tls)
    (fromClientAddr : Bool) (dcid : Bytes) (v : Quic.Session.Version) (ts : Nat) (payload : Bytes) :
    (handleDatagram mask H P s fromClientAddr dcid v ts payload).2 = none := by
  unfold handleDatagram
  exact Lemmas.QuicPipeline.dissectLoop_inv mask _ (handleTurn P) _ dcid ts (fun x => x.2 = none)
    (fun x pkts hx hp => Lemmas.QuicPipeline.handleTurn_none P x pkts hx hp) _ payload rfl

/-- Every QUIC session of the main loop, after any capture, still has `raised = none`. -/
theorem quic_machine_never_raises {σ : Type} (mask : Dissect.MaskFn) (H : Crypto.Prims) (Pc : Cipher.Prims)
    (info : Nat → Pipeline.Info) (TM : MainLoop.TlsMachine Keylog.Key σ Pipeline.OutPkt) (o : MainLoop.Opts)
    (items : List (MainLoop.Item Keylog.Key)) (st : MainLoop.State Keylog.Key σ QConn)
    (hst : ∀ s ∈ st.quic, s.st.raised = none) :
    ∀ s ∈ (MainLoop.runItems TM (quicMachine mask H Pc info) o st items).quic, s.st.raised = none := by
  apply Lemmas.QuicPipeline.runItems_quic_inv TM (quicMachine mask H Pc info) (fun c => c.raised = none)
  · intro o p; rfl
  · intro c kl p dcid ver hc
    rw [quicMachine_feed mask H Pc info c kl p dcid ver hc]
    exact quic_conn_never_raises ..
  · exact hst

/-- `run()` in a fresh interpreter: whatever the options and the capture, no QUIC session raised. -/
theorem quic_run_never_raises {σ : Type} (mask : Dissect.MaskFn) (H : Crypto.Prims) (Pc : Cipher.Prims)
    (info : Nat → Pipeline.Info) (TM : MainLoop.TlsMachine Keylog.Key σ Pipeline.OutPkt) (a : MainLoop.Args)
    (inp : MainLoop.Inputs Keylog.Key) (ms : MainLoop.ModState Keylog.Key σ QConn) (out : List Pipeline.OutPkt)
    (h : MainLoop.runFrom TM (quicMachine mask H Pc info) MainLoop.freshState a inp = .ok (ms, out)) :
    ∀ s ∈ ms.st.quic, s.st.raised = none := by
  unfold MainLoop.runFrom MainLoop.body at h
  split at h
  · cases h
  · split at h
    · cases h
    · simp only [Except.ok.injEq, Prod.mk.injEq] at h
      obtain ⟨rfl, _⟩ := h
      apply quic_machine_never_raises
      intro s hs
      simp only [MainLoop.reset, MainLoop.freshState] at hs
      split at hs <;> simp at hs

theorem addressed_payload (c : QConn) (d : UdpOut.Dgram) : (addressed c d).payload = d.payload := by
  unfold addressed; split <;> rfl

/-- The UDP payload bytes a connection exports, all output frames together, are exactly the data of the exported
    elements of `output_buffer` (STREAM data; with `-a` also CRYPTO data), once each, in order. -/
theorem quic_out_bytes_from_frames (md : Bool) (c : QConn) :
    (connOut md c).flatMap (·.payload) = ((c.st.out.map frameOf).filterMap (UdpOut.exported md)).flatten := by
  unfold connOut
  split
  · rename_i h
    have : c.st.out = [] := by simpa using h
    simp [this]
  · rw [List.flatMap_map]
    simp only [addressed_payload]
    exact C02Out.out_bytes_from_frames md _

/-- Every exported frame is a UDP datagram between the connection's client endpoint and its server address with the
    exported server port (`-m` / 8080 rule), MAC addresses and endpoints oriented with its direction, in the IP
    version of the connection, and carries the capture time of an exported input frame of the same direction. -/
theorem quic_out_addressed (md : Bool) (c : QConn) (p : Pipeline.OutPkt) (hp : p ∈ connOut md c) :
    p.flags = 0 ∧ p.seq = 0 ∧ p.ack = 0 ∧ p.ipv6 = c.ipv6 ∧
    (let sp : MainLoop.Endpoint :=
        ⟨c.server.ip, TcpOut.exportedServerPort c.opts.keep (Pipeline.portmapFn c.opts.portmap) c.server.port⟩
     (p.src = sp ∧ p.dst = c.client ∧ p.srcMac = c.serverMac ∧ p.dstMac = c.clientMac) ∨
     (p.src = c.client ∧ p.dst = sp ∧ p.srcMac = c.clientMac ∧ p.dstMac = c.serverMac)) ∧
    ∃ o ∈ c.st.out, (UdpOut.exported md (frameOf o)).isSome ∧ o.ts = p.ts := by
  unfold connOut at hp
  split at hp
  · cases hp
  · obtain ⟨d, hd, rfl⟩ := List.mem_map.mp hp
    obtain ⟨f, hf, hex, hts, _⟩ := C02Out.out_key_occurs md _ d hd
    obtain ⟨o, ho, rfl⟩ := List.mem_map.mp hf
    have hfts : (frameOf o).ts = o.ts := by unfold frameOf; repeat' split <;> rfl
    have hats : (addressed c d).ts = d.ts := by unfold addressed; split <;> rfl
    refine ⟨?_, ?_, ?_, ?_, ?_, o, ho, hex, by rw [hats, ← hts, hfts]⟩
    all_goals (unfold addressed; split <;> simp)

/-- whether `handle_record` raises depends on the message only (`recordRaises` asks it on the initial state) -/
theorem handleRecord_err_indep (s s' : TlsMsgs.State) (t : Nat) (r : Bytes) :
    (TlsMsgs.handleRecord s t r).2 = (TlsMsgs.handleRecord s' t r).2 := by
  -- `raises_iff` says which records raise without looking at the state, and there is one exception
  have key : ∀ a b : TlsMsgs.State, (TlsMsgs.handleRecord a t r).2 = some .index → (TlsMsgs.handleRecord b t r).2 = some .index :=
    fun a b h => (C02Hello.raises_iff b t r).mpr ((C02Hello.raises_iff a t r).mp h)
  cases hx : (TlsMsgs.handleRecord s t r).2 with
  | some e => cases e; exact (key s s' hx).symm
  | none =>
    cases hy : (TlsMsgs.handleRecord s' t r).2 with
    | none => rfl
    | some e => cases e; rw [key s' s hy] at hx; cases hx

/-- `dev_initial_keys` never raises (the `Except` of `KeySchedule.devInitialKeys` is the OverflowError of
    `int.to_bytes` in `make_info`, impossible for its constant lengths): `devInitial` loses nothing. -/
theorem initial_keys_never_raise (h : Crypto.HashSuite) (cid : Bytes) (ver : KeySchedule.QuicVersion) :
    ∃ r, KeySchedule.devInitialKeys h cid ver false = .ok r := by
  cases ver <;>
    simp [KeySchedule.devInitialKeys, KeySchedule.makeInfo, KeySchedule.toBytes1, KeySchedule.toBytes2, bind, Except.bind,
          pure, Except.pure, KeySchedule.bClientIn, KeySchedule.bServerIn, KeySchedule.bQuicKey, KeySchedule.bQuicIv,
          KeySchedule.bQuicHp, KeySchedule.bQuicV2Key, KeySchedule.bQuicV2Iv, KeySchedule.bQuicV2Hp]

/-- `key_update` never raises for the four suites (key length 16 / 32) and a hash with a two-byte digest size:
    the `default` arm of the adapter `keyUpdate` is not reached. -/
theorem key_update_never_raises (h : Crypto.HashSuite) (hl : h.outLen < 65536) (keyLen : Nat) (hk : keyLen < 65536)
    (a b c d ssec csec : Bytes) :
    ∃ sk siv ck civ ss cs, KeySchedule.keyUpdate h keyLen [a, b, c, d, ssec, csec] = .ok [sk, siv, ck, civ, ss, cs] := by
  simp [KeySchedule.keyUpdate, KeySchedule.makeInfo, KeySchedule.toBytes1, KeySchedule.toBytes2, bind, Except.bind,
        pure, Except.pure, KeySchedule.bQuicKey, KeySchedule.bQuicIv, KeySchedule.bQuicKu, hl, hk]

open TLX.Quic.CryptoStream TLX.Lemmas.CryptoStream in
/-- `Lemmas.CryptoStream.update_frag` for the session's parser state -/
theorem tlsUpdate_frag (pt : PT) (frs : List Bytes) (hne : ∀ c ∈ frs, c ≠ [])
    (hnr : ∀ m ∈ implFrame frs.flatten, recordRaises m = false) (t : Tls) (c : Quic.Session.CryptoIn) (D : List CFrame)
    (cum : List Bytes) (hpt : ptOf c.ptype = some pt) (hd : ∀ k, Drained recordRaises (t.frames.ks k).buf)
    (hinv : Inv frs D (t.frames.ks (c.isServer, pt)) cum) (hf : IsFrag frs ⟨t.nextId, c.offset, c.data, c.length⟩)
    (hids : IdsOK (D ++ [⟨t.nextId, c.offset, c.data, c.length⟩])) :
    ∃ s' new, tlsUpdate t c = ({ t with frames := t.frames.set (c.isServer, pt) s', msgs := feedRecords t.msgs new,
                                          nextId := t.nextId + 1 }, none) ∧
      Inv frs (D ++ [⟨t.nextId, c.offset, c.data, c.length⟩]) s' (cum ++ new) ∧
      ∀ k, Drained recordRaises ((t.frames.set (c.isServer, pt) s').ks k).buf := by
  obtain ⟨s', new, hup, hinv', hd'⟩ := update_frag recordRaises frs hne hnr t.frames (c.isServer, pt) _ D cum hd hinv hf hids
  refine ⟨s', new, ?_, hinv', hd'⟩
  unfold tlsUpdate
  simp only [hpt]
  rw [hup]
  rfl

/-- is this handshake message one `handle_record` acts on (ClientHello 1, ServerHello 2, EncryptedExtensions 8)? -/
def helloType (m : Bytes) : Bool :=
  match m with
  | [] => false
  | t :: _ => t == 1 || t == 2 || t == 8

/-- the handshake messages the call `update_session(frame)` hands to `handle_record` (the frame may complete
    messages in any of the four spaces of its direction) -/
def completedBy (t : Tls) (c : Quic.Session.CryptoIn) : List Bytes :=
  match ptOf c.ptype with
  | none => []
  | some pt => (CryptoStream.update recordRaises t.frames (c.isServer, pt) ⟨t.nextId, c.offset, c.data, c.length⟩).2.1

/-- the frame completes no ClientHello / ServerHello / EncryptedExtensions (e.g. it carries NewSessionTicket, the only
    handshake message RFC 9001 §4.1.3 has in 1-RTT packets besides none) -/
def Harmless (t : Tls) (c : Quic.Session.CryptoIn) : Prop := ∀ m ∈ completedBy t c, helloType m = false

theorem handleRecord_not_hello (s : TlsMsgs.State) (m : Bytes) (h : helloType m = false) :
    ∀ t r, m = t :: r → TlsMsgs.handleRecord s t.toNat m = (s, none) := by
  intro t r hm
  subst hm
  simp only [helloType, Bool.or_eq_false_iff, beq_eq_false_iff_ne] at h
  obtain ⟨⟨h1, h2⟩, h8⟩ := h
  have n1 : t.toNat ≠ 1 := fun e => h1 (UInt8.toNat_inj.mp (by simpa using e))
  have n2 : t.toNat ≠ 2 := fun e => h2 (UInt8.toNat_inj.mp (by simpa using e))
  have n8 : t.toNat ≠ 8 := fun e => h8 (UInt8.toNat_inj.mp (by simpa using e))
  unfold TlsMsgs.handleRecord
  split
  · rename_i e; exact absurd e n1
  · rename_i e; exact absurd e n2
  · rename_i e; exact absurd e n8
  · rfl

theorem recordRaises_not_hello (m : Bytes) (h : helloType m = false) : recordRaises m = false := by
  unfold recordRaises
  split
  · rfl
  · rename_i t r; rw [handleRecord_not_hello _ _ h t r rfl]; rfl

theorem feedRecords_not_hello (s : TlsMsgs.State) (ms : List Bytes) (h : ∀ m ∈ ms, helloType m = false) :
    feedRecords s ms = s := by
  unfold feedRecords
  induction ms generalizing s with
  | nil => rfl
  | cons m ms ih =>
    simp only [List.foldl_cons]
    have hm := h m (List.mem_cons_self ..)
    cases m with
    | nil => exact ih s (fun x hx => h x (List.mem_cons_of_mem _ hx))
    | cons t r =>
      simp only
      rw [handleRecord_not_hello s _ hm t r rfl]
      exact ih s (fun x hx => h x (List.mem_cons_of_mem _ hx))

/-- `TlsNoRaise`, conditional form: a CRYPTO frame (of a packet type that can carry one) that completes no hello
    message does not make `update_session` raise — in ANY parser state. -/
theorem tls_no_raise_rtt1 (t : Tls) (c : Quic.Session.CryptoIn) (hpt : c.ptype = .rtt1) (hh : Harmless t c) :
    (tlsUpdate t c).2 = none := by
  unfold Harmless completedBy at hh
  unfold tlsUpdate
  rw [hpt] at hh ⊢
  simp only [ptOf] at hh ⊢
  split
  · rename_i hr
    obtain ⟨m, hm, hrm⟩ := Lemmas.CryptoStream.handleBufferGo_raised _ _ _ _ hr
    rw [recordRaises_not_hello m (hh m hm)] at hrm
    cases hrm
  · rfl

/-- `TlsQuiet`, conditional form: … and leaves every attribute the session reads (`client_random`, `ciphersuite`,
    `new_data`, …) and the header-protection keys as they were. -/
theorem tls_quiet_rtt1 (t : Tls) (c : Quic.Session.CryptoIn) (hpt : c.ptype = .rtt1) (hh : Harmless t c) :
    (tlsUpdate t c).1.msgs = t.msgs ∧ (tlsUpdate t c).1.hp = t.hp ∧ (tlsUpdate t c).1.ver = t.ver := by
  unfold Harmless completedBy at hh
  rw [hpt] at hh
  simp only [ptOf] at hh
  refine ⟨?_, ?_, ?_⟩
  · unfold tlsUpdate; rw [hpt]; simp only [ptOf]; exact feedRecords_not_hello _ _ hh
  · unfold tlsUpdate; rw [hpt]; rfl
  · unfold tlsUpdate; rw [hpt]; rfl

/-- In the composed session: a 1-RTT CRYPTO frame that completes no hello message (NewSessionTicket) is appended to
    `output_buffer` and changes nothing else but the parser's reassembly buffers: no decryptor, key, epoch, packet-number
    table, CID set or header-protection key. -/
theorem one_rtt_crypto_keeps_keys (H : Crypto.Prims) (Pc : Cipher.Prims) (kl : List Keylog.Key) (s : Quic.Session.St Tls)
    (p : Pkt) (f : Frame.Parsed) (c : Quic.Session.CryptoIn) (hpt : c.ptype = .rtt1) (hh : Harmless s.tls c)
    (hnd : s.tls.msgs.newData = false) :
    Quic.Session.handleCrypto (params H Pc kl) s p f c =
      ({ s with tls := (tlsUpdate s.tls c).1, out := s.out ++ [Quic.Session.mkOut p f] }, none) ∧
    (tlsUpdate s.tls c).1.msgs = s.tls.msgs ∧ (tlsUpdate s.tls c).1.hp = s.tls.hp := by
  obtain ⟨q1, q2, _⟩ := tls_quiet_rtt1 s.tls c hpt hh
  refine ⟨?_, q1, q2⟩
  have hn := tls_no_raise_rtt1 s.tls c hpt hh
  unfold Quic.Session.handleCrypto
  have hu : (params H Pc kl).tlsUpdate s.tls c = ((tlsUpdate s.tls c).1, none) := by
    show tlsUpdate s.tls c = _
    rw [← hn]
  rw [hu]
  simp only
  unfold Quic.Session.afterTls
  have hflag : (params H Pc kl).tlsNewData (tlsUpdate s.tls c).1 = false := by
    show (tlsUpdate s.tls c).1.msgs.newData = false
    rw [q1]; exact hnd
  simp only [hflag, Bool.false_eq_true, if_false]

/-! ### … and why the unconditional hypotheses of `one_rtt_exact` do not hold for `QuicTlsSession` -/

/-- a 1-RTT CRYPTO frame from the client carrying an EncryptedExtensions message with an empty extension list -/
def eeFrame : Quic.Session.CryptoIn := ⟨false, .rtt1, 0, 6, [8, 0, 0, 2, 0, 0]⟩


theorem ee_no_raise : recordRaises [8, 0, 0, 2, 0, 0] = false := by
  simp [recordRaises, TlsMsgs.handleRecord, TlsMsgs.handleEncryptedExtensions, TlsMsgs.extsThenNewData,
    TlsMsgs.getExtensions, Bytes.beNat, Bytes.slice, Lemmas.TlsHello.parseExts_nil, TlsMsgs.applyExts]

theorem ee_new_data (s : TlsMsgs.State) : (TlsMsgs.handleRecord s 8 [8, 0, 0, 2, 0, 0]).1.newData = true := by
  simp [TlsMsgs.handleRecord, TlsMsgs.handleEncryptedExtensions, TlsMsgs.extsThenNewData,
    TlsMsgs.getExtensions, Bytes.beNat, Bytes.slice, Lemmas.TlsHello.parseExts_nil, TlsMsgs.applyExts]

theorem eeFrame_sets_new_data : (tlsUpdate {} eeFrame).1.msgs.newData = true ∧ (tlsUpdate {} eeFrame).2 = none := by
  unfold tlsUpdate eeFrame
  simp only [ptOf]
  unfold CryptoStream.update CryptoStream.handleBuffer
  simp only [CryptoStream.handleBufferGo, Lemmas.CryptoStream.msgLoop_eq_len]
  simp [CryptoStream.State.set, CryptoStream.State.init, CryptoStream.absorb, CryptoStream.sortByOffset,
    CryptoStream.insertSorted, CryptoStream.pass, CryptoStream.removeFrame, Lemmas.CryptoStream.msgLoopF, Bytes.beNat,
    Bytes.slice, ee_no_raise, feedRecords, ee_new_data]

/-- `TlsQuiet … .rtt1` — "1-RTT CRYPTO frames never set `new_data`" — is false for the real parser, whatever the key
    log and the primitives: `handle_record` dispatches on the message type alone, so an EncryptedExtensions message
    in a 1-RTT packet sets `new_data`, and `handle_crypto_frame` calls `set_tls_decryptors` again (which resets
    `decryptors["Application"]` to one generation while the epochs keep their values, see TLX/Quic/Session.lean).
    `one_rtt_exact` therefore applies to this instance only through the conditional theorems above. -/
theorem tls_quiet_rtt1_counterexample (H : Crypto.Prims) (Pc : Cipher.Prims) (kl : List Keylog.Key) :
    ¬ Lemmas.QuicSession.TlsQuiet (params H Pc kl) .rtt1 := by
  intro h
  have h1 : (tlsUpdate {} eeFrame).1.msgs.newData = false := h {} eeFrame rfl rfl
  rw [eeFrame_sets_new_data.1] at h1
  cases h1

/-- the conditional theorems are not vacuous: a NewSessionTicket-typed message is `Harmless` in the initial state … -/
example : Harmless {} ⟨true, .rtt1, 0, 6, [4, 0, 0, 2, 0, 0]⟩ := by
  intro m hm
  unfold completedBy at hm
  simp only [ptOf] at hm
  unfold CryptoStream.update CryptoStream.handleBuffer at hm
  simp only [CryptoStream.handleBufferGo, Lemmas.CryptoStream.msgLoop_eq_len] at hm
  simp [CryptoStream.State.set, CryptoStream.State.init, CryptoStream.absorb, CryptoStream.sortByOffset,
    CryptoStream.insertSorted, CryptoStream.pass, CryptoStream.removeFrame, Lemmas.CryptoStream.msgLoopF, Bytes.beNat,
    Bytes.slice, recordRaises, TlsMsgs.handleRecord] at hm
  subst hm
  rfl

/-! ### the header-protection keys the dissector reads are those `set_tls_decryptors` derived (adapter `Tls.hp`)

`Tls.ver` is stamped with `quic_version` before the first and after every turn of the coalescing loop (`feedPre_verOk`,
`handleTurn_verOk`); a turn handles at most one packet (`Lemmas.QuicDissect.extract_pkts_le_one`) and nothing inside
`decrypt_packet` moves the stamp or the version (`decryptPacket_keeps`), so every `set_tls_decryptors` call runs in a
stamped state, where `after_tls_hp_exact` / `after_tls_hp_unchanged` apply. -/

section Hp
open TLX.Quic.Session

/-- the adapter's stamp: the parser state carries the session's `quic_version` -/
def VerOk (s : St Tls) : Prop := s.tls.ver = s.version

/-- a step that touches neither the stamp nor the version -/
structure KeepsVer (s s' : St Tls) : Prop where
  ver : s'.tls.ver = s.tls.ver
  version : s'.version = s.version

theorem KeepsVer.refl (s : St Tls) : KeepsVer s s := ⟨rfl, rfl⟩
theorem KeepsVer.trans {a b c : St Tls} (h1 : KeepsVer a b) (h2 : KeepsVer b c) : KeepsVer a c :=
  ⟨h2.1.trans h1.1, h2.2.trans h1.2⟩
theorem KeepsVer.ok {a b : St Tls} (h : KeepsVer a b) (ha : VerOk a) : VerOk b := by
  unfold VerOk at *; rw [h.1, h.2, ha]

variable (H : Crypto.Prims) (Pc : Cipher.Prims) (kl : List Keylog.Key)

theorem tlsUpdate_ver (t : Tls) (c : CryptoIn) : (tlsUpdate t c).1.ver = t.ver := by
  unfold tlsUpdate; split <;> rfl

theorem installGroups_keeps (s : St Tls) (sel : SuiteSel) (kg : KeyGroups) : KeepsVer s (installGroups s sel kg) := by
  unfold installGroups; repeat' split
  all_goals exact ⟨rfl, rfl⟩

theorem handleCrypto_keeps (s : St Tls) (p : Pkt) (f : Frame.Parsed) (c : CryptoIn) :
    KeepsVer s (handleCrypto (params H Pc kl) s p f c).1 := by
  refine Lemmas.QuicSession.handleCrypto_inv (params H Pc kl) (KeepsVer s) s p f c ⟨tlsUpdate_ver s.tls c, rfl⟩
    (fun a h => ?_) (fun _ h => h.trans ⟨rfl, rfl⟩)
  refine Lemmas.QuicSession.afterTls_inv (params H Pc kl) (KeepsVer s) a h (fun cr cs => ?_) (fun _ h => h.trans ⟨rfl, rfl⟩)
  exact Lemmas.QuicSession.setTlsDecryptors_inv (params H Pc kl) (KeepsVer s) a cr cs (h.trans ⟨rfl, rfl⟩)
    (fun _ => h.trans ⟨rfl, rfl⟩) (fun _ _ _ => h.trans ⟨(installGroups_keeps _ _ _).1, (installGroups_keeps _ _ _).2⟩)

theorem decryptPacket_keeps (s : St Tls) (p : Pkt) : KeepsVer s (decryptPacket (params H Pc kl) s p).1 :=
  Lemmas.QuicSession.decryptPacket_inv (params H Pc kl) (KeepsVer s) p
    (fun a b f h => by obtain ⟨_, _, _, _, _, rfl⟩ := f; exact h.trans ⟨rfl, rfl⟩)
    (fun a b f h => by obtain ⟨_, _, rfl⟩ := f; exact h.trans ⟨rfl, rfl⟩)
    (fun a fs _ h => Lemmas.QuicSession.handleFrames_inv (params H Pc kl) (KeepsVer s) p fs
      (fun b _ _ _ _ _ hb => hb.trans (handleCrypto_keeps H Pc kl b p _ _)) (fun b o _ hb => hb.trans ⟨rfl, rfl⟩)
      (fun b _ _ _ _ cid _ _ hb => ⟨hb.trans ⟨rfl, rfl⟩, hb.trans ⟨rfl, rfl⟩⟩) a h)
    s (KeepsVer.refl s)

/-! the stamp is (re)established before the first and after every turn of the coalescing loop -/

theorem feedPre_verOk (P : Params Tls) (s : St Tls) (dcid : Bytes) (v : Version) : VerOk (feedPre H P s dcid v) := rfl

theorem handleTurn_verOk (P : Params Tls) (x : LoopSt) (pkts : List Pkt) (hx : VerOk x.1) : VerOk (handleTurn P x pkts).1 := by
  unfold handleTurn
  split
  · exact hx
  · rfl

/-- `handle_crypto_frame` finds `new_data` set in a stamped state, the suite is known and `dev_quic_keys` returns `k`:
    the state afterwards, field by field -/
theorem afterTls_keyed (s : St Tls) (hv : VerOk s) (cr cs : Bytes) (sel : SuiteSel) (k : KeySchedule.QuicKeys)
    (hn : s.tls.msgs.newData = true) (hcr : s.tls.msgs.clientRandom = some cr) (hcs : s.tls.msgs.ciphersuite = some cs)
    (hsel : selectSuite cs = some sel) (hk : devQuic H kl sel s.version cr = .ok k) :
    afterTls (params H Pc kl) s =
      ({ s with suite := some sel, keysHs := true, keysApp := true, keysEarly := s.keysEarly || k.clientEarly.isSome,
                decHandshake := some { alg := sel.alg, server := some (dirOf k.serverHs), client := dirOf k.clientHs },
                decApp := some [{ alg := sel.alg, server := some (dirOf k.serverApp), client := dirOf k.clientApp,
                                  serverSec := k.serverAppSec, clientSec := k.clientAppSec }],
                decEarly := match k.clientEarly with
                  | some e => some { alg := sel.alg, server := none, client := dirOf e }
                  | none => s.decEarly,
                earlyTrafficKeys := s.earlyTrafficKeys || k.clientEarly.isSome,
                tls := { s.tls with msgs := { s.tls.msgs with newData := false }, hp := s.tls.hp.withTls k } }, none) := by
  unfold VerOk at hv
  have e1 : (params H Pc kl).tlsNewData s.tls = true := hn
  have e2 : (params H Pc kl).tlsClientRandom s.tls = some cr := hcr
  have e3 : (params H Pc kl).tlsCiphersuite s.tls = some cs := hcs
  have e4 : (params H Pc kl).devQuicKeys sel s.version cr = .ok (groupsOf k) := by
    show (devQuic H kl sel s.version cr).map groupsOf = _
    rw [hk]; rfl
  have e5 : (params H Pc kl).tlsClearNewData s.tls =
      { s.tls with msgs := { s.tls.msgs with newData := false }, hp := s.tls.hp.withTls k } := by
    show tlsClearNewData H kl s.tls = _
    simp only [tlsClearNewData, hcr, hcs, hsel, hv, hk]
  unfold afterTls
  simp only [e1, if_true, e2, e3, setTlsDecryptors, hsel, e4, groupsOf, Lemmas.QuicSession.installGroups_all, e5]
  cases k.clientEarly <;> rfl

/-- In a stamped state, when `handle_crypto_frame` finds `new_data` set and `set_tls_decryptors` derives keys, the
    header-protection keys the dissector will read are those of the SAME `dev_quic_keys` result `k` whose packet keys
    went into the Handshake / Application / Early decryptors, and `new_data` is cleared. -/
theorem after_tls_hp_exact (s : St Tls) (hv : VerOk s) (cr cs : Bytes) (sel : SuiteSel) (k : KeySchedule.QuicKeys)
    (hn : s.tls.msgs.newData = true) (hcr : s.tls.msgs.clientRandom = some cr) (hcs : s.tls.msgs.ciphersuite = some cs)
    (hsel : selectSuite cs = some sel) (hk : devQuic H kl sel s.version cr = .ok k) :
    (afterTls (params H Pc kl) s).2 = none ∧
    (afterTls (params H Pc kl) s).1.tls.hp = s.tls.hp.withTls k ∧
    (afterTls (params H Pc kl) s).1.tls.msgs.newData = false ∧
    (afterTls (params H Pc kl) s).1.decHandshake =
      some { alg := sel.alg, server := some (dirOf k.serverHs), client := dirOf k.clientHs } ∧
    (afterTls (params H Pc kl) s).1.decApp =
      some [{ alg := sel.alg, server := some (dirOf k.serverApp), client := dirOf k.clientApp,
              serverSec := k.serverAppSec, clientSec := k.clientAppSec }] ∧
    (afterTls (params H Pc kl) s).1.decEarly =
      match k.clientEarly with
      | some e => some { alg := sel.alg, server := none, client := dirOf e }
      | none => s.decEarly := by
  rw [afterTls_keyed H Pc kl s hv cr cs sel k hn hcr hcs hsel hk]
  exact ⟨rfl, rfl, rfl, rfl, rfl, rfl⟩

/-- When the derivation raises (missing / undecodable key-log lines) or the suite is unknown, neither the
    decryptors nor the header-protection keys change. -/
theorem after_tls_hp_unchanged (s : St Tls) (cr cs : Bytes)
    (hcr : s.tls.msgs.clientRandom = some cr) (hcs : s.tls.msgs.ciphersuite = some cs)
    (hbad : selectSuite cs = none ∨ ∃ sel e, selectSuite cs = some sel ∧ devQuic H kl sel s.version cr = .error e) :
    (afterTls (params H Pc kl) s).1.tls.hp = s.tls.hp ∧
    (afterTls (params H Pc kl) s).1.decHandshake = s.decHandshake ∧
    (afterTls (params H Pc kl) s).1.decApp = s.decApp ∧ (afterTls (params H Pc kl) s).1.decEarly = s.decEarly := by
  have e2 : (params H Pc kl).tlsClientRandom s.tls = some cr := hcr
  have e3 : (params H Pc kl).tlsCiphersuite s.tls = some cs := hcs
  unfold afterTls
  split
  · rcases hbad with hsel | ⟨sel, e, hsel, hk⟩
    · simp [setTlsDecryptors, hsel, params, tlsClearNewData, hcr, hcs]
    · have e4 : (params H Pc kl).devQuicKeys sel s.version cr = .error e := by
        show (devQuic H kl sel s.version cr).map groupsOf = _
        rw [hk]; rfl
      simp [e2, e3, setTlsDecryptors, hsel, e4]
  · exact ⟨rfl, rfl, rfl, rfl⟩

end Hp

end TLX.Props.C02Pipeline
