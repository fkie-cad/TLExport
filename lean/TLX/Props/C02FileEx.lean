import TLX.Props.C02Rfc
set_option autoImplicit false

/-! # `Props/C02File`: non-vacuity — a concrete capture file, key-log file and option vector

What the capture holds is said at `quic_file_instance`. Every field of `QuicCapture` is discharged by evaluation, except the
key log: the file is given line by line (`C02Rfc.Ex.ls0`, whose text is `keyText`: `text0`), and what `dev_quic_keys` finds
in it is `C02Rfc.keylogHas_text`. For that the module declares, besides `TLX.Props.C02File.Ex`, the first part of
`TLX.Props.C02Rfc.Ex` (continued in `Props/C02RfcEx.lean`). -/
open TLX TLX.MainLoop TLX.Spec.Demux TLX.Dissect TLX.OutBytes TLX.Export
open TLX.Props.C01File TLX.Spec.FrameBuild TLX.Spec.TlsCapture TLX.Spec.QuicCapture
open TLX.Spec.QuicSender TLX.Spec.QuicConnection TLX.Spec.QuicPackets TLX.QuicPipeline TLX.Props.C02Capstone
open TLX.Quic.Session TLX.Cipher TLX.Props.C02Session TLX.Spec.QuicFrames
open TLX.Spec.TlsHello TLX.Spec.TlsHandshakeFraming TLX.Props.C02Capstone.ExConf
open TLX.Spec.KeySchedules
open TLX.Props.C01File.Ex (timeAt arp notMinusOne cMac sMac args0 ports0 cv0 cevOf cwf_of_bounds citems_of_bounds)

-- `usAt n` is matched with itself below, never computed: a double cannot be evaluated in a proof, and trying is expensive
attribute [local irreducible] Container.usOfFloat

namespace TLX.Props.C02File.Ex

def H : Crypto.Prims := Props.C15.sizedToy
def Pc : Cipher.Prims := Cipher.Toy.prims
def L : SealLaws Pc := Cipher.Toy.laws
def m5 : Bytes := [0xa5, 0x5a, 0xff, 0x00, 0x11]
def maskFn : Quic.Dissect.MaskFn := fun _ _ _ => some m5
def sel : SuiteSel := ⟨.sha256, .aesgcm, 16⟩

def M : Bytes := encodeClientHello chx
def F : Bytes := encodeEncryptedExtensions [⟨16, alpnBody [[0x68, 0x33]]⟩] ++
    (handshake 11 [0, 0, 0, 5, 1, 2, 3, 4, 5] ++ (handshake 15 [8, 4, 0, 2, 9, 9] ++ handshake 20 [7, 7, 7, 7]))

def hs : ConfHs :=
  { ch := chx, sh := shx, shExts := [⟨43, [3, 4]⟩], ee := [⟨16, alpnBody [[0x68, 0x33]]⟩],
    cert := [0, 0, 0, 5, 1, 2, 3, 4, 5], cv := [8, 4, 0, 2, 9, 9], sfin := [7, 7, 7, 7], cfin := [6, 6, 6, 6],
    chFrs := [M], chDl := [(0, M, M.length)], chDups := [], sFrs := [F] }

theorem hs_ok : hs.Ok := by
  refine ⟨by decide +kernel, by decide +kernel, rfl, by decide +kernel, by decide +kernel, by decide +kernel,
    by decide +kernel, by decide +kernel, ⟨by decide +kernel, by decide +kernel⟩, ?_, by decide +kernel,
    ⟨by decide +kernel, by decide +kernel⟩⟩
  decide +kernel

/-- the four secrets of the connection -/
def chS : Bytes := List.replicate 32 0x11
def shS : Bytes := List.replicate 32 0x22
def caS : Bytes := List.replicate 32 0x33
def saS : Bytes := List.replicate 32 0x44

def w0 : VW := ⟨0, by omega⟩
def w2 : VW := ⟨1, by omega⟩

/-- capture microsecond of the packet at position `n` (as the tool evaluates it: a double) -/
def usAt (n : Nat) : Nat := Container.usOfFloat (timeAt n).toFloat

def cidS0 : Bytes := [0x51, 0x51, 0x51, 0x51, 0x51, 0x51, 0x51, 0x51]
def cidS : Bytes := [0x52, 0x01]
def cidC : Bytes := [0xc1]

/-- the client's first Initial: the whole ClientHello, padded -/
def qCI : PkH :=
  ⟨{ level := .initial, srv := false, ts := usAt 1, pn := 0, pnLen := 1, frames := [.crypto ⟨0, w0⟩ w2 M, .padding 30],
     dcid := cidS0, scid := cidC, typeBits := 0, lenW := w2 }, m5⟩
/-- the server's Initial (ServerHello) and Handshake packet (the rest of its flight), coalesced -/
def qSI : PkH :=
  ⟨{ level := .initial, srv := true, ts := usAt 2, pn := 0, pnLen := 2, frames := [.crypto ⟨0, w0⟩ w2 (encodeServerHello shx)],
     dcid := cidC, scid := cidS, typeBits := 0, lenW := w2, lowBits := 3 }, m5⟩
def qSH : PkH :=
  ⟨{ level := .handshake, srv := true, ts := usAt 2, pn := 0, pnLen := 1, frames := [.crypto ⟨0, w0⟩ w2 F],
     dcid := cidC, scid := cidS, typeBits := 2, lenW := w2 }, m5⟩
/-- the client's Finished -/
def qCH : PkH :=
  ⟨{ level := .handshake, srv := false, ts := usAt 4, pn := 0, pnLen := 1,
     frames := [.crypto ⟨0, w0⟩ w0 (handshake 20 [6, 6, 6, 6]), .ping],
     dcid := cidS, scid := cidC, typeBits := 2, lenW := w2 }, m5⟩

def dg0 : DgH := ⟨false, usAt 1, [qCI]⟩
def dgS : DgH := ⟨true, usAt 2, [qSI, qSH]⟩
def dgC : DgH := ⟨false, usAt 4, [qCH]⟩

/-- 1-RTT: a request and a reply -/
def o0 : Dg1 :=
  ⟨{ level := .oneRtt, srv := false, ts := usAt 5, pn := 0, pnLen := 1,
     frames := [.stream true ⟨0, w0⟩ none (some w0) [0x47, 0x45, 0x54], .padding 3], dcid := cidS, gen := 0 }, m5⟩
def o1 : Dg1 :=
  ⟨{ level := .oneRtt, srv := true, ts := usAt 7, pn := 0, pnLen := 2,
     frames := [.ping, .stream false ⟨3, w0⟩ none none [0x4f, 0x4b]], dcid := cidC, gen := 0, lowBits := 5 }, m5⟩

def wH : DgH → Bytes := dgWire H Pc L (dgDcid dg0) sel shS chS
def w1 : Dg1 → Bytes := wireOf H Pc L sel .v1 (rfcGen (hashOf H sel.hash) sel.keyLen saS caS 0)

def fl : Flow := ⟨false, [10, 0, 0, 1], 50000, [10, 0, 0, 2], 443⟩

def udpOf (d : Bool) (payload : Bytes) : Udp := ⟨if d then 443 else 50000, if d then 50000 else 443, 0, payload⟩
/-- Ethernet II / IPv4 (DF, TTL 64, no options) / UDP, no trailer -/
def dgFrame (d : Bool) (payload : Bytes) : Spec.FrameBuild.Frame :=
  ⟨if d then cMac else sMac, if d then sMac else cMac,
   .v4 ⟨0, 1, true, false, 64, 0, if d then [10, 0, 0, 2] else [10, 0, 0, 1], if d then [10, 0, 0, 1] else [10, 0, 0, 2], []⟩,
   .udp (udpOf d payload), []⟩

theorem isDg_mk (d : Bool) (payload : Bytes) (hp : payload.length < 60000) :
    IsDg fl d (dgFrame d payload) (udpOf d payload) := by
  cases d <;>
    simp [IsDg, Spec.FrameBuild.Frame.WF, Upper.WF, Udp.WF, V4.WF, dgFrame, udpOf, Upper.encode, Udp.encode, be2, fl, cMac, sMac] <;> omega

def hsEv (n : Nat) (d : DgH) : QEv := .hs (timeAt n) (dgFrame d.srv (wH d)) (udpOf d.srv (wH d)) d
def oneEv (n : Nat) (d : Dg1) : QEv := .one (timeAt n) (dgFrame d.x.srv (w1 d)) (udpOf d.x.srv (w1 d)) d

/-- a foreign UDP datagram (a DNS query of the client: first payload byte without the QUIC fixed bit) -/
def flDns : Flow := ⟨false, [10, 0, 0, 1], 50001, [10, 0, 0, 53], 53⟩
def dnsU : Udp := ⟨50001, 53, 0, [0x12, 0x34, 1, 0, 0, 1, 0, 0, 0, 0, 0, 0, 1, 0x61, 0, 0, 1, 0, 1]⟩
def dnsFrame : Spec.FrameBuild.Frame :=
  ⟨sMac, cMac, .v4 ⟨0, 7, false, false, 64, 0, [10, 0, 0, 1], [10, 0, 0, 53], []⟩, .udp dnsU, []⟩
def dns (n : Nat) : CapEv := ⟨timeAt n, dnsFrame.encode, viewOf dnsFrame⟩

def evsH : List QEv := [.foreign arp, hsEv 1 dg0, hsEv 2 dgS, .foreign (dns 3), hsEv 4 dgC]
def evsO : List QEv := [oneEv 5 o0, .foreign (dns 6), oneEv 7 o1]

/-- the key-log FILE: the connection's four lines (and a line of another connection) -/
def line (label : Keylog.Str) (cr secret : Bytes) : Keylog.Str :=
  label ++ [32] ++ Keylog.hexOf (Pipeline.natsOfBytes cr) ++ [32] ++ Keylog.hexOf (Pipeline.natsOfBytes secret) ++ [10]
def keyText : Keylog.Str :=
  line Keylog.s_SHTS chx.random shS ++ line Keylog.s_CTS0 (List.replicate 32 9) [1, 2] ++
  line Keylog.s_CHTS chx.random chS ++ line Keylog.s_STS0 chx.random saS ++ line Keylog.s_CTS0 chx.random caS

def keys : List Keylog.Key := (fileKeysOf (some keyText)).getD []

def items0 : List (List Keylog.Key × MainLoop.Pkt × DgH) :=
  [(keys, dgPkt fl true (wH dgS) 2, dgS), (keys, dgPkt fl false (wH dgC) 4, dgC)]
def p0 : MainLoop.Pkt := dgPkt fl false (wH dg0) 1

theorem first0 : hsItems fl keys 0 evsH = (keys, p0, dg0) :: items0 := rfl

theorem phaseH0 : ∀ ev ∈ evsH, noOne ev = true := by decide
theorem phaseO0 : ∀ ev ∈ evsO, noHs ev = true := by decide

def dcid0 : Bytes := dgDcid dg0
def tA : Trk := trk0.step qCI.x
def tB : Trk := tA.step qSI.x
def tC : Trk := tB.step qSH.x

def o : Opts := optsOf args0 ports0 []

def tF : Trk := trk0.runDgs (dg0 :: items0.map (·.2.2))

theorem ones0 : (oneItems fl evsH.length evsO).map (·.2) = [o0, o1] := rfl

instance (c : List Bytes) (w d : Bytes) : Decidable (RouteOk c w d) := by unfold RouteOk; infer_instance

/-- ONE evaluation for everything that goes through the wire images and parser runs of the handshake (the kernel shares work
    inside a declaration only): each handshake packet against the VALUES of the bookkeeping at its place — the server's
    Initial twice: the observer's and the senders' header-protection flags differ while the first offered suite is
    ChaCha20 —, those values, lengths, the ARP frame, the CRYPTO inputs, connection IDs. -/
theorem hs_eval :
    (HsPkChecks maskFn H Pc L dcid0 sel shS chS false false {} {} qCI ∧
      HsPkChecks maskFn H Pc L dcid0 sel shS chS false true {} {} qSI ∧
      HsPkChecks maskFn H Pc L dcid0 sel shS chS false false {} {} qSI ∧
      HsPkChecks maskFn H Pc L dcid0 sel shS chS true false {} {} qSH ∧
      HsPkChecks maskFn H Pc L dcid0 sel shS chS true false {} {} qCH) ∧
    ((tA.keyed, chachaOf tA.core, tA.tc, tA.ts) = (false, true, {}, {}) ∧
      (tB.keyed, chachaOf tB.core, tB.tc, tB.ts) = (true, false, {}, {}) ∧
      (tC.keyed, chachaOf tC.core, tC.tc, tC.ts) = (true, false, {}, {}) ∧
      tF.keyed = true ∧ chachaOf tF.core = false ∧ tF.tc.app = 0 ∧ tF.ts.app = 0 ∧ tF.cc = [cidC] ∧ tF.sc = [cidS0, cidS]) ∧
    ((wH dg0).length < 60000 ∧ (wH dgS).length < 60000 ∧ (wH dgC).length < 60000 ∧ (w1 o0).length < 60000 ∧
      (w1 o1).length < 60000 ∧ (dns 3).buf.length < 70000 ∧ dissect arp.buf = .ok arp.d) ∧
    allIns (dg0 :: items0.map (·.2.2)) = hs.ins ∧
    (DcidOk trk0.cc trk0.sc dg0.srv (dgDcid dg0) ∧ DcidOk (trk0.run dg0.pkts).cc (trk0.run dg0.pkts).sc dgS.srv (dgDcid dgS) ∧
      DcidOk ((trk0.run dg0.pkts).run dgS.pkts).cc ((trk0.run dg0.pkts).run dgS.pkts).sc dgC.srv (dgDcid dgC)) := by
  decide +kernel

theorem hsIns0 : allIns (dg0 :: items0.map (·.2.2)) = hs.ins := hs_eval.2.2.2.1

theorem pkCI : HsPkOk maskFn H Pc L dcid0 sel shS chS trk0 qCI := .of_vals rfl hs_eval.1.1
theorem pkSI : HsPkOk maskFn H Pc L dcid0 sel shS chS tA qSI := .of_vals hs_eval.2.1.1 hs_eval.1.2.1
theorem pkSH : HsPkOk maskFn H Pc L dcid0 sel shS chS tB qSH := .of_vals hs_eval.2.1.2.1 hs_eval.1.2.2.2.1
theorem pkCH : HsPkOk maskFn H Pc L dcid0 sel shS chS tC qCH := .of_vals hs_eval.2.1.2.2.1 hs_eval.1.2.2.2.2

theorem wfCI : WellFormedSeq qCI.x.frames := pkCI.wf
theorem wfSI : WellFormedSeq qSI.x.frames := pkSI.wf
theorem wfSH : WellFormedSeq qSH.x.frames := pkSH.wf
theorem wfCH : WellFormedSeq qCH.x.frames := pkCH.wf

/-- the tool holds Handshake keys once it has seen the ServerHello -/
theorem tC_keyed : tC.keyed = true := pkCH.keys rfl

theorem hsDgs0 : HsDgs maskFn H Pc L (dgDcid dg0) sel shS chS trk0 (dg0 :: items0.map (·.2.2)) := by
  have hc := hs_eval.2.2.2.2
  refine ⟨⟨?_, hc.1, pkCI, trivial⟩, ⟨?_, hc.2.1, pkSI, pkSH, trivial⟩, ⟨?_, hc.2.2, pkCH, trivial⟩, trivial⟩
  · intro q hq; simp only [dg0, List.mem_singleton] at hq; subst hq; exact ⟨rfl, rfl⟩
  · intro q hq; simp only [dgS, List.mem_cons, List.not_mem_nil, or_false] at hq; rcases hq with rfl | rfl <;> exact ⟨rfl, rfl⟩
  · intro q hq; simp only [dgC, List.mem_singleton] at hq; subst hq; exact ⟨rfl, rfl⟩

theorem lenH (d : DgH) (h : d ∈ [dg0, dgS, dgC]) : (wH d).length < 60000 := by
  have hl := hs_eval.2.2.1
  simp only [List.mem_cons, List.not_mem_nil, or_false] at h
  rcases h with rfl | rfl | rfl
  · exact hl.1
  · exact hl.2.1
  · exact hl.2.2.1

theorem len1 (d : Dg1) (h : d ∈ [o0, o1]) : (w1 d).length < 60000 := by
  have hl := hs_eval.2.2.1
  simp only [List.mem_cons, List.not_mem_nil, or_false] at h
  rcases h with rfl | rfl
  · exact hl.2.2.2.1
  · exact hl.2.2.2.2.1

theorem hsEv_ok (n : Nat) (d : DgH) (h : d ∈ [dg0, dgS, dgC]) (hts : d.ts = usAt n) (hh : HdrOk d) :
    IsDg fl d.srv (dgFrame d.srv (wH d)) (udpOf d.srv (wH d)) ∧ (udpOf d.srv (wH d)).payload = wH d ∧
      d.ts = Container.usOfFloat (timeAt n).toFloat ∧ HdrOk d :=
  ⟨isDg_mk _ _ (lenH d h), rfl, hts, hh⟩

theorem arp_l4 (tag : Nat) : (pktOf tag arp.d).l4 = .other := rfl

theorem arp_notQuic : dissect arp.buf = .ok arp.d ∧ ∀ tag, NotQuic o (pktOf tag arp.d) := by
  refine ⟨hs_eval.2.2.1.2.2.2.2.2.2, ?_⟩
  intro tag h
  rw [arp_l4] at h
  cases h

theorem dnsDg : IsDg flDns false dnsFrame dnsU := by
  simp [IsDg, Spec.FrameBuild.Frame.WF, Upper.WF, Udp.WF, V4.WF, dnsFrame, dnsU, Upper.encode, Udp.encode, be2, flDns, cMac, sMac]

theorem dns_notQuic (n : Nat) : dissect (dns n).buf = .ok (dns n).d ∧ ∀ tag, NotQuic o (pktOf tag (dns n).d) := by
  refine ⟨dissect_dg flDns false dnsFrame dnsU dnsDg, ?_⟩
  intro tag _
  right
  refine ⟨rfl, ?_⟩
  intro b0 r hb
  have hp : (pktOf tag (dns n).d).payload = dnsU.payload := by
    show (pktOf tag (viewOf dnsFrame)).payload = _
    rw [pktOf_dg flDns false dnsFrame dnsU dnsDg]
  rw [hp] at hb
  simp only [dnsU, List.cons.injEq] at hb
  rw [← hb.1]; decide

theorem described0 : QDescribed fl wH w1 o (evsH ++ evsO) := by
  intro ev hev
  simp only [evsH, evsO, List.cons_append, List.nil_append, List.mem_cons, List.not_mem_nil, or_false] at hev
  rcases hev with rfl | rfl | rfl | rfl | rfl | rfl | rfl | rfl
  · exact arp_notQuic
  · exact hsEv_ok 1 dg0 (by simp) rfl ⟨qCI, [], rfl, pkCI.shape, by decide, by decide⟩
  · exact hsEv_ok 2 dgS (by simp) rfl ⟨qSI, [qSH], rfl, pkSI.shape, by decide, by decide⟩
  · exact dns_notQuic 3
  · exact hsEv_ok 4 dgC (by simp) rfl ⟨qCH, [], rfl, pkCH.shape, by decide, by decide⟩
  · exact ⟨isDg_mk _ _ (len1 o0 (by simp)), rfl, rfl, by decide, by decide⟩
  · exact dns_notQuic 6
  · exact ⟨isDg_mk _ _ (len1 o1 (by simp)), rfl, rfl, by decide, by decide⟩

theorem times0 : ∀ e ∈ (evsH ++ evsO).map QEv.cap, Ingest.isMinusOne e.t = false := by
  intro e he
  simp only [evsH, evsO, List.cons_append, List.nil_append, List.map_cons, List.map_nil, List.mem_cons, List.not_mem_nil,
    or_false] at he
  rcases he with rfl | rfl | rfl | rfl | rfl | rfl | rfl | rfl <;> exact notMinusOne _

/-- `hs_eval` for the two 1-RTT datagrams -/
theorem rtt1_eval :
    WellFormedSeq o0.x.frames ∧ WellFormedSeq o1.x.frames ∧ PnLenOk 0 o0.x.pn o0.x.pnLen ∧
      PnLenOk (max 0 o0.x.pn) o1.x.pn o1.x.pnLen ∧ 4 ≤ o0.x.pnLen + (encodeAll o0.x.frames).length ∧
      4 ≤ o1.x.pnLen + (encodeAll o1.x.frames).length ∧ RouteOk [cidS0, cidS] (w1 o0) o0.x.dcid ∧
      RouteOk [cidC] (w1 o1) o1.x.dcid := by
  decide +kernel

theorem wfO0 : WellFormedSeq o0.x.frames := rtt1_eval.1
theorem wfO1 : WellFormedSeq o1.x.frames := rtt1_eval.2.1

theorem tF_eq : tF.keyed = true ∧ chachaOf tF.core = false ∧ tF.tc.app = 0 ∧ tF.ts.app = 0 ∧ tF.cc = [cidC] ∧
    tF.sc = [cidS0, cidS] := hs_eval.2.1.2.2.2

theorem keyed0 : (trk0.runDgs (dg0 :: items0.map (·.2.2))).keyed = true := tF_eq.1

theorem send1_0 : Send1 maskFn H Pc L sel .v1 (rfcGen (hashOf H sel.hash) sel.keyLen saS caS 0)
    (quicHp (hashOf H sel.hash) caS sel.keyLen) (quicHp (hashOf H sel.hash) saS sel.keyLen)
    (chachaOf tF.core) 0 0 tF.tc.app tF.ts.app tF.cc tF.sc ((oneItems fl evsH.length evsO).map (·.2)) := by
  obtain ⟨_, e1, e2, e3, e4, e5⟩ := tF_eq
  obtain ⟨_, _, p0, p1, l0, l1, _⟩ := rtt1_eval
  rw [ones0, e1, e2, e3, e4, e5]
  exact ⟨rfl, by decide, by decide, p0, wfO0, ⟨by decide, l0, rfl, by decide⟩, by decide,
    rfl, by decide, by decide, p1, wfO1, ⟨by decide, l1, rfl, by decide⟩, by decide, trivial⟩

theorem routes0 : Routes1 w1 tF.cc tF.sc ((oneItems fl evsH.length evsO).map (·.2)) := by
  obtain ⟨_, _, _, _, e4, e5⟩ := tF_eq
  rw [ones0, e4, e5]
  exact ⟨rtt1_eval.2.2.2.2.2.2.1, rtt1_eval.2.2.2.2.2.2.2, trivial⟩

theorem distinct0 : (((oneItems fl evsH.length evsO).map (·.2)).map fun d => (d.x.ts, d.x.srv)).Pairwise (· ≠ ·) := by
  rw [ones0]
  simp [o0, o1]

end TLX.Props.C02File.Ex

/-! ### the key-log file line by line -/
namespace TLX.Props.C02Rfc.Ex
open TLX.Props.C02File TLX.Props.C02File.Ex TLX.Spec.RfcSuite TLX.Lemmas.C01Rfc TLX.Props.C09Found TLX.Spec.NssKeylog

def ln (label : List Nat) (cr secret : Bytes) : FLine × Bool :=
  (.key ⟨label, Pipeline.natsOfBytes cr, Pipeline.natsOfBytes secret⟩ (Keylog.hexOf (Pipeline.natsOfBytes cr))
    (Keylog.hexOf (Pipeline.natsOfBytes secret)), false)

/-- a key-log file given by its rows (label, client random, secret) -/
abbrev lnRows (rows : List (List Nat × Bytes × Bytes)) : List (FLine × Bool) := rows.map fun r => ln r.1 r.2.1 r.2.2

theorem hasLine_rows {rows : List (List Nat × Bytes × Bytes)} {label : List Nat} {cr s : Bytes} (h : (label, cr, s) ∈ rows) :
    HasLine (lnRows rows) label (Pipeline.natsOfBytes cr) (Pipeline.natsOfBytes s) :=
  ⟨_, _, false, List.mem_map.mpr ⟨_, h, rfl⟩⟩

theorem digitVal_hexDigit : ∀ n < 16, digitVal (Keylog.hexDigit n) = some n := by decide

theorem isHexOf_hexOf : ∀ b : List Nat, (∀ x ∈ b, x < 256) → IsHexOf (Keylog.hexOf b) b
  | [], _ => trivial
  | x :: xs, h =>
    have hx : x < 256 := h x (List.mem_cons_self ..)
    ⟨hx, digitVal_hexDigit _ (by omega), digitVal_hexDigit _ (by omega),
      isHexOf_hexOf xs fun y hy => h y (List.mem_cons_of_mem _ hy)⟩

theorem lnRows_wf {rows : List (List Nat × Bytes × Bytes)}
    (h : ∀ r ∈ rows, r.1 ∈ nssLabels ∧ r.2.1.length = 32 ∧ r.2.2 ≠ []) : ∀ x ∈ lnRows rows, x.1.WF := by
  intro x hx
  obtain ⟨r, hr, rfl⟩ := List.mem_map.mp hx
  obtain ⟨h1, h2, h3⟩ := h r hr
  have lt : ∀ b : Bytes, ∀ y ∈ Pipeline.natsOfBytes b, y < 256 := by
    intro b y hy
    obtain ⟨u, _, rfl⟩ := List.mem_map.mp hy
    exact u.toNat_lt
  refine ⟨rfl, h1, isHexOf_hexOf _ (lt _), by simp [Pipeline.natsOfBytes, h2], isHexOf_hexOf _ (lt _), ?_⟩
  intro e
  exact h3 (List.map_eq_nil_iff.mp e)

theorem label_mem_rows {rows : List (List Nat × Bytes × Bytes)} {tr : Triple} {hc hv : Keylog.Str} {crlf : Bool}
    (h : (FLine.key tr hc hv, crlf) ∈ lnRows rows) : tr.label ∈ rows.map (·.1) := by
  obtain ⟨r, hr, e⟩ := List.mem_map.mp h
  simp only [ln, Prod.mk.injEq, FLine.key.injEq] at e
  obtain ⟨⟨rfl, _, _⟩, _⟩ := e
  exact List.mem_map_of_mem hr

theorem onlySecret_rows {rows : List (List Nat × Bytes × Bytes)}
    (hnd : (rows.map fun r => (r.1, Pipeline.natsOfBytes r.2.1)).Nodup) {label : List Nat} {cr s : Bytes}
    (h : (label, cr, s) ∈ rows) :
    OnlySecret (lnRows rows) label (Pipeline.natsOfBytes cr) (Pipeline.natsOfBytes s) := by
  intro tr hc hv crlf hm hl hcr
  obtain ⟨r, hr, e⟩ := List.mem_map.mp hm
  simp only [ln, Prod.mk.injEq, FLine.key.injEq] at e
  obtain ⟨⟨rfl, _, _⟩, _⟩ := e
  have : r = (label, cr, s) := Lemmas.Pipeline.nodup_map_inj _ _ hnd r hr _ h (Prod.ext hl hcr)
  rw [this]

/-- the key-log file of `C02File.Ex`, line by line -/
def ls0 : List (FLine × Bool) :=
  [ln labelSHTS chx.random shS, ln labelCTS0 (List.replicate 32 9) [1, 2], ln labelCHTS chx.random chS,
   ln labelSTS0 chx.random saS, ln labelCTS0 chx.random caS]

/-- a row's line in the file is `C02File.Ex.line`: the secrets stay unevaluated -/
theorem fileText_ln (label : List Nat) (cr secret : Bytes) (rest : List (FLine × Bool)) :
    fileText (ln label cr secret :: rest) = line label cr secret ++ fileText rest := by
  simp [fileText, ln, FLine.text, line]

theorem text0 : fileText ls0 = keyText := by
  unfold ls0 keyText
  rw [rfcLabels.1, rfcLabels.2.1, rfcLabels.2.2.1, rfcLabels.2.2.2.1]
  simp only [fileText_ln, List.append_assoc]
  rw [show fileText [] = [] from rfl, List.append_nil]

def rows0 : List (List Nat × Bytes × Bytes) :=
  [(labelSHTS, chx.random, shS), (labelCTS0, List.replicate 32 9, [1, 2]), (labelCHTS, chx.random, chS),
   (labelSTS0, chx.random, saS), (labelCTS0, chx.random, caS)]

theorem ls0_rows : ls0 = lnRows rows0 := by simp only [ls0, lnRows, rows0, List.map_cons, List.map_nil]
/-- evaluated on the labels as code points (`rfcLabels`): as strings they are slow to compare -/
theorem rows0_ok : (∀ r ∈ rows0, r.1 ∈ nssLabels ∧ r.2.1.length = 32 ∧ r.2.2 ≠ []) ∧
    (rows0.map fun r => (r.1, Pipeline.natsOfBytes r.2.1)).Nodup := by
  unfold rows0
  rw [rfcLabels.1, rfcLabels.2.1, rfcLabels.2.2.1, rfcLabels.2.2.2.1]
  decide +kernel

theorem ls0_wf : ∀ x ∈ ls0, x.1.WF := ls0_rows ▸ lnRows_wf rows0_ok.1

theorem lines0 :
    (HasLine ls0 labelCHTS (Pipeline.natsOfBytes chx.random) (Pipeline.natsOfBytes chS) ∧
      HasLine ls0 labelSHTS (Pipeline.natsOfBytes chx.random) (Pipeline.natsOfBytes shS) ∧
      HasLine ls0 labelCTS0 (Pipeline.natsOfBytes chx.random) (Pipeline.natsOfBytes caS) ∧
      HasLine ls0 labelSTS0 (Pipeline.natsOfBytes chx.random) (Pipeline.natsOfBytes saS)) ∧
    (OnlySecret ls0 labelCHTS (Pipeline.natsOfBytes chx.random) (Pipeline.natsOfBytes chS) ∧
      OnlySecret ls0 labelSHTS (Pipeline.natsOfBytes chx.random) (Pipeline.natsOfBytes shS) ∧
      OnlySecret ls0 labelCTS0 (Pipeline.natsOfBytes chx.random) (Pipeline.natsOfBytes caS) ∧
      OnlySecret ls0 labelSTS0 (Pipeline.natsOfBytes chx.random) (Pipeline.natsOfBytes saS)) ∧
    EarlyLine ls0 (Pipeline.natsOfBytes chx.random) none := by
  refine ⟨⟨ls0_rows ▸ hasLine_rows (rows := rows0) (.tail _ (.tail _ (.head _))),
      ls0_rows ▸ hasLine_rows (rows := rows0) (.head _),
      ls0_rows ▸ hasLine_rows (rows := rows0) (.tail _ (.tail _ (.tail _ (.tail _ (.head _))))),
      ls0_rows ▸ hasLine_rows (rows := rows0) (.tail _ (.tail _ (.tail _ (.head _))))⟩,
    ⟨ls0_rows ▸ onlySecret_rows rows0_ok.2 (.tail _ (.tail _ (.head _))),
      ls0_rows ▸ onlySecret_rows rows0_ok.2 (.head _),
      ls0_rows ▸ onlySecret_rows rows0_ok.2 (.tail _ (.tail _ (.tail _ (.tail _ (.head _))))),
      ls0_rows ▸ onlySecret_rows rows0_ok.2 (.tail _ (.tail _ (.tail _ (.head _))))⟩, ?_⟩
  intro tr hc hv crlf hm _ hl
  have := label_mem_rows (ls0_rows ▸ hm)
  rw [hl, rows0, labelCETS_eq, rfcLabels.1, rfcLabels.2.1, rfcLabels.2.2.1, rfcLabels.2.2.2.1] at this
  revert this
  decide +kernel

end TLX.Props.C02Rfc.Ex

namespace TLX.Props.C02File.Ex
open TLX.Props.C02Rfc TLX.Props.C02Rfc.Ex

/-- what `dev_quic_keys` finds in the key log: `keyText` is the text of `ls0` -/
theorem keylog0 : KeylogHas keys chx.random chS shS caS saS none := by
  have h := keylogHas_text ls0 ls0_wf chx.random chS shS caS saS none lines0.1.1 lines0.1.2.1 lines0.1.2.2.1 lines0.1.2.2.2
    lines0.2.1.1 lines0.2.1.2.1 lines0.2.1.2.2.1 lines0.2.1.2.2.2 lines0.2.2
  rw [text0] at h
  exact h

/-- **every hypothesis of the file-level theorems holds** for this capture, key-log file and option vector -/
theorem capture0 : QuicCapture maskFn H Pc L args0 (some keyText) [] ports0 fl hs chS shS caS saS none sel evsH evsO
    keys p0 dg0 items0 where
  lawful := Props.C15.sizedToy_lawful
  sha256 := rfl
  times := times0
  noc := rfl
  nometa := rfl
  pmOk := rfl
  portsOk := rfl
  endpoints := by decide
  clientPort := by decide +kernel
  hsOk := hs_ok
  suite := by decide
  outLen := by decide
  saLen := rfl
  caLen := rfl
  keylog := keylog0
  first := first0
  fromClient := rfl
  described := described0
  phaseH := phaseH0
  phaseO := phaseO0
  hsDgs := hsDgs0
  hsIns := hsIns0
  keyed := keyed0
  send1 := send1_0
  routes := routes0
  distinct := distinct0

/-! the capture FILE: nanosecond libpcap, little endian (`C01File.Ex.cv0`) -/
def cevs0 : List Spec.Containers.Ev := ((evsH ++ evsO).map QEv.cap).map cevOf

theorem dgFrame_length (d : Bool) (pl : Bytes) : (dgFrame d pl).encode.length = 42 + pl.length := by
  cases d <;>
    simp only [dgFrame, udpOf, Spec.FrameBuild.Frame.encode, Spec.FrameBuild.Frame.etherType, Spec.FrameBuild.Frame.datagram,
      V4.encode, V4.fixed, Upper.encode, Udp.encode, be2, cMac, sMac, List.length_append, List.length_cons, List.length_nil,
      ↓reduceIte, Bool.false_eq_true] <;> omega

theorem evs_bounds : ∀ e ∈ (evsH ++ evsO).map QEv.cap, ∃ k, k < 100 ∧ e.t = timeAt k ∧ e.buf.length < 70000 := by
  intro e he
  simp only [evsH, evsO, List.cons_append, List.nil_append, List.map_cons, List.map_nil, List.mem_cons, List.not_mem_nil,
    or_false] at he
  rcases he with rfl | rfl | rfl | rfl | rfl | rfl | rfl | rfl
  · exact ⟨0, by decide, rfl, by decide⟩
  · exact ⟨1, by decide, rfl, by simp only [hsEv, QEv.cap, dgFrame_length]; have := lenH dg0 (by simp); omega⟩
  · exact ⟨2, by decide, rfl, by simp only [hsEv, QEv.cap, dgFrame_length]; have := lenH dgS (by simp); omega⟩
  · exact ⟨3, by decide, rfl, hs_eval.2.2.1.2.2.2.2.2.1⟩
  · exact ⟨4, by decide, rfl, by simp only [hsEv, QEv.cap, dgFrame_length]; have := lenH dgC (by simp); omega⟩
  · exact ⟨5, by decide, rfl, by simp only [oneEv, QEv.cap, dgFrame_length]; have := len1 o0 (by simp); omega⟩
  · exact ⟨6, by decide, rfl, hs_eval.2.2.1.2.2.2.2.2.1⟩
  · exact ⟨7, by decide, rfl, by simp only [oneEv, QEv.cap, dgFrame_length]; have := len1 o1 (by simp); omega⟩

theorem cwf0 : cv0.WF cevs0 := cwf_of_bounds _ evs_bounds

theorem citems0 : cevs0.filterMap (Spec.Containers.scale cv0) = ((evsH ++ evsO).map QEv.cap).map CapEv.item :=
  citems_of_bounds _ evs_bounds

/-- what the export must contain: the request from the client's endpoint to the server's (no `-m`: the original port is kept), the reply back -/
theorem block0 : blockOf (maskFn := maskFn) (H := H) (Pc := Pc) args0 [] ports0 fl evsH evsO p0 =
    [⟨usAt 5, cMac, sMac, ⟨[10, 0, 0, 1], 50000⟩, ⟨[10, 0, 0, 2], 443⟩, false, 0, 0, 0, [0x47, 0x45, 0x54], true⟩,
     ⟨usAt 7, sMac, cMac, ⟨[10, 0, 0, 2], 443⟩, ⟨[10, 0, 0, 1], 50000⟩, false, 0, 0, 0, [0x4f, 0x4b], true⟩] := by
  rfl

def out0 : List Pipeline.OutPkt :=
  [⟨usAt 5, cMac, sMac, ⟨[10, 0, 0, 1], 50000⟩, ⟨[10, 0, 0, 2], 443⟩, false, 0, 0, 0, [0x47, 0x45, 0x54], true⟩,
   ⟨usAt 7, sMac, cMac, ⟨[10, 0, 0, 2], 443⟩, ⟨[10, 0, 0, 1], 50000⟩, false, 0, 0, 0, [0x4f, 0x4b], true⟩]

/-- **Non-vacuity of `quic_capture_exact` (through `quic_capture_exact_encoded`).** EVERY hypothesis holds for a concrete
    input: the capture FILE is the nanosecond-libpcap encoding of an ARP request, the client's Initial (whole ClientHello,
    padded), the server's Initial + Handshake packet coalesced in one datagram, a DNS query, the client's Handshake packet
    (Finished), a 1-RTT request `GET`, another DNS query, the 1-RTT reply `OK` — as Ethernet / IPv4 / UDP frames built by
    `Spec.FrameBuild`; the key-log FILE is `keyText` (the connection's four lines, a line of another connection between
    them); no options; toy hash functions with the real digest sizes, the toy AEAD, a constant header-protection mask. So the
    conclusion holds: the run gets to the write loop, and the file it writes contains exactly `GET` / `OK`. -/
theorem quic_file_instance :
    (∃ e, exportFile maskFn H Pc args0 cv0.isLegacy (some keyText) (Spec.Containers.encode cv0 cevs0) = .abort (.write e)) ∨
    ∃ f, exportFile maskFn H Pc args0 cv0.isLegacy (some keyText) (Spec.Containers.encode cv0 cevs0) = .file f ∧
      ReadsBack f out0 := by
  have h := quic_capture_exact_encoded capture0 cv0 cevs0 cwf0 citems0
  rw [block0] at h
  exact h

theorem arp_notTls (tag : Nat) : NotTls (pktOf tag arp.d) := by
  intro h
  rw [arp_l4] at h
  cases h.1

theorem dns_notTls (n tag : Nat) : NotTls (pktOf tag (dns n).d) := by
  intro h
  have hp : (pktOf tag (dns n).d).l4 = .udp := by
    show (pktOf tag (viewOf dnsFrame)).l4 = _
    rw [pktOf_dg flDns false dnsFrame dnsU dnsDg]
  rw [hp] at h
  cases h.1

/-- **Non-vacuity of `quic_capture_exact_ranges`** on the input of `quic_file_instance`: the file IS written — every
    hypothesis discharged EXCEPT the one IEEE-754 fact (`hus`: the doubles the tool computes for the two packet times round
    to less than 2^64 µs), which no Lean proof can evaluate (`#eval usAt 5` gives 1700000000000001). -/
theorem quic_file_instance_written (hus : usAt 5 < 2 ^ 64 ∧ usAt 7 < 2 ^ 64) :
    ∃ f, exportFile maskFn H Pc args0 cv0.isLegacy (some keyText) (Spec.Containers.encode cv0 cevs0) = .file f ∧
      ReadsBack f out0 := by
  have h := quic_capture_exact_ranges capture0 cv0.isLegacy (Spec.Containers.encode cv0 cevs0)
    (by rw [Props.C12.reader_roundtrip cv0 cevs0 cwf0, citems0])
    (by
      intro e he tag
      simp only [evsH, evsO, List.cons_append, List.nil_append, List.mem_cons, List.not_mem_nil, or_false, hsEv, oneEv,
        reduceCtorEq, false_or, QEv.foreign.injEq] at he
      rcases he with rfl | rfl | rfl
      · exact arp_notTls tag
      · exact dns_notTls 3 tag
      · exact dns_notTls 6 tag)
    (by decide +kernel)
    (by rw [ones0]; decide +kernel)
    (by
      rw [ones0]
      intro d hd
      simp only [List.mem_cons, List.not_mem_nil, or_false] at hd
      rcases hd with rfl | rfl
      · exact hus.1
      · exact hus.2)
  rw [block0] at h
  exact h

/-- `block_frames_parse` applies to the written file: what an independent receiver finds in it -/
example (f : Bytes) (h : ReadsBack f (blockOf (maskFn := maskFn) (H := H) (Pc := Pc) args0 [] ports0 fl evsH evsO p0)) :=
  block_frames_parse args0 [] ports0 fl evsH evsO p0 f h

end TLX.Props.C02File.Ex
