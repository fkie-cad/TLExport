import TLX.Props.C02Capstone3
set_option autoImplicit false
/-! # C02, 0-RTT: a packet of another suite is simply missing

`Props/C02Capstone4.quic_connection_exact_0rtt` exports 0-RTT data under the condition that the Early keys the tool holds when
the packet arrives were derived for the suite the client protects 0-RTT with. This file is about the packets that do NOT
satisfy it — the tool holds Early keys of ANOTHER suite (the first offered one, before the ServerHello). A rejected packet
leaves the session untouched (`C02Capstone3.zero_rtt_rejected_leaves_session`); what is shown here is that such a packet IS
rejected without any side effect, whatever bytes the tool's header-protection primitive returns for it: the dissector still
cuts it out exactly (`extract_any_mask`: the Length field is not protected), and the one hypothesis on the primitives is that
the AEAD check the tool performs on it fails (`Rejected`). The namespace continues in `Props/C02Zr2.lean`.
-/
namespace TLX.Props.C02Zr

/-! ### a protected long-header packet under ANY mask -/
section Remask
open TLX TLX.Quic TLX.Spec.QuicPackets TLX.Quic.Dissect TLX.Lemmas.QuicDissect

theorem xorBytes_invol (a k : Bytes) (h : a.length ≤ k.length) : xorBytes (xorBytes a k) k = a := by
  induction a generalizing k with
  | nil => cases k <;> simp [xorBytes]
  | cons x xs ih =>
    cases k with
    | nil => simp at h
    | cons y ys =>
      simp only [xorBytes, List.cons.injEq]
      refine ⟨?_, ih ys (by simpa using h)⟩
      rw [UInt8.xor_assoc, UInt8.xor_self, UInt8.xor_zero]

/-- what the dissector reads when it removes header protection with the mask `m'` from a packet protected with `m`:
    other reserved bits, another packet-number length, other packet-number bytes, the payload cut elsewhere -/
def remask (p : Long) (m m' : Bytes) : Long :=
  let b : UInt8 := p.first ^^^ ((m.headD 0 &&& 0x0f) ^^^ (m'.headD 0 &&& 0x0f))
  let n := (b &&& 3).toNat + 1
  let region := xorBytes p.pn ((m.drop 1).take p.pn.length) ++ p.payload
  { p with reserved := ((b >>> 2) &&& 3).toNat, pn := xorBytes (region.take n) ((m'.drop 1).take n),
           payload := region.drop n }

theorem nibble (x y : UInt8) : ∃ k : Fin 16, (x &&& 0x0f) ^^^ (y &&& 0x0f) = UInt8.ofNat k.val := by
  refine ⟨⟨((x &&& 0x0f) ^^^ (y &&& 0x0f)).toNat, ?_⟩, UInt8.ofNat_toNat.symm⟩
  rw [UInt8.toNat_xor, UInt8.toNat_and, UInt8.toNat_and]
  exact Nat.xor_lt_two_pow (n := 4) (Nat.lt_succ_of_le Nat.and_le_right) (Nat.lt_succ_of_le Nat.and_le_right)

theorem first_bits : ∀ t : Fin 3, ∀ r l : Fin 4, ∀ k : Fin 16,
    let b := UInt8.ofNat (0xC0 + t.val * 16 + r.val * 4 + l.val) ^^^ UInt8.ofNat k.val
    UInt8.ofNat (0xC0 + t.val * 16 + ((b >>> 2) &&& 3).toNat * 4 + (b &&& 3).toNat) = b ∧
      ((b >>> 2) &&& 3).toNat < 4 ∧ (b &&& 3).toNat < 4 := by decide +kernel

variable (p : Long) (m m' : Bytes)

theorem remask_facts (hwf : p.wf) (h20 : 20 ≤ p.pn.length + p.payload.length) (hm5 : 5 ≤ m.length) (hm5' : 5 ≤ m'.length) :
    (remask p m m').wf ∧ (remask p m m').protect m' = p.protect m ∧ (remask p m m').sample = p.sample ∧
    (remask p m m').ty = p.ty ∧ (remask p m m').version = p.version ∧ (remask p m m').scid = p.scid ∧
    (remask p m m').dcid = p.dcid ∧
    (remask p m m').pn.length + (remask p m m').payload.length = p.pn.length + p.payload.length := by
  obtain ⟨hr, hv, hd, hs, h1, h4, htk, hlen⟩ := hwf
  have hb : p.ty.bits < 3 := by cases p.ty <;> simp [LType.bits]
  obtain ⟨k, hk⟩ := nibble (m.headD 0) (m'.headD 0)
  obtain ⟨f1, f2, f3⟩ := first_bits ⟨p.ty.bits, hb⟩ ⟨p.reserved, hr⟩ ⟨p.pn.length - 1, by omega⟩ k
  simp only at f1 f2 f3
  have hfirst : p.first = UInt8.ofNat (0xC0 + p.ty.bits * 16 + p.reserved * 4 + (p.pn.length - 1)) := rfl
  rw [← hfirst, ← hk] at f1 f2 f3
  -- the region after the header
  have hkl : p.pn.length ≤ ((m.drop 1).take p.pn.length).length := by simp; omega
  have hreg : (xorBytes p.pn ((m.drop 1).take p.pn.length) ++ p.payload).length = p.pn.length + p.payload.length := by
    rw [List.length_append, xorBytes_length _ _ hkl]
  generalize hR : xorBytes p.pn ((m.drop 1).take p.pn.length) ++ p.payload = region at hreg
  generalize hB : p.first ^^^ ((m.headD 0 &&& 0x0f) ^^^ (m'.headD 0 &&& 0x0f)) = b at f1 f2 f3
  have hrm : remask p m m' =
      { p with reserved := ((b >>> 2) &&& 3).toNat
               pn := xorBytes (region.take ((b &&& 3).toNat + 1)) ((m'.drop 1).take ((b &&& 3).toNat + 1))
               payload := region.drop ((b &&& 3).toNat + 1) } := by
    simp only [remask, hR, hB]
  generalize (b &&& 3).toNat = l at f1 f3 hrm
  generalize ((b >>> 2) &&& 3).toNat = r' at f1 f2 hrm
  -- all the arithmetic of the layout, once
  have hx := xorBytes_length _ _ hkl
  have ha : l + 1 ≤ m'.length - 1 ∧ l + 1 ≤ region.length ∧
      l + 1 + (region.length - (l + 1)) = p.pn.length + p.payload.length ∧ 1 ≤ l + 1 ∧ l + 1 ≤ 4 ∧
      l + 1 + (4 - (l + 1)) = 4 ∧ p.pn.length ≤ 4 ∧ 4 - p.pn.length = 4 - (xorBytes p.pn ((m.drop 1).take p.pn.length)).length := by
    omega
  obtain ⟨a1, a2, a3, a4, a5, a6, a7, a8⟩ := ha
  have hK : ((m'.drop 1).take (l + 1)).length = l + 1 := by rw [List.length_take, List.length_drop]; exact Nat.min_eq_left a1
  have hT : (region.take (l + 1)).length = l + 1 := by rw [List.length_take]; exact Nat.min_eq_left a2
  have hpn' : (xorBytes (region.take (l + 1)) ((m'.drop 1).take (l + 1))).length = l + 1 := by
    rw [xorBytes_length _ _ (by rw [hK, hT]; exact Nat.le_refl _), hT]
  have htot : (remask p m m').pn.length + (remask p m m').payload.length = p.pn.length + p.payload.length := by
    rw [hrm]; simp only [hpn', List.length_drop]; exact a3
  have hfst : (remask p m m').first = b := by
    rw [hrm]; simp only [Long.first, hpn', Nat.add_sub_cancel]; exact f1
  have hmid : (remask p m m').mid = p.mid := by
    have e : (remask p m m').lengthField = p.lengthField := by
      unfold Long.lengthField; rw [htot]; rw [hrm]
    unfold Long.mid
    rw [e]
    rw [hrm]
    rfl
  refine ⟨?_, ?_, ?_, by rw [hrm], by rw [hrm], by rw [hrm], by rw [hrm], htot⟩
  · have := htot
    rw [hrm] at this ⊢
    exact ⟨f2, hv, hd, hs, by simp only [hpn']; exact a4, by simp only [hpn']; exact a5, htk, by
      show p.lenW.fits _
      simp only at this
      rw [this]; exact hlen⟩
  · unfold Long.protect applyMask
    rw [hfst, hmid]
    have e1 : b ^^^ (m'.headD 0 &&& 0x0f) = p.first ^^^ (m.headD 0 &&& 0x0f) := by
      rw [← hB, UInt8.xor_assoc, UInt8.xor_assoc, UInt8.xor_self, UInt8.xor_zero]
    rw [e1]
    have e2 : xorBytes (remask p m m').pn ((m'.drop 1).take (remask p m m').pn.length) ++ (remask p m m').payload =
        region := by
      rw [hrm]
      simp only [hpn']
      rw [xorBytes_invol _ _ (by rw [hK, hT]; exact Nat.le_refl _), List.take_append_drop]
    rw [List.append_assoc, e2, ← hR, List.append_assoc]
  · -- both samples are bytes 4 … 19 of the region: the packet-number field is at most four bytes either way
    have e1 : ((remask p m m').pn ++ (remask p m m').payload).drop 4 = region.drop 4 := by
      rw [hrm]
      simp only
      rw [List.drop_append, List.drop_of_length_le (by rw [hpn']; exact a5), hpn', List.nil_append, List.drop_drop, a6]
    have e2 : (p.pn ++ p.payload).drop 4 = region.drop 4 := by
      rw [← hR, List.drop_append, List.drop_append, List.drop_of_length_le (l := p.pn) a7,
        List.drop_of_length_le (l := xorBytes p.pn ((m.drop 1).take p.pn.length)) (by rw [hx]; exact a7), a8]
    unfold Long.sample sampleOf
    rw [e1, e2]

/-- **`extract_quic_packet` under ANY mask.** A long-header packet protected with the mask `m`, dissected by an observer whose
    header-protection primitive returns `m'` — any bytes, at least five — for the packet's sample: one packet comes out, the
    one `remask` describes, and exactly what followed it is left. -/
theorem extract_any_mask (mask : MaskFn) (env : Env) (isServer : Bool) (guessed : Bytes) (ts : Nat)
    (hwf : p.wf) (hver : p.version ≠ [0, 0, 0, 0]) (hscid : p.scid.length ≤ 63)
    (h20 : 20 ≤ p.pn.length + p.payload.length) (hm5 : 5 ≤ m.length)
    (key : Bytes) (hk : env.keys (senderKey p.ty isServer) = some key)
    (hm : mask (senderChacha p.ty env.chacha) key p.sample = some m') (hm5' : 5 ≤ m'.length) (rest : Bytes) :
    extract mask env isServer guessed ts (p.protect m ++ rest) =
      { pkts := [(remask p m m').toPkt isServer ts], rest := rest } := by
  obtain ⟨r1, r2, r3, r4, r5, r6, r7, r8⟩ := remask_facts p m m' hwf h20 hm5 hm5'
  rw [← r2]
  exact Props.C02Dissect.dissect_encode_long mask env isServer guessed ts (remask p m m') r1 (by rw [r5]; exact hver) (by rw [r6]; exact hscid)
    (by rw [r8]; exact h20) key m' (by rw [r4]; exact hk) (by rw [r4, r3]; exact hm) hm5' rest

end Remask

/-! ### a 0-RTT packet the tool cannot authenticate -/
section Rejected
open TLX TLX.Quic TLX.Cipher TLX.Quic.Session TLX.Lemmas.QuicSession TLX.Spec.QuicSender TLX.Spec.QuicFrames
open TLX.Props.C02Session TLX.Spec.QuicConnection TLX.Spec.QuicPackets TLX.QuicPipeline
open TLX.Props.C02Capstone TLX.Props.C02Capstone3 TLX.Spec.KeySchedules TLX.Lemmas.KeySchedule

/-- **THE hypothesis on the primitives**: the AEAD check the tool performs on THIS packet — with the Early decryptor it
    holds, the packet number it reconstructs and the associated data it assembles — fails. Nothing weaker will do: if the
    check passed, the packet would be processed. For a real AEAD under a key other than the sender's this is the
    authenticity of the AEAD (a forgery otherwise); it is not a law of the toy primitives, hence a hypothesis. -/
def Rejected {σ : Type} (P : Params σ) (s : St σ) (p : Pkt) : Prop :=
  ∀ d pn aad, s.decEarly = some d → getFullPn s p = .ok pn → assocData p = .ok aad →
    ∃ e, decDecrypt P d p.payload pn aad p.isServer = .error e

/-- a 0-RTT packet that is not authenticated leaves the session EXACTLY as it was: whether no
    Early decryptor exists, the packet number cannot be reconstructed, or the AEAD check fails -/
theorem zr_step_rejected {σ : Type} (P : Params σ) (s : St σ) (p : Pkt) (hh : p.htype = .long) (ht : p.ptype = .rtt0)
    (hrej : Rejected P s p) : (stepPkt P s p).st = s ∧ (stepPkt P s p).escaped = none := by
  have hdp : (decryptPacket P s p).1 = s := by
    cases hd : s.decEarly with
    | none => rw [decryptPacket_long_err P s p hh (e := .key) (by rw [ht]; simp only [longDecryptor, hd])]
    | some d =>
      rw [decryptPacket_long P s p hh (ht ▸ longDecryptor_early hd)]
      simp only [decryptRest]
      cases hpn : getFullPn s p with
      | error e => rfl
      | ok pn =>
        cases haad : assocData p with
        | error e => rfl
        | ok aad =>
          obtain ⟨e, he⟩ := hrej d pn aad hd hpn haad
          simp only [he]
  rw [stepPkt_rtt0 P s p ht]
  exact ⟨hdp, rfl⟩

variable (maskFn : Dissect.MaskFn) (H : Crypto.Prims) (Pc : Cipher.Prims)

/-- **A 0-RTT packet of another suite is simply missing.** The client protected it with the early keys of the resumed
    suite `selR`; the tool holds SOME early header-protection key `key` (of the suite its parser had read when
    `set_tls_decryptors` ran), so its mask `m'` is unrelated to the sender's — ANY bytes, at least five. The dissector
    still cuts the packet out exactly (`extract_any_mask`: the Length field is not protected), the session rejects it
    (`Rejected`) and is exactly as before; the loop goes on with what followed the packet. -/
theorem zr_rejected_turn (hl : H.Lawful) (kl : List Keylog.Key) (L : SealLaws Pc) (selR : SuiteSel) (csR : Bytes)
    (hselR : selectSuite csR = some selR) (e : Bytes) (s : St Tls) (q : PkH) (hshape : ZrShape q.x)
    (hn1 : 1 ≤ q.x.pnLen) (hn4 : q.x.pnLen ≤ 4) (hm5 : 5 ≤ q.mask.length) (hver : s.tls.ver = s.version)
    (key m' : Bytes) (hkey : s.tls.hp.clientEarly = some key)
    (hmask : maskFn (envOf s).chacha key
      (longOf q.x (protectedPayload L.aeadSeal selR.alg (earlyDec H selR e).client q.x)).sample = some m')
    (hm5' : 5 ≤ m'.length)
    (hrej : Rejected (params H Pc kl) s
      ((remask (longOf q.x (protectedPayload L.aeadSeal selR.alg (earlyDec H selR e).client q.x)) q.mask m').toPkt false q.x.ts))
    (guessed more : Bytes) :
    (Dissect.dissectLoop maskFn (fun x : LoopSt => envOf x.1) (handleTurn (params H Pc kl)) false guessed q.x.ts
        (s, none) (zrWire H Pc L selR e q ++ more)).1 =
      (Dissect.dissectLoop maskFn (fun x : LoopSt => envOf x.1) (handleTurn (params H Pc kl)) false guessed q.x.ts
        (s, none) more).1 := by
  have hlen := protectedPayload_length Pc L selR.alg (earlyDec H selR e).client q.x (suite_aeadOk H hl csR selR hselR e).1
  obtain ⟨hlwf, hv, hsc, h20, hty, _⟩ := zrLong L.aeadSeal selR.alg (earlyDec H selR e).client q.x hshape hn1 hn4 hlen
  unfold zrWire PkH.wire
  generalize longOf q.x (protectedPayload L.aeadSeal selR.alg (earlyDec H selR e).client q.x) = P at *
  have hextract := extract_any_mask P q.mask m' maskFn (envOf s) false guessed q.x.ts hlwf hv hsc h20 hm5 key
    (by rw [hty]; simp [senderKey, envOf, HpKeys.get, hkey]) (by rw [hty]; exact hmask) hm5' more
  have hnew : P.protect q.mask ++ more ≠ [] := by
    unfold Long.protect applyMask; simp
  obtain ⟨_, _, _, r4, _⟩ := remask_facts P q.mask m' hlwf h20 hm5 hm5'
  obtain ⟨hst, hesc⟩ := zr_step_rejected (params H Pc kl) s ((remask P q.mask m').toPkt false q.x.ts) rfl
    (by show (remask P q.mask m').ty.ptype = .rtt0; rw [r4, hty]; rfl) hrej
  rw [loop_one maskFn _ _ _ _ s _ more _ hnew hextract hesc (by rw [hst]; exact hver), hst]

end Rejected

section BadDg
open TLX TLX.Quic TLX.Cipher TLX.Quic.Session TLX.Lemmas.QuicSession TLX.QuicPipeline TLX.Props.C02Capstone
open TLX.Props.C02Capstone3
variable (maskFn : Dissect.MaskFn) (H : Crypto.Prims) (Pc : Cipher.Prims)

/-- `Rejected` in the senders' terms: the tool's Early keys are those of the suite `selT` (derived from the same early
    secret `e`), the largest packet number of the client's application space is `largest` -/
def RejectedT (selT : SuiteSel) (e : Bytes) (largest : Nat) (p : Pkt) : Prop :=
  ∀ pnb pn aad, p.pn = some pnb → pnResult largest pnb = .ok pn → assocData p = .ok aad →
    ∃ err, decDecrypt (params H Pc []) (earlyDec H selT e) p.payload pn aad false = .error err

theorem rejected_of_T (kl : List Keylog.Key) (selT : SuiteSel) (e : Bytes) (s : St Tls) (p : Pkt)
    (hh : p.htype = .long) (ht : p.ptype = .rtt0) (hc : p.isServer = false)
    (hek : EarlyKeyed H selT e s) (h : RejectedT H Pc selT e s.pnClient.app p) : Rejected (params H Pc kl) s p := by
  intro d pn aad hd hpn haad
  rw [hek.dec] at hd; cases hd
  have hsp : p.ptype.space = some .app := by rw [ht]; rfl
  have hattr : hasPnAttr p = true := by unfold hasPnAttr; rw [hh, ht]
  unfold getFullPn at hpn
  simp only [hsp, hattr, Bool.not_true, Bool.false_eq_true, if_false] at hpn
  cases hpb : p.pn with
  | none => rw [hpb] at hpn; cases hpn
  | some pnb =>
    rw [hpb] at hpn
    simp only [hc, pnLargest, Bool.false_eq_true, if_false] at hpn
    obtain ⟨err, he⟩ := h pnb pn aad hpb hpn haad
    rw [hc]
    exact ⟨err, he⟩

end BadDg

end TLX.Props.C02Zr
