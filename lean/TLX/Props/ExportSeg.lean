/-
C05 and C09 for the WHOLE PROGRAM (TLS): statements about `Pipeline.connOut` (one connection) and `Export.framesFrom`
(one run of the tool).

C05 — "the exported plaintext of a TLS connection depends only on the byte stream each endpoint sent, not on how TCP
delivered it".
  `connection_release_independent`     for ANY connection, key log, option `-a`: two captures whose reassemblers release
        the same record bytes in the same order (`Session.keys`: the sequence of (record bytes, direction); the carriers —
        which packets the bytes came in — may differ) export the same sequence of (direction, record plaintext) and frames
        whose per-direction reassembled payload streams (`Spec.reassemble`) are the same. No decryptability assumption: the
        connection may be decryptable, partly decryptable or not at all. Frame boundaries and time stamps may differ (they
        follow the carriers).  Behind it: `Session.run_carriers` — the session state machine never looks at carriers.
  `connection_segmentation_independent` … from DELIVERIES: each capture shows, per direction, a delivery of the same byte
        stream `str d` (`DeliversStream`: any cut points, exact duplicates, segments displaced by any number of positions,
        any initial sequence number incl. wrap — under `Props.C05.NoEarlyDelivery`, stream ≤ 2^31 bytes, whole records:
        the exact domain of `Props.C05.reassembly_exact_partial`), and the two captures release the records of the two
        directions in the same interleaving (`SameReleaseOrder`: the sequence of DIRECTIONS of the released records is the
        same — the state machine is order-sensitive across directions: ServerHello before the client's ChangeCipherSpec,
        …; `Ex.order_matters`).
  `export_segmentation_independent`     the same for two RUNS (`framesFrom`): the blocks the two runs export for the flow.
  The known finding stays OUTSIDE the hypotheses: when the first data segment of a direction is overtaken by a segment that
  is a whole record (`Props.C05.reassembly_exact_counterexample`), `NoEarlyDelivery` fails and the export does change
  (`Ex.overtaken_first_segment_differs`).

C09 — "the export depends only on which secrets are supplied, not on how".
  `genKeys_of_installed`                `Pipeline.genKeys … kl` reads the key log only through `Keylog.installed12
        .firstMaster kl cr` / `Keylog.installed13 kl cr` for the client random `cr` it is called with
  `connOut_keylog_independent`, `tlsFrames_keylog_independent`, `export_keylog_denotation_independent`
        two key lists that install the same secrets for every client random give the same TLS export — per connection, per
        conversation list, per run (the TLS part of `framesFrom`'s output)
  `export_keylog_text_independent`      … for two key-log FILES that are well formed, consistent and denote the same
        (label, client random, secret) triples (`Props.C09.keys_invariant_under_delivery_global`): permutation, duplication,
        decoration, hex case, LF / CRLF
  `onlySecret_of_consistent`            the `OnlySecret` hypothesis of `Props/C01Rfc` IS C09's consistency
-/
import TLX.Lemmas.ExportSeg
set_option autoImplicit false
namespace TLX.Props.ExportSeg
open TLX TLX.MainLoop TLX.Export TLX.Spec.Demux TLX.Lemmas.MainLoop TLX.Props.C01File
open TLX.Lemmas.Capstone TLX.Lemmas.Pipeline TLX.Spec.TlsFraming TLX.Props.C01Pipeline TLX.Lemmas.ExportSeg

/-- the capture `(info, c)` shows, for direction `d` of the connection, a DELIVERY of the byte stream `str` that
    direction's endpoint sent — the exact domain of `Props.C05.reassembly_exact_partial`: a stream of whole records of at
    most 2^31 bytes (half the sequence-number space: as far as the reassembler's modular comparison orders two offsets);
    any cut into segments, exact duplicates, segments displaced by up to `k` positions (any `k`), any initial sequence
    number; nothing is handed on before the segment that starts the stream has been captured. -/
def DeliversStream (info : Nat → Pipeline.Info) (c : Pipeline.Conn) (d : Bool) (str : Bytes) : Prop :=
  WholeRecords str ∧ str.length ≤ 2 ^ 31 ∧
  ∃ k isn, Delivers k isn str ((dirSegs info c.server d c.pkts).map Props.C05.wire) ∧
    Props.C05.NoEarlyDelivery isn (dirSegs info c.server d c.pkts)

/-- the two captures release the records of the two directions in the same interleaving: the sequence of directions
    (`false` = client) of the released records is the same -/
def SameReleaseOrder (info1 : Nat → Pipeline.Info) (c1 : Pipeline.Conn) (info2 : Nat → Pipeline.Info)
    (c2 : Pipeline.Conn) : Prop :=
  (connRecs info1 c1).map (·.2) = (connRecs info2 c2).map (·.2)

/-- what two exports have in common when they differ in frame boundaries and times only: the same records handed to the
    output builder (direction, plaintext), both exports exist, and their frames reassemble — with a textbook TCP
    reassembler — to the same two payload streams -/
def SameExport (H : Crypto.Prims) (P : Cipher.Prims) (kl : List Keylog.Key) (info1 : Nat → Pipeline.Info)
    (c1 : Pipeline.Conn) (info2 : Nat → Pipeline.Info) (c2 : Pipeline.Conn) : Prop :=
  exportedRecs H P info1 c1 kl = exportedRecs H P info2 c2 kl ∧
  ∃ f1 f2 pc ps, Pipeline.connOut H P info1 c1 kl = some (f1.map (Pipeline.addressed c1.opts c1)) ∧
    Pipeline.connOut H P info2 c2 kl = some (f2.map (Pipeline.addressed c2.opts c2)) ∧
    Spec.reassemble f1 = some (pc, ps) ∧ Spec.reassemble f2 = some (pc, ps)

/-- **C05, one connection, from the release order.** Same records released in the same order ⇒ same export up to frame
    boundaries and times. -/
theorem connection_release_independent (H : Crypto.Prims) (P : Cipher.Prims) (kl : List Keylog.Key)
    (info1 info2 : Nat → Pipeline.Info) (c1 c2 : Pipeline.Conn) (hm : c1.opts.metadata = c2.opts.metadata)
    (hk : Session.keys (connRecs info1 c1) = Session.keys (connRecs info2 c2)) :
    SameExport H P kl info1 c1 info2 c2 := by
  have he := Session.run_carriers (Pipeline.ops H P kl) (ops_rawOnly H P kl) c1.opts.metadata _ _ hk
  have htr := congrArg (·.traffic) he
  simp only [Session.St.erase] at htr
  have hx : exportedRecs H P info1 c1 kl = exportedRecs H P info2 c2 kl := by
    unfold exportedRecs
    rw [← hm]
    rw [exported_erase, htr, ← exported_erase]
  refine ⟨hx, ?_⟩
  have s1 := (connOut_never_raises H P info1 c1 kl).2.2
  have s2 := (connOut_never_raises H P info2 c2 kl).2.2
  rw [connOut_eq] at s1 s2 ⊢
  rw [connOut_eq]
  rw [Option.isSome_map] at s1 s2
  obtain ⟨f1, h1⟩ := Option.isSome_iff_exists.mp s1
  obtain ⟨f2, h2⟩ := Option.isSome_iff_exists.mp s2
  have r1 := Props.C06.reassemble_build _ _ h1
  have r2 := Props.C06.reassemble_build _ _ h2
  refine ⟨f1, f2, _, _, by rw [h1]; rfl, by rw [h2]; rfl, r1, ?_⟩
  rw [r2, dirBytes_traffic, dirBytes_traffic, dirBytes_traffic, dirBytes_traffic]
  unfold exportedRecs at hx
  rw [hx]

theorem keys_of_deliveries (info1 info2 : Nat → Pipeline.Info) (c1 c2 : Pipeline.Conn) (str : Bool → Bytes)
    (h1 : ∀ d, DeliversStream info1 c1 d (str d)) (h2 : ∀ d, DeliversStream info2 c2 d (str d))
    (hord : SameReleaseOrder info1 c1 info2 c2) :
    Session.keys (connRecs info1 c1) = Session.keys (connRecs info2 c2) := by
  apply keys_of_dirs _ _ hord
  intro d
  obtain ⟨w1, l1, k1, isn1, d1, e1⟩ := h1 d
  obtain ⟨w2, l2, k2, isn2, d2, e2⟩ := h2 d
  unfold connRecs
  rw [released_dir_stream info1 c1.server c1.pkts d k1 isn1 (str d) w1 d1 l1 e1,
    released_dir_stream info2 c2.server c2.pkts d k2 isn2 (str d) w2 d2 l2 e2]

/-- **C05, one connection, from the deliveries.** For any primitives, key log and `-a` setting; no decryptability
    assumption. `NoEarlyDelivery` keeps `Props.C05.reassembly_exact_counterexample` (the first data segment of a direction
    overtaken by a segment that is a whole record on its own) outside: there the export does depend on the delivery. -/
theorem connection_segmentation_independent (H : Crypto.Prims) (P : Cipher.Prims) (kl : List Keylog.Key)
    (info1 info2 : Nat → Pipeline.Info) (c1 c2 : Pipeline.Conn) (hm : c1.opts.metadata = c2.opts.metadata)
    (str : Bool → Bytes)
    (h1 : ∀ d, DeliversStream info1 c1 d (str d)) (h2 : ∀ d, DeliversStream info2 c2 d (str d))
    (hord : SameReleaseOrder info1 c1 info2 c2) :
    SameExport H P kl info1 c1 info2 c2 :=
  connection_release_independent H P kl info1 info2 c1 c2 hm (keys_of_deliveries info1 info2 c1 c2 str h1 h2 hord)

/-- THE session object a run builds for a flow whose TLS-relevant packets are `p0 :: rest` (capture order) -/
def flowConn (H : Crypto.Prims) (P : Cipher.Prims) (info : Nat → Pipeline.Info) (o : Opts) (p0 : Pkt) (rest : List Pkt) :
    Pipeline.Conn :=
  { (Pipeline.tlsMachine H P info).new o p0 with pkts := p0 :: rest }

/-- **C05, whole program** (`export_segmentation_independent`). Two runs of the tool with the same options and `-s` key
    log on two captures (ANY item lists: other flows, UDP, junk, DSBs — the same DSB keys in both) in which the flow of
    interest appears as `p1 :: rest1` resp. `p2 :: rest2`: if both captures show deliveries of the same two byte streams
    and release the records in the same interleaving, the blocks the two runs export for the flow differ in frame
    boundaries and times only — same (direction, record plaintext) sequence, same two reassembled payload streams.
    No decryptability assumption. -/
theorem export_segmentation_independent (mask : Quic.Dissect.MaskFn) (H : Crypto.Prims) (P : Cipher.Prims) (args : Args)
    (fk : Option (List Keylog.Key)) (pm : List (Int × Int)) (ports : List Int)
    (hpm : Options.getPortMap Options.Src.bare args.mArg = .ok pm)
    (hports : Options.serverPorts Options.Src.builtin Options.Src.pDefault args.pArg = .ok ports)
    (xs1 xs2 : List (MainLoop.Item Keylog.Key)) (info1 info2 : Nat → Pipeline.Info)
    (hdsb : dsbKeys (optsOf args ports pm) xs1 = dsbKeys (optsOf args ports pm) xs2)
    (q1 p1 : Pkt) (rest1 : List Pkt)
    (hF1 : (tcpView (optsOf args ports pm) xs1).filter (sameFlow q1) = p1 :: rest1)
    (hc1 : candidate (optsOf args ports pm) p1 = true)
    (q2 p2 : Pkt) (rest2 : List Pkt)
    (hF2 : (tcpView (optsOf args ports pm) xs2).filter (sameFlow q2) = p2 :: rest2)
    (hc2 : candidate (optsOf args ports pm) p2 = true)
    (str : Bool → Bytes)
    (h1 : ∀ d, DeliversStream info1 (flowConn H P info1 (optsOf args ports pm) p1 rest1) d (str d))
    (h2 : ∀ d, DeliversStream info2 (flowConn H P info2 (optsOf args ports pm) p2 rest2) d (str d))
    (hord : SameReleaseOrder info1 (flowConn H P info1 (optsOf args ports pm) p1 rest1)
      info2 (flowConn H P info2 (optsOf args ports pm) p2 rest2)) :
    let o := optsOf args ports pm
    let kl := fk.getD [] ++ dsbKeys o xs1
    ∃ pre1 post1 pre2 post2 f1 f2 pc ps,
      framesFrom mask H P freshState args fk xs1 info1 =
        .ok (pre1 ++ f1.map (Pipeline.addressed o (flowConn H P info1 o p1 rest1)) ++ post1) ∧
      framesFrom mask H P freshState args fk xs2 info2 =
        .ok (pre2 ++ f2.map (Pipeline.addressed o (flowConn H P info2 o p2 rest2)) ++ post2) ∧
      Spec.reassemble f1 = some (pc, ps) ∧ Spec.reassemble f2 = some (pc, ps) ∧
      exportedRecs H P info1 (flowConn H P info1 o p1 rest1) kl = exportedRecs H P info2 (flowConn H P info2 o p2 rest2) kl := by
  intro o kl
  obtain ⟨hx, f1, f2, pc, ps, g1, g2, r1, r2⟩ := connection_segmentation_independent H P kl info1 info2
    (flowConn H P info1 o p1 rest1) (flowConn H P info2 o p2 rest2) rfl str h1 h2 hord
  obtain ⟨pre1, post1, e1⟩ := session_of_items mask H P info1 o (fk.getD []) xs1 q1 p1 rest1 hF1 hc1
  obtain ⟨pre2, post2, e2⟩ := session_of_items mask H P info2 o (fk.getD []) xs2 q2 p2 rest2 hF2 hc2
  refine ⟨pre1, post1, pre2, post2, f1, f2, pc, ps, ?_, ?_, r1, r2, hx⟩
  · rw [framesFrom_eq mask H P args fk xs1 info1 pm ports hpm hports, e1]
    have : (Pipeline.tlsMachine H P info1).out (flowConn H P info1 o p1 rest1) kl
        = f1.map (Pipeline.addressed o (flowConn H P info1 o p1 rest1)) := by
      show (Pipeline.connOut H P info1 _ kl).getD [] = _
      rw [g1]; rfl
    rw [← this]; rfl
  · rw [framesFrom_eq mask H P args fk xs2 info2 pm ports hpm hports, e2]
    have : (Pipeline.tlsMachine H P info2).out (flowConn H P info2 o p2 rest2) kl
        = f2.map (Pipeline.addressed o (flowConn H P info2 o p2 rest2)) := by
      show (Pipeline.connOut H P info2 _ kl).getD [] = _
      rw [g2]; rfl
    rw [← this, ← hdsb]; rfl

section C09
open TLX.Keylog TLX.Spec.NssKeylog TLX.Lemmas.Keylog TLX.Lemmas.ExportProps

/-- **C09, one connection**: two key logs that install the same TLS secrets for every client random
    (`SameTlsSecrets`: `Keylog.installed12 .firstMaster` and `Keylog.installed13` agree) give the same export of every
    connection — the key log enters `Session.decrypt()` through `generate_keys` only (`genKeys_of_installed`). -/
theorem connOut_keylog_independent (H : Crypto.Prims) (P : Cipher.Prims) (info : Nat → Pipeline.Info) (c : Pipeline.Conn)
    (kl1 kl2 : List Key) (h : SameTlsSecrets kl1 kl2) :
    Pipeline.connOut H P info c kl1 = Pipeline.connOut H P info c kl2 := by
  unfold Pipeline.connOut
  rw [ops_of_installed H P kl1 kl2 h]

/-- **C09, all TLS conversations of a run**: two `-s` key logs that install the same TLS secrets — with whatever DSBs
    the capture holds behind them — give the same frames for every TLS conversation -/
theorem tlsFrames_keylog_independent (H : Crypto.Prims) (P : Cipher.Prims) (info : Nat → Pipeline.Info) (o : Opts)
    (fk1 fk2 : Option (List Key)) (xs : List (MainLoop.Item Key)) (h : SameTlsSecrets (fk1.getD []) (fk2.getD [])) :
    tlsFrames H P info o fk1 xs = tlsFrames H P info o fk2 xs := by
  unfold tlsFrames
  apply List.map_congr_left
  intro s _
  unfold convFrames keysOf
  rw [connOut_keylog_independent H P info s.st _ _ (sameTlsSecrets_append _ _ (dsbOnly xs) h)]

/-- **C09, whole program** (`export_keylog_denotation_independent`): two runs on the same capture with the same options and
    two `-s` key logs that install the same TLS secrets: the TLS part of what `run()` hands to the writer — the frames of
    all TLS conversations, in order — is the same; what follows it is the QUIC part of each run (QUIC reads the key log
    through its own lookup, `Keylog.installedQuic`; not covered here). -/
theorem export_keylog_denotation_independent (mask : Quic.Dissect.MaskFn) (H : Crypto.Prims) (P : Cipher.Prims)
    (info : Nat → Pipeline.Info) (prior : Export.Prior) (args : Args) (o : Opts)
    (ho : TLX.Lemmas.ExportProps.optsOf args = some o)
    (fk1 fk2 : Option (List Key)) (xs : List (MainLoop.Item Key)) (h : SameTlsSecrets (fk1.getD []) (fk2.getD [])) :
    ∃ quic1 quic2,
      framesFrom mask H P prior args fk1 xs info = .ok ((tlsFrames H P info o fk1 xs).flatten ++ quic1) ∧
      framesFrom mask H P prior args fk2 xs info = .ok ((tlsFrames H P info o fk1 xs).flatten ++ quic2) := by
  obtain ⟨q1, e1⟩ := framesFrom_ok mask H P info prior args fk1 xs o ho
  obtain ⟨q2, e2⟩ := framesFrom_ok mask H P info prior args fk2 xs o ho
  rw [← tlsFrames_keylog_independent H P info o fk1 fk2 xs h] at e2
  exact ⟨q1, q2, e1, e2⟩

/-- what C09 (`Props.C09.keys_invariant_under_delivery_global`) gives for two key-log FILES read in text mode: well
    formed, the same set of (label, client random, secret) triples, consistent (one secret per label and client random),
    every CR followed by LF ⇒ the same TLS secrets for every client random. Permutation of the lines, duplication,
    comments and foreign lines, hex-digit case, LF vs CRLF are all covered. -/
theorem sameTlsSecrets_of_texts (t1 t2 : Str) (wf1 : WellFormed t1) (wf2 : WellFormed t2) (heq : Equivalent t1 t2)
    (hcons : Consistent t1) (c1 : CrOk t1) (c2 : CrOk t2) :
    SameTlsSecrets ((fileKeysOf (some t1)).getD []) ((fileKeysOf (some t2)).getD []) := by
  intro cr
  have e : ∀ t, CrOk t → (fileKeysOf (some t)).getD [] = getKeysFromString .any t := by
    intro t ht
    show getKeysFromString Keylog.srcHexClass (universalNewlines t) = _
    rw [Props.C09Found.srcHexClass_any]
    exact Props.C09.file_text_mode_irrelevant .any t ht
  rw [e t1 c1, e t2 c2]
  have := Props.C09.keys_invariant_under_delivery_global t1 t2 wf1 wf2 heq hcons cr
  exact ⟨congrArg Installed.tls12 this, congrArg Installed.tls13 this⟩

/-- **C09, whole program, key-log files as text.** -/
theorem export_keylog_text_independent (mask : Quic.Dissect.MaskFn) (H : Crypto.Prims) (P : Cipher.Prims)
    (info : Nat → Pipeline.Info) (prior : Export.Prior) (args : Args) (o : Opts)
    (ho : TLX.Lemmas.ExportProps.optsOf args = some o)
    (t1 t2 : Str) (wf1 : WellFormed t1) (wf2 : WellFormed t2) (heq : Equivalent t1 t2)
    (hcons : Consistent t1) (c1 : CrOk t1) (c2 : CrOk t2) (xs : List (MainLoop.Item Key)) :
    ∃ quic1 quic2,
      framesFrom mask H P prior args (fileKeysOf (some t1)) xs info =
        .ok ((tlsFrames H P info o (fileKeysOf (some t1)) xs).flatten ++ quic1) ∧
      framesFrom mask H P prior args (fileKeysOf (some t2)) xs info =
        .ok ((tlsFrames H P info o (fileKeysOf (some t1)) xs).flatten ++ quic2) :=
  export_keylog_denotation_independent mask H P info prior args o ho _ _ xs
    (sameTlsSecrets_of_texts t1 t2 wf1 wf2 heq hcons c1 c2)

/-- **`OnlySecret` (the key-log hypothesis of `Props/C01Rfc`) follows from C09's consistency**: in a key-log file of
    well-formed lines that is consistent for the client random, a line `label cr secret` is the only secret under that
    label and client random — so `tls12/13_capture_exact_rfc` hold for every consistent key-log file that has the lines. -/
theorem onlySecret_of_consistent (ls : List (Props.C09Found.FLine × Bool)) (hwf : ∀ x ∈ ls, x.1.WF) (cr : List Nat)
    (hcons : ConsistentFor cr (Props.C09Found.fileText ls)) (label secret : List Nat)
    (hhas : TLX.Lemmas.C01Rfc.HasLine ls label cr secret) : TLX.Lemmas.C01Rfc.OnlySecret ls label cr secret :=
  TLX.Lemmas.ExportSeg.onlySecret_of_consistent ls hwf cr hcons label secret hhas

end C09

end TLX.Props.ExportSeg
