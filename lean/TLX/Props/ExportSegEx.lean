/-
Non-vacuity and witnesses for `Props/ExportSeg.lean` (toy primitives, toy hashes with the real digest sizes, the regenerated
suite table).

C05
  `seg_instance`        the TLS 1.2 connection of `C01Capstone.Ex` (`t0`) captured twice: `cap0` (ClientHello in two segments,
                        coalesced server flight, a retransmission, a split record, client ISN wrapping 2^32) and `capB` (one
                        record per segment, the server's third record captured AFTER its fourth, the server's sequence
                        numbers wrapping 2^32 inside the stream, other capture times): every hypothesis of
                        `connection_segmentation_independent` holds, the two exports are `SameExport` — and they DO differ as
                        frame lists (`seg_frames_differ`).
  `order_matters`       the same two byte streams, each direction delivered in order, but all server segments captured before
                        the client's: `SameReleaseOrder` fails and nothing is decrypted — the hypothesis cannot be dropped.
  `overtaken_first_segment_differs`   the open finding `Props.C05.reassembly_exact_counterexample` at connection level: the
                        first data segment of a direction overtaken by a segment that is a whole record — `Delivers` holds,
                        `NoEarlyDelivery` does not, and the export (with `-a`) loses a record.
C09
  `keylog_instance`     two key-log FILES for the capture of `C01File.Ex`: `C01File2.Ex.ls0` (comment, the CLIENT_RANDOM
                        line in upper-case hex with CRLF, another tool's line) and `lsB` (the line in lower case with LF, the
                        upper-case line again, a comment): well formed, equivalent, consistent, CR only in CRLF — different
                        key lists, the same TLS export.
  `onlySecret_instance` `OnlySecret` for `ls0` from `ConsistentFor`.
-/
import TLX.Props.ExportSeg
import TLX.Props.C01RfcEx
set_option autoImplicit false
namespace TLX.Props.ExportSeg.Ex
open TLX TLX.Props.C01Capstone TLX.Props.C01Capstone.Ex TLX.Props.C01Pipeline TLX.Props.C01Pipeline.Ex2
open TLX.Lemmas.Pipeline TLX.Lemmas.Capstone TLX.Props.C01.Ex TLX.Lemmas.ExportSeg TLX.Spec.TlsFraming
open TLX.Spec.TlsConnection TLX.Reassembly TLX.Lemmas.C01Instance

instance (info1 : Nat → Pipeline.Info) (c1 : Pipeline.Conn) (info2 : Nat → Pipeline.Info) (c2 : Pipeline.Conn) :
    Decidable (SameReleaseOrder info1 c1 info2 c2) := inferInstanceAs (Decidable (_ = _))

/-- a delivery (any cuts, duplicates, displacements) of a stream of whole records whose first captured segment is the one
    that starts the stream -/
theorem deliversStream_of_head (info : Nat → Pipeline.Info) (c : Pipeline.Conn) (d : Bool) (recs : List Bytes)
    (hwr : ∀ r ∈ recs, WholeRecord r) (hl : recs.flatten.length ≤ 2 ^ 31) (k isn : Nat)
    (hd : Delivers k isn recs.flatten ((dirSegs info c.server d c.pkts).map Props.C05.wire))
    (hh : ∀ s, (dirSegs info c.server d c.pkts).head? = some s → s.seq = isn % 2 ^ 32) :
    DeliversStream info c d recs.flatten :=
  ⟨(frame_flatten recs hwr).2, hl, k, isn, hd, Ex2.noEarly_of_head isn _ hh⟩

theorem deliversStream_of_inOrder (info : Nat → Pipeline.Info) (c : Pipeline.Conn) (d : Bool) (recs : List Bytes)
    (hwr : ∀ r ∈ recs, WholeRecord r) (hl : recs.flatten.length ≤ 2 ^ 31)
    (h : ∃ isn, InOrder isn recs.flatten ((dirSegs info c.server d c.pkts).map Props.C05.wire)) :
    DeliversStream info c d recs.flatten := by
  obtain ⟨isn, hio⟩ := h
  refine deliversStream_of_head info c d recs hwr hl 0 isn hio fun s hs => ?_
  exact Lemmas.Delivery.inorder_head hio (Props.C05.wire s) (by rw [List.head?_map, hs]; rfl)

def capB : List (Bool × Bytes × Nat) :=
  [(false, rC 0, 0), (true, rS 0, 0), (true, rS 1, (rS 0).length), (false, rC 1, 50), (false, rC 2 ++ rC 3, 50 + (rC 1).length),
   (false, rC 4, 112), (true, rS 3, 73 + (rS 2).length), (true, rS 2, 73), (true, rS 4, 124), (false, rC 5, 143)]
/-- the server's sequence numbers wrap 2^32 inside its stream -/
def isnB (d : Bool) : Nat := if d then 4294967200 else 1000
def pktsB : List MainLoop.Pkt := (List.range capB.length).map fun i =>
  mkPkt (capB.getD i (false, [], 0)).1 (capB.getD i (false, [], 0)).2.1 i
def infoB (tag : Nat) : Pipeline.Info :=
  ⟨(isnB (capB.getD tag (false, [], 0)).1 + (capB.getD tag (false, [], 0)).2.2) % 4294967296, 5000 + 7 * tag, [1], [2], false⟩
def connB : Pipeline.Conn := ⟨⟨[443], false, false, false, true, []⟩, sEp, cEp, [2], [1], false, pktsB⟩

def recs0 (d : Bool) : List Bytes := t0.records Cipher.Toy.prims Cipher.Toy.laws cls0 (legacySnd k0) d
def str0 (d : Bool) : Bytes := (recs0 d).flatten

theorem whole0 : ∀ d, ∀ r ∈ recs0 d, WholeRecord r := by decide +kernel
theorem len0 : ∀ d, (recs0 d).flatten.length ≤ 2 ^ 31 := by decide +kernel

/-- capture A (`cap0`): in order with a retransmission -/
theorem deliversA (d : Bool) : DeliversStream infoCap connCap d (str0 d) :=
  deliversStream_of_inOrder infoCap connCap d (recs0 d) (whole0 d) (len0 d) (delivered0 d).1

def chunksB (d : Bool) : List Bytes := if d then [rS 0, rS 1, rS 2, rS 3, rS 4] else [rC 0, rC 1, rC 2 ++ rC 3, rC 4, rC 5]

/-- capture B: the client's direction in order; the server's with the third and fourth segment exchanged -/
theorem deliversB (d : Bool) : DeliversStream infoB connB d (str0 d) := by
  cases d
  · exact deliversStream_of_inOrder infoB connB false (recs0 false) (whole0 false) (len0 false)
      (inOrder_of_cut (isnB false) (chunksB false) (by decide +kernel) (by with_unfolding_all rfl)
        (by with_unfolding_all rfl))
  · refine deliversStream_of_head infoB connB true (recs0 true) (whole0 true) (len0 true) 1 (isnB true) ?_
      (by decide +kernel)
    rw [show (dirSegs infoB connB.server true connB.pkts).map Props.C05.wire =
        (segsOf (isnB true) 0 (chunksB true)).take 2 ++ (segsOf (isnB true) 0 (chunksB true)).getD 3 (0, []) ::
          (segsOf (isnB true) 0 (chunksB true)).getD 2 (0, []) :: (segsOf (isnB true) 0 (chunksB true)).drop 4
      by with_unfolding_all rfl]
    exact delivers_swapAt (Delivers.cut _ ⟨by decide +kernel, by with_unfolding_all rfl⟩) (Nat.le_refl 1) 2 (by decide) _

/-- capture C: the segments of capture B's client direction AFTER all segments of its server direction (each direction in
    order, one record group per segment) -/
def capC : List (Bool × Bytes × Nat) :=
  [(true, rS 0 ++ rS 1, 0), (true, rS 2 ++ rS 3, 73), (true, rS 4, 124), (false, rC 0, 0), (false, rC 1 ++ rC 2 ++ rC 3, 50),
   (false, rC 4, 112), (false, rC 5, 143)]
def pktsC : List MainLoop.Pkt := (List.range capC.length).map fun i =>
  mkPkt (capC.getD i (false, [], 0)).1 (capC.getD i (false, [], 0)).2.1 i
def infoC (tag : Nat) : Pipeline.Info :=
  ⟨(isnOf (capC.getD tag (false, [], 0)).1 + (capC.getD tag (false, [], 0)).2.2) % 4294967296, 1000 + tag, [1], [2], false⟩
def connC : Pipeline.Conn := ⟨⟨[443], false, false, false, true, []⟩, sEp, cEp, [2], [1], false, pktsC⟩
def chunksC (d : Bool) : List Bytes :=
  if d then [rS 0 ++ rS 1, rS 2 ++ rS 3, rS 4] else [rC 0, rC 1 ++ rC 2 ++ rC 3, rC 4, rC 5]

/-- what the kernel has to compute about the captures A, B, C, in ONE declaration (it shares work inside a declaration only) -/
theorem runs :
    (SameReleaseOrder infoCap connCap infoB connB ∧
     exportedRecs hashes Cipher.Toy.prims infoB connB kl0 = [(false, hi), (true, k16), (false, [])] ∧
     Pipeline.connOut hashes Cipher.Toy.prims infoCap connCap kl0 ≠ Pipeline.connOut hashes Cipher.Toy.prims infoB connB kl0) ∧
    (¬ SameReleaseOrder infoCap connCap infoC connC ∧
     exportedRecs hashes Cipher.Toy.prims infoCap connCap kl0 = [(false, hi), (true, k16), (false, [])] ∧
     exportedRecs hashes Cipher.Toy.prims infoC connC kl0 = []) := by
  decide +kernel

theorem orderAB : SameReleaseOrder infoCap connCap infoB connB := runs.1.1

/-- **Non-vacuity of `connection_segmentation_independent`** (and with it of `connection_release_independent`) -/
theorem seg_instance : SameExport hashes Cipher.Toy.prims kl0 infoCap connCap infoB connB :=
  connection_segmentation_independent hashes Cipher.Toy.prims kl0 infoCap infoB connCap connB rfl str0 deliversA deliversB
    orderAB

/-- what the two exports share: "hi" from the client, sixteen bytes from the server, an empty client record -/
example : exportedRecs hashes Cipher.Toy.prims infoB connB kl0 = [(false, hi), (true, k16), (false, [])] :=
  runs.1.2.1

/-- the two exports of `seg_instance` are different frame lists (times, and the sixteen bytes in two frames resp. one) -/
theorem seg_frames_differ :
    Pipeline.connOut hashes Cipher.Toy.prims infoCap connCap kl0 ≠ Pipeline.connOut hashes Cipher.Toy.prims infoB connB kl0 :=
  runs.1.2.2

theorem deliversC (d : Bool) : DeliversStream infoC connC d (str0 d) := by
  refine deliversStream_of_inOrder infoC connC d (recs0 d) (whole0 d) (len0 d) ?_
  cases d
  · exact inOrder_of_cut (isnOf false) (chunksC false) (by decide +kernel) (by with_unfolding_all rfl)
      (by with_unfolding_all rfl)
  · exact inOrder_of_cut (isnOf true) (chunksC true) (by decide +kernel) (by with_unfolding_all rfl)
      (by with_unfolding_all rfl)

/-- **`SameReleaseOrder` cannot be dropped**: captures A and C show deliveries of the same two byte streams (same key log,
    same options), but C releases the ServerHello before the ClientHello: nothing is decrypted. -/
theorem order_matters :
    (∀ d, DeliversStream infoCap connCap d (str0 d)) ∧ (∀ d, DeliversStream infoC connC d (str0 d)) ∧
    ¬ SameReleaseOrder infoCap connCap infoC connC ∧
    exportedRecs hashes Cipher.Toy.prims infoCap connCap kl0 = [(false, hi), (true, k16), (false, [])] ∧
    exportedRecs hashes Cipher.Toy.prims infoC connC kl0 = [] := by
  exact ⟨deliversA, deliversC, runs.2⟩

open TLX.Props.C05 (r1 r3) in
/-- the client sends the records `r1` (a handshake record) and `r3` (an alert), one per segment; with `-a`, no keys -/
def optsA : MainLoop.Opts := ⟨[443], false, false, true, true, []⟩
def pktsIn : List MainLoop.Pkt := [mkPkt false Props.C05.r1 0, mkPkt false Props.C05.r3 1]
def pktsSw : List MainLoop.Pkt := [mkPkt false Props.C05.r3 0, mkPkt false Props.C05.r1 1]
def infoIn (tag : Nat) : Pipeline.Info := ⟨if tag = 0 then 100 else 105, 1000 + tag, [1], [2], false⟩
def infoSw (tag : Nat) : Pipeline.Info := ⟨if tag = 0 then 105 else 100, 1000 + tag, [1], [2], false⟩
def connIn : Pipeline.Conn := ⟨optsA, sEp, cEp, [2], [1], false, pktsIn⟩
def connSw : Pipeline.Conn := ⟨optsA, sEp, cEp, [2], [1], false, pktsSw⟩

/-- **`Props.C05.reassembly_exact_counterexample` at connection level.** Both captures show a delivery (`Delivers 1 100`) of
    the same client stream `r1 ++ r3`; in the second the segment that starts the stream is overtaken by a segment that is a
    whole record: `NoEarlyDelivery` fails, the overtaken record is never released, and the export differs. Outside the
    hypotheses of `connection_segmentation_independent`, and it has to be. -/
theorem overtaken_first_segment_differs :
    Delivers 1 100 (Props.C05.r1 ++ Props.C05.r3) ((dirSegs infoIn connIn.server false connIn.pkts).map Props.C05.wire) ∧
    Delivers 1 100 (Props.C05.r1 ++ Props.C05.r3) ((dirSegs infoSw connSw.server false connSw.pkts).map Props.C05.wire) ∧
    WholeRecords (Props.C05.r1 ++ Props.C05.r3) ∧
    Props.C05.NoEarlyDelivery 100 (dirSegs infoIn connIn.server false connIn.pkts) ∧
    ¬ Props.C05.NoEarlyDelivery 100 (dirSegs infoSw connSw.server false connSw.pkts) ∧
    exportedRecs hashes Cipher.Toy.prims infoIn connIn [] = [(false, Props.C05.r1), (false, Props.C05.r3)] ∧
    exportedRecs hashes Cipher.Toy.prims infoSw connSw [] = [(false, Props.C05.r3)] := by
  have hc : Delivers 1 100 (Props.C05.r1 ++ Props.C05.r3) (segsOf 100 0 [Props.C05.r1, Props.C05.r3]) :=
    Delivers.cut [Props.C05.r1, Props.C05.r3] ⟨by decide, by decide⟩
  refine ⟨?_, ?_, by simp [WholeRecords, frame, hdrLen, Props.C05.r1, Props.C05.r3], ?_, ?_, by decide +kernel, by decide +kernel⟩
  · have e : (dirSegs infoIn connIn.server false connIn.pkts).map Props.C05.wire = segsOf 100 0 [Props.C05.r1, Props.C05.r3] := by
      decide +kernel
    rw [e]; exact hc
  · have e : (dirSegs infoSw connSw.server false connSw.pkts).map Props.C05.wire
        = [] ++ ([(105, Props.C05.r3)] ++ (100, Props.C05.r1) :: []) := by decide +kernel
    rw [e]
    exact Delivers.displace _ _ hc (Displaced.later [] [(105, Props.C05.r3)] [] (100, Props.C05.r1) (by decide))
  · exact Ex2.noEarly_of_head 100 _ (by decide +kernel)
  · intro h
    have := h [⟨0, 105, Props.C05.r3⟩] [⟨1, 100, Props.C05.r1⟩] (by decide +kernel) (by decide)
    revert this
    decide +kernel

section Runs
open TLX.MainLoop TLX.Export TLX.Spec.Demux TLX.Props.C01File TLX.Props.C01File.Ex TLX.Spec.TlsCapture

theorem deliversStream_congr (info : Nat → Pipeline.Info) (c c' : Pipeline.Conn) (hs : c.server = c'.server)
    (hp : c.pkts = c'.pkts) (d : Bool) (str : Bytes) (h : DeliversStream info c d str) : DeliversStream info c' d str := by
  unfold DeliversStream at h ⊢
  rw [← hs, ← hp]; exact h

/-- run 1: the capture FILE of `C01File.Ex` (an ARP request, then `cap0` as Ethernet / IPv4 / TCP frames) -/
def xs1 : List (MainLoop.Item Keylog.Key) := itemsFrom 0 (evs0.map CEv.cap)
def info1 : Nat → Pipeline.Info := capInfo (evs0.map CEv.cap)
/-- run 2: capture B as the main loop sees it -/
def xs2 : List (MainLoop.Item Keylog.Key) := pktsB.map .frame
def o0 : Opts := optsOf args0 ports0 []

theorem flow2 : (tcpView o0 xs2).filter (sameFlow (pktsB.headD (mkPkt false [] 0))) = pktsB.headD (mkPkt false [] 0) :: pktsB.tail := by
  with_unfolding_all rfl

theorem deliversRun1 (d : Bool) :
    DeliversStream info1 (flowConn hashes Cipher.Toy.prims info1 o0 p00 TLX.Props.C01File.Ex.pkts0.tail) d (str0 d) := by
  obtain ⟨_, _, _, _, hdelv⟩ := described_session fl0 (by decide) evs0 described0 o0 rfl
    (by decide +kernel) (by decide +kernel) p00 TLX.Props.C01File.Ex.pkts0.tail fp0
  exact deliversStream_of_inOrder info1 (sessionOf (evs0.map CEv.cap) o0 p00 TLX.Props.C01File.Ex.pkts0.tail) d (recs0 d)
    (whole0 d) (len0 d) (hdelv _ wires0 d).1

theorem deliversRun2 (d : Bool) :
    DeliversStream infoB (flowConn hashes Cipher.Toy.prims infoB o0 (pktsB.headD (mkPkt false [] 0)) pktsB.tail) d (str0 d) :=
  deliversStream_congr infoB connB _ (by decide +kernel) (eq_head_cons_tail (by decide +kernel)) d _ (deliversB d)

/-- **Non-vacuity of `export_segmentation_independent`**: the two runs hand the writer, for the flow, blocks that differ in
    frame boundaries and times only. -/
theorem export_seg_instance :
    ∃ pre1 post1 pre2 post2 f1 f2 pc ps,
      framesFrom (fun _ _ _ => none) hashes Cipher.Toy.prims freshState args0 (some kl0) xs1 info1 =
        .ok (pre1 ++ f1.map (Pipeline.addressed o0 (flowConn hashes Cipher.Toy.prims info1 o0 p00 TLX.Props.C01File.Ex.pkts0.tail)) ++ post1) ∧
      framesFrom (fun _ _ _ => none) hashes Cipher.Toy.prims freshState args0 (some kl0) xs2 infoB =
        .ok (pre2 ++ f2.map (Pipeline.addressed o0
          (flowConn hashes Cipher.Toy.prims infoB o0 (pktsB.headD (mkPkt false [] 0)) pktsB.tail)) ++ post2) ∧
      Spec.reassemble f1 = some (pc, ps) ∧ Spec.reassemble f2 = some (pc, ps) := by
  obtain ⟨hF1, hc1, _, _, _⟩ := described_session fl0 (by decide) evs0 described0 o0 rfl
    (by decide +kernel) (by decide +kernel) p00 TLX.Props.C01File.Ex.pkts0.tail fp0
  obtain ⟨pre1, post1, pre2, post2, f1, f2, pc, ps, e1, e2, r1, r2, _⟩ :=
    export_segmentation_independent (fun _ _ _ => none) hashes Cipher.Toy.prims args0 (some kl0) [] ports0 rfl rfl
      xs1 xs2 info1 infoB (by rw [show xs1 = itemsFrom 0 (evs0.map CEv.cap) from rfl, dsbKeys_itemsFrom]; decide +kernel)
      (refPkt fl0) p00 TLX.Props.C01File.Ex.pkts0.tail hF1 hc1
      (pktsB.headD (mkPkt false [] 0)) (pktsB.headD (mkPkt false [] 0)) pktsB.tail flow2 (by decide +kernel)
      str0 deliversRun1 deliversRun2 (by decide +kernel)
  exact ⟨pre1, post1, pre2, post2, f1, f2, pc, ps, e1, e2, r1, r2⟩

end Runs

section KeylogFiles
open TLX.Keylog TLX.Spec.NssKeylog TLX.Props.C09Found TLX.Props.C01File2.Ex TLX.Lemmas.C01Rfc TLX.Export
open TLX.Props.C01File.Ex TLX.Props.C01Rfc.Ex

/-- the same secret delivered differently: lower-case hex with LF, the upper-case CRLF line once more, a comment behind -/
def lsB : List (FLine × Bool) :=
  [(.key tr0 (Keylog.hexOf (Pipeline.natsOfBytes cr0)) (Keylog.hexOf (List.replicate 48 5)), false),
   (.key tr0 hcU (Keylog.hexOf (List.replicate 48 5)), true), (.other [35, 32, 120], false)]

theorem lsB_wf : ∀ x ∈ lsB, x.1.WF := by
  intro x hx
  simp only [lsB, List.mem_cons, List.mem_nil_iff, or_false] at hx
  rcases hx with rfl | rfl | rfl
  · show DenotesVia _ tr0 _ _
    exact ⟨rfl, by decide, by decide +kernel, by decide, by decide +kernel, by decide⟩
  · show DenotesVia _ tr0 hcU _
    exact ⟨rfl, by decide, by decide +kernel, by decide, by decide +kernel, by decide⟩
  · exact ⟨by decide, by decide, Lemmas.Keylog.not_looks_of_first 35 _ (by decide)⟩

theorem mem0 (tr : Triple) : (∃ hc hv crlf, (FLine.key tr hc hv, crlf) ∈ ls0) ↔ tr = tr0 := by
  rw [← mem_triples, show ls0.filterMap tripleOf = [tr0] from rfl, List.mem_singleton]

theorem memB (tr : Triple) : (∃ hc hv crlf, (FLine.key tr hc hv, crlf) ∈ lsB) ↔ tr = tr0 := by
  rw [← mem_triples, show lsB.filterMap tripleOf = [tr0, tr0] from rfl]
  simp

theorem equiv0B : Equivalent (fileText ls0) (fileText lsB) := by
  intro tr
  rw [hasTriple_fileText_iff ls0 ls0_wf, hasTriple_fileText_iff lsB lsB_wf, mem0, memB]

theorem consistent0 : Consistent (fileText ls0) := by
  intro tr tr' h h' _ _
  rw [hasTriple_fileText_iff ls0 ls0_wf, mem0] at h h'
  rw [h, h']

/-- the two files are parsed to different key lists (one key resp. two) … -/
example : (fileKeysOf (some (fileText ls0))).getD [] ≠ (fileKeysOf (some (fileText lsB))).getD [] := by
  rw [fileKeys_wf ls0 ls0_wf, fileKeys_wf lsB lsB_wf]; decide +kernel

def oX : MainLoop.Opts := ⟨ports0, false, false, false, Options.keepOriginalPorts none, []⟩

/-- **the two files are parsed to different key lists and the TLS export of the two runs is the same** (non-vacuity of
    `export_keylog_text_independent`, and through it of `export_keylog_denotation_independent`,
    `tlsFrames_keylog_independent`, `connOut_keylog_independent`) -/
theorem keylog_instance :
    ∃ quic1 quic2,
      framesFrom (fun _ _ _ => none) hashes Cipher.Toy.prims MainLoop.freshState args0 (fileKeysOf (some (fileText ls0))) xs1 info1 =
        .ok ((TLX.Lemmas.ExportProps.tlsFrames hashes Cipher.Toy.prims info1 oX (fileKeysOf (some (fileText ls0))) xs1).flatten
          ++ quic1) ∧
      framesFrom (fun _ _ _ => none) hashes Cipher.Toy.prims MainLoop.freshState args0 (fileKeysOf (some (fileText lsB))) xs1 info1 =
        .ok ((TLX.Lemmas.ExportProps.tlsFrames hashes Cipher.Toy.prims info1 oX (fileKeysOf (some (fileText ls0))) xs1).flatten
          ++ quic2) :=
  export_keylog_text_independent (fun _ _ _ => none) hashes Cipher.Toy.prims info1 MainLoop.freshState args0 oX rfl
    (fileText ls0) (fileText lsB) (wellFormed_fileText ls0 ls0_wf) (wellFormed_fileText lsB lsB_wf) equiv0B consistent0
    (crOk_fileText ls0 ls0_wf) (crOk_fileText lsB lsB_wf) xs1

/-- `OnlySecret` — the key-log hypothesis of `tls12_capture_exact_rfc` — for the key-log file of `C01File2.Ex`, from C09's
    consistency -/
theorem onlySecret_instance :
    OnlySecret ls0 Spec.RfcSuite.labelClientRandom (Pipeline.natsOfBytes t0.ch.random) (Pipeline.natsOfBytes ms0) := by
  apply ExportSeg.onlySecret_of_consistent ls0 ls0_wf
  · intro tr tr' h h' _ _ _
    rw [hasTriple_fileText_iff ls0 ls0_wf, mem0] at h h'
    rw [h, h']
  · exact hasCR0

end KeylogFiles

end TLX.Props.ExportSeg.Ex
