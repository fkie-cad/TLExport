import TLX.Props.C02Zr2
import TLX.Props.C02ZrEx
set_option autoImplicit false

/-! # `Props/C02Zr2`: non-vacuity of `quic_connection_exact_0rtt_any`

The history of `C02Capstone4.ExZ.zero_rtt_not_first_offered_lost`: the client resumed a session of suite 0x1301 — SECOND in
its ClientHello (0x1303, 0x1301, 0x1302), and the one the server selects — and sends the 0-RTT packet `EARLY` behind its
Initial packet. The tool's Early keys are then those of 0x1303: the datagram is a bad one (`XDgBad`, `RejectedT` evaluated on
the toy AEAD); the server's flight with `HI` and the client's Finished with `GET` are good ones. Every hypothesis is
discharged; the export is `HI`, `GET`. -/
namespace TLX.Props.C02Zr.ExAny
open TLX TLX.MainLoop TLX.Export TLX.Spec.Demux TLX.QuicPipeline TLX.Props.C02File TLX.Props.C02File2 TLX.Lemmas.ExportProps
open TLX.Quic TLX.Quic.Session TLX.Spec.QuicSender TLX.Spec.QuicConnection TLX.Spec.QuicFrames TLX.Spec.QuicPackets
open TLX.Props.C02Capstone TLX.Props.C02Capstone3 TLX.Props.C02Capstone4 TLX.Props.C02Session TLX.Spec.KeySchedules
open TLX.Props.C02File.Ex (H Pc L m5 maskFn sel hs chS shS caS saS w0 w2 cidS0 cidS cidC qCI fl line hs_ok)
open TLX.Props.ExportPropsQuic.Ex (info)
open TLX.Props.C02Capstone.ExConf
open TLX.Props.C02Capstone4.ExZ (selR eS qZ qCI' dZ oC1 keysZ o qSI' qSH' qCH' oS' dSX dCX keylogZ wX' pkCI')
open TLX.Props.C02Zr.ExRej (isErr err_of)

def yZ : DgY := ⟨dZ, false⟩
def yS : DgY := ⟨dSX, true⟩
def yC : DgY := ⟨dCX, true⟩

def itemsA : List (List Keylog.Key × MainLoop.Pkt × DgY) :=
  [(keysZ, dgPkt fl true (wX' dSX) 2, yS), (keysZ, dgPkt fl false (wX' dCX) 4, yC)]
def p0 : MainLoop.Pkt := dgPkt fl false (wX' dZ) 1
def c0 : QConn := (quicMachine maskFn H Pc info).new o p0

def t1 : Trk := trk0.dgx yZ.eff
def t2 : Trk := t1.dgx yS.eff

def PZ : Long := longOf qZ.x (protectedPayload L.aeadSeal sel.alg (earlyDec H sel eS).client qZ.x)

/-- the AEAD check of the tool — Early key of 0x1303 — on the packet protected for 0x1301 fails -/
theorem rejectedZ : RejectedT H Pc selR eS (DgX.t1 trk0 dZ).tc.app ((remask PZ qZ.mask m5).toPkt false qZ.x.ts) := by
  intro pnb pn aad hpb hpn haad
  apply err_of
  -- one evaluation: whatever packet number and associated data the tool reconstructs, the toy AEAD rejects
  have h : (match ((remask PZ qZ.mask m5).toPkt false qZ.x.ts).pn with
      | some pnb' =>
        (match pnResult (DgX.t1 trk0 dZ).tc.app pnb', assocData ((remask PZ qZ.mask m5).toPkt false qZ.x.ts) with
        | .ok pn', .ok aad' => isErr (decDecrypt (params H Pc []) (earlyDec H selR eS)
            ((remask PZ qZ.mask m5).toPkt false qZ.x.ts).payload pn' aad' false)
        | _, _ => true)
      | none => true) = true := by decide +kernel
  rw [hpb] at h
  simp only [hpn, haad] at h
  exact h

theorem badZ : XDgBad maskFn H Pc L cidS0 sel sel shS chS saS caS eS trk0 none dZ where
  client := fun _ => rfl
  dirL := List.forall_mem_singleton.mpr ⟨rfl, rfl⟩
  dirZ := List.forall_mem_singleton.mpr rfl
  cid := ExZ.pk_eval'.2.1.1
  pre := ⟨pkCI', trivial⟩
  tool := fun _ => ⟨selR, ExZ.pk_eval'.2.1.2.1, by
    intro q hq; simp only [dZ, List.mem_singleton] at hq; subst hq
    exact ⟨ExZ.shapeZ, by decide, by decide, by decide, m5, rfl, by decide, rejectedZ⟩⟩
  post := trivial
  short := by intro o ho; cases ho

theorem okS : XDgOkE maskFn H Pc L cidS0 sel sel shS chS saS caS eS t1 (ecsDgx trk0 none yZ.eff) dSX := ExZ.okS.of_noZr rfl

theorem okC : XDgOkE maskFn H Pc L cidS0 sel sel shS chS saS caS eS t2 (ecsDgx t1 (ecsDgx trk0 none yZ.eff) yS.eff) dCX :=
  ExZ.okC.of_noZr rfl

-- the key log is never looked into below: unfolding `keysZ` to compare `(keysZ, p, d).1` with `keysZ` parses the text
attribute [local irreducible] keysZ

/-- **Non-vacuity of `quic_connection_exact_0rtt_any`**: every hypothesis discharged; the 0-RTT data `EARLY` is missing,
    `HI` and `GET` are exported with their times. -/
theorem zero_rtt_any_instance :
    let QM := quicMachine maskFn H Pc info
    QM.out false (yFeedAll QM c0 ((keysZ, p0, yZ) :: itemsA)) = expectedOutX c0 [yZ.eff, yS.eff, yC.eff] [] ∧
    (expectedOutX c0 [yZ.eff, yS.eff, yC.eff] []).map (fun p => (p.ts, p.payload)) =
      [(102, [0x48, 0x49]), (104, [0x47, 0x45, 0x54])] := by
  refine ⟨?_, by decide +kernel⟩
  have h := (quic_connection_exact_0rtt_any maskFn H Pc info Props.C15.sizedToy_lawful rfl L chx.random hs.sh.cipherSuite chS shS caS
    saS eS sel sel [0x13, 0x01] (by decide) (by decide) (by decide) rfl rfl keysZ p0 yZ itemsA
    (List.forall_mem_cons.mpr ⟨keylogZ, List.forall_mem_cons.mpr ⟨keylogZ, List.forall_mem_singleton.mpr keylogZ⟩⟩)
    c0 (new_fresh maskFn H Pc info o p0) (by decide) ⟨badZ, okS, okC, trivial⟩
    (ExZ.pk_eval'.2.2.2.2.1 ▸ ptrace_of_conformant hs hs_ok)
    (List.forall_mem_cons.mpr ⟨⟨rfl, rfl, by decide⟩,
      List.forall_mem_cons.mpr ⟨⟨rfl, rfl, by decide⟩, List.forall_mem_singleton.mpr ⟨rfl, rfl, by decide⟩⟩⟩)
    (by decide +kernel) [] (by intro x hx; cases hx) trivial (by decide +kernel)).2
  -- the empty 1-RTT-only part is removed by rewriting: asked whether `feedAll QM c [] ≡ c`, the kernel runs `c`
  rwa [C02Capstone.feedAll] at h

end TLX.Props.C02Zr.ExAny
