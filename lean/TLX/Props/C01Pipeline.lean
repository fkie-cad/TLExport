/-
C01 (with C03 / C08 / C13 by-products) for the COMPOSED TLS model `TLX/Pipeline.lean`: session state machine ∘ record
layer, and the whole per-connection pipeline reassembly → session → `OutputBuilder` (`Pipeline.connOut`). The composed
model is tied to the real tool by the whole-program correspondence run; the component theorems used here are
`Props/C01` (record layer vs. the RFC sender `Spec/TlsSender`), `Lemmas/Session` + `Props/C03, C07Session, C08Session,
C13Session` (session, generic in the decryptor), `Props/C06, C08, C13` (builder), `Lemmas/Metadata` (carriers).

Three parts. Session ∘ record layer (`Pipeline.ops`: decrypt = `TlsRecord` + `Decryptor.decrypt`, updateKeys =
`update_keys`): `session_exact` for any history of application records and TLS 1.3 handshake records, its instances, and
the composition with `OutputBuilder.build` (`app_export_exact`). Connection level, for EVERY primitives, key log and
packet list: `connOut_eq` (reassembly → ONE `Session.run` → build) and what follows from it for C03, C13, C08.
Handshake: the two hello records install what `Pipeline.genKeys` answers (`server_hello_installs`), and that decryptor
is RELATED to the sender initialised with the same keys (`genKeys_installs_rel_*`), so the first part applies from the
first protected record on.
Hypotheses that are genuinely needed: those of `Props/C01` (sequence numbers below 2^64, TLS 1.2 AEAD plaintext < 2^16,
MAC length > 0, 2-byte record version); handshake messages shorter than 2^24 (uint24 length). The theorems here take
TLS 1.3 handshake records of whole messages (`SEv.hs13`); messages split across records are buffered per direction by
`Session.hs13Loop` and are the subject of `Lemmas.Pipeline.handleRecord_frag_any`. Not covered: TLS 1.3 KeyUpdate, inner
content types other than 22 / 23, renegotiation / more than one protected handshake record per side before the
application data in TLS ≤ 1.2 (`legacy_finished_record` composes for any number of them, `legacy_after_hello_exact` states the standard one each).
Definitions used in the statements (`Ready`, `SEv`, `wireRecs`, `toRec`, `plainOf`, `released`, `Negotiated`, …) and the
helper lemmas are in `TLX/Lemmas/Pipeline.lean`.
-/
import TLX.Lemmas.Pipeline
import TLX.Props.C03
import TLX.Props.C07Session
import TLX.Props.C08Session
import TLX.Props.C13Session
namespace TLX.Props.C01Pipeline
open TLX TLX.Cipher TLX.RecordLayer TLX.Spec.TlsSender TLX.Props.C01 TLX.Lemmas.Pipeline

/-- the sender's events of a session-level history -/
def evsOf (hist : List (SEv × List Nat)) : List Ev := hist.flatMap (·.1.evs)

/-- the records `Session` gets for a history sent from state `x`: the wire image of the RFC sender, the `k`-th record
    carried by the packets the history names for it -/
def recsOf (P : Prims) (L : SealLaws P) (cls : CipherClass) (ver : Bytes) (x : Snd) (hist : List (SEv × List Nat)) :
    List (Session.Rec × Bool) :=
  wireRecs (run P L cls ver x (evsOf hist)) (hist.map (·.2))

/-- what `application_traffic` has to gain: per event, in order, tagged with the record that carried it -/
def entriesOf (hist : List (SEv × List Nat)) (recs : List (Session.Rec × Bool)) : List Session.Entry :=
  (List.zipWith (fun e r => e.1.entries r.1) hist recs).flatten

/-- C01 at session level, all versions and classes: for EVERY history of application-data records and (TLS 1.3)
    protected handshake records in any direction order, sent by the RFC sender from a state related to the installed
    decryptor, `Session` appends exactly one entry per application-data record — its plaintext, its direction, in
    order — and nothing for the handshake records, whose Finished messages move the decryptor to the application epoch
    in step with the sender. Nothing lost, added, duplicated, reordered or left encrypted. -/
theorem session_exact (H : Crypto.Prims) (P : Prims) (L : SealLaws P) (kl : List Keylog.Key) (cls : CipherClass)
    (macLen : Nat) (ver : Bytes) (hv : ver.length = 2) (hist : List (SEv × List Nat)) (x : Snd)
    (s : Session.St Dec) (hs : Ready cls macLen x s) (hok : ∀ e ∈ hist, e.1.Ok cls macLen)
    (hq : max x.c.seq x.s.seq + (evsOf hist).length ≤ seqLimit) (m : Bool) :
    (recsOf P L cls ver x hist).length = hist.length ∧
    (Session.run (Pipeline.ops H P kl) m s (recsOf P L cls ver x hist)).traffic
      = s.traffic ++ entriesOf hist (recsOf P L cls ver x hist) ∧
    Ready cls macLen (after P L cls ver x (evsOf hist))
      (Session.run (Pipeline.ops H P kl) m s (recsOf P L cls ver x hist)) := by
  induction hist generalizing x s with
  | nil => exact ⟨rfl, by simp [recsOf, evsOf, run, wireRecs, Session.run, entriesOf], hs⟩
  | cons ec rest ih =>
    obtain ⟨e, c⟩ := ec
    have hrecs : recsOf P L cls ver x ((e, c) :: rest)
        = (⟨e.raw P L cls ver x, c⟩, e.srv) :: recsOf P L cls ver (after P L cls ver x e.evs) rest := by
      simp only [recsOf, evsOf, List.flatMap_cons, List.map_cons, run_append, wireRecs_evs]
    have hlen : (evsOf ((e, c) :: rest)).length = e.evs.length + (evsOf rest).length := by
      simp [evsOf]
    rw [hlen] at hq
    obtain ⟨h1, h2, h3⟩ := handleRecord_sev H P L kl cls macLen ver hv x s hs e (hok (e, c) (by simp))
      (by omega) m c
    obtain ⟨i1, i2, i3⟩ := ih (after P L cls ver x e.evs) _ h2 (fun e' he' => hok e' (by simp [he'])) (by omega)
    rw [hrecs]
    refine ⟨by simp [i1], ?_, ?_⟩
    · simp only [Session.run, List.foldl_cons] at i2 ⊢
      rw [i2, h1]
      simp [entriesOf]
    · simp only [Session.run, List.foldl_cons, evsOf, List.flatMap_cons, after_append] at i3 ⊢
      exact i3

/-- Application phase, every version and class: a history of application-data `send` events of the RFC sender
    (`Spec.TlsSender.run`), arbitrary carriers: one entry per record, the sender's plaintext, and the session stays `Ready`. -/
theorem app_phase_exact (H : Crypto.Prims) (P : Prims) (L : SealLaws P) (kl : List Keylog.Key) (cls : CipherClass)
    (macLen : Nat) (ver : Bytes) (hv : ver.length = 2) (evs : List Ev) (cars : List (List Nat))
    (hc : cars.length = evs.length) (x : Snd) (s : Session.St Dec) (hs : Ready cls macLen x s)
    (happ : ∀ e ∈ evs, IsAppSend e) (hev : ∀ e ∈ evs, EvOk cls macLen e)
    (hq : max x.c.seq x.s.seq + evs.length ≤ seqLimit) (m : Bool) :
    (wireRecs (run P L cls ver x evs) cars).length = evs.length ∧
    (Session.run (Pipeline.ops H P kl) m s (wireRecs (run P L cls ver x evs) cars)).traffic
      = s.traffic ++ List.zipWith (fun e (r : Session.Rec × Bool) => (⟨some (evPt e), r.1, evSrv e, true⟩ : Session.Entry))
          evs (wireRecs (run P L cls ver x evs) cars) ∧
    Ready cls macLen (after P L cls ver x evs)
      (Session.run (Pipeline.ops H P kl) m s (wireRecs (run P L cls ver x evs) cars)) := by
  obtain ⟨g1, g2, g3, g4, g5⟩ := histOf_spec cls macLen evs cars hc happ hev
  have hrecs : recsOf P L cls ver x (histOf evs cars) = wireRecs (run P L cls ver x evs) cars := by
    simp only [recsOf, evsOf, g1, g2]
  obtain ⟨h1, h2, h3⟩ := session_exact H P L kl cls macLen ver hv (histOf evs cars) x s hs g4
    (by simp only [evsOf, g1]; exact hq) m
  rw [hrecs] at h1 h2 h3
  simp only [evsOf, g1] at h3
  exact ⟨by rw [h1, g3], by rw [h2, entriesOf, g5], h3⟩

/-- Application phase, SSL 3.0 – TLS 1.2, every cipher class: `Session` over the composed decryptor appends
    exactly one entry per application-data record of the sender, in order, with the sender's plaintext, direction and
    the application tag. -/
theorem app_phase_exact_legacy (H : Crypto.Prims) (P : Prims) (L : SealLaws P) (kl : List Keylog.Key) (cls : CipherClass)
    (h13 : cls.is13 = false) (macLen : Nat) (ver : Bytes) (hv : ver.length = 2) (evs : List Ev)
    (cars : List (List Nat)) (hc : cars.length = evs.length) (x : Snd) (s : Session.St Dec) (v : Session.Ver)
    (d : Dec) (hcan : s.canDecrypt = true) (hver : s.ver = some v) (hvne : v ≠ .tls13) (hdec : s.dec = some d)
    (hR : Rel cls macLen x d) (hbuf : ∀ d, s.hsBuf d = []) (happ : ∀ e ∈ evs, IsAppSend e)
    (hev : ∀ e ∈ evs, EvOk cls macLen e)
    (hq : max x.c.seq x.s.seq + evs.length ≤ seqLimit) (m : Bool) :
    (Session.run (Pipeline.ops H P kl) m s (wireRecs (run P L cls ver x evs) cars)).traffic
      = s.traffic ++ List.zipWith (fun e (r : Session.Rec × Bool) => (⟨some (evPt e), r.1, evSrv e, true⟩ : Session.Entry))
          evs (wireRecs (run P L cls ver x evs) cars) ∧
    (wireRecs (run P L cls ver x evs) cars).length = evs.length := by
  have hs : Ready cls macLen x s :=
    ⟨⟨hcan, ⟨v, hver, ⟨fun h => absurd h hvne, fun h => by rw [h13] at h; cases h⟩⟩, d, hdec, hR⟩, hbuf⟩
  obtain ⟨h1, h2, _⟩ := app_phase_exact H P L kl cls macLen ver hv evs cars hc x s hs happ hev hq m
  exact ⟨h2, h1⟩

/-- Application phase, TLS 1.3 (any epoch the two sides share; in particular after both Finished): the record
    layer returns `content ‖ 23 ‖ zeros` (`Props.C01.tls13_returns_inner_plaintext`), `Session` strips the padding
    and the content-type byte, and exactly the sender's plaintexts are appended — for every amount of padding
    (`Fresh.pad13`) and every plaintext, including the empty one and plaintexts ending in zero bytes. -/
theorem app_phase_exact_13 (H : Crypto.Prims) (P : Prims) (L : SealLaws P) (kl : List Keylog.Key) (cls : CipherClass)
    (h13 : cls.is13 = true) (macLen : Nat) (ver : Bytes) (hv : ver.length = 2) (evs : List Ev)
    (cars : List (List Nat)) (hc : cars.length = evs.length) (x : Snd) (s : Session.St Dec)
    (d : Dec) (hcan : s.canDecrypt = true) (hver : s.ver = some .tls13) (hdec : s.dec = some d)
    (hR : Rel cls macLen x d) (hbuf : ∀ d, s.hsBuf d = []) (happ : ∀ e ∈ evs, IsAppSend e)
    (hq : max x.c.seq x.s.seq + evs.length ≤ seqLimit) (m : Bool) :
    (Session.run (Pipeline.ops H P kl) m s (wireRecs (run P L cls ver x evs) cars)).traffic
      = s.traffic ++ List.zipWith (fun e (r : Session.Rec × Bool) => (⟨some (evPt e), r.1, evSrv e, true⟩ : Session.Entry))
          evs (wireRecs (run P L cls ver x evs) cars) ∧
    (wireRecs (run P L cls ver x evs) cars).length = evs.length := by
  have hs : Ready cls macLen x s := ⟨⟨hcan, ⟨.tls13, hver, ⟨fun _ => h13, fun _ => rfl⟩⟩, d, hdec, hR⟩, hbuf⟩
  obtain ⟨h1, h2, _⟩ := app_phase_exact H P L kl cls macLen ver hv evs cars hc x s hs happ
    (fun e _ => evOk_13 cls h13 macLen e) hq m
  exact ⟨h2, h1⟩

/-- Handshake epoch — protected TLS 1.3 handshake records (whole messages, any number of records, either
    direction, with or without Finished) export NOTHING, with and without `-a`, and leave the session related to the
    sender after the epoch switches their Finished messages entail. -/
theorem handshake13_exports_nothing (H : Crypto.Prims) (P : Prims) (L : SealLaws P) (kl : List Keylog.Key)
    (cls : CipherClass) (macLen : Nat) (ver : Bytes) (hv : ver.length = 2) (hist : List (SEv × List Nat)) (x : Snd)
    (s : Session.St Dec) (hs : Ready cls macLen x s) (hok : ∀ e ∈ hist, e.1.Ok cls macLen)
    (hhs : ∀ e ∈ hist, ∃ srv ms f, e.1 = .hs13 srv ms f)
    (hq : max x.c.seq x.s.seq + (evsOf hist).length ≤ seqLimit) (m : Bool) :
    (Session.run (Pipeline.ops H P kl) m s (recsOf P L cls ver x hist)).traffic = s.traffic ∧
    Ready cls macLen (after P L cls ver x (evsOf hist))
      (Session.run (Pipeline.ops H P kl) m s (recsOf P L cls ver x hist)) := by
  obtain ⟨_, h2, h3⟩ := session_exact H P L kl cls macLen ver hv hist x s hs hok hq m
  refine ⟨?_, h3⟩
  rw [h2]
  have : ∀ (hist : List (SEv × List Nat)) (recs : List (Session.Rec × Bool)),
      (∀ e ∈ hist, ∃ srv ms f, e.1 = SEv.hs13 srv ms f) → entriesOf hist recs = [] := by
    intro hist
    induction hist with
    | nil => intro recs _; simp [entriesOf]
    | cons e es ih =>
      intro recs h
      cases recs with
      | nil => simp [entriesOf]
      | cons r rs =>
        obtain ⟨srv, ms, f, he⟩ := h e (by simp)
        have := ih rs (fun e' h' => h e' (by simp [h']))
        simp only [entriesOf, List.zipWith_cons_cons, List.flatten_cons, he, SEv.entries, List.nil_append] at this ⊢
        exact this
  rw [this _ _ hhs, List.append_nil]

/-- The whole TLS 1.3 connection after the ServerHello: from the handshake epoch (decryptor related to a sender
    that still uses its handshake traffic keys), after the server's flight and the client's flight — each one record of
    whole handshake messages ending the handshake with exactly one Finished — the sender protects with its application
    traffic keys from sequence number 0, `Session` has exported nothing and has switched both directions
    (`Props.C01.updateKeys_switch`), and every following history of application-data records is exported exactly.
    Budget `4 + evs.length`: the two flight records and the two epoch switches, then one per record. -/
theorem tls13_after_finished_exact (H : Crypto.Prims) (P : Prims) (L : SealLaws P) (kl : List Keylog.Key)
    (cls : CipherClass) (h13 : cls.is13 = true) (macLen : Nat) (ver : Bytes) (hv : ver.length = 2) (x : Snd)
    (s : Session.St Dec) (hs : Ready cls macLen x s)
    (sfl cfl : List HsMsg) (fs fc : Fresh) (cs cc : List Nat) (hs1 : finCount sfl = 1) (hc1 : finCount cfl = 1)
    (hsok : ∀ m ∈ sfl, MsgOk m) (hcok : ∀ m ∈ cfl, MsgOk m)
    (evs : List Ev) (cars : List (List Nat)) (hc : cars.length = evs.length) (happ : ∀ e ∈ evs, IsAppSend e)
    (hq : max x.c.seq x.s.seq + (4 + evs.length) ≤ seqLimit) (m : Bool) :
    let flights : List (SEv × List Nat) := [(.hs13 true sfl fs, cs), (.hs13 false cfl fc, cc)]
    let xa := after P L cls ver x (evsOf flights)
    let recs := wireRecs (run P L cls ver xa evs) cars
    (xa.c.key = x.c.appKey ∧ xa.c.iv = x.c.appIv ∧ xa.c.seq = 0 ∧
     xa.s.key = x.s.appKey ∧ xa.s.iv = x.s.appIv ∧ xa.s.seq = 0) ∧
    (Session.run (Pipeline.ops H P kl) m s (recsOf P L cls ver x flights)).traffic = s.traffic ∧
    (Session.run (Pipeline.ops H P kl) m s (recsOf P L cls ver x flights ++ recs)).traffic
      = s.traffic ++ List.zipWith (fun e (r : Session.Rec × Bool) => (⟨some (evPt e), r.1, evSrv e, true⟩ : Session.Entry))
          evs recs := by
  intro flights xa recs
  have hev : (evsOf flights).length = 4 := by
    simp [flights, evsOf, SEv.evs, hs1, hc1]
  have hpair : ∀ {p : SEv × List Nat → Prop}, p (.hs13 true sfl fs, cs) → p (.hs13 false cfl fc, cc) → ∀ e ∈ flights, p e :=
    fun ha hb => List.forall_mem_cons.mpr ⟨ha, List.forall_mem_cons.mpr ⟨hb, fun _ h => nomatch h⟩⟩
  obtain ⟨a1, a2⟩ := handshake13_exports_nothing H P L kl cls macLen ver hv flights x s hs
    (hpair ⟨h13, hsok⟩ ⟨h13, hcok⟩) (hpair ⟨_, _, _, rfl⟩ ⟨_, _, _, rfl⟩) (by rw [hev]; omega) m
  have hxa := after_two_flights P L cls ver x sfl cfl fs fc hs1 hc1
  have hxa' : xa = after P L cls ver x ((SEv.hs13 true sfl fs).evs ++ (SEv.hs13 false cfl fc).evs) := by
    simp [xa, flights, evsOf]
  rw [← hxa'] at hxa
  obtain ⟨hxc, hxs⟩ := hxa
  have hseq : max xa.c.seq xa.s.seq = 0 := by rw [hxc, hxs]; simp
  obtain ⟨b1, b2, _⟩ := app_phase_exact H P L kl cls macLen ver hv evs cars hc xa _ a2 happ
    (fun e _ => evOk_13 cls h13 macLen e)
    (by rw [hseq]; omega) m
  refine ⟨by rw [hxc, hxs]; simp, a1, ?_⟩
  rw [Session.run_append, b2, a1]

/-- Session ∘ record layer ∘ builder: for a session that has exported nothing yet, the conversation
    `OutputBuilder.build` makes of the traffic after ANY history of application-data records (all versions, all
    classes) exists whenever every record has a carrier packet, is a well-formed TCP conversation (handshake, gap-free,
    consistently acknowledged: the spec reassembler accepts it) and its two payload streams are exactly the
    concatenations of the sender's plaintexts of each direction, in order; its data segments are those of the
    application entries only. -/
theorem app_export_exact (H : Crypto.Prims) (P : Prims) (L : SealLaws P) (kl : List Keylog.Key) (cls : CipherClass)
    (macLen : Nat) (ver : Bytes) (hv : ver.length = 2) (evs : List Ev) (cars : List (List Nat))
    (hc : cars.length = evs.length) (hne : ∀ c ∈ cars, c ≠ []) (x : Snd) (s : Session.St Dec)
    (hs : Ready cls macLen x s) (hs0 : s.traffic = [])
    (happ : ∀ e ∈ evs, IsAppSend e) (hev : ∀ e ∈ evs, EvOk cls macLen e)
    (hq : max x.c.seq x.s.seq + evs.length ≤ seqLimit) (m : Bool) (ts : Nat → Nat) :
    ∃ fs, TcpOut.build ((Session.run (Pipeline.ops H P kl) m s (wireRecs (run P L cls ver x evs) cars)).traffic.map
            (toRec ts)) = some fs ∧
      Spec.reassemble fs = some (plainOf false evs, plainOf true evs) := by
  obtain ⟨h1, h2, _⟩ := app_phase_exact H P L kl cls macLen ver hv evs cars hc x s hs happ hev hq m
  rw [hs0, List.nil_append] at h2
  have htot : (TcpOut.build ((Session.run (Pipeline.ops H P kl) m s
      (wireRecs (run P L cls ver x evs) cars)).traffic.map (toRec ts))).isSome := by
    apply Props.C06.build_total
    intro r hr
    rw [h2] at hr
    obtain ⟨e, he, rfl⟩ := List.mem_map.mp hr
    obtain ⟨rr, hrr, hrec⟩ := zipWith_entries_record _ _ e he
    have := hne _ (wireRecs_carriers _ _ rr hrr)
    simpa [toRec, hrec] using this
  obtain ⟨fs, hfs⟩ := Option.isSome_iff_exists.mp htot
  refine ⟨fs, hfs, ?_⟩
  rw [Props.C06.reassemble_build _ _ hfs, h2, dirBytes_entries false ts evs _ h1, dirBytes_entries true ts evs _ h1]

/-- SSL 3.0 – TLS 1.2 between the ServerHello and the application data: a ChangeCipherSpec record sets its direction's
    flag and touches nothing else; the protected handshake record that follows it (Finished) is decrypted in step with
    the sender — the cipher state (sequence number, CBC residue, RC4 position) advances exactly as the sender's — and
    is never exported as application data (without `-a`: not at all). -/
theorem legacy_finished_record (H : Crypto.Prims) (P : Prims) (L : SealLaws P) (kl : List Keylog.Key) (cls : CipherClass)
    (h13 : cls.is13 = false) (macLen : Nat) (ver : Bytes) (hv : ver.length = 2) (x : Snd) (s : Session.St Dec)
    (hs : Ready cls macLen x s) (srv : Bool) (ccs : Session.Rec) (hccs : ccs.typ = some 0x14) (body : Bytes) (f : Fresh)
    (hok : SendOk cls macLen body f) (hq : x.c.seq < seqLimit ∧ x.s.seq < seqLimit) (m : Bool) (car : List Nat) :
    let O := Pipeline.ops H P kl
    let o := protect P L cls ver (x.get srv) 22 body f
    let s' := Session.handleRecord O m (Session.handleRecord O m s ccs srv) ⟨o.2, car⟩ srv
    s'.traffic.filter (·.isApp) = s.traffic.filter (·.isApp) ∧ (m = false → s'.traffic = s.traffic) ∧
      Ready cls macLen (x.set srv o.1) s' ∧
      (x.set srv o.1).c.seq ≤ max x.c.seq x.s.seq + 1 ∧ (x.set srv o.1).s.seq ≤ max x.c.seq x.s.seq + 1 := by
  intro O o s'
  obtain ⟨hs1, a2, _, a4⟩ := handleRecord_ccs O m s ccs srv hccs hs
  obtain ⟨b1, b2, _, _, b5, b6⟩ := handleRecord_hsEnc H P L kl cls h13 macLen ver hv x _ hs1 srv a2 body f hok hq m car
  have htr : s'.traffic = _ := b1
  rw [a4] at htr
  refine ⟨?_, fun hm => ?_, b2, b5, b6⟩
  · rw [htr]; cases m <;> by_cases hb : body = [] <;> simp [hb, List.filter_append]
  · subst hm; rw [htr]; simp

/-- SSL 3.0 – TLS 1.2, the connection from the installed decryptor on: ChangeCipherSpec + Finished of one side, then of
    the other (`first = false`: the client finishes first, full handshake; `true`: resumption), then ANY history of
    application-data records — without `-a` the traffic gains exactly the sender's application plaintexts, in order.
    Budget `2 + evs.length`: the two Finished records, then one per record. -/
theorem legacy_after_hello_exact (H : Crypto.Prims) (P : Prims) (L : SealLaws P) (kl : List Keylog.Key)
    (cls : CipherClass) (h13 : cls.is13 = false) (macLen : Nat) (ver : Bytes) (hv : ver.length = 2) (x : Snd)
    (s : Session.St Dec) (hs : Ready cls macLen x s) (first : Bool)
    (ccs1 ccs2 : Session.Rec) (h1 : ccs1.typ = some 0x14) (h2 : ccs2.typ = some 0x14)
    (b1 b2 : Bytes) (f1 f2 : Fresh) (c1 c2 : List Nat)
    (hok1 : SendOk cls macLen b1 f1) (hok2 : SendOk cls macLen b2 f2)
    (evs : List Ev) (cars : List (List Nat)) (hc : cars.length = evs.length)
    (happ : ∀ e ∈ evs, IsAppSend e) (hev : ∀ e ∈ evs, EvOk cls macLen e)
    (hq : max x.c.seq x.s.seq + (2 + evs.length) ≤ seqLimit) :
    let O := Pipeline.ops H P kl
    let o1 := protect P L cls ver (x.get first) 22 b1 f1
    let x1 := x.set first o1.1
    let o2 := protect P L cls ver (x1.get (!first)) 22 b2 f2
    let x2 := x1.set (!first) o2.1
    let recs := wireRecs (run P L cls ver x2 evs) cars
    (Session.run O false s
        ([(ccs1, first), (⟨o1.2, c1⟩, first), (ccs2, !first), (⟨o2.2, c2⟩, !first)] ++ recs)).traffic
      = s.traffic ++ List.zipWith (fun e (r : Session.Rec × Bool) => (⟨some (evPt e), r.1, evSrv e, true⟩ : Session.Entry))
          evs recs := by
  intro O o1 x1 o2 x2 recs
  obtain ⟨_, a2, a3, a4, a5⟩ := legacy_finished_record H P L kl cls h13 macLen ver hv x s hs first ccs1 h1 b1 f1 hok1
    (by omega) false c1
  change (x1.c.seq ≤ _) at a4
  change (x1.s.seq ≤ _) at a5
  obtain ⟨_, d2, d3, d4, d5⟩ := legacy_finished_record H P L kl cls h13 macLen ver hv x1 _ a3 (!first) ccs2 h2 b2 f2 hok2
    (by omega) false c2
  change (x2.c.seq ≤ _) at d4
  change (x2.s.seq ≤ _) at d5
  obtain ⟨_, e2, _⟩ := app_phase_exact H P L kl cls macLen ver hv evs cars hc x2 _ d3 happ hev (by omega) false
  rw [Session.run_append]
  simp only [Session.run, List.foldl_cons, List.foldl_nil] at e2 ⊢
  rw [e2, d2 rfl, a2 rfl]

/-- the records of connection `c` in the order `Session` handles them (reassembly of both directions, packet by packet) -/
def connRecs (info : Nat → Pipeline.Info) (c : Pipeline.Conn) : List (Session.Rec × Bool) :=
  released info c.server (Reassembly.St.init, Reassembly.St.init) c.pkts

/-- `Session.decrypt()` factors as: reassembly (independent of key log and options) → ONE `Session.run` from the
    initial state → `OutputBuilder.build` → addressing. Everything `Props/C03, C07Session, C08Session, C13Session` prove
    about `Session.run` for every `Ops` therefore holds for the session inside `connOut`. -/
theorem connOut_eq (H : Crypto.Prims) (P : Prims) (info : Nat → Pipeline.Info) (c : Pipeline.Conn)
    (kl : List Keylog.Key) :
    Pipeline.connOut H P info c kl =
      (TcpOut.build ((Session.run (Pipeline.ops H P kl) c.opts.metadata Session.St.init (connRecs info c)).traffic.map
        (toRec fun id => (info id).ts))).map fun fs => fs.map (Pipeline.addressed c.opts c) := by
  unfold Pipeline.connOut connRecs
  simp only [feed_eq_run]
  rfl

/-- For EVERY primitives, key log and packet list: no exception escapes the session part of `Session.decrypt()`
    (instance of `Props.C03.run_never_raises`), every record reassembly releases has at least one carrier packet (also
    when empty-payload packets reach the session), hence `OutputBuilder.build` never divides by zero / indexes an empty
    list: `connOut` is never `none`. -/
theorem connOut_never_raises (H : Crypto.Prims) (P : Prims) (info : Nat → Pipeline.Info) (c : Pipeline.Conn)
    (kl : List Keylog.Key) :
    Session.runRaw (Pipeline.ops H P kl) c.opts.metadata Session.St.init (connRecs info c)
      = .ok (Session.run (Pipeline.ops H P kl) c.opts.metadata Session.St.init (connRecs info c)) ∧
    (∀ r ∈ connRecs info c, r.1.carriers ≠ []) ∧
    (Pipeline.connOut H P info c kl).isSome := by
  refine ⟨Props.C03.run_never_raises _ _ _ _, released_carriers _ _ _ _, ?_⟩
  rw [connOut_eq, Option.isSome_map]
  apply Props.C06.build_total
  intro r hr
  obtain ⟨e, he, rfl⟩ := List.mem_map.mp hr
  have := released_carriers info c.server _ c.pkts _ (Props.C07.entry_origin _ _ _ e he)
  simpa [toRec] using this

/-- `connOut` is never `none`: it is the addressed form of the frames the builder makes -/
theorem connOut_some (H : Crypto.Prims) (P : Prims) (info : Nat → Pipeline.Info) (c : Pipeline.Conn)
    (kl : List Keylog.Key) :
    ∃ fs, TcpOut.build ((Session.run (Pipeline.ops H P kl) c.opts.metadata Session.St.init (connRecs info c)).traffic.map
        (toRec fun id => (info id).ts)) = some fs ∧
      Pipeline.connOut H P info c kl = some (fs.map (Pipeline.addressed c.opts c)) := by
  have h := (connOut_never_raises H P info c kl).2.2
  rw [connOut_eq, Option.isSome_map] at h
  obtain ⟨fs, hb⟩ := Option.isSome_iff_exists.mp h
  exact ⟨fs, hb, by rw [connOut_eq, hb]; rfl⟩

/-- the only way `connOut` could be `none` is `OutputBuilder.build` raising -/
theorem connOut_none_iff_build_none (H : Crypto.Prims) (P : Prims) (info : Nat → Pipeline.Info) (c : Pipeline.Conn)
    (kl : List Keylog.Key) :
    Pipeline.connOut H P info c kl = none ↔
      TcpOut.build ((Session.run (Pipeline.ops H P kl) c.opts.metadata Session.St.init (connRecs info c)).traffic.map
        (toRec fun id => (info id).ts)) = none := by
  rw [connOut_eq, Option.map_eq_none_iff]

/-- the same connection with `-a` (`exp_meta`) set / cleared -/
def setMeta (c : Pipeline.Conn) (b : Bool) : Pipeline.Conn := { c with opts := { c.opts with metadata := b } }

/-- C13 for the composed model — for EVERY primitives, key log and packet list: both exports exist, and the
    payload-carrying packets exported without `-a` are a subsequence — same time, addresses, ports, payload, same
    order — of those exported with `-a`. (Invariant behind it: same reassembly, sessions related by `St.strip`.) -/
theorem connOut_meta_only_adds (H : Crypto.Prims) (P : Prims) (info : Nat → Pipeline.Info) (c : Pipeline.Conn)
    (kl : List Keylog.Key) :
    ∃ fsOn fsOff, Pipeline.connOut H P info (setMeta c true) kl = some fsOn ∧
      Pipeline.connOut H P info (setMeta c false) kl = some fsOff ∧
      (dataPkts fsOff).Sublist (dataPkts fsOn) := by
  obtain ⟨gOn, bOn, hon⟩ := connOut_some H P info (setMeta c true) kl
  obtain ⟨gOff, bOff, hoff⟩ := connOut_some H P info (setMeta c false) kl
  refine ⟨_, _, hon, hoff, ?_⟩
  change (dataPkts (gOff.map (Pipeline.addressed c.opts c))).Sublist (dataPkts (gOn.map (Pipeline.addressed c.opts c)))
  rw [dataPkts_addressed, dataPkts_addressed]
  refine (Props.C13.build_sublist _ _ ?_ gOn gOff bOn bOff).filterMap _
  change (List.map _ (Session.run _ false _ (connRecs info c)).traffic).Sublist
    (List.map _ (Session.run _ true _ (connRecs info c)).traffic)
  rw [(Props.C13.session_meta_only_adds (Pipeline.ops H P kl) (connRecs info c)).1]
  exact List.Sublist.map _ List.filter_sublist

/-- C08 for the composed model — for EVERY primitives, key log, packet list and cut `n`: what is exported for
    the first `n` packets of the connection is a prefix, frame by frame (times, addresses, flags, sequence and
    acknowledgement numbers, payload), of what is exported for all its packets. -/
theorem connOut_take_prefix (H : Crypto.Prims) (P : Prims) (info : Nat → Pipeline.Info) (c : Pipeline.Conn)
    (kl : List Keylog.Key) (n : Nat) :
    ∃ fa fb, Pipeline.connOut H P info { c with pkts := c.pkts.take n } kl = some fa ∧
      Pipeline.connOut H P info c kl = some fb ∧ fa <+: fb := by
  obtain ⟨ga, ba, ha⟩ := connOut_some H P info { c with pkts := c.pkts.take n } kl
  obtain ⟨gb, bb, hb⟩ := connOut_some H P info c kl
  refine ⟨_, _, ha, hb, List.IsPrefix.map _ (Props.C08.build_prefix _ _ (List.IsPrefix.map _ ?_) ga gb ba bb)⟩
  obtain ⟨t, ht⟩ : connRecs info { c with pkts := c.pkts.take n } <+: connRecs info c :=
    released_take_prefix info c.server _ c.pkts n
  show (Session.run _ c.opts.metadata _ _).traffic <+: _
  rw [← ht, Session.run_append]
  exact Session.run_traffic_prefix _ _ _ _

namespace Ex
open TLX.Props.C01.Ex

def sessOf (d : Dec) (v : Session.Ver) : Session.St Dec := { canDecrypt := true, ver := some v, dec := some d }

-- `Ready` is inhabited for a legacy and a TLS 1.3 class (decryptor built by `Dec.init` over the toy primitives) …
example : ∃ s x, Ready (.aead12 .aesccm 8) 32 x s :=
  let ⟨d, _, h⟩ := init_rel_pre13 Toy.prims Toy.laws (.aead12 .aesccm 8) rfl .tls12 (by intro h; cases h) 32
    (by decide) 128 trivial (some 8) false rfl k16 k16' iv4 iv4 (by decide) (by decide)
  ⟨sessOf d .tls12, _, ⟨rfl, ⟨.tls12, rfl, by decide⟩, d, rfl, h⟩, fun b => by cases b <;> rfl⟩
example : ∃ s x, Ready (.cbcImplicit .tdes false) 20 x s :=
  let ⟨d, _, h⟩ := init_rel_pre13 Toy.prims Toy.laws (.cbcImplicit .tdes false) rfl .tls10 (Or.inr rfl) 20
    (by decide) 64 rfl (some 16) false rfl k24 k24 iv8 iv8 (by decide) (by decide)
  ⟨sessOf d .tls10, _, ⟨rfl, ⟨.tls10, rfl, by decide⟩, d, rfl, h⟩, fun b => by cases b <;> rfl⟩
example : ∃ s x, Ready (.aead13 .aesgcm 16) 32 x s :=
  let ⟨d, _, h⟩ := init_rel_13 Toy.prims (.aead13 .aesgcm 16) rfl 32 128 none false rfl k16 iv12 k16' iv12 k16' iv12 k16 iv12
    (by decide) (by decide) (by decide) (by decide)
  ⟨sessOf d .tls13, _, ⟨rfl, ⟨.tls13, rfl, by decide⟩, d, rfl, h⟩, fun b => by cases b <;> rfl⟩

-- … and so are the hypotheses on histories: application data in both directions (empty plaintext, a plaintext
-- ending in zero bytes, TLS 1.3 padding), handshake flights with one Finished each
def fin : HsMsg := (20, k32)
def sflight : List HsMsg := [(8, [0, 0]), (11, k16), (15, k24), fin]

example : finCount sflight = 1 ∧ finCount [fin] = 1 ∧ (∀ m ∈ sflight, MsgOk m) := by decide
example : ∀ e ∈ [Ev.send false 23 hi ⟨iv8, [], [], 0⟩, Ev.send true 23 [] ⟨iv8, [], [], 0⟩], IsAppSend e := by
  intro e he; simp at he; rcases he with rfl | rfl <;> rfl
example : SEv.Ok (.aead13 .aesgcm 16) 32 (.hs13 true sflight ⟨[], [], [], 2⟩) := ⟨rfl, by decide⟩

-- `legacy_finished_record` / `legacy_after_hello_exact`: a ChangeCipherSpec record, a 16-byte Finished message
def ccsRec : Session.Rec := ⟨[20, 3, 3, 0, 1, 1], [9]⟩
example : ccsRec.typ = some 0x14 := rfl
example : SendOk (.aead12 .aesgcm 16) 32 (20 :: 0 :: 0 :: 12 :: k16.take 12) ⟨iv8, [], [], 0⟩ := by decide

/-- what `Session` over the composed toy decryptor exports for a history: (data, direction, application tag) -/
def observe (cls : CipherClass) (v : Session.Ver) (rv : Version) (macLen blockLen : Nat) (k : Keys) (x : Snd)
    (m : Bool) (hist : List (SEv × List Nat)) : Option (List (Option Bytes × Bool × Bool)) :=
  match Dec.init Toy.prims (bulkOf cls) rv macLen (some (tagOf cls)) blockLen (etmOf cls) k with
  | .ok d =>
    some ((Session.run (Pipeline.ops Crypto.toyPrims Toy.prims []) m (sessOf d v)
      (recsOf Toy.prims Toy.laws cls [3, 3] x hist)).traffic.map fun e => (e.data, e.fromServer, e.isApp))
  | .error _ => none

-- concrete histories evaluated by the kernel
example : observe (.cbcImplicit .tdes false) .tls10 .tls10 20 64 (keys4 k24 k24 iv8 iv8)
    ⟨SDir.init k24 iv8 [] [], SDir.init k24 iv8 [] []⟩ false
    [(.app false hi ⟨[], mac20, [9], 0⟩, [1]), (.app false [] ⟨[], mac20, [3, 3, 3], 0⟩, [2, 3]),
     (.app true k16 ⟨[], mac20, [1, 2, 3], 0⟩, [4])]
    = some [(some hi, false, true), (some [], false, true), (some k16, true, true)] := by decide +kernel
example : observe (.aead13 .aesgcm 16) .tls13 .tls13 32 128
    { cHsKey := some k16, sHsKey := some k16', cAppKey := some k16', sAppKey := some k16,
      cHsIv := some iv12, sHsIv := some iv12, cAppIv := some iv12, sAppIv := some iv12 }
    ⟨SDir.init k16 iv12 k16' iv12, SDir.init k16' iv12 k16 iv12⟩ true
    [(.hs13 true sflight ⟨[], [], [], 3⟩, [1, 2]), (.hs13 false [fin] ⟨[], [], [], 0⟩, [3]),
     (.app false hi ⟨[], [], [], 5⟩, [4]), (.app true [] ⟨[], [], [], 0⟩, [5]),
     (.app true [7, 0, 0] ⟨[], [], [], 2⟩, [6])]
    = some [(some hi, false, true), (some [], true, true), (some [7, 0, 0], true, true)] := by decide +kernel

end Ex

end TLX.Props.C01Pipeline

namespace TLX.Props.C01Pipeline
open TLX TLX.Spec.TlsHello TLX.Lemmas.Pipeline

/-- For a ClientHello / ServerHello pair encoded per RFC (`Spec.TlsHello`, any extensions incl. none, any session
    id, record versions as the RFCs prescribe: `Negotiated`), `handle_tls_record` on the two records leaves the session
    with the negotiated version, the client random, and — exactly when `Session.generate_keys` (`Pipeline.genKeys`: suite
    table, key log, key schedule, `Decryptor.__init__`) installs a decryptor for (version, suite, client random, server
    random, extensions, compression) — `can_decrypt = True` with that decryptor; in every other outcome (unknown suite,
    no usable key-log line, an exception) `can_decrypt = False`. -/
theorem server_hello_installs (H : Crypto.Prims) (P : Cipher.Prims) (kl : List Keylog.Key) (m : Bool)
    (s0 : Session.St RecordLayer.Dec) (h0 : s0.srvCC = false ∧ s0.cliCC = false)
    (ch : ClientHello) (hch : ch.WellFormed) (sh : ServerHello) (hsh : sh.WellFormed)
    (rvC rvS : Bytes) (hrc : rvC.length = 2) (hrs : rvS.length = 2) (carC carS : List Nat)
    (v : Session.Ver) (hneg : Negotiated rvS sh v) :
    let O := Pipeline.ops H P kl
    let s2 := Session.handleRecord O m (Session.handleRecord O m s0 ⟨hsRecord rvC (encodeClientHello ch), carC⟩ false)
      ⟨hsRecord rvS (encodeServerHello sh), carS⟩ true
    s2.ver = some v ∧ s2.cr = some ch.random ∧
    match Pipeline.genKeys H P kl (some v) sh.cipherSuite ch.random sh.random
        ((sh.extensions.getD []).map extPair) sh.compressionMethod with
    | .installed d => s2.canDecrypt = true ∧ s2.dec = some d
    | _ => s2.canDecrypt = false := by
  intro O s2
  obtain ⟨-, -, c3⟩ := hsRecord_fields rvC (encodeClientHello ch) carC hrc
  obtain ⟨hcr, -, -⟩ := clientHello_layout ch hch
  have hs1 : Session.handleRecord O m s0 ⟨hsRecord rvC (encodeClientHello ch), carC⟩ false
      = Session.pushMeta m (Session.clientHello s0 ⟨hsRecord rvC (encodeClientHello ch), carC⟩)
          ⟨hsRecord rvC (encodeClientHello ch), carC⟩ false := handle_clientHello O m s0 h0 rvC hrc ch hch carC
  -- the state `s1` the ClientHello left: no ChangeCipherSpec seen, ClientHello seen, client random known
  have hc1 := Session.pushMeta_core m (Session.clientHello s0 ⟨hsRecord rvC (encodeClientHello ch), carC⟩)
    ⟨hsRecord rvC (encodeClientHello ch), carC⟩ false
  rw [← hs1] at hc1
  have f1 := congrArg Session.Core.srvCC hc1
  have f2 := congrArg Session.Core.cliCC hc1
  have f3 := congrArg Session.Core.chSeen hc1
  have f4 := congrArg Session.Core.cr hc1
  simp only [Session.St.core, Session.clientHello, c3, hcr] at f1 f2 f3 f4
  have hs2def : s2 = Session.handleRecord O m (Session.handleRecord O m s0 ⟨hsRecord rvC (encodeClientHello ch), carC⟩ false)
      ⟨hsRecord rvS (encodeServerHello sh), carS⟩ true := rfl
  clear_value s2
  generalize Session.handleRecord O m s0 ⟨hsRecord rvC (encodeClientHello ch), carC⟩ false = s1 at hs2def f1 f2 f3 f4
  -- the ServerHello record: first body byte 2, fields as sent, the latch opens the gate
  have hlatch : Session.latch s1 = { s1 with canDecrypt := true } := by rw [Session.latch, f3]; rfl
  obtain ⟨X, hX⟩ : ∃ X, X = (Session.tryExcept
      (Session.serverHelloKeys O { s1 with canDecrypt := true, ver := some v } sh.cipherSuite sh.random
        ((sh.extensions.getD []).map extPair) sh.compressionMethod)
      fun s' => { s' with canDecrypt := false }).st := ⟨_, rfl⟩
  have hs2 : s2 = Session.pushMeta m X ⟨hsRecord rvS (encodeServerHello sh), carS⟩ true := by
    rw [hs2def]
    refine (handle_serverHello O m s1 ⟨f1, f2⟩ rvS hrs sh carS).trans ?_
    show Session.pushMeta m (Session.tryExcept
      (Session.serverHello O s1 ⟨hsRecord rvS (encodeServerHello sh), carS⟩) _).st _ true = _
    rw [serverHello_layout O _ rvS hrs sh hsh carS, chooseVersion_negotiated _ rvS sh hsh v hneg, hlatch, hX]
    rfl
  obtain ⟨g1, g2, g3⟩ := Session.serverHelloKeys_caught O { s1 with canDecrypt := true, ver := some v } ch.random f4
    sh.cipherSuite sh.random ((sh.extensions.getD []).map extPair) sh.compressionMethod
  have hc2 := Session.pushMeta_core m X ⟨hsRecord rvS (encodeServerHello sh), carS⟩ true
  rw [← hs2] at hc2
  have k1 : s2.canDecrypt = X.canDecrypt := congrArg Session.Core.canDecrypt hc2
  have k3 : s2.ver = X.ver := congrArg Session.Core.ver hc2
  have k6 : s2.dec = X.dec := congrArg Session.Core.dec hc2
  have k7 : s2.cr = X.cr := congrArg Session.Core.cr hc2
  rw [k1, k3, k6, k7, hX]
  refine ⟨g1, g2.trans f4, ?_⟩
  simp only [show O.genKeys = Pipeline.genKeys H P kl from rfl] at g3
  revert g3
  cases Pipeline.genKeys H P kl (some v) sh.cipherSuite ch.random sh.random ((sh.extensions.getD []).map extPair)
    sh.compressionMethod <;> exact id

end TLX.Props.C01Pipeline

namespace TLX.Props.C01Pipeline
open TLX TLX.Cipher TLX.RecordLayer TLX.Spec.TlsSender TLX.Props.C01 TLX.Lemmas.Pipeline

/-- SSL 3.0 – TLS 1.2: when the suite resolves (C14), the key log has a usable line (C09) and the key
    schedule returns a key block (C15), `generate_keys` installs a decryptor that is RELATED to the RFC sender
    initialised with the same write keys / IVs — so `session_exact` applies from the first protected record on. The
    class is `classOf` of what the suite table says (bulk algorithm, tag length), the negotiated version and whether
    extension 0x0016 (encrypt-then-MAC) was in the ServerHello. -/
theorem genKeys_installs_rel_legacy (H : Crypto.Prims) (P : Prims) (L : SealLaws P) (kl : List Keylog.Key)
    (v : Session.Ver) (hv : v ≠ .tls13) (suite cr sr : Bytes) (exts : Session.Exts)
    (hsl : suite.length = 2) (ps : CipherSuite.Params) (hres : CipherSuite.resolve (Bytes.beNat suite) = some ps)
    (a : Pipeline.SuiteArgs) (hargs : Pipeline.suiteArgs ps = some a)
    (f : Keylog.Key) (fs : List Keylog.Key)
    (hfound : (Keylog.findSessionSecrets kl (Pipeline.natsOfBytes cr)).filter
        (fun k => k.label == Keylog.s_CLIENT_RANDOM || k.label == Keylog.s_RSA) = f :: fs)
    (secrets : List KeySchedule.Secret) (hsec : Pipeline.secretsOf false (f :: fs) = some secrets)
    (k : KeySchedule.Keys6)
    (hgen : KeySchedule.generateKeys H (Pipeline.ksVersion v) a.ks secrets cr sr = .ok (some (.legacy k)))
    (cls : CipherClass)
    (hcls : classOf a.bulk (Pipeline.rlVersion v) (Session.extGet exts [0x00, 0x16]).isSome a.tagLen = some cls)
    (hmac : 0 < (KeySchedule.macSuite H a.ks.mac).outLen)
    (hck : KeyMatOk cls k.clientKey k.clientIv) (hsk : KeyMatOk cls k.serverKey k.serverIv) :
    ∃ d, Pipeline.genKeys H P kl (some v) suite cr sr exts 0 = .installed d ∧
      Rel cls (KeySchedule.macSuite H a.ks.mac).outLen
        ⟨SDir.init k.clientKey k.clientIv [] [], SDir.init k.serverKey k.serverIv [] []⟩ d := by
  obtain ⟨hb, hver, hpar, h13⟩ := classOf_spec _ _ _ _ cls hcls
  have hrl := rl_ne13 v hv
  have h13' : cls.is13 = false := by rw [h13]; exact decide_eq_false hrl
  -- the block size in bits that `generate_keys` passes on is the algorithm's: the only class that reads it is implicit-IV CBC
  have hbits : ∀ alg : Alg, alg.isBlock = true → Pipeline.blockBits alg / 8 = alg.blk := by
    intro alg h; cases alg <;> first | rfl | exact nomatch h
  have hbl : BlockLenOk cls (Pipeline.blockBits a.bulk) := by
    cases cls <;> first | trivial | (rw [← hb]; exact hbits _ hck.1)
  obtain ⟨d, hd, hR⟩ := init_rel_pre13 P L cls h13' (Pipeline.rlVersion v) hver _ hmac _ hbl a.tagLen _ hpar
    k.clientKey k.serverKey k.clientIv k.serverIv hck hsk
  rw [hb] at hd
  refine ⟨d, ?_, hR⟩
  have hvs : (some v = some Session.Ver.tls13) = False := by simp [hv]
  have hvd : decide (v = Session.Ver.tls13) = false := by simp [hv]
  have h01 : ((0 : UInt8) = 1) = False := by decide
  simp only [Pipeline.genKeys, hsl, if_true, hres, hargs, hvs, if_false, hfound, hvd, hsec, hgen,
    Pipeline.keysOfInstalled, hd, h01]

/-- TLS 1.3, all four traffic secrets in the key log: `generate_keys` installs a decryptor in the
    handshake epoch, related to the RFC sender that holds the same handshake and application traffic keys / IVs — so
    `session_exact` / `tls13_after_finished_exact` apply from the first protected record after the ServerHello on. -/
theorem genKeys_installs_rel_13 (H : Crypto.Prims) (P : Prims) (kl : List Keylog.Key)
    (suite cr sr : Bytes) (exts : Session.Exts)
    (hsl : suite.length = 2) (ps : CipherSuite.Params) (hres : CipherSuite.resolve (Bytes.beNat suite) = some ps)
    (a : Pipeline.SuiteArgs) (hargs : Pipeline.suiteArgs ps = some a)
    (f : Keylog.Key) (fs : List Keylog.Key)
    (hfound : Keylog.findSessionSecrets kl (Pipeline.natsOfBytes cr) = f :: fs)
    (secrets : List KeySchedule.Secret) (hsec : Pipeline.secretsOf true (f :: fs) = some secrets)
    (k : KeySchedule.Installed13)
    (hgen : KeySchedule.generateKeys H .tls13 a.ks secrets cr sr = .ok (some (.tls13 k)))
    (chk chiv cak caiv shk shiv sak saiv : Bytes)
    (hk : k.clientHsKey = some chk ∧ k.clientHsIv = some chiv ∧ k.clientAppKey = some cak ∧ k.clientAppIv = some caiv ∧
      k.serverHsKey = some shk ∧ k.serverHsIv = some shiv ∧ k.serverAppKey = some sak ∧ k.serverAppIv = some saiv)
    (cls : CipherClass)
    (hcls : classOf a.bulk .tls13 (Session.extGet exts [0x00, 0x16]).isSome a.tagLen = some cls)
    (h1 : KeyMatOk cls chk chiv) (h2 : KeyMatOk cls cak caiv) (h3 : KeyMatOk cls shk shiv) (h4 : KeyMatOk cls sak saiv) :
    ∃ d, Pipeline.genKeys H P kl (some .tls13) suite cr sr exts 0 = .installed d ∧
      Rel cls (KeySchedule.macSuite H a.ks.mac).outLen
        ⟨SDir.init chk chiv cak caiv, SDir.init shk shiv sak saiv⟩ d := by
  obtain ⟨hb, hver, hpar, h13⟩ := classOf_spec _ _ _ _ cls hcls
  have h13' : cls.is13 = true := by rw [h13]; rfl
  obtain ⟨d, hd, hR⟩ := init_rel_13 P cls h13' (KeySchedule.macSuite H a.ks.mac).outLen (Pipeline.blockBits a.bulk)
    a.tagLen _ hpar chk chiv cak caiv shk shiv sak saiv h1 h2 h3 h4
  rw [hb] at hd
  refine ⟨d, ?_, hR⟩
  obtain ⟨k1, k2, k3, k4, k5, k6, k7, k8⟩ := hk
  have h01 : ((0 : UInt8) = 1) = False := by decide
  simp only [Pipeline.genKeys, hsl, if_true, hres, hargs, hfound, decide_true, hsec, Pipeline.ksVersion, hgen,
    Pipeline.keysOfInstalled, Pipeline.rlVersion, k1, k2, k3, k4, k5, k6, k7, k8, hd, h01,
    if_false]

end TLX.Props.C01Pipeline

namespace TLX.Props.C01Pipeline.Ex2
open TLX TLX.Spec.TlsHello TLX.Spec.TlsSender TLX.Lemmas.Pipeline TLX.Props.C01.Ex

/-- toy hashes with the real digest sizes (so that key blocks have the lengths the suites need) -/
def hashes : Crypto.Prims := ⟨Crypto.toy 16, Crypto.toy 20, Crypto.toy 32, Crypto.toy 48⟩

def cr0 : Bytes := List.replicate 32 7
def sr0 : Bytes := List.replicate 32 9
/-- a TLS 1.2 hello pair: TLS_RSA_WITH_AES_128_GCM_SHA256, a session id, renegotiation_info -/
def ch0 : ClientHello := ⟨[3, 3], cr0, [], [[0, 0x9c]], [0], none⟩
def sh12 : ServerHello := ⟨[3, 3], sr0, [1, 2, 3], [0x00, 0x9c], 0, some [⟨0xff01, [0]⟩]⟩
/-- a TLS 1.3 ServerHello: TLS_AES_128_GCM_SHA256, supported_versions = 0x0304, key_share -/
def sh13 : ServerHello := ⟨[3, 3], sr0, [], [0x13, 0x01], 0, some [⟨43, [3, 4]⟩, ⟨51, [0, 29, 0, 1, 5]⟩]⟩
/-- `CLIENT_RANDOM <client random> <48-byte master secret>` -/
def kl0 : List Keylog.Key :=
  [⟨Keylog.s_CLIENT_RANDOM, Keylog.hexOf (Pipeline.natsOfBytes cr0), Keylog.hexOf (List.replicate 48 5)⟩]

-- hypotheses of `server_hello_installs`
example : ch0.WellFormed ∧ sh12.WellFormed ∧ sh13.WellFormed := by decide
example : Negotiated [3, 3] sh12 .tls12 := by unfold Negotiated; decide
example : Negotiated [3, 3] sh13 .tls13 := by unfold Negotiated; decide
example : Negotiated [3, 1] { sh12 with legacyVersion := [3, 1], extensions := none } .tls10 := by unfold Negotiated; decide

def gk := Pipeline.genKeys hashes Cipher.Toy.prims kl0 (some .tls12) [0, 0x9c] cr0 sr0
  ((sh12.extensions.getD []).map extPair) 0

/-- the hypotheses of `genKeys_installs_rel_legacy` hold together for this suite / key log / version -/
def legacyHyps : Bool :=
  match CipherSuite.resolve 0x9c with
  | some ps =>
    match Pipeline.suiteArgs ps with
    | some a =>
      match (Keylog.findSessionSecrets kl0 (Pipeline.natsOfBytes cr0)).filter
          (fun k => k.label == Keylog.s_CLIENT_RANDOM || k.label == Keylog.s_RSA) with
      | f :: fs =>
        match Pipeline.secretsOf false (f :: fs) with
        | some secrets =>
          match KeySchedule.generateKeys hashes .tls12 a.ks secrets cr0 sr0 with
          | .ok (some (.legacy k)) =>
            decide (Props.C01.classOf a.bulk .tls12 false a.tagLen = some (.aead12 .aesgcm 16)) &&
            decide (0 < (KeySchedule.macSuite hashes a.ks.mac).outLen) &&
            decide (Props.C01.KeyMatOk (.aead12 .aesgcm 16) k.clientKey k.clientIv) &&
            decide (Props.C01.KeyMatOk (.aead12 .aesgcm 16) k.serverKey k.serverIv)
          | _ => false
        | none => false
      | [] => false
    | none => false
  | none => false
example : legacyHyps = true := by decide +kernel

/-- the RFC sender holding the keys `generate_keys` installed, sending three application records -/
def wire12 : List Wire :=
  match gk with
  | .installed d =>
    run Cipher.Toy.prims Cipher.Toy.laws (.aead12 .aesgcm 16) [3, 3]
      ⟨SDir.init (d.c.key.getD []) (d.c.iv.getD []) [] [], SDir.init (d.s.key.getD []) (d.s.iv.getD []) [] []⟩
      [.send false 23 hi ⟨iv8, [], [], 0⟩, .send true 23 k16 ⟨iv8, [], [], 0⟩, .send false 23 [] ⟨iv8, [], [], 0⟩]
  | _ => []

def rawOf : Wire → Bytes
  | .record _ raw => raw
  | .switch _ => []

def cEp : MainLoop.Endpoint := ⟨[10, 0, 0, 1], 5555⟩
def sEp : MainLoop.Endpoint := ⟨[10, 0, 0, 2], 443⟩
def mkPkt (srv : Bool) (payload : Bytes) (tag : Nat) : MainLoop.Pkt :=
  if srv then ⟨.tcp, sEp, cEp, payload, true, tag⟩ else ⟨.tcp, cEp, sEp, payload, true, tag⟩

/-- ClientHello, ServerHello, a client record split over two packets that arrive swapped, a server record, an empty
    client record -/
def pkts0 : List MainLoop.Pkt :=
  let chR := hsRecord [3, 1] (encodeClientHello ch0)
  let shR := hsRecord [3, 3] (encodeServerHello sh12)
  let a := rawOf (wire12.getD 0 (.switch false))
  let b := rawOf (wire12.getD 1 (.switch false))
  let c := rawOf (wire12.getD 2 (.switch false))
  [mkPkt false chR 0, mkPkt true shR 1, mkPkt false (a.drop 7) 3, mkPkt false (a.take 7) 2, mkPkt true b 4,
   mkPkt false c 5]

/-- sequence numbers: the offset of the packet in its direction's stream; the client's stream wraps at 2^32 -/
def seqOf (tag : Nat) : Nat :=
  let chL := (hsRecord [3, 1] (encodeClientHello ch0)).length
  let shL := (hsRecord [3, 3] (encodeServerHello sh12)).length
  let aL := (rawOf (wire12.getD 0 (.switch false))).length
  match tag with
  | 0 => 4294967290
  | 1 => 77
  | 2 => (4294967290 + chL) % 4294967296
  | 3 => (4294967290 + chL + 7) % 4294967296
  | 4 => 77 + shL
  | _ => (4294967290 + chL + aL) % 4294967296

def info0 (tag : Nat) : Pipeline.Info := ⟨seqOf tag, 1000 + tag, [1], [2], false⟩
def conn0 : Pipeline.Conn := ⟨⟨[443], false, false, false, true, []⟩, sEp, cEp, [2], [1], false, pkts0⟩

/-- (capture time, payload) of the exported data segments -/
def view (o : Option (List Pipeline.OutPkt)) : Option (List (Nat × Bytes)) :=
  o.map fun fs => (dataPkts fs).map fun p => (p.1, p.2.2.2.2.2.2)

/-- the four runs over `conn0` below, in ONE evaluation: the kernel shares work inside a declaration only, and they go through the
    same wire images, the same key derivation and (the cut, the run without `-a`) the same session history -/
theorem conn0_runs :
    view (Pipeline.connOut hashes Cipher.Toy.prims info0 (setMeta conn0 false) kl0)
      = some [(1002, [104]), (1003, [105]), (1004, k16)] ∧
    view (Pipeline.connOut hashes Cipher.Toy.prims info0 (setMeta conn0 true) kl0)
      = some [(1000, hsRecord [3, 1] (encodeClientHello ch0)), (1001, hsRecord [3, 3] (encodeServerHello sh12)),
              (1002, [104]), (1003, [105]), (1004, k16)] ∧
    view (Pipeline.connOut hashes Cipher.Toy.prims info0 { setMeta conn0 true with pkts := pkts0.take 4 } kl0)
      = some [(1000, hsRecord [3, 1] (encodeClientHello ch0)), (1001, hsRecord [3, 3] (encodeServerHello sh12)),
              (1002, [104]), (1003, [105])] ∧
    view (Pipeline.connOut hashes Cipher.Toy.prims info0 (setMeta conn0 false) []) = some [] := by decide +kernel

-- without `-a`: exactly the sender's plaintexts, each at the time of its carrier packets, nothing of the hellos
example : view (Pipeline.connOut hashes Cipher.Toy.prims info0 (setMeta conn0 false) kl0)
    = some [(1002, [104]), (1003, [105]), (1004, k16)] := conn0_runs.1
-- with `-a`: the two hello records verbatim in addition (the former is a subsequence of this)
example : view (Pipeline.connOut hashes Cipher.Toy.prims info0 (setMeta conn0 true) kl0)
    = some [(1000, hsRecord [3, 1] (encodeClientHello ch0)), (1001, hsRecord [3, 3] (encodeServerHello sh12)),
            (1002, [104]), (1003, [105]), (1004, k16)] := conn0_runs.2.1
-- cut after four packets: a prefix
example : view (Pipeline.connOut hashes Cipher.Toy.prims info0 { setMeta conn0 true with pkts := pkts0.take 4 } kl0)
    = some [(1000, hsRecord [3, 1] (encodeClientHello ch0)), (1001, hsRecord [3, 3] (encodeServerHello sh12)),
            (1002, [104]), (1003, [105])] := conn0_runs.2.2.1
-- without the key log line: nothing but (with `-a`) the hellos
example : view (Pipeline.connOut hashes Cipher.Toy.prims info0 (setMeta conn0 false) []) = some [] := conn0_runs.2.2.2

end TLX.Props.C01Pipeline.Ex2
