import TLX.Props.C02Zr2
set_option autoImplicit false
/-! `quic_connection_exact_retry_any`: the client's first Initial and the server's Retry, then `quic_connection_exact_from`
(`Props/C02Zr2.lean`: one interleaved history — coalesced packets of all levels, 0-RTT packets anywhere, good or of the wrong
suite, then the 1-RTT-only part — started in ANY state that agrees with a bookkeeping) for the second attempt. The file-level
theorems of `Props/C02All.lean` do not rest on it (they take `C02All.retry_prefix`, then `quic_connection_exact_from`).
Namespace `TLX.Props.C02All`. -/
namespace TLX.Props.C02All
open TLX TLX.Quic TLX.Cipher TLX.Quic.Session TLX.Lemmas.QuicSession TLX.Spec.QuicSender TLX.Spec.QuicFrames
open TLX.Props.C02Session TLX.Spec.QuicConnection TLX.Spec.QuicPackets TLX.QuicPipeline
open TLX.Props.C02Capstone TLX.Props.C02Capstone3 TLX.Props.C02Capstone4 TLX.Props.C02Zr TLX.Props.C02Sim TLX.Spec.KeySchedules
open TLX.Lemmas.KeySchedule

section Retry
variable (maskFn : Dissect.MaskFn) (H : Crypto.Prims) (Pc : Cipher.Prims) (info : Nat → Pipeline.Info)
open TLX.Quic.UdpOut TLX.Props.C02Out

theorem ptrace_prefix (cr csel : Bytes) (t : Tls) (a b : List CryptoIn) (h : PTrace cr csel t (a ++ b)) :
    PTrace cr csel t a := by
  induction a generalizing t with
  | nil => trivial
  | cons c a ih => exact ⟨h.1, h.2.1, ih _ h.2.2⟩

theorem noOut_retry (P : Params Tls) (s : St Tls) : noOut (stampVer (retryReset P s)) = stampVer (retryReset P (noOut s)) := rfl

/-- **the connection with a Retry, 0-RTT packets and one interleaved history.** The client's first Initial datagram `dA`, the
    server's Retry, then `quic_connection_exact_from` for the second attempt: datagrams of coalesced packets of all levels
    with 0-RTT packets (good or of the wrong suite) anywhere, then the 1-RTT-only part. The bookkeeping of the first attempt
    stays (`Trk.afterRetry`); no Early keys survive the Retry (`retryReset`), so the last-call suite starts at `none`. -/
theorem quic_connection_exact_retry_any (hl : H.Lawful) (h32 : H.sha256.outLen = 32) (L : SealLaws Pc)
    (cr csel ch sh ca sa e : Bytes) (sel selR : SuiteSel) (csR : Bytes) (hsel : selectSuite csel = some sel)
    (hselR : selectSuite csR = some selR)
    (ho : (hashOf H sel.hash).outLen < 65536)
    (hsa : sa.length = (hashOf H sel.hash).outLen) (hca : ca.length = (hashOf H sel.hash).outLen)
    -- first attempt
    (klA : List Keylog.Key) (pA : MainLoop.Pkt) (dA : DgH)
    (hklA : KeylogHas klA cr ch sh ca sa (some e))
    (c : QConn) (hc : Fresh H Pc c)
    (hokA : HsDgOk maskFn H Pc L (dgDcid dA) sel sh ch trk0 dA)
    (htrA : PTrace cr csel {} (insOf dA.pkts))
    (hcarA : CarriesH info c (dgWire H Pc L (dgDcid dA) sel sh ch) pA dA)
    -- the Retry
    (klR : List Keylog.Key) (pR : MainLoop.Pkt) (r : Retry) (dcidR : Bytes) (hrwf : r.wf)
    (hrver : r.version ≠ [0, 0, 0, 0]) (hrscid : r.scid.length ≤ 63) (hpR : pR.payload = r.encode)
    -- second attempt
    (kl0 : List Keylog.Key) (p0 : MainLoop.Pkt) (d0 : DgY) (itemsA : List (List Keylog.Key × MainLoop.Pkt × DgY))
    (hkl : ∀ x ∈ (kl0, p0, d0) :: itemsA, KeylogHas x.1 cr ch sh ca sa (some e))
    (hd0 : d0.x.ver = .v1)
    (hok : YDgs maskFn H Pc L d0.x.dcid sel selR sh ch sa ca e (trk0.run dA.pkts).afterRetry none (d0 :: itemsA.map (·.2.2)))
    (htr : PTrace cr csel {} (allInsM ((d0 :: itemsA.map (·.2.2)).map (·.x.base))))
    (hcar : ∀ x ∈ (kl0, p0, d0) :: itemsA,
      CarriesX info c (DgX.wire H Pc L d0.x.dcid sel selR sh ch sa ca e) x.2.1 x.2.2.x)
    (hkeyed : (((d0 :: itemsA.map (·.2.2)).map DgY.eff).foldl Trk.dgx (trk0.run dA.pkts).afterRetry).keyed = true)
    (itemsB : List (List Keylog.Key × MainLoop.Pkt × Dg1))
    (hcarB : ∀ x ∈ itemsB, Carries info c
      (wireOf H Pc L sel .v1 (rfcGen (hashOf H sel.hash) sel.keyLen sa ca 0)) x.2.1 x.2.2)
    (hsend : Send1 maskFn H Pc L sel .v1 (rfcGen (hashOf H sel.hash) sel.keyLen sa ca 0)
      (quicHp (hashOf H sel.hash) ca sel.keyLen) (quicHp (hashOf H sel.hash) sa sel.keyLen)
      (chachaOf (((d0 :: itemsA.map (·.2.2)).map DgY.eff).foldl Trk.dgx (trk0.run dA.pkts).afterRetry).core) 0 0
      (((d0 :: itemsA.map (·.2.2)).map DgY.eff).foldl Trk.dgx (trk0.run dA.pkts).afterRetry).tc.app
      (((d0 :: itemsA.map (·.2.2)).map DgY.eff).foldl Trk.dgx (trk0.run dA.pkts).afterRetry).ts.app
      (((d0 :: itemsA.map (·.2.2)).map DgY.eff).foldl Trk.dgx (trk0.run dA.pkts).afterRetry).cc
      (((d0 :: itemsA.map (·.2.2)).map DgY.eff).foldl Trk.dgx (trk0.run dA.pkts).afterRetry).sc
      (itemsB.map (·.2.2)))
    (hadj : DistinctAdjacent false (((d0 :: itemsA.map (·.2.2)).map DgY.eff).map inDgX ++
      (itemsB.map (·.2.2)).map fun d => inDg d.x)) :
    let QM := quicMachine maskFn H Pc info
    let c1 := QM.feed c klA pA (dgDcid dA) .v1
    let c2 := QM.feed c1 klR pR dcidR .v1
    let c3 := yFeedAll QM c2 ((kl0, p0, d0) :: itemsA)
    (feedAll QM c3 itemsB).raised = none ∧
    QM.out false (feedAll QM c3 itemsB) =
      expectedOutX c ((d0 :: itemsA.map (·.2.2)).map DgY.eff) (itemsB.map (·.2.2)) := by
  intro QM c1 c2 c3
  obtain ⟨hr, hout0, hsim0⟩ := hc.sim klA h32 (dgDcid dA) sel ch sh ca sa (some e)
  obtain ⟨a1, a2, _, a4, a5⟩ := feed_dg (V := hView) (steps_long maskFn H Pc hl L (dgDcid dA) cr csel ch sh ca sa (some e) sel hsel)
    hklA (hView_ok ca sa none hokA) [] hr hsim0
    (by rw [List.append_nil]; exact htrA) (carriesG_of_H ca sa hcarA)
  rw [hView_after] at a2
  obtain ⟨b1, b2, b3, b4⟩ := retry_sim maskFn H Pc info h32 klR kl0 (dgDcid dA) d0.x.dcid r hrwf hrver hrscid a1 a2 pR hpR dcidR
  have hv0 : sver d0.x.ver = .v1 := by rw [hd0]; rfl
  obtain ⟨r1, r2, _⟩ := quic_connection_exact_from maskFn H Pc info hl L d0.x.dcid cr csel ch sh ca sa (some e) e sel selR csR hsel
    hselR ho hsa hca (trk0.run dA.pkts).afterRetry none kl0 p0 d0 itemsA hkl (fun _ _ _ => rfl) c2 (a5.trans b2) b1
    (by rw [show c2.st.out = _ from b3, a4, hView_out1, hout0]; rfl) (by rw [hv0]; exact b4) hok htr hcar hkeyed itemsB hcarB hsend
    hadj
  exact ⟨r1, r2⟩

end Retry

end TLX.Props.C02All
