/-
Instances of `Props/ExportDemux.lean`, evaluated by the kernel (Lean hashes, toy ciphers, toy mask): two TLS-port TCP flows
and more (`C04.Ex.capC`) interleaved with two QUIC connections (`C02File2.Ex` and a second client with other CIDs) —
separated, `export_demux` applies, the blocks are those of the solo runs; and the whole-program counterexample
`prefix_cross_routing` (replayed on the real tool: harness/export_demux_replay.py).
-/
import TLX.Props.ExportDemux
import TLX.Props.ExportInputs2
import TLX.Props.C02FileEx
import TLX.Props.QuicExData
set_option autoImplicit false
namespace TLX.Props.ExportDemux.Ex
open TLX TLX.MainLoop TLX.Export TLX.Spec.Demux TLX.QuicPipeline TLX.Props.C02File TLX.Props.C02File2 TLX.Lemmas.ExportProps
open TLX.Lemmas.ExportDemux TLX.Lemmas.MainLoop TLX.Props.ExportPropsQuic
open TLX.Spec.QuicSender TLX.Spec.QuicConnection TLX.Spec.QuicPackets TLX.Spec.TlsCapture TLX.Spec.TlsHello
open TLX.Spec.TlsHandshakeFraming TLX.Props.C02Capstone TLX.Props.C02Capstone.ExConf TLX.Quic.Session TLX.Props.C02Capstone3
open TLX.Spec.KeySchedules TLX.Spec.QuicFrames TLX.Cipher
open TLX.Props.C02File.Ex (H Pc L m5 maskFn sel chS shS caS saS w0 w2 usAt keys fl M F)
open TLX.Props.C01File.Ex (cMac sMac)
open TLX.Props.ExportPropsQuic.Ex (info view data)

/-- a second QUIC connection: another client (10.0.0.3:50002), other connection IDs, the same handshake and data -/
structure Cids where
  s0 : Bytes
  s : Bytes
  c : Bytes

def qCI (k : Cids) : PkH :=
  ⟨{ level := .initial, srv := false, ts := usAt 1, pn := 0, pnLen := 1, frames := [.crypto ⟨0, w0⟩ w2 M, .padding 30],
     dcid := k.s0, scid := k.c, typeBits := 0, lenW := w2 }, m5⟩
def qSI (k : Cids) : PkH :=
  ⟨{ level := .initial, srv := true, ts := usAt 2, pn := 0, pnLen := 2, frames := [.crypto ⟨0, w0⟩ w2 (encodeServerHello shx)],
     dcid := k.c, scid := k.s, typeBits := 0, lenW := w2, lowBits := 3 }, m5⟩
def qSH (k : Cids) : PkH :=
  ⟨{ level := .handshake, srv := true, ts := usAt 2, pn := 0, pnLen := 1, frames := [.crypto ⟨0, w0⟩ w2 F],
     dcid := k.c, scid := k.s, typeBits := 2, lenW := w2 }, m5⟩
def qCH (k : Cids) : PkH :=
  ⟨{ level := .handshake, srv := false, ts := usAt 4, pn := 0, pnLen := 1,
     frames := [.crypto ⟨0, w0⟩ w0 (handshake 20 [6, 6, 6, 6]), .ping],
     dcid := k.s, scid := k.c, typeBits := 2, lenW := w2 }, m5⟩
def oS (k : Cids) : Dg1 :=
  ⟨{ level := .oneRtt, srv := true, ts := usAt 2, pn := 0, pnLen := 1,
     frames := [.stream false ⟨3, w0⟩ none (some w0) [0x48, 0x49], .padding 3], dcid := k.c, gen := 0 }, m5⟩
def oC (k : Cids) : Dg1 :=
  ⟨{ level := .oneRtt, srv := false, ts := usAt 4, pn := 0, pnLen := 1,
     frames := [.stream true ⟨0, w0⟩ none (some w0) [0x47, 0x45, 0x54], .padding 3], dcid := k.s, gen := 0 }, m5⟩
def b5 (k : Cids) : Dg1 :=
  ⟨{ level := .oneRtt, srv := true, ts := usAt 5, pn := 1, pnLen := 2,
     frames := [.ping, .stream false ⟨3, w0⟩ (some ⟨2, w0⟩) none [0x4f, 0x4b]], dcid := k.c, gen := 1, lowBits := 5 }, m5⟩
def b7 (k : Cids) : Dg1 :=
  ⟨{ level := .oneRtt, srv := false, ts := usAt 7, pn := 1, pnLen := 1,
     frames := [.stream false ⟨4, w0⟩ none (some w0) [0x4d, 0x4f, 0x52, 0x45], .padding 3], dcid := k.s, gen := 1 }, m5⟩
def d0 (k : Cids) : DgM := ⟨false, usAt 1, [qCI k], none⟩
def dS (k : Cids) : DgM := ⟨true, usAt 2, [qSI k, qSH k], some (oS k)⟩
def dC (k : Cids) : DgM := ⟨false, usAt 4, [qCH k], some (oC k)⟩
def wM (k : Cids) : DgM → Bytes := DgM.wire H Pc L (d0 k).dcid sel shS chS saS caS
def w1 : Dg1 → Bytes := wireOf H Pc L sel .v1 (rfcGen (hashOf H sel.hash) sel.keyLen saS caS 0)

/-- the five datagrams of a connection on the flow `f`, tags `t+1, t+2, t+4, t+5, t+7` -/
def conn (f : Flow) (k : Cids) (t : Nat) : List (Item Keylog.Key) :=
  [.frame (dgPkt f false (wM k (d0 k)) (t + 1)), .frame (dgPkt f true (wM k (dS k)) (t + 2)),
   .frame (dgPkt f false (wM k (dC k)) (t + 4)), .frame (dgPkt f true (w1 (b5 k)) (t + 5)),
   .frame (dgPkt f false (w1 (b7 k)) (t + 7))]

def k1 : Cids := ⟨[0x51, 0x51, 0x51, 0x51, 0x51, 0x51, 0x51, 0x51], [0x52, 0x01], [0xc1]⟩
def k2 : Cids := ⟨[0x61, 0x61, 0x61, 0x61, 0x61, 0x61, 0x61, 0x61], [0x62, 0x01], [0xd1]⟩
def fl2 : Flow := ⟨false, [10, 0, 0, 3], 50002, [10, 0, 0, 2], 443⟩
def args0 : Args := ⟨none, none, false, false, false⟩
def o : Opts := (optsOf args0).getD ⟨[], false, false, false, false, []⟩
theorem ho : optsOf args0 = some o := by decide +kernel

/-! ### two TLS and two QUIC connections, interleaved -/
def at' (l : List (Item Keylog.Key)) (i : Nat) : Item Keylog.Key := l.getD i (.dsb [])
def tlsItems : List (Item Keylog.Key) := C04.Ex.capC.map Item.frame
def q1 : List (Item Keylog.Key) := conn fl k1 20
def q2 : List (Item Keylog.Key) := conn fl2 k2 30

/-- `C04.Ex.capC` (four TCP flows with a server port, one without), the connection of `C02File2.Ex` and a second QUIC
    connection of another client, packet by packet -/
def merged : List (Item Keylog.Key) :=
  [at' tlsItems 0, at' q1 0, at' tlsItems 1, at' q2 0, at' tlsItems 2, at' q1 1, at' q2 1, at' tlsItems 3, at' tlsItems 4,
   at' q2 2, at' q1 2, at' tlsItems 5, at' q1 3, at' tlsItems 6, at' q2 3, at' tlsItems 7, at' q1 4, at' tlsItems 8, at' q2 4]

/-- the connection of a datagram: by the client's address -/
def lab (p : Pkt) : Nat :=
  if p.l4 ≠ .udp then 0
  else if p.src.ip = [10, 0, 0, 1] ∨ p.dst.ip = [10, 0, 0, 1] then 1
  else if p.src.ip = [10, 0, 0, 3] ∨ p.dst.ip = [10, 0, 0, 3] then 2 else 0

abbrev QM := quicMachine maskFn H Pc info
def V : List (QIn Keylog.Key) := quicView o ((some keys : Option (List Keylog.Key)).getD []) merged

theorem V_labels : V.map (fun x => (lab x.p, x.p.tag)) =
    [(1, 21), (2, 31), (1, 22), (2, 32), (2, 34), (1, 24), (1, 25), (2, 35), (1, 27), (2, 37)] := by decide +kernel

abbrev labQ : QIn Keylog.Key → Nat := fun x => lab x.p

/-! ### what is NOT separated: a connection ID of another connection that a short-header datagram happens to start with -/
/-- an unrelated client (10.0.0.9:40000) whose Initial names, as its own connection ID, `c1 X`: the CID `c1` of the first
    connection's client followed by the byte that happens to follow it in the server's datagram `OK` -/
def k3 : Cids := ⟨[0x71, 0x71, 0x71, 0x71, 0x71, 0x71, 0x71, 0x71], [0x72, 0x01], [0xc1, (w1 (b5 k1)).getD 2 0]⟩
def fl3 : Flow := ⟨false, [10, 0, 0, 9], 40000, [10, 0, 0, 2], 443⟩
def intruder : Item Keylog.Key := .frame (dgPkt fl3 false (wM k3 (d0 k3)) 11)
def mergedX : List (Item Keylog.Key) := intruder :: q1
def labX (p : Pkt) : Nat := if p.src.ip = [10, 0, 0, 9] ∨ p.dst.ip = [10, 0, 0, 9] then 3 else 1

def VX : List (QIn Keylog.Key) := quicView o ((some keys : Option (List Keylog.Key)).getD []) mergedX

/-! ### the evaluation -/
/-- Either connection alone (the second one also cut after three datagrams); the merged capture; the finite check of
    `CaptureSeparated` in both directions; the run with the intruder — in ONE evaluation: the kernel shares work inside a
    declaration only, and all of these go through the same wire images and the same session histories. (It shares terms
    that are syntactically equal: the checks name the machine as `quicFrames` unfolds it, not by `QM`.) -/
theorem runs :
    (view (quicFrames maskFn H Pc info o (some keys) q1) = [data 20] ∧
      view (quicFrames maskFn H Pc info o (some keys) (q2.take 3)) = [(data 30).take 2] ∧
      view (quicFrames maskFn H Pc info o (some keys) q2) = [data 30]) ∧
    view (quicFrames maskFn H Pc info o (some keys) merged) = [data 20, data 30] ∧
    (sepCheck (quicMachine maskFn H Pc info) o (cls labQ 1 V) (rest labQ 1 V) = true ∧
      sepCheck (quicMachine maskFn H Pc info) o (cls labQ 2 V) (rest labQ 2 V) = true) ∧
    (quicSess maskFn H Pc info o (some keys) mergedX).map (fun s => (s.st.st.clientCids, s.st.st.serverCids)) =
      [([[0xc1, 0x5a]], [[0x71, 0x71, 0x71, 0x71, 0x71, 0x71, 0x71, 0x71]]),
       ([[0xc1]], [[0x51, 0x51, 0x51, 0x51, 0x51, 0x51, 0x51, 0x51], [0x52, 0x01]])] ∧
    (w1 (b5 k1)).take 4 = [0x68, 0xc1, 0x5a, 0xfe] ∧
    view (quicFrames maskFn H Pc info o (some keys) mergedX) = [[], (data 20).eraseIdx 2] := by decide +kernel

theorem solo1 : view (quicFrames maskFn H Pc info o (some keys) q1) = [data 20] := runs.1.1

theorem solo2 : view (quicFrames maskFn H Pc info o (some keys) (conn fl2 k2 30)) =
    [[(132, [0x48, 0x49]), (134, [0x47, 0x45, 0x54]), (135, [0x4f, 0x4b]), (137, [0x4d, 0x4f, 0x52, 0x45])]] := runs.1.2.2

theorem sep1 : CaptureSeparated QM o (cls labQ 1 V) (rest labQ 1 V) :=
  captureSeparated_of_sepCheck _ _ _ _ runs.2.2.1.1
theorem sep2 : CaptureSeparated QM o (cls labQ 2 V) (rest labQ 2 V) :=
  captureSeparated_of_sepCheck _ _ _ _ runs.2.2.1.2

theorem V_lab12 : ∀ x ∈ V, lab x.p = 1 ∨ lab x.p = 2 := by decide +kernel

/-- the two QUIC connections of the merged capture are separated -/
theorem sepN : CaptureSeparatedN QM o lab V := by
  apply captureSeparatedN_of_check
  intro x hx
  rcases V_lab12 x hx with h | h <;> rw [h]
  · exact sep1
  · exact sep2

/-- **`export_demux` on the instance**: what `run()` hands to the writer for the merged capture -/
example := export_demux maskFn H Pc info freshState args0 o ho (some keys) merged lab sepN

/-- restricted to the datagrams of one client the merged capture is that client's connection (no TLS frame, no secrets block) -/
theorem only1 : only (fun p => lab p == 1) merged = q1 := rfl
theorem only2 : only (fun p => lab p == 2) merged = q2 := rfl

/-- the QUIC blocks of the merged capture, and of the capture restricted to either connection: the same blocks -/
theorem merged_quic_view :
    view (quicFrames maskFn H Pc info o (some keys) merged) =
      [[(122, [0x48, 0x49]), (124, [0x47, 0x45, 0x54]), (125, [0x4f, 0x4b]), (127, [0x4d, 0x4f, 0x52, 0x45])],
       [(132, [0x48, 0x49]), (134, [0x47, 0x45, 0x54]), (135, [0x4f, 0x4b]), (137, [0x4d, 0x4f, 0x52, 0x45])]] ∧
    view (quicFrames maskFn H Pc info o (some keys) (only (fun p => lab p == 1) merged)) =
      [[(122, [0x48, 0x49]), (124, [0x47, 0x45, 0x54]), (125, [0x4f, 0x4b]), (127, [0x4d, 0x4f, 0x52, 0x45])]] ∧
    view (quicFrames maskFn H Pc info o (some keys) (only (fun p => lab p == 2) merged)) =
      [[(132, [0x48, 0x49]), (134, [0x47, 0x45, 0x54]), (135, [0x4f, 0x4b]), (137, [0x4d, 0x4f, 0x52, 0x45])]] :=
  ⟨runs.2.1, only1 ▸ solo1, only2 ▸ solo2⟩

/-- the TLS side of the same capture: four conversations (the flow without a server port has none), in order of first
    appearance -/
theorem merged_tls_view :
    (flowHeads o (tcpView o merged)).map (·.tag) = [1, 2, 3, 5] ∧
    (tlsConvs H Pc info o merged).map (fun s => (s.server.port, s.client.port)) = [(443, 5000), (443, 5000), (443, 5001), (443, 5000)] := by
  decide +kernel

theorem onlyX : only (fun p => labX p == 1) mergedX = q1 := rfl

/-- the two runs, evaluated by the kernel: the intruder's session holds `{c1 5a}` and `{71…}`, the connection's session
    `{c1}` and `{51…, 52 01}` — different 4-tuples, disjoint CID sets, no CID a prefix of another's CONNECTION ID … but `c1 5a`
    is what the server's datagram `OK` (`68 c1 5a fe …`) starts with after its first byte. In the merged run that datagram is
    given to the intruder's session and `OK` (capture time 125) is missing from the connection's export; alone it is there. -/
theorem prefix_cross_routing_view :
    (quicSess maskFn H Pc info o (some keys) mergedX).map (fun s => (s.st.st.clientCids, s.st.st.serverCids)) =
      [([[0xc1, 0x5a]], [[0x71, 0x71, 0x71, 0x71, 0x71, 0x71, 0x71, 0x71]]),
       ([[0xc1]], [[0x51, 0x51, 0x51, 0x51, 0x51, 0x51, 0x51, 0x51], [0x52, 0x01]])] ∧
    (w1 (b5 k1)).take 4 = [0x68, 0xc1, 0x5a, 0xfe] ∧
    view (quicFrames maskFn H Pc info o (some keys) mergedX) =
      [[], [(122, [0x48, 0x49]), (124, [0x47, 0x45, 0x54]), (127, [0x4d, 0x4f, 0x52, 0x45])]] ∧
    view (quicFrames maskFn H Pc info o (some keys) (only (fun p => labX p == 1) mergedX)) =
      [[(122, [0x48, 0x49]), (124, [0x47, 0x45, 0x54]), (125, [0x4f, 0x4b]), (127, [0x4d, 0x4f, 0x52, 0x45])]] :=
  ⟨runs.2.2.2.1, runs.2.2.2.2.1, runs.2.2.2.2.2, onlyX ▸ solo1⟩

/-- **whole-program counterexample**: without the `short` clause of `CaptureSeparated` the conclusion of `export_demux`
    fails — the capture `mergedX` is not separated, and the block of connection 1 alone is not among the blocks of the run. -/
theorem prefix_cross_routing : ¬ CaptureSeparatedN QM o labX VX := by
  intro h
  have hv : Merge (view _) (view _) (view _) :=
    Props.ExportInputs.merge_map (quic_frames_by_conn maskFn H Pc info o (some keys) mergedX labX h 1) _
  rw [onlyX, solo1, runs.2.2.2.2.2] at hv
  have := (hv.mem (data 20)).mpr (.inl (List.mem_singleton_self _))
  revert this
  decide
end TLX.Props.ExportDemux.Ex

namespace TLX.Props.ExportDemux.Ex
open TLX TLX.MainLoop TLX.Export TLX.Lemmas.ExportProps TLX.Lemmas.ExportDemux TLX.Props.ExportInputs
open TLX.Props.ExportInputs2.Ex (nano evs3 isVictim X3 IS3 evs3_read evs3_wf)
open TLX.Spec.Containers (encode scale)

/-! ### file to file: the libpcap capture of `ExportInputs2.Ex` (two segments of one TCP flow, a segment of another flow, a
non-IP frame) and the file holding only the packet records of the first flow -/
def keepIt : Container.Item → Bool := fun it => !isVictim it
def keepP : Pkt → Bool := fun p => p.l4 == .tcp && (p.src.port == 50000 || p.dst.port == 50000)

theorem demux_file_instance (mask : Quic.Dissect.MaskFn) (H : Crypto.Prims) (P : Cipher.Prims) (kl : Option Keylog.Str) :
    exportFile mask H P ExportInputs2.Ex.args0 true kl (encode nano evs3) =
      ExportInputs.finish (framesFrom mask H P freshState ExportInputs2.Ex.args0 (fileKeysOf kl) X3 (Ingest.lookup IS3)) ∧
    exportFile mask H P ExportInputs2.Ex.args0 true kl (encode nano (evs3.filter (evKeep nano keepIt))) =
      ExportInputs.finish (framesFrom mask H P freshState ExportInputs2.Ex.args0 (fileKeysOf kl) (only keepP X3)
        (Ingest.lookup IS3)) ∧
    (only keepP X3).length = 2 ∧ X3.length = 4 :=
  have h := export_demux_encoded mask H P ExportInputs2.Ex.args0 kl nano evs3 keepIt keepP evs3_wf.1 evs3_wf.2 X3 IS3 evs3_read
    (by decide +kernel) (by decide +kernel)
  ⟨h.1, h.2, by decide +kernel, by decide +kernel⟩
end TLX.Props.ExportDemux.Ex
