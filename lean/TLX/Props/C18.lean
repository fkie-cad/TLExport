/-
C18 — repeated runs on the same capture, secrets and options produce identical output.

The model's `runFrom` is a Lean function of (module state found, option vector, key-log file keys, capture items): nothing
else — no working directory, environment, clock or hash seed — can influence it. What remains to prove is exactly where the
CODE could let something else in:
* the four module-level lists of main.py survive a `run()` in the same interpreter → `run_ignores_prior_state` (the reset at
  the top of `run()`; which reset statements exist is regenerated from the source into `Gen/MainLoopConsts.lean`, so the
  theorem is re-checked against the tree under test), with `legacy_run_leaks` for the code as it was;
* `client_cids | server_cids` is a Python `set` of `bytes`: its iteration order depends on the hash seed and on insertion
  history → `cid_choice_order_independent` (any permutation of the lists that stand for the sets gives the same match, thanks
  to `sorted` with a total key), with `legacy_choice_order_dependent` for iteration in raw set order.
Abstracted by the model: set iteration order (covered by the permutation theorem), dict order (`portmap`, the decryptor
dicts: insertion order, defined in Python ≥ 3.7), `id()`/address-dependent behaviour (none in the code), floats (time
stamps are carried, not computed on, by the loop; C12), logging output (not part of the output file).
-/
import TLX.Lemmas.MainLoop
namespace TLX.Props.C18
open TLX TLX.MainLoop TLX.Spec.Demux TLX.Lemmas.MainLoop

variable {κ σ τ ο : Type}

/-- The reset lines of the tree under test rebuild all four lists: what `run()` starts from is the state of a fresh
    interpreter, whatever an earlier run (finished or aborted) left behind. -/
theorem reset_is_fresh (ms : ModState κ σ τ) : reset ms = freshState := rfl

theorem run_ignores_prior_state (TM : TlsMachine κ σ ο) (QM : QuicMachine κ τ ο) (prior prior' : ModState κ σ τ)
    (a : Args) (inp : Inputs κ) : runFrom TM QM prior a inp = runFrom TM QM prior' a inp := by
  simp only [runFrom, reset_is_fresh]

/-- Running twice in one interpreter: the second run returns what the first returned (output and final module state). -/
theorem run_twice_same (TM : TlsMachine κ σ ο) (QM : QuicMachine κ τ ο) (prior : ModState κ σ τ) (a : Args)
    (inp : Inputs κ) (ms : ModState κ σ τ) (out : List ο) (h : runFrom TM QM prior a inp = .ok (ms, out)) :
    runFrom TM QM ms a inp = .ok (ms, out) := by
  rw [← h]; exact run_ignores_prior_state TM QM ms prior a inp

/-- The output is a function of the option vector, the key-log file and the capture alone. -/
theorem export_is_function (TM : TlsMachine κ σ ο) (QM : QuicMachine κ τ ο) :
    ∃ f : Args → Inputs κ → Except Options.Err (List ο),
      ∀ (prior : ModState κ σ τ) (a : Args) (inp : Inputs κ), (runFrom TM QM prior a inp).map (·.2) = f a inp :=
  ⟨fun a inp => (runFrom TM QM freshState a inp).map (·.2), fun prior a inp => by
    rw [run_ignores_prior_state TM QM prior freshState]⟩

/-- What the loop computes from a fresh state, in terms of the three views of the capture (C04): nothing else enters. -/
theorem fresh_run_is (TM : TlsMachine κ σ ο) (QM : QuicMachine κ τ ο) (o : Opts) (keys : List κ) (items : List (Item κ)) :
    exportAll TM QM o (runItems TM QM o ⟨keys, [], []⟩ items) =
      (tlsRun TM o [] (tcpView o items)).flatMap (fun s => TM.out s.st (keys ++ dsbKeys o items)) ++
      (quicRun QM o [] (quicView o keys items)).flatMap (fun s => QM.out o.metadata s.st) := by
  obtain ⟨h1, h2, h3⟩ := Props.C04.tls_quic_independent TM QM o items (⟨keys, [], []⟩ : State κ σ τ)
  simp only [exportAll, h1, h2, h3]

namespace Ex
open TLX.MainLoop
def ep (a port : Nat) : Endpoint := ⟨[10, 0, 0, UInt8.ofNat a], port⟩
def tcp (tag : Nat) (s d : Endpoint) : Pkt := ⟨.tcp, s, d, [22, 3, 1], true, tag⟩
def args : Args := ⟨none, none, false, false, false⟩
def cap : Inputs Nat := ⟨some [7], [.frame (tcp 1 (ep 1 5000) (ep 8 443)), .dsb [8], .frame (tcp 2 (ep 8 443) (ep 1 5000))]⟩
def QM := Rec.quic fun _ => ([], [])
def outOf (r : Except Options.Err (ModState Nat (List Nat) Rec.QState × List (Nat × Nat))) : Option (List (Nat × Nat)) :=
  r.toOption.map (·.2)
def stateOf (r : Except Options.Err (ModState Nat (List Nat) Rec.QState × List (Nat × Nat))) :
    ModState Nat (List Nat) Rec.QState := (r.toOption.map (·.1)).getD freshState
end Ex

open Ex in
/-- The run as it is: both packets exported once, each seeing the two keys (file + DSB) present at the end. -/
example : outOf (runFrom Rec.tls QM freshState args cap) = some [(1, 2), (2, 2)] := by decide +kernel

open Ex in
/-- Without the reset lines a second run in the same interpreter is not the first: the first run's session is still in
    `sessions` (it swallows the packets again and is exported with them twice over), the key log has doubled, and
    `server_ports` has grown. -/
theorem legacy_run_leaks :
    let first := runFromLegacy Rec.tls QM freshState args cap
    outOf first = some [(1, 2), (2, 2)] ∧
    outOf (runFromLegacy Rec.tls QM (stateOf first) args cap) = some [(1, 4), (2, 4), (1, 4), (2, 4)] ∧
    (stateOf (runFromLegacy Rec.tls QM (stateOf first) args cap)).serverPorts = [443, 44330, 443, 443] ∧
    outOf (runFrom Rec.tls QM (stateOf first) args cap) = some [(1, 2), (2, 2)] := by decide +kernel

/-- The CID match of a session — short header: which CID is chosen; long header: whether the DCID is known — does not depend
    on the order in which the two CID sets are enumerated. -/
theorem cid_choice_order_independent (cc cc' sc sc' : List Bytes) (hc : cc.Perm cc') (hs : sc.Perm sc') (side : Side)
    (h : Hdr) (payload : Bytes) : cidMatch cc sc side h payload = cidMatch cc' sc' side h payload := by
  cases h with
  | tooShort => rfl
  | long d v => simp only [cidMatch, hc.mem_iff, hs.mem_iff]
  | short =>
    have : (shortCandidates cc sc side).Perm (shortCandidates cc' sc' side) := by
      cases side
      · exact hc.append hs
      · exact hs
      · exact hc
    simp only [cidMatch, shortPick, sortCids_perm this]

/-- Hence which session takes a datagram, and with which DCID argument, does not depend on it either (`quicTake` reads the
    sets only through `cidMatch`). -/
theorem session_choice_order_independent (M M' : QuicMachine κ τ ο) (s : QuicSess τ) (h : Hdr) (p : Pkt)
    (hc : (M.clientCids s.st).Perm (M'.clientCids s.st)) (hs : (M.serverCids s.st).Perm (M'.serverCids s.st)) :
    quicTake M h p s = quicTake M' h p s := by
  simp only [quicTake, cid_choice_order_independent _ _ _ _ hc hs]

/-- Duplicates in the lists (a CID in both sets) do not matter either. -/
theorem cid_choice_ignores_duplicates (cids : List Bytes) (c : Bytes) (hc : c ∈ cids) (payload : Bytes) :
    shortPick (c :: cids) payload = shortPick cids payload := by
  cases h : shortPick cids payload with
  | none =>
    rw [shortPick_eq_none_iff] at h ⊢
    intro d hd; rcases List.mem_cons.mp hd with rfl | hd
    · exact h _ hc
    · exact h d hd
  | some d =>
    cases h' : shortPick (c :: cids) payload with
    | none =>
      rw [shortPick_eq_none_iff] at h'
      obtain ⟨h1, h2, h3⟩ := shortPick_some h
      exact absurd h3 (h' d (List.mem_cons_of_mem _ h1) h2)
    | some e =>
      -- both are the longest matching prefix of the same string
      have hd := TLX.Lemmas.MainLoop.shortPick_longest h
      have he := TLX.Lemmas.MainLoop.shortPick_longest h'
      obtain ⟨d1, d2, d3⟩ := shortPick_some h
      obtain ⟨e1, e2, e3⟩ := shortPick_some h'
      have e1' : e ∈ cids := by rcases List.mem_cons.mp e1 with rfl | x; exact hc; exact x
      have l1 := hd e e1' e2 e3
      have l2 := he d (List.mem_cons_of_mem _ d1) d2 d3
      have hl : d.length = e.length := by omega
      rw [List.prefix_iff_eq_take] at d3 e3
      rw [d3, e3, hl]

/-- matching in raw iteration order, as before `sorted` was introduced -/
def shortPickLegacy (cids : List Bytes) (payload : Bytes) : Option Bytes := cids.find? (cidPrefixOf payload)

/-- Iterating the set as it comes: with the CIDs `01` and `01 02` (one a prefix of the other) the two enumeration orders
    choose different DCIDs for the same datagram — hence a different DCID length, packet-number offset and decryption. -/
theorem legacy_choice_order_dependent :
    ∃ cids cids' : List Bytes, ∃ payload : Bytes, cids.Perm cids' ∧
      shortPickLegacy cids payload ≠ shortPickLegacy cids' payload ∧ shortPick cids payload = shortPick cids' payload :=
  ⟨[[1], [1, 2]], [[1, 2], [1]], [0x40, 1, 2, 3, 4], List.Perm.swap _ _ _, by decide +kernel, by decide +kernel⟩

example : shortPick [[1], [1, 2], [], [9, 9, 9]] [0x40, 1, 2, 3, 4] = some [1, 2] := by decide +kernel

end TLX.Props.C18
