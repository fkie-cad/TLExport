/-
Whole-program forms of C12, C09, C11 (and C03): theorems about `TLX.Export.exportFile` / `framesFrom`, lifting the reader,
key-log and checksum results through the read loop `TLX.Ingest`. For every hash suite `H`, cipher primitives `P`, mask.

1. C12  `export_container_independent` — two container variants of one capture ⇒ byte-identical outcome, under
        `hkeep` (both can hold the secrets blocks) and `FloatResidue` (the IEEE-754 step: `Container.Time.toFloat` is
        opaque to the kernel, so the residue of `Props.C12` stays a hypothesis; it FAILS for clocks whose quotient
        ticks/divisor exceeds 2^31 s — replayed on the real tool by harness/export_inputs_replay.py: 1 µs difference in
        the output, tool = model). `export_layout_independent`: no float hypothesis between variants with the same clock.
2. C09  `dsb_position_irrelevant_tls` (a DSB anywhere: TLS decrypts at the end of the run), `dsb_position_irrelevant_partial`
        (whole output; DSB moved across a stretch without QUIC datagrams), `dsb_position_matters_to_the_quic_loop` (why QUIC is
        excluded: a QUIC session derives keys when the datagram is read; real tool: 10 frames vs 0 frames),
        `export_key_delivery_independent` (`-s` file ↔ DSBs in front, any numbers, key logs alike for every session:
        `SameView`; texts: `delivery_keys`, `delivery_same_keys_of_text`, `foreign_line_adds_nothing`,
        `sameView_of_perm_across`), `export_key_delivery_independent_file` (files, same block layout; stands in
        `ExportInputs2.lean`, as the case of `export_key_delivery_files` with equally many blocks),
        `export_dsb_only_without_s`.
        Key logs are alike here when `find_session_secrets` returns the SAME LINES for every client random (`SameSecrets`,
        `SameView`); lines of one client random permuted or decorated: `Props/ExportSeg.export_keylog_text_independent`.
        File level with a different NUMBER of blocks (tags = positions): `ExportInputs2`.
3. C11  `checksum_filter_loop`, `export_checksum_filter_frames`, `export_checksum_filter` (with `-c` = without `-c` on the
        items minus the rejected frames; at file level stated on the read loop's items),
        `ingest_verdict_rfc1071` (the verdict bit is the RFC 1071 receiver's verdict, through dpkt's dissection),
        `export_ignores_checksums_without_c`, `checksum_fields_not_dissected`.
4. C03  `export_bystander_unaffected`, `bystander_frames_same`, `bystander_in_output` (TLS conversations; victims: any items
        without key material on other TCP flows, UDP / QUIC, non-IP).
-/
import TLX.Props.Export
import TLX.Props.ExportProps
import TLX.Props.C12
import TLX.Props.C09Found
import TLX.Props.C11
import TLX.Props.C12Dissect
import TLX.Lemmas.Ingest
namespace TLX.Props.ExportInputs
open TLX TLX.MainLoop TLX.Export TLX.Spec.Demux TLX.Lemmas.ExportProps TLX.Lemmas.MainLoop
open TLX.Props.Export (optsE framesFrom_eq)
open TLX.Spec.Containers (Zip Variant CEv Ev represents delivers keep scale encode)

variable (mask : Quic.Dissect.MaskFn) (H : Crypto.Prims) (P : Cipher.Prims)

section ReadLoop
open TLX.Ingest

/-- what the read loop takes from a reader time stamp: the `ts == -1` test and the microsecond written to the output.
    Both go through IEEE-754 doubles (`Container.Time.toFloat`), which the kernel does not evaluate. -/
def stamp (t : Container.Time) : Bool × Nat := (isMinusOne t, Container.usOfFloat t.toFloat)

/-- two reader items the read loop cannot tell apart: the same bytes, and time stamps with the same `stamp` -/
def SameItem : Container.Item → Container.Item → Prop
  | .pkt t₁ d₁, .pkt t₂ d₂ => d₁ = d₂ ∧ stamp t₁ = stamp t₂
  | .dsb s₁, .dsb s₂ => s₁ = s₂
  | _, _ => False

theorem go_zip_congr (hc : Keylog.HexClass) (c : Bool) {R : Container.Item → Container.Item → Prop}
    (hR : ∀ a b, R a b → ∀ tag, readItem hc c tag a = readItem hc c tag b) {l₁ l₂ : List Container.Item}
    (h : Zip R l₁ l₂) : ∀ tag, go hc c tag l₁ = go hc c tag l₂ := by
  induction h with
  | nil => intro tag; rfl
  | cons hab _ ih => intro tag; rw [go_readItem, go_readItem, hR _ _ hab, ih]

theorem go_congr (hc : Keylog.HexClass) (c : Bool) {l₁ l₂ : List Container.Item} (h : Zip SameItem l₁ l₂) :
    ∀ tag, go hc c tag l₁ = go hc c tag l₂ := by
  refine go_zip_congr hc c (fun a b hab tag => ?_) h
  cases a with
  | dsb s₁ =>
    cases b with
    | dsb s₂ => rw [show s₁ = s₂ from hab]
    | pkt t d => exact absurd hab (by simp [SameItem])
  | pkt t₁ d₁ =>
    cases b with
    | dsb s => exact absurd hab (by simp [SameItem])
    | pkt t₂ d₂ =>
      obtain ⟨hd, hs⟩ : d₁ = d₂ ∧ stamp t₁ = stamp t₂ := hab
      simp only [stamp, Prod.mk.injEq] at hs
      simp only [readItem, hd, hs.1, hs.2]

theorem readPrefix_of_read (legacy : Bool) (f : Bytes) (xs : List Container.Item)
    (h : Container.read legacy f = .ok xs) : Container.readPrefix legacy f = .ok (xs, none) := by
  unfold Container.read at h
  split at h
  · cases h
  · cases h; assumption
  · cases h

theorem itemsWith_of_read (hc : Keylog.HexClass) (c legacy : Bool) (f : Bytes) (xs : List Container.Item)
    (h : Container.read legacy f = .ok xs) : itemsWith hc c legacy f = go hc c 0 xs := by
  unfold itemsWith
  rw [readPrefix_of_read legacy f xs h]
  simp only
  cases go hc c 0 xs <;> rfl

end ReadLoop

/-- the capture enters `exportFile` only through what the read loop makes of it -/
theorem exportFile_congr_ingest (args : Args) (legacy₁ legacy₂ : Bool) (kl : Option Keylog.Str) (cap₁ cap₂ : Bytes)
    (h : Ingest.itemsWith Keylog.srcHexClass args.checksumTest legacy₁ cap₁ =
         Ingest.itemsWith Keylog.srcHexClass args.checksumTest legacy₂ cap₂) :
    exportFile mask H P args legacy₁ kl cap₁ = exportFile mask H P args legacy₂ kl cap₂ := by
  unfold exportFile exportFrom
  rw [h]

/-- the last stage of `run()`: the writer -/
def finish (r : Except Options.Err (List Pipeline.OutPkt)) : Outcome :=
  match r with
  | .error _ => .badOptions
  | .ok out =>
    match OutBytes.fileOf out with
    | .error e => .abort (.write e)
    | .ok f => .file f

/-- the program in terms of its stages -/
theorem exportFile_stages (args : Args) (legacy : Bool) (kl : Option Keylog.Str) (capture : Bytes) :
    exportFile mask H P args legacy kl capture =
      if optionsBad (freshState : Export.Prior) args then .badOptions
      else match Ingest.itemsWith Keylog.srcHexClass args.checksumTest legacy capture with
        | .error e => .abort (.ingest e)
        | .ok (xs, is) => finish (framesFrom mask H P freshState args (fileKeysOf kl) xs (Ingest.lookup is)) := by
  unfold exportFile exportFrom finish
  split
  · rfl
  · cases Ingest.itemsWith Keylog.srcHexClass args.checksumTest legacy capture with
    | error e => rfl
    | ok v => obtain ⟨xs, is⟩ := v; rfl

/-- two runs compared through their readers: the read loops fail alike, or the same frames reach the writer -/
theorem exportFile_congr_read (args₁ args₂ : Args) (legacy₁ legacy₂ : Bool) (kl₁ kl₂ : Option Keylog.Str)
    (cap₁ cap₂ : Bytes) (its₁ its₂ : List Container.Item) (ended : Option Container.Err)
    (hr₁ : Container.readPrefix legacy₁ cap₁ = .ok (its₁, ended))
    (hr₂ : Container.readPrefix legacy₂ cap₂ = .ok (its₂, ended))
    (hb : optionsBad (freshState : Export.Prior) args₁ = optionsBad (freshState : Export.Prior) args₂)
    (herr : ∀ e, Ingest.go Keylog.srcHexClass args₁.checksumTest 0 its₁ = .error e →
      Ingest.go Keylog.srcHexClass args₂.checksumTest 0 its₂ = .error e)
    (hok : ∀ X₁ IS₁, Ingest.go Keylog.srcHexClass args₁.checksumTest 0 its₁ = .ok (X₁, IS₁) →
      ∃ X₂ IS₂, Ingest.go Keylog.srcHexClass args₂.checksumTest 0 its₂ = .ok (X₂, IS₂) ∧
        framesFrom mask H P freshState args₁ (fileKeysOf kl₁) X₁ (Ingest.lookup IS₁) =
          framesFrom mask H P freshState args₂ (fileKeysOf kl₂) X₂ (Ingest.lookup IS₂)) :
    exportFile mask H P args₁ legacy₁ kl₁ cap₁ = exportFile mask H P args₂ legacy₂ kl₂ cap₂ := by
  rw [exportFile_stages, exportFile_stages, hb]
  split
  · rfl
  · unfold Ingest.itemsWith
    rw [hr₁, hr₂]
    simp only
    cases h₁ : Ingest.go Keylog.srcHexClass args₁.checksumTest 0 its₁ with
    | error e => rw [herr e h₁]
    | ok v =>
      obtain ⟨X₂, IS₂, h₂, hf⟩ := hok v.1 v.2 h₁
      rw [h₂]
      cases ended with
      | some e => rfl
      | none => exact congrArg finish hf

section C12
open TLX.Spec.Containers TLX.Props.C12

/-- THE FLOATING-POINT RESIDUE of C12 as a hypothesis: position by position, the two readers' time stamps give the same
    `ts == -1` test and the same microsecond after Python's double arithmetic (`offset + ticks / float(divisor)`, resp.
    `float(Decimal)`) and dpkt's `round(ts * 1e6)`. True whenever both triples are literally equal (`floatResidue_refl`);
    for different clocks of the same instant it is `C12.ts_us_invariant_statement` — not a theorem (IEEE-754), checked on
    every run by harness/c12.py, FALSE outside the domain stated there. -/
def FloatResidue (l₁ l₂ : List Container.Item) : Prop :=
  ∀ p ∈ l₁.zip l₂, match p with
    | (.pkt t₁ _, .pkt t₂ _) => stamp t₁ = stamp t₂
    | _ => True

theorem zip_sameItem {K : List CEv} {a b : List Container.Item} (ha : Zip delivers K a) (hb : Zip delivers K b)
    (hfl : FloatResidue a b) : Zip SameItem a b := by
  induction ha generalizing b with
  | nil => cases hb; exact Zip.nil
  | @cons c x cs xs hcx _ ih =>
    cases hb with
    | @cons _ y _ ys hcy hys =>
      refine Zip.cons ?_ (ih hys (fun p hp => hfl p (by simp [List.zip_cons_cons, hp])))
      have h0 := hfl (x, y) (by simp [List.zip_cons_cons])
      cases c with
      | pkt num den data =>
        cases x with
        | dsb s => exact absurd hcx (by simp [delivers])
        | pkt t₁ d₁ =>
          cases y with
          | dsb s => exact absurd hcy (by simp [delivers])
          | pkt t₂ d₂ => exact ⟨hcx.1.trans hcy.1.symm, h0⟩
      | dsb s =>
        cases x with
        | pkt t d => exact absurd hcx (by simp [delivers])
        | dsb s₁ =>
          cases y with
          | pkt t d => exact absurd hcy (by simp [delivers])
          | dsb s₂ =>
            have e1 : s₁ = s := hcx
            have e2 : s₂ = s := hcy
            exact e1.trans e2.symm

/-- **C12, whole program.** One capture `cap` (packets at exact instants `num/den` s, secrets blocks), written in two
    container variants `v₁`, `v₂` — pcapng little/big endian, any `if_tsresol` (10^-k, 2^-k) and `if_tsoffset`, options and
    unrelated blocks anywhere, EPB or obsolete PB, libpcap µs / ns in either byte order — as event lists `evs₁`, `evs₂`
    whose ticks denote exactly the capture's instants in the respective clock (`represents`; an instant is representable
    in a variant iff `(num/den − offset)·unitsPerSecond` is a natural number that fits the tick field: `Variant.WF`).
    If both containers can hold the capture's secrets (`hkeep`: both pcapng, or no secrets blocks — libpcap has none) and
    the float residue holds (`hfl`), the program's outcome is THE SAME: byte-identical output files, or the same abort —
    for every option vector, key-log file, hash suite, cipher primitives and mask. -/
theorem export_container_independent (args : Args) (kl : Option Keylog.Str) (v₁ v₂ : Variant) (cap : List CEv)
    (evs₁ evs₂ : List Ev) (hwf₁ : v₁.WF evs₁) (hwf₂ : v₂.WF evs₂)
    (hrep₁ : Zip (represents v₁) cap evs₁) (hrep₂ : Zip (represents v₂) cap evs₂)
    (hkeep : keep v₁ cap = keep v₂ cap)
    (hfl : FloatResidue (evs₁.filterMap (scale v₁)) (evs₂.filterMap (scale v₂))) :
    exportFile mask H P args v₁.isLegacy kl (encode v₁ evs₁) = exportFile mask H P args v₂.isLegacy kl (encode v₂ evs₂) := by
  obtain ⟨o₁, r₁, z₁⟩ := container_independent v₁ cap evs₁ hwf₁ hrep₁
  obtain ⟨o₂, r₂, z₂⟩ := container_independent v₂ cap evs₂ hwf₂ hrep₂
  have e₁ : o₁ = evs₁.filterMap (scale v₁) := by
    have := reader_roundtrip v₁ evs₁ hwf₁; rw [r₁] at this; exact Except.ok.inj this
  have e₂ : o₂ = evs₂.filterMap (scale v₂) := by
    have := reader_roundtrip v₂ evs₂ hwf₂; rw [r₂] at this; exact Except.ok.inj this
  subst e₁ e₂
  rw [hkeep] at z₁
  apply exportFile_congr_ingest
  rw [itemsWith_of_read _ _ _ _ _ r₁, itemsWith_of_read _ _ _ _ _ r₂]
  exact go_congr _ _ (zip_sameItem z₁ z₂ hfl) 0

/-- no floating-point hypothesis is needed between variants with the SAME clock: literally equal triples -/
theorem floatResidue_refl (l : List Container.Item) : FloatResidue l l := by
  intro p hp
  obtain ⟨a, b⟩ := p
  have : a = b := by
    induction l with
    | nil => simp at hp
    | cons x xs ih =>
      simp only [List.zip_cons_cons, List.mem_cons, Prod.mk.injEq] at hp
      rcases hp with ⟨rfl, rfl⟩ | hp
      · rfl
      · exact ih hp
  subst this
  cases a <;> simp

/-- **… unconditionally for the container LAYOUT**: byte order, block padding, options, unrelated blocks before and after
    the interface description and around every packet, EPB vs. obsolete PB, original-length fields — everything but the
    clock (`if_tsresol`, `if_tsoffset`). Two pcapng variants that deliver the same items (`hsame`: same resolution and
    offset, same ticks) give byte-identical outcomes; no hypothesis about floating point. -/
theorem export_layout_independent (args : Args) (kl : Option Keylog.Str) (v₁ v₂ : Variant) (evs₁ evs₂ : List Ev)
    (hwf₁ : v₁.WF evs₁) (hwf₂ : v₂.WF evs₂) (hsame : evs₁.filterMap (scale v₁) = evs₂.filterMap (scale v₂)) :
    exportFile mask H P args v₁.isLegacy kl (encode v₁ evs₁) = exportFile mask H P args v₂.isLegacy kl (encode v₂ evs₂) := by
  apply exportFile_congr_ingest
  rw [itemsWith_of_read _ _ _ _ _ (reader_roundtrip v₁ evs₁ hwf₁), itemsWith_of_read _ _ _ _ _ (reader_roundtrip v₂ evs₂ hwf₂),
    hsame]

namespace Ex
open TLX.Props.C12

/-- the clock of `C12.exVariant` (2^-10 s, offset −3 s), little-endian, no decoration at all -/
def plainVariant : NgVariant := { hdr := { e := .le, tsresol := some (.bin 10), tsoffset := some (-3) } }

def exCap : List CEv := [.pkt 3 2 [0xde, 0xad, 0xbe], .dsb [0x43, 0x4c, 0x49], .pkt (2 ^ 40 + 1 - 3072) 1024 []]

theorem exVariant_wf : (Variant.pcapng exVariant).WF exEvs := by
  refine ⟨by decide +kernel, by decide +kernel, by decide +kernel, by decide +kernel, ?_, by decide +kernel⟩
  intro i b hb
  simp only [exVariant] at hb
  split at hb
  · simp only [List.mem_singleton] at hb; subst hb; decide +kernel
  · cases hb

theorem plainVariant_wf : (Variant.pcapng plainVariant).WF exEvs := by
  refine ⟨by decide +kernel, by decide +kernel, by decide +kernel, by decide +kernel, ?_, by decide +kernel⟩
  intro i b hb
  simp [plainVariant] at hb

theorem exCap_rep (v : NgVariant) (hd : v.hdr.divisor = 1024) (ho : v.hdr.offset = -3) :
    Zip (represents (.pcapng v)) exCap exEvs := by
  refine Zip.cons ⟨rfl, ?_⟩ (Zip.cons rfl (Zip.cons ⟨rfl, ?_⟩ Zip.nil)) <;> rw [hd, ho] <;> decide

/-- non-vacuity of `export_container_independent`: the capture of `C12` (a packet at 1.5 s, a secrets block, a packet at
    2^40+1 ticks) in the decorated big-endian variant and in a bare little-endian one: every hypothesis holds, so the
    two FILES (which differ in almost every byte) give the same outcome -/
theorem layout_instance (mask : Quic.Dissect.MaskFn) (H : Crypto.Prims) (P : Cipher.Prims) (args : Args)
    (kl : Option Keylog.Str) :
    exportFile mask H P args false kl (encode (.pcapng exVariant) exEvs) =
      exportFile mask H P args false kl (encode (.pcapng plainVariant) exEvs) ∧
    encode (.pcapng exVariant) exEvs ≠ encode (.pcapng plainVariant) exEvs :=
  ⟨export_container_independent mask H P args kl (.pcapng exVariant) (.pcapng plainVariant) exCap exEvs exEvs
      exVariant_wf plainVariant_wf (exCap_rep _ rfl rfl) (exCap_rep _ rfl rfl) rfl (floatResidue_refl _),
   by decide +kernel⟩

end Ex

end C12

section C09
open TLX.Keylog

variable (info : Nat → Pipeline.Info)

/-- the frame items of a capture, in order (DSB items dropped) -/
def framesOf (xs : List (Item Keylog.Key)) : List Pkt := xs.filterMap Lemmas.Export.frameOf?

theorem tcpView_framesOf (o : Opts) (xs : List (Item Keylog.Key)) :
    tcpView o xs = (framesOf xs).filterMap fun p => match classify o (.frame p : Item Keylog.Key) with
      | .tls q => some q
      | _ => none := by
  unfold tcpView framesOf
  rw [List.filterMap_filterMap]
  congr 1
  funext it
  cases it with
  | dsb ks => rfl
  | frame p => simp only [Lemmas.Export.frameOf?, Option.bind_some]; cases classify o (Item.frame p : Item Keylog.Key) <;> rfl

/-- two key logs every session reads the same way: `find_session_secrets` returns the same lines for every client random -/
def SameSecrets (kl₁ kl₂ : List Keylog.Key) : Prop := ∀ cr, findSessionSecrets kl₁ cr = findSessionSecrets kl₂ cr

/-- `Lemmas.ExportSeg.genKeys_of_installed` (a later file) asks less: the same answer of `Keylog.installed12` / `installed13` -/
theorem genKeys_congr {kl₁ kl₂ : List Keylog.Key} (h : SameSecrets kl₁ kl₂) :
    Pipeline.genKeys H P kl₁ = Pipeline.genKeys H P kl₂ := by
  funext v suite cr sr exts comp
  unfold Pipeline.genKeys
  rw [h]

/-- a TLS conversation reads the key log only through `find_session_secrets` -/
theorem connOut_congr {kl₁ kl₂ : List Keylog.Key} (h : SameSecrets kl₁ kl₂) (c : Pipeline.Conn) :
    Pipeline.connOut H P info c kl₁ = Pipeline.connOut H P info c kl₂ := by
  have : Pipeline.ops H P kl₁ = Pipeline.ops H P kl₂ := by
    unfold Pipeline.ops
    rw [genKeys_congr H P h]
  unfold Pipeline.connOut
  rw [this]

/-- **C09, a DSB anywhere, TLS.** TLS conversations are decrypted at the END of the run with the key log as it is
    then (`-s` file, then every DSB of the capture): for two captures with the same frames in the same order, whatever
    DSB items stand wherever between them, and two `-s` files, such that the final key logs are read alike by every
    session, the exported TLS conversations are the same, frame by frame. In particular a DSB may be moved ANYWHERE
    (first, last, between any two packets) — `dsb_moved_tls`. -/
theorem dsb_position_irrelevant_tls (o : Opts) (fk₁ fk₂ : Option (List Keylog.Key)) (xs ys : List (Item Keylog.Key))
    (hfr : framesOf xs = framesOf ys) (hk : SameSecrets (keysOf fk₁ xs) (keysOf fk₂ ys)) :
    tlsFrames H P info o fk₁ xs = tlsFrames H P info o fk₂ ys := by
  unfold tlsFrames tlsConvs
  rw [tcpView_framesOf o xs, tcpView_framesOf o ys, hfr]
  apply List.map_congr_left
  intro s _
  unfold convFrames
  rw [connOut_congr H P info hk]

theorem framesOf_append (a b : List (Item Keylog.Key)) : framesOf (a ++ b) = framesOf a ++ framesOf b := by
  simp [framesOf]

theorem dsbOnly_append (a b : List (Item Keylog.Key)) : dsbOnly (a ++ b) = dsbOnly a ++ dsbOnly b := by
  simp [dsbOnly]

/-- moving one DSB from between `a` and `b` to between `b` and `c`, where `b` holds no other DSB -/
theorem dsb_moved_tls (o : Opts) (fk : Option (List Keylog.Key)) (ks : List Keylog.Key) (a b c : List (Item Keylog.Key))
    (hb : dsbOnly b = []) :
    tlsFrames H P info o fk (a ++ .dsb ks :: b ++ c) = tlsFrames H P info o fk (a ++ b ++ .dsb ks :: c) := by
  apply dsb_position_irrelevant_tls
  · simp [framesOf, List.filterMap_cons, Lemmas.Export.frameOf?]
  · intro cr
    have e1 : dsbOnly (a ++ Item.dsb ks :: b ++ c) = dsbOnly a ++ (ks ++ (dsbOnly b ++ dsbOnly c)) := by
      simp [dsbOnly]
    have e2 : dsbOnly (a ++ b ++ Item.dsb ks :: c) = dsbOnly a ++ (dsbOnly b ++ (ks ++ dsbOnly c)) := by
      simp [dsbOnly]
    simp only [keysOf, e1, e2, hb, List.nil_append]

/-- the QUIC view of a stretch of the capture that holds neither a DSB nor a QUIC-classified datagram is empty and
    leaves the key log as it is -/
theorem quicView_skip (o : Opts) (kl : List Keylog.Key) (b rest : List (Item Keylog.Key))
    (hb : ∀ it ∈ b, (∃ q, classify o it = .tls q) ∨ (∃ w, classify o it = .ignore w)) :
    quicView o kl (b ++ rest) = quicView o kl rest := by
  induction b with
  | nil => rfl
  | cons it b ih =>
    have := ih (fun x hx => hb x (by simp [hx]))
    rcases hb it (by simp) with ⟨q, hq⟩ | ⟨w, hw⟩
    · simp only [List.cons_append, quicView, hq, this]
    · simp only [List.cons_append, quicView, hw, this]

theorem quicView_append_nokeys (o : Opts) (kl : List Keylog.Key) (a rest₁ rest₂ : List (Item Keylog.Key))
    (h : ∀ kl', quicView o kl' rest₁ = quicView o kl' rest₂) :
    quicView o kl (a ++ rest₁) = quicView o kl (a ++ rest₂) := by
  rw [quicView_append_dsbKeys, quicView_append_dsbKeys, h]

/-- **C09, a DSB moved, the whole output (partial).** Moving a DSB from in front of a stretch `b` of the capture to
    behind it changes NOTHING in what `run()` hands to the writer — provided `b` holds no other DSB and no datagram that
    goes to `handle_quic_packet` (`hb`: TCP segments, ignored frames). With QUIC datagrams in `b` it is false: a QUIC session
    processes each datagram with the key log as it is at that moment (`quicView`; quic_session.py derives keys inside
    `handle_packet`), so a DSB moved behind a QUIC datagram that needs its secrets DOES change the export
    (`dsb_position_matters_to_the_quic_loop`). -/
theorem dsb_position_irrelevant_partial (prior : Export.Prior) (args : Args) (fk : Option (List Keylog.Key))
    (ks : List Keylog.Key) (a b c : List (Item Keylog.Key)) (o : Opts) (ho : optsOf args = some o)
    (hb : ∀ it ∈ b, (∃ q, classify o it = .tls q) ∨ (∃ w, classify o it = .ignore w)) :
    framesFrom mask H P prior args fk (a ++ .dsb ks :: b ++ c) info =
      framesFrom mask H P prior args fk (a ++ b ++ .dsb ks :: c) info := by
  have hd : dsbOnly b = [] := by
    rw [← dsbKeys_eq o]
    unfold dsbKeys
    rw [List.flatMap_eq_nil_iff]
    intro it hit
    rcases hb it hit with ⟨q, hq⟩ | ⟨w, hw⟩
    · rw [hq]
    · rw [hw]
  rw [framesFrom_views mask H P info prior args fk _ o ho, framesFrom_views mask H P info prior args fk _ o ho,
    dsb_moved_tls H P info o fk ks a b c hd]
  congr 2
  congr 2
  rw [List.append_assoc, List.append_assoc]
  apply quicView_append_nokeys
  intro kl'
  have e1 : quicView o kl' (Item.dsb ks :: (b ++ c)) = quicView o (kl' ++ ks) c := by
    rw [quicView]; simp only [classify]; exact quicView_skip o _ b c hb
  have e2 : quicView o kl' (b ++ Item.dsb ks :: c) = quicView o (kl' ++ ks) c := by
    rw [quicView_skip o _ b _ hb, quicView]; simp only [classify]
  rw [List.cons_append, e1, e2]

/-- the reason QUIC is excluded above, on the loop itself (recording machines): the same QUIC datagram and the same DSB,
    in the two orders — the session is handed a key log of 0 keys in one run and of 1 key in the other -/
theorem dsb_position_matters_to_the_quic_loop :
    let o : Opts := ⟨[443], false, false, false, true, []⟩
    let dg : Pkt := ⟨.udp, ⟨[10, 0, 0, 1], 5000⟩, ⟨[10, 0, 0, 8], 443⟩, [0xc0, 0, 0, 0, 1, 1, 7, 0], true, 1⟩
    let QM := Rec.quic (fun _ => ([], []))
    ((runItems Rec.tls QM o ⟨[], [], []⟩ [.dsb [9], .frame dg]).quic.map fun s => s.st.log.map (·.2.2.2)) = [[1]] ∧
    ((runItems Rec.tls QM o ⟨[], [], []⟩ [.frame dg, .dsb [9]]).quic.map fun s => s.st.log.map (·.2.2.2)) = [[0]] := by
  decide +kernel

/-- two key logs no session can tell apart: `find_session_secrets` (TLS) and the `bytes.fromhex(client_random) == …`
    filter of `set_tls_decryptors` (QUIC) return the same lines for every client random. Literally equal key lists are
    alike; so are lists that differ in the order of lines of DIFFERENT client randoms (`sameView_of_perm_across`). -/
def SameView (kl₁ kl₂ : List Keylog.Key) : Prop :=
  SameSecrets kl₁ kl₂ ∧ ∀ cr, quicSessionKeys kl₁ cr = quicSessionKeys kl₂ cr

theorem SameView.rfl' (kl : List Keylog.Key) : SameView kl kl := ⟨fun _ => rfl, fun _ => rfl⟩

theorem devQuic_congr {kl₁ kl₂ : List Keylog.Key} (h : ∀ cr, quicSessionKeys kl₁ cr = quicSessionKeys kl₂ cr) :
    QuicPipeline.devQuic H kl₁ = QuicPipeline.devQuic H kl₂ := by
  funext sel v cr
  unfold QuicPipeline.devQuic
  rw [h]

theorem params_congr {kl₁ kl₂ : List Keylog.Key} (h : ∀ cr, quicSessionKeys kl₁ cr = quicSessionKeys kl₂ cr) :
    QuicPipeline.params H P kl₁ = QuicPipeline.params H P kl₂ := by
  have e := devQuic_congr H h
  have e2 : QuicPipeline.tlsClearNewData H kl₁ = QuicPipeline.tlsClearNewData H kl₂ := by
    funext t
    unfold QuicPipeline.tlsClearNewData
    rw [e]
  unfold QuicPipeline.params
  rw [e, e2]

theorem quic_feed_congr {kl₁ kl₂ : List Keylog.Key} (h : ∀ cr, quicSessionKeys kl₁ cr = quicSessionKeys kl₂ cr)
    (c : QuicPipeline.QConn) (p : Pkt) (d : Bytes) (v : Version) :
    (QuicPipeline.quicMachine mask H P info).feed c kl₁ p d v = (QuicPipeline.quicMachine mask H P info).feed c kl₂ p d v := by
  simp only [QuicPipeline.quicMachine_feed_eq, params_congr H P h]

section Generic
variable {κ τ ο : Type}

theorem quicHandleH_congr (M : QuicMachine κ τ ο) (o : Opts) (k₁ k₂ : List κ)
    (hf : ∀ c p d v, M.feed c k₁ p d v = M.feed c k₂ p d v) (h : Hdr) (ss : List (QuicSess τ)) (p : Pkt) :
    quicHandleH M o k₁ h ss p = quicHandleH M o k₂ h ss p := by
  unfold quicHandleH
  split
  · rfl
  · induction ss with
    | nil => simp only [quicLoop, quicNew, hf]
    | cons s rest ih =>
      simp only [quicLoop, hf, ih]

/-- a stretch of frames (no DSB) run with two key logs the machine cannot tell apart -/
theorem quicRun_frames_congr (M : QuicMachine κ τ ο) (o : Opts) (k₁ k₂ : List κ)
    (hf : ∀ c p d v, M.feed c k₁ p d v = M.feed c k₂ p d v) (F : List Pkt) :
    ∀ ss, quicRun M o ss (quicView o k₁ (F.map Item.frame)) = quicRun M o ss (quicView o k₂ (F.map Item.frame)) := by
  induction F with
  | nil => intro ss; rfl
  | cons p F ih =>
    intro ss
    simp only [List.map_cons, quicView]
    cases hc : classify o (.frame p : Item κ) with
    | keys ks => exact absurd hc (classify_frame_not_keys o p ks)
    | tls q => exact ih ss
    | ignore w => exact ih ss
    | quic q b0 r =>
      rw [quicRun_cons, quicRun_cons, quicHandleH_congr M o k₁ k₂ hf]
      exact ih _

theorem quicView_dsbs (o : Opts) (kl : List κ) (D : List (List κ)) (rest : List (Item κ)) :
    quicView o kl (D.map Item.dsb ++ rest) = quicView o (kl ++ D.flatten) rest := by
  induction D generalizing kl with
  | nil => simp
  | cons d D ih =>
    simp only [List.map_cons, List.cons_append, quicView, classify, List.flatten_cons]
    rw [ih, List.append_assoc]

end Generic

/-- **C09, whole program (what `run()` hands to the writer).** The same packets `F`, the secrets delivered in two ways:
    an `-s` file (`fk`) and any number of DSBs at the head of the capture (`D`: one key list per block) on either side.
    If the two resulting key logs are alike for every session (`SameView`: in particular when they are the same list —
    `-s` file ↔ one DSB ↔ several DSBs cut at line boundaries ↔ file + DSB, LF ↔ CRLF, comment / blank / foreign lines
    added or removed: `delivery_keys`, `delivery_same_keys_*` —, or differ by moving lines of different client randoms
    past each other), then TLS and QUIC export the same frames in the same order. -/
theorem export_key_delivery_independent (prior : Export.Prior) (args : Args) (fk₁ fk₂ : Option (List Keylog.Key))
    (D₁ D₂ : List (List Keylog.Key)) (F : List Pkt)
    (hv : SameView (fk₁.getD [] ++ D₁.flatten) (fk₂.getD [] ++ D₂.flatten)) :
    framesFrom mask H P prior args fk₁ (D₁.map Item.dsb ++ F.map Item.frame) info =
      framesFrom mask H P prior args fk₂ (D₂.map Item.dsb ++ F.map Item.frame) info := by
  apply framesFrom_congr
  intro o ho
  have hd : ∀ (D : List (List Keylog.Key)), dsbOnly (D.map Item.dsb ++ F.map Item.frame) = D.flatten := by
    intro D
    simp [dsbOnly, List.flatMap_append, List.flatMap_map]
  have hf : ∀ (D : List (List Keylog.Key)), framesOf (D.map Item.dsb ++ F.map Item.frame) = F := by
    intro D
    simp [framesOf, List.filterMap_append, List.filterMap_map, Function.comp_def, Lemmas.Export.frameOf?]
  rw [framesFrom_views mask H P info prior args fk₁ _ o ho, framesFrom_views mask H P info prior args fk₂ _ o ho,
    dsb_position_irrelevant_tls H P info o fk₁ fk₂ _ _ ((hf D₁).trans (hf D₂).symm)
      (by simp only [keysOf, hd]; exact hv.1)]
  congr 2
  rw [quicView_dsbs, quicView_dsbs]
  congr 1
  exact quicRun_frames_congr _ o _ _ (quic_feed_congr mask H P info hv.2) F []

/-- lines of different client randoms may change places: both filters keep the relative order of the lines they keep -/
theorem sameView_of_perm_across (a b c d : List Keylog.Key)
    (hcr : ∀ x ∈ b, ∀ y ∈ c, ∀ cr, ¬ ((lower x.clientRandom == lower (hexOf cr)) = true ∧
        (lower y.clientRandom == lower (hexOf cr)) = true) ∧
      ¬ (fromHex x.clientRandom = some cr ∧ fromHex y.clientRandom = some cr)) :
    SameView (a ++ b ++ c ++ d) (a ++ c ++ b ++ d) := by
  have key : ∀ (f : Keylog.Key → Bool), (∀ x ∈ b, ∀ y ∈ c, ¬ (f x = true ∧ f y = true)) →
      (a ++ b ++ c ++ d).filter f = (a ++ c ++ b ++ d).filter f := by
    intro f hf
    simp only [List.filter_append, List.append_assoc]
    congr 1
    rw [← List.append_assoc, ← List.append_assoc (c.filter f)]
    congr 1
    by_cases hb : b.filter f = []
    · rw [hb]; simp
    · have hcn : c.filter f = [] := by
        rw [List.filter_eq_nil_iff]
        intro y hy hfy
        obtain ⟨x, hx⟩ := List.exists_mem_of_ne_nil _ hb
        rw [List.mem_filter] at hx
        exact hf x hx.1 y hy ⟨hx.2, hfy⟩
      rw [hcn]; simp
  refine ⟨fun cr => ?_, fun cr => ?_⟩
  · exact key _ (fun x hx y hy => (hcr x hx y hy cr).1)
  · unfold quicSessionKeys
    have hall : ((a ++ b ++ c ++ d).all fun k => (fromHex k.clientRandom).isSome) =
        ((a ++ c ++ b ++ d).all fun k => (fromHex k.clientRandom).isSome) := by
      simp only [List.all_append, Bool.and_assoc]
      congr 1
      rw [← Bool.and_assoc, ← Bool.and_assoc, Bool.and_comm (b.all _)]
    rw [hall]
    split
    · congr 1
      exact key _ (fun x hx y hy h => (hcr x hx y hy cr).2 ⟨by simpa using h.1, by simpa using h.2⟩)
    · rfl

/-- the key log of a run: the parse of ONE text — the `-s` file as text mode delivers it, then the DSB texts -/
theorem delivery_keys (file : Option Str) (dsbs : List Str) :
    (fileKeysOf file).getD [] ++ (dsbs.map (getKeysFromString srcHexClass)).flatten =
      getKeysFromString srcHexClass (C09.sourceText file dsbs) := by
  unfold C09.sourceText
  rw [← C09.parse_pieces_eq_parse_joined]
  cases file with
  | none => simp [fileKeysOf, List.flatMap_def]
  | some t => simp [fileKeysOf, List.flatMap_def]

/-- so two deliveries whose texts differ only in where CRs stand (LF ↔ CRLF, any mixture) and in how the lines are
    distributed over the file and the blocks give the SAME key list -/
theorem delivery_same_keys_of_text (file₁ file₂ : Option Str) (dsbs₁ dsbs₂ : List Str)
    (h : removeCR (C09.sourceText file₁ dsbs₁) = removeCR (C09.sourceText file₂ dsbs₂)) :
    (fileKeysOf file₁).getD [] ++ (dsbs₁.map (getKeysFromString srcHexClass)).flatten =
      (fileKeysOf file₂).getD [] ++ (dsbs₂.map (getKeysFromString srcHexClass)).flatten := by
  rw [delivery_keys, delivery_keys]
  exact C09.cr_placement_irrelevant _ _ _ h

/-- a comment, blank or foreign line (no line-end character inside, does not look like a secret line) inserted at a
    line boundary adds no key -/
theorem foreign_line_adds_nothing (a b l : Str) (h10 : 10 ∉ l) (h13 : 13 ∉ l) (hl : ¬ Spec.NssKeylog.LooksLikeKey l) :
    getKeysFromString srcHexClass (a ++ 10 :: (l ++ 10 :: b)) = getKeysFromString srcHexClass (a ++ 10 :: b) := by
  rw [C09.parse_split_at_line_boundary, C09.parse_split_at_line_boundary, C09.parse_split_at_line_boundary,
    C09Found.keys_single _ l h10 h13, C09.foreign_lines_ignored _ l hl]
  rfl

/-- the key list the read loop makes of a DSB's bytes -/
def dsbKeysOfBytes (s : Bytes) : List Keylog.Key := getKeysFromString srcHexClass (s.map UInt8.toNat)

theorem go_dsbs (c : Bool) (T : List Bytes) (hT : ∀ s ∈ T, s.all (· < 0x80) = true) (R : List Container.Item) :
    ∀ tag, Ingest.go srcHexClass c tag (T.map Container.Item.dsb ++ R) =
      match Ingest.go srcHexClass c (tag + T.length) R with
      | .error e => .error e
      | .ok (X, IS) => .ok (T.map (fun s => Item.dsb (dsbKeysOfBytes s)) ++ X, IS) := by
  induction T with
  | nil => intro tag; simp only [List.map_nil, List.nil_append, List.length_nil, Nat.add_zero]; cases Ingest.go srcHexClass c tag R <;> rfl
  | cons s T ih =>
    intro tag
    have hs : Ingest.decodeAscii s = .ok (s.map UInt8.toNat) := by
      unfold Ingest.decodeAscii; rw [if_pos (hT s (by simp))]
    simp only [List.map_cons, List.cons_append, Ingest.go, hs, ih (fun x hx => hT x (by simp [hx])) (tag + 1),
      List.length_cons]
    rw [show tag + 1 + T.length = tag + (T.length + 1) by omega]
    cases Ingest.go srcHexClass c (tag + (T.length + 1)) R with
    | error e => rfl
    | ok v => rfl

/-- **`dsb_only_without_s`, whole program.** Without `-s` the key log is exactly the keys of the capture's secrets
    blocks: the run is the run with an EMPTY key-log file — whatever the capture (the `-s` default of the repaired tree
    is `None`; no file system enters `exportFile`). -/
theorem export_dsb_only_without_s (args : Args) (legacy : Bool) (capture : Bytes) :
    exportFile mask H P args legacy none capture = exportFile mask H P args legacy (some []) capture := by
  have hk : fileKeysOf (some []) = some [] := by
    simp only [fileKeysOf, Option.map_some]
    congr 1
  unfold exportFile exportFrom
  rw [hk]
  have : ∀ xs inf, framesFrom mask H P freshState args (fileKeysOf none) xs inf =
      framesFrom mask H P freshState args (some []) xs inf := by
    intro xs inf
    unfold framesFrom runFrom body
    simp only [fileKeysOf, Option.map_none, Option.getD_none, Option.getD_some]
  split
  · rfl
  · split
    · rfl
    · rw [this]

/-- without `-s` the key log at the end of the run is the DSB keys, in capture order -/
theorem keysOf_without_s (xs : List (Item Keylog.Key)) : keysOf (fileKeysOf none) xs = dsbOnly xs := by
  simp [keysOf, fileKeysOf]

namespace Ex
open TLX.Props.C09

/-- non-vacuity, texts: the two-line key log of `Props.C09` as an `-s` file (LF) ↔ no file and two DSBs, the first with
    CRLF line ends and a comment line in front: the same key list (two keys), so `SameView` holds and
    `export_key_delivery_independent` applies to ANY packets `F` -/
theorem delivery_instance :
    (fileKeysOf (some wPlain)).getD [] ++ (([] : List Str).map (getKeysFromString srcHexClass)).flatten =
      (fileKeysOf none).getD [] ++
        ([[35, 32, 120, 13, 10] ++ wL1 ++ [13, 10], wL2].map (getKeysFromString srcHexClass)).flatten ∧
    ((fileKeysOf (some wPlain)).getD []).length = 2 := by
  constructor
  · rw [delivery_keys, delivery_keys]
    decide +kernel
  · decide +kernel

theorem delivery_instance_frames (mask : Quic.Dissect.MaskFn) (H : Crypto.Prims) (P : Cipher.Prims)
    (info : Nat → Pipeline.Info) (prior : Export.Prior) (args : Args) (F : List Pkt) :
    framesFrom mask H P prior args (fileKeysOf (some wPlain)) (F.map Item.frame) info =
      framesFrom mask H P prior args (fileKeysOf none)
        ([[35, 32, 120, 13, 10] ++ wL1 ++ [13, 10], wL2].map (fun t => Item.dsb (getKeysFromString srcHexClass t)) ++
          F.map Item.frame) info := by
  have h := export_key_delivery_independent mask H P info prior args (fileKeysOf (some wPlain)) (fileKeysOf none) []
    ([[35, 32, 120, 13, 10] ++ wL1 ++ [13, 10], wL2].map (getKeysFromString srcHexClass)) F
    (by
      have := delivery_instance.1
      simp only [List.map_nil, List.flatten_nil] at this ⊢
      rw [this]; exact SameView.rfl' _)
  simpa using h

end Ex

end C09

section C11

section Loop
variable {κ σ τ ο : Type}

/-- items the loop ignores can be removed from the capture -/
theorem runItems_filter_ignored (TM : TlsMachine κ σ ο) (QM : QuicMachine κ τ ο) (o : Opts) (keep : Item κ → Bool)
    (xs : List (Item κ)) (h : ∀ it ∈ xs, keep it = false → ∃ w, classify o it = .ignore w) :
    ∀ st, runItems TM QM o st xs = runItems TM QM o st (xs.filter keep) := by
  induction xs with
  | nil => intro st; rfl
  | cons it xs ih =>
    intro st
    have ih' := ih (fun x hx => h x (by simp [hx]))
    cases hk : keep it with
    | true =>
      simp only [List.filter_cons, hk, if_true, runItems, List.foldl_cons] at ih' ⊢
      exact ih' _
    | false =>
      obtain ⟨w, hw⟩ := h it (by simp) hk
      simp only [List.filter_cons, hk, Bool.false_eq_true, if_false, runItems, List.foldl_cons] at ih' ⊢
      have : step TM QM o st it = st := by simp [step, hw]
      rw [this]; exact ih' st

end Loop

def optC (o : Opts) (b : Bool) : Opts := { o with checksumTest := b }
def connC (b : Bool) (c : Pipeline.Conn) : Pipeline.Conn := { c with opts := optC c.opts b }
def qconnC (b : Bool) (c : QuicPipeline.QConn) : QuicPipeline.QConn := { c with opts := optC c.opts b }

variable (info : Nat → Pipeline.Info)

/-- a frame the `-c` test rejects: TCP or UDP whose verdict bit is false -/
def rejected : Item Keylog.Key → Bool
  | .frame p => !p.csumOk && p.l4 != .other
  | .dsb _ => false

theorem classify_rejected (o : Opts) (it : Item Keylog.Key) (h : (!rejected it) = false) :
    ∃ w, classify (optC o true) it = .ignore w := by
  cases it with
  | dsb ks => simp [rejected] at h
  | frame p =>
    simp only [rejected, Bool.not_eq_false', Bool.and_eq_true, Bool.not_eq_true', bne_iff_ne, ne_eq] at h
    have hb : ((optC o true).checksumTest && !p.csumOk) = true := by simp [optC, h.1]
    cases hp : p.l4 with
    | other => exact absurd hp h.2
    | tcp =>
      rw [classify_tcp _ p hp, if_pos hb]
      by_cases h1 : p.payload.length = 0
      · exact ⟨_, if_pos h1⟩
      · exact ⟨_, if_neg h1⟩
    | udp =>
      rw [classify_udp _ p hp]
      cases p.payload with
      | nil => exact ⟨_, rfl⟩
      | cons b0 r => exact ⟨_, if_pos hb⟩

theorem csumOk_of_kept (p : Pkt) (h : rejected (.frame p : Item Keylog.Key) = false) (hl : p.l4 ≠ .other) :
    p.csumOk = true := by
  simp only [rejected, Bool.and_eq_false_imp, Bool.not_eq_true', bne_eq_false_iff_eq] at h
  cases hcs : p.csumOk with
  | true => rfl
  | false => exact absurd (h hcs) hl

/-- a frame the `-c` test does not reject is classified as without `-c`: the test `checksum_test and not ok` fails both times -/
theorem classify_kept (o : Opts) (it : Item Keylog.Key) (h : (!rejected it) = true) :
    classify (optC o false) it = classify (optC o true) it := by
  cases it with
  | dsb ks => rfl
  | frame p =>
    have hc := csumOk_of_kept p (by simpa using h)
    cases hp : p.l4 with
    | other => rw [classify_other _ p hp, classify_other _ p hp]
    | tcp => rw [classify_tcp _ p hp, classify_tcp _ p hp, hc (by rw [hp]; exact fun e => nomatch e)]; rfl
    | udp => rw [classify_udp _ p hp, classify_udp _ p hp, hc (by rw [hp]; exact fun e => nomatch e)]; rfl

/-- **C11 for the loop and both composed machines.** With `-c`, the frames `run()` hands to the writer are those of the
    run WITHOUT `-c` over the capture from which exactly the rejected frames — TCP / UDP frames whose verdict bit
    `csumOk` is false — have been removed; all other items (DSBs, non-IP frames, frames with a good checksum, with an
    empty payload, of other transports) stay where they are. Any key log, start key log, options. -/
theorem checksum_filter_loop (o : Opts) (keys : List Keylog.Key) (xs : List (Item Keylog.Key)) :
    let TM := Pipeline.tlsMachine H P info
    let QM := QuicPipeline.quicMachine mask H P info
    exportAll TM QM (optC o true) (runItems TM QM (optC o true) ⟨keys, [], []⟩ xs) =
      exportAll TM QM (optC o false) (runItems TM QM (optC o false) ⟨keys, [], []⟩ (xs.filter fun it => !rejected it)) := by
  intro TM QM
  rw [runItems_filter_ignored TM QM (optC o true) (fun it => !rejected it) xs
    (fun it _ h => classify_rejected o it h)]
  have hcl : ∀ it ∈ xs.filter (fun it => !rejected it), classify (optC o true) it = classify (optC o false) it := by
    intro it hit
    exact (classify_kept o it (List.mem_filter.mp hit).2).symm
  have := runItems_map TM QM (optC o false) (optC o true) (connC true) (qconnC true) rfl
    (fun p => rfl) (fun s p => rfl) (fun p => rfl) (fun s kl p d v => feed_opts H P info mask (optC · true) s kl p d v)
    (fun s => rfl) (fun s => rfl) _ hcl ⟨keys, [], []⟩
  simp only [List.map_nil] at this
  rw [this]
  simp only [exportAll, List.flatMap_map]
  rfl

/-- `-c` set / cleared in the option vector -/
def argsC (args : Args) (b : Bool) : Args := { args with checksumTest := b }

theorem optsE_argsC (args : Args) (b : Bool) : optsE (argsC args b) = (optsE args).map fun o => optC o b := by
  unfold optsE argsC
  simp only
  cases Options.getPortMap Options.Src.bare args.mArg with
  | error e => rfl
  | ok pm => cases Options.serverPorts Options.Src.builtin Options.Src.pDefault args.pArg <;> rfl

/-- **C11, whole program, what `run()` hands to the writer.** For every item list (as `Ingest` delivers it under `-c`:
    every TCP / UDP frame with a non-empty payload carries the verdict of `calculate_checksum_tcp/udp`), key-log file and
    option vector: the run with `-c` equals the run without `-c` on the items with the rejected frames removed. -/
theorem export_checksum_filter_frames (prior : Export.Prior) (args : Args) (fk : Option (List Keylog.Key))
    (xs : List (Item Keylog.Key)) :
    framesFrom mask H P prior (argsC args true) fk xs info =
      framesFrom mask H P prior (argsC args false) fk (xs.filter fun it => !rejected it) info := by
  rw [framesFrom_eq, framesFrom_eq, optsE_argsC, optsE_argsC]
  cases optsE args with
  | error e => simp only [Except.map]
  | ok o =>
    simp only [Except.map]
    exact congrArg Except.ok (checksum_filter_loop mask H P info o (fk.getD []) xs)

section Verdict
open TLX.Dissect
open TLX.Checksum (check L4)
open TLX.Spec.Rfc1071 (verdict)
open TLX.Lemmas.OnesComplement (toSpec Dissected)
open TLX.Lemmas.Ingest (dissect_l4_facts payloadOf ingest_verdict verdict_ok_len)

/-- **The verdict bit of a frame read under `-c` is the RFC 1071 receiver's verdict.** For a frame the tool dissects as
    TCP or UDP over IPv4 / IPv6 (`x`: addresses, protocol and transport bytes as dpkt delivers them) with a non-empty
    payload: `csumOk` — what `calculate_checksum_tcp/udp` returned — is true exactly when the independent RFC 1071
    receiver (`Spec.Rfc1071.verdict`: pseudo-header, one's-complement sum over the transport bytes) accepts the segment;
    a UDP/IPv4 datagram sent WITHOUT a checksum (field zero: neither right nor wrong) is rejected. -/
theorem ingest_verdict_rfc1071 (tag us : Nat) (buf : Bytes) (p : Pkt) (i : Pipeline.Info)
    (h : Ingest.framePkt true tag us buf = .ok (p, i)) (hl4 : p.l4 ≠ .other) (hpl : p.payload ≠ []) :
    ∃ x k, dissect buf = .ok (.ip x) ∧ kindOf x.l4 = some k ∧
      p.csumOk = decide (verdict (toSpec k) x.v6 x.src x.dst x.seg = .valid) := by
  unfold Ingest.framePkt at h
  cases hd : dissect buf with
  | error e => simp [hd] at h
  | ok dd =>
    cases dd with
    | notIp => simp only [hd] at h; cases h; exact absurd rfl hl4
    | ip x =>
      simp only [hd, if_true] at h
      cases hv : Ingest.verdict x with
      | error e => simp [hv] at h
      | ok v =>
        simp only [hv] at h
        -- what dpkt hands over: addresses of 4 / 16 bytes, the protocol of the class it chose, a whole fixed header
        obtain ⟨_, _, h1, h2⟩ := Lemmas.DissectAddr.dissect_addr_lengths _ buf x hd
        have hev : x.src.length % 2 = 0 ∧ x.dst.length % 2 = 0 := by rw [h1, h2]; cases x.v6 <;> simp
        have key : ∀ k, kindOf x.l4 = some k → payloadOf x.l4 ≠ [] →
            v.getD true = decide (verdict (toSpec k) x.v6 x.src x.dst x.seg = .valid) := by
          intro k hk hne
          obtain ⟨hp, hf⟩ := dissect_l4_facts buf x k hd hk
          have := ingest_verdict x k hk hp ⟨hev.1, hev.2, hf, verdict_ok_len x v hv hne⟩
          rw [hv, if_neg hne] at this
          cases this; rfl
        cases hx : x.l4 with
        | other => rw [hx] at h; cases h; exact absurd rfl hl4
        | tcp sp dp sq ak pl =>
          rw [hx] at h; cases h
          exact ⟨x, .tcp, rfl, by rw [hx]; rfl, key .tcp (by rw [hx]; rfl) (by rw [hx]; exact hpl)⟩
        | udp sp dp pl =>
          rw [hx] at h; cases h
          exact ⟨x, .udp, rfl, by rw [hx]; rfl, key .udp (by rw [hx]; rfl) (by rw [hx]; exact hpl)⟩

end Verdict

/-- **C11, whole program.** The run with `-c` on ANY capture file: the read loop (reader, dpkt, the verdict of
    `calculate_checksum_tcp/udp` per TCP / UDP frame with a payload — which is the RFC 1071 receiver's verdict:
    `ingest_verdict_rfc1071`) delivers the items `xs`; the output file is then, byte for byte, what the run WITHOUT `-c`
    writes for the items with exactly the rejected frames removed — or the same abort. Non-IP frames, frames dpkt does
    not dissect to TCP / UDP, empty segments: left in place, ignored by both runs as before.
    (Stated on the items of the read loop; for a re-encoded capture file, where removing frames renumbers the packets
    behind them (`Pkt.tag` = position): `ExportInputs2.export_checksum_filter_file`.) -/
theorem export_checksum_filter (args : Args) (legacy : Bool) (kl : Option Keylog.Str) (capture : Bytes) :
    exportFile mask H P (argsC args true) legacy kl capture =
      if optionsBad (freshState : Export.Prior) args then .badOptions
      else match Ingest.itemsWith Keylog.srcHexClass true legacy capture with
        | .error e => .abort (.ingest e)
        | .ok (xs, is) =>
          finish (framesFrom mask H P freshState (argsC args false) (fileKeysOf kl)
            (xs.filter fun it => !rejected it) (Ingest.lookup is)) := by
  rw [exportFile_stages]
  have : optionsBad (freshState : Export.Prior) (argsC args true) = optionsBad (freshState : Export.Prior) args := rfl
  rw [this]
  split
  · rfl
  · simp only [argsC]
    cases Ingest.itemsWith Keylog.srcHexClass true legacy capture with
    | error e => rfl
    | ok v =>
      obtain ⟨xs, is⟩ := v
      simp only
      exact congrArg finish (export_checksum_filter_frames mask H P (Ingest.lookup is) freshState args (fileKeysOf kl) xs)

section NoC
open TLX.Dissect

/-- everything `Packet.__init__` sets EXCEPT what only the checksum functions read (`ip.p`, `bytes(packet.tcp/udp)`) -/
def viewNoCsum : Dissected → Option (Bool × Bytes × Bytes × Bytes × Bytes × Transport)
  | .notIp => none
  | .ip x => some (x.v6, x.srcMac, x.dstMac, x.src, x.dst, x.l4)

theorem framePkt_noC_congr (tag us : Nat) (b₁ b₂ : Bytes)
    (h : (dissect b₁).map viewNoCsum = (dissect b₂).map viewNoCsum) :
    Ingest.framePkt false tag us b₁ = Ingest.framePkt false tag us b₂ := by
  unfold Ingest.framePkt
  cases h₁ : dissect b₁ with
  | error e₁ =>
    cases h₂ : dissect b₂ with
    | error e₂ => rw [h₁, h₂] at h; cases h; rfl
    | ok d₂ => rw [h₁, h₂] at h; cases h
  | ok d₁ =>
    cases h₂ : dissect b₂ with
    | error e₂ => rw [h₁, h₂] at h; cases h
    | ok d₂ =>
      rw [h₁, h₂] at h
      simp only [Except.map, Except.ok.injEq] at h
      cases d₁ with
      | notIp =>
        cases d₂ with
        | notIp => rfl
        | ip y => cases h
      | ip x =>
        cases d₂ with
        | notIp => cases h
        | ip y =>
          simp only [viewNoCsum, Option.some.injEq, Prod.mk.injEq] at h
          obtain ⟨e1, e2, e3, e4, e5, e6⟩ := h
          simp only [Bool.false_eq_true, if_false, Option.getD_none, e1, e2, e3, e4, e5, e6]

/-- two reader items that differ at most in what only the checksum functions read (a packet whose time stamp is −1 is
    taken for a secrets block and its bytes are parsed as key-log text: excluded) -/
def SameButChecksums : Container.Item → Container.Item → Prop
  | .pkt t₁ b₁, .pkt t₂ b₂ =>
    t₁ = t₂ ∧ Ingest.isMinusOne t₁ = false ∧ (dissect b₁).map viewNoCsum = (dissect b₂).map viewNoCsum
  | .dsb s₁, .dsb s₂ => s₁ = s₂
  | _, _ => False

theorem go_noC_congr {l₁ l₂ : List Container.Item} (h : Zip SameButChecksums l₁ l₂) :
    ∀ tag, Ingest.go Keylog.srcHexClass false tag l₁ = Ingest.go Keylog.srcHexClass false tag l₂ := by
  refine go_zip_congr _ false (fun a b hab tag => ?_) h
  cases a with
  | dsb s₁ =>
    cases b with
    | dsb s₂ => rw [show s₁ = s₂ from hab]
    | pkt t d => exact absurd hab (by simp [SameButChecksums])
  | pkt t₁ d₁ =>
    cases b with
    | dsb s => exact absurd hab (by simp [SameButChecksums])
    | pkt t₂ d₂ =>
      obtain ⟨ht, hm, hd⟩ : t₁ = t₂ ∧ Ingest.isMinusOne t₁ = false ∧ _ := hab
      simp only [readItem, ← ht, hm, Bool.false_eq_true, if_false, framePkt_noC_congr tag _ d₁ d₂ hd]

/-- **Without `-c` checksums are never looked at.** Two capture files whose readers deliver, position by position, the
    same secrets blocks and packets at the same instants whose DISSECTIONS agree in everything but `ip.p` and the
    transport bytes handed to the checksum functions — e.g. the same frames with the IPv4 header checksum, the TCP or the
    UDP checksum field overwritten with anything (`checksum_fields_not_dissected`) — give the same outcome when `-c` is
    absent: byte-identical output files, or the same abort. -/
theorem export_ignores_checksums_without_c (args : Args) (legacy₁ legacy₂ : Bool) (kl : Option Keylog.Str)
    (cap₁ cap₂ : Bytes) (its₁ its₂ : List Container.Item) (ended : Option Container.Err)
    (hr₁ : Container.readPrefix legacy₁ cap₁ = .ok (its₁, ended))
    (hr₂ : Container.readPrefix legacy₂ cap₂ = .ok (its₂, ended))
    (hz : Zip SameButChecksums its₁ its₂) :
    exportFile mask H P (argsC args false) legacy₁ kl cap₁ = exportFile mask H P (argsC args false) legacy₂ kl cap₂ := by
  apply exportFile_congr_ingest
  simp only [argsC]
  unfold Ingest.itemsWith
  rw [hr₁, hr₂]
  simp only [go_noC_congr hz 0]

/-- the checksum fields of a frame are not among what the tool takes from dpkt: two well-formed Ethernet II / IPv4 / TCP or
    UDP frames (`Spec.FrameBuild`: any options, trailer) that differ ONLY in the IPv4 header checksum, the TCP / UDP
    checksum, or anything else outside the addresses, ports, sequence numbers and payload (TOS, TTL, window, flags, IP
    options, …) have the same view -/
theorem checksum_fields_not_dissected (f f' : Spec.FrameBuild.Frame) (h h' : Spec.FrameBuild.V4)
    (hn : f.net = .v4 h) (hn' : f'.net = .v4 h') (w : f.WF) (w' : f'.WF)
    (hsame : f.srcMac = f'.srcMac ∧ f.dstMac = f'.dstMac ∧ h.src = h'.src ∧ h.dst = h'.dst ∧
      C12Dissect.transportOf f.upper = C12Dissect.transportOf f'.upper) :
    (dissect f.encode).map viewNoCsum = (dissect f'.encode).map viewNoCsum := by
  rw [C12Dissect.dissect_build_v4 f h hn w, C12Dissect.dissect_build_v4 f' h' hn' w']
  obtain ⟨a, b, c, d, e⟩ := hsame
  simp only [Except.map, viewNoCsum, a, b, c, d, e]

end NoC

namespace Ex
open TLX.Spec.FrameBuild

/-- a well-formed TCP segment to port 443 whose checksum field is `cs` (the right value is not 0) -/
def seg (cs : Nat) : Frame :=
  ⟨[1, 2, 3, 4, 5, 6], [7, 8, 9, 10, 11, 12], .v4 ⟨0, 7, true, false, 64, 0, [10, 0, 0, 1], [10, 0, 0, 2], []⟩,
   .tcp ⟨50000, 443, 1000, 2000, 0x18, 0, 8192, cs, 0, [], [0x16, 3, 3]⟩, []⟩

/-- what the read loop under `-c` decides about one frame -/
def rejectedOf (buf : Bytes) : Option Bool :=
  match Ingest.framePkt true 3 0 buf with
  | .ok (p, _) => some (rejected (.frame p))
  | .error _ => none

/-- non-vacuity of `export_checksum_filter`: the read loop under `-c` marks this frame with checksum field 0 as rejected
    and the same frame with the right checksum (0x9200) as accepted — the filter removes the one and keeps the other -/
theorem rejected_instance : rejectedOf (seg 0).encode = some true ∧ rejectedOf (seg 0x9200).encode = some false := by
  decide +kernel

end Ex

end C11

section C03
variable (info : Nat → Pipeline.Info)

theorem merge_map {α β : Type} {a b m : List α} (h : Merge a b m) (f : α → β) : Merge (a.map f) (b.map f) (m.map f) := by
  simpa only [List.filterMap_eq_map] using h.filterMap (some ∘ f)

theorem dsbOnly_merge_silent {B V C : List (Item Keylog.Key)} (hm : Merge B V C) (hk : dsbOnly V = []) :
    dsbOnly C = dsbOnly B := by
  induction hm with
  | nil => rfl
  | left x _ ih => simp only [dsbOnly, List.flatMap_cons] at ih ⊢; rw [ih hk]
  | right x _ ih =>
    simp only [dsbOnly, List.flatMap_cons, List.append_eq_nil_iff] at ih hk ⊢
    rw [hk.1, ih hk.2]; rfl

/-- **C03, whole program (TLS).** `B`: a capture (one TLS conversation, or many); `V`: ANY other items — TCP segments on
    other flows (valid TLS, garbage, records that make THEIR session's state machine raise), UDP / QUIC datagrams, non-IP
    frames — that bring no key material (`hk`) and share no TCP flow with `B` (`hd`); `C`: any interleaving of the two.
    Then the conversations of `B` are exported from `C` exactly as from `B` alone: the per-conversation frame lists of `C`
    are those of `B`, each intact and in `B`'s order, interleaved with the blocks of `V`'s conversations. Whatever happens
    inside a session of `V` stays inside it. Any options, key log, primitives. -/
theorem export_bystander_unaffected (o : Opts) (fk : Option (List Keylog.Key)) {B V C : List (Item Keylog.Key)}
    (hm : Merge B V C) (hd : ∀ a ∈ tcpView o B, ∀ b ∈ tcpView o V, sameFlow a b = false) (hk : dsbOnly V = []) :
    Merge (tlsFrames H P info o fk B) ((tlsConvs H P info o V).map (convFrames H P info (keysOf fk C)))
      (tlsFrames H P info o fk C) := by
  have hkeys : keysOf fk C = keysOf fk B := by simp only [keysOf, dsbOnly_merge_silent hm hk]
  have hs : Merge (tlsConvs H P info o B) (tlsConvs H P info o V) (tlsConvs H P info o C) :=
    C04.tls_sessions_merge (Pipeline.tlsMachine H P info) o (hm.filterMap _) hd
  unfold tlsFrames
  rw [← hkeys]
  exact merge_map hs _

/-- `export_bystander_unaffected`, one conversation at a time: every conversation of `B` is found in the merged run — the
    same object — with the same frames -/
theorem bystander_frames_same (o : Opts) (fk : Option (List Keylog.Key)) {B V C : List (Item Keylog.Key)}
    (hm : Merge B V C) (hd : ∀ a ∈ tcpView o B, ∀ b ∈ tcpView o V, sameFlow a b = false) (hk : dsbOnly V = [])
    (s : TlsSess Pipeline.Conn) (hs : s ∈ tlsConvs H P info o B) :
    s ∈ tlsConvs H P info o C ∧ convFrames H P info (keysOf fk C) s = convFrames H P info (keysOf fk B) s ∧
      convFrames H P info (keysOf fk B) s ∈ tlsFrames H P info o fk C := by
  have hkeys : keysOf fk C = keysOf fk B := by simp only [keysOf, dsbOnly_merge_silent hm hk]
  have hss : Merge (tlsConvs H P info o B) (tlsConvs H P info o V) (tlsConvs H P info o C) :=
    C04.tls_sessions_merge (Pipeline.tlsMachine H P info) o (hm.filterMap _) hd
  have hmem := (hss.mem s).mpr (.inl hs)
  refine ⟨hmem, by rw [hkeys], ?_⟩
  unfold tlsFrames
  rw [hkeys]
  exact List.mem_map.mpr ⟨s, hmem, rfl⟩

/-- `export_bystander_unaffected` in what `run()` hands to the writer: the TLS part of the merged run is the frame blocks of
    `B`, intact and in order, merged with those of the victim -/
theorem bystander_in_output (prior : Export.Prior) (args : Args) (o : Opts) (ho : optsOf args = some o)
    (fk : Option (List Keylog.Key)) {B V C : List (Item Keylog.Key)}
    (hm : Merge B V C) (hd : ∀ a ∈ tcpView o B, ∀ b ∈ tcpView o V, sameFlow a b = false) (hk : dsbOnly V = []) :
    ∃ blocks quicPart, framesFrom mask H P prior args fk C info = .ok (blocks.flatten ++ quicPart) ∧
      Merge (tlsFrames H P info o fk B) ((tlsConvs H P info o V).map (convFrames H P info (keysOf fk C))) blocks :=
  ⟨_, _, framesFrom_views mask H P info prior args fk C o ho, export_bystander_unaffected H P info o fk hm hd hk⟩

namespace Ex
open TLX.Props.C04.Ex

def oB : Opts := ⟨[443], false, false, false, true, []⟩
def capB : List (Item Keylog.Key) := [.frame (tcp 1 (ep 1 5000) (ep 8 443)), .frame (tcp 4 (ep 8 443) (ep 1 5000))]
def capV : List (Item Keylog.Key) :=
  [.frame (tcp 2 (ep 2 6000) (ep 9 443)), .frame (udp 3 (ep 3 7000) (ep 9 443) [0xc0, 0, 0, 0, 1, 0]),
   .frame ⟨.other, ⟨[], 0⟩, ⟨[], 0⟩, [], true, 5⟩]
def capC : List (Item Keylog.Key) :=
  [.frame (tcp 1 (ep 1 5000) (ep 8 443)), .frame (tcp 2 (ep 2 6000) (ep 9 443)),
   .frame (udp 3 (ep 3 7000) (ep 9 443) [0xc0, 0, 0, 0, 1, 0]), .frame (tcp 4 (ep 8 443) (ep 1 5000)),
   .frame ⟨.other, ⟨[], 0⟩, ⟨[], 0⟩, [], true, 5⟩]

/-- non-vacuity of `export_bystander_unaffected`: a conversation, and a victim capture with another TCP flow, a QUIC-looking
    datagram and a non-IP frame, interleaved -/
theorem bystander_instance :
    Merge capB capV capC ∧ (∀ a ∈ tcpView oB capB, ∀ b ∈ tcpView oB capV, sameFlow a b = false) ∧ dsbOnly capV = [] ∧
    (tcpView oB capB).length = 2 ∧ (tcpView oB capV).length = 1 :=
  ⟨.left _ (.right _ (.right _ (.left _ (.right _ .nil)))), by decide +kernel, by decide +kernel, by decide +kernel,
   by decide +kernel⟩

end Ex

end C03

end TLX.Props.ExportInputs
