import TLX.Props.C02Capstone4
set_option autoImplicit false
/-! # C02, 0-RTT, the stronger form: packets of the wrong suite are simply missing, everything else is exact

`Props/C02Zr` shows that ONE 0-RTT packet the tool cannot authenticate is skipped without side effect, for any mask bytes.
Here that is carried through the connection: datagrams of two kinds — `XDgOkE` (the tool's Early keys are the client's:
exported) and `XDgBad` (the tool holds Early keys of another suite: `RejectedT`, the packets are missing) — and the export is
that of the history without the bad packets. `C02All.quic_connection_exact_from` says so from any state of the handshake
phase (what the history after a Retry needs; the early secret is asked for only where a datagram has 0-RTT packets, so the
theorem also covers key logs without it), `quic_connection_exact_0rtt_any` from a fresh session. Both are `C02Sim.conn_from`
for the datagrams read through `yView`. Namespace `TLX.Props.C02Zr`, continued; `quic_connection_exact_from` is declared
into `TLX.Props.C02All`, whose file-level theorems rest on it. -/
namespace TLX.Props.C02Zr
open TLX TLX.Quic TLX.Cipher TLX.Quic.Session TLX.Lemmas.QuicSession TLX.Spec.QuicSender TLX.Spec.QuicFrames
open TLX.Props.C02Session TLX.Spec.QuicConnection TLX.Spec.QuicPackets TLX.QuicPipeline
open TLX.Props.C02Capstone TLX.Props.C02Capstone3 TLX.Props.C02Capstone4 TLX.Props.C02Sim TLX.Spec.KeySchedules
open TLX.Lemmas.KeySchedule

section BadDg
variable (maskFn : Dissect.MaskFn) (H : Crypto.Prims) (Pc : Cipher.Prims)

/-- the datagram without its 0-RTT packets: what a datagram of unauthenticated 0-RTT packets is worth to the tool -/
def noZr (d : DgX) : DgX := { d with zr := [] }

/-- one datagram whose 0-RTT packets reach the tool while it holds Early keys of ANOTHER suite `selT` than the client's
    `selR` (`tool`: the last `set_tls_decryptors` call was for `selT`; each packet: `ZrShape`, and for the mask `m'` the
    tool's header-protection primitive returns under ITS early key the AEAD check fails, `RejectedT`); everything else as
    in `XDgOkE`, with the bookkeeping not moved by the 0-RTT packets -/
structure XDgBad (L : SealLaws Pc) (dcid0 : Bytes) (sel selR : SuiteSel) (sh ch sa ca e : Bytes) (t : Trk)
    (ecs : Option SuiteSel) (d : DgX) : Prop where
  client : d.zr ≠ [] → d.base.srv = false
  dirL : ∀ q ∈ d.base.longs, q.x.srv = d.base.srv ∧ q.x.ts = d.base.ts
  dirZ : ∀ q ∈ d.zr, q.x.ts = d.base.ts
  cid : DcidOk t.cc t.sc d.base.srv d.dcid
  pre : HsPks maskFn H Pc L dcid0 sel sh ch t (d.base.longs.take d.pos)
  tool : d.zr ≠ [] → ∃ selT, ecsFold t.core (insOf (d.base.longs.take d.pos)) ecs = some selT ∧
    ∀ q ∈ d.zr, ZrShape q.x ∧ 1 ≤ q.x.pnLen ∧ q.x.pnLen ≤ 4 ∧ 5 ≤ q.mask.length ∧
      ∃ m', maskFn (chachaOf (DgX.t1 t d).core) (quicHp (hashOf H selT.hash) e selT.keyLen)
          (longOf q.x (protectedPayload L.aeadSeal selR.alg (earlyDec H selR e).client q.x)).sample = some m' ∧
        5 ≤ m'.length ∧
        RejectedT H Pc selT e (DgX.t1 t d).tc.app
          ((remask (longOf q.x (protectedPayload L.aeadSeal selR.alg (earlyDec H selR e).client q.x)) q.mask m').toPkt false
            q.x.ts)
  post : HsPks maskFn H Pc L dcid0 sel sh ch (DgX.t1 t d) (d.base.longs.drop d.pos)
  short : ∀ o, d.base.short = some o → o.x.srv = d.base.srv ∧ o.x.ts = d.base.ts ∧ o.x.dcid = d.dcid ∧
      ((DgX.t1 t d).run (d.base.longs.drop d.pos)).keyed = true ∧ o.x.level = .oneRtt ∧ o.x.gen = 0 ∧
      PnLenOk (if o.x.srv then ((DgX.t1 t d).run (d.base.longs.drop d.pos)).ts.app
        else ((DgX.t1 t d).run (d.base.longs.drop d.pos)).tc.app) o.x.pn o.x.pnLen ∧ WellFormedSeq o.x.frames ∧
      DgOk maskFn Pc L sel.alg (genDir (keyUpdate H sel .v1) (rfcGen (hashOf H sel.hash) sel.keyLen sa ca 0) o.x.srv 0)
        (if o.x.srv then quicHp (hashOf H sel.hash) sa sel.keyLen else quicHp (hashOf H sel.hash) ca sel.keyLen)
        (chachaOf ((DgX.t1 t d).run (d.base.longs.drop d.pos)).core) o

end BadDg
section YFeed
variable (maskFn : Dissect.MaskFn) (H : Crypto.Prims) (Pc : Cipher.Prims) (info : Nat → Pipeline.Info)

/-- a datagram of the mixed part, and whether the tool's Early keys fit its 0-RTT packets when they are reached -/
structure DgY where
  x : DgX
  good : Bool

/-- what the datagram is worth to the tool -/
def DgY.eff (d : DgY) : DgX := if d.good then d.x else noZr d.x

def YDgOk (L : SealLaws Pc) (dcid0 : Bytes) (sel selR : SuiteSel) (sh ch sa ca e : Bytes) (t : Trk)
    (ecs : Option SuiteSel) (d : DgY) : Prop :=
  if d.good then XDgOkE maskFn H Pc L dcid0 sel selR sh ch sa ca e t ecs d.x
  else XDgBad maskFn H Pc L dcid0 sel selR sh ch sa ca e t ecs d.x

def YDgs (L : SealLaws Pc) (dcid0 : Bytes) (sel selR : SuiteSel) (sh ch sa ca e : Bytes) :
    Trk → Option SuiteSel → List DgY → Prop
  | _, _, [] => True
  | t, ecs, d :: ds => YDgOk maskFn H Pc L dcid0 sel selR sh ch sa ca e t ecs d ∧
      YDgs L dcid0 sel selR sh ch sa ca e (t.dgx d.eff) (ecsDgx t ecs d.eff) ds

def yFeedAll (QM : MainLoop.QuicMachine Keylog.Key QConn Pipeline.OutPkt) (c : QConn) :
    List (List Keylog.Key × MainLoop.Pkt × DgY) → QConn
  | [] => c
  | (kl, p, d) :: rest => yFeedAll QM (QM.feed c kl p d.x.dcid d.x.ver) rest

end YFeed

section YView
variable {maskFn : Dissect.MaskFn} {H : Crypto.Prims} {Pc : Cipher.Prims} {info : Nat → Pipeline.Info}
variable {L : SealLaws Pc} {dcid0 ch sh ca sa : Bytes} {early : Option Bytes} {e : Bytes} {sel selR : SuiteSel}

/-- the 0-RTT packets of a datagram are all of the kind its flag says -/
def yView : DgView PEv DgY :=
  ⟨(·.x.base.srv), (·.x.base.ts), (·.x.dcid), (·.x.ver), fun d => evsOf (if d.good then PEv.zr else PEv.zrBad) d.x,
    (·.x.base.short)⟩

theorem yView_after (t : Trk) (ecs : Option SuiteSel) (d : DgY) :
    yView.after (pevK maskFn H Pc L dcid0 ch sh early e sel selR) ⟨t, ecs⟩ d = ⟨t.dgx d.eff, ecsDgx t ecs d.eff⟩ := by
  obtain ⟨x, good⟩ := d
  cases good with
  | true => exact xView_after t ecs x
  | false =>
    show ((pevK maskFn H Pc L dcid0 ch sh early e sel selR).run ⟨t, ecs⟩ (evsOf PEv.zrBad x)).close (noZr x).base.short = _
    unfold evsOf
    rw [Kinds.run_append, Kinds.run_append, pev_run_long, pev_run_bad, pev_run_long]
    exact close_dgx t ecs (noZr x)

theorem yView_dgx (ds : List DgY) (t : Trk) (ecs : Option SuiteSel) :
    (ds.foldl (yView.after (pevK maskFn H Pc L dcid0 ch sh early e sel selR)) ⟨t, ecs⟩).t = (ds.map DgY.eff).foldl Trk.dgx t := by
  induction ds generalizing t ecs with
  | nil => rfl
  | cons d ds ih => simp only [List.foldl_cons, List.map_cons]; rw [yView_after]; exact ih _ _

theorem yView_out (ds : List DgY) :
    ds.flatMap (yView.out (pevK maskFn H Pc L dcid0 ch sh early e sel selR)) =
      (ds.map DgY.eff).flatMap fun d => d.zrOut ++ d.base.shortOut := by
  induction ds with
  | nil => rfl
  | cons d ds ih =>
    rw [List.map_cons, List.flatMap_cons, List.flatMap_cons, ih]
    congr 1
    obtain ⟨x, good⟩ := d
    cases good with
    | true => exact xView_out1 x
    | false =>
      show (pevK maskFn H Pc L dcid0 ch sh early e sel selR).outOf (evsOf PEv.zrBad x) ++ shortOutOf x.base.short = _
      rw [evsOf_out PEv.zrBad (fun _ => []) (fun _ => rfl), shortOutOf_eq]
      show x.zr.flatMap (fun _ => []) ++ _ = _
      rw [List.flatMap_eq_nil_iff.mpr fun _ _ => rfl]
      rfl

theorem yView_ins (ds : List DgY) :
    ds.flatMap (yView.ins (pevK maskFn H Pc L dcid0 ch sh early e sel selR)) = allInsM (ds.map (·.x.base)) := by
  unfold allInsM
  rw [List.flatMap_map]
  induction ds with
  | nil => rfl
  | cons d ds ih =>
    rw [List.flatMap_cons, List.flatMap_cons, ih]
    congr 1
    obtain ⟨x, good⟩ := d
    cases good with
    | true => exact evsOf_ins PEv.zr (fun _ => rfl) x
    | false => exact evsOf_ins PEv.zrBad (fun _ => rfl) x

theorem yView_ok (hk : KeysWf (params H Pc []) sel .v1 (rfcGen (hashOf H sel.hash) sel.keyLen sa ca 0))
    {t : Trk} {ecs : Option SuiteSel} {d : DgY} (he : d.x.zr ≠ [] → early = some e)
    (hok : YDgOk maskFn H Pc L dcid0 sel selR sh ch sa ca e t ecs d) :
    yView.Ok maskFn H Pc L ca sa sel (pevK maskFn H Pc L dcid0 ch sh early e sel selR) ⟨t, ecs⟩ d := by
  obtain ⟨x, good⟩ := d
  cases good with
  | true =>
    have h := xView_ok (early := early) hk he (show XDgOkE maskFn H Pc L dcid0 sel selR sh ch sa ca e t ecs x by simpa [YDgOk] using hok)
    exact ⟨h.ver, h.dir, h.cid, h.evs, h.short⟩
  | false =>
    obtain ⟨hclient, hdirL, hdirZ, hcid, hpre, htool, hpost, hshort⟩ :
        XDgBad maskFn H Pc L dcid0 sel selR sh ch sa ca e t ecs x := by simpa [YDgOk] using hok
    have hz : ∀ q ∈ x.zr, ZrShape q.x := fun q hq => by
      obtain ⟨_, _, hqs⟩ := htool (List.ne_nil_of_mem hq)
      exact (hqs q hq).1
    have hrun : (pevK maskFn H Pc L dcid0 ch sh early e sel selR).run ⟨t, ecs⟩ (evsOf PEv.zrBad x) =
        ⟨(DgX.t1 t x).run (x.base.longs.drop x.pos), ecsDgx t ecs (noZr x)⟩ := by
      unfold evsOf
      rw [Kinds.run_append, Kinds.run_append, pev_run_long, pev_run_bad, pev_run_long]
      rfl
    refine ⟨?_, evsOf_dir PEv.zrBad (fun _ => rfl) x hclient hz hdirL hdirZ, hcid, ?_, fun o ho => ?_⟩
    · show DgX.ver x = .unknown ∨ DgX.ver x = .v1
      unfold DgX.ver; split
      · exact Or.inl rfl
      · exact Or.inr rfl
    · show (pevK maskFn H Pc L dcid0 ch sh early e sel selR).Oks ⟨t, ecs⟩ (evsOf PEv.zrBad x)
      unfold evsOf
      refine Kinds.Oks.append _ (Kinds.Oks.append _ (pev_oks_long _ ⟨t, ecs⟩ hpre) ?_) ?_
      · rw [pev_run_long]
        refine pev_oks_bad _ _ fun q hq => ?_
        obtain ⟨selT, hT, hqs⟩ := htool (List.ne_nil_of_mem hq)
        exact ⟨he (List.ne_nil_of_mem hq), selT, hT, hqs q hq⟩
      · rw [Kinds.run_append, pev_run_long, pev_run_bad]
        exact pev_oks_long _ ⟨_, _⟩ hpost
    · show ShortAt maskFn H Pc L ca sa sel ((pevK maskFn H Pc L dcid0 ch sh early e sel selR).run ⟨t, ecs⟩ (evsOf PEv.zrBad x)).t
        x.base.srv x.base.ts x.dcid o
      rw [hrun]
      obtain ⟨o1, o2, o3, o4, o5, o6, o7, o8, o9⟩ := hshort o ho
      exact ⟨o1, o2, o3, o4, o5, o6, o7, o8, o9, hk⟩

theorem yView_oks (hk : KeysWf (params H Pc []) sel .v1 (rfcGen (hashOf H sel.hash) sel.keyLen sa ca 0)) (ds : List DgY)
    (he : ∀ d ∈ ds, d.x.zr ≠ [] → early = some e) (t : Trk) (ecs : Option SuiteSel)
    (h : YDgs maskFn H Pc L dcid0 sel selR sh ch sa ca e t ecs ds) :
    yView.Oks maskFn H Pc L ca sa sel (pevK maskFn H Pc L dcid0 ch sh early e sel selR) ⟨t, ecs⟩ ds := by
  induction ds generalizing t ecs with
  | nil => trivial
  | cons d ds ih =>
    exact ⟨yView_ok hk (he d (List.mem_cons_self ..)) h.1,
      by rw [yView_after]; exact ih (fun d' hd' => he d' (List.mem_cons_of_mem _ hd')) _ _ h.2⟩

theorem yFeedAll_eq (QM : MainLoop.QuicMachine Keylog.Key QConn Pipeline.OutPkt) (c : QConn)
    (items : List (List Keylog.Key × MainLoop.Pkt × DgY)) : yFeedAll QM c items = feedG yView QM c items :=
  feedG_eq_rec yView QM (yFeedAll QM) (fun _ => rfl) (fun _ _ _ _ _ => rfl) c items

theorem carriesG_of_Y {c : QConn} {p : MainLoop.Pkt} {d : DgY}
    (h : CarriesX info c (DgX.wire H Pc L dcid0 sel selR sh ch sa ca e) p d.x) :
    CarriesG H Pc info L ca sa sel (pevK maskFn H Pc L dcid0 ch sh early e sel selR) yView c p d := by
  obtain ⟨x, good⟩ := d
  cases good with
  | true => exact ⟨h.payload.trans (evsOf_wire PEv.zr (fun _ => rfl) x).symm, h.ts, h.dir⟩
  | false => exact ⟨h.payload.trans (evsOf_wire PEv.zrBad (fun _ => rfl) x).symm, h.ts, h.dir⟩

end YView

section YFinal
variable (maskFn : Dissect.MaskFn) (H : Crypto.Prims) (Pc : Cipher.Prims) (info : Nat → Pipeline.Info)
open TLX.Quic.UdpOut TLX.Props.C02Out

theorem keys_of_bad (L : SealLaws Pc) (dcid0 : Bytes) (sel selR : SuiteSel) (sh ch sa ca e : Bytes) (t : Trk)
    (ecs : Option SuiteSel) (d : DgX) (h : XDgBad maskFn H Pc L dcid0 sel selR sh ch sa ca e t ecs d) : (noZr d).Keys := by
  refine ⟨?_, ?_⟩
  · intro q hq; cases hq
  · intro o ho
    obtain ⟨o1, o2, _⟩ := h.short o ho
    exact ⟨o2, o1⟩

theorem keys_of_ys (L : SealLaws Pc) (dcid0 : Bytes) (sel selR : SuiteSel) (sh ch sa ca e : Bytes) (t : Trk)
    (ecs : Option SuiteSel) (ds : List DgY) (h : YDgs maskFn H Pc L dcid0 sel selR sh ch sa ca e t ecs ds) :
    ∀ d ∈ ds.map DgY.eff, d.Keys := by
  induction ds generalizing t ecs with
  | nil => intro d hd; cases hd
  | cons a rest ih =>
    intro d hd
    rcases List.mem_cons.mp hd with rfl | hd
    · obtain ⟨x, good⟩ := a
      cases good with
      | true =>
        have : XDgOkE maskFn H Pc L dcid0 sel selR sh ch sa ca e t ecs x := by simpa [YDgOk] using h.1
        simpa [DgY.eff] using keys_of_ok maskFn H Pc L dcid0 sel selR sh ch sa ca e t ecs _ this
      | false =>
        have : XDgBad maskFn H Pc L dcid0 sel selR sh ch sa ca e t ecs x := by simpa [YDgOk] using h.1
        simpa [DgY.eff] using keys_of_bad maskFn H Pc L dcid0 sel selR sh ch sa ca e t ecs _ this
    · exact ih _ _ h.2 d hd

/-- **the connection from any state of the handshake phase**: the first datagram finds, behind the prologue of
    `handle_packet`, a state that agrees with the bookkeeping `t0` and the last-call suite `ecs0` (a fresh session:
    `feedPre_fresh`; after a Retry: `retry_sim`), nothing exportable is in `output_buffer`; datagrams of two kinds — 0-RTT
    packets the tool decrypts, 0-RTT packets of the wrong suite, which are simply missing —; the key log needs the early
    secret only where a datagram has 0-RTT packets. `c0`: the connection object when it was created. -/
theorem _root_.TLX.Props.C02All.quic_connection_exact_from (hl : H.Lawful) (L : SealLaws Pc)
    (dcid0 cr csel ch sh ca sa : Bytes) (early : Option Bytes) (e : Bytes) (sel selR : SuiteSel) (csR : Bytes)
    (hsel : selectSuite csel = some sel) (hselR : selectSuite csR = some selR)
    (ho : (hashOf H sel.hash).outLen < 65536)
    (hsa : sa.length = (hashOf H sel.hash).outLen) (hca : ca.length = (hashOf H sel.hash).outLen)
    (t0 : Trk) (ecs0 : Option SuiteSel)
    (kl0 : List Keylog.Key) (p0 : MainLoop.Pkt) (d0 : DgY) (itemsA : List (List Keylog.Key × MainLoop.Pkt × DgY))
    (hkl : ∀ x ∈ (kl0, p0, d0) :: itemsA, KeylogHas x.1 cr ch sh ca sa early)
    (he : ∀ d ∈ d0 :: itemsA.map (·.2.2), d.x.zr ≠ [] → early = some e)
    {c0 : QConn} (c : QConn) (h0 : SameEnds c0 c) (hr : c.raised = none) (hout0 : expo c.st.out = [])
    (hsim : Sim H dcid0 ch sh ca sa early sel ⟨t0, ecs0⟩ (feedPre H (params H Pc kl0) c.st d0.x.dcid (sver d0.x.ver)))
    (hok : YDgs maskFn H Pc L dcid0 sel selR sh ch sa ca e t0 ecs0 (d0 :: itemsA.map (·.2.2)))
    (htr : PTrace cr csel t0.core (allInsM ((d0 :: itemsA.map (·.2.2)).map (·.x.base))))
    (hcar : ∀ x ∈ (kl0, p0, d0) :: itemsA,
      CarriesX info c0 (DgX.wire H Pc L dcid0 sel selR sh ch sa ca e) x.2.1 x.2.2.x)
    (hkeyed : (((d0 :: itemsA.map (·.2.2)).map DgY.eff).foldl Trk.dgx t0).keyed = true)
    (itemsB : List (List Keylog.Key × MainLoop.Pkt × Dg1))
    (hcarB : ∀ x ∈ itemsB, Carries info c0
      (wireOf H Pc L sel .v1 (rfcGen (hashOf H sel.hash) sel.keyLen sa ca 0)) x.2.1 x.2.2)
    (hsend : Send1 maskFn H Pc L sel .v1 (rfcGen (hashOf H sel.hash) sel.keyLen sa ca 0)
      (quicHp (hashOf H sel.hash) ca sel.keyLen) (quicHp (hashOf H sel.hash) sa sel.keyLen)
      (chachaOf (((d0 :: itemsA.map (·.2.2)).map DgY.eff).foldl Trk.dgx t0).core) 0 0
      (((d0 :: itemsA.map (·.2.2)).map DgY.eff).foldl Trk.dgx t0).tc.app
      (((d0 :: itemsA.map (·.2.2)).map DgY.eff).foldl Trk.dgx t0).ts.app
      (((d0 :: itemsA.map (·.2.2)).map DgY.eff).foldl Trk.dgx t0).cc
      (((d0 :: itemsA.map (·.2.2)).map DgY.eff).foldl Trk.dgx t0).sc
      (itemsB.map (·.2.2)))
    (hadj : DistinctAdjacent false (((d0 :: itemsA.map (·.2.2)).map DgY.eff).map inDgX ++
      (itemsB.map (·.2.2)).map fun d => inDg d.x)) :
    let QM := quicMachine maskFn H Pc info
    let c1 := yFeedAll QM c ((kl0, p0, d0) :: itemsA)
    (feedAll QM c1 itemsB).raised = none ∧
    QM.out false (feedAll QM c1 itemsB) =
      expectedOutX c0 ((d0 :: itemsA.map (·.2.2)).map DgY.eff) (itemsB.map (·.2.2)) ∧
    c1.raised = none ∧ SameEnds c0 c1 ∧
    ∃ ecs', Sim H dcid0 ch sh ca sa early sel ⟨((d0 :: itemsA.map (·.2.2)).map DgY.eff).foldl Trk.dgx t0, ecs'⟩ c1.st := by
  intro QM c1
  have hkeys := keys_of_ys maskFn H Pc L dcid0 sel selR sh ch sa ca e t0 ecs0 _ hok
  have hk := keysWf_rfc H hl Pc [] csel sel hsel .v1 ho sa ca hsa hca
  have hrun : ((d0 :: itemsA.map (·.2.2)).foldl (yView.after (pevK maskFn H Pc L dcid0 ch sh early e sel selR)) ⟨t0, ecs0⟩).t =
      ((d0 :: itemsA.map (·.2.2)).map DgY.eff).foldl Trk.dgx t0 := yView_dgx ..
  obtain ⟨r1, r2, r3, r4, r5⟩ := conn_from (V := yView) (steps_pev hl hsel hselR) hk kl0 p0 d0 itemsA hkl ⟨t0, ecs0⟩ c h0 hr hout0
    hsim (yView_oks hk _ he t0 ecs0 hok) (by rw [yView_ins]; exact htr) (fun x hx => carriesG_of_Y (hcar x hx))
    hrun hkeyed _
    (by rw [yView_out]; exact framesOf_inDgX _ hkeys) itemsB hcarB hsend hadj
  rw [show c1 = feedG yView QM c ((kl0, p0, d0) :: itemsA) from yFeedAll_eq ..]
  rw [out_mixed c0 _ hkeys] at r2
  refine ⟨r1, r2, r3, r4,
    ((d0 :: itemsA.map (·.2.2)).foldl (yView.after (pevK maskFn H Pc L dcid0 ch sh early e sel selR)) ⟨t0, ecs0⟩).ecs, ?_⟩
  rw [← hrun]
  exact r5

/-- **C02 with 0-RTT, the stronger form: 0-RTT packets that do not satisfy the suite condition are simply missing,
    everything else is exact.** `quic_connection_exact_0rtt` with datagrams of two kinds (`DgY.good`): those whose 0-RTT
    packets reach the tool while its Early keys are the client's (`XDgOkE`), and those whose 0-RTT packets
    reach it while it holds the Early keys of ANOTHER suite (`XDgBad`: before the ServerHello, when the first offered suite
    is not the resumed one). Hypothesis on the primitives for the latter, and the only one: `RejectedT` — the AEAD check
    the tool performs on the packet, with ITS early key and whatever packet-number bytes ITS header-protection mask
    yields, fails. Then nothing raises, and the export is exactly that of the history WITHOUT those packets
    (`DgY.eff`): their data is missing, every other datagram — 0-RTT data of good datagrams, all 1-RTT data — is there,
    with its time and direction. Still outside (open finding `early-data-lost`): 0-RTT packets before the ClientHello
    is complete — no Early header-protection key at all, `extract_quic_packet` fails and drops the rest of the datagram. -/
theorem quic_connection_exact_0rtt_any (hl : H.Lawful) (h32 : H.sha256.outLen = 32) (L : SealLaws Pc)
    (cr csel ch sh ca sa e : Bytes) (sel selR : SuiteSel) (csR : Bytes) (hsel : selectSuite csel = some sel)
    (hselR : selectSuite csR = some selR)
    (ho : (hashOf H sel.hash).outLen < 65536)
    (hsa : sa.length = (hashOf H sel.hash).outLen) (hca : ca.length = (hashOf H sel.hash).outLen)
    (kl0 : List Keylog.Key) (p0 : MainLoop.Pkt) (d0 : DgY) (itemsA : List (List Keylog.Key × MainLoop.Pkt × DgY))
    (hkl : ∀ x ∈ (kl0, p0, d0) :: itemsA, KeylogHas x.1 cr ch sh ca sa (some e))
    (c : QConn) (hc : Fresh H Pc c) (hd0 : d0.x.ver = .v1)
    (hok : YDgs maskFn H Pc L d0.x.dcid sel selR sh ch sa ca e trk0 none (d0 :: itemsA.map (·.2.2)))
    (htr : PTrace cr csel {} (allInsM ((d0 :: itemsA.map (·.2.2)).map (·.x.base))))
    (hcar : ∀ x ∈ (kl0, p0, d0) :: itemsA,
      CarriesX info c (DgX.wire H Pc L d0.x.dcid sel selR sh ch sa ca e) x.2.1 x.2.2.x)
    (hkeyed : (((d0 :: itemsA.map (·.2.2)).map DgY.eff).foldl Trk.dgx trk0).keyed = true)
    (itemsB : List (List Keylog.Key × MainLoop.Pkt × Dg1))
    (hcarB : ∀ x ∈ itemsB, Carries info c
      (wireOf H Pc L sel .v1 (rfcGen (hashOf H sel.hash) sel.keyLen sa ca 0)) x.2.1 x.2.2)
    (hsend : Send1 maskFn H Pc L sel .v1 (rfcGen (hashOf H sel.hash) sel.keyLen sa ca 0)
      (quicHp (hashOf H sel.hash) ca sel.keyLen) (quicHp (hashOf H sel.hash) sa sel.keyLen)
      (chachaOf (((d0 :: itemsA.map (·.2.2)).map DgY.eff).foldl Trk.dgx trk0).core) 0 0
      (((d0 :: itemsA.map (·.2.2)).map DgY.eff).foldl Trk.dgx trk0).tc.app
      (((d0 :: itemsA.map (·.2.2)).map DgY.eff).foldl Trk.dgx trk0).ts.app
      (((d0 :: itemsA.map (·.2.2)).map DgY.eff).foldl Trk.dgx trk0).cc
      (((d0 :: itemsA.map (·.2.2)).map DgY.eff).foldl Trk.dgx trk0).sc
      (itemsB.map (·.2.2)))
    (hadj : DistinctAdjacent false (((d0 :: itemsA.map (·.2.2)).map DgY.eff).map inDgX ++
      (itemsB.map (·.2.2)).map fun d => inDg d.x)) :
    let QM := quicMachine maskFn H Pc info
    let c1 := yFeedAll QM c ((kl0, p0, d0) :: itemsA)
    (feedAll QM c1 itemsB).raised = none ∧
    QM.out false (feedAll QM c1 itemsB) =
      expectedOutX c ((d0 :: itemsA.map (·.2.2)).map DgY.eff) (itemsB.map (·.2.2)) := by
  intro QM c1
  obtain ⟨hr, hout0, hsim0⟩ := hc.sim kl0 h32 d0.x.dcid sel ch sh ca sa (some e)
  obtain ⟨r1, r2, _⟩ := C02All.quic_connection_exact_from maskFn H Pc info hl L d0.x.dcid cr csel ch sh ca sa (some e) e sel selR csR
    hsel hselR ho hsa hca trk0 none kl0 p0 d0 itemsA hkl (fun _ _ _ => rfl) c (SameEnds.refl c) hr hout0
    (by rw [hd0]; exact hsim0) hok htr hcar hkeyed itemsB hcarB hsend hadj
  exact ⟨r1, r2⟩

end YFinal

end TLX.Props.C02Zr
