/-
END TO END — theorems about the whole program as ONE function, `TLX.Export.exportFile`: capture-file bytes and key-log
text in, output-file bytes (or the way the run dies) out.  Every theorem holds for EVERY capture byte string, key-log
text, option vector, legacy flag, hash suite `H`, cipher primitives `P` and header-protection mask: no hypothesis on the
input at all.

What ties `exportFile` to the real tool: harness/file_corr.py runs the real CLI and `tlxdriver pipeline` (op `runfile` =
`exportFile` with Lean's hashes, the toy ciphers and the toy mask) on the same files and compares the OUTPUT FILES byte
for byte on every run.

* `export_wellformed` (C06 end to end)   whatever is written is a well-formed pcapng of well-formed frames;
* `export_ignores_prior_state`, `export_is_function` (C18 end to end)   the outcome is a function of the inputs alone;
* `export_total`, `export_badOptions_iff`, `export_abort_ingest_iff`, `export_abort_write_iff`, `abort_kinds`
                                          how a run can end, exactly;
* `export_demux_tls`, `export_demux_frames` (C04 end to end, at frame level)   captures with disjoint TCP flows.

The one fact about the input side that needed proof: every MAC / IP address that reaches an output frame has the right
length (`Lemmas.DissectAddr.dissect_addr_lengths`: dpkt never hands the tool other lengths — UNCONDITIONALLY, through VLAN /
MPLS / ISL nesting and the second `_unpack_data` pass; `Lemmas.Export.framesFrom_wf`).
-/
import TLX.Lemmas.Export
import TLX.Props.C06Bytes
import TLX.Props.C18
import TLX.Props.C04
import TLX.Crypto.Hash
import TLX.Crypto.Toy
namespace TLX.Props.Export
open TLX TLX.MainLoop TLX.Export TLX.OutBytes TLX.Lemmas.Export
open TLX.Spec.Rfc1071 TLX.Spec.FrameParse TLX.Spec.PcapngWalk
open TLX.Container (Item)

variable (mask : Quic.Dissect.MaskFn) (H : Crypto.Prims) (P : Cipher.Prims)

/-- the options the loop runs with, or the exception `run()` ends with before anything is read -/
def optsE (args : Args) : Except Options.Err Opts :=
  match Options.getPortMap Options.Src.bare args.mArg with
  | .error e => .error e
  | .ok pm =>
    match Options.serverPorts Options.Src.builtin Options.Src.pDefault args.pArg with
    | .error e => .error e
    | .ok ports => .ok ⟨ports, args.checksumTest, args.greasy, args.metadata, Options.keepOriginalPorts args.mArg, pm⟩


/-- **what `run()` hands to the writer**, for every option vector: the exception of the option parser, or `exportAll` of the
    loop's final state, the loop started from the `-s` keys with no sessions (whatever the module state was before) -/
theorem framesFrom_eq (info : Nat → Pipeline.Info) (prior : Prior) (args : Args) (fk : Option (List Keylog.Key))
    (xs : List (MainLoop.Item Keylog.Key)) :
    framesFrom mask H P prior args fk xs info =
      (optsE args).map fun o =>
        exportAll (Pipeline.tlsMachine H P info) (QuicPipeline.quicMachine mask H P info) o
          (runItems (Pipeline.tlsMachine H P info) (QuicPipeline.quicMachine mask H P info) o ⟨fk.getD [], [], []⟩ xs) := by
  unfold framesFrom runFrom body optsE
  rw [C18.reset_is_fresh]
  have hsp : (freshState : Prior).serverPorts = Options.Src.builtin := rfl
  rw [hsp]
  cases Options.getPortMap Options.Src.bare args.mArg with
  | error e => rfl
  | ok pm => cases Options.serverPorts Options.Src.builtin Options.Src.pDefault args.pArg <;> rfl

theorem optionsBad_eq (prior : Prior) (args : Args) : optionsBad prior args = (optsE args).toOption.isNone := by
  unfold optionsBad optsE
  rw [C18.reset_is_fresh]
  have hsp : (freshState : Prior).serverPorts = Options.Src.builtin := rfl
  rw [hsp]
  cases Options.getPortMap Options.Src.bare args.mArg with
  | error e => rfl
  | ok pm => cases Options.serverPorts Options.Src.builtin Options.Src.pDefault args.pArg <;> rfl

/-- option parsing is the only source of `Options.Err`, and it does not look at the capture -/
theorem framesFrom_error_iff (prior : Prior) (args : Args) (fk : Option (List Keylog.Key))
    (xs : List (MainLoop.Item Keylog.Key)) (info : Nat → Pipeline.Info) :
    (∃ e, framesFrom mask H P prior args fk xs info = .error e) ↔ optionsBad prior args = true := by
  rw [framesFrom_eq, optionsBad_eq]
  cases optsE args with
  | error e => exact iff_of_true ⟨e, rfl⟩ rfl
  | ok o => exact iff_of_false (fun ⟨_, h⟩ => nomatch h) (fun h => nomatch h)

/-- the three stages, for a run that gets past option parsing -/
theorem exportFrom_stages (prior : Prior) (args : Args) (legacy : Bool) (keyFile : Option Keylog.Str) (capture : Bytes)
    (hopt : optionsBad prior args = false) :
    (∃ e, Ingest.itemsWith Keylog.srcHexClass args.checksumTest legacy capture = .error e ∧
        exportFrom mask H P prior args legacy keyFile capture = .abort (.ingest e)) ∨
    (∃ xs is out, Ingest.itemsWith Keylog.srcHexClass args.checksumTest legacy capture = .ok (xs, is) ∧
        framesFrom mask H P prior args (fileKeysOf keyFile) xs (Ingest.lookup is) = .ok out ∧
        ((∃ e, fileOf out = .error e ∧ exportFrom mask H P prior args legacy keyFile capture = .abort (.write e)) ∨
         (∃ f, fileOf out = .ok f ∧ exportFrom mask H P prior args legacy keyFile capture = .file f))) := by
  unfold exportFrom
  rw [hopt]
  simp only [Bool.false_eq_true, if_false]
  cases hi : Ingest.itemsWith Keylog.srcHexClass args.checksumTest legacy capture with
  | error e => exact .inl ⟨e, rfl, rfl⟩
  | ok v =>
    obtain ⟨xs, is⟩ := v
    right
    cases hf : framesFrom mask H P prior args (fileKeysOf keyFile) xs (Ingest.lookup is) with
    | error e =>
      have := (framesFrom_error_iff mask H P prior args (fileKeysOf keyFile) xs (Ingest.lookup is)).mp ⟨e, hf⟩
      rw [hopt] at this; cases this
    | ok out =>
      refine ⟨xs, is, out, rfl, hf, ?_⟩
      simp only [hf]
      cases hw : fileOf out with
      | error e => exact .inl ⟨e, rfl, by simp only⟩
      | ok f => exact .inr ⟨f, rfl, by simp only⟩

/-- what C06 asks of one frame of the output file: `b` is what scapy serialised for the abstract frame `fr`; the
    independent receiver (`Spec.FrameParse`, every length field checked, no trailing bytes) reads exactly the frame's
    addresses, ports and payload out of it; its transport checksum is valid for the RFC 1071 receiver AND for the tool's own
    `-c` test; an IPv4 header checksum verifies; and every length field is the length it describes. -/
structure GoodFrame (fr : Frame) (b : Bytes) : Prop where
  wf : fr.WF
  serialised : serializeFrame fr = .ok b
  parses : ∃ p, parse b = some p ∧ p.srcMac = fr.srcMac ∧ p.dstMac = fr.dstMac ∧ p.v6 = fr.ipv6 ∧
    p.src = fr.src.ip ∧ p.dst = fr.dst.ip ∧ p.sport = fr.src.port ∧ p.dport = fr.dst.port ∧ p.payload = fr.payload ∧
    verdict (match fr.l4 with
      | .tcp .. => .tcp
      | .udp => .udp) p.v6 p.src p.dst p.segment = .valid ∧
    Checksum.check (Lemmas.OutBytes.kOf fr.l4) p.v6 p.src p.dst (Lemmas.OutBytes.kOf fr.l4).num p.segment = .ok true
  ipv4Header : fr.ipv6 = false → ocSum (words ((b.drop 14).take 20)) = 0xFFFF
  lengths :
    let ip := b.drop 14
    let hl := if fr.ipv6 then 40 else 20
    let l4 := ip.drop hl
    b.length = 14 + ip.length ∧ ip.length = hl + l4.length ∧
    (fr.ipv6 = false → u8 ip 0 % 16 = 5 ∧ u16 ip 2 = 20 + l4.length) ∧
    (fr.ipv6 = true → u16 ip 4 = l4.length) ∧
    (match fr.l4 with
     | .tcp .. => u8 l4 12 / 16 = 5 ∧ l4.length = 20 + fr.payload.length
     | .udp => u16 l4 4 = 8 + fr.payload.length ∧ l4.length = 8 + fr.payload.length)

theorem goodFrame_of (fr : Frame) (b : Bytes) (hwf : fr.WF) (hs : serializeFrame fr = .ok b) : GoodFrame fr b := by
  refine ⟨hwf, hs, ?_, C06Bytes.ipv4_header_checksum_valid fr b hwf hs, C06Bytes.length_fields_consistent fr b hwf hs⟩
  obtain ⟨p, hp, hv⟩ := C06Bytes.l4_checksum_valid fr b hwf hs
  obtain ⟨p', hp', hc⟩ := C06Bytes.l4_check_accepts fr b hwf hs
  obtain ⟨seg, hp''⟩ := C06Bytes.parse_serialize fr b hwf hs
  rw [hp] at hp' hp''
  cases Option.some.inj hp'
  have := Option.some.inj hp''
  subst this
  exact ⟨_, hp, rfl, rfl, rfl, rfl, rfl, rfl, rfl, rfl, hv, hc⟩

/-- **C06 end to end.** Whenever the program writes an output file `f` — for any capture bytes, key log, options and
    primitives — there are the exported frames `frs` (what the main loop handed to the writer) and their serialisations
    `bs` such that
    * `f` is a well-formed pcapng: a sequence of blocks tiling the file (`walk`: total lengths ≥ 12, multiples of 4, equal
      to their trailing copies), namely the Section Header Block, ONE Interface Description Block (Ethernet, the snaplen
      of the source, `Gen.writerSnaplen`) and one Enhanced Packet Block per frame, in order, on that interface, whose
      Captured Packet Length = Original Packet Length = the frame's length ≤ that snaplen (`C06Bytes.caplen_le_snaplen`;
      the inequality is checked against the literal REGENERATED from `run()`);
    * the tool's own reader reads `f` back as exactly these frames with their microsecond time stamps;
    * every frame is a `GoodFrame`: parses with the independent parser to the abstract frame's fields, all length
      fields consistent, IPv4 header checksum and TCP/UDP checksum valid, accepted by the tool's own `-c`. -/
theorem export_wellformed (args : Args) (legacy : Bool) (keyFile : Option Keylog.Str) (capture f : Bytes)
    (h : exportFile mask H P args legacy keyFile capture = .file f) :
    ∃ (frs : List Frame) (bs : List Bytes), bs.length = frs.length ∧
      walk f = some (
        (0x0A0D0D0A, Spec.Containers.u32 .le 0x1A2B3C4D ++ (Spec.Containers.u16 .le 1 ++ (Spec.Containers.u16 .le 0 ++
          Spec.Containers.u64 .le (2 ^ 64 - 1)))) ::
        (1, Spec.Containers.u16 .le 1 ++ (Spec.Containers.u16 .le 0 ++ Spec.Containers.u32 .le Gen.writerSnaplen)) ::
        (frs.zip bs).map fun fb => (6, C06Bytes.epbBody (fb.2, fb.1.ts))) ∧
      Container.read false f = .ok ((frs.zip bs).map fun fb => Item.pkt ⟨fb.1.ts, 10 ^ 6, 0, false⟩ fb.2) ∧
      (∀ fb ∈ frs.zip bs, GoodFrame fb.1 fb.2) ∧
      ∀ fb ∈ frs.zip bs, Container.fld .le (C06Bytes.epbBody (fb.2, fb.1.ts)) 12 4 = fb.2.length ∧
        Container.fld .le (C06Bytes.epbBody (fb.2, fb.1.ts)) 16 4 = fb.2.length ∧ fb.2.length ≤ Gen.writerSnaplen := by
  unfold exportFile at h
  by_cases hopt : optionsBad freshState args = true
  · unfold exportFrom at h; rw [if_pos hopt] at h; cases h
  have hopt : optionsBad (freshState : Prior) args = false := by simpa using hopt
  rcases exportFrom_stages mask H P freshState args legacy keyFile capture hopt with
    ⟨e, _, he⟩ | ⟨xs, is, out, hi, hf, hw⟩
  · rw [he] at h; cases h
  rcases hw with ⟨e, _, he⟩ | ⟨f', hw, he⟩
  · rw [he] at h; cases h
  rw [he] at h
  cases h
  -- the frames
  have hwf : ∀ q ∈ out, (Frame.ofOutPkt q).WF :=
    framesFrom_wf mask H P freshState args _ xs _ out (itemsWith_good _ _ _ _ _ _ hi) hf
  have hwf' : ∀ fr ∈ out.map Frame.ofOutPkt, fr.WF := by
    intro fr hfr
    simp only [List.mem_map] at hfr
    obtain ⟨q, hq, rfl⟩ := hfr
    exact hwf q hq
  have hw' : fileOfFrames (out.map Frame.ofOutPkt) = .ok f := hw
  generalize out.map Frame.ofOutPkt = frs at hwf' hw'
  have hall := Lemmas.OutBytes.fileOfFrames_ok frs f hw'
  have heq := Lemmas.OutBytes.fileOfFrames_eq frs hall
  have hp : pcapng (frs.map fun fr => (Lemmas.OutBytes.frameBytes fr, fr.ts)) = .ok f := by
    rw [← heq]; exact hw'
  refine ⟨frs, frs.map Lemmas.OutBytes.frameBytes, by simp, ?_, ?_, ?_, ?_⟩
  · rw [(C06Bytes.pcapng_wellformed _ f hp).1]
    simp only [C06Bytes.zip_map_self, List.map_map]
    rfl
  · rw [C06Bytes.pcapng_roundtrip _ f hp]
    simp only [C06Bytes.zip_map_self, List.map_map]
    rfl
  · intro fb hfb
    rw [C06Bytes.zip_map_self, List.mem_map] at hfb
    obtain ⟨fr, hfr, rfl⟩ := hfb
    exact goodFrame_of fr _ (hwf' fr hfr) (Lemmas.OutBytes.serialize_of_fits (hall fr hfr).1)
  · intro fb hfb
    rw [C06Bytes.zip_map_self, List.mem_map] at hfb
    obtain ⟨fr, hfr, rfl⟩ := hfb
    obtain ⟨h12, h16⟩ := (C06Bytes.pcapng_wellformed _ f hp).2 (Lemmas.OutBytes.frameBytes fr, fr.ts)
      (List.mem_map.mpr ⟨fr, hfr, rfl⟩)
    exact ⟨h12, h16, Nat.le_trans (Lemmas.OutBytes.frameBytes_le fr (hwf' fr hfr) (hall fr hfr).1)
      C06Bytes.snaplen_covers_every_frame⟩

/-- **C18 end to end.** Whatever an earlier `run()` in the same interpreter left in the four module-level lists, the
    outcome — output file bytes, or how the run dies — is the same. -/
theorem export_ignores_prior_state (prior prior' : Prior) (args : Args) (legacy : Bool) (keyFile : Option Keylog.Str)
    (capture : Bytes) :
    exportFrom mask H P prior args legacy keyFile capture = exportFrom mask H P prior' args legacy keyFile capture := by
  have hopt : optionsBad prior args = optionsBad prior' args := rfl
  have hfr : ∀ fk xs info, framesFrom mask H P prior args fk xs info = framesFrom mask H P prior' args fk xs info := by
    intro fk xs info
    unfold framesFrom
    rw [C18.run_ignores_prior_state _ _ prior prior']
  unfold exportFrom
  rw [hopt]
  split
  · rfl
  · split
    · rfl
    · rw [hfr]

/-- The outcome is a function of (option vector, `-l`, key-log text, capture bytes) — and of nothing else: in particular
    `exportFile` (a fresh interpreter) is that function. -/
theorem export_is_function (prior : Prior) (args : Args) (legacy : Bool) (keyFile : Option Keylog.Str) (capture : Bytes) :
    exportFrom mask H P prior args legacy keyFile capture = exportFile mask H P args legacy keyFile capture :=
  export_ignores_prior_state mask H P prior freshState args legacy keyFile capture

/-- no output and a message: exactly when a `-p` / `-m` value is unusable — whatever the capture and the key log are -/
theorem export_badOptions_iff (args : Args) (legacy : Bool) (keyFile : Option Keylog.Str) (capture : Bytes) :
    exportFile mask H P args legacy keyFile capture = .badOptions ↔ optionsBad (freshState : Prior) args = true := by
  unfold exportFile
  constructor
  · intro h
    by_cases hopt : optionsBad (freshState : Prior) args = true
    · exact hopt
    · have hopt : optionsBad (freshState : Prior) args = false := by simpa using hopt
      rcases exportFrom_stages mask H P freshState args legacy keyFile capture hopt with
        ⟨e, _, he⟩ | ⟨xs, is, out, _, _, ⟨e, _, he⟩ | ⟨f, _, he⟩⟩ <;> rw [he] at h <;> cases h
  · intro hopt
    unfold exportFrom; rw [if_pos hopt]

/-- the run dies in the read loop with `e`: exactly when the options are usable and `Ingest` (reader, DSB decoding, dpkt
    dissection, `-c` arithmetic) raises `e` on the capture -/
theorem export_abort_ingest_iff (args : Args) (legacy : Bool) (keyFile : Option Keylog.Str) (capture : Bytes)
    (e : Ingest.Err) :
    exportFile mask H P args legacy keyFile capture = .abort (.ingest e) ↔
      optionsBad (freshState : Prior) args = false ∧
      Ingest.itemsWith Keylog.srcHexClass args.checksumTest legacy capture = .error e := by
  unfold exportFile
  constructor
  · intro h
    by_cases hopt : optionsBad (freshState : Prior) args = true
    · unfold exportFrom at h; rw [if_pos hopt] at h; cases h
    · have hopt : optionsBad (freshState : Prior) args = false := by simpa using hopt
      rcases exportFrom_stages mask H P freshState args legacy keyFile capture hopt with
        ⟨e', hi, he⟩ | ⟨xs, is, out, _, _, ⟨e', _, he⟩ | ⟨f, _, he⟩⟩ <;> rw [he] at h <;> cases h
      exact ⟨hopt, hi⟩
  · intro ⟨hopt, hi⟩
    rcases exportFrom_stages mask H P freshState args legacy keyFile capture hopt with
      ⟨e', hi', he⟩ | ⟨xs, is, out, hi', _⟩
    · rw [hi] at hi'; cases hi'; exact he
    · rw [hi] at hi'; cases hi'

/-- the run dies in the write loop with `e` (a truncated file is left): exactly when the options are usable, the capture
    is read to the end, and scapy / dpkt raise `e` on one of the exported frames (`C06Bytes.fileOf_ok_iff`: a port ≥ 2^16 —
    possible with `-m 443:70000` —, a sequence number ≥ 2^32, an IP length above 65535, a time stamp ≥ 2^64 µs) -/
theorem export_abort_write_iff (args : Args) (legacy : Bool) (keyFile : Option Keylog.Str) (capture : Bytes)
    (e : OutBytes.Err) :
    exportFile mask H P args legacy keyFile capture = .abort (.write e) ↔
      optionsBad (freshState : Prior) args = false ∧
      ∃ xs is out, Ingest.itemsWith Keylog.srcHexClass args.checksumTest legacy capture = .ok (xs, is) ∧
        framesFrom mask H P freshState args (fileKeysOf keyFile) xs (Ingest.lookup is) = .ok out ∧
        fileOf out = .error e := by
  unfold exportFile
  constructor
  · intro h
    by_cases hopt : optionsBad (freshState : Prior) args = true
    · unfold exportFrom at h; rw [if_pos hopt] at h; cases h
    · have hopt : optionsBad (freshState : Prior) args = false := by simpa using hopt
      rcases exportFrom_stages mask H P freshState args legacy keyFile capture hopt with
        ⟨e', _, he⟩ | ⟨xs, is, out, hi, hf, ⟨e', hw, he⟩ | ⟨f, _, he⟩⟩ <;> rw [he] at h <;> cases h
      exact ⟨hopt, xs, is, out, hi, hf, hw⟩
  · intro ⟨hopt, xs, is, out, hi, hf, hw⟩
    rcases exportFrom_stages mask H P freshState args legacy keyFile capture hopt with
      ⟨e', hi', _⟩ | ⟨xs', is', out', hi', hf', hw'⟩
    · rw [hi] at hi'; cases hi'
    · rw [hi] at hi'; cases hi'
      rw [hf] at hf'; cases hf'
      rcases hw' with ⟨e', hw', he⟩ | ⟨f, hw', _⟩
      · rw [hw] at hw'; cases hw'; exact he
      · rw [hw] at hw'; cases hw'

/-- **Totality, with the ways to die listed.** Every run ends in exactly one of four ways: an output file; a message about
    `-p`/`-m`; an exception of the read loop (the 4 classes of `Ingest.Err`: a reader error — 11 kinds of `Container.Err` —,
    `UnicodeDecodeError` on a DSB, one of the 6 exception classes that leave `dpkt.ethernet.Ethernet(buf)`, `OverflowError`
    in the `-c` arithmetic); an exception of the write loop (`ValueError` / `struct.error` from scapy or dpkt). -/
theorem export_total (args : Args) (legacy : Bool) (keyFile : Option Keylog.Str) (capture : Bytes) :
    (∃ f, exportFile mask H P args legacy keyFile capture = .file f) ∨
    exportFile mask H P args legacy keyFile capture = .badOptions ∨
    (∃ e : Ingest.Err, exportFile mask H P args legacy keyFile capture = .abort (.ingest e)) ∨
    (∃ e : OutBytes.Err, exportFile mask H P args legacy keyFile capture = .abort (.write e)) := by
  cases h : exportFile mask H P args legacy keyFile capture with
  | file f => exact .inl ⟨f, rfl⟩
  | badOptions => exact .inr (.inl rfl)
  | abort k =>
    cases k with
    | ingest e => exact .inr (.inr (.inl ⟨e, rfl⟩))
    | write e => exact .inr (.inr (.inr ⟨e, rfl⟩))

/-- the exception kinds as the line protocol (and harness/file_corr.py) names them: these 21 and no others -/
def abortNames : List String :=
  ["container-hdr-short", "container-not-shb", "container-endianness", "container-version", "container-no-idb",
   "container-read-neg", "container-needdata", "container-len-mismatch", "container-struct", "container-unicode",
   "container-bad-magic", "unicode", "frame-needdata", "frame-unpack", "frame-index", "frame-attribute", "frame-pack",
   "frame-recursion", "overflow", "write:value", "write:struct"]

theorem abort_kinds (k : Abort) : k.name ∈ abortNames := by
  cases k with
  | ingest e =>
    cases e with
    | container c => cases c <;> decide
    | unicode => decide
    | frame d => cases d <;> decide
    | overflow => decide
  | write e => cases e <;> decide

section Demux
open TLX.Spec.Demux TLX.Lemmas.MainLoop

variable (info : Nat → Pipeline.Info)

/-- **C04 for the composed TLS machine, whole captures.** Two captures `A`, `B` (TCP, UDP, DSBs, junk) whose TLS-relevant
    TCP packets belong to disjoint flows, merged in any interleaving `C`: for every key log `kl`, the frames the TLS
    sessions of the merged run export are a permutation of the frames of the two separate runs (whole per-session blocks
    are permuted: each session's frames stay together and in order). -/
theorem export_demux_tls (o : Opts) {A B C : List (MainLoop.Item Keylog.Key)} (hm : Merge A B C)
    (hd : ∀ a ∈ tcpView o A, ∀ b ∈ tcpView o B, sameFlow a b = false)
    (st : State Keylog.Key Pipeline.Conn QuicPipeline.QConn) (h0 : st.tls = []) (kl : List Keylog.Key) :
    let TM := Pipeline.tlsMachine H P info
    let QM := QuicPipeline.quicMachine mask H P info
    (C04.tlsExport TM (runItems TM QM o st C).tls kl).Perm
      (C04.tlsExport TM (runItems TM QM o st A).tls kl ++ C04.tlsExport TM (runItems TM QM o st B).tls kl) :=
  (C04.run_tls_sessions_merge _ _ o hm hd st h0).flatMap _

theorem tcpOnly_views (o : Opts) (keys : List Keylog.Key) (X : List (MainLoop.Item Keylog.Key))
    (h : ∀ it ∈ X, ∃ p, it = .frame p ∧ p.l4 = .tcp) : dsbKeys o X = [] ∧ quicView o keys X = [] := by
  induction X with
  | nil => exact ⟨rfl, rfl⟩
  | cons it rest ih =>
    obtain ⟨p, rfl, hl⟩ := h it (by simp)
    obtain ⟨i1, i2⟩ := ih (fun x hx => h x (by simp [hx]))
    have hc : (∃ q, classify o (.frame p : MainLoop.Item Keylog.Key) = .tls q) ∨
        (∃ w, classify o (.frame p : MainLoop.Item Keylog.Key) = .ignore w) := by
      simp only [classify, hl]
      split
      · exact .inr ⟨_, rfl⟩
      · split
        · exact .inr ⟨_, rfl⟩
        · exact .inl ⟨_, rfl⟩
    rcases hc with ⟨q, hq⟩ | ⟨w, hw⟩
    · exact ⟨by simp [dsbKeys, hq] at i1 ⊢; exact i1, by simp only [quicView, hq]; exact i2⟩
    · exact ⟨by simp [dsbKeys, hw] at i1 ⊢; exact i1, by simp only [quicView, hw]; exact i2⟩

/-- **… and for everything the run hands to the writer**, when the captures are TCP only: the exported frame list of the
    merged capture is a permutation of the concatenation of the two separate exports — same options, same key-log file.
    (With DSBs the three runs end with different key logs; with QUIC the hypothesis of `C04.quic_route_exact` is needed.)
    TO LIFT THIS TO FILE BYTES: the output file is SHB ++ IDB ++ one Enhanced Packet Block per frame in this order
    (`export_wellformed`), sessions in the order of their first packet in the capture; so the file of the merge is not the
    concatenation of the two files but has the same MULTISET of packet blocks (each block = `epbBody` of one frame, a
    function of the frame alone); an order-insensitive comparison of the packet blocks (or sorting sessions by first time
    stamp on both sides) is what a file-level statement needs. -/
theorem export_demux_frames (o : Opts) (keys : List Keylog.Key) {A B C : List (MainLoop.Item Keylog.Key)}
    (hm : Merge A B C) (hd : ∀ a ∈ tcpView o A, ∀ b ∈ tcpView o B, sameFlow a b = false)
    (htcp : ∀ it ∈ C, ∃ p, it = .frame p ∧ p.l4 = .tcp) :
    let TM := Pipeline.tlsMachine H P info
    let QM := QuicPipeline.quicMachine mask H P info
    (exportAll TM QM o (runItems TM QM o ⟨keys, [], []⟩ C)).Perm
      (exportAll TM QM o (runItems TM QM o ⟨keys, [], []⟩ A) ++ exportAll TM QM o (runItems TM QM o ⟨keys, [], []⟩ B)) := by
  intro TM QM
  have hA : ∀ it ∈ A, ∃ p, it = .frame p ∧ p.l4 = .tcp := fun it h => htcp it ((hm.mem it).mpr (.inl h))
  have hB : ∀ it ∈ B, ∃ p, it = .frame p ∧ p.l4 = .tcp := fun it h => htcp it ((hm.mem it).mpr (.inr h))
  obtain ⟨a1, a2⟩ := tcpOnly_views o keys A hA
  obtain ⟨b1, b2⟩ := tcpOnly_views o keys B hB
  obtain ⟨c1, c2⟩ := tcpOnly_views o keys C htcp
  rw [C18.fresh_run_is, C18.fresh_run_is, C18.fresh_run_is, a1, a2, b1, b2, c1, c2]
  simp only [quicRun_nil, List.flatMap_nil, List.append_nil]
  exact C04.tls_export_union TM o (hm.filterMap _) hd keys

end Demux

/-! ### non-vacuity: the function runs, and each kind of outcome occurs (Lean's own hashes, the toy ciphers, no mask) -/
namespace Ex
def args0 : Args := ⟨none, none, false, false, false⟩
def noMask : Quic.Dissect.MaskFn := fun _ _ _ => none
end Ex

open Ex in
/-- a capture with a TCP segment to port 80 and a short-header QUIC-looking datagram (`C06Bytes.exFile`, written by dpkt):
    nothing to decrypt, the output file is the two header blocks -/
example : exportFile noMask Crypto.realPrims Cipher.Toy.prims args0 false none C06Bytes.exFile
    = .file (OutBytes.shb ++ OutBytes.idb Gen.writerSnaplen) := by decide +kernel
open Ex in
example : exportFile noMask Crypto.realPrims Cipher.Toy.prims args0 false none []
    = .abort (.ingest (.container .hdrShort)) := by decide +kernel
open Ex in
/-- `-p x` on an unreadable capture: the option error comes first, as in main.py -/
example : exportFile noMask Crypto.realPrims Cipher.Toy.prims { args0 with pArg := some [[0x78]] } false none []
    = .badOptions := by decide +kernel
open Ex in
example : optionsBad (freshState : Prior) args0 = false := by decide +kernel

end TLX.Props.Export
