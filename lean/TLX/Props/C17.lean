/-
C17 — QUIC frames are parsed exactly; arbitrary bytes cannot hang the parser.

"Any sequence of well-formed QUIC frames is split into exactly those frames - type, length, stream
id/offset/fin/data, crypto offset/data, connection id - with every payload byte accounted for exactly
once; on arbitrary bytes the parser terminates, either returning frames or signalling an error, and
never loops or invents data beyond the packet."

Model:  TLX/Quic/Varint.lean, TLX/Quic/Frame.lean (parse_frames and every frame class of
        tlexport/quic/quic_frame.py, dispatch through TLX/Gen/FrameTable.lean regenerated from the source).
Spec:   TLX/Spec/QuicFrames.lean (RFC 9000 §16/§19, RFC 9221 §4 encoder, all varint widths, all STREAM flags),
        TLX/Spec/QuicFramesExpect.lean (what a correct parser reports: `toParsed`, `dataAt`, `startOf`).
Helper lemmas are in TLX/Lemmas/Quic*.lean; `parsed_length_eq_encoded` and `normalize_same_payload` are proved there, in
Lemmas/QuicFrameSeq.lean, where the list-level round trip needs them; `parseOne_encode` and `frames_roundtrip` are one-line copies
of `Lemmas.QuicFrames.parseOne_encode` and `Lemmas.QuicFrameSeq.frames_roundtrip` (both names of each are referred to), and
`frame_length_pos` is `Quic.Frame.parseOne_length_pos`, the name the definition of `parseFrames` rests on. All statements are for all inputs. Defines `rfcClass` (the RFC's type-byte
assignment) and, for the examples, the widths `w1 … w8` and `exampleSeq`.

Termination ("cannot hang") is carried by the *definition* of `parseFrames` (well-founded recursion on
the remaining length, accepted only because every constructed frame has length ≥ 1:
`Frame.parseOne_length_pos`); `parse_total` and `parse_progress` state its consequences.
-/
import TLX.Lemmas.QuicFrameAcct
namespace TLX.Props.C17
open TLX TLX.Quic TLX.Quic.Varint TLX.Quic.Frame TLX.Spec.QuicFrames

/-- RFC 9000 §16 round trip, every width (1/2/4/8 bytes; minimal or not), anything after the integer:
    `get_variable_length_int_length` returns the width and `decode_variable_length_int` the value —
    on the bytes from the integer on, and on exactly its `w` bytes. -/
theorem varint_roundtrip (x : VW) (v : Nat) (hv : x.fits v) (tail : Bytes) :
    getVarintLength (x.enc v ++ tail) = some x.w ∧
    decodeVarint (x.enc v ++ tail) = some v ∧
    decodeVarint ((x.enc v ++ tail).take x.w) = some v := by
  obtain ⟨b, rest, hb, hlen, hdec⟩ := Lemmas.QuicVarint.decode_enc x v hv tail
  exact ⟨by rw [hb, getVarintLength, hlen], Lemmas.QuicVarint.decodeVarint_enc x v hv tail, hdec⟩

/-- The reading idiom of the frame classes (`self.length += get_…_length(payload[i:i+1]);
    v = decode_…(payload[i:self.length])`) at any index of any payload that has the integer there. -/
theorem readVarint_roundtrip (pre tail : Bytes) (x : VW) (v : Nat) (hv : x.fits v) :
    readVarint (pre ++ (x.enc v ++ tail)) pre.length = some (v, pre.length + x.w) :=
  ((Lemmas.Cursor.At.append pre _).varint hv).1

/-- Every frame type of RFC 9000 §19 / RFC 9221 at once: the loop body of `parse_frames`, run on the
    wire image of a well-formed frame followed by arbitrary bytes, constructs exactly that frame — class,
    type byte, length = length of the wire image, every integer field, every byte-string field.
    (A frame without explicit length must be followed by nothing; a PADDING run by something that is
    not another PADDING byte — otherwise the run is longer, see `frames_roundtrip`.) -/
theorem parseOne_encode (f : QFrame) (hwf : f.wf) (tail : Bytes) (hg : f.greedy = true → tail = [])
    (hpad : f.isPadding = true → tail.head? ≠ some 0) :
    parseOne (f.encode ++ tail) = some f.toParsed :=
  Lemmas.QuicFrames.parseOne_encode f hwf tail hg hpad

theorem parseOne_ping (tail : Bytes) : parseOne ([0x01] ++ tail) = some .ping :=
  parseOne_encode .ping trivial tail nofun nofun

theorem parseOne_handshakeDone (tail : Bytes) : parseOne ([0x1e] ++ tail) = some .handshakeDone :=
  parseOne_encode .handshakeDone trivial tail nofun nofun

theorem parseOne_padding (n : Nat) (hn : 1 ≤ n) (tail : Bytes) (ht : tail.head? ≠ some 0) :
    parseOne (List.replicate n 0 ++ tail) = some (.padding n) :=
  parseOne_encode (.padding n) hn tail nofun (fun _ => ht)

theorem parseOne_crypto (off : VI) (lenW : VW) (data tail : Bytes) (h1 : off.ok) (h2 : lenW.fits data.length) :
    parseOne ([0x06] ++ off.enc ++ lenW.enc data.length ++ data ++ tail) =
      some (.crypto (1 + off.w.w + lenW.w + data.length) off.val data.length data) := by
  refine (parseOne_encode (.crypto off lenW data) ⟨h1, h2⟩ tail nofun nofun).trans
    (congrArg (fun n => some (Parsed.crypto n off.val data.length data)) ?_)
  show ([6] ++ off.enc ++ lenW.enc data.length ++ data).length = _
  simp only [List.length_append, List.length_cons, List.length_nil, VI.enc_length, VW.enc_length, Nat.zero_add]

/-- STREAM, all eight flag combinations (FIN any; OFF = `off.isSome`; LEN = `lenW.isSome`). -/
theorem parseOne_stream (fin : Bool) (sid : VI) (off : Option VI) (lenW : Option VW) (data tail : Bytes)
    (h : (QFrame.stream fin sid off lenW data).wf) (hg : lenW = none → tail = []) :
    parseOne ((QFrame.stream fin sid off lenW data).encode ++ tail) =
      some (.stream (streamType fin lenW.isSome off.isSome) (QFrame.stream fin sid off lenW data).encode.length
        fin lenW.isSome off.isSome sid.val ((optVal off).getD 0) data.length data) :=
  parseOne_encode _ h tail (by cases lenW with | none => exact fun _ => hg rfl | some _ => nofun) nofun

theorem parseOne_newConnectionId (seq rpt : VI) (cid tok tail : Bytes)
    (h : (QFrame.newConnectionId seq rpt cid tok).wf) :
    parseOne ((QFrame.newConnectionId seq rpt cid tok).encode ++ tail) =
      some (.newConnectionId (QFrame.newConnectionId seq rpt cid tok).encode.length seq.val rpt.val cid.length cid tok) :=
  parseOne_encode _ h tail nofun nofun

/-- ACK / ACK_ECN with any number of ranges. -/
theorem parseOne_ack (largest delay : VI) (cntW : VW) (first : VI) (ranges : List (VI × VI))
    (ecn : Option (VI × VI × VI)) (tail : Bytes) (h : (QFrame.ack largest delay cntW first ranges ecn).wf) :
    parseOne ((QFrame.ack largest delay cntW first ranges ecn).encode ++ tail) =
      some (.ack (if ecn.isSome then 3 else 2) (QFrame.ack largest delay cntW first ranges ecn).encode.length
        largest.val delay.val ranges.length first.val (ranges.map rangeVals) (ecnVals ecn)) :=
  parseOne_encode _ h tail nofun nofun

theorem parseOne_connectionClose (err : VI) (ft : Option VI) (lenW : VW) (reason tail : Bytes)
    (h : (QFrame.connectionClose err ft lenW reason).wf) :
    parseOne ((QFrame.connectionClose err ft lenW reason).encode ++ tail) =
      some (.connectionClose (if ft.isSome then 0x1c else 0x1d) (QFrame.connectionClose err ft lenW reason).encode.length
        err.val (optVal ft) reason.length reason) :=
  parseOne_encode _ h tail nofun nofun

theorem parseOne_datagram (lenW : Option VW) (data tail : Bytes) (h : (QFrame.datagram lenW data).wf)
    (hg : lenW = none → tail = []) :
    parseOne ((QFrame.datagram lenW data).encode ++ tail) =
      some (.datagram (if lenW.isSome then 0x31 else 0x30) (QFrame.datagram lenW data).encode.length lenW.isSome data) :=
  parseOne_encode _ h tail (by cases lenW with | none => exact fun _ => hg rfl | some _ => nofun) nofun

/-- C17, first half: any well-formed sequence of frames (any types, any order, any varint widths; frames
    without explicit length only last) is split into exactly those frames, consecutive PADDING frames
    being reported as one run. -/
theorem frames_roundtrip (fs : List QFrame) (h : WellFormedSeq fs) :
    parseFrames (encodeAll fs) = some ((normalize fs).map QFrame.toParsed) :=
  Lemmas.QuicFrameSeq.frames_roundtrip fs h

/-- C17, "every payload byte accounted for exactly once": for a well-formed sequence the returned
    frames' lengths sum to the payload length (the extents `[startOf ps i, startOf ps i + length)` tile the
    payload), and every byte-string attribute is the contiguous payload slice that lies inside its own
    frame's extent at the place the frame's integer attributes give; several attributes of one frame
    (NEW_CONNECTION_ID) are ordered and disjoint. -/
theorem bytes_accounted_once (fs : List QFrame) (h : WellFormedSeq fs) :
    ∃ ps, parseFrames (encodeAll fs) = some ps ∧
      (ps.map Parsed.length).sum = (encodeAll fs).length ∧
      ∀ i (hi : i < ps.length),
        (∀ ad ∈ (ps[i]).dataAt,
          ad.1 + ad.2.length ≤ (ps[i]).length ∧
          Bytes.slice (encodeAll fs) (startOf ps i + ad.1) (startOf ps i + ad.1 + ad.2.length) = ad.2) ∧
        (ps[i]).dataAt.Pairwise (fun x y => x.1 + x.2.length ≤ y.1) := by
  refine ⟨_, frames_roundtrip fs h, ?_⟩
  have := Lemmas.QuicFrameAcct.accounted (normalize fs)
    (Lemmas.QuicFrameAcct.wfSeq_all _ (Lemmas.QuicFrameSeq.normalize_wf fs h))
  rw [normalize_same_payload] at this
  exact this

/-- C17, second half: on EVERY byte string the parser terminates (`parseFrames` is a total function —
    its definition carries the termination proof) and either returns frames or signals an error. -/
theorem parse_total (p : Bytes) : (∃ fs, parseFrames p = some fs) ∨ parseFrames p = none := by
  cases h : parseFrames p with
  | none => exact Or.inr rfl
  | some fs => exact Or.inl ⟨fs, rfl⟩

/-- "never loops": every loop turn consumes at least one byte, so there are at most `len(payload)`
    turns; every returned frame starts inside the payload and together they cover it. -/
theorem parse_progress (p : Bytes) (fs : List Parsed) (h : parseFrames p = some fs) :
    (∀ f ∈ fs, 1 ≤ f.length) ∧ fs.length ≤ p.length ∧ p.length ≤ (fs.map Parsed.length).sum ∧
    ∀ i, i < fs.length → startOf fs i < p.length := by
  revert p fs h
  apply parseFrames_induct
  · simp
  · intro p f rest hp h1 h2 ih
    have hpos := parseOne_length_pos p f h1
    have hp0 : p.length ≠ 0 := fun h0 => hp (List.eq_nil_of_length_eq_zero h0)
    obtain ⟨ih1, ih2, ih3, ih4⟩ := ih
    simp only [List.length_drop] at ih2 ih3 ih4
    refine ⟨?_, ?_, ?_, ?_⟩
    · intro g hg
      rcases List.mem_cons.mp hg with rfl | hg
      · exact hpos
      · exact ih1 g hg
    · simp only [List.length_cons]; omega
    · simp only [List.map_cons, List.sum_cons]; omega
    · intro i hi
      cases i with
      | zero => rw [Lemmas.QuicFrameAny.startOf_zero]; omega
      | succ j =>
        rw [Lemmas.QuicFrameAny.startOf_succ]
        have := ih4 j (by simpa using hi)
        omega

/-- "accounted for exactly once", for EVERY accepted payload (well-formed or not): each payload position
    lies in the extent `[startOf fs i, startOf fs (i+1))` of exactly one returned frame. -/
theorem every_byte_in_exactly_one_frame (p : Bytes) (fs : List Parsed) (h : parseFrames p = some fs)
    (k : Nat) (hk : k < p.length) :
    ∃ i, (i < fs.length ∧ startOf fs i ≤ k ∧ k < startOf fs (i + 1)) ∧
      ∀ j, (j < fs.length ∧ startOf fs j ≤ k ∧ k < startOf fs (j + 1)) → j = i := by
  obtain ⟨hpos, _, hcover, _⟩ := parse_progress p fs h
  exact Lemmas.QuicFrameAcct.unique_extent fs hpos k (by omega)

/-- The loop body never constructs an empty frame (the obligation that makes `parseFrames` well-founded). -/
theorem frame_length_pos (p : Bytes) (f : Parsed) (h : parseOne p = some f) : 1 ≤ f.length :=
  parseOne_length_pos p f h

/-- "never invents data beyond the packet": on arbitrary bytes, every byte-string attribute of every
    returned frame is a Python slice `payload[a:b]` — a contiguous piece of the packet payload — that
    begins at or after the start of the frame it belongs to. -/
theorem no_invented_data (p : Bytes) (fs : List Parsed) (h : parseFrames p = some fs) :
    ∀ i (hi : i < fs.length), ∀ d ∈ (fs[i]).datas, ∃ a b, startOf fs i ≤ a ∧ d = Bytes.slice p a b := by
  revert p fs h
  apply parseFrames_induct
  · nofun
  · intro p f rest hp h1 h2 ih i hi d hd
    cases i with
    | zero =>
      obtain ⟨a, b, hab⟩ := parseOne_datas p f h1 d hd
      exact ⟨a, b, by simp [Lemmas.QuicFrameAny.startOf_zero], hab⟩
    | succ j =>
      obtain ⟨a, b, hab, hd'⟩ := ih j (by simpa using hi) d (by simpa using hd)
      exact ⟨f.length + a, f.length + b, by rw [Lemmas.QuicFrameAny.startOf_succ]; omega, by rw [hd', Bytes.slice_drop]⟩

/-- No byte-string attribute is longer than what is left of the payload from its frame's start on (from `no_invented_data`). -/
theorem data_within_packet (p : Bytes) (fs : List Parsed) (h : parseFrames p = some fs) :
    ∀ i (hi : i < fs.length), ∀ d ∈ (fs[i]).datas, startOf fs i + d.length ≤ p.length ∨ d = [] := by
  intro i hi d hd
  obtain ⟨a, b, hab, rfl⟩ := no_invented_data p fs h i hi d hd
  simp only [Bytes.slice, List.length_take, List.length_drop]
  by_cases hz : min (b - a) (p.length - a) = 0
  · right
    apply List.eq_nil_of_length_eq_zero
    simp only [List.length_take, List.length_drop]; exact hz
  · left; omega

/-- RFC 9000 §19 / RFC 9221 type-byte assignment, written down independently of the source. -/
def rfcClass (t : Nat) : Option Cls :=
  if t = 0x00 then some .PaddingFrame else if t = 0x01 then some .PingFrame
  else if t = 0x02 ∨ t = 0x03 then some .AckFrame else if t = 0x04 then some .ResetStreamFrame
  else if t = 0x05 then some .StopSendingFrame else if t = 0x06 then some .CryptoFrame
  else if t = 0x07 then some .NewTokenFrame else if 0x08 ≤ t ∧ t ≤ 0x0f then some .StreamFrame
  else if t = 0x10 then some .MaxDataFrame else if t = 0x11 then some .MaxStreamDataFrame
  else if t = 0x12 ∨ t = 0x13 then some .MaxStreamsFrame else if t = 0x14 then some .DataBlockedFrame
  else if t = 0x15 then some .StreamDataBlockedFrame else if t = 0x16 ∨ t = 0x17 then some .StreamsBlockedFrame
  else if t = 0x18 then some .NewConnectionIdFrame else if t = 0x19 then some .RetireConnectionIdFrame
  else if t = 0x1a then some .PathChallengeFrame else if t = 0x1b then some .PathResponseFrame
  else if t = 0x1c ∨ t = 0x1d then some .ConnectionCloseFrame else if t = 0x1e then some .HandshakeDoneFrame
  else if t = 0x30 ∨ t = 0x31 then some .DatagramFrame else none

/-- The table agrees with the RFC on every number, not only on bytes: below 0x32 by comparison; from 0x32 on neither the
    table (all its keys are smaller) nor the RFC (none of its conditions holds) has a type. -/
theorem lookup_eq_rfcClass (t : Nat) : lookup t = rfcClass t := by
  by_cases h : t < 50
  · exact (by decide +kernel : ∀ t : Fin 50, lookup t.val = rfcClass t.val) ⟨t, h⟩
  · have hl : lookup t = none := by
      cases hc : lookup t with
      | none => rfl
      | some c =>
        obtain ⟨kc, hkc, ht, -⟩ := lookup_mem _ _ hc
        exact absurd ((by decide : ∀ kc ∈ TLX.Gen.frameTable, ∀ k ∈ kc.1, k < 50) kc hkc _ ht) h
    rw [hl, rfcClass]
    repeat rw [if_neg (by omega)]

/-- The `frame_type` table of quic_frame.py (regenerated on every run), looked up the way the key loop
    of parse_frames does (last match wins), is the RFC assignment for every first byte. -/
theorem dispatch_matches_rfc : ∀ t : Fin 256, lookup t.val = rfcClass t.val :=
  fun t => lookup_eq_rfcClass t.val

def w1 : VW := ⟨0, by omega⟩
def w2 : VW := ⟨1, by omega⟩
def w4 : VW := ⟨2, by omega⟩
def w8 : VW := ⟨3, by omega⟩

/-- CRYPTO (offset 5 sent non-minimally on 4 bytes), three PADDING frames in two runs, ACK_ECN with one
    range, NEW_CONNECTION_ID, and a final STREAM with OFF and FIN but no LEN. -/
def exampleSeq : List QFrame :=
  [.crypto ⟨5, w4⟩ w2 [1, 2, 3], .padding 2, .padding 1,
   .ack ⟨1000, w2⟩ ⟨7, w8⟩ w1 ⟨0, w1⟩ [(⟨1, w1⟩, ⟨300, w2⟩)] (some (⟨1, w1⟩, ⟨2, w1⟩, ⟨3, w4⟩)),
   .newConnectionId ⟨1, w1⟩ ⟨0, w2⟩ [0xaa, 0xbb] (List.replicate 16 7),
   .stream true ⟨4, w1⟩ (some ⟨70000, w4⟩) none [9, 9]]

theorem exampleSeq_wf : WellFormedSeq exampleSeq := by
  simp [exampleSeq, WellFormedSeq, QFrame.wf, QFrame.greedy, optOk, optFits]
  decide

example : WellFormedSeq exampleSeq := exampleSeq_wf

example : (encodeAll exampleSeq).take 12 = [0x06, 0x80, 0, 0, 5, 0x40, 3, 1, 2, 3, 0, 0] := by decide

example : (normalize exampleSeq).length = 5 := by decide

example : parseFrames (encodeAll exampleSeq) = some ((normalize exampleSeq).map QFrame.toParsed) :=
  frames_roundtrip _ exampleSeq_wf

-- varint: 37 sent on 8 bytes (non-minimal) followed by junk
example : w8.fits 37 ∧ w8.enc 37 ++ [0xff] = [0xc0, 0, 0, 0, 0, 0, 0, 37, 0xff] := by decide

-- arbitrary bytes: a CRYPTO frame announcing 2^62−1 bytes yields one frame holding only what is there;
-- an ACK announcing 2^62−1 ranges is an error — neither hangs (`parse_total`), nothing is invented
example : parseOne [0x06, 0x00, 0xff, 0xff, 0xff, 0xff, 0xff, 0xff, 0xff, 0xff, 0x61] =
    some (.crypto (10 + (2 ^ 62 - 1)) 0 (2 ^ 62 - 1) [0x61]) := by decide
example : parseOne [0x18, 0x00, 0x00] = none := by decide
example : parseOne ([0x02, 0x00, 0x00, 0xff, 0xff, 0xff, 0xff, 0xff, 0xff, 0xff, 0xff, 0x00] ++ List.replicate 6 1) = none := by
  decide

-- Observation outside C17's quantifier (unknown frame types are not RFC 9000/9221 frames): GenericFrame.data
-- starts one byte after the end of the length field. For `21 01 aa bb` the frame has length 3 (= `21 01 aa`)
-- but `data` is `bb`, the first byte of the NEXT frame; still a slice of the payload (`no_invented_data`).
example : parseOne [0x21, 0x01, 0xaa, 0xbb] = some (.generic 3 1 [0xbb]) := by decide

end TLX.Props.C17
