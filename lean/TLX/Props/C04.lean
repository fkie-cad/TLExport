/-
C04 — concurrent connections are demultiplexed; each is exported as if it were alone.

Property theorems over the model of the main loop (`TLX/MainLoop.lean`), for ANY session machines (`TlsMachine`,
`QuicMachine`), any number of connections and packets. "Every interleaving" is either a statement about an arbitrary packet
list, or about an arbitrary order-preserving merge (`Spec.Demux.Merge`) of two arbitrary captures — one of which may itself be
a merge of any number of connections and unrelated traffic.

TLS over TCP needs no hypothesis: routing is by the 4-tuple only, which never changes. QUIC routing reads the sessions' CID
sets, which grow while packets are processed; `quic_route_exact` states the hypothesis under which it is exact
(`QuicSeparated`), `quic_foreign_iff` spells it out, and `quic_cross_routing_*` shows on concrete captures that each part of
it is needed. What the QUIC statements do NOT cover: they compare runs in which a datagram meets the same key log
(`QIn.kl`); that keys of other connections in the log do not change a session's decryption is a statement about the key
lookup (C09), not about the loop.

`flow_qualifies_as_a_whole`, `tls_demux_exact`, `quic_foreign_iff`, `tls_quic_independent` stand in `Lemmas/MainLoop.lean`
(lemmas there rest on them).
-/
import TLX.Lemmas.MainLoop
import TLX.Quic.Session
namespace TLX.Props.C04
open TLX TLX.MainLoop TLX.Spec.Demux TLX.Lemmas.MainLoop

variable {κ σ τ ο : Type}

theorem merge_keeps_both {α : Type} {a b m : List α} (h : Merge a b m) :
    a.Sublist m ∧ b.Sublist m ∧ m.Perm (a ++ b) :=
  ⟨h.sublist_left, h.symm.sublist_left, h.perm⟩

example : Merge [1, 2, 3] [10, 20] [1, 10, 2, 20, 3] := .left _ (.right _ (.left _ (.right _ (.left _ .nil))))

/-- The candidate test and the roles are those of the port-option model (C10). -/
theorem roles_agree_with_options (o : Opts) (p : Pkt) :
    candidate o p = Options.tlsCandidate o.ports p.src.port p.dst.port ∧
    rolesOf o.ports p =
      (if (Options.roles o.ports p.src.port p.dst.port).serverIsSender then (p.src, p.dst) else (p.dst, p.src)) ∧
    ((rolesOf o.ports p).1.port = (Options.roles o.ports p.src.port p.dst.port).serverPort) ∧
    ((rolesOf o.ports p).2.port = (Options.roles o.ports p.src.port p.dst.port).clientPort) := by
  unfold rolesOf Options.roles
  by_cases h : o.ports.contains (p.src.port : Int) = true
  · rw [if_pos h, if_pos h]; exact ⟨rfl, rfl, rfl, rfl⟩
  · rw [if_neg h, if_neg h]; exact ⟨rfl, rfl, rfl, rfl⟩

/-- The session a packet `q` would go to is the session the capture restricted to `q`'s flow produces on its own. -/
theorem tls_session_for (M : TlsMachine κ σ ο) (o : Opts) (pkts : List Pkt) (q : Pkt) :
    (tlsRun M o [] pkts).find? (·.matches q) = alone M o (pkts.filter (sameFlow q)) := by
  rw [tls_demux_exact]; exact groupByFlow_find M o q pkts

/-- `alone` (of `tls_session_for`) is literally the main loop on a capture that holds one flow only. -/
theorem tls_alone_is_run (M : TlsMachine κ σ ο) (o : Opts) (q : Pkt) (l : List Pkt) (h : ∀ x ∈ l, sameFlow q x = true) :
    tlsRun M o [] l = (alone M o l).toList := by
  rw [tls_demux_exact]
  induction l with
  | nil => simp [groupByFlow, alone]
  | cons p ps ih =>
    have hp : sameFlow q p = true := h p List.mem_cons_self
    have hps : ∀ x ∈ ps, sameFlow p x = true := fun x hx =>
      sameFlow_trans (by rw [sameFlow_symm]; exact hp) (h x (List.mem_cons_of_mem _ hx))
    rw [groupByFlow]
    by_cases hc : candidate o p = true
    · have h1 : ps.filter (sameFlow p) = ps := List.filter_eq_self.mpr hps
      have h2 : others p ps = [] := by
        simp only [others, List.filter_eq_nil_iff]
        intro x hx; simp [hps x hx]
      simp [hc, alone, h1, h2, groupByFlow]
    · have hc' : candidate o p = false := by simpa using hc
      simp only [hc', Bool.false_eq_true, if_false, alone, Option.toList]
      rw [ih fun x hx => h x (List.mem_cons_of_mem _ hx)]
      have := alone_none_of_not_candidate M o hc' hp ps
      rw [List.filter_eq_self.mpr fun x hx => h x (List.mem_cons_of_mem _ hx)] at this
      rw [this]; rfl

/-- C04 for TLS. `A`, `B`: two captures no packet of which share a flow (`B` may hold any number of other connections and
    unrelated traffic), `C` any order-preserving merge. The session of any flow of `A` is the same object — same roles, same
    state — in the run on `C` and in the run on `A` alone; so is its export under the same final key log. -/
theorem tls_solo_equals_merged (M : TlsMachine κ σ ο) (o : Opts) {A B C : List Pkt} (hm : Merge A B C)
    (hd : ∀ a ∈ A, ∀ b ∈ B, sameFlow a b = false) (q : Pkt) (hq : q ∈ A) :
    (tlsRun M o [] C).find? (·.matches q) = (tlsRun M o [] A).find? (·.matches q) ∧
    ∀ kl : List κ, ((tlsRun M o [] C).find? (·.matches q)).map (fun s => M.out s.st kl) =
                   ((tlsRun M o [] A).find? (·.matches q)).map (fun s => M.out s.st kl) := by
  have h : (tlsRun M o [] C).find? (·.matches q) = (tlsRun M o [] A).find? (·.matches q) := by
    rw [tls_session_for, tls_session_for]
    have hB : B.filter (sameFlow q) = [] := by
      simp only [List.filter_eq_nil_iff]
      intro b hb; simp [hd q hq b hb]
    have := hm.filter (sameFlow q)
    rw [hB] at this
    rw [this.eq_of_right_nil]
  exact ⟨h, fun kl => by rw [h]⟩

/-- The sessions of the merged capture are the sessions of the two captures, interleaved (each list in its own order). -/
theorem tls_sessions_merge (M : TlsMachine κ σ ο) (o : Opts) {A B C : List Pkt} (hm : Merge A B C)
    (hd : ∀ a ∈ A, ∀ b ∈ B, sameFlow a b = false) :
    Merge (tlsRun M o [] A) (tlsRun M o [] B) (tlsRun M o [] C) := by
  simp only [tlsRun_eq_router]
  refine (tlsRouter M o).run_merge hm .nil (tls_iso_of_disjoint M o A B hd) (tls_iso_of_disjoint M o B A ?_)
  intro b hb a ha
  rw [sameFlow_symm]; exact hd a ha b hb

/-- what `run()` concatenates for the TLS sessions -/
def tlsExport (M : TlsMachine κ σ ο) (ss : List (TlsSess σ)) (kl : List κ) : List ο := ss.flatMap fun s => M.out s.st kl

/-- The output of the merged capture is the union of the per-capture outputs: the per-session blocks, permuted. -/
theorem tls_export_union (M : TlsMachine κ σ ο) (o : Opts) {A B C : List Pkt} (hm : Merge A B C)
    (hd : ∀ a ∈ A, ∀ b ∈ B, sameFlow a b = false) (kl : List κ) :
    (tlsExport M (tlsRun M o [] C) kl).Perm (tlsExport M (tlsRun M o [] A) kl ++ tlsExport M (tlsRun M o [] B) kl) :=
  (tls_sessions_merge M o hm hd).flatMap _

/-- C04 for QUIC. If at no moment of either solo run a session exists that recognises a datagram of the other capture
    (`QuicSeparated`, both ways), then for every merge the sessions of the merged run are the sessions of the two solo runs
    — same roles, same states, hence same outputs — interleaved.
    Of the hypothesis, distinct 4-tuples are a fact about the capture; "a DCID of `B` is no CID of an `A` session" and "no CID
    of an `A` session is a prefix of bytes 1.. of a short-header datagram of `B`" hold for conformant endpoints that draw CIDs
    at random only with probability 1 − (number of pairs)·2^(−8·len): nothing in the protocol forbids two connections from
    using equal or prefix-related CIDs towards different hosts. -/
theorem quic_route_exact (M : QuicMachine κ τ ο) (o : Opts) {A B C : List (QIn κ)} (hm : Merge A B C)
    (hAB : QuicSeparated M o A B) (hBA : QuicSeparated M o B A) :
    Merge (quicRun M o [] A) (quicRun M o [] B) (quicRun M o [] C) := by
  simp only [quicRun_eq_router]
  exact (quicRouter M o).run_merge hm .nil (quic_iso_of_separated M o hAB) (quic_iso_of_separated M o hBA)

theorem quic_solo_equals_merged (M : QuicMachine κ τ ο) (o : Opts) {A B C : List (QIn κ)} (hm : Merge A B C)
    (hAB : QuicSeparated M o A B) (hBA : QuicSeparated M o B A) (s : QuicSess τ) :
    s ∈ quicRun M o [] C ↔ s ∈ quicRun M o [] A ∨ s ∈ quicRun M o [] B :=
  (quic_route_exact M o hm hAB hBA).mem s

def quicExport (M : QuicMachine κ τ ο) (md : Bool) (ss : List (QuicSess τ)) : List ο := ss.flatMap fun s => M.out md s.st

theorem quic_export_union (M : QuicMachine κ τ ο) (o : Opts) {A B C : List (QIn κ)} (hm : Merge A B C)
    (hAB : QuicSeparated M o A B) (hBA : QuicSeparated M o B A) (md : Bool) :
    (quicExport M md (quicRun M o [] C)).Perm
      (quicExport M md (quicRun M o [] A) ++ quicExport M md (quicRun M o [] B)) :=
  (quic_route_exact M o hm hAB hBA).flatMap _

theorem quicSeparated_of_check [DecidableEq τ] (M : QuicMachine κ τ ο) (o : Opts) (A B : List (QIn κ))
    (h : ∀ n ∈ List.range (A.length + 1), ∀ s ∈ quicRun M o [] (A.take n), ∀ x ∈ B,
          x.h ≠ .tooShort → quicTake M x.h x.p s = none) : QuicSeparated M o A B := by
  intro n s hs x hx ht
  rw [← quic_foreign_iff M s x ht]
  obtain ⟨m, hm, e⟩ := take_bounded A n
  rw [e] at hs
  exact h m hm s hs x hx ht

/-- A long header with an empty DCID never matches by CID — whatever the session knows, the empty string included — and
    falls through to the 4-tuple; the session then gets `b""` as DCID. -/
theorem empty_dcid_falls_to_tuple (M : QuicMachine κ τ ο) (v : Version) (p : Pkt) (s : QuicSess τ) :
    quicTake M (.long [] v) p s = if s.matches p then some [] else none := by
  simp [quicTake, cidMatch, Hdr.dcid]

/-- A short header is never matched with an empty CID, though `b""` is a prefix of everything. -/
theorem empty_cid_never_chosen (cids : List Bytes) (payload : Bytes) : shortPick cids payload ≠ some [] := by
  intro h
  exact (shortPick_some h).2.1 rfl

/-- A session whose candidate CIDs for this datagram (the receiver's CIDs on the session's own address pair, all of them
    elsewhere) are all empty takes a short-header datagram by its 4-tuple or not at all. -/
theorem short_with_only_empty_cids_falls_to_tuple (M : QuicMachine κ τ ο) (p : Pkt) (s : QuicSess τ)
    (h : ∀ c ∈ shortCandidates (M.clientCids s.st) (M.serverCids s.st) (s.side p), c = []) :
    quicTake M .short p s = if s.matches p then some [] else none := by
  have : shortPick (shortCandidates (M.clientCids s.st) (M.serverCids s.st) (s.side p)) p.payload = none := by
    rw [shortPick_eq_none_iff]
    intro c hc hne
    exact absurd (h c hc) hne
  simp [quicTake, cidMatch, this, Hdr.dcid]

/-- `QuicSession.packet_isserver(packet, dcid)` (quic_session.py:243-253) on the two CID sets: the direction `handle_packet`
    derives from the DCID it is handed; `fromClientAddr` = the datagram comes from the session's client endpoint. -/
def dirIsServer (cc sc : List Bytes) (fromClientAddr : Bool) (dcid : Bytes) : Bool :=
  if dcid.length > 0 ∧ dcid ∈ sc ∧ dcid ∉ cc then false
  else if dcid.length > 0 ∧ dcid ∈ cc ∧ dcid ∉ sc then true
  else if fromClientAddr then false
  else true

/-- `dirIsServer` is `Quic.Session.packetIsServer` on the CID sets of the session state -/
theorem dirIsServer_eq_packetIsServer {σ : Type} (s : Quic.Session.St σ) (fromClientAddr : Bool) (dcid : Bytes) :
    dirIsServer s.clientCids s.serverCids fromClientAddr dcid = Quic.Session.packetIsServer s fromClientAddr dcid := rfl

/-- On the session's own 4-tuple a short-header datagram is handed over either with a non-empty CID chosen by its RECEIVER
    that it starts with (a `server_cids` member for a datagram from the client endpoint, a `client_cids` member otherwise), or
    — no such CID — through the 4-tuple fallback with the header-derived DCID `b""`. Never with a CID of its sender. -/
theorem own_cid_never_misdirects (M : QuicMachine κ τ ο) (p : Pkt) (s : QuicSess τ) (hm : s.matches p = true) :
    ∃ c, quicTake M .short p s = some c ∧
      (c = [] ∨ (c ≠ [] ∧ c <+: p.payload.drop 1 ∧
        if p.src = s.client then c ∈ M.serverCids s.st else c ∈ M.clientCids s.st)) := by
  unfold quicTake
  cases hc : cidMatch (M.clientCids s.st) (M.serverCids s.st) (s.side p) .short p.payload with
  | none => exact ⟨[], by simp [hm, Hdr.dcid], .inl rfl⟩
  | some c =>
    refine ⟨c, rfl, .inr ?_⟩
    simp only [cidMatch] at hc
    obtain ⟨h1, h2, h3⟩ := shortPick_some hc
    refine ⟨h2, h3, ?_⟩
    by_cases hs : p.src = s.client
    · simpa [Sess.side, hm, hs, shortCandidates] using h1
    · simpa [Sess.side, hm, hs, shortCandidates] using h1

/-- a DCID that is empty, or that the datagram's receiver chose, does not decide the direction against the addresses -/
theorem dirIsServer_receiver (cc sc : List Bytes) (fromClient : Bool) (dcid : Bytes)
    (h : dcid = [] ∨ dcid ∈ (if fromClient then sc else cc)) : dirIsServer cc sc fromClient dcid = !fromClient := by
  have sender : ∀ a b : List Bytes, dcid = [] ∨ dcid ∈ a → ¬ (dcid.length > 0 ∧ dcid ∈ b ∧ dcid ∉ a) := by
    rintro a b h ⟨hl, _, hn⟩
    rcases h with rfl | h
    · exact Nat.lt_irrefl _ hl
    · exact hn h
  unfold dirIsServer
  cases fromClient with
  | true => exact ite_rec (fun b : Bool => b = false) rfl (by rw [if_neg (sender sc cc h)]; rfl)
  | false => rw [if_neg (sender cc sc h)]; exact ite_rec (fun b : Bool => b = true) rfl rfl

/-- Hence the direction `packet_isserver` reads off the DCID it is handed agrees with the direction by address — with NO
    assumption about the two CID sets: a CID that both endpoints chose decides nothing in `packet_isserver`, the addresses
    do, so this holds even when the endpoints happened to choose the same CID bytes. -/
theorem own_cid_direction_agrees (M : QuicMachine κ τ ο) (p : Pkt) (s : QuicSess τ) (hm : s.matches p = true) (c : Bytes)
    (h : quicTake M .short p s = some c) :
    dirIsServer (M.clientCids s.st) (M.serverCids s.st) (p.src == s.client) c = !(p.src == s.client) := by
  obtain ⟨c', h', hc⟩ := own_cid_never_misdirects M p s hm
  rw [h] at h'; cases h'
  apply dirIsServer_receiver
  rcases hc with rfl | ⟨_, _, hmem⟩
  · exact .inl rfl
  · refine .inr ?_
    by_cases hs : p.src = s.client
    · rw [if_pos hs] at hmem; rw [if_pos (beq_iff_eq.mpr hs)]; exact hmem
    · rw [if_neg hs] at hmem; rw [if_neg (fun e => hs (beq_iff_eq.mp e))]; exact hmem

/-- What is chosen for a short header is the LONGEST non-empty CID of the session that the datagram starts with. -/
theorem short_choice_is_longest (cids : List Bytes) (payload c : Bytes) (h : shortPick cids payload = some c) :
    c ∈ cids ∧ c ≠ [] ∧ c <+: payload.drop 1 ∧ ∀ d ∈ cids, d ≠ [] → d <+: payload.drop 1 → d.length ≤ c.length := by
  obtain ⟨h1, h2, h3⟩ := shortPick_some h
  exact ⟨h1, h2, h3, shortPick_longest h⟩

/-- A short-header datagram no session takes creates nothing; a long header in fewer than 6 bytes changes nothing. -/
theorem short_never_creates (M : QuicMachine κ τ ο) (o : Opts) (kl : List κ) (p : Pkt) :
    quicHandleH M o kl .short [] p = [] ∧ ∀ ss, quicHandleH M o kl .tooShort ss p = ss := by
  simp [quicHandleH, quicLoop]

theorem tcp_leaves_quic_alone (TM : TlsMachine κ σ ο) (QM : QuicMachine κ τ ο) (o : Opts) (st : State κ σ τ) (p : Pkt)
    (h : p.l4 = .tcp) :
    (step TM QM o st (.frame p)).quic = st.quic ∧ (step TM QM o st (.frame p)).keylog = st.keylog := by
  unfold step
  rcases classify_tcp_cases (κ := κ) o p h with ⟨w, e, _⟩ | ⟨e, _⟩ <;> rw [e] <;> exact ⟨rfl, rfl⟩

theorem udp_leaves_tls_alone (TM : TlsMachine κ σ ο) (QM : QuicMachine κ τ ο) (o : Opts) (st : State κ σ τ) (p : Pkt)
    (h : p.l4 = .udp) :
    (step TM QM o st (.frame p)).tls = st.tls ∧ (step TM QM o st (.frame p)).keylog = st.keylog := by
  unfold step
  rcases classify_udp_cases (κ := κ) o p h with ⟨w, e, _⟩ | ⟨b0, rest, e, _⟩ <;> rw [e] <;> exact ⟨rfl, rfl⟩

/-- An item the loop ignores — not IP, IP without TCP/UDP, empty payload, bad checksum under `-c`, UDP without the fixed
    bit (DTLS-looking) unless `-g` — changes nothing, wherever it stands in the capture. -/
theorem unrelated_ignored (TM : TlsMachine κ σ ο) (QM : QuicMachine κ τ ο) (o : Opts) (st : State κ σ τ)
    (a b : List (Item κ)) (it : Item κ) (w : Why) (h : classify o it = .ignore w) :
    runItems TM QM o st (a ++ it :: b) = runItems TM QM o st (a ++ b) := by
  simp only [runItems, List.foldl_append, List.foldl_cons]
  congr 1
  simp only [step, h]

theorem ignored_iff (o : Opts) (p : Pkt) :
    (∃ w, classify (κ := κ) o (.frame p) = .ignore w) ↔
      (p.l4 = .other ∨ p.payload = [] ∨ (o.checksumTest = true ∧ p.csumOk = false ∧ p.l4 ≠ .other) ∨
       (p.l4 = .udp ∧ o.greasy = false ∧ ∃ b0 rest, p.payload = b0 :: rest ∧ (b0.toNat &&& 0x40) >>> 6 ≠ 1)) := by
  cases hl : p.l4 with
  | other => rw [classify_other o p hl]; exact iff_of_true ⟨_, rfl⟩ (.inl rfl)
  | tcp =>
    rcases classify_tcp_cases (κ := κ) o p hl with ⟨w, e, hr⟩ | ⟨e, hne, hnb⟩ <;> rw [e]
    · exact iff_of_true ⟨w, rfl⟩
        (hr.elim (fun h => .inr (.inl h)) fun h => .inr (.inr (.inl ⟨h.1, h.2, L4.noConfusion⟩)))
    · refine iff_of_false (fun ⟨w, hw⟩ => nomatch hw) ?_
      rintro (h | h | ⟨h1, h2, _⟩ | ⟨h, _⟩)
      · cases h
      · exact hne h
      · exact hnb ⟨h1, h2⟩
      · cases h
  | udp =>
    rcases classify_udp_cases (κ := κ) o p hl with ⟨w, e, hr⟩ | ⟨b0, r, e, hp, hnb, hq⟩ <;> rw [e]
    · refine iff_of_true ⟨w, rfl⟩ ?_
      rcases hr with h | h | h
      · exact .inr (.inl h)
      · exact .inr (.inr (.inl ⟨h.1, h.2, L4.noConfusion⟩))
      · exact .inr (.inr (.inr ⟨rfl, h⟩))
    · refine iff_of_false (fun ⟨w, hw⟩ => nomatch hw) ?_
      rintro (h | h | ⟨h1, h2, _⟩ | ⟨_, hg, b, r', hbr, hbit⟩)
      · cases h
      · rw [hp] at h; cases h
      · exact hnb ⟨h1, h2⟩
      · rw [hp] at hbr
        cases hbr
        exact hq.elim hbit fun h => by rw [hg] at h; cases h

/-- Whole captures (TCP, UDP, DSBs, junk): the TLS sessions of a merge are the interleaved TLS sessions of its parts. -/
theorem run_tls_sessions_merge (TM : TlsMachine κ σ ο) (QM : QuicMachine κ τ ο) (o : Opts) {A B C : List (Item κ)}
    (hm : Merge A B C) (hd : ∀ a ∈ tcpView o A, ∀ b ∈ tcpView o B, sameFlow a b = false) (st : State κ σ τ)
    (h0 : st.tls = []) :
    Merge (runItems TM QM o st A).tls (runItems TM QM o st B).tls (runItems TM QM o st C).tls := by
  rw [(tls_quic_independent TM QM o A st).1, (tls_quic_independent TM QM o B st).1,
    (tls_quic_independent TM QM o C st).1, h0]
  exact tls_sessions_merge TM o (hm.filterMap _) hd

/-! ## concrete captures: the hypotheses are satisfiable, the theorems say something, and what happens without them -/

namespace Ex
def ep (a port : Nat) : Endpoint := ⟨[10, 0, 0, UInt8.ofNat a], port⟩
def ep6 (a port : Nat) : Endpoint := ⟨[0x20, 1, 0xd, 0xb8, 0, 0, 0, 0, 0, 0, 0, 0, 0, 0, 0, UInt8.ofNat a], port⟩
def tcp (tag : Nat) (s d : Endpoint) : Pkt := ⟨.tcp, s, d, [22, 3, 1], true, tag⟩
def udp (tag : Nat) (s d : Endpoint) (payload : Bytes) : Pkt := ⟨.udp, s, d, payload, true, tag⟩
def opts : Opts := ⟨[443, 44330, 443], false, false, false, true, []⟩

/-- same client port towards two servers, same hosts with another client port, an IPv6 flow with the same ports, a flow
    whose first captured packet comes from the server, and a flow without a server port -/
def capA : List Pkt := [tcp 1 (ep 1 5000) (ep 8 443), tcp 4 (ep 8 443) (ep 1 5000), tcp 7 (ep 1 5000) (ep 8 443)]
def capB : List Pkt :=
  [tcp 2 (ep 1 5000) (ep 9 443), tcp 3 (ep 8 443) (ep 1 5001), tcp 5 (ep6 1 5000) (ep6 8 443), tcp 6 (ep 1 5001) (ep 8 443),
   tcp 8 (ep 1 6000) (ep 2 8080), tcp 9 (ep 9 443) (ep 1 5000)]
def capC : List Pkt :=
  [tcp 1 (ep 1 5000) (ep 8 443), tcp 2 (ep 1 5000) (ep 9 443), tcp 3 (ep 8 443) (ep 1 5001), tcp 4 (ep 8 443) (ep 1 5000),
   tcp 5 (ep6 1 5000) (ep6 8 443), tcp 6 (ep 1 5001) (ep 8 443), tcp 7 (ep 1 5000) (ep 8 443), tcp 8 (ep 1 6000) (ep 2 8080),
   tcp 9 (ep 9 443) (ep 1 5000)]

theorem capC_is_merge : Merge capA capB capC :=
  .left _ (.right _ (.right _ (.left _ (.right _ (.right _ (.left _ (.right _ (.right _ .nil))))))))

theorem capAB_disjoint : ∀ a ∈ capA, ∀ b ∈ capB, sameFlow a b = false := by decide +kernel

/-- the run on the merged capture: four sessions in order of first appearance, each with its own packets; the session
    whose first packet came from port 443 has that side as server -/
example : (tlsRun Rec.tls opts [] capC).map (fun s => (s.server.port, s.client.port, s.st)) =
    [(443, 5000, [1, 4, 7]), (443, 5000, [2, 9]), (443, 5001, [3, 6]), (443, 5000, [5])] := by decide +kernel

example : (tlsRun Rec.tls opts [] capA).map (·.st) = [[1, 4, 7]] ∧
    (tlsRun Rec.tls opts [] capB).map (·.st) = [[2, 9], [3, 6], [5]] := by decide +kernel

/-! QUIC: `a1`, `b1` long headers (Initial-like) of two connections from different clients to the same server, `b2` a
short-header datagram of the second connection from the server. The scripts give connection A the client CID `02` and
connection B the client CID `02 07`: the CID SETS of the two sessions are disjoint and the 4-tuples differ, but a CID of A is a
prefix of a CID of B. -/
def long (dcid : Bytes) : Bytes := [0xC0, 0, 0, 0, 1, UInt8.ofNat dcid.length] ++ dcid ++ [0, 1, 2, 3]
def a1 : QIn Nat := ⟨[], .long [0xAA] .v1, udp 1 (ep 1 5000) (ep 9 443) (long [0xAA])⟩
def b1 : QIn Nat := ⟨[], .long [0xBB] .v1, udp 2 (ep 2 6000) (ep 9 443) (long [0xBB])⟩
def b2 : QIn Nat := ⟨[], .short, udp 3 (ep 9 443) (ep 2 6000) [0x40, 2, 7, 99, 98]⟩
def b2' : QIn Nat := ⟨[], .short, udp 3 (ep 9 443) (ep 2 6000) [0x40, 3, 7, 99, 98]⟩
def script (cidB : Bytes) (tag : Nat) : List Bytes × List Bytes :=
  if tag = 1 then ([[2]], [[0xAA]]) else if tag = 2 then ([cidB], [[0xBB]]) else ([], [])

example : parseHeader a1.p.payload = some a1.h ∧ parseHeader b1.p.payload = some b1.h ∧
    parseHeader b2.p.payload = some b2.h := by decide +kernel

/-- with CIDs `02` and `03 07` the two connections are separated, and the merged run is the interleaving of the solo runs -/
theorem separated_example :
    QuicSeparated (Rec.quic (script [3, 7])) opts [a1] [b1, b2'] ∧ QuicSeparated (Rec.quic (script [3, 7])) opts [b1, b2'] [a1] :=
  ⟨quicSeparated_of_check _ _ _ _ (by decide +kernel), quicSeparated_of_check _ _ _ _ (by decide +kernel)⟩

example : (quicRun (Rec.quic (script [3, 7])) opts [] [a1, b1, b2']).map (fun s => s.st.log.map (·.1)) = [[1], [2, 3]] := by
  decide +kernel

/-- Without prefix-freedom: 4-tuples distinct, CID sets disjoint (`{02, aa}` and `{02 07, bb}`), yet the short-header
    datagram of connection B is given to the session of connection A (as DCID `02`), for the merge `a1, b1, b2`. -/
theorem quic_cross_routing_by_prefix :
    Merge [a1] [b1, b2] [a1, b1, b2] ∧
    (quicRun (Rec.quic (script [2, 7])) opts [] [a1, b1, b2]).map (fun s => s.st.log.map fun e => (e.1, e.2.1)) =
      [[(1, [0xAA]), (3, [2])], [(2, [0xBB])]] ∧
    (quicRun (Rec.quic (script [2, 7])) opts [] [b1, b2]).map (fun s => s.st.log.map fun e => (e.1, e.2.1)) =
      [[(2, [0xBB]), (3, [2, 7])]] ∧
    ¬ Merge (quicRun (Rec.quic (script [2, 7])) opts [] [a1]) (quicRun (Rec.quic (script [2, 7])) opts [] [b1, b2])
        (quicRun (Rec.quic (script [2, 7])) opts [] [a1, b1, b2]) := by
  refine ⟨.left _ (.right _ (.right _ .nil)), by decide +kernel, by decide +kernel, ?_⟩
  intro h
  have := h.perm
  revert this
  decide +kernel

/-- The statement one would like to have for QUIC — "connections with distinct 4-tuples and disjoint CID sets are
    demultiplexed exactly" — here for the recording sessions with an arbitrary CID script. It is FALSE for the code as it is
    (and for any passive observer that does not try decryption: a short header does not say how long its DCID is). -/
def quic_route_statement : Prop :=
  ∀ (script : Nat → List Bytes × List Bytes) (A B C : List (QIn Nat)), Merge A B C →
    (∀ n ∈ List.range (A.length + 1), ∀ s ∈ quicRun (Rec.quic script) opts [] (A.take n), ∀ x ∈ B, s.matches x.p = false) →
    (∀ m ∈ List.range (B.length + 1), ∀ t ∈ quicRun (Rec.quic script) opts [] (B.take m), ∀ x ∈ A, t.matches x.p = false) →
    (∀ n ∈ List.range (A.length + 1), ∀ m ∈ List.range (B.length + 1),
      ∀ s ∈ quicRun (Rec.quic script) opts [] (A.take n), ∀ t ∈ quicRun (Rec.quic script) opts [] (B.take m),
        ∀ c ∈ s.st.cc ++ s.st.sc, c ∉ t.st.cc ++ t.st.sc) →
    Merge (quicRun (Rec.quic script) opts [] A) (quicRun (Rec.quic script) opts [] B) (quicRun (Rec.quic script) opts [] C)

/-- `quic_route_exact` is the `_partial` form (extra hypothesis: `QuicSeparated`, i.e. additionally no CID of one connection
    is a prefix of bytes 1.. of a short-header datagram of the other); this is the counterexample to the full statement.
    Failing input, replayable on the real code (harness/m1_mainloop.py `replay_cross_routing`): three datagrams
    `a1` = 10.0.0.1:5000 → 10.0.0.9:443 long header DCID `aa` (its session learns client CID `02`),
    `b1` = 10.0.0.2:6000 → 10.0.0.9:443 long header DCID `bb` (its session learns client CID `02 07`),
    `b2` = 10.0.0.9:443 → 10.0.0.2:6000 short header `40 02 07 63 62`: given to the FIRST session, as DCID `02`. -/
theorem quic_route_counterexample : ¬ quic_route_statement := by
  intro H
  have := H (script [2, 7]) [a1] [b1, b2] [a1, b1, b2] (.left _ (.right _ (.right _ .nil))) (by decide +kernel) (by decide +kernel)
    (by decide +kernel)
  exact quic_cross_routing_by_prefix.2.2.2 this

/-- Without distinct 4-tuples (same client address and port towards the same server, e.g. two captures of a reused port
    merged): the second connection's Initial, whose DCID the first session does not know, is taken by the first session
    through the 4-tuple fallback. -/
theorem quic_cross_routing_by_tuple :
    (quicRun (Rec.quic (script [3, 7])) opts [] [a1, { b1 with p := udp 2 (ep 1 5000) (ep 9 443) (long [0xBB]) }]).map
      (fun s => s.st.log.map (·.1)) = [[1, 2]] := by decide +kernel

/-- The rule as it was (every CID of the session is a candidate in both directions): the client uses the CID `fe`, the server
    a zero-length CID; a client→server short-header datagram carries NO DCID, and its first protected byte happens to be `fe`
    (1 datagram in 256). It was matched with the client's own CID `fe` and `packet_isserver` then took it for a datagram from
    the server; under the receiver-side rule it falls through to the 4-tuple with DCID `b""` and the direction is right. -/
theorem legacy_own_cid_misdirects :
    let M := Rec.quic fun _ => ([], [])
    let s : QuicSess Rec.QState := ⟨ep 9 443, ep 1 5000, ⟨[], [[0xfe]], [[]]⟩⟩
    let p := udp 7 (ep 1 5000) (ep 9 443) [0x40, 0xfe, 1, 2, 3]
    s.matches p = true ∧
    Legacy.quicTake M .short p s = some [0xfe] ∧ dirIsServer s.st.cc s.st.sc (p.src == s.client) [0xfe] = true ∧
    quicTake M .short p s = some [] ∧ dirIsServer s.st.cc s.st.sc (p.src == s.client) [] = false := by decide +kernel

/-- the other direction: a server→client datagram is still matched with the client's CID -/
example :
    let M := Rec.quic fun _ => ([], [])
    let s : QuicSess Rec.QState := ⟨ep 9 443, ep 1 5000, ⟨[], [[0xfe]], [[]]⟩⟩
    quicTake M .short (udp 8 (ep 9 443) (ep 1 5000) [0x40, 0xfe, 1, 2, 3]) s = some [0xfe] := by decide +kernel

end Ex

end TLX.Props.C04
