import TLX.Props.C02Zr
import TLX.Props.C02Capstone4Ex
set_option autoImplicit false
/-! # C02, 0-RTT: a packet of another suite is simply missing — the instance

The 0-RTT packet of `C02Capstone4.ExZ`, protected for 0x1301, in a session holding the Early keys of 0x1303, with an
observer's mask unrelated to the sender's: every hypothesis of `C02Zr.zr_rejected_turn` holds (toy primitives, evaluated). -/
namespace TLX.Props.C02Zr

namespace ExRej
open TLX TLX.Quic TLX.Cipher TLX.Quic.Session TLX.Spec.QuicSender TLX.Spec.QuicConnection TLX.Spec.QuicPackets
open TLX.QuicPipeline TLX.Props.C02Capstone TLX.Props.C02Capstone3 TLX.Props.C02Session TLX.Spec.KeySchedules
open TLX.Props.C02File.Ex (H Pc L m5 sel)
open TLX.Props.C02Capstone4.ExZ (selR eS qZ)

/-- the observer's header-protection primitive returns bytes unrelated to the sender's mask `m5` -/
def mT : Bytes := [0x13, 0x37, 0x00, 0xff, 0x42]
def maskT : Dissect.MaskFn := fun _ _ _ => some mT

/-- a session that holds the Early decryptor and the early header-protection key of the FIRST OFFERED suite 0x1303 -/
def sT : St Tls :=
  let s := St.init (params H Pc [])
  { s with decEarly := some (earlyDec H selR eS),
           tls := { s.tls with hp := { s.tls.hp with clientEarly := some (quicHp (hashOf H selR.hash) eS selR.keyLen) } } }

def PZ : Long := longOf qZ.x (protectedPayload L.aeadSeal sel.alg (earlyDec H sel eS).client qZ.x)

/-- with the observer's mask the dissector reads another packet-number length and other packet-number bytes -/
theorem remask0 : (remask PZ qZ.mask mT).pn.length = 3 ∧ PZ.pn.length = 1 := by decide +kernel

def isErr {α : Type} : Except PyErr α → Bool | .error _ => true | .ok _ => false
theorem err_of {α : Type} (x : Except PyErr α) (h : isErr x = true) : ∃ e, x = .error e := by
  cases x with
  | error e => exact ⟨e, rfl⟩
  | ok _ => cases h

theorem rejected0 : Rejected (params H Pc []) sT ((remask PZ qZ.mask mT).toPkt false qZ.x.ts) := by
  intro d pn aad hd hpn haad
  cases (show some (earlyDec H selR eS) = some d from hd)
  apply err_of
  -- one evaluation: whatever packet number and associated data the session reconstructs, the toy AEAD rejects
  have h : (match getFullPn sT ((remask PZ qZ.mask mT).toPkt false qZ.x.ts),
        assocData ((remask PZ qZ.mask mT).toPkt false qZ.x.ts) with
      | .ok pn', .ok aad' => isErr (decDecrypt (params H Pc []) (earlyDec H selR eS)
          ((remask PZ qZ.mask mT).toPkt false qZ.x.ts).payload pn' aad' false)
      | _, _ => true) = true := by decide +kernel
  rw [hpn, haad] at h
  exact h

/-- **Non-vacuity of `zr_rejected_turn`** (toy primitives, an unrelated mask): every hypothesis holds, so the loop skips the
    packet and the session is as before. -/
theorem rejected_turn_instance (guessed more : Bytes) :
    (Dissect.dissectLoop maskT (fun x : LoopSt => envOf x.1) (handleTurn (params H Pc [])) false guessed qZ.x.ts
        (sT, none) (zrWire H Pc L sel eS qZ ++ more)).1 =
      (Dissect.dissectLoop maskT (fun x : LoopSt => envOf x.1) (handleTurn (params H Pc [])) false guessed qZ.x.ts
        (sT, none) more).1 :=
  zr_rejected_turn maskT H Pc Props.C15.sizedToy_lawful [] L sel [0x13, 0x01] (by decide) eS sT qZ
    C02Capstone4.ExZ.shapeZ
    (by decide) (by decide) (by decide) rfl _ mT rfl rfl (by decide) rejected0 guessed more

end ExRej

end TLX.Props.C02Zr
