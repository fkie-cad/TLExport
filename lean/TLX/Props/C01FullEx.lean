/-
Non-vacuity of `Props/C01Full.lean`.

  `tls13_full_instance`   TLS 1.3 (0x1301) with `-a`: the capture and key-log file of `C01Rfc.Ex.tls13_rfc_instance`; the
                          output file contains the `-a` conversation (`expect13 true`: hello records, dummy CCS records and
                          application data; protected handshake records contribute nothing)
  `tls12_full_instance`   TLS 1.2 (0x009C) with `-a -c -m 443:9443` over IPv6 where EVERY segment carries a hop-by-hop options
                          header (PadN), a routing header and a fragment header (offset 0) in front of TCP, with valid TCP
                          checksums; the capture also holds an ARP request and a TCP segment of another flow with a WRONG
                          checksum (ignored under `-c`: `badTcp_ignored`)
Every hypothesis by evaluation (`RecordsFit` from the session-level theorem), except the IEEE-754 fact `hus`.
-/
import TLX.Props.C01Full
import TLX.Props.C01RfcEx
set_option autoImplicit false
namespace TLX.Props.C01Full.Ex
open TLX TLX.MainLoop TLX.Spec.Demux TLX.Dissect TLX.Export TLX.Props.C01File TLX.Props.C01File.Ex
open TLX.Spec.FrameBuild TLX.Spec.TlsCapture TLX.Spec.NssKeylog
open TLX.Cipher TLX.RecordLayer TLX.Spec.TlsSender TLX.Props.C01 TLX.Lemmas.Pipeline TLX.Spec.TlsConnection
open TLX.Lemmas.Capstone TLX.Props.C01Pipeline TLX.Spec.TlsFraming TLX.Props.C01Capstone TLX.Props.C01Capstone.Ex
open TLX.Props.C01Pipeline.Ex2 TLX.Props.C01.Ex TLX.Props.C01File2 TLX.Props.C01File2.Ex
open TLX.Spec.KeySchedules TLX.Lemmas.C01Rfc TLX.Props.C09Found TLX.Lemmas.C01Full TLX.Props.C01Rfc.Ex TLX.Lemmas.C01Instance
open TLX.Spec.RfcSuite (SuiteSpec suiteOfCode cls12 snd12 snd13 ValidFor etmNegotiated labelClientRandom labelCHTS labelSHTS
  labelCTS0 labelSTS0)

theorem arp_foreignC (fl : Flow) (c : Bool) : ForeignC fl c arp :=
  ⟨⟨arp_foreign.1, fun tag h => by simp [arp, pktOf, Ingest.otherPkt] at h⟩, fun _ x hx => by simp [arp] at hx⟩

def argsA : Args := ⟨none, none, false, false, true⟩
def sessA13 : Pipeline.Conn := sessionOf (evs13.map CEv.cap) (optsOf argsA ports0 []) p13 pkts13f.tail

/-- the `-a` conversation: the client's stream is its hello record, the dummy ChangeCipherSpec record and "hi"; the
    server's its hello record, the dummy ChangeCipherSpec record and the sixteen bytes — the protected handshake records
    (outer type 23) contribute nothing -/
example : expect13 true Cipher.Toy.prims Cipher.Toy.laws C01Capstone.Ex.cls13 t13 x13 =
    (t13.chRecord ++ [20, 3, 3, 0, 1, 1] ++ hi, t13.shRecord ++ [20, 3, 3, 0, 1, 1] ++ k16) := by decide +kernel

/-- **Non-vacuity of `tls13_capture_exact_full`** (`-a`) -/
theorem tls13_full_instance (hus : ∀ e ∈ evs13.map CEv.cap, e.us < 2 ^ 64) :
    ∃ f, exportFile (fun _ _ _ => none) hashes Cipher.Toy.prims argsA cv0.isLegacy (some (C09Found.fileText ls13))
        (Spec.Containers.encode cv0 cevs13) = .file f ∧
      Exact f sessA13 (t13.chRecord ++ [20, 3, 3, 0, 1, 1] ++ hi) (t13.shRecord ++ [20, 3, 3, 0, 1, 1] ++ k16) := by
  have R := rfc_t13
  have S := capture13 true
  have hexp : expect13 argsA.metadata Cipher.Toy.prims Cipher.Toy.laws C01Capstone.Ex.cls13 t13
      (snd13 hashes sp13 chts shts cats sats) =
        (t13.chRecord ++ [20, 3, 3, 0, 1, 1] ++ hi, t13.shRecord ++ [20, 3, 3, 0, 1, 1] ++ k16) := by
    rw [snd13_0]; decide +kernel
  -- reassembly sees the same server and packets as without `-a`
  have hcausal : Causal13 (connRecs (capInfo (evs13.map CEv.cap)) sessA13) := causal13'
  obtain ⟨frames, hconn, hre⟩ := tls13_connection_full hashes Cipher.Toy.prims Cipher.Toy.laws
    (capInfo (evs13.map CEv.cap)) sessA13 t13 (by decide) (by decide) rfl rfl rfl rfl
    (by unfold Negotiated; decide) R script13.1 script13.2.1 evOk13c evOk13s
    (by decide +kernel) (S.released _ wholeRecs13 (Lemmas.C01All.wiresDelivered_of_inOrder _ _ wires13)) hcausal
  have h := tls13_capture_exact_full (fun _ _ _ => none) hashes hashes_lawful Cipher.Toy.prims Cipher.Toy.laws
    fl0 S.hne evs13 argsA S.hdesc S.hnot1 cv0 cevs13 S.hcwf S.hitems ls13 ls13_wf
    [] ports0 S.hpm S.hports S.hsp S.hcp p13 pkts13f.tail S.hfp
    t13 (by decide) (by decide) rfl rfl rfl rfl (by unfold Negotiated; decide)
    R.haccept sp13 R.hsuite C01Capstone.Ex.cls13 R.hcls
    chts shts cats sats R.hl1 R.hl2 R.hl3 R.hl4 R.ho1 R.ho2 R.ho3 R.ho4 script13.1 script13.2.1 evOk13c evOk13s wholeRecs13
    (by decide +kernel) wires13 hcausal
    (by decide) (by decide) (by intro kv hkv; cases hkv) (by rw [hexp]; decide +kernel)
    (recordsFit_of_total ⟨frames, hconn, hre.trans (congrArg some hexp)⟩ (by decide +kernel)) hus (others13 true _)
  rw [hexp] at h
  exact h

section V6
open TLX.Spec.Rfc1071 (ocSum pseudoWords words)

def ip6c : Bytes := [0x20, 0x01, 0x0d, 0xb8, 0, 0, 0, 0, 0, 0, 0, 0, 0, 0, 0, 1]
def ip6s : Bytes := [0x20, 0x01, 0x0d, 0xb8, 0, 0, 0, 0, 0, 0, 0, 0, 0, 0, 0, 2]
def fl6 : Flow := ⟨true, ip6c, 5555, ip6s, 443⟩

/-- the TCP checksum a sender computes (RFC 9293 §3.1 over the RFC 8200 §8.1 pseudo-header): the one's complement of the
    one's-complement sum with the field zero -/
def csumFor (src dst : Bytes) (t : Tcp) : Nat :=
  0xFFFF - ocSum (pseudoWords true src dst .tcp t.encode.length ++ words t.encode)

def tcp6 (d : Bool) (seq : Nat) (pl : Bytes) : Tcp :=
  { tcpOf d seq pl with csum := csumFor (if d then ip6s else ip6c) (if d then ip6c else ip6s) (tcpOf d seq pl) }

/-- hop-by-hop options (one PadN of six octets), routing (type 0, no segments left), fragment (offset 0, M = 0) -/
def exts6 : List Ext := [.hopByHop [.opt 1 [0, 0, 0, 0]], .routing 0 0 [0, 0, 0, 0], .fragment 7 false]

def frame6 (d : Bool) (seq : Nat) (pl : Bytes) : Spec.FrameBuild.Frame :=
  ⟨if d then cMac else sMac, if d then sMac else cMac,
   .v6 ⟨0, 5, 64, if d then ip6s else ip6c, if d then ip6c else ip6s, exts6⟩, .tcp (tcp6 d seq pl), []⟩

theorem isSegX_mk6 (d : Bool) (seq : Nat) (pl : Bytes) (hs : seq < 4294967296) (hp : pl.length < 60000) :
    IsSegX fl6 d (frame6 d seq pl) (tcp6 d seq pl) := by
  cases d <;>
    simp [IsSegX, Frame.WF, Upper.WF, Tcp.WF, V6.WF, Ext.WF, Opt6.WF, frame6, tcp6, tcpOf, exts6, encChain, Ext.encode,
      Ext.proto, encOpts, Opt6.encode, Upper.encode, Upper.proto, Tcp.encode, Tcp.header, be2, be4, fl6, fragFirst, fragLast,
      cMac, sMac, ip6c, ip6s] <;> omega

def segEvs6 : Nat → List (Bool × Bytes × Nat) → List CEv
  | _, [] => []
  | n, (d, pl, off) :: rest =>
    .seg (timeAt n) d (frame6 d ((isnOf d + off) % 4294967296) pl) (tcp6 d ((isnOf d + off) % 4294967296) pl) ::
      segEvs6 (n + 1) rest

/-- every data segment carries a valid TCP checksum (decidable: `Spec.Rfc1071.verdict`) -/
def csumsOk (evs : List CEv) : Bool :=
  evs.all fun
    | .seg _ _ fr t => t.payload.isEmpty || decide (CsumValid fr t)
    | .foreign _ => true

theorem segEvs6_describedX (l : List (Bool × Bytes × Nat)) (h : ∀ x ∈ l, x.2.1.length < 60000) (n : Nat)
    (hc : csumsOk (segEvs6 n l) = true) : DescribedX fl6 true (segEvs6 n l) := by
  induction l generalizing n with
  | nil => intro ev hev; cases hev
  | cons x rest ih =>
    obtain ⟨d, pl, off⟩ := x
    simp only [segEvs6, csumsOk, List.all_cons, Bool.and_eq_true] at hc
    intro ev hev
    simp only [segEvs6, List.mem_cons] at hev
    rcases hev with rfl | hev
    · refine ⟨isSegX_mk6 d _ pl (Nat.mod_lt _ (by decide)) (h (d, pl, off) (by simp)), fun _ hpl => ?_⟩
      have := hc.1
      simp only [Bool.or_eq_true, decide_eq_true_eq, List.isEmpty_iff] at this
      rcases this with h0 | h0
      · exact absurd h0 hpl
      · exact h0
    · exact ih (fun y hy => h y (by simp [hy])) (n + 1) hc.2 ev hev

/-- a TCP segment of ANOTHER flow (10.0.0.9:7777 → 10.0.0.2:443 over IPv4) whose checksum field is zero: wrong -/
def badTcpT : Tcp := ⟨7777, 443, 5, 0, 0x18, 0, 8192, 0, 0, [], [1, 2, 3]⟩
def badFr : Spec.FrameBuild.Frame :=
  ⟨sMac, cMac, .v4 ⟨0, 1, true, false, 64, 0, [10, 0, 0, 9], [10, 0, 0, 2], []⟩, .tcp badTcpT, []⟩
def badTcp : CapEv := ⟨timeAt 1, badFr.encode, viewOf badFr⟩
def flBad : Flow := ⟨false, [10, 0, 0, 9], 7777, [10, 0, 0, 2], 443⟩

theorem badSeg : IsSegX flBad false badFr badTcpT := by
  simp [IsSegX, Frame.WF, Upper.WF, Tcp.WF, V4.WF, badFr, badTcpT, Upper.encode, Tcp.encode, Tcp.header, be2, be4, flBad,
    cMac, sMac]

theorem badTcp_foreignC : ForeignC fl6 true badTcp := by
  refine ⟨⟨dissect_segX flBad false badFr badTcpT badSeg, ?_⟩, fun _ x hx => ⟨_, verdict_segX flBad false badFr badTcpT badSeg x hx⟩⟩
  intro tag _ _
  show sameFlow (refPkt fl6) (pktOf tag (viewOf badFr)) = false
  rw [pktOf_segX flBad false badFr badTcpT badSeg tag]
  simp [sameFlow, refPkt, clientEp, serverEp, fl6, flBad, ip6c, ip6s]

/-- with `-c` the main loop ignores it: the RFC 1071 receiver rejects the segment -/
theorem badTcp_ignored (o : Opts) (hc : o.checksumTest = true) : IgnoredC o badTcp := by
  intro tag
  have hb : csumBit true badTcp.d = false := by decide +kernel
  refine ⟨.badCsumTcp, ?_⟩
  have hp : pktOfC o.checksumTest tag badTcp.d =
      ⟨.tcp, clientEp flBad, serverEp flBad, [1, 2, 3], false, tag⟩ := by
    rw [hc]
    simp only [pktOfC, hb]
    show { pktOf tag (viewOf badFr) with csumOk := false } = _
    rw [pktOf_segX flBad false badFr badTcpT badSeg tag]
    rfl
  rw [hp, Lemmas.MainLoop.classify_tcp _ _ rfl, hc]
  rfl

/-- the capture: an ARP request, the foreign segment with the wrong checksum, then the connection (`cap0`) -/
def evs6 : List CEv := .foreign arp :: .foreign badTcp :: segEvs6 2 cap0

def cevs6 : List Spec.Containers.Ev := (evs6.map CEv.cap).map cevOf

/-- `-a -c -m 443:9443` -/
def args6 : Args := ⟨none, some ["443:9443".toList.map (·.toNat)], true, false, true⟩
def pm6 : List (Int × Int) := [(443, 9443)]
def pkts6 : List Pkt := flowPkts fl6 0 evs6
def p60 : Pkt := ⟨.tcp, ⟨ip6c, 5555⟩, ⟨ip6s, 443⟩, (rC 0).take 20, true, 2⟩
def sess6 : Pipeline.Conn := sessionOf (evs6.map CEv.cap) (optsOf args6 ports0 pm6) p60 pkts6.tail

/-- as `C01Rfc.Ex.evs13_eval`, about the capture `evs6`; the last conjunct is the order of the first two records the session sees
    (`tls12_full_instance`) -/
theorem evs6_eval :
    ((∀ (x : Bool × Bytes × Nat), x ∈ cap0 → x.2.1.length < 60000) ∧ csumsOk (segEvs6 2 cap0) = true) ∧
    (flowPkts fl6 0 evs6).head? = some p60 ∧
    ((∀ c ∈ evs6, c.cap.t.ticks - 1000 < 100 ∧ c.cap.t = timeAt (c.cap.t.ticks - 1000) ∧ c.cap.buf.length < 70000) ∧
      (optsOf args6 ports0 pm6).ports.contains ((fl6.serverPort : Nat) : Int) = true ∧
      (optsOf args6 ports0 pm6).ports.contains ((fl6.clientPort : Nat) : Int) = false) ∧
    ((connRecs (capInfo (evs6.map CEv.cap)) sess6).map (·.2)).take 2 = [false, true] := by decide +kernel

theorem described6 : DescribedX fl6 true evs6 := by
  intro ev hev
  simp only [evs6, List.mem_cons] at hev
  rcases hev with rfl | rfl | hev
  · exact arp_foreignC fl6 true
  · exact badTcp_foreignC
  · exact segEvs6_describedX cap0 evs6_eval.1.1 2 evs6_eval.1.2 ev hev

theorem hpm6 : Options.getPortMap Options.Src.bare args6.mArg = .ok pm6 := by decide +kernel

theorem fp6 : flowPkts fl6 0 evs6 = p60 :: pkts6.tail := eq_head_cons_tail evs6_eval.2.1

/-- the session sees the segments of `C01Capstone.Ex.connCap` -/
theorem wires6 : WiresInOrder evs6 (t0.stream Cipher.Toy.prims Cipher.Toy.laws cls0 (legacySnd k0)) :=
  wiresInOrder_of_delivered _ _ _ _ (fun d => by cases d <;> with_unfolding_all rfl) delivered0

theorem foreign_not_mem_segEvs6 (e : CapEv) (l : List (Bool × Bytes × Nat)) (n : Nat) : CEv.foreign e ∉ segEvs6 n l := by
  induction l generalizing n with
  | nil => intro h; cases h
  | cons x xs ih =>
    obtain ⟨d, pl, off⟩ := x
    intro h
    simp only [segEvs6, List.mem_cons] at h
    rcases h with h | h
    · cases h
    · exact ih (n + 1) h

theorem foreign6 (e : CapEv) (he : CEv.foreign e ∈ evs6) : e = arp ∨ e = badTcp := by
  simp only [evs6, List.mem_cons] at he
  rcases he with he | he | he
  · cases he; exact .inl rfl
  · cases he; exact .inr rfl
  · exact absurd he (foreign_not_mem_segEvs6 e cap0 2)

theorem capture6 : CaptureFile fl6 evs6 args6 cv0 cevs6 pm6 ports0 p60 pkts6.tail :=
  have ⟨hc, hsp, hcp⟩ := evs6_eval.2.2.1
  have hcap := capture_ok evs6 hc
  ⟨⟨by decide, described6, hsp, hcp, fp6⟩, hcap.2.2, hcap.1, hcap.2.1, hpm6, rfl⟩

/-- **Non-vacuity of `tls12_capture_exact_full`**: `-a -c -m 443:9443`, IPv6 with three extension headers per segment, valid
    TCP checksums on the connection, a foreign segment with a wrong one. -/
theorem tls12_full_instance (hus : ∀ e ∈ evs6.map CEv.cap, e.us < 2 ^ 64) :
    ∃ f, exportFile (fun _ _ _ => none) hashes Cipher.Toy.prims args6 cv0.isLegacy (some (C09Found.fileText ls0))
        (Spec.Containers.encode cv0 cevs6) = .file f ∧
      Exact f sess6 (expect12 true Cipher.Toy.prims Cipher.Toy.laws cls0 t0 (legacySnd k0)).1
        (expect12 true Cipher.Toy.prims Cipher.Toy.laws cls0 t0 (legacySnd k0)).2 := by
  have S := capture6
  have hwires : WiresInOrder evs6 (t0.stream Cipher.Toy.prims Cipher.Toy.laws cls0
      (snd12 hashes .tls12 sp0 ms0 t0.ch.random t0.sh.random)) := by rw [snd12_0]; exact wires6
  have hc13 : Causal13 (connRecs (capInfo (evs6.map CEv.cap)) sess6) := causal13_of_dirs _ evs6_eval.2.2.2
  have R := rfc_t0
  obtain ⟨frames, hconn, hre⟩ := C01All.tls12_connection_all hashes Cipher.Toy.prims Cipher.Toy.laws
    (capInfo (evs6.map CEv.cap)) sess6 t0 (by decide) (by decide) rfl rfl rfl rfl .tls12
    (by unfold Negotiated sessVer; decide) R script0.1 script0.2.1 evOk0c evOk0s (by decide +kernel)
    (S.released _ wholeRecs0 (Lemmas.C01All.wiresDelivered_of_inOrder _ _ hwires)) (fun h => by cases h) (fun _ => hc13)
  have h := tls12_capture_exact_full (fun _ _ _ => none) hashes hashes_lawful Cipher.Toy.prims Cipher.Toy.laws
    fl6 S.hne evs6 args6 S.hdesc S.hnot1 cv0 cevs6 S.hcwf S.hitems ls0 ls0_wf
    pm6 ports0 S.hpm S.hports S.hsp S.hcp p60 pkts6.tail S.hfp
    t0 (by decide) (by decide) rfl rfl rfl rfl .tls12 (by unfold Negotiated sessVer; decide)
    R.hsz R.haccept sp0 R.hsuite R.hvalid cls0 R.hcls
    ms0 R.hms R.hl1 R.ho1 script0.1 script0.2.1 evOk0c evOk0s wholeRecs0 (by decide +kernel) hwires
    (fun h => by cases h) (fun _ => hc13)
    (by decide) (by decide) (by decide) (by rw [snd12_0]; decide +kernel)
    (recordsFit_of_total ⟨frames, hconn, hre⟩ (by rw [snd12_0]; decide +kernel)) hus
    (fun blk hblk => othersFit_of_ignored_c _ _ _ _ S
      (fun e he => by
        rcases foreign6 e he with rfl | rfl
        · exact arp_ignoredC _
        · exact badTcp_ignored _ rfl)
      blk hblk)
  rw [snd12_0] at h
  exact h

/-- the exported server port is the mapped one: the block's frames travel between port 5555 and port 9443 -/
example : TcpOut.exportedServerPort sess6.opts.keep (Pipeline.portmapFn sess6.opts.portmap) sess6.server.port = 9443 := by
  decide +kernel

end V6

end TLX.Props.C01Full.Ex
