import TLX.Props.C02FileEx
set_option autoImplicit false

/-! # `Props/C02Rfc`: non-vacuity

`C02File.Ex`'s capture, key-log file and option vector satisfy `QuicCaptureRfc` — the hypotheses in RFC / file terms — so
`quic_capture_exact_rfc` speaks about it: the senders' own bookkeeping `RTrk`, the suite by its IANA denotation, the key-log
file as a list of lines (the connection's four lines in any order, a line of another connection in between). The lines
(`ls0`, `text0`, `lines0`) are declared in `Props/C02FileEx.lean`, which needs them for `C02File.Ex.keylog0`. -/
namespace TLX.Props.C02Rfc.Ex
open TLX TLX.MainLoop TLX.Spec.Demux TLX.Dissect TLX.OutBytes TLX.Export
open TLX.Props.C01File TLX.Spec.FrameBuild TLX.Spec.TlsCapture TLX.Spec.QuicCapture
open TLX.Spec.QuicSender TLX.Spec.QuicConnection TLX.Spec.QuicPackets TLX.QuicPipeline TLX.Props.C02Capstone
open TLX.Quic.Session TLX.Cipher TLX.Props.C02Session TLX.Spec.QuicFrames
open TLX.Spec.TlsHello TLX.Spec.TlsHandshakeFraming TLX.Props.C02Capstone.ExConf
open TLX.Spec.KeySchedules TLX.Props.C02File TLX.Props.C02File.Ex TLX.Spec.RfcSuite TLX.Spec.RfcQuic
open TLX.Lemmas.C01Rfc TLX.Props.C09Found TLX.Spec.NssKeylog TLX.Lemmas.KeySchedule
open TLX.Props.C01File.Ex (timeAt arp notMinusOne cMac sMac args0 ports0 cv0)

def sp0 : SuiteSpec := ⟨.aesGcm, 16, .sha256, 16⟩

def pre0 : List QEv := [.foreign arp]
def restH0 : List QEv := [hsEv 2 dgS, .foreign (dns 3), hsEv 4 dgC]

theorem hsDgsR0 : HsDgsR maskFn H Pc L (dgDcid dg0) sel shS chS rtrk0 (dg0 :: hsOf restH0) :=
  ⟨⟨List.forall_mem_singleton.mpr ⟨rfl, rfl⟩, by decide +kernel, .of_checks hs_eval.1.1, trivial⟩,
   ⟨List.forall_mem_cons.mpr ⟨⟨rfl, rfl⟩, List.forall_mem_singleton.mpr ⟨rfl, rfl⟩⟩, by decide +kernel,
     .of_checks hs_eval.1.2.2.1, .of_checks hs_eval.1.2.2.2.1, trivial⟩,
   ⟨List.forall_mem_singleton.mpr ⟨rfl, rfl⟩, by decide +kernel, .of_checks hs_eval.1.2.2.2.2, trivial⟩, trivial⟩

def rF : RTrk := rtrk0.runDgs (dg0 :: hsOf restH0)

theorem rF_eq : hpChacha sel = false ∧ rF.tc.app = 0 ∧ rF.ts.app = 0 ∧ rF.cc = [cidC] ∧ rF.sc = [cidS0, cidS] := by
  decide +kernel

theorem onesR0 : onesOf evsO = [o0, o1] := rfl

theorem send1R0 : Send1 maskFn H Pc L sel .v1 (rfcGen (hashOf H sel.hash) sel.keyLen saS caS 0)
    (quicHp (hashOf H sel.hash) caS sel.keyLen) (quicHp (hashOf H sel.hash) saS sel.keyLen)
    (hpChacha sel) 0 0 rF.tc.app rF.ts.app rF.cc rF.sc (onesOf evsO) := by
  obtain ⟨e1, e2, e3, e4, e5⟩ := rF_eq
  rw [onesR0, e1, e2, e3, e4, e5]
  obtain ⟨_, _, p0, p1, l0, l1, _⟩ := rtt1_eval
  exact ⟨rfl, by decide, by decide, p0, wfO0, ⟨by decide, l0, rfl, by decide⟩, by decide,
    rfl, by decide, by decide, p1, wfO1, ⟨by decide, l1, rfl, by decide⟩, by decide, trivial⟩

theorem routesR0 : Routes1 w1 rF.cc rF.sc (onesOf evsO) := by
  obtain ⟨_, _, _, e4, e5⟩ := rF_eq
  rw [onesR0, e4, e5]
  exact ⟨rtt1_eval.2.2.2.2.2.2.1, rtt1_eval.2.2.2.2.2.2.2, trivial⟩

/-- **every hypothesis of `quic_capture_exact_rfc` holds** for `C02File.Ex`'s capture, key-log file and options -/
theorem captureR0 : QuicCaptureRfc maskFn H Pc L args0 ls0 [] ports0 fl hs chS shS caS saS none sp0 sel pre0 (timeAt 1)
    (dgFrame false (wH dg0)) (udpOf false (wH dg0)) dg0 restH0 evsO where
  lawful := Props.C15.sizedToy_lawful
  sha256 := rfl
  times := times0
  noc := rfl
  nometa := rfl
  pmOk := rfl
  portsOk := rfl
  endpoints := by decide
  clientPort := by decide +kernel
  hsOk := hs_ok
  tls13 := by decide
  suite := by decide +kernel
  outLen := by decide
  saLen := rfl
  caLen := rfl
  linesWf := ls0_wf
  lineCH := lines0.1.1
  lineSH := lines0.1.2.1
  lineCA := lines0.1.2.2.1
  lineSA := lines0.1.2.2.2
  onlyCH := lines0.2.1.1
  onlySH := lines0.2.1.2.1
  onlyCA := lines0.2.1.2.2.1
  onlySA := lines0.2.1.2.2.2
  earlyLine := lines0.2.2
  preNoHs := by decide
  fromClient := rfl
  described := described0
  phaseH := phaseH0
  phaseO := phaseO0
  hsDgs := hsDgsR0
  hsIns := hsIns0
  send1 := send1R0
  routes := routesR0
  distinct := distinct0

/-- the demanded block, in the senders' terms -/
theorem blockR0 : blockR args0 [] fl (dgFrame false (wH dg0)) (onesOf evsO) = out0 := rfl

/-- **Non-vacuity of `quic_capture_exact_rfc`**: for the nanosecond-libpcap file and the key-log text of `C02File.Ex` the run
    gets to the write loop and the file it writes contains exactly `GET` / `OK`. -/
theorem quic_rfc_instance :
    (∃ e, exportFile maskFn H Pc args0 cv0.isLegacy (some (fileText ls0)) (Spec.Containers.encode cv0 cevs0) = .abort (.write e)) ∨
    ∃ f, exportFile maskFn H Pc args0 cv0.isLegacy (some (fileText ls0)) (Spec.Containers.encode cv0 cevs0) = .file f ∧
      ReadsBack f out0 := by
  have h := quic_capture_exact_rfc captureR0 cv0 cevs0 cwf0 citems0
  rw [blockOf_rfc captureR0, blockR0] at h
  exact h

end TLX.Props.C02Rfc.Ex
