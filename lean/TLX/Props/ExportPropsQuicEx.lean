import TLX.Props.ExportPropsQuic
import TLX.Props.C02File2Ex
import TLX.Props.ExportInputs2
import TLX.Props.QuicExData
set_option autoImplicit false
namespace TLX.Props.ExportPropsQuic
/-! ### instances: the whole QUIC pipeline evaluated by the kernel on a concrete capture (toy primitives) -/
namespace Ex
open TLX TLX.MainLoop TLX.Export TLX.Spec.Demux TLX.QuicPipeline TLX.Props.C02File TLX.Props.C02File2 TLX.Lemmas.ExportProps
open TLX.Props.C02File.Ex (H Pc maskFn keys fl)
open TLX.Props.C02File2.Ex (wM w1 d0 dS dC b5 b7)
open TLX.Props.C01File.Ex (cMac sMac)

/-- the interleaved connection of `C02File2.Ex` as capture items: client Initial; server Initial + Handshake + 1-RTT `HI`;
    client Handshake + 1-RTT `GET`; after a key update `OK` (server) and `MORE` (client) -/
def items : List (Item Keylog.Key) :=
  [.frame (dgPkt fl false (wM d0) 1), .frame (dgPkt fl true (wM dS) 2), .frame (dgPkt fl false (wM dC) 4),
   .frame (dgPkt fl true (w1 b5) 5), .frame (dgPkt fl false (w1 b7) 7)]
def opts (ports : List Int) (md keep : Bool) (pm : List (Int × Int)) : Opts := ⟨ports, false, false, md, keep, pm⟩
def o : Opts := opts [443] false true []

/-- **`CutRel` cannot be strengthened to "prefix"**: a capture clock that stamps the client's two datagrams `GET` and
    `MORE` with the same time (they are consecutive among the client's data-carrying datagrams; the server's `OK` is removed).
    The full export has ONE frame `GETMORE` for them; cut before `MORE` it has the frame `GET`: not a prefix, but `CutRel`. -/
def infoSame : Nat → Pipeline.Info := fun tag => ⟨0, if tag ≥ 4 then 104 else 100 + tag, cMac, sMac, false⟩
def items2 : List (Item Keylog.Key) :=
  [.frame (dgPkt fl false (wM d0) 1), .frame (dgPkt fl true (wM dS) 2), .frame (dgPkt fl false (wM dC) 4),
   .frame (dgPkt fl false (w1 b7) 7)]

def ends (l : List (List Pipeline.OutPkt)) : List (List (Nat × Nat)) := l.map fun fs => fs.map fun p => (p.src.port, p.dst.port)

/-- Every run of this file, in ONE evaluation (the kernel shares work inside a declaration only). Two runs are stated so that
    they continue the first: the run under the clock `infoSame` behind the three items on which it agrees with `info`
    (`sameClock`), and the runs with `-a` / `-m` as the same sessions with other stored options (`quicSess_meta`, `quicSess_opts`). -/
theorem runs :
    view (quicFrames maskFn H Pc info o (some keys) items) = [data 0] ∧
    view (quicFrames maskFn H Pc info o (some keys) (items.take 3)) = [(data 0).take 2] ∧
    view (quicFrames maskFn H Pc info o (some keys) (items.take 1)) = [[]] ∧
    view ((quicRun (quicMachine maskFn H Pc infoSame) o (quicSess maskFn H Pc info o (some keys) (items.take 3))
        (quicView o ((some keys : Option (List Keylog.Key)).getD []) (items2.drop 3))).map (qFrames maskFn H Pc info false)) =
      [[(102, [0x48, 0x49]), (104, [0x47, 0x45, 0x54, 0x4d, 0x4f, 0x52, 0x45])]] ∧
    (view (((quicSess maskFn H Pc info o (some keys) items).map (qsessMeta true)).map (qFrames maskFn H Pc info true))).map
      (·.map (·.1)) = [[101, 102, 104, 105, 107]] ∧
    ends (((quicSess maskFn H Pc info o (some keys) items).map (qsessOpts fun _ => opts [443] false false [(443, 9443)])).map
        (qFrames maskFn H Pc info false)) = [[(9443, 50000), (50000, 9443), (9443, 50000), (50000, 9443)]] ∧
    ends (quicFrames maskFn H Pc info (opts [8443] false false []) (some keys) items) =
      [[(8080, 50000), (50000, 8080), (8080, 50000), (50000, 8080)]] := by decide +kernel

-- the whole capture: one session, four frames
theorem full_view : view (quicFrames maskFn H Pc info o (some keys) items) =
    [[(102, [0x48, 0x49]), (104, [0x47, 0x45, 0x54]), (105, [0x4f, 0x4b]), (107, [0x4d, 0x4f, 0x52, 0x45])]] := runs.1
-- C08: cut after three items — a prefix
theorem cut_view : view (quicFrames maskFn H Pc info o (some keys) (items.take 3)) =
    [[(102, [0x48, 0x49]), (104, [0x47, 0x45, 0x54])]] := runs.2.1
example := export_cut_prefix_quic_items maskFn H Pc info o (some keys) items 3
-- cut before the ServerHello: the session exists, nothing exported yet
example : view (quicFrames maskFn H Pc info o (some keys) (items.take 1)) = [[]] := runs.2.2.1

/-- up to the cut the clock `infoSame` is the clock `info` -/
theorem sameClock : ∀ x ∈ quicView o ((some keys : Option (List Keylog.Key)).getD []) (items.take 3),
    infoSame x.p.tag = info x.p.tag := by
  have h : ∀ x ∈ quicView o ((some keys : Option (List Keylog.Key)).getD []) (items.take 3), x.p.tag ≤ 4 := by decide +kernel
  intro x hx
  have := h x hx
  simp only [infoSame, info, Pipeline.Info.mk.injEq, true_and, and_true]
  split <;> omega

theorem cut_not_prefix_witness :
    view (quicFrames maskFn H Pc infoSame o (some keys) (items2.take 3)) = [[(102, [0x48, 0x49]), (104, [0x47, 0x45, 0x54])]] ∧
    view (quicFrames maskFn H Pc infoSame o (some keys) items2) =
      [[(102, [0x48, 0x49]), (104, [0x47, 0x45, 0x54, 0x4d, 0x4f, 0x52, 0x45])]] := by
  have e : quicView o ((some keys : Option (List Keylog.Key)).getD []) items2 =
      quicView o ((some keys : Option (List Keylog.Key)).getD []) (items.take 3) ++
        quicView o ((some keys : Option (List Keylog.Key)).getD []) (items2.drop 3) := rfl
  constructor
  · unfold quicFrames quicSess
    rw [show items2.take 3 = items.take 3 from rfl, Props.ExportInputs2.quicRun_info_congr maskFn H Pc infoSame info o _ sameClock]
    exact runs.2.1
  · unfold quicFrames quicSess
    rw [e, Lemmas.MainLoop.quicRun_append, Props.ExportInputs2.quicRun_info_congr maskFn H Pc infoSame info o _ sameClock]
    exact runs.2.2.2.1

-- C13: with `-a` the CRYPTO data of the handshake is exported too (seven frames); the STREAM bytes are the same
theorem meta_view : (view (quicFrames maskFn H Pc info (optMeta o true) (some keys) items)).map (·.map (·.1)) =
    [[101, 102, 104, 105, 107]] := by
  -- with `-a` the sessions are those without it, up to the stored flag: the run is the one of `full_view`
  unfold quicFrames
  rw [quicSess_meta]
  exact runs.2.2.2.2.1
example := export_meta_only_adds_quic_items maskFn H Pc info o (some keys) items

-- C10: `-m 443:9443`; and a server-port list that names NEITHER port: the session exists all the same (QUIC is recognised by
-- the header bits), the destination of the first datagram is the server, port 8080
theorem ports_view :
    ends (quicFrames maskFn H Pc info (opts [443] false false [(443, 9443)]) (some keys) items) =
      [[(9443, 50000), (50000, 9443), (9443, 50000), (50000, 9443)]] ∧
    ends (quicFrames maskFn H Pc info (opts [8443] false false []) (some keys) items) =
      [[(8080, 50000), (50000, 8080), (8080, 50000), (50000, 8080)]] := by
  refine ⟨?_, runs.2.2.2.2.2.2⟩
  -- `-m` is only stored: the run is the one of `full_view`
  unfold quicFrames
  rw [quicSess_opts maskFn H Pc info (fun _ => opts [443] false false [(443, 9443)]) o rfl (some keys) items fun _ _ => rfl]
  exact runs.2.2.2.2.2.1
example := export_ports_quic_items maskFn H Pc info o (some keys) items
example := export_time_and_ends_quic_items maskFn H Pc info o (some keys) items

end Ex
end TLX.Props.ExportPropsQuic
