/-
C02 / C03 — packet-level part: the state machine of `QuicSession` (quic_session.py) + `QuicDecryptor`.

Model:  `TLX/Quic/Session.lean` (input: dissected packets `TLX.Quic.Pkt`; cryptography, key derivations and the TLS
        handshake parser are parameters `Params σ`). Toy instance for non-vacuity: `TLX/Quic/SessionToy.lean`.
Spec:   `TLX/Spec/QuicSender.lean` (RFC 9000 §17 headers and packet-number truncation, RFC 9001 §5.3 nonce / AAD,
        §6 key phase and key-update generations, conformance of key-update histories).
Reused: `Props/C16` (packet-number window theorem), `Lemmas/QuicFrameSeq` (`frames_roundtrip`), `Cipher.SealLaws`
        (`open (seal p) = p`, a hypothesis; inhabited by `Toy.laws`).
Property theorems, the predicates and relations their statements use (`OnlyVN`, `Authenticated`, `Rel1`, `SendOk1`, `RelH`,
`SendOkH`, …), the per-packet steps behind the two exactness theorems, and the non-vacuity instances `Ex`; lemmas about the
model alone are in `TLX/Lemmas/QuicSession*.lean`. Every statement is for all inputs.

C03  `session_total`, `session_total_run` (no exception leaves `handle_packet` for packets the class constructors
     can build; `session_total_counterexample`: without that, a `ShortQuicPacket` typed VERSION_NEG does — an object
     the dissector never creates), `wrong_keys_export_nothing`.
     Repair "only an authenticated QUIC packet moves the largest packet number of its space" (45c871e):
     `failed_packet_leaves_pn_table` (∀ s p: not authenticated ⇒ both tables unchanged, only `check_key_epoch`'s fields can
     differ, an exception was swallowed), `unauthenticated_step_leaves_pn_table`, `wrong_keys_leave_pn_tables`,
     `damaged_packet_leaves_pn_table`; witness on the code before (`Session.Legacy`): `legacy_pn_poisoned`, and the same
     two packets on the repaired code: `fixed_pn_not_poisoned` (both kernel-evaluated over the toy instance).
C02  `key_epoch_tracks_sender`, `one_rtt_exact`, `handshake_levels_exact`, `cid_learning_*`, `direction_by_cid`,
     `new_connection_id_direction`, `retry_resets`.
-/
import TLX.Lemmas.QuicSessionExact
import TLX.Quic.SessionToy
namespace TLX.Props.C02Session
open TLX TLX.Quic TLX.Cipher TLX.Quic.Session TLX.Lemmas.QuicSession TLX.Spec.QuicSender TLX.Spec.QuicFrames

variable {σ : Type} (P : Params σ)

/-! ### C03: nothing escapes `handle_packet` -/

def session_total_statement : Prop :=
  ∀ (σ : Type) (P : Params σ) (s : St σ) (d : Dgram), (handlePacket P s d).2.2 = none

/-- C03 for one datagram: whatever the session state, the keys, the AEAD's behaviour and the packets' contents
    (damaged, undecryptable, `None` fields, unknown types), `handle_packet` returns normally — every raise site of
    `decrypt_packet`, `check_key_epoch`, `get_full_packet_number`, `QuicDecryptor.decrypt`, `parse_frames`,
    `handle_frame`, `set_tls_decryptors` and the TLS parser lies inside the `try/except Exception`.
    Hypothesis: `Pkt.classOk` — a short-header object is typed RTT_1 (the only way the dissector builds one). -/
theorem session_total (s : St σ) (d : Dgram) (h : ∀ p ∈ d.pkts, Pkt.classOk p) : (handlePacket P s d).2.2 = none := by
  unfold handlePacket
  rw [handleQuicPackets_esc]
  apply escapes_none
  intro q hq
  obtain ⟨p, hp, rfl⟩ := List.mem_map.mp hq
  exact h p hp

/-- C03 for a whole flow: the run over any datagram sequence ends without an escaping exception. -/
theorem session_total_run (s : St σ) (ds : List Dgram) (h : ∀ d ∈ ds, ∀ p ∈ d.pkts, Pkt.classOk p) :
    (run P s ds).2 = none := by
  induction ds generalizing s with
  | nil => rfl
  | cons d ds ih =>
    unfold run
    have h1 := session_total P s d (h d (List.mem_cons_self ..))
    split
    · rename_i heq; rw [heq] at h1; simp at h1
    · exact ih _ (fun d' hd' => h d' (List.mem_cons_of_mem _ hd'))

/-- the object that makes the real code raise out of `handle_quic_packet`: a `ShortQuicPacket` whose `packet_type`
    is VERSION_NEG (`quic_packet.supported_version` → AttributeError outside the try/except). -/
def shortVersionNeg : Pkt := { htype := .short, ptype := .versionNeg, isServer := false, ts := 0, firstByte := [0x40] }

theorem short_version_neg_escapes (s : St σ) (fc : Bool) (dcid : Bytes) (v : Version) :
    (handlePacket P s ⟨fc, dcid, v, [shortVersionNeg]⟩).2.2 = some .attr := by
  simp [handlePacket, handleQuicPackets, stepPkt, afterDecrypt, shortVersionNeg]

theorem session_total_counterexample : ¬ session_total_statement := by
  intro h
  have := h _ (SessionToy.params [] true) (St.init (SessionToy.params [] true)) ⟨true, [], .v1, [shortVersionNeg]⟩
  rw [short_version_neg_escapes] at this
  simp at this

/-! ### C03: wrong keys export nothing -/

/-- `s'.out` is `s.out` followed by VERSION_NEG pseudo frames only (those are appended without any decryption) -/
def OnlyVN (s s' : St σ) : Prop := ∃ extra, s'.out = s.out ++ extra ∧ ∀ o ∈ extra, o.frame = .versionNeg

/-- the AEAD rejects everything (wrong keys, wrong key log, damaged packets) -/
def AeadRejectsAll : Prop := ∀ a k n ad tl ct, ∃ e, P.prims.aeadOpen a k n ad tl ct = .error e

theorem decDecrypt_rejected (hbad : AeadRejectsAll P) (d : Dec) (pl : Option Bytes) (pn aad : Bytes) (srv : Bool)
    (pt : Bytes) : decDecrypt P d pl pn aad srv ≠ .ok pt := by
  intro h
  obtain ⟨k, ct, _, _, ho⟩ := decDecrypt_ok P h
  obtain ⟨e, he⟩ := hbad d.alg k.key (nonceOf k.iv pn) aad 16 ct
  rw [he] at ho
  cases ho

/-! #### only an authenticated packet moves the largest packet number -/

/-- after the decryptor lookup: the number was reconstructed, the AAD assembled, the decryptor bound and the AEAD
    accepted the packet -/
def PassesAead (s : St σ) (p : Pkt) (d? : Option Dec) : Prop :=
  ∃ pn aad d pt, getFullPn s p = .ok pn ∧ assocData p = .ok aad ∧ d? = some d ∧
    decDecrypt P d p.payload pn aad p.isServer = .ok pt

/-- `decrypt_packet` got past `decryptor.decrypt(…)` -/
def Authenticated (s : St σ) (p : Pkt) : Prop :=
  ∃ s1 d?, selectDecryptor P s p = (s1, .ok d?) ∧ PassesAead P s1 p d?

theorem decryptRest_failed (s : St σ) (p : Pkt) (d? : Option Dec) (h : ¬ PassesAead P s p d?) :
    ∃ e, decryptRest P s p d? = (s, some e) :=
  (decryptRest_cases P s p d?).resolve_right
    fun ⟨d, pn, aad, pt, hd?, hpn, haad, hd, _⟩ => h ⟨pn, aad, d, pt, hpn, haad, hd?, hd⟩

theorem decryptPacket_failed (s : St σ) (p : Pkt) (h : ¬ Authenticated P s p) :
    (decryptPacket P s p).1 = (selectDecryptor P s p).1 ∧ (decryptPacket P s p).2 ≠ none := by
  unfold decryptPacket
  cases hs : selectDecryptor P s p with
  | mk s1 r =>
    cases r with
    | error e => exact ⟨rfl, by simp⟩
    | ok d? =>
      obtain ⟨e, he⟩ := decryptRest_failed P s1 p d? (fun hp => h ⟨s1, d?, hs, hp⟩)
      simp only [he]
      exact ⟨trivial, by simp⟩

/-- ∀ state, ∀ packet: if `decrypt_packet` raises before the store — no decryptor, packet number / AAD not buildable,
    AEAD check failed (wrong keys, damaged packet, garbage after header-protection removal with wrong keys) — then an
    exception was swallowed and `packet_number_client` / `packet_number_server` are exactly what they were; the only
    state that can have changed is what `check_key_epoch` touches (`FrameSel`), in particular nothing is exported. -/
theorem failed_packet_leaves_pn_table (s : St σ) (p : Pkt) (h : ¬ Authenticated P s p) :
    (decryptPacket P s p).1.pnClient = s.pnClient ∧ (decryptPacket P s p).1.pnServer = s.pnServer ∧
    (decryptPacket P s p).1.out = s.out ∧ FrameSel s (decryptPacket P s p).1 ∧ (decryptPacket P s p).2 ≠ none := by
  obtain ⟨h1, h2⟩ := decryptPacket_failed P s p h
  have k1 := selectDecryptor_frame P s p
  rw [← h1] at k1
  obtain ⟨_, _, _, _, _, heq⟩ := id k1
  exact ⟨by rw [heq], by rw [heq], by rw [heq], k1, h2⟩

theorem not_authenticated_of_rejects (hbad : AeadRejectsAll P) (s : St σ) (p : Pkt) : ¬ Authenticated P s p := by
  rintro ⟨s1, d?, _, pn, aad, d, pt, _, _, _, hd⟩
  exact decDecrypt_rejected P hbad _ _ _ _ _ _ hd

theorem stepPkt_onlyVN (hbad : AeadRejectsAll P) (s : St σ) (p : Pkt) : OnlyVN s (stepPkt P s p).st :=
  (stepPkt_outGrew P s p).mono fun o h => by
    rcases h with ⟨_, rfl⟩ | ⟨_, _, ⟨d, pn, aad, pt, hd, _⟩, _⟩
    · rfl
    · exact absurd hd (decDecrypt_rejected P hbad _ _ _ _ _ _)

/-- C03, second clause: if the AEAD accepts nothing — wrong key log, keys of another connection, every packet
    damaged — then, for every datagram sequence and every starting state, nothing is exported: `output_buffer`
    only ever receives VERSION_NEG pseudo frames (which carry no stream data and need no key). -/
theorem wrong_keys_export_nothing (hbad : AeadRejectsAll P) (s : St σ) (ds : List Dgram) :
    OnlyVN s (run P s ds).1 :=
  run_inv P (OnlyVN s) (fun _ => True) (fun a p _ h => OutGrew.trans h (stepPkt_onlyVN P hbad a p))
    (fun a dcid v h => OutGrew.trans h (.of_eq (handlePacketPre_out P a dcid v))) ds (fun _ _ _ _ _ => trivial) s
    (OutGrew.refl _ _)

/-- `wrong_keys_export_nothing` with no Version Negotiation packet in the flow: the buffer stays exactly as it was (empty
    for a fresh session). -/
theorem wrong_keys_export_nothing_fresh (hbad : AeadRejectsAll P) (ds : List Dgram)
    (hvn : ∀ o ∈ (run P (St.init P) ds).1.out, o.frame ≠ .versionNeg) : (run P (St.init P) ds).1.out = [] := by
  obtain ⟨extra, h, g⟩ := wrong_keys_export_nothing P hbad (St.init P) ds
  cases extra with
  | nil => simpa [St.init] using h
  | cons o r =>
    exfalso
    exact hvn o (by rw [h]; simp) (g o (by simp))

/-! ### C02: CID learning and direction -/

theorem run_cids (s : St σ) (ds : List Dgram) : CidsMono s (run P s ds).1 :=
  run_inv P (CidsMono s) (fun _ => True) (fun a p _ h => h.trans (stepPkt_cids P a p))
    (fun a dcid v h => h.trans (handlePacketPre_cids P a dcid v)) ds (fun _ _ _ _ _ => trivial) s (CidsMono.refl s)

/-- After a client Initial (DCID `D`, SCID `S`) — whether or not it could be decrypted — `server_cids ∋ D` and
    `client_cids ∋ S`. -/
theorem cid_learning_client_initial (s : St σ) (p : Pkt) (hl : p.htype = .long) (hi : p.ptype = .initial)
    (hc : p.isServer = false) (S : Bytes) (hs : p.scid = some S) :
    p.dcid ∈ (stepPkt P s p).st.serverCids ∧ S ∈ (stepPkt P s p).st.clientCids := by
  simp only [stepPkt, afterDecrypt, hi, hl, learnCids, hc, hs, optAdd]
  simp [mem_setAdd_self]

/-- After a server Initial (DCID `D` = a client CID, SCID `S`): `client_cids ∋ D` and `server_cids ∋ S`. -/
theorem cid_learning_server_initial (s : St σ) (p : Pkt) (hl : p.htype = .long) (hi : p.ptype = .initial)
    (hc : p.isServer = true) (S : Bytes) (hs : p.scid = some S) :
    p.dcid ∈ (stepPkt P s p).st.clientCids ∧ S ∈ (stepPkt P s p).st.serverCids := by
  simp only [stepPkt, afterDecrypt, hi, hl, learnCids, hc, hs, optAdd]
  simp [mem_setAdd_self]

/-- `packet_isserver` for every LATER datagram (any number of datagrams of any content in between, Retry included):
    a non-empty DCID that is a learned server CID (and not also a client CID) means "sent by the client"; a learned
    client CID (not also a server CID) means "sent by the server"; a CID both endpoints chose, like an empty DCID,
    decides nothing and the addresses do (`Legacy.packetIsServer`: the rule of the tool before its same-CID repair). -/
theorem direction_by_cid (s : St σ) (ds : List Dgram) (D : Bytes) (hne : D ≠ []) (fc : Bool) :
    (D ∈ s.serverCids → D ∉ (run P s ds).1.clientCids → packetIsServer (run P s ds).1 fc D = false) ∧
    (D ∈ s.clientCids → D ∉ (run P s ds).1.serverCids → packetIsServer (run P s ds).1 fc D = true) ∧
    (D ∈ s.clientCids → D ∈ s.serverCids → packetIsServer (run P s ds).1 fc D = !fc) ∧
    (∀ t : St σ, packetIsServer t fc [] = !fc) := by
  have hm := run_cids P s ds
  have hlen : D.length > 0 := by cases D <;> simp_all
  refine ⟨fun h hn => ?_, fun h hn => ?_, fun hc hs => ?_, fun t => ?_⟩
  · simp [packetIsServer, hlen, hm.2 D h, hn]
  · simp [packetIsServer, hlen, hm.1 D h, hn]
  · cases fc <;> simp [packetIsServer, hm.1 D hc, hm.2 D hs]
  · cases fc <;> simp [packetIsServer]

/-- the tool's rule before the repair: a CID in both sets always read as "sent by the client" (this `Legacy` is
    `TLX.Props.C02Session.Legacy`, beside the model's `TLX.Quic.Session.Legacy`) -/
def Legacy.packetIsServer (s : St σ) (fromClientAddr : Bool) (dcid : Bytes) : Bool :=
  if dcid.length > 0 ∧ dcid ∈ s.serverCids then false
  else if dcid.length > 0 ∧ dcid ∈ s.clientCids then true
  else if fromClientAddr then false
  else true

/-- witness: both endpoints chose the CID `07`; a datagram from the SERVER's address addressed to `07` was attributed
    to the client by the old rule and is attributed to the server now -/
theorem legacy_same_cid_misdirects (s : St σ) (hc : [7] ∈ s.clientCids) (hs : [7] ∈ s.serverCids) :
    Legacy.packetIsServer s false [7] = false ∧ packetIsServer s false [7] = true := by
  simp [Legacy.packetIsServer, packetIsServer, hc, hs]

/-- NEW_CONNECTION_ID: once a packet's frames have been handled, a connection ID it issued is in the SENDER's set,
    so that every later datagram addressed to that (non-empty) CID — after any further traffic — is attributed to
    the peer: frames from the server ⇒ packets to the new CID come from the client, and vice versa. -/
theorem new_connection_id_direction (s s' : St σ) (p : Pkt) (fs : List Frame.Parsed)
    (h : handleFrames P s p fs = (s', none)) (l sq r cl : Nat) (cid tok : Bytes)
    (hf : Frame.Parsed.newConnectionId l sq r cl cid tok ∈ fs) (hne : cid ≠ []) (ds : List Dgram) (fc : Bool) :
    (p.isServer = true → cid ∉ (run P s' ds).1.clientCids → packetIsServer (run P s' ds).1 fc cid = false) ∧
    (p.isServer = false → cid ∉ (run P s' ds).1.serverCids → packetIsServer (run P s' ds).1 fc cid = true) := by
  have hin := handleFrames_ncid P s s' p fs h l sq r cl cid tok hf
  obtain ⟨d1, d2, _⟩ := direction_by_cid P s' ds cid hne fc
  constructor
  · intro hs hn; rw [hs] at hin; exact d1 hin hn
  · intro hs hn; rw [hs] at hin; exact d2 hin hn

/-- A Retry packet (never decrypted, no exception) discards the TLS parser state, every decryptor and the key
    dictionary; the next datagram then re-creates the Initial keys from ITS routing DCID — the new DCID the client
    uses after the Retry — under the latched version, and the TLS parser is the fresh one. -/
theorem retry_resets (s : St σ) (p : Pkt) (hp : p.ptype = .retry) (dcid : Bytes) (v : Version) :
    (stepPkt P s p).caught = none ∧ (stepPkt P s p).escaped = none ∧
    (stepPkt P s p).st.tls = P.tlsInit ∧ (stepPkt P s p).st.decInitial = none ∧
    (stepPkt P s p).st.decHandshake = none ∧ (stepPkt P s p).st.decEarly = none ∧
    (stepPkt P s p).st.decApp = none ∧ (stepPkt P s p).st.out = s.out ∧
    (handlePacketPre P (stepPkt P s p).st dcid v).tls = P.tlsInit ∧
    (handlePacketPre P (stepPkt P s p).st dcid v).decInitial =
      (P.devInitialKeys (handlePacketPre P (stepPkt P s p).st dcid v).version dcid).map
        (fun k => { alg := .aesgcm, server := some k.1, client := k.2 }) := by
  have e : (stepPkt P s p).st = retryReset P s ∧ (stepPkt P s p).caught = none ∧ (stepPkt P s p).escaped = none := by
    simp [stepPkt, afterDecrypt, hp]
  obtain ⟨e1, e2, e3⟩ := e
  rw [e1]
  refine ⟨e2, e3, rfl, rfl, rfl, rfl, rfl, rfl, ?_, ?_⟩
  · obtain ⟨_, _, _, _, h⟩ := handlePacketPre_frame P (retryReset P s) dcid v
    rw [h]; rfl
  · unfold handlePacketPre
    have hn : (latchVersion (retryReset P s) v).decInitial = none := by
      unfold latchVersion; split <;> rfl
    simp only [hn, Option.isNone_none, if_true, setInitialDecryptor]
    split <;> (rename_i heq; simp [heq])

/-! ### C02: key epochs follow the sender through any conformant key-update history -/

/-- along the run, the decryptor the model picks for each packet is the sender's generation of that packet
    (`selectDecryptor` returning `.ok` also says: no KeyError, no IndexError on the "Application" list) -/
def Tracks (sel : SuiteSel) (v : Version) (k0 : AppKeys) : St σ → List (Pkt × Nat) → Prop
  | _, [] => True
  | s, (p, g) :: rest =>
    (selectDecryptor P s p).2 = .ok (some (genDec P sel v k0 g)) ∧ Tracks sel v k0 (stepPkt P s p).st rest

/-- the (direction, generation) sequence of a packet list -/
def history (l : List (Pkt × Nat)) : List (Bool × Nat) := l.map fun x => (x.1.isServer, x.2)

/-- the generation each direction has shown at the end -/
def finalGens : Nat → Nat → List (Bool × Nat) → Nat × Nat
  | gc, gs, [] => (gc, gs)
  | gc, gs, (srv, g) :: rest => finalGens (if srv then gc else g) (if srv then g else gs) rest

/-- For EVERY conformant 1-RTT history — any number of key updates, initiated by either side, the two directions
    interleaved in any way, whatever the packets contain otherwise (they may even be undecryptable) — the decryptor
    the session selects for each packet is the sender's key generation of that packet, the "Application" list always
    has the entry (no IndexError), and the epoch relation holds again at the end.
    `TlsQuiet`: post-handshake CRYPTO data in 1-RTT packets does not make the TLS parser signal new handshake data
    (otherwise `set_tls_decryptors` would reset the generation list). -/
theorem key_epoch_tracks_sender (sel : SuiteSel) (v : Version) (k0 : AppKeys) (hq : TlsQuiet P .rtt1)
    (l : List (Pkt × Nat))
    (hshape : ∀ x ∈ l, x.1.htype = .short ∧ x.1.ptype = .rtt1 ∧ x.1.keyPhase = some (x.2 % 2))
    (s : St σ) (gc gs : Nat) (hinv : EpochInv P sel v k0 s gc gs) (hflag : P.tlsNewData s.tls = false)
    (hconf : KeyUpdateConformant gc gs (history l)) :
    Tracks P sel v k0 s l ∧ escapes P s (l.map Prod.fst) = none ∧
    EpochInv P sel v k0 (runPkts P s (l.map Prod.fst)) (finalGens gc gs (history l)).1 (finalGens gc gs (history l)).2 := by
  induction l generalizing s gc gs with
  | nil => exact ⟨trivial, rfl, hinv⟩
  | cons x l ih =>
    obtain ⟨p, g⟩ := x
    obtain ⟨hh, ht, hk⟩ := hshape (p, g) (List.mem_cons_self ..)
    simp only [history, List.map_cons, KeyUpdateConformant] at hconf
    obtain ⟨hlo, hhi, hrest⟩ := hconf
    obtain ⟨s', h1, h2, h3⟩ := selectDecryptor_tracks P sel v k0 s gc gs hinv p g hh ht hk hlo hhi
    have e := stepPkt_rtt1 P s p ht
    have e1 : (stepPkt P s p).st = (decryptPacket P s p).1 := by rw [e]
    have e3 : (stepPkt P s p).escaped = none := by rw [e]
    have hflag' : P.tlsNewData s'.tls = false := by obtain ⟨_, _, _, _, _, rfl⟩ := h3; exact hflag
    have hdp : (decryptPacket P s p).1 = (decryptRest P s' p (some (genDec P sel v k0 g))).1 := by
      simp [decryptPacket, h1]
    obtain ⟨hinv', hfl'⟩ := decryptRest_inv P (fun a => EpochInv P sel v k0 a _ _ ∧ P.tlsNewData a.tls = false) p
      (fun a b f h => ⟨h.1.of_framePn P f, by obtain ⟨_, _, rfl⟩ := f; exact h.2⟩)
      (fun a fs _ h => let q := (handleFrames_quiet P p (by rw [ht]; exact hq) fs a h.2).1; ⟨h.1.of_frameQ P q, q.flag⟩)
      s' (some (genDec P sel v k0 g)) ⟨h2, hflag'⟩
    rw [← hdp, ← e1] at hinv' hfl'
    obtain ⟨i1, i2, i3⟩ := ih (fun y hy => hshape y (List.mem_cons_of_mem _ hy)) _ _ _ hinv' hfl' hrest
    refine ⟨⟨by rw [h1], i1⟩, ?_, ?_⟩
    · simp only [List.map_cons, escapes, e3]; exact i2
    · simp only [List.map_cons, runPkts, e3, history, finalGens]; exact i3

/-! ### C02: 1-RTT packets are exported exactly -/

/-- the sender's generation-`g` key of each direction is one the AEAD accepts, with an IV of at least 8 bytes (RFC 9001:
    12; 8 is the length of the packet number as `pnResult` returns it for the nonce, `Bytes.ofNatBE 8`) -/
def KeysWf (sel : SuiteSel) (v : Version) (k0 : AppKeys) : Prop :=
  ∀ srv g, AeadOk sel.alg (genDir (P.keyUpdate sel v) k0 srv g).key.length
      (genDir (P.keyUpdate sel v) k0 srv g).iv.length 16 ∧ 8 ≤ (genDir (P.keyUpdate sel v) k0 srv g).iv.length

/-- the refinement relation for the 1-RTT phase: key epochs (`EpochInv`), the largest packet number captured per
    direction in the application space, and a TLS parser with no pending new data -/
structure Rel1 (sel : SuiteSel) (v : Version) (k0 : AppKeys) (s : St σ) (gc gs lc ls : Nat) : Prop where
  inv : EpochInv P sel v k0 s gc gs
  flag : P.tlsNewData s.tls = false
  pc : s.pnClient.app = lc
  ps : s.pnServer.app = ls

/-- what RFC 9000/9001 demand of a sequence of 1-RTT packets in capture order: key generations conformant
    (`KeyUpdateConformant`, inlined), each packet number truncated within the window of the largest number captured
    so far in its direction (any gaps, any of the lengths 1–4 the window allows), frames well-formed -/
def SendOk1 : (gc gs lc ls : Nat) → List SPkt → Prop
  | _, _, _, _, [] => True
  | gc, gs, lc, ls, x :: rest =>
    x.level = .oneRtt ∧ (if x.srv then gs else gc) ≤ x.gen ∧ x.gen ≤ (if x.srv then gs else gc) + 1 ∧
    PnLenOk (if x.srv then ls else lc) x.pn x.pnLen ∧ WellFormedSeq x.frames ∧
    SendOk1 (if x.srv then gc else x.gen) (if x.srv then x.gen else gs)
      (if x.srv then lc else max lc x.pn) (if x.srv then max ls x.pn else ls) rest

/-- the 1-RTT packet as captured: protected with the sender's key of its direction and generation -/
def emit1 (L : SealLaws P.prims) (sel : SuiteSel) (v : Version) (k0 : AppKeys) (x : SPkt) : Pkt :=
  emit L.aeadSeal sel.alg (genDir (P.keyUpdate sel v) k0 x.srv x.gen) x

theorem emit1_isServer (L : SealLaws P.prims) (sel : SuiteSel) (v : Version) (k0 : AppKeys) (x : SPkt) :
    (emit1 P L sel v k0 x).isServer = x.srv := emit_isServer ..
theorem emit1_ts (L : SealLaws P.prims) (sel : SuiteSel) (v : Version) (k0 : AppKeys) (x : SPkt) :
    (emit1 P L sel v k0 x).ts = x.ts := emit_ts ..
theorem emit1_ptype (L : SealLaws P.prims) (sel : SuiteSel) (v : Version) (k0 : AppKeys) {x : SPkt} (hlv : x.level = .oneRtt) :
    (emit1 P L sel v k0 x).ptype = .rtt1 := (emit_ptype ..).trans (by rw [hlv]; rfl)

/-- what has to be in `output_buffer` for one packet: its STREAM and CRYPTO frames in order, each with the capture
    time and direction of the packet -/
def expectedOf (pt : PType) (x : SPkt) : List Out :=
  (exported x.frames).map fun f => ⟨.parsed f.toParsed, x.ts, x.srv, pt⟩

/-- one conformant 1-RTT packet: `decrypt_packet` IS `handle_frame` over the sender's frames; the TLS parser only enters
    inside `handleFrames` -/
theorem step_short_eq (L : SealLaws P.prims) (sel : SuiteSel) (v : Version) (k0 : AppKeys) (hk : KeysWf P sel v k0)
    (x : SPkt) (s : St σ) (gc gs lc ls : Nat) (hrel : Rel1 P sel v k0 s gc gs lc ls)
    (hlv : x.level = .oneRtt) (hlo : (if x.srv then gs else gc) ≤ x.gen) (hhi : x.gen ≤ (if x.srv then gs else gc) + 1)
    (hpn : PnLenOk (if x.srv then ls else lc) x.pn x.pnLen) (hwf : WellFormedSeq x.frames) :
    ∃ s', FrameSel s s' ∧ EpochInv P sel v k0 s' (if x.srv then gc else x.gen) (if x.srv then x.gen else gs) ∧
      stepPkt P s (emit1 P L sel v k0 x) =
        { st := (handleFrames P (pnStore s' x.srv .app (max (if x.srv then ls else lc) x.pn)) (emit1 P L sel v k0 x)
                  ((normalize x.frames).map QFrame.toParsed)).1,
          caught := (handleFrames P (pnStore s' x.srv .app (max (if x.srv then ls else lc) x.pn)) (emit1 P L sel v k0 x)
                  ((normalize x.frames).map QFrame.toParsed)).2,
          escaped := none } := by
  obtain ⟨hinv, hflag, hpc, hps⟩ := hrel
  have hsrv := emit_isServer L.aeadSeal sel.alg (genDir (P.keyUpdate sel v) k0 x.srv x.gen) x
  have hpt := emit1_ptype P L sel v k0 hlv
  unfold emit1 at hpt ⊢
  obtain ⟨s', h1, h2, h3⟩ := selectDecryptor_tracks P sel v k0 s gc gs hinv _ x.gen
    ((emit_htype ..).trans (if_pos hlv)) hpt (emit_keyPhase _ _ _ hlv) (by rw [hsrv]; exact hlo) (by rw [hsrv]; exact hhi)
  rw [hsrv] at h2
  refine ⟨s', h3, h2, ?_⟩
  have hlarge : pnLargest s' x.srv .app = (if x.srv then ls else lc) := by
    obtain ⟨_, _, _, _, _, rfl⟩ := h3
    cases x.srv <;> simp [pnLargest, PnTab.get, hpc, hps]
  have hrest := decryptRest_emit P L s' (genDec P sel v k0 x.gen) (genDir (P.keyUpdate sel v) k0 x.srv x.gen) x .app
    (by cases x.srv <;> simp [genDec, AppKeys.toDec, genDir]) (by rw [hlv]; rfl) (by rw [hlarge]; exact hpn) hwf
    (hk x.srv x.gen).1 (hk x.srv x.gen).2
  rw [hlarge] at hrest
  rw [stepPkt_rtt1 P s _ hpt]
  simp only [decryptPacket, h1]
  exact congrArg (fun r : St σ × Option PyErr => ({ st := r.1, caught := r.2, escaped := none } : StepRes σ)) hrest

theorem step_one_rtt (L : SealLaws P.prims) (sel : SuiteSel) (v : Version) (k0 : AppKeys)
    (hq : TlsQuiet P .rtt1) (hn : TlsNoRaise P .rtt1) (hk : KeysWf P sel v k0)
    (x : SPkt) (s : St σ) (gc gs lc ls : Nat) (hrel : Rel1 P sel v k0 s gc gs lc ls)
    (hlv : x.level = .oneRtt) (hlo : (if x.srv then gs else gc) ≤ x.gen) (hhi : x.gen ≤ (if x.srv then gs else gc) + 1)
    (hpn : PnLenOk (if x.srv then ls else lc) x.pn x.pnLen) (hwf : WellFormedSeq x.frames) :
    (stepPkt P s (emit1 P L sel v k0 x)).caught = none ∧ (stepPkt P s (emit1 P L sel v k0 x)).escaped = none ∧
    (stepPkt P s (emit1 P L sel v k0 x)).st.out = s.out ++ expectedOf .rtt1 x ∧
    Rel1 P sel v k0 (stepPkt P s (emit1 P L sel v k0 x)).st (if x.srv then gc else x.gen) (if x.srv then x.gen else gs)
      (if x.srv then lc else max lc x.pn) (if x.srv then max ls x.pn else ls) := by
  obtain ⟨s', h3, h2, hstep⟩ := step_short_eq P L sel v k0 hk x s gc gs lc ls hrel hlv hlo hhi hpn hwf
  obtain ⟨hinv, hflag, hpc, hps⟩ := hrel
  rw [hstep]
  have ht : (emit1 P L sel v k0 x).ptype = .rtt1 := emit1_ptype P L sel v k0 hlv
  have e2 := pnStore_eq s' x.srv Space.app (max (if x.srv then ls else lc) x.pn)
  generalize pnStore s' x.srv Space.app (max (if x.srv then ls else lc) x.pn) = s2 at e2 ⊢
  obtain ⟨_, _, _, _, _, rfl⟩ := h3
  obtain ⟨q1, q2⟩ := handleFrames_quiet P _ (by rw [ht]; exact hq) ((normalize x.frames).map QFrame.toParsed) s2
    (by rw [e2]; exact hflag)
  obtain ⟨q3, q4⟩ := q2 (by rw [ht]; exact hn)
  refine ⟨q3, rfl, ?_, (h2.of_framePn P ⟨_, _, e2⟩).of_frameQ P q1, q1.flag, ?_, ?_⟩
  · show (handleFrames P s2 _ _).1.out = _
    rw [q4, filterMap_export, e2]
    simp [expectedOf, exported_eq, mkOut, emit1_ts, emit1_isServer, ht]
  · obtain ⟨cc, sc, t, o, heq, _⟩ := q1
    show (handleFrames P s2 _ _).1.pnClient.app = _
    rw [heq, e2]
    cases x.srv <;> simp [PnTab.set, hpc]
  · obtain ⟨cc, sc, t, o, heq, _⟩ := q1
    show (handleFrames P s2 _ _).1.pnServer.app = _
    rw [heq, e2]
    cases x.srv <;> simp [PnTab.set, hps]

/-- With application keys installed (`Rel1`), for EVERY sequence of 1-RTT packets an RFC-conformant pair of
    endpoints can produce — any key-update history by either side, any interleaving of the directions, packet
    numbers with any gaps truncated to any length the RFC window allows, any well-formed frame lists — no packet
    raises, and the frames appended to `output_buffer` are exactly the senders' STREAM and CRYPTO frames, in capture
    order, each with its packet's timestamp and direction. Composition of the epoch theorem, C16's window theorem,
    the AEAD law and C17's `frames_roundtrip`. -/
theorem one_rtt_exact (L : SealLaws P.prims) (sel : SuiteSel) (v : Version) (k0 : AppKeys)
    (hq : TlsQuiet P .rtt1) (hn : TlsNoRaise P .rtt1) (hk : KeysWf P sel v k0)
    (xs : List SPkt) (s : St σ) (gc gs lc ls : Nat) (hrel : Rel1 P sel v k0 s gc gs lc ls)
    (hok : SendOk1 gc gs lc ls xs) :
    (runPkts P s (xs.map (emit1 P L sel v k0))).out = s.out ++ xs.flatMap (expectedOf .rtt1) ∧
    caughtList P s (xs.map (emit1 P L sel v k0)) = xs.map (fun _ => none) ∧
    escapes P s (xs.map (emit1 P L sel v k0)) = none := by
  induction xs generalizing s gc gs lc ls with
  | nil => simp [runPkts, caughtList, escapes]
  | cons x xs ih =>
    obtain ⟨hlv, hlo, hhi, hpn, hwf, hrest⟩ := hok
    obtain ⟨a1, a2, a3, a4⟩ := step_one_rtt P L sel v k0 hq hn hk x s gc gs lc ls hrel hlv hlo hhi hpn hwf
    obtain ⟨i1, i2, i3⟩ := ih _ _ _ _ _ a4 hrest
    simp only [List.map_cons, runPkts, caughtList, escapes, a1, a2, List.flatMap_cons]
    exact ⟨by rw [i1, a3, List.append_assoc], by rw [i2], i3⟩

/-! ### C02: Initial, Handshake and 0-RTT packets are exported exactly -/

/-- packet-number space of a level (RFC 9000 §12.3: 0-RTT and 1-RTT share the application space) -/
def spaceOf : Level → Space
  | .initial => .initial | .handshake => .handshake | .zeroRtt => .app | .oneRtt => .app

/-- one captured long-header packet: the sender's decisions `x`, the decryptor object `d` that holds the keys of
    its level, and the key `k` of its direction inside `d` -/
structure HPkt where
  x : SPkt
  d : Dec
  k : DirKeys

def emitH (L : SealLaws P.prims) (h : HPkt) : Pkt := emit L.aeadSeal h.d.alg h.k h.x

def bump (t : PnTab) (sp : Space) (pn : Nat) : PnTab := t.set sp (max (t.get sp) pn)

/-- what the RFCs demand of a sequence of Initial / Handshake / 0-RTT packets in capture order, relative to the
    decryptors `want` of the connection: the level's decryptor holds the sender's key of that direction (a 0-RTT
    decryptor has no server key: server-direction 0-RTT does not satisfy this), the key is one the AEAD accepts,
    packet numbers are truncated within the window of the largest number captured in their space and direction,
    frames are well-formed -/
def SendOkH (want : Level → Option Dec) : (tc ts : PnTab) → List HPkt → Prop
  | _, _, [] => True
  | tc, ts, h :: rest =>
    h.x.level ≠ .oneRtt ∧ want h.x.level = some h.d ∧
    (if h.x.srv then h.d.server else some h.d.client) = some h.k ∧
    AeadOk h.d.alg h.k.key.length h.k.iv.length 16 ∧ 8 ≤ h.k.iv.length ∧
    PnLenOk ((if h.x.srv then ts else tc).get (spaceOf h.x.level)) h.x.pn h.x.pnLen ∧ WellFormedSeq h.x.frames ∧
    SendOkH want (if h.x.srv then tc else bump tc (spaceOf h.x.level) h.x.pn)
      (if h.x.srv then bump ts (spaceOf h.x.level) h.x.pn else ts) rest

/-- the refinement relation for the handshake phase -/
structure RelH (v : Version) (want : Level → Option Dec) (s : St σ) (tc ts : PnTab) : Prop where
  lv : LevelInv v want s
  pc : s.pnClient = tc
  ps : s.pnServer = ts

/-- `handle_quic_packet` after `decrypt_packet` for an Initial packet (CID learning), nothing for the other levels -/
def postLevel (lv : Level) (s : St σ) (p : Pkt) : St σ := if lv = .initial then learnCids s p else s

/-- one conformant Initial / Handshake / 0-RTT packet whose level's decryptor `d` is installed: `decrypt_packet` IS
    `handle_frame` over the sender's frames, then `postLevel` -/
theorem step_long_eq (L : SealLaws P.prims) (x : SPkt) (d : Dec) (k : DirKeys) (s : St σ)
    (hne : x.level ≠ .oneRtt) (hdec : longDecryptor s x.level.ptype = .ok (some d))
    (hdir : (if x.srv then d.server else some d.client) = some k)
    (hk : AeadOk d.alg k.key.length k.iv.length 16) (hiv : 8 ≤ k.iv.length)
    (hpn : PnLenOk (pnLargest s x.srv (spaceOf x.level)) x.pn x.pnLen) (hwf : WellFormedSeq x.frames) :
    let p := emit L.aeadSeal d.alg k x
    let r := handleFrames P (pnStore s x.srv (spaceOf x.level) (max (pnLargest s x.srv (spaceOf x.level)) x.pn)) p
      ((normalize x.frames).map QFrame.toParsed)
    stepPkt P s p = { st := postLevel x.level r.1 p, caught := r.2, escaped := none } := by
  intro p r
  have hh : p.htype = .long := by rw [emit_htype, if_neg hne]
  have ht : p.ptype = x.level.ptype := emit_ptype ..
  have hsp : x.level.ptype.space = some (spaceOf x.level) := by cases hl : x.level <;> first | rfl | exact absurd hl hne
  have hdp : decryptPacket P s p = r := by
    rw [decryptPacket_long P s p hh (ht ▸ hdec)]
    exact decryptRest_emit P L s d k x _ hdir hsp hpn hwf hk hiv
  have hnr : p.ptype ≠ .retry ∧ p.ptype ≠ .versionNeg := by rw [ht]; cases x.level <;> exact ⟨nofun, nofun⟩
  simp only [stepPkt, hnr, ne_eq, not_false_eq_true, and_self, if_true, afterDecrypt, if_false, hdp, hh]
  unfold postLevel
  by_cases hi : x.level = .initial
  · have : p.ptype = .initial := by rw [ht, hi]; rfl
    simp [hi, this]
  · have : p.ptype ≠ .initial := by rw [ht]; cases hl : x.level <;> simp_all [Level.ptype]
    simp [hi, this]

theorem postLevel_keeps (lv : Level) (s : St σ) (p : Pkt) :
    (postLevel lv s p).out = s.out ∧ (postLevel lv s p).pnClient = s.pnClient ∧ (postLevel lv s p).pnServer = s.pnServer ∧
    (postLevel lv s p).version = s.version ∧ (postLevel lv s p).decInitial = s.decInitial ∧
    (postLevel lv s p).decHandshake = s.decHandshake ∧ (postLevel lv s p).decEarly = s.decEarly := by
  unfold postLevel learnCids
  split
  · split <;> exact ⟨rfl, rfl, rfl, rfl, rfl, rfl, rfl⟩
  · exact ⟨rfl, rfl, rfl, rfl, rfl, rfl, rfl⟩

theorem step_level (L : SealLaws P.prims) (v : Version) (sel : SuiteSel) (kg : KeyGroups)
    (want : Level → Option Dec) (hst : TlsStable P v sel kg) (hw : WantOk sel kg want)
    (h : HPkt) (s : St σ) (tc ts : PnTab) (hrel : RelH v want s tc ts)
    (hne : h.x.level ≠ .oneRtt) (hwant : want h.x.level = some h.d)
    (hdir : (if h.x.srv then h.d.server else some h.d.client) = some h.k)
    (hk : AeadOk h.d.alg h.k.key.length h.k.iv.length 16) (hiv : 8 ≤ h.k.iv.length)
    (hpn : PnLenOk ((if h.x.srv then ts else tc).get (spaceOf h.x.level)) h.x.pn h.x.pnLen)
    (hwf : WellFormedSeq h.x.frames) :
    (stepPkt P s (emitH P L h)).caught = none ∧ (stepPkt P s (emitH P L h)).escaped = none ∧
    (stepPkt P s (emitH P L h)).st.out = s.out ++ expectedOf h.x.level.ptype h.x ∧
    RelH v want (stepPkt P s (emitH P L h)).st (if h.x.srv then tc else bump tc (spaceOf h.x.level) h.x.pn)
      (if h.x.srv then bump ts (spaceOf h.x.level) h.x.pn else ts) := by
  obtain ⟨hlv, hpc, hps⟩ := hrel
  obtain ⟨x, d, k⟩ := h
  simp only at hne hwant hdir hk hiv hpn hwf ⊢
  have hdec : longDecryptor s x.level.ptype = .ok (some d) := by
    have hi := hlv.dec x.level d hwant
    cases hl : x.level <;> simp_all [Level.ptype, longDecryptor, installedDec]
  have hlarge : pnLargest s x.srv (spaceOf x.level) = (if x.srv then ts else tc).get (spaceOf x.level) := by
    cases x.srv <;> simp [pnLargest, hpc, hps]
  have hstep := step_long_eq P L x d k s hne hdec hdir hk hiv (by rw [hlarge]; exact hpn) hwf
  simp only at hstep
  rw [hlarge] at hstep
  unfold emitH
  rw [hstep]
  have e2 := pnStore_eq s x.srv (spaceOf x.level) (max ((if x.srv then ts else tc).get (spaceOf x.level)) x.pn)
  generalize pnStore s x.srv (spaceOf x.level) (max ((if x.srv then ts else tc).get (spaceOf x.level)) x.pn) = s2 at e2 ⊢
  have hlv2 : LevelInv v want s2 := by rw [e2]; exact hlv.transfer rfl rfl rfl rfl
  obtain ⟨q1, q2, q3⟩ := handleFrames_stable P hst hw (emit L.aeadSeal d.alg k x) ((normalize x.frames).map QFrame.toParsed) s2 hlv2
  obtain ⟨_, _, _, _, _, _, _, _, _, _, _, _, _, qf⟩ := handleFrames_frame P s2 (emit L.aeadSeal d.alg k x)
    ((normalize x.frames).map QFrame.toParsed)
  obtain ⟨o1, o2, o3, o4, o5, o6, o7⟩ := postLevel_keeps x.level
    (handleFrames P s2 (emit L.aeadSeal d.alg k x) ((normalize x.frames).map QFrame.toParsed)).1 (emit L.aeadSeal d.alg k x)
  refine ⟨q1, rfl, ?_, ⟨q3.transfer o4 o5 o6 o7, ?_, ?_⟩⟩
  · show (postLevel _ _ _).out = _
    rw [o1, q2, filterMap_export, e2]
    simp [expectedOf, exported_eq, mkOut, emit_ts, emit_isServer, emit_ptype]
  · show (postLevel _ _ _).pnClient = _
    rw [o2, qf, e2]
    cases x.srv <;> simp [bump, hpc]
  · show (postLevel _ _ _).pnServer = _
    rw [o3, qf, e2]
    cases x.srv <;> simp [bump, hps]

/-- With the decryptors of the levels in use installed (`RelH`: Initial from the first datagram's DCID, Handshake /
    Early from the key log), for EVERY sequence of Initial, Handshake and 0-RTT packets conformant senders can
    produce — any interleaving, packet-number gaps and truncations inside the RFC window per space and direction,
    any well-formed frames — no packet raises and `output_buffer` receives exactly the senders' CRYPTO and STREAM
    frames in capture order with each packet's timestamp, direction and type; Initial packets additionally teach
    the CIDs (`cid_learning_*`). `TlsStable`: the TLS parser does not raise and every (re-)keying it triggers while
    these packets are handled resolves to this connection's suite and key groups, so `set_tls_decryptors`
    re-installs the same Handshake / Early decryptors. -/
theorem handshake_levels_exact (L : SealLaws P.prims) (v : Version) (sel : SuiteSel) (kg : KeyGroups)
    (want : Level → Option Dec) (hst : TlsStable P v sel kg) (hw : WantOk sel kg want)
    (hs : List HPkt) (s : St σ) (tc ts : PnTab) (hrel : RelH v want s tc ts) (hok : SendOkH want tc ts hs) :
    (runPkts P s (hs.map (emitH P L))).out = s.out ++ hs.flatMap (fun h => expectedOf h.x.level.ptype h.x) ∧
    caughtList P s (hs.map (emitH P L)) = hs.map (fun _ => none) ∧
    escapes P s (hs.map (emitH P L)) = none := by
  induction hs generalizing s tc ts with
  | nil => simp [runPkts, caughtList, escapes]
  | cons h hs ih =>
    obtain ⟨hne, hwant, hdir, hk, hiv, hpn, hwf, hrest⟩ := hok
    obtain ⟨a1, a2, a3, a4⟩ := step_level P L v sel kg want hst hw h s tc ts hrel hne hwant hdir hk hiv hpn hwf
    obtain ⟨i1, i2, i3⟩ := ih _ _ _ a4 hrest
    simp only [List.map_cons, runPkts, caughtList, escapes, a1, a2, List.flatMap_cons]
    exact ⟨by rw [i1, a3, List.append_assoc], by rw [i2], i3⟩

/-! ### a quirk the model mirrors (not RFC behaviour) -/

/-- `check_key_epoch` runs BEFORE the AEAD check: a damaged or forged client 1-RTT packet whose key-phase value
    differs from the last one seen advances `epoch_client` for good although it is rejected and exports nothing
    (RFC 9001 §6.3 lets a receiver update its keys only after the packet was successfully unprotected). Every later
    genuine packet of that direction is then tried with the wrong generation. Replayed on the real code by
    `harness/q2b_session.py` (`flipped key phase on corrupted packets`). -/
theorem damaged_key_phase_advances_epoch (hbad : AeadRejectsAll P) (s : St σ) (p : Pkt) (hh : p.htype = .short)
    (ht : p.ptype = .rtt1) (hc : p.isServer = false) (hk : s.lastPhaseClient ≠ p.keyPhase) :
    (stepPkt P s p).st.epochClient = s.epochClient + 1 ∧ (stepPkt P s p).st.lastPhaseClient = p.keyPhase ∧
    (stepPkt P s p).st.out = s.out := by
  have hsel : (selectDecryptor P s p).1 = (extendGens P (flipEpoch s p.keyPhase false)).1 := by
    simp only [selectDecryptor, hh, ht, if_true, checkKeyEpoch, hc]
    cases extendGens P (flipEpoch s p.keyPhase false) with
    | mk a e => cases e <;> rfl
  obtain ⟨app, hx⟩ := extendGens_decApp_only P (flipEpoch s p.keyPhase false)
  rw [stepPkt_rtt1 P s p ht]
  show (decryptPacket P s p).1.epochClient = _ ∧ (decryptPacket P s p).1.lastPhaseClient = _ ∧ (decryptPacket P s p).1.out = _
  rw [(decryptPacket_failed P s p (not_authenticated_of_rejects P hbad s p)).1, hsel, hx]
  simp [flipEpoch, hk]

namespace Ex
open TLX.Quic.SessionToy

def sel : SuiteSel := ⟨.sha256, .aesgcm, 16⟩

def k0 : AppKeys := ⟨dirKeys sel .v1 [3], dirKeys sel .v1 [4], [3], [4]⟩

def kg : KeyGroups :=
  { hs := some (dirKeys sel .v1 [1], dirKeys sel .v1 [2]), app := some k0, early := some (dirKeys sel .v1 [5]) }

/-- toy AEAD + toy derivations, and a TLS parser that reports new data on a `01…` message outside 1-RTT packets,
    never raises, and always names client random `07` / suite 0x1301 -/
def params : Params Bool where
  prims := Toy.prims
  devInitialKeys := SessionToy.devInitialKeys
  devQuicKeys := fun _ _ _ => .ok kg
  keyUpdate := SessionToy.keyUpdate
  tlsInit := false
  tlsUpdate := fun t c => (if c.ptype = .rtt1 then t else match c.data with | 0x01 :: _ => true | _ => t, none)
  tlsClientRandom := fun _ => some [7]
  tlsCiphersuite := fun _ => some [0x13, 0x01]
  tlsNewData := id
  tlsClearNewData := fun _ => false

theorem quiet : TlsQuiet params .rtt1 := by
  intro t c hc ht
  simp [params, hc] at ht ⊢
  exact ht

theorem noRaise : TlsNoRaise params .rtt1 := fun _ _ _ => rfl

theorem stable : TlsStable params .v1 sel kg := by
  refine ⟨fun _ _ => rfl, fun t c cr cs _ h1 h2 => ?_⟩
  simp only [params, Option.some.injEq] at h1 h2
  subst h1 h2
  exact ⟨rfl, rfl⟩

theorem toyBytes_length (tag : Nat) (parts : List Bytes) (n : Nat) : (toyBytes tag parts n).length = n := by
  simp [toyBytes]

theorem keysWf : KeysWf params sel .v1 k0 := by
  intro srv g
  have key : ∀ sec, (dirKeys sel .v1 sec).key.length = 16 ∧ (dirKeys sel .v1 sec).iv.length = 12 :=
    fun sec => ⟨toyBytes_length _ _ _, toyBytes_length _ _ _⟩
  have : (genDir (params.keyUpdate sel .v1) k0 srv g).key.length = 16 ∧
      (genDir (params.keyUpdate sel .v1) k0 srv g).iv.length = 12 := by
    cases g <;> cases srv <;> simp [genDir, genKeys, k0, params, SessionToy.keyUpdate, key]
  rw [this.1, this.2]
  decide

/-- the session right after `set_tls_decryptors` installed generation 0 -/
def s0 : St Bool :=
  { St.init params with version := .v1, suite := some sel, decApp := some [k0.toDec sel.alg] }

theorem rel0 : Rel1 params sel .v1 k0 s0 0 0 0 0 :=
  ⟨⟨rfl, rfl, rfl, rfl, rfl, rfl, rfl⟩, rfl, rfl, rfl⟩

def w1 : VW := ⟨0, by omega⟩

def frames1 : List QFrame := [.ping, .stream true ⟨4, w1⟩ none (some w1) [0x68, 0x69], .padding 3]
def frames2 : List QFrame := [.newConnectionId ⟨1, w1⟩ ⟨0, w1⟩ [0xaa, 0xbb] (List.replicate 16 7),
  .crypto ⟨0, w1⟩ w1 [4, 0, 0, 0], .stream false ⟨0, w1⟩ (some ⟨70000, ⟨2, by omega⟩⟩) none [1, 2, 3]]

/-- client generation 0, server follows an update the client initiates, packet-number gap 0 → 300 on two bytes,
    then the server initiates the next update -/
def history1 : List SPkt :=
  [{ level := .oneRtt, srv := false, ts := 10, pn := 0, pnLen := 1, frames := frames1, dcid := [0x51], gen := 0 },
   { level := .oneRtt, srv := false, ts := 11, pn := 300, pnLen := 2, frames := frames2, dcid := [0x51], gen := 1 },
   { level := .oneRtt, srv := true, ts := 12, pn := 7, pnLen := 4, frames := frames1, dcid := [], gen := 1 },
   { level := .oneRtt, srv := true, ts := 13, pn := 8, pnLen := 1, frames := frames2, dcid := [], gen := 2 }]

theorem wf1 : WellFormedSeq frames1 := by
  simp [frames1, WellFormedSeq, QFrame.wf, QFrame.greedy, optOk, optFits]; decide

theorem wf2 : WellFormedSeq frames2 := by
  simp [frames2, WellFormedSeq, QFrame.wf, QFrame.greedy, optOk, optFits]; decide

theorem sendOk1 : SendOk1 0 0 0 0 history1 := by
  simp only [history1, SendOk1, wf1, wf2, PnLenOk]
  decide

example : (exported frames2).length = 2 ∧ (exported frames1).length = 1 := by decide

-- `one_rtt_exact` applies: 1 + 2 + 1 + 2 = 6 exported frames, in order
example : (runPkts params s0 (history1.map (emit1 params Toy.laws sel .v1 k0))).out.length = 6 := by
  rw [(one_rtt_exact params Toy.laws sel .v1 k0 quiet noRaise keysWf history1 s0 0 0 0 0 rel0 sendOk1).1]
  decide

-- `key_epoch_tracks_sender`: a history with updates by both sides; its hypotheses hold for the emitted packets
example : KeyUpdateConformant 0 0 [(false, 0), (false, 1), (true, 1), (true, 2), (false, 2), (false, 3)] := by
  simp [KeyUpdateConformant]

example : RfcInitiation 0 0 [(false, 0), (false, 1), (true, 1), (true, 2), (false, 2), (false, 3)] := by
  simp [RfcInitiation]

example : EpochInv params sel .v1 k0 s0 0 0 := rel0.inv

-- handshake levels: Initial from the toy Initial derivation, Handshake / Early as `set_tls_decryptors` builds them
def want : Level → Option Dec
  | .initial => (SessionToy.devInitialKeys .v1 [0xd0, 0xd1]).map fun k => { alg := .aesgcm, server := some k.1, client := k.2 }
  | .handshake => some { alg := sel.alg, server := some (dirKeys sel .v1 [1]), client := dirKeys sel .v1 [2] }
  | .zeroRtt => some { alg := sel.alg, server := none, client := dirKeys sel .v1 [5] }
  | .oneRtt => none

theorem wantOk : WantOk sel kg want := by
  refine ⟨fun d a b h1 h2 => ?_, fun d ek h1 h2 => ?_, rfl⟩
  · simp only [want, Option.some.injEq] at h1
    simp only [kg, Option.some.injEq, Prod.mk.injEq] at h2
    rw [← h1, ← h2.1, ← h2.2]
  · simp only [want, Option.some.injEq] at h1
    simp only [kg, Option.some.injEq] at h2
    rw [← h1, ← h2]

def sH : St Bool :=
  { St.init params with version := .v1, decInitial := want .initial, decHandshake := want .handshake,
                        decEarly := want .zeroRtt }

theorem relH : RelH .v1 want sH {} {} := by
  refine ⟨⟨rfl, fun lv d h => ?_⟩, rfl, rfl⟩
  cases lv <;> simp_all [installedDec, sH, want]

/-- client Initial carrying the toy ClientHello (`01…`: the parser reports new data and the session re-keys),
    a 0-RTT packet with stream data, a server Handshake packet -/
def historyH : List HPkt :=
  [{ x := { level := .initial, srv := false, ts := 1, pn := 0, pnLen := 1, dcid := [0xd0, 0xd1], scid := [0xc1],
            frames := [.crypto ⟨0, w1⟩ w1 [1, 0x13, 1, 7], .padding 5] },
     d := { alg := .aesgcm, server := some ⟨toyBytes 11 [[1], [0xd0, 0xd1]] 16, toyBytes 12 [[1], [0xd0, 0xd1]] 12⟩,
            client := ⟨toyBytes 13 [[1], [0xd0, 0xd1]] 16, toyBytes 14 [[1], [0xd0, 0xd1]] 12⟩ },
     k := ⟨toyBytes 13 [[1], [0xd0, 0xd1]] 16, toyBytes 14 [[1], [0xd0, 0xd1]] 12⟩ },
   { x := { level := .zeroRtt, srv := false, ts := 2, pn := 3, pnLen := 2, dcid := [0xd0, 0xd1], scid := [0xc1],
            typeBits := 1, frames := frames1 },
     d := { alg := sel.alg, server := none, client := dirKeys sel .v1 [5] }, k := dirKeys sel .v1 [5] },
   { x := { level := .handshake, srv := true, ts := 3, pn := 1, pnLen := 1, dcid := [0xc1], scid := [0x51],
            typeBits := 2, frames := [.crypto ⟨0, w1⟩ w1 [8, 0, 0, 0]] },
     d := { alg := sel.alg, server := some (dirKeys sel .v1 [1]), client := dirKeys sel .v1 [2] },
     k := dirKeys sel .v1 [1] }]

theorem sendOkH : SendOkH want {} {} historyH := by
  have key : ∀ sec, (dirKeys sel .v1 sec).key.length = 16 ∧ (dirKeys sel .v1 sec).iv.length = 12 :=
    fun sec => ⟨toyBytes_length _ _ _, toyBytes_length _ _ _⟩
  simp only [historyH, SendOkH, wf1, PnLenOk, toyBytes_length, sel]
  refine ⟨by decide, rfl, rfl, by decide, by decide, by decide, ?_, by decide, rfl, rfl, by decide, by decide, by decide,
    trivial, by decide, rfl, rfl, by decide, by decide, by decide, ?_, trivial⟩
  · simp [WellFormedSeq, QFrame.wf, QFrame.greedy]; decide
  · simp [WellFormedSeq, QFrame.wf]; decide

example : (runPkts params sH (historyH.map (emitH params Toy.laws))).out.length = 3 := by
  rw [(handshake_levels_exact params Toy.laws .v1 sel kg want stable wantOk historyH sH {} {} relH sendOkH).1]
  decide

-- C03: a datagram of packets the class constructors can build; and the AEAD that rejects everything exists
example : ∀ p ∈ (history1.map (emit1 params Toy.laws sel .v1 k0)), Pkt.classOk p := by
  intro p hp
  simp only [history1, List.map_cons, List.map_nil, List.mem_cons, List.not_mem_nil, or_false] at hp
  rcases hp with rfl | rfl | rfl | rfl <;> simp [Pkt.classOk, emit1, emit]

example : AeadRejectsAll { params with prims := { Toy.prims with aeadOpen := fun _ _ _ _ _ _ => .error .invalidTag } } :=
  fun _ _ _ _ _ _ => ⟨_, rfl⟩

end Ex

/-! ### the pn-store repair: witness on the old code, and what the new code guarantees instead -/

/-- one loop turn of `handle_quic_packet` on ANY packet that is not authenticated (any type, any damage): both
    packet-number tables are what they were. -/
theorem unauthenticated_step_leaves_pn_table (s : St σ) (p : Pkt) (h : ¬ Authenticated P s p) :
    (stepPkt P s p).st.pnClient = s.pnClient ∧ (stepPkt P s p).st.pnServer = s.pnServer := by
  unfold stepPkt
  split
  · obtain ⟨a, b, _⟩ := failed_packet_leaves_pn_table P s p h
    obtain ⟨c, d⟩ := afterDecrypt_pn P (decryptPacket P s p).1 (decryptPacket P s p).2 p
    exact ⟨c.trans a, d.trans b⟩
  · exact afterDecrypt_pn P s none p

/-- `wrong_keys_export_nothing` for the packet-number tables: if the AEAD accepts nothing, then over any datagram
    sequence the largest-packet-number tables never move (the defect repaired in 45c871e: every rejected packet stored
    its garbage number). -/
theorem wrong_keys_leave_pn_tables (hbad : AeadRejectsAll P) (s : St σ) (ds : List Dgram) :
    (run P s ds).1.pnClient = s.pnClient ∧ (run P s ds).1.pnServer = s.pnServer := by
  refine run_inv P (fun a => a.pnClient = s.pnClient ∧ a.pnServer = s.pnServer) (fun _ => True) (fun a p _ h => ?_)
    (fun a dcid v h => ?_) ds (fun _ _ _ _ _ => trivial) s ⟨rfl, rfl⟩
  · obtain ⟨c, d⟩ := unauthenticated_step_leaves_pn_table P a p (not_authenticated_of_rejects P hbad a p)
    exact ⟨c.trans h.1, d.trans h.2⟩
  · obtain ⟨c, d⟩ := handlePacketPre_pn P a dcid v
    exact ⟨c.trans h.1, d.trans h.2⟩

/-- a damaged packet advances the epoch of its direction (`damaged_key_phase_advances_epoch`) but leaves no packet
    number behind. -/
theorem damaged_packet_leaves_pn_table (hbad : AeadRejectsAll P) (s : St σ) (p : Pkt) :
    (stepPkt P s p).st.pnClient = s.pnClient ∧ (stepPkt P s p).st.pnServer = s.pnServer :=
  unauthenticated_step_leaves_pn_table P s p (not_authenticated_of_rejects P hbad s p)

namespace ExPn
open Ex

/-- a client 1-RTT packet that does not authenticate (damaged, or garbage left by removing header protection with
    wrong keys) and whose four packet-number bytes decode far away from anything sent: 0xfffffff0 -/
def garbage : Pkt :=
  { htype := .short, ptype := .rtt1, isServer := false, ts := 20, firstByte := [0x43], dcid := [0x51],
    pn := some [0xff, 0xff, 0xff, 0xf0], payload := some (List.replicate 24 0xaa), keyPhase := some 0 }

/-- the conformant packet that follows: the client's first 1-RTT packet, number 0 on one byte, one STREAM frame -/
def lateX : SPkt :=
  { level := .oneRtt, srv := false, ts := 21, pn := 0, pnLen := 1, frames := frames1, dcid := [0x51], gen := 0 }

def late : Pkt := emit1 params Toy.laws sel .v1 k0 lateX

theorem late_conformant : SendOk1 0 0 0 0 [lateX] := by
  simp only [lateX, SendOk1, wf1, PnLenOk]
  decide

end ExPn

/-- Witness against the code BEFORE the repair (`Session.Legacy`, kernel-evaluated over the toy instance): the packet
    that fails authentication stores its far-away number 0xfffffff0 as the largest of the client's application space,
    and the conformant packet that follows — correctly protected, inside the RFC window of everything genuinely sent —
    is then reconstructed next to that garbage, fails the AEAD check and exports nothing. -/
theorem legacy_pn_poisoned :
    (Legacy.decryptPacket Ex.params Ex.s0 ExPn.garbage).2 = some .invalidTag ∧
    (Legacy.decryptPacket Ex.params Ex.s0 ExPn.garbage).1.pnClient.app = 0xfffffff0 ∧
    SendOk1 0 0 0 0 [ExPn.lateX] ∧
    (Legacy.decryptPacket Ex.params (Legacy.decryptPacket Ex.params Ex.s0 ExPn.garbage).1 ExPn.late).2 = some .invalidTag ∧
    (Legacy.decryptPacket Ex.params (Legacy.decryptPacket Ex.params Ex.s0 ExPn.garbage).1 ExPn.late).1.out = [] :=
  ⟨by decide +kernel, by decide +kernel, ExPn.late_conformant, by decide +kernel, by decide +kernel⟩

/-- The same two packets on the repaired code: the first still fails, the table is untouched
    (`failed_packet_leaves_pn_table`), the second is decrypted and its STREAM frame exported. -/
theorem fixed_pn_not_poisoned :
    (decryptPacket Ex.params Ex.s0 ExPn.garbage).2 = some .invalidTag ∧
    (decryptPacket Ex.params Ex.s0 ExPn.garbage).1.pnClient = Ex.s0.pnClient ∧
    (decryptPacket Ex.params (decryptPacket Ex.params Ex.s0 ExPn.garbage).1 ExPn.late).2 = none ∧
    (decryptPacket Ex.params (decryptPacket Ex.params Ex.s0 ExPn.garbage).1 ExPn.late).1.out = expectedOf .rtt1 ExPn.lateX :=
  ⟨by decide +kernel, by decide +kernel, by decide +kernel, by decide +kernel⟩

end TLX.Props.C02Session
