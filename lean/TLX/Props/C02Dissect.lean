/-
C02 (dissector part) — QUIC v1 packets are taken out of a datagram exactly, whatever the connection-ID lengths, the
packet-number length, the varint widths, coalescing, Retry or Version Negotiation; arbitrary bytes never abort or hang
the dissector (C03/C17-style totality).

Model:  TLX/Quic/Dissect.lean — `extract` (= extract_quic_packet of tlexport/quic/quic_dissector.py with
        remove_header_protection, byte_xor/byte_and, get_header_type/get_packet_type), `dissectLoop` / `dissectAll`
        (the `while len(packet.tls_data) != 0` loop of QuicSession.handle_packet), `aad` (the associated data
        QuicSession.decrypt_packet assembles). The header-protection primitive is a PARAMETER `mask`
        (`none` = it raises); the `keys` dict and the cipher-suite test are the input `Env`.
Spec:   TLX/Spec/QuicPackets.lean (RFC 9000 §17.2/§17.3 encoders, RFC 9001 §5.4 header protection with the same
        abstract mask), TLX/Spec/QuicPacketsExpect.lean (`toPkt`: what a correct dissector reports),
        TLX/Spec/QuicDissectStmt.lean (`senderKey`, `LongOK`, `Tail`, `Chain`: vocabulary of the statements).
The whole-packet theorems are proved here from the lemmas about the parts of the dissector (long-header prefix,
header protection, the protected tail, the loop equations) in TLX/Lemmas/QuicDissect.lean. All statements are for all inputs.

Hypotheses of the round-trip theorems, and where each comes from:
  `p.wf`                         the packet is encodable at all (8-bit CID length fields, varints fit their widths,
                                 packet number 1..4 bytes, 2 reserved bits)            — RFC 9000 §17.2
  `p.version ≠ 0`                version 0 IS Version Negotiation                     — RFC 9000 §17.2.1
  `p.scid.length ≤ 63`           CODE LIMIT, weaker than RFC 9000 v1 (≤ 20): `scid_len` is decoded as a varint;
                                 `scid_len_limit` is the failing side (64 ≤ length ⇒ datagram dropped)
  (DCID: any length the 8-bit field can carry, 0..255; short header: any length — it is `guessed_dcid`)
  `20 ≤ pn.length + payload.length`   the 16-byte sample exists                   — RFC 9001 §5.4.2 (senders pad)
  keys/mask                      the receiver holds the sender's header-protection key under the name of the sender's
                                 level and direction; the primitive returns a mask of ≥ 5 bytes for the sample
                                                                                       — RFC 9001 §5.4.1/§5.4.3/§5.4.4
  short header: `guessed = p.dcid` (the session guessed the connection ID); NOTHING may follow a short-header packet
                                 (it has no length: RFC 9000 §12.2 "cannot be followed by another packet")
  long header: ANY bytes may follow (`rest`), in particular more packets or zero padding.
Termination ("cannot hang") is carried by the DEFINITION of `dissectLoop` (well-founded recursion on the remaining
length, accepted only because of `Dissect.extract_rest_lt`); `dissect_progress` / `dissect_total` state it.
-/
import TLX.Lemmas.QuicDissect
namespace TLX.Props.C02Dissect
open TLX TLX.Quic TLX.Quic.Dissect TLX.Spec.QuicPackets TLX.Spec.QuicFrames
open Lemmas.QuicDissect Lemmas.QuicVarint Lemmas.Cursor Quic.Varint

/-- Initial, 0-RTT and Handshake packets, every DCID length 0..255, SCID length 0..63, any token, any varint widths,
    packet-number length 1..4, any reserved bits, any mask, ANYTHING after the packet: one call of
    extract_quic_packet returns exactly that packet — unprotected first byte, packet-number bytes, payload, DCID,
    SCID, their length bytes, token and token-length bytes, Length bytes — and leaves exactly what followed it. -/
theorem dissect_encode_long (mask : MaskFn) (env : Env) (isServer : Bool) (guessed : Bytes) (ts : Nat) (p : Long)
    (hwf : p.wf) (hver : p.version ≠ [0, 0, 0, 0]) (hscid : p.scid.length ≤ 63)
    (h20 : 20 ≤ p.pn.length + p.payload.length)
    (key m : Bytes) (hk : env.keys (senderKey p.ty isServer) = some key)
    (hm : mask (senderChacha p.ty env.chacha) key p.sample = some m) (hm5 : 5 ≤ m.length) (rest : Bytes) :
    extract mask env isServer guessed ts (p.protect m ++ rest) = { pkts := [p.toPkt isServer ts], rest := rest } := by
  have hL : isLong (p.first ^^^ (m.headD 0 &&& 0x0f)) = true := by
    rw [isLong_mask _ _ _ (by decide)]; exact (long_first p hwf).1
  rw [extract_cons mask env isServer guessed ts (protect_layout p m rest) (isLong_ne_zero _ hL), if_pos hL,
    extractLong_protect mask env isServer ts p hwf hver hscid h20 key m hk hm hm5 rest]
  simp only [finish, List.drop_left]

/-- 1-RTT packets, any DCID length (the guessed one), packet-number length 1..4, any spin / reserved / key-phase
    bits, any mask: the packet is returned with its unprotected first byte, packet number, payload and key phase;
    it takes the whole rest of the datagram. -/
theorem dissect_encode_short (mask : MaskFn) (env : Env) (isServer : Bool) (ts : Nat) (p : Short)
    (hwf : p.wf) (h20 : 20 ≤ p.pn.length + p.payload.length) (key m : Bytes)
    (hk : env.keys (if isServer then .serverApplication else .clientApplication) = some key)
    (hm : mask env.chacha key p.sample = some m) (hm5 : 5 ≤ m.length) :
    extract mask env isServer p.dcid ts (p.protect m) = { pkts := [p.toPkt isServer ts], rest := [] } := by
  obtain ⟨hS, hP, hK, h6⟩ := short_first p hwf
  obtain ⟨hr, h1, h4⟩ := hwf
  have hl := pnm_length p.pn m h4 hm5
  have hS' : isLong (p.first ^^^ (m.headD 0 &&& 0x1f)) = false := by
    rw [isLong_mask _ _ _ (by decide)]; exact hS
  have hd : p.protect m = [p.first ^^^ (m.headD 0 &&& 0x1f)] ++ (p.dcid ++
      (xorBytes p.pn ((m.drop 1).take p.pn.length) ++ (p.payload ++ []))) := by
    simp [Short.protect, applyMask]
  generalize p.protect m = d at hd ⊢
  obtain ⟨-, c1⟩ := At.field [_] (At.start hd) 1 rfl
  obtain ⟨-, c2⟩ := c1.field p.dcid (1 + p.dcid.length) rfl
  have s1 : Bytes.slice d (1 + p.dcid.length + 4) (1 + p.dcid.length + 4 + 16) = p.sample := by
    rw [c2.slice]; exact sample_eq _ p.pn p.payload [] hl h4 h20
  have hr := removeHP_protect mask false env.chacha key p.sample m p.first d p.pn _ _ hm hm5 hP c2
  simp only [Bool.false_eq_true, if_false] at hr
  obtain ⟨-, c3⟩ := c2.field _ (1 + p.dcid.length + p.pn.length) (by rw [hl])
  have hlen := c3.length
  rw [List.append_nil] at hlen
  obtain ⟨s2, -⟩ := c3.field p.payload
    (1 + p.dcid.length + p.pn.length + (d.length - (1 + p.dcid.length + p.pn.length))) (by omega)
  rw [extract_cons mask env isServer p.dcid ts hd (short_masked_ne_zero p.first (m.headD 0) h6), if_neg (by rw [hS']; decide)]
  unfold extractShort
  simp only [finish, c2.need, s1, hk, ofOpt, bind, Except.bind, hr, if_neg (Nat.not_lt.mpr (Nat.le.intro hlen.symm)), s2, hK,
    Short.toPkt]
  rw [List.drop_eq_nil_of_le (by omega)]

/-- Retry: connection IDs, token and the 16-byte integrity tag, whatever keys are (not) there. -/
theorem dissect_encode_retry (mask : MaskFn) (env : Env) (isServer : Bool) (guessed : Bytes) (ts : Nat) (p : Retry)
    (hwf : p.wf) (hver : p.version ≠ [0, 0, 0, 0]) (hscid : p.scid.length ≤ 63) :
    extract mask env isServer guessed ts p.encode = { pkts := [p.toPkt isServer ts], rest := [] } := by
  obtain ⟨hu, hv, hdl, hsl, htag⟩ := hwf
  obtain ⟨hL, hT⟩ : isLong p.first = true ∧ packetType p.first = .retry := retry_first_bits ⟨p.unused, hu⟩
  have hd : p.encode = p.first :: (p.version ++ (UInt8.ofNat p.dcid.length :: (p.dcid ++
      (UInt8.ofNat p.scid.length :: (p.scid ++ (p.token ++ p.tag)))))) := by
    simp only [Retry.encode, List.cons_append, List.append_assoc, List.nil_append]
  generalize p.encode = d at hd ⊢
  obtain ⟨n1, s1, g5, n2, s2, n3, dv, n4, s4⟩ := header_facts _ _ _ _ _ d hv hscid hd
  have c := header_rest _ _ _ _ _ _ _ d hv hd
  have hlen := c.length
  rw [List.length_append, htag] at hlen
  have sx := c.toEnd.1
  rw [show d.length = 7 + p.dcid.length + p.scid.length +
    (d.length - (1 + 4 + 1 + p.dcid.length + 1 + p.scid.length)) by omega] at sx
  rw [extract_cons mask env isServer guessed ts hd (isLong_ne_zero _ hL), if_pos hL]
  unfold extractLong
  simp only [finish, n1, s1, g5, ofOpt, bind, Except.bind, ofNat_toNat _ hdl, n2, s2, n3, dv, n4, s4, if_neg hver, hT,
    if_neg (show ¬ d.length < 1 + 4 + 1 + p.dcid.length + 1 + p.scid.length by omega), sx,
    List.length_append, htag, Nat.add_sub_cancel, List.take_left, List.drop_left, Retry.toPkt]
  rw [List.drop_eq_nil_of_le (by omega)]

/-- Version Negotiation: the packet is returned with its connection IDs (tlexport keeps no version list); the code
    leaves `total_packet_len` unbound, the UnboundLocalError is caught and ends the datagram — which is where a
    Version Negotiation packet ends anyway. -/
theorem dissect_encode_version_negotiation (mask : MaskFn) (env : Env) (isServer : Bool) (guessed : Bytes) (ts : Nat)
    (p : VerNeg) (hwf : p.wf) (hscid : p.scid.length ≤ 63) :
    extract mask env isServer guessed ts p.encode =
      { pkts := [p.toPkt isServer ts], rest := [], err := some .unbound } := by
  obtain ⟨hu, hdl, hsl, hne, h4⟩ := hwf
  have hL : isLong p.first = true := verneg_first_bits ⟨p.unused, hu⟩
  have hfl := flatten_length_ge p.versions hne h4
  have hd : p.encode = p.first :: ([0, 0, 0, 0] ++ (UInt8.ofNat p.dcid.length :: (p.dcid ++
      (UInt8.ofNat p.scid.length :: (p.scid ++ p.versions.flatten))))) := by
    simp only [VerNeg.encode, List.cons_append, List.append_assoc, List.nil_append]
  generalize p.encode = d at hd ⊢
  obtain ⟨n1, s1, g5, n2, s2, n3, dv, n4, s4⟩ := header_facts _ _ _ _ _ d rfl hscid hd
  have c := header_rest _ _ _ _ _ _ _ d rfl hd
  have hlen := c.length
  have n5 : need d (7 + p.dcid.length + p.scid.length + 4) = .ok () := by
    unfold need; rw [if_neg (by omega)]
  rw [extract_cons mask env isServer guessed ts hd (isLong_ne_zero _ hL), if_pos hL]
  unfold extractLong
  simp only [finish, n1, s1, g5, ofOpt, bind, Except.bind, ofNat_toNat _ hdl, n2, s2, n3, dv, n4, s4, if_true, n5,
    VerNeg.toPkt]

/-- the all-zero remainder of a datagram is dropped without a packet and without an error -/
theorem zero_padding_dropped (mask : MaskFn) (env : Env) (isServer : Bool) (guessed : Bytes) (ts : Nat) (n : Nat) :
    extract mask env isServer guessed ts (List.replicate (n + 1) 0) = { pkts := [], rest := [] } := by
  unfold extract
  rw [List.replicate_succ]
  simp only
  rw [← List.replicate_succ, if_pos (beNat_replicate_zero _)]

/-- CODE LIMIT (the excluded side of `hscid`): a long-header packet whose Source Connection ID has 64..255 bytes —
    encodable, but outside QUIC v1 (≤ 20) — is not dissected: IndexError in `decode_variable_length_int` on the
    one-byte SCID Length field, the whole datagram is dropped. -/
theorem scid_len_limit (mask : MaskFn) (env : Env) (isServer : Bool) (guessed : Bytes) (ts : Nat) (p : Long)
    (hwf : p.wf) (h64 : 64 ≤ p.scid.length) (m rest : Bytes) :
    extract mask env isServer guessed ts (p.protect m ++ rest) = { pkts := [], rest := [], err := some .index } := by
  have hL : isLong (p.first ^^^ (m.headD 0 &&& 0x0f)) = true := by
    rw [isLong_mask _ _ _ (by decide)]; exact (long_first p hwf).1
  obtain ⟨hr, hv, hdl, hsl, h1, h4, hft, hfl⟩ := hwf
  have hd := protect_layout p m rest
  generalize p.protect m ++ rest = d at hd ⊢
  obtain ⟨n1, -, g5, n2, -, n3, s3, -⟩ := header_prefix _ _ _ _ _ _ d hv hd
  have dv : decodeVarint [UInt8.ofNat p.scid.length] = none :=
    decodeVarint_single_big _ (by rw [ofNat_toNat _ hsl]; exact h64)
  rw [extract_cons mask env isServer guessed ts hd (isLong_ne_zero _ hL), if_pos hL]
  unfold extractLong
  simp only [finish, n1, g5, ofOpt, bind, Except.bind, ofNat_toNat _ hdl, n2, n3, s3, dv]

theorem loop_tail {σ : Type} (mask : MaskFn) (envOf : σ → Env) (handle : σ → List Pkt → σ)
    (isServer : Bool) (guessed : Bytes) (ts : Nat) (s : σ) (tail : Tail) (ht : TailOK mask (envOf s) isServer guessed tail) :
    (dissectLoop mask envOf handle isServer guessed ts s tail.bytes).2 = tail.pkts isServer ts := by
  cases tail with
  | none => simp [Tail.bytes, Tail.pkts, dissectLoop_nil]
  | zeros n =>
    cases n with
    | zero => simp [Tail.bytes, Tail.pkts, dissectLoop_nil]
    | succ n =>
      simp only [Tail.bytes, Tail.pkts]
      rw [dissectLoop_cons _ _ _ _ _ _ _ _ (by simp [List.replicate_succ])]
      simp only [zero_padding_dropped, dissectLoop_nil, List.append_nil]
  | short p m =>
    obtain ⟨hwf, h20, hm5, hg, key, hk, hm⟩ := ht
    subst hg
    simp only [Tail.bytes, Tail.pkts]
    rw [dissectLoop_cons _ _ _ _ _ _ _ _ (protect_short_ne_nil p m)]
    simp only [dissect_encode_short mask (envOf s) isServer ts p hwf h20 key m hk hm hm5, dissectLoop_nil,
      List.append_nil]

/-- The loop of handle_packet on a datagram that is the concatenation of n protected long-header packets (any mix
    of Initial / 0-RTT / Handshake), optionally followed by one short-header packet or by zero padding, yields exactly
    those packets in order — for a session whose keys may change while the datagram is processed (`LongsOK`: packet i
    is protected under the keys the session holds after packets < i were handled). By induction on n. -/
theorem dissect_coalesced_loop {σ : Type} (mask : MaskFn) (envOf : σ → Env) (handle : σ → List Pkt → σ)
    (isServer : Bool) (guessed : Bytes) (ts : Nat) (longs : List (Long × Bytes)) (tail : Tail) (s : σ)
    (hl : LongsOK mask envOf handle isServer ts s longs)
    (ht : TailOK mask (envOf (afterLongs handle isServer ts s longs)) isServer guessed tail) :
    (dissectLoop mask envOf handle isServer guessed ts s
        ((longs.map (fun x => x.1.protect x.2)).flatten ++ tail.bytes)).2 =
      longs.map (fun x => x.1.toPkt isServer ts) ++ tail.pkts isServer ts := by
  induction longs generalizing s with
  | nil => simpa [afterLongs] using loop_tail mask envOf handle isServer guessed ts s tail ht
  | cons x xs ih =>
    obtain ⟨⟨hwf, hver, hscid, h20, hm5, key, hk, hm⟩, hrest⟩ := hl
    simp only [List.map_cons, List.flatten_cons, List.append_assoc, List.cons_append]
    rw [dissectLoop_cons _ _ _ _ _ _ _ _ (protect_long_ne_nil _ _ _)]
    simp only [dissect_encode_long mask (envOf s) isServer guessed ts x.1 hwf hver hscid h20 key x.2 hk hm hm5,
      List.cons_append, List.nil_append]
    congr 1
    exact ih _ hrest ht

/-- `dissect_coalesced_loop` with keys that are all there from the start. -/
theorem dissect_coalesced (mask : MaskFn) (env : Env) (isServer : Bool) (guessed : Bytes) (ts : Nat)
    (longs : List (Long × Bytes)) (tail : Tail)
    (hl : ∀ x ∈ longs, LongOK mask env isServer x) (ht : TailOK mask env isServer guessed tail) :
    dissectAll mask env isServer guessed ts ((longs.map (fun x => x.1.protect x.2)).flatten ++ tail.bytes) =
      longs.map (fun x => x.1.toPkt isServer ts) ++ tail.pkts isServer ts := by
  unfold dissectAll
  apply dissect_coalesced_loop
  · induction longs with
    | nil => trivial
    | cons x xs ih => exact ⟨hl x (by simp), ih (fun y hy => hl y (by simp [hy]))⟩
  · exact ht

/-- every call on non-empty data — ANY bytes, keys, mask, guessed connection ID — returns at most one packet and a
    remainder that is a proper suffix `d[t:]`, `t ≥ 1` (the measure that makes the loop terminate) -/
theorem dissect_progress (mask : MaskFn) (env : Env) (isServer : Bool) (guessed : Bytes) (ts : Nat) (d : Bytes)
    (hd : d ≠ []) :
    (∃ t, 1 ≤ t ∧ (extract mask env isServer guessed ts d).rest = d.drop t) ∧
    (extract mask env isServer guessed ts d).rest.length < d.length ∧
    (extract mask env isServer guessed ts d).pkts.length ≤ 1 :=
  ⟨extract_rest_suffix mask env isServer guessed ts d hd,
   extract_rest_lt mask env isServer guessed ts d (by intro h; exact hd (List.eq_nil_of_length_eq_zero h)),
   Lemmas.QuicDissect.extract_pkts_le_one mask isServer guessed ts env d⟩

/-- For ALL byte strings, keys, masks and session behaviours the loop of handle_packet terminates (`dissectLoop` is a
    total function — no uncaught error, no hang); its calls tile the datagram (`Chain`: each call gets the non-empty
    remainder of the previous one, consumes or drops ≥ 1 byte, the last leaves nothing: every byte is consumed or
    dropped), there are at most `len(datagram)` calls, and the packets returned are those of the calls, in order. -/
theorem dissect_loop_total {σ : Type} (mask : MaskFn) (envOf : σ → Env) (handle : σ → List Pkt → σ)
    (isServer : Bool) (guessed : Bytes) (ts : Nat) (s : σ) (d : Bytes) :
    let tr := dissectTrace mask envOf handle isServer guessed ts s d
    Chain d tr ∧ tr.length ≤ d.length ∧
    (dissectLoop mask envOf handle isServer guessed ts s d).2 = (tr.map (·.2.pkts)).flatten := by
  refine dissectLoop_induct mask envOf handle isServer guessed ts
    (Q := fun s d r => Chain d (dissectTrace mask envOf handle isServer guessed ts s d) ∧
      (dissectTrace mask envOf handle isServer guessed ts s d).length ≤ d.length ∧
      r.2 = ((dissectTrace mask envOf handle isServer guessed ts s d).map (·.2.pkts)).flatten) ?_ ?_ s d
  · intro s; rw [dissectTrace_nil]; exact ⟨rfl, Nat.le_refl _, rfl⟩
  · intro s d hd ⟨h1, h2, h3⟩
    obtain ⟨t, ht, hrest⟩ := extract_rest_suffix mask (envOf s) isServer guessed ts d hd
    have hlen : 1 ≤ d.length := List.length_pos_iff.mpr hd
    rw [dissectTrace_cons _ _ _ _ _ _ _ _ hd, dissectLoop_cons _ _ _ _ _ _ _ _ hd]
    refine ⟨⟨rfl, hd, ⟨t, ht, hrest⟩, extract_pkts_le_one _ _ _ _ _ _, h1⟩, ?_, ?_⟩
    · have hl := congrArg List.length hrest
      rw [List.length_drop] at hl
      simp only [List.length_cons]; omega
    · simp only [List.map_cons, List.flatten_cons, h3]

/-- `dissect_loop_total` for fixed keys: `dissectAll`. -/
theorem dissect_total (mask : MaskFn) (env : Env) (isServer : Bool) (guessed : Bytes) (ts : Nat) (d : Bytes) :
    ∃ tr : List (Bytes × Out), ∃ pkts : List Pkt,
      dissectAll mask env isServer guessed ts d = pkts ∧ pkts = (tr.map (·.2.pkts)).flatten ∧
      Chain d tr ∧ tr.length ≤ d.length ∧ pkts.length ≤ d.length := by
  obtain ⟨h1, h2, h3⟩ := dissect_loop_total (σ := Unit) mask (fun _ => env) (fun _ _ => ()) isServer guessed ts () d
  refine ⟨_, _, rfl, h3, h1, h2, ?_⟩
  unfold dissectAll
  rw [h3]
  refine Nat.le_trans ?_ h2
  have key : ∀ (tr : List (Bytes × Out)) (d : Bytes), Chain d tr → ((tr.map (·.2.pkts)).flatten).length ≤ tr.length := by
    intro tr
    induction tr with
    | nil => intro _ _; simp
    | cons x xs ih =>
      intro d hc
      obtain ⟨_, _, _, hle, hch⟩ := hc
      simp only [List.map_cons, List.flatten_cons, List.length_append, List.length_cons]
      have := ih _ hch
      omega
  exact key _ _ h1

/-- "never invents data": on ARBITRARY bytes the payload, the token and the Length bytes of every returned packet are
    Python slices `datagram[a:b]` of the data the call was given (the packet number is such a slice XOR the mask) -/
theorem no_invented_data (mask : MaskFn) (env : Env) (isServer : Bool) (guessed : Bytes) (ts : Nat) (d : Bytes)
    (p : Pkt) (hp : p ∈ (extract mask env isServer guessed ts d).pkts) :
    (∀ x, p.payload = some x → ∃ a b, x = Bytes.slice d a b) ∧
    (∀ x, p.token = some x → ∃ a b, x = Bytes.slice d a b) ∧
    (∀ x, p.lenBytes = some x → ∃ a b, x = Bytes.slice d a b) := by
  obtain ⟨_, -, h1, h2, h3, -⟩ := extract_returned mask env isServer guessed ts d p hp
  exact ⟨h1, h2, h3⟩

/-- RFC 9001 §5.3: the associated data QuicSession.decrypt_packet assembles from the dissected fields of a long-header
    packet is the unprotected header, first byte up to and including the packet number … -/
theorem aad_is_header_long (p : Long) (fromServer : Bool) (ts : Nat) :
    aad (p.toPkt fromServer ts) = some p.header := by
  unfold aad Long.toPkt Long.header Long.mid Long.tokenPart
  cases p.ty <;>
    simp only [LType.ptype, bind, Option.bind, pure, List.append_assoc, List.cons_append, List.nil_append,
      List.append_nil]

/-- `aad_is_header_long` for a short-header packet. -/
theorem aad_is_header_short (p : Short) (fromServer : Bool) (ts : Nat) :
    aad (p.toPkt fromServer ts) = some p.header := by
  simp [aad, Short.toPkt, Short.header]

/-- From the wire: the packet that extract_quic_packet returns for a protected long-header packet carries exactly the
    sender's AEAD associated data. -/
theorem aad_is_header (mask : MaskFn) (env : Env) (isServer : Bool) (guessed : Bytes) (ts : Nat) (p : Long)
    (hwf : p.wf) (hver : p.version ≠ [0, 0, 0, 0]) (hscid : p.scid.length ≤ 63)
    (h20 : 20 ≤ p.pn.length + p.payload.length)
    (key m : Bytes) (hk : env.keys (senderKey p.ty isServer) = some key)
    (hm : mask (senderChacha p.ty env.chacha) key p.sample = some m) (hm5 : 5 ≤ m.length) (rest : Bytes) :
    (extract mask env isServer guessed ts (p.protect m ++ rest)).pkts.map aad = [some p.header] := by
  rw [dissect_encode_long mask env isServer guessed ts p hwf hver hscid h20 key m hk hm hm5 rest]
  simp [aad_is_header_long]

/-- a primitive in which flag, key and sample matter -/
def exMask : MaskFn := fun c k s =>
  some [UInt8.ofNat (s.length + k.length), if c then 0x11 else 0x01, 0x22, 0x33, 0x44]
def exEnv : Env := { keys := fun n => if n = .clientEarly then none else some [1, 2, 3], chacha := true }

def exInitial : Long :=
  { ty := .initial, reserved := 0, dcid := [1, 2, 3, 4, 5, 6, 7, 8], scid := [], tokenW := ⟨1, by decide⟩,
    token := [9, 9, 9], lenW := ⟨1, by decide⟩, pn := [0, 7], payload := List.replicate 30 0xAB }
def exHandshake : Long :=
  { ty := .handshake, reserved := 1, dcid := [], scid := List.replicate 20 5, lenW := ⟨2, by decide⟩,
    pn := [1, 2, 3, 4], payload := List.replicate 16 0xCD }
def exShort : Short := { keyPhase := true, dcid := [], pn := [0x2a], payload := List.replicate 19 0xEF }
def exRetry : Retry := { dcid := [1], scid := [2, 3], token := [7, 7, 7], tag := List.replicate 16 0xAA }
def exVerNeg : VerNeg := { dcid := [1], scid := [2, 3], versions := [[0, 0, 0, 1], [0x6b, 0x33, 0x43, 0xcf]] }
def exMaskI : Bytes := [19, 0x01, 0x22, 0x33, 0x44]
def exMaskH : Bytes := [19, 0x11, 0x22, 0x33, 0x44]

theorem exInitial_ok : LongOK exMask exEnv false (exInitial, exMaskI) :=
  ⟨by decide, by decide, by decide, by decide, by decide, [1, 2, 3], rfl, by decide⟩

theorem exHandshake_ok : LongOK exMask exEnv false (exHandshake, exMaskH) :=
  ⟨by decide, by decide, by decide, by decide, by decide, [1, 2, 3], rfl, by decide⟩

theorem exInitial_dissected (rest : Bytes) : extract exMask exEnv false [] 5 (exInitial.protect exMaskI ++ rest) =
    { pkts := [exInitial.toPkt false 5], rest := rest } :=
  have ⟨hwf, hver, hscid, h20, hm5, key, hk, hm⟩ := exInitial_ok
  dissect_encode_long exMask exEnv false [] 5 exInitial hwf hver hscid h20 key exMaskI hk hm hm5 rest

example : extract exMask exEnv false [] 5 (exInitial.protect exMaskI ++ [0xde, 0xad]) =
    { pkts := [exInitial.toPkt false 5], rest := [0xde, 0xad] } := exInitial_dissected _

example : extract exMask exEnv true [] 5 (exShort.protect exMaskH) = { pkts := [exShort.toPkt true 5], rest := [] } :=
  dissect_encode_short exMask exEnv true 5 exShort (by decide) (by decide) [1, 2, 3] exMaskH rfl (by decide) (by decide)

example : extract exMask exEnv true [9] 5 exRetry.encode = { pkts := [exRetry.toPkt true 5], rest := [] } :=
  dissect_encode_retry exMask exEnv true [9] 5 exRetry (by decide) (by decide) (by decide)

example : extract exMask exEnv true [9] 5 exVerNeg.encode =
    { pkts := [exVerNeg.toPkt true 5], rest := [], err := some .unbound } :=
  dissect_encode_version_negotiation exMask exEnv true [9] 5 exVerNeg (by decide) (by decide)

example : extract exMask exEnv true [9] 5 [0, 0, 0] = { pkts := [], rest := [] } :=
  zero_padding_dropped exMask exEnv true [9] 5 2

example : extract exMask exEnv true [] 5 ({ exHandshake with scid := List.replicate 64 5 }.protect exMaskH ++ [1]) =
    { pkts := [], rest := [], err := some .index } :=
  scid_len_limit exMask exEnv true [] 5 _ (by decide) (by decide) _ _

/-- Initial + Handshake + 1-RTT in one datagram -/
example : dissectAll exMask exEnv false [] 5
    (exInitial.protect exMaskI ++ (exHandshake.protect exMaskH ++ exShort.protect exMaskH)) =
    [exInitial.toPkt false 5, exHandshake.toPkt false 5, exShort.toPkt false 5] := by
  have := dissect_coalesced exMask exEnv false [] 5 [(exInitial, exMaskI), (exHandshake, exMaskH)]
    (.short exShort exMaskH)
    (by
      intro x hx
      simp only [List.mem_cons, List.not_mem_nil, or_false] at hx
      rcases hx with rfl | rfl
      · exact exInitial_ok
      · exact exHandshake_ok)
    ⟨by decide, by decide, by decide, rfl, [1, 2, 3], rfl, by decide⟩
  simpa [Tail.bytes, Tail.pkts] using this

/-- … and with zero padding instead of the short-header packet -/
example : dissectAll exMask exEnv false [] 5 (exInitial.protect exMaskI ++ List.replicate 100 0) =
    [exInitial.toPkt false 5] := by
  have := dissect_coalesced exMask exEnv false [] 5 [(exInitial, exMaskI)] (.zeros 100)
    (by
      intro x hx
      simp only [List.mem_cons, List.not_mem_nil, or_false] at hx
      subst hx
      exact exInitial_ok)
    trivial
  simpa [Tail.bytes, Tail.pkts] using this

example : ∃ t, 1 ≤ t ∧ (extract exMask exEnv true [] 5 [0xc3, 1, 2]).rest = ([0xc3, 1, 2] : Bytes).drop t :=
  (dissect_progress exMask exEnv true [] 5 [0xc3, 1, 2] (by simp)).1

example : ∀ x, (exInitial.toPkt false 5).payload = some x → ∃ a b, x = Bytes.slice (exInitial.protect exMaskI) a b :=
  (no_invented_data exMask exEnv false [] 5 (exInitial.protect exMaskI) (exInitial.toPkt false 5) (by
    have := exInitial_dissected []
    rw [List.append_nil] at this
    rw [this]; simp)).1

example : aad (exInitial.toPkt false 5) = some exInitial.header := aad_is_header_long _ _ _
example : aad (exShort.toPkt false 5) = some exShort.header := aad_is_header_short _ _ _
example : (exInitial.header).length = 1 + 4 + 1 + 8 + 1 + 0 + 2 + 3 + 2 + 2 := by decide

end TLX.Props.C02Dissect
