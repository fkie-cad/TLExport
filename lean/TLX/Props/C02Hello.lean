/-
C02 (QUIC part) — what `QuicTlsSession.handle_record` (tlexport/quic/quic_tls_parser.py) extracts from the
TLS hello messages carried in CRYPTO frames: for every RFC 8446 well-formed ClientHello / ServerHello /
EncryptedExtensions (encoders: TLX/Spec/TlsHello.lean) the model of the parser (TLX/Quic/TlsMsgs.lean)
does not raise and sets client_random / ciphersuite / session_id / tls_vers / alpn / greasy_bit / new_data
to what was sent; and the exact set of byte strings on which `handle_record` raises (IndexError).
Defines the states expected after a hello (`afterClientHello`, `afterServerHello`) and the raising records (`chRaises`);
the lemmas about the parser's parts are in TLX/Lemmas/TlsHello.lean.
-/
import TLX.Lemmas.TlsHello
namespace TLX.Props.C02Hello
open TLX TLX.Quic.TlsMsgs TLX.Spec.TlsHello TLX.Spec.QuicFrames TLX.Lemmas.TlsHello

/-- The exact state after a well-formed ClientHello: the hello's fixed fields, then the extension loop
    (`extsEffect`, Lemmas/TlsHello.lean) over the sent extensions in order, then `new_data = True`. -/
def afterClientHello (s : State) (ch : ClientHello) : State :=
  { extsEffect { s with tlsVers := some ch.legacyVersion, clientRandom := some ch.random,
                        sessionId := some ch.sessionId, ciphersuite := ch.cipherSuites.head? }
      (ch.extensions.getD []) with newData := true }

theorem client_hello_body_length (ch : ClientHello) (h : ch.WellFormed) : 41 ≤ ch.body.length := by
  obtain ⟨h1, h2, _, h4, h5, _, h7, _⟩ := h
  have : 1 ≤ ch.cipherSuites.length := by
    cases hc : ch.cipherSuites with
    | nil => exact absurd hc h4
    | cons => simp
  have hf := flatten_length2 _ h5
  simp only [ClientHello.body, List.length_append, vec8, vec16, u8_length, u16_length]
  omega

/-- Every well-formed ClientHello is at least 45 bytes long, so the `len(record) < 38` guard never drops one
    and `record[34]` (after `record = record[4:]`) is in range. -/
theorem client_hello_length (ch : ClientHello) (h : ch.WellFormed) : 45 ≤ (encodeClientHello ch).length := by
  have := client_hello_body_length ch h
  rw [encodeClientHello, handshake_length]; omega

/-- Full-strength form: for EVERY well-formed ClientHello (any session-id length 0..32, any number of suites,
    any compression list, extensions present or absent) and any prior state, `handle_record(1, …)` does not
    raise and the resulting state is exactly `afterClientHello`. -/
theorem client_hello_fields (ch : ClientHello) (h : ch.WellFormed) (s : State) :
    handleRecord s 1 (encodeClientHello ch) = (afterClientHello s ch, none) := by
  have hb := client_hello_body_length ch h
  obtain ⟨h1, h2, h3, h4, h5, h6, h7, h8, h9, h10⟩ := h
  have hf := flatten_length2 _ h5
  show handleClientHello s (handshake 1 ch.body) = _
  unfold handleClientHello
  rw [handshake_length, handshake_lenfield _ _ h10, handshake_drop, if_neg (by omega), if_neg (by omega)]
  unfold ClientHello.body
  rw [chBody_layout s _ _ _ _ _ _ h1 h2 (by omega) (by omega) (by omega), extsThenNewData_eq,
    getExtensions_encodeOptExts _ _ h9, first_suite _ h5]
  have : some (ch.cipherSuites.head?.getD []) = ch.cipherSuites.head? := by
    cases hc : ch.cipherSuites with
    | nil => exact absurd hc h4
    | cons => rfl
  rw [this]
  rfl

/-- C02 for the client's first flight: client_random is the sent `random`, ciphersuite is the FIRST offered
    suite (the one 0-RTT keys use), session_id the sent one, new_data is set, and tls_vers is
    `legacy_version` unless a `supported_versions` extension with a bare 2-byte body overrides it. -/
theorem client_hello_parsed (ch : ClientHello) (h : ch.WellFormed) (s : State) :
    ∃ s', handleRecord s 1 (encodeClientHello ch) = (s', none) ∧
      s'.clientRandom = some ch.random ∧
      s'.ciphersuite = ch.cipherSuites.head? ∧ (∃ c, ch.cipherSuites.head? = some c ∧ c.length = 2) ∧
      s'.sessionId = some ch.sessionId ∧ s'.newData = true ∧
      s'.tlsVers = versionSeen (some ch.legacyVersion) (ch.extensions.getD []) := by
  refine ⟨_, client_hello_fields ch h s, ?_⟩
  obtain ⟨h1, h2, h3, h4, h5, h6, h7, h8, h9, h10⟩ := h
  have hfr := extsEffect_frame
    { s with tlsVers := some ch.legacyVersion, clientRandom := some ch.random,
             sessionId := some ch.sessionId, ciphersuite := ch.cipherSuites.head? } (ch.extensions.getD [])
  refine ⟨hfr.1, hfr.2.1, ?_, hfr.2.2.1, rfl, extsEffect_tlsVers _ (optExtsWf_mem h9) _⟩
  cases hc : ch.cipherSuites with
  | nil => exact absurd hc h4
  | cons c cs => exact ⟨c, rfl, h5 c (by simp [hc])⟩

def afterServerHello (s : State) (sh : ServerHello) : State :=
  { extsEffect { s with ciphersuite := some sh.cipherSuite } (sh.extensions.getD []) with newData := true }

/-- The statement one would like: every well-formed ServerHello sets ciphersuite and new_data. -/
def server_hello_parsed_statement : Prop :=
  ∀ (sh : ServerHello), sh.WellFormed → ∀ s : State,
    ∃ s', handleRecord s 2 (encodeServerHello sh) = (s', none) ∧
      s'.ciphersuite = some sh.cipherSuite ∧ s'.newData = true

theorem server_hello_fields (sh : ServerHello) (h : sh.WellFormed)
    (h44 : sh.extensions ≠ none ∨ 2 ≤ sh.sessionIdEcho.length) (s : State) :
    handleRecord s 2 (encodeServerHello sh) = (afterServerHello s sh, none) := by
  obtain ⟨h1, h2, h3, h4, h5, h6⟩ := h
  show handleServerHello s ((u8 2 ++ u24 sh.body.length) ++
    (sh.legacyVersion ++ sh.random ++ vec8 sh.sessionIdEcho ++ sh.cipherSuite ++ [sh.compressionMethod] ++
      encodeOptExts sh.extensions)) = _
  have hl : 2 ≤ sh.sessionIdEcho.length + (encodeOptExts sh.extensions).length := by
    cases hx : sh.extensions with
    | none => rcases h44 with h | h
              · exact absurd hx h
              · omega
    | some es => simp only [encodeOptExts, encodeExts, vec16, List.length_append, u16_length]; omega
  rw [handleServerHello_layout s _ _ _ _ _ _ _ (by simp only [List.length_append, u8_length, u24_length])
    h1 h2 (by omega) h4 hl, extsThenNewData_eq, getExtensions_encodeOptExts _ _ h5]
  rfl

/-- What holds: the guard `len(record) < 44` silently drops a ServerHello shorter than 44 bytes; a well-formed
    one is that short only if it has NO extensions field and a session-id echo shorter than 2 bytes. -/
theorem server_hello_parsed_partial (sh : ServerHello) (h : sh.WellFormed)
    (h44 : sh.extensions ≠ none ∨ 2 ≤ sh.sessionIdEcho.length) (s : State) :
    ∃ s', handleRecord s 2 (encodeServerHello sh) = (s', none) ∧
      s'.ciphersuite = some sh.cipherSuite ∧ s'.newData = true ∧
      s'.clientRandom = s.clientRandom ∧
      s'.tlsVers = versionSeen s.tlsVers (sh.extensions.getD []) := by
  refine ⟨_, server_hello_fields sh h h44 s, ?_⟩
  have hfr := extsEffect_frame { s with ciphersuite := some sh.cipherSuite } (sh.extensions.getD [])
  exact ⟨hfr.2.1, rfl, hfr.1, extsEffect_tlsVers _ (optExtsWf_mem h.2.2.2.2.1) _⟩

/-- The RFC 8446 shape (the `extensions` field is mandatory in a TLS 1.3 ServerHello, and QUIC only carries
    TLS 1.3): always parsed. With `supported_versions = 0x0304` this is where tls_vers becomes 0304. -/
theorem server_hello_parsed (sh : ServerHello) (h : sh.WellFormed) (es : List Ext)
    (hes : sh.extensions = some es) (s : State) :
    ∃ s', handleRecord s 2 (encodeServerHello sh) = (s', none) ∧
      s'.ciphersuite = some sh.cipherSuite ∧ s'.newData = true ∧
      s'.clientRandom = s.clientRandom ∧ s'.tlsVers = versionSeen s.tlsVers es := by
  have := server_hello_parsed_partial sh h (Or.inl (by rw [hes]; simp)) s
  rw [hes] at this
  exact this

/-- A well-formed ServerHello without extensions field and with an empty session-id echo (42 bytes) is
    dropped silently: ciphersuite stays None, new_data stays False. -/
def shortServerHello : ServerHello :=
  { legacyVersion := [3, 3], random := List.replicate 32 7, sessionIdEcho := [], cipherSuite := [0x13, 0x01],
    compressionMethod := 0, extensions := none }

theorem server_hello_parsed_counterexample : ¬ server_hello_parsed_statement := by
  intro h
  obtain ⟨s', h1, h2, _⟩ := h shortServerHello (by decide) State.init
  have : handleRecord State.init 2 (encodeServerHello shortServerHello) = (State.init, none) := by decide
  rw [this] at h1
  cases h1
  cases h2

theorem encrypted_extensions_parsed (es : List Ext) (h : extsWf es) (s : State) :
    handleRecord s 8 (encodeEncryptedExtensions es) = ({ extsEffect s es with newData := true }, none) ∧
    (extsEffect s es).clientRandom = s.clientRandom ∧ (extsEffect s es).ciphersuite = s.ciphersuite ∧
    (extsEffect s es).tlsVers = versionSeen s.tlsVers es := by
  have hfr := extsEffect_frame s es
  refine ⟨?_, hfr.1, hfr.2.1, extsEffect_tlsVers _ h.1 _⟩
  show handleEncryptedExtensions s (handshake 8 (encodeExts es)) = _
  unfold handleEncryptedExtensions
  have : (encodeExts es).length = 2 + (extsPayload es).length := by
    simp only [encodeExts, vec16, List.length_append, u16_length]
  rw [handshake_length, handshake_drop, if_neg (by omega), extsThenNewData_eq, getExtensions_encodeExts _ _ h]

/-- The extension loop on `pre ++ [ALPN with exactly one protocol name] ++ post`, `post` without a further
    ALPN extension: alpn is that name. By `client_hello_fields` / `encrypted_extensions_parsed` /
    `server_hello_fields` this is the state after a hello carrying these extensions. -/
theorem alpn_parsed (s : State) (pre post : List Ext) (name : Bytes) (hn : name.length < 256)
    (hpost : ∀ e ∈ post, e.wf ∧ e.ty ≠ 16) :
    (extsEffect s (pre ++ ⟨16, alpnBody [name]⟩ :: post)).alpn = some name := by
  rw [extsEffect_append, extsEffect_cons, extsEffect_alpn_other _ hpost, applyD_alpn_one _ _ hn]

/-- `alpn_parsed` on the wire, for the two messages that carry ALPN in QUIC. -/
theorem alpn_parsed_wire (s : State) (pre post : List Ext) (name : Bytes) (hn : name.length < 256)
    (hpost : ∀ e ∈ post, e.wf ∧ e.ty ≠ 16) :
    (∀ ch : ClientHello, ch.WellFormed → ch.extensions = some (pre ++ ⟨16, alpnBody [name]⟩ :: post) →
      (handleRecord s 1 (encodeClientHello ch)).1.alpn = some name) ∧
    (extsWf (pre ++ ⟨16, alpnBody [name]⟩ :: post) →
      (handleRecord s 8 (encodeEncryptedExtensions (pre ++ ⟨16, alpnBody [name]⟩ :: post))).1.alpn = some name) := by
  constructor
  · intro ch h hx
    rw [client_hello_fields ch h s]
    simp only [afterClientHello, hx, Option.getD_some]
    exact alpn_parsed _ pre post name hn hpost
  · intro h
    rw [(encrypted_extensions_parsed _ h s).1]
    exact alpn_parsed _ pre post name hn hpost

/-- greasy_bit after the extension loop over a list with exactly one quic_transport_parameters extension
    (type 57) whose body is a well-formed RFC 9000 §18 parameter sequence: set iff it was set before or
    a parameter with id 0x2ab2 is present (any varint widths). -/
theorem greasy_bit_parsed (s : State) (pre post : List Ext) (ps : List TParam) (hps : ∀ p ∈ ps, p.wf)
    (hpre : ∀ e ∈ pre, e.wf ∧ e.ty ≠ 57) (hpost : ∀ e ∈ post, e.wf ∧ e.ty ≠ 57) :
    (extsEffect s (pre ++ ⟨57, tpBody ps⟩ :: post)).greasyBit =
      (s.greasyBit || ps.any (fun p => p.id.val == 0x2ab2)) := by
  rw [extsEffect_append, extsEffect_cons, extsEffect_greasy_other _ hpost, applyD_greasy_tp _ _ hps,
    extsEffect_greasy_other _ hpre]

/-! `get_extensions` never raises: `get_extensions_total`, proved in TLX/Lemmas/TlsHello.lean where the hello theorems need it. -/

/-- The records on which `handle_client_hello` raises IndexError: both length guards pass and, with
    `r = record[4:]`, either `r[34]` (session_id_length) is out of range — i.e. `len(record) == 38` —
    or `r[index]` (compression_methods_length) is, `index = 35 + sid_len + 2 + cipher_suites_length`. -/
def chRaises (record : Bytes) : Prop :=
  38 ≤ record.length ∧ 4 + Bytes.beNat (Bytes.slice record 1 4) ≤ record.length ∧
  (record.length = 38 ∨
   ∃ sil : UInt8, record[38]? = some sil ∧
     record.length ≤ 4 + (35 + sil.toNat + 2 +
       Bytes.beNat (Bytes.slice (record.drop 4) (35 + sil.toNat) (35 + sil.toNat + 2))))

theorem chBody_raises (s : State) (r : Bytes) :
    (chBody s r).2 = some Err.index ↔
      (r.length ≤ 34 ∨ ∃ sil : UInt8, r[34]? = some sil ∧
        r.length ≤ 35 + sil.toNat + 2 + Bytes.beNat (Bytes.slice r (35 + sil.toNat) (35 + sil.toNat + 2))) := by
  unfold chBody
  cases h34 : r[34]? with
  | none => exact iff_of_true rfl (.inl (List.getElem?_eq_none_iff.mp h34))
  | some sil =>
    have hlt : ¬ r.length ≤ 34 := fun h => by rw [List.getElem?_eq_none_iff.mpr h] at h34; cases h34
    simp only
    cases hi : r[35 + sil.toNat + 2 + Bytes.beNat (Bytes.slice r (35 + sil.toNat) (35 + sil.toNat + 2))]? with
    | none => exact iff_of_true rfl (.inr ⟨sil, rfl, List.getElem?_eq_none_iff.mp hi⟩)
    | some cml =>
      simp only [extsThenNewData_eq]
      refine iff_of_false (fun h => nomatch h) ?_
      rintro (h | ⟨_, hx, h⟩)
      · exact hlt h
      · cases hx
        rw [List.getElem?_eq_none_iff.mpr h] at hi; cases hi

/-- Exact characterisation: `handle_record` raises (always IndexError) iff the record type is 1 and the
    bytes satisfy `chRaises`. ServerHello, EncryptedExtensions and every other type never raise. -/
theorem raises_iff (s : State) (ty : Nat) (record : Bytes) :
    (handleRecord s ty record).2 = some Err.index ↔ ty = 1 ∧ chRaises record := by
  unfold handleRecord
  split
  · simp only [true_and]
    unfold handleClientHello chRaises
    split
    · exact iff_of_false (fun h => nomatch h) (fun h => by omega)
    · split
      · exact iff_of_false (fun h => nomatch h) (fun h => by omega)
      · rw [chBody_raises, List.getElem?_drop, List.length_drop, and_iff_right (by omega), and_iff_right (by omega)]
        exact or_congr (by omega) (exists_congr fun sil => and_congr_right fun _ => by omega)
  · refine iff_of_false (fun h => ?_) (fun h => by omega)
    unfold handleServerHello at h
    split at h
    · cases h
    · rw [List.getElem?_eq_getElem (by omega)] at h
      simp only [extsThenNewData_eq] at h
      cases h
  · refine iff_of_false (fun h => ?_) (fun h => by omega)
    unfold handleEncryptedExtensions at h
    split at h
    · cases h
    · rw [extsThenNewData_eq] at h; cases h
  · exact iff_of_false (fun h => nomatch h) (fun h => ‹¬ ty = 1› h.1)

theorem raises_only_client_hello (s : State) (ty : Nat) (record : Bytes)
    (h : (handleRecord s ty record).2 ≠ none) : ty = 1 ∧ 38 ≤ record.length := by
  have : (handleRecord s ty record).2 = some Err.index := by
    cases hx : (handleRecord s ty record).2 with
    | none => exact absurd hx h
    | some e => cases e; rfl
  have := (raises_iff s ty record).mp this
  exact ⟨this.1, this.2.1⟩

/-- A raise keeps the assignments made before it (here on a fresh session): the shortest raising input is a
    38-byte ClientHello record — header 01 000022, legacy_version, random, nothing else. -/
def shortestRaising : Bytes := [1, 0, 0, 34, 3, 3] ++ List.replicate 32 0xAB

theorem raise_shortest :
    handleRecord State.init 1 shortestRaising =
      ({ State.init with tlsVers := some [3, 3], clientRandom := some (List.replicate 32 0xAB) },
       some Err.index) := by decide

/-- A ClientHello cut (with a consistent length field, as `handle_buffer` passes it) before the
    compression-methods length byte: session id empty, one suite, then the end. 43 bytes. -/
def truncatedBeforeCompression : Bytes :=
  [1, 0, 0, 39, 3, 3] ++ List.replicate 32 0xAB ++ [0, 0, 2, 0x13, 0x01]

theorem raise_truncated_before_compression :
    handleRecord State.init 1 truncatedBeforeCompression =
      ({ State.init with tlsVers := some [3, 3], clientRandom := some (List.replicate 32 0xAB),
                         sessionId := some [], ciphersuite := some [0x13, 0x01] },
       some Err.index) := by decide

/-- A ClientHello as a QUIC client sends it: session id, two suites, ALPN h3 and transport parameters
    with the grease-quic-bit parameter (0x2ab2, 2-byte varint 0x6ab2, empty value). -/
def ch0 : ClientHello :=
  { legacyVersion := [3, 3], random := List.replicate 32 0x11, sessionId := [9, 8, 7, 6],
    cipherSuites := [[0x13, 0x01], [0x13, 0x02]], compression := [0],
    extensions := some [⟨16, alpnBody [[0x68, 0x33]]⟩, ⟨57, tpBody [⟨⟨0x2ab2, ⟨1, by decide⟩⟩, ⟨0, by decide⟩, []⟩]⟩] }

example : ch0.WellFormed := by decide
example : (encodeClientHello ch0).length = 69 := by decide
example : ∃ s', handleRecord State.init 1 (encodeClientHello ch0) = (s', none) ∧
    s'.clientRandom = some (List.replicate 32 0x11) ∧ s'.ciphersuite = some [0x13, 0x01] := by
  obtain ⟨s', h, h1, h2, _⟩ := client_hello_parsed ch0 (by decide) State.init
  exact ⟨s', h, h1, h2⟩
example : (handleRecord State.init 1 (encodeClientHello ch0)).1.alpn = some [0x68, 0x33] :=
  (alpn_parsed_wire State.init [] [⟨57, tpBody [⟨⟨0x2ab2, ⟨1, by decide⟩⟩, ⟨0, by decide⟩, []⟩]⟩] [0x68, 0x33]
    (by decide) (by decide)).1 ch0 (by decide) rfl
example : (extsEffect State.init [⟨16, alpnBody [[0x68, 0x33]]⟩,
    ⟨57, tpBody [⟨⟨0x2ab2, ⟨1, by decide⟩⟩, ⟨0, by decide⟩, []⟩]⟩]).greasyBit = true :=
  greasy_bit_parsed State.init [⟨16, alpnBody [[0x68, 0x33]]⟩] [] _ (by decide) (by decide) (by decide)

/-- A TLS 1.3 ServerHello: session-id echo, suite 1301, supported_versions = 0304, key_share stub. -/
def sh0 : ServerHello :=
  { legacyVersion := [3, 3], random := List.replicate 32 0x22, sessionIdEcho := [9, 8, 7, 6],
    cipherSuite := [0x13, 0x01], compressionMethod := 0,
    extensions := some [⟨43, [3, 4]⟩, ⟨51, [0, 29, 0, 2, 1, 2]⟩] }

example : sh0.WellFormed := by decide
example : versionSeen none [⟨43, [3, 4]⟩, ⟨51, [0, 29, 0, 2, 1, 2]⟩] = some [3, 4] := by decide
example : shortServerHello.WellFormed ∧ (encodeServerHello shortServerHello).length = 42 := by decide
example : extsWf [⟨16, alpnBody [[0x68, 0x33]]⟩] := by decide
example : chRaises shortestRaising := by
  refine ⟨by decide, by decide, Or.inl (by decide)⟩

end TLX.Props.C02Hello
