/-
C11 — with `-c` exactly the packets with a bad transport checksum are ignored.

Property theorems about the model `TLX.Checksum` (checksums.py and the `-c` branches of main.py) against
the independent receiver-side specification `TLX.Spec.Rfc1071`. Helper lemmas: `TLX.Lemmas.OnesComplement`.
All statements hold for every input: no bound on lengths, sums or the number of packets.

Names used in the statements and defined with the lemmas (`TLX/Lemmas/OnesComplement.lean`):
`toSpec` (model transport ↦ specification transport) and `Dissected k v6 src dst seg` — what dpkt's
dissection and the IP header guarantee: addresses of even length (4 / 16 bytes), a segment that
contains the checksum field, a segment length that fits the IP length field (`< 2^16` / `< 2^32`).
-/
import TLX.Lemmas.OnesComplement
namespace TLX.Props.C11
open TLX TLX.Checksum TLX.Spec.Rfc1071 TLX.Lemmas.OnesComplement

/-- The `while checksum > 0xFFFF` loop computes the RFC 1071 end-around-carry reduction of any sum:
    `0` for `0`, otherwise the representative of `s` modulo `0xFFFF` in `1 … 0xFFFF`. -/
theorem fold_eq_rfc1071 : ∀ s : Nat, implFold s = if s = 0 then 0 else (s - 1) % 65535 + 1 :=
  fun s => implFold_eq_norm s

/-- The fold's result always fits the two bytes it is written to. -/
theorem fold_le (s : Nat) : implFold s ≤ 65535 := by
  rw [implFold_eq_norm]; exact norm_le s

/-- `ones_complement_checksum` returns two bytes for every byte string: no `OverflowError`, whatever
    the 32-bit sum is (in particular for sums that fold through exactly `0x10000`). -/
theorem ones_complement_checksum_total (b : Bytes) :
    ∃ hi lo : UInt8, onesComplementChecksum b = .ok [hi, lo] := by
  rw [onesComplementChecksum_eq, ofNatBE_two]
  exact ⟨_, _, rfl⟩

/-- Regression witness for the loop condition the source had before the repair (`> 65536`): a sum of
    exactly `0x10000` was left unfolded, does not fit `to_bytes(2)` (the run died with `OverflowError`),
    and is not the RFC 1071 value `1`. -/
theorem prefix_loop_counterexample :
    implFoldPreFix 65536 = 65536 ∧ toBytes2 (implFoldPreFix 65536) = .error .overflow ∧
    ¬ (∀ s : Nat, implFoldPreFix s = if s = 0 then 0 else (s - 1) % 65535 + 1) := by
  have h : implFoldPreFix 65536 = 65536 := by rw [implFoldPreFix]; simp
  refine ⟨h, ?_, ?_⟩
  · rw [h]; rfl
  · intro hall
    have := hall 65536
    rw [h] at this
    simp at this

/-- Zeroing the checksum field removes exactly the stored checksum from the (padded) word sum, for
    segments of odd and of even length. -/
theorem wordSum_pad_field (k : L4) (seg : Bytes) (hlen : k.off + 2 ≤ seg.length) :
    wordSum (pad seg) = wordSum (pad (zeroField k seg)) + Bytes.beNat (storedField k seg) := by
  obtain ⟨h, l, hseg, hst⟩ := split_field k seg hlen
  have e1 := S_field k seg h l hlen hseg
  have e2 := S_zeroField k seg hlen
  have e3 : Bytes.beNat (storedField k seg) = h.toNat * 256 + l.toNat := by
    rw [hst]; simp [Bytes.beNat]
  unfold S at e1 e2
  omega

/-- The specification's one's-complement sum (end-around carry, word by word) of a byte string is the
    implementation's fold of its 32-bit sum. -/
theorem ocSum_eq_fold (b : Bytes) : ocSum (words b) = implFold (wordSum (pad b)) := by
  rw [ocSum_eq_norm _ (words_le b), words_sum, implFold_eq_norm]; rfl

/-- **C11, per packet.** For IPv4 and IPv6, TCP and UDP, every segment length (odd or even), every
    payload and every value of the checksum field: `calculate_checksum_tcp/udp` return without an
    exception, and return `True` exactly for the packets an RFC 1071 receiver accepts
    (UDP: a stored `0xFFFF` stands for a computed zero; a zero field over IPv6 is invalid).
    `hnc` (not UDP over IPv4 without a checksum) is not used: the unconditional form is `Lemmas.OnesComplement.check_valid`. -/
theorem check_eq_rfc_verify (k : L4) (v6 : Bool) (src dst seg : Bytes)
    (hd : Dissected k v6 src dst seg)
    (hnc : verdict (toSpec k) v6 src dst seg ≠ .noChecksum) :
    check k v6 src dst k.num seg = .ok (decide (verdict (toSpec k) v6 src dst seg = .valid)) :=
  check_valid k v6 src dst seg hd

/-- With `-c` no packet that meets `Dissected` can end the run through the checksum code (its field `len` is what keeps
    `to_bytes` from raising: `Lemmas.OnesComplement.check_ok_len`). -/
theorem check_never_raises (k : L4) (v6 : Bool) (src dst seg : Bytes) (hd : Dissected k v6 src dst seg) :
    ∃ b, check k v6 src dst k.num seg = .ok b :=
  ⟨_, check_valid k v6 src dst seg hd⟩

/-- Outside the property (recorded for completeness): a UDP/IPv4 packet sent without a checksum is
    dropped by `-c`. -/
theorem check_udp4_nochecksum (src dst seg : Bytes) (hd : Dissected .udp false src dst seg)
    (hz : verdict .udp false src dst seg = .noChecksum) :
    check .udp false src dst 17 seg = .ok false := by
  have := check_valid .udp false src dst seg hd
  rw [show verdict (toSpec .udp) false src dst seg = .noChecksum from hz] at this
  exact this

/-- A packet the receiver of the specification discards: TCP or UDP with a wrong checksum. -/
def bad (pk : Pkt) : Bool :=
  match pk.kind with
  | .other => false
  | .l4 k => decide (verdict (toSpec k) pk.v6 pk.src pk.dst pk.seg = .invalid)

/-- What dissection guarantees for the packets of a capture, and the property's exclusion of
    checksum-less UDP/IPv4. `pk.p = k.num`: dpkt chooses the TCP/UDP class by this very number. -/
def Admissible (pk : Pkt) : Prop :=
  match pk.kind with
  | .other => True
  | .l4 k => Dissected k pk.v6 pk.src pk.dst pk.seg ∧ pk.p = k.num ∧
      verdict (toSpec k) pk.v6 pk.src pk.dst pk.seg ≠ .noChecksum

/-- One iteration with `-c` is: nothing for a bad packet, the iteration without `-c` otherwise. -/
theorem step_c {σ : Type} (h : L4 → σ → Pkt → Except Err σ) (s : σ) (pk : Pkt) (ha : Admissible pk) :
    step true h s pk = if bad pk then pure s else step false h s pk := by
  unfold Admissible at ha
  cases hk : pk.kind with
  | other => simp [step, bad, hk]
  | l4 k =>
    rw [hk] at ha
    obtain ⟨hd, hp, hnc⟩ := ha
    simp only [step, bad, hk]
    by_cases hpl : pk.payloadLen = 0
    · simp [hpl]
    · simp only [hpl, if_false, Bool.not_true, Bool.false_eq_true, Bool.not_false, if_true, hp,
        check_eq_rfc_verify k pk.v6 pk.src pk.dst pk.seg hd hnc, bind, Except.bind, pure, Except.pure]
      cases hv : verdict (toSpec k) pk.v6 pk.src pk.dst pk.seg with
      | valid => simp
      | invalid => simp
      | noChecksum => exact absurd hv hnc

/-- **C11, whole run.** For an arbitrary handler of accepted packets (which may itself raise) and any
    start state: running the loop with `-c` over a capture gives the same result — final state or
    exception — as running it without `-c` over the capture with the bad packets removed. Any number of
    packets, any subset of them corrupted. -/
theorem run_c_eq_run_filter {σ : Type} (h : L4 → σ → Pkt → Except Err σ) (pkts : List Pkt)
    (hadm : ∀ pk ∈ pkts, Admissible pk) :
    ∀ s : σ, run true h s pkts = run false h s (pkts.filter fun pk => !bad pk) := by
  induction pkts with
  | nil => intro s; rfl
  | cons pk rest ih =>
    intro s
    have ha := hadm pk (by simp)
    have ih' := ih (fun q hq => hadm q (by simp [hq]))
    simp only [run, List.foldlM_cons, List.filter_cons] at *
    rw [step_c h s pk ha]
    cases hb : bad pk with
    | true => simp [ih', pure, Except.pure, bind, Except.bind]
    | false =>
      simp only [Bool.false_eq_true, if_false, Bool.not_false, if_true, List.foldlM_cons]
      cases step false h s pk with
      | error e => rfl
      | ok s' => simp only [bind, Except.bind]; exact ih' s'

/-- The packets that reach a handler under `-c`. -/
def reaches (pk : Pkt) : Bool :=
  match pk.kind with
  | .other => false
  | .l4 k => pk.payloadLen != 0 && decide (verdict (toSpec k) pk.v6 pk.src pk.dst pk.seg = .valid)

theorem step_collect (acc : List Pkt) (pk : Pkt) (ha : Admissible pk) :
    step true (fun _ acc pk => pure (acc ++ [pk])) acc pk = .ok (if reaches pk then acc ++ [pk] else acc) := by
  unfold Admissible at ha
  cases hk : pk.kind with
  | other => simp [step, reaches, hk, pure, Except.pure]
  | l4 k =>
    rw [hk] at ha
    obtain ⟨hd, hp, hnc⟩ := ha
    simp only [step, reaches, hk]
    by_cases hpl : pk.payloadLen = 0
    · simp [hpl, pure, Except.pure]
    · simp only [hpl, if_false, Bool.not_true, Bool.false_eq_true, hp,
        check_eq_rfc_verify k pk.v6 pk.src pk.dst pk.seg hd hnc, bind, Except.bind, pure, Except.pure]
      cases hv : verdict (toSpec k) pk.v6 pk.src pk.dst pk.seg with
      | valid => simp [hpl]
      | invalid => simp
      | noChecksum => exact absurd hv hnc

/-- The `-c` filter never raises and keeps, in capture order, exactly the TCP/UDP packets with payload
    that the RFC receiver accepts. -/
theorem filterValid_eq_filter (pkts : List Pkt) (hadm : ∀ pk ∈ pkts, Admissible pk) :
    filterValid pkts = .ok (pkts.filter reaches) := by
  suffices hgen : ∀ acc : List Pkt,
      run true (fun _ acc pk => pure (acc ++ [pk])) acc pkts = .ok (acc ++ pkts.filter reaches) by
    simpa [filterValid] using hgen []
  induction pkts with
  | nil => intro acc; simp [run, pure, Except.pure]
  | cons pk rest ih =>
    intro acc
    have ha := hadm pk (by simp)
    have ih' := ih (fun q hq => hadm q (by simp [hq]))
    simp only [run, List.foldlM_cons, List.filter_cons] at *
    rw [step_collect acc pk ha]
    simp only [bind, Except.bind]
    cases hr : reaches pk with
    | true => simp [ih' (acc ++ [pk])]
    | false => simp [ih' acc]

/-! ### Non-vacuity: concrete inputs meeting the hypotheses -/

section Examples

private def src4 : Bytes := [0x0a, 0x00, 0x00, 0x01]
private def dst4 : Bytes := [0x0a, 0x00, 0x00, 0x02]
/-- TCP 40000 → 443, seq 1000, ack 2000, PSH|ACK, "hello" (odd length), checksum 0x8e3f. -/
private def segGood : Bytes := [0x9c, 0x40, 0x01, 0xbb, 0x00, 0x00, 0x03, 0xe8, 0x00, 0x00, 0x07, 0xd0, 0x50, 0x18,
  0x20, 0x00, 0x8e, 0x3f, 0x00, 0x00, 0x68, 0x65, 0x6c, 0x6c, 0x6f]
/-- The same segment with the last payload bit flipped. -/
private def segBad : Bytes := [0x9c, 0x40, 0x01, 0xbb, 0x00, 0x00, 0x03, 0xe8, 0x00, 0x00, 0x07, 0xd0, 0x50, 0x18,
  0x20, 0x00, 0x8e, 0x3f, 0x00, 0x00, 0x68, 0x65, 0x6c, 0x6c, 0x6e]

private theorem good_dissected : Dissected .tcp false src4 dst4 segGood := ⟨by decide, by decide, by decide, by decide⟩
private theorem bad_dissected : Dissected .tcp false src4 dst4 segBad := ⟨by decide, by decide, by decide, by decide⟩
private theorem good_valid : verdict .tcp false src4 dst4 segGood = .valid := by decide
private theorem bad_invalid : verdict .tcp false src4 dst4 segBad = .invalid := by decide
example : check .tcp false src4 dst4 6 segGood = .ok true := by
  have h := check_eq_rfc_verify .tcp false src4 dst4 segGood good_dissected (by decide)
  rw [show verdict (toSpec .tcp) false src4 dst4 segGood = .valid from good_valid] at h
  exact h
example : check .tcp false src4 dst4 6 segBad = .ok false := by
  have h := check_eq_rfc_verify .tcp false src4 dst4 segBad bad_dissected (by decide)
  rw [show verdict (toSpec .tcp) false src4 dst4 segBad = .invalid from bad_invalid] at h
  exact h

/-- UDP/IPv4, odd length, whose 32-bit sum over pseudo-header and segment (field zero) is exactly
    `0x10000` — the sum the loop condition `> 65536` left unfolded. -/
private def srcU : Bytes := [0x01, 0x00, 0x00, 0x02]
private def dstU : Bytes := [0x01, 0x00, 0x00, 0x05]
private def segU : Bytes := [0x00, 0x1a, 0x00, 0x2a, 0x00, 0x0f, 0xff, 0xfe, 0x05, 0x80, 0x22, 0x13, 0x40, 0xf3, 0x95]
private theorem u_valid : verdict .udp false srcU dstU segU = .valid := by decide
example : baseSum .udp false srcU dstU segU = 0x10000 := by decide
example : check .udp false srcU dstU 17 segU = .ok true := by
  have h := check_eq_rfc_verify .udp false srcU dstU segU ⟨by decide, by decide, by decide, by decide⟩ (by decide)
  rw [show verdict (toSpec .udp) false srcU dstU segU = .valid from u_valid] at h
  exact h
example : wordSum (pad [0xFF, 0xFF, 0x00, 0x01]) = 0x10000 := by decide
example : onesComplementChecksum [0xFF, 0xFF, 0x00, 0x01] = .ok [0xFF, 0xFE] := by
  rw [onesComplementChecksum_eq]; rfl

/-- UDP/IPv6 whose computed checksum is zero and which therefore carries `0xFFFF` (RFC 768). -/
private def src6 : Bytes := [0, 0, 0, 0, 0, 0, 0, 0, 0, 0, 0, 0, 0, 0, 0, 3]
private def dst6 : Bytes := [0, 0, 0, 0, 0, 0, 0, 0, 0, 0, 0, 0, 0, 0, 0, 2]
private def seg6 : Bytes := [0x00, 0x04, 0x00, 0x35, 0x00, 0x12, 0xff, 0xff, 0x49, 0xdb, 0x00, 0x51, 0xff, 0xff, 0x44,
  0x2f, 0x71, 0x31]
private theorem v6_valid : verdict .udp true src6 dst6 seg6 = .valid := by decide
example : baseSum .udp true src6 dst6 seg6 = 0x1FFFE := by decide
example : check .udp true src6 dst6 17 seg6 = .ok true := by
  have h := check_eq_rfc_verify .udp true src6 dst6 seg6 ⟨by decide, by decide, by decide, by simp [seg6]⟩
    (by simp [toSpec, v6_valid])
  rw [show verdict (toSpec .udp) true src6 dst6 seg6 = .valid from v6_valid] at h
  exact h

/-- TCP whose computed checksum is `0x0000` and which carries the other zero, `0xFFFF`. -/
private def srcT : Bytes := [0x01, 0x00, 0x00, 0x03]
private def dstT : Bytes := [0x01, 0x00, 0x00, 0x04]
private def segT : Bytes := [0x00, 0x25, 0x00, 0x04, 0x00, 0x00, 0x00, 0x1a, 0x00, 0x00, 0x00, 0x3f, 0x50, 0x18, 0x00,
  0x36, 0xff, 0xff, 0x00, 0x00, 0x29, 0x1f, 0x0f, 0xe6, 0x74, 0x03]
example : baseSum .tcp false srcT dstT segT = 0xFFFF := by decide
example : verdict .tcp false srcT dstT segT = .valid := by decide

/-- A three-packet capture (good, bad, not TCP/UDP) satisfying the hypotheses of the run theorems. -/
private def cap : List Pkt :=
  [⟨.l4 .tcp, false, src4, dst4, 6, segGood, 5⟩, ⟨.l4 .tcp, false, src4, dst4, 6, segBad, 5⟩,
   ⟨.other, false, [], [], 0, [], 0⟩]
example : ∀ pk ∈ cap, Admissible pk := by
  intro pk hpk
  simp only [cap, List.mem_cons, List.not_mem_nil, or_false] at hpk
  rcases hpk with rfl | rfl | rfl
  · exact ⟨good_dissected, rfl, by decide⟩
  · exact ⟨bad_dissected, rfl, by decide⟩
  · trivial
example : (cap.filter fun pk => !bad pk).length = 2 := by decide
example : (cap.filter reaches).length = 1 := by decide

end Examples

end TLX.Props.C11
