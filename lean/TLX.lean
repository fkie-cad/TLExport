-- Root of the `TLX` library: models, specifications and property theorems.
import TLX.Props.C16
import TLX.Props.C14
import TLX.Props.C06
import TLX.Props.C07
import TLX.Props.C13
import TLX.Props.C11
import TLX.Props.C15
import TLX.Props.C01
import TLX.Props.C05
import TLX.Props.C08
import TLX.Props.C09
import TLX.Props.C10
import TLX.Props.C12
import TLX.Props.C17
import TLX.Props.C01Suites
import TLX.Props.C03
import TLX.Props.C13Session
import TLX.Props.C08Session
import TLX.Props.C07Session
import TLX.Props.C02Crypto
import TLX.Props.C02Out
import TLX.Props.C02Hello
import TLX.Props.C02Dissect
import TLX.Props.C04
import TLX.Props.C18
import TLX.Props.C02Session
import TLX.Props.C02Pipeline
import TLX.Props.C01Pipeline
import TLX.Props.C12Dissect
import TLX.Props.C06Bytes
import TLX.Props.Export
import TLX.Props.C02ConnOut
import TLX.Props.C02Rtt1
import TLX.Props.C02HsPacket
import TLX.Props.C02Sim
import TLX.Props.C02Capstone
import TLX.Props.C02Parser
import TLX.Props.C02Conformant
import TLX.Props.C01Capstone
import TLX.Props.C01Capstone2
import TLX.Props.C01File
import TLX.Props.C09Found
import TLX.Props.C01File2
import TLX.Props.ExportProps
import TLX.Props.Translated
import TLX.Props.C02FileBase
import TLX.Props.C02File
import TLX.Props.C02FileEx
import TLX.Props.ExportInputs
import TLX.Props.C02Capstone3
import TLX.Props.C02File2
import TLX.Props.C02File2Ex
import TLX.Props.C01RfcConn
import TLX.Props.C01Rfc
import TLX.Props.C01RfcEx
import TLX.Props.ExportInputs2
import TLX.Props.ExportSeg
import TLX.Props.ExportSegEx
import TLX.Props.ExportPropsQuic
import TLX.Props.QuicExData
import TLX.Props.ExportPropsQuicEx
import TLX.Props.C02Capstone4
import TLX.Props.C02Capstone4Ex
import TLX.Props.C01Full
import TLX.Props.C01FullEx
import TLX.Props.ExportDemux
import TLX.Props.ExportDemuxEx
import TLX.Spec.RfcQuic
import TLX.Props.C02Rfc
import TLX.Props.C02RfcEx
import TLX.Props.C02Zr
import TLX.Props.C02ZrEx
import TLX.Props.C02Zr2
import TLX.Props.C02Zr2Ex
import TLX.Props.ExportFaults
import TLX.Props.ExportFaultsEx
import TLX.Props.C01All
import TLX.Props.C01AllEx
import TLX.Props.C02AllConn
import TLX.Props.C02AllRfc
import TLX.Props.C02AllFile
import TLX.Props.C02All
import TLX.Props.C02AllEx
import TLX.Props.ExportFaults2
import TLX.Props.C02Loss
import TLX.Props.OnCode
